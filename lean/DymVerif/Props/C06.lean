/-
  Props/C06 — sequencer bonds are fully backed and leave only by refund, slash or reward.
-/
import DymVerif.Lemmas.CoreCustody4
namespace DymVerif.C06
open DymVerif DymVerif.Core

def exParams : Params where
  dispute := 2
  lsBlocks := 5
  lsInterval := 2
  lsMul := ⟨0⟩
  lsAbs := 0
  dishonorSU := 1
  dishonorL := 1
  kickThr := 2
  noticePeriod := 10

def C06ex : Params × List Op := (exParams, [.createRollapp 0 9 10, .fund 1 100, .fund 2 100, .createSeq 1 0 10 true,
  .createSeq 2 0 15 true, .bondInc 2 5 true, .begin_ 5, .end_ []])

/-- a rejected message leaves the state untouched -/
theorem reject_unchanged (s : St) (o : Op) (e : Err) (h : (step s o).2 = some e) : (step s o).1 = s := by
  unfold step at *
  cases h' : apply s o with
  | ok s' => simp [h'] at h
  | error e' => simp [h']

/-- **Custody, every reachable state**: the sequencer module account holds exactly the sum of all
    sequencers' recorded bonds — for every parameter set and every operation sequence (create,
    increase, decrease, unbond, slash, punish with or without rewardee, kick, forks, rotations,
    blocks with liveness slashes and injected finalization failures). -/
theorem custody_inv (p : Params) (ops : List Op) :
    (run p ops).modBal = ((run p ops).seqs.map (·.tokens)).sum := (run_cust p ops).bal

/-- one record per sequencer address, every reachable state -/
theorem one_record_per_address (p : Params) (ops : List Op) :
    (run p ops).seqs.Pairwise (fun a b => a.addr ≠ b.addr) := (run_cust p ops).nodup

/-- a withdrawal (partial decrease or full unbond) is refused while the sequencer is proposer or
    successor, or while any rollapp height it posted is not yet finalized -/
theorem withdraw_blocked (s s1 : St) (q q1 : Seq) (amt : Nat) (h : tryUnbond s q amt = .ok (s1, q1)) :
    isProposer s q = false ∧ isSuccessor s q = false ∧ s.seqH.any (·.1 == q.addr) = false := by
  obtain ⟨h1, h2, h3, _⟩ := tryUnbond_ok h
  exact ⟨h1, h2, h3⟩

/-- a withdrawal pays exactly the withdrawn amount to the sequencer's own address, and a sequencer
    left with a positive bond keeps at least its rollapp's minimum bond -/
theorem withdraw_exact_and_min_bond (s s1 : St) (q q1 : Seq) (amt : Nat) (r : Rollapp)
    (hr : getRa s q.rollapp = some r) (h : tryUnbond s q amt = .ok (s1, q1)) :
    q1.tokens + amt = q.tokens ∧
    getBal s1.bal q.addr = getBal s.bal q.addr + amt ∧
    s1.modBal + amt = s.modBal ∧
    (q1.tokens = 0 → q1.bonded = false) ∧
    (q1.tokens ≠ 0 → r.minBond ≤ q1.tokens) := by
  obtain ⟨_, _, _, r', q0, hr', hamt, hs, rfl⟩ := tryUnbond_ok h
  rw [hr] at hr'; injection hr' with hr'; subst hr'
  obtain ⟨h1, _, h3, rfl, rfl⟩ := sendFromModule_ok hs
  rw [unbondIf_eq]
  refine ⟨Nat.sub_add_cancel h1, getBal_setBal _ _ _, Nat.sub_add_cancel h3, ?_, ?_⟩
  · intro h0; simp [show q.tokens - amt = 0 from h0]
  · -- a partial withdrawal was only accepted with `amt + minBond ≤ tokens`
    intro hne
    rcases hamt with rfl | hamt
    · exact absurd (Nat.sub_self _) hne
    · show r.minBond ≤ q.tokens - amt; omega

/-- a slash takes the same amount from the module account and from the recorded bond, and never raises the bond
    (where the amount goes — reward and burn — is `Core.slash_money`) -/
theorem slash_accounting (s s1 : St) (q q1 : Seq) (amt : Nat) (mul : Dec) (rw : Option Addr)
    (h : slash s q amt mul rw = .ok (s1, q1)) :
    s1.modBal + q.tokens = s.modBal + q1.tokens ∧ q1.tokens ≤ q.tokens := by
  have := slash_spec h
  exact ⟨this.2.1, this.2.2.2⟩

/-- the fraud-punishment reward share: at most half of the bond (multiplier 0.5, truncated) -/
theorem punish_reward_at_most_half (tokens : Nat) :
    ((Dec.mulInt ⟨500000000000000000⟩ (tokens : Int)).truncateInt).toNat * 2 ≤ tokens := half_le tokens

/-- the three ways a bond can go down by `d` in one step `s —o→ s'` (see `bond_decreases_only_by`) -/
def BondDecreaseKind (s s' : St) (o : Op) (a : Addr) (d : Nat) : Prop :=
    ((o = .unbond a ∨ ∃ amt, o = .bondDec a amt) ∧
      getBal s'.bal a = getBal s.bal a + d ∧ s'.modBal + d = s.modBal ∧
      s'.burned = s.burned ∧ ∀ b, b ≠ a → getBal s'.bal b = getBal s.bal b) ∨
    (∃ rw paid, ((∃ au ra hh rev, o = .fraud au ra hh rev (some a) rw) ∨ (∃ au, o = .punish au a rw)) ∧
      paid * 2 ≤ d ∧ s'.modBal + d = s.modBal ∧ s'.burned = s.burned + (d - paid) ∧
      ∀ b, getBal s'.bal b = getBal s.bal b + (if rw = some b then paid else 0)) ∨
    (∃ fails, o = .end_ fails ∧ s'.bal = s.bal ∧ s'.modBal + s'.burned = s.modBal + s.burned ∧
      d ≤ s'.burned - s.burned)

/-- **bond_decreases_only_by** — for EVERY state `s`, op `o` and address `a`: if the step succeeds and the bond
    recorded for `a` is strictly smaller afterwards (`d` = the decrease), then the op is one of

    1. a withdrawal requested by `a` itself (`MsgUnbond` / `MsgDecreaseBond` signed by `a`): `a`'s own bank
       balance grew by exactly `d`, the module account shrank by exactly `d`, nothing was burned and nobody
       else's balance moved;
    2. a governance punishment of `a` — a fraud proposal naming `a` as the sequencer to punish, or the
       standalone `PunishSequencerProposal` against `a` (no fork): the module account shrank by exactly `d`,
       at most half of `d` (`paid`, truncated) went to the named rewardee — to nobody if none is named — and
       the rest `d - paid` was burned; no other balance moved;
    3. a block end (the liveness slash): no bank balance changed at all, whatever left the module account was
       burned, and `d` is covered by the burn.

    Every other op — and every op of kinds 1/2 naming another address — leaves `a`'s bond at least as
    high as it was (`apply_noDec`, `Withdrawn.others`, `Punished.others`). -/
theorem bond_decreases_only_by (s s' : St) (o : Op) (a : Addr) (q q' : Seq)
    (h : apply s o = .ok s') (hq : getSeq s a = some q) (hq' : getSeq s' a = some q') (hlt : q'.tokens < q.tokens) :
    BondDecreaseKind s s' o a (q.tokens - q'.tokens) := by
  unfold BondDecreaseKind
  -- a withdrawal by `a'`
  have wd : ∀ a', Withdrawn s s' a' → a' = a ∧
      getBal s'.bal a = getBal s.bal a + (q.tokens - q'.tokens) ∧ s'.modBal + (q.tokens - q'.tokens) = s.modBal ∧
      s'.burned = s.burned ∧ ∀ b, b ≠ a → getBal s'.bal b = getBal s.bal b := by
    intro a' w
    by_cases e : a' = a
    · subst e
      obtain ⟨q0, q1, h0, h1, _, hb, hm⟩ := w.ex
      rw [hq] at h0; cases h0
      rw [hq'] at h1; cases h1
      exact ⟨rfl, hb, hm, w.burned, w.otherBal⟩
    · exfalso
      have := w.others a (Ne.symm e)
      rw [hq, hq'] at this; cases this; omega
  -- a punishment of `a'`
  have pn : ∀ a' rw, Punished s s' a' rw (punishShare rw) → a' = a ∧ ∃ paid,
      paid * 2 ≤ q.tokens - q'.tokens ∧ s'.modBal + (q.tokens - q'.tokens) = s.modBal ∧
      s'.burned = s.burned + (q.tokens - q'.tokens - paid) ∧
      ∀ b, getBal s'.bal b = getBal s.bal b + (if rw = some b then paid else 0) := by
    intro a' rw pp
    by_cases e : a' = a
    · subst e
      obtain ⟨q0, q1, paid, h0, h1, _, _, hpl, hm, hbn, hbal⟩ := pp.ex
      rw [hq] at h0; cases h0
      rw [hq'] at h1; cases h1
      exact ⟨rfl, paid, hpl, hm, hbn, hbal⟩
    · exfalso
      have := pp.others a (Ne.symm e)
      rw [hq, hq'] at this
      have : q'.tokens = q.tokens := by simpa using this
      omega
  rcases apply_bonds h with nd | ⟨a', ho, w⟩ | ⟨a', rw, ho, pp⟩ | ⟨f, rfl, b⟩
  · exact absurd hlt (nd.not_lt hq hq')
  · obtain ⟨e, r⟩ := wd a' w
    subst e
    exact Or.inl ⟨ho, r⟩
  · obtain ⟨e, paid, r⟩ := pn a' rw pp
    subst e
    exact Or.inr (Or.inl ⟨rw, paid, ho, r⟩)
  · obtain ⟨q0, h0, _, hc⟩ := b.tok a q' hq'
    rw [hq] at h0; cases h0
    exact Or.inr (Or.inr ⟨f, rfl, b.bal, b.conserve, by have := b.mono; omega⟩)

/-- **the standalone `PunishSequencerProposal`, exact accounting**: accepted only from the governance
    authority; the punished sequencer's whole bond `q.tokens` leaves the module account, `paid` = half
    of it (truncated) goes to the named rewardee — nothing if none is named — and the rest is burned; no
    other balance and no other bond moves. -/
theorem punish_proposal_accounting (s s' : St) (au : Bool) (a : Addr) (rw : Option Addr)
    (h : apply s (.punish au a rw) = .ok s') :
    au = true ∧ Punished s s' a rw (punishShare rw) :=
  ⟨(punishProposal_ok (show punishProposal s au a rw = .ok s' from h)).1,
   punish_punished (punishProposal_ok (show punishProposal s au a rw = .ok s' from h)).2⟩

/-- a sequencer record is never deleted by a step, so "the bond of `a` before / after" is always defined
    once `a` is a sequencer -/
theorem sequencer_record_persists (s s' : St) (o : Op) (a : Addr) (q : Seq)
    (h : apply s o = .ok s') (hq : getSeq s a = some q) : ∃ q', getSeq s' a = some q' := by
  have wr : ∀ a', Withdrawn s s' a' → ∃ q', getSeq s' a = some q' := by
    intro a' w
    by_cases e : a' = a
    · subst e; obtain ⟨_, q1, _, h1, _⟩ := w.ex; exact ⟨q1, h1⟩
    · exact ⟨q, by rw [w.others a (Ne.symm e)]; exact hq⟩
  have pr : ∀ a' rw, Punished s s' a' rw (punishShare rw) → ∃ q', getSeq s' a = some q' := by
    intro a' rw pp
    by_cases e : a' = a
    · subst e; obtain ⟨_, q1, _, _, h1, _⟩ := pp.ex; exact ⟨q1, h1⟩
    · have := pp.others a (Ne.symm e)
      rw [hq] at this
      cases hx : getSeq s' a with
      | none => rw [hx] at this; cases this
      | some q1 => exact ⟨q1, rfl⟩
  rcases apply_bonds h with nd | ⟨a', _, w⟩ | ⟨a', rw, _, pp⟩ | ⟨f, rfl, _⟩
  · obtain ⟨q', hq', _⟩ := nd a q hq
    exact ⟨q', hq'⟩
  · exact wr a' w
  · exact pr a' rw pp
  · cases h
    -- block end rewrites records in place (`setSeq`): the address list stays
    have hall : (endBlock s f).seqs.map (·.addr) = s.seqs.map (·.addr) := by
      refine endBlock_ind (P := fun x => x.seqs.map (·.addr) = s.seqs.map (·.addr)) f rfl
        (fun _ _ _ _ hb h1 => by rw [(finalizeOne_money h1).1]; exact hb) (fun _ _ hb => hb) ?_
      intro b ra hb
      rcases handleLivenessEvent_cases b ra with h | ⟨r, s1, r1, _, hs1, _, h⟩
      · rw [h]; exact hb
      · rw [h]; unfold scheduleEvent
        show s1.seqs.map (·.addr) = _
        rcases slashLiveness_ok hs1 with ⟨_, rfl⟩ | ⟨a, q, s2, q2, _, _, hsl, rfl⟩
        · exact hb
        · exact ((addrs_replace s2.seqs _).trans (congrArg (List.map (·.addr)) (slash_spec hsl).1)).trans hb
    have hmem : a ∈ (endBlock s f).seqs.map (·.addr) := by
      rw [hall]; exact List.mem_map.2 ⟨q, getSeq_mem hq, getSeq_addr hq⟩
    obtain ⟨q1, hq1, hq1a⟩ := List.mem_map.1 hmem
    cases hx : getSeq (endBlock s f) a with
    | some q2 => exact ⟨q2, rfl⟩
    | none => exact absurd hq1a (getSeq_none hx q1 hq1)

/-- **trace form**: along every run from genesis, a bond that is lower after the next op than before it was
    lowered by one of the three kinds of `bond_decreases_only_by`, with that accounting — in particular a
    rejected op lowers nothing. -/
theorem bond_decreases_only_by_run (p : Params) (ops : List Op) (o : Op) (a : Addr) (q q' : Seq)
    (hq : getSeq (run p ops) a = some q) (hq' : getSeq (run p (ops ++ [o])) a = some q') (hlt : q'.tokens < q.tokens) :
    BondDecreaseKind (run p ops) (run p (ops ++ [o])) o a (q.tokens - q'.tokens) := by
  have hr : run p (ops ++ [o]) = (step (run p ops) o).1 := by
    unfold run; rw [List.foldl_append]; rfl
  have hap : apply (run p ops) o = .ok (run p (ops ++ [o])) := by
    rw [hr] at hq' ⊢
    unfold step at hq' ⊢
    cases h : apply (run p ops) o with
    | ok s' => rfl
    | error e =>
      exfalso
      rw [h] at hq'
      simp only at hq'
      rw [hq] at hq'; cases hq'; omega
  exact bond_decreases_only_by _ _ o a q q' hap hq hq' hlt

-- non-vacuity: each of the three kinds occurs, with the stated accounting
def exLive : Params := { exParams with lsBlocks := 1, lsInterval := 1, lsAbs := 3 }
def exPre : List Op := [.createRollapp 0 9 10, .fund 1 100, .fund 2 100, .createSeq 1 0 10 true, .createSeq 2 0 15 true]
def exBD (h : Nat) : BD := { height := h, hasTs := true, drs := 1, rootOk := true }
def exUpd : Op := .update { ra := 0, sender := 1, start := 1, num := 2, rev := 0, last := false, bds := [exBD 1, exBD 2] }

/-- a partial withdrawal of the non-proposer a2: bond 15 → 12, bank 85 → 88, module account 25 → 22 -/
example : ((getSeq (run exLive exPre) 2).map (·.tokens), (getSeq (run exLive (exPre ++ [.bondDec 2 3])) 2).map (·.tokens),
    getBal (run exLive exPre).bal 2, getBal (run exLive (exPre ++ [.bondDec 2 3])).bal 2,
    (run exLive exPre).modBal, (run exLive (exPre ++ [.bondDec 2 3])).modBal) = (some 15, some 12, 85, 88, 25, 22) := by decide +kernel
/-- two block ends with liveness slashes of 3 each on the proposer a1: bond 10 → 4, 6 burned, balances untouched -/
example : ((getSeq (run exLive (exPre ++ [.begin_ 1, .end_ [], .begin_ 1, .end_ []])) 1).map (·.tokens),
    (run exLive (exPre ++ [.begin_ 1, .end_ [], .begin_ 1, .end_ []])).burned,
    (run exLive (exPre ++ [.begin_ 1, .end_ [], .begin_ 1, .end_ []])).bal == (run exLive exPre).bal) = (some 4, 6, true) := by decide +kernel
/-- a fraud proposal punishing a1 with rewardee a7: bond 10 → 0, 5 paid to a7, 5 burned -/
example : ((getSeq (run exLive (exPre ++ [exUpd, .bridge 0 1, .fraud true 0 2 0 (some 1) (some 7)])) 1).map (·.tokens),
    getBal (run exLive (exPre ++ [exUpd, .bridge 0 1, .fraud true 0 2 0 (some 1) (some 7)])).bal 7,
    (run exLive (exPre ++ [exUpd, .bridge 0 1, .fraud true 0 2 0 (some 1) (some 7)])).burned) = (some 0, 5, 5) := by decide +kernel

-- ---------------------------------------------------------------- recipients the bank refuses (blocked module accounts)

/-- **`sendFromModule` never credits a blocked address**: a transfer out of the sequencer module account
    that succeeds was addressed to a recipient the bank accepts, and it leaves the balance of EVERY
    blocked address (`bank.BlockedAddr`, e.g. the distribution module account) exactly as it was. -/
theorem sendFromModule_never_credits_blocked (s s1 : St) (q q1 : Seq) (amt : Nat) (to : Addr)
    (h : sendFromModule s q amt to = .ok (s1, q1)) :
    blockedAddr to = false ∧ ∀ b, blockedAddr b = true → getBal s1.bal b = getBal s.bal b := by
  obtain ⟨_, hto, _, rfl, rfl⟩ := sendFromModule_ok h
  exact ⟨hto, fun b hbb => getBal_setBal_other _ _ _ _ (by intro e; subst e; rw [hto] at hbb; cases hbb)⟩

/-- a transfer to a blocked recipient is refused with the bank's recipient error (unless the bond itself
    does not cover the amount — `Coin.Sub` panics first), before anything changes -/
theorem sendFromModule_blocked (s : St) (q : Seq) (amt : Nat) (to : Addr) (hb : blockedAddr to = true)
    (hle : amt ≤ q.tokens) : sendFromModule s q amt to = .error .blockedRecipient := by
  unfold sendFromModule
  rw [if_neg (by omega), if_pos hb]

/-- `PunishSequencer` with a blocked rewardee and a non-zero reward share fails with the bank's
    recipient error: the reward transfer's failure is the failure of the whole punishment. -/
theorem punish_blocked_rewardee (s : St) (a to : Addr) (q : Seq) (hq : getSeq s a = some q)
    (hb : blockedAddr to = true)
    (hrew : ((Dec.mulInt ⟨500000000000000000⟩ (q.tokens : Int)).truncateInt).toNat ≠ 0) :
    punish s a (some to) = .error .blockedRecipient := by
  unfold punish
  rw [hq]
  dsimp only
  unfold slash
  dsimp only
  rw [if_neg hrew, sendFromModule_blocked s q _ to hb (by have := punish_reward_at_most_half q.tokens; omega)]

/-- **punish_blocked_rewardee_refused** — a fraud proposal that names a sequencer to punish whose reward
    share is non-zero and a rewardee the bank refuses (a blocked module account) is REJECTED, whatever
    the state, and (by `reject_unchanged`) changes nothing: no bond is decremented, nothing is burned,
    nothing leaves the module account, no fork happens.  When the proposal passes the checks that come
    before the punishment (authority, height, rollapp, revision) the error is the bank's. -/
theorem punish_blocked_rewardee_refused (s : St) (au : Bool) (ra hh rev : Nat) (a to : Addr) (q : Seq)
    (hq : getSeq s a = some q) (hb : blockedAddr to = true)
    (hrew : ((Dec.mulInt ⟨500000000000000000⟩ (q.tokens : Int)).truncateInt).toNat ≠ 0) :
    (∃ e, (step s (.fraud au ra hh rev (some a) (some to))).2 = some e) ∧
    (step s (.fraud au ra hh rev (some a) (some to))).1 = s ∧
    (∀ r, au = true → hh ≠ 0 → getRa s ra = some r → revForHeight r hh = rev →
      (step s (.fraud au ra hh rev (some a) (some to))).2 = some .blockedRecipient) := by
  have key : ∃ e, apply s (.fraud au ra hh rev (some a) (some to)) = .error e ∧
      (∀ r, au = true → hh ≠ 0 → getRa s ra = some r → revForHeight r hh = rev → e = .blockedRecipient) := by
    show ∃ e, fraud s au ra hh rev (some a) (some to) = .error e ∧ _
    unfold fraud
    by_cases h1 : au = true
    · by_cases h2 : hh = 0
      · exact ⟨.invalid, by simp [h1, h2], fun r _ h _ _ => absurd h2 h⟩
      · cases h3 : getRa s ra with
        | none => exact ⟨.unknownRollapp, by simp [h1, h2], fun r _ _ h _ => by cases h⟩
        | some r =>
          by_cases h4 : revForHeight r hh = rev
          · refine ⟨.blockedRecipient, ?_, fun _ _ _ _ _ => rfl⟩
            simp only [h1, h2, h4, punish_blocked_rewardee s a to q hq hb hrew]
            simp
          · refine ⟨.wrongRevision, by simp [h1, h2, h4], fun r' _ _ hr hrev => ?_⟩
            cases hr; exact absurd hrev h4
    · exact ⟨.unauthorized, by simp [h1], fun r h _ _ _ => absurd h h1⟩
  obtain ⟨e, he, hcls⟩ := key
  have hs : (step s (.fraud au ra hh rev (some a) (some to))).2 = some e := by unfold step; rw [he]
  refine ⟨⟨e, hs⟩, reject_unchanged s _ e hs, fun r h1 h2 h3 h4 => ?_⟩
  rw [hs, hcls r h1 h2 h3 h4]

/-- the liveness slash and a punishment without rewardee never touch the recipient check (no reward
    transfer is attempted when the reward share is zero) -/
theorem slash_without_reward_ignores_rewardee (s : St) (q : Seq) (amt : Nat) (rw : Option Addr) :
    slash s q amt ⟨0⟩ rw = burn s q amt := slash_zero_mul s q amt rw

-- non-vacuity of kind 2 through the standalone proposal: a1 (bond 10) punished, rewardee a7 gets 5, 5 burned, no fork
def exPunished : St := run exLive (exPre ++ [exUpd, .punish true 1 (some 7)])
example : (getSeq exPunished 1).map (·.tokens) = some 0 ∧ getBal exPunished.bal 7 = 5 ∧ exPunished.burned = 5 ∧
    exPunished.modBal = 15 ∧ (getRa exPunished 0).map (·.proposer) = some (some 1) ∧
    (getRa exPunished 0).map (·.revs.length) = some 1 := by decide +kernel
-- ... and with a rewardee the bank refuses: rejected as a whole
example : (step (run exLive (exPre ++ [exUpd])) (.punish true 1 (some 900))).2 = some .blockedRecipient := by decide +kernel

-- non-vacuity: a1 (bond 10, reward share 5) punished with rewardee m0 = address 900 (the distribution
-- module account): rejected with the bank's recipient error, bond / module account / burn counter /
-- the blocked address's balance untouched, the rollapp not forked; the same proposal with the ordinary
-- rewardee a7 is accepted (example above)
example : blockedAddr 900 = true ∧ blockedAddr 7 = false ∧ blockedAddr 100007 = false := by decide +kernel
def exBlockedPre : St := run exLive (exPre ++ [exUpd, .bridge 0 1])
def exBlocked : St × Option Err := step exBlockedPre (.fraud true 0 2 0 (some 1) (some 900))
example : exBlocked.2 = some .blockedRecipient ∧
    ((getSeq exBlocked.1 1).map (·.tokens), exBlocked.1.modBal, exBlocked.1.burned, getBal exBlocked.1.bal 900) =
      (some 10, 25, 0, 0) ∧
    ((getRa exBlocked.1 0).map (·.revs.length), (getSeq exBlockedPre 1).map (·.tokens), exBlockedPre.modBal) =
      (some 1, some 10, 25) := by decide +kernel
/-- hypotheses of `punish_blocked_rewardee_refused` are satisfiable (reward share 5 ≠ 0) -/
example : ((Dec.mulInt ⟨500000000000000000⟩ ((10 : Nat) : Int)).truncateInt).toNat = 5 := by decide +kernel
/-- a bond of 1 has reward share 0: the punishment with a blocked rewardee goes through, all burned -/
example : ((Dec.mulInt ⟨500000000000000000⟩ ((1 : Nat) : Int)).truncateInt).toNat = 0 := by decide +kernel

-- non-vacuity: a concrete run with a bond, an increase and a liveness-free block keeps custody
example : (run C06ex.1 C06ex.2).modBal = 30 ∧ ((run C06ex.1 C06ex.2).seqs.map (·.tokens)).sum = 30 := by decide +kernel

end DymVerif.C06
