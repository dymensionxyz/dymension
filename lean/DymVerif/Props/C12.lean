/-
  Props/C12 — replicas executing the same blocks reach the same state (partial: logic proved,
  runtime observed).  In Lean every model step is a function, so determinism of the *models* is
  vacuous; the content of the property is the Go runtime's freedom (map iteration order, wall clock,
  process-local randomness, goroutines, floats, the environment, heap addresses).  This file
   (1) states, for every CLASS of site, that the executable model of its loop shape
       (Model/Determinism.lean) computes the same value for every enumeration order of the map —
       the order is an explicit, universally quantified permutation; keys of a map are unique
       (proofs in Lemmas/DetShapes.lean);
   (2) checks that the site table regenerated from the source on every run (type-aware extractor
       /verif/sites, one row per SITE with its ordinal within the function) is the reviewed
       allow-list below read entry by entry — so every site is covered by exactly its own entry and
       every function has as many sites as entries — and that each entry's reason is one the
       extracted loop class admits:
       a second `range` over a map, a `rand.Intn`, a `time.Now`, a `%p` … added anywhere, an
       allow-listed function included, makes these theorems fail;
   (3) puts the two together: `every_site_order_independent`.
  The runtime part is observed by the harness (same history in several OS processes, full store
  digests, results and gas compared after every op).
-/
import DymVerif.Gen.MapSites
import DymVerif.Lemmas.DetShapes
namespace DymVerif.C12
open DymVerif.Det

/-- reason `sortedAfter` (`mapKeysToSlice`, `GetSortedStringKeys`, `InitializeAllLocks`) -/
theorem keys_collected_then_sorted (m₁ m₂ : Enum) (h : m₁.Perm m₂) :
    collectThenSort m₁ = collectThenSort m₂ :=
  collectThenSort_order_independent m₁ m₂ h

/-- values (filtered) collected, then sorted by the key of the map they came from
    (`UpdateDistrRecords`, `Distinct`): needs the keys to be unique — they are keys of a map -/
theorem values_sorted_by_map_key (keep : Nat × Nat → Bool) (m₁ m₂ : Enum) (hw : m₁.WF) (h : m₁.Perm m₂) :
    collectFilteredSortByKey keep m₁ = collectFilteredSortByKey keep m₂ :=
  collectFilteredSortByKey_order_independent keep m₁ m₂ hw h

/-- reason `membershipOnly` (`ModuleAccountAddrs`) -/
theorem membership_only (m₁ m₂ : Enum) (h : m₁.Perm m₂) (x : Nat) : memberTest m₁ x = memberTest m₂ x :=
  memberTest_order_independent m₁ m₂ h x

/-- reason `commutativeAccumulate` (no site of this class in the table) -/
theorem commutative_accumulate (m₁ m₂ : Enum) (h : m₁.Perm m₂) : foldComm m₁ = foldComm m₂ :=
  foldComm_order_independent m₁ m₂ h

/-- reason `seededFromTx` (`FulfillByOnDemandLP`): the shuffled order is a function of the message's seed and
    of the sorted candidate list — the same on every replica, however the candidates were enumerated -/
theorem seeded_shuffle_function_of_tx (prng : Nat → Nat → List Nat) (loc₁ loc₂ : Local) (txSeed : Nat)
    (m₁ m₂ : Enum) (h : m₁.Perm m₂) :
    seededShuffle prng .txField loc₁ txSeed (collectThenSort m₁) =
      seededShuffle prng .txField loc₂ txSeed (collectThenSort m₂) := by
  rw [collectThenSort_order_independent m₁ m₂ h]
  rfl

/-- why the extractor insists on the origin of the seed: seeded from the wall clock (or from the
    global source) two replicas shuffle differently -/
theorem seeded_from_clock_counterexample :
    seededShuffle (fun s n => (List.range n).map (fun i => (i + s) % n)) .wallclock ⟨0, 0⟩ 7 [10, 20, 30] ≠
      seededShuffle (fun s n => (List.range n).map (fun i => (i + s) % n)) .wallclock ⟨1, 0⟩ 7 [10, 20, 30] := by
  decide

/-- the value every shape hands on is independent of the enumeration order -/
theorem every_shape_order_independent (sh : Shape) (p : Params) (m₁ m₂ : Enum) (hw : m₁.WF) (h : m₁.Perm m₂) :
    sh.eval p m₁ = sh.eval p m₂ :=
  shape_order_independent sh p m₁ m₂ hw h

/-- the value every shape hands on is independent of what is local to the replica -/
theorem every_shape_replica_independent (sh : Shape) (p : Params) (loc' : Local) (m : Enum) :
    sh.eval p m = sh.eval { p with loc := loc' } m :=
  shape_replica_independent sh p loc' m

/-- `UpdateDistrRecords`: whatever two enumerations of the merged record map two replicas see, the
    stored records are the same.  That the sort key is unique is DISCHARGED (the map is built by
    insertion, `mapOfList_wf`), not assumed. -/
theorem update_distr_records_order_independent (old upd : List (Nat × Nat)) (e₁ e₂ : Enum)
    (h₁ : e₁.Perm (mapOfList (old ++ upd))) (h₂ : e₂.Perm (mapOfList (old ++ upd))) :
    updateDistrRecords e₁ = updateDistrRecords e₂ := by
  have hw : e₁.WF := (mapOfList_wf _).perm h₁.symm
  unfold updateDistrRecords
  rw [collectFilteredSortByKey_order_independent _ e₁ e₂ hw (h₁.trans h₂.symm)]

/-- `Distinct`: the list is put into a map keyed by the element, the values are collected and sorted
    by that key (unique for the same reason) -/
theorem distinct_addresses_order_independent (l : List Nat) (e₁ e₂ : Enum)
    (h₁ : e₁.Perm (mapOfList (l.map fun a => (a, a)))) (h₂ : e₂.Perm (mapOfList (l.map fun a => (a, a)))) :
    collectFilteredSortByKey (fun _ => true) e₁ = collectFilteredSortByKey (fun _ => true) e₂ :=
  collectFilteredSortByKey_order_independent _ e₁ e₂ ((mapOfList_wf _).perm h₁.symm) (h₁.trans h₂.symm)

theorem module_account_addrs_order_independent (p₁ p₂ : Enum) (h : p₁.Perm p₂) (excl : List Nat) (x : Nat) :
    moduleAccountAddrs p₁ excl x = moduleAccountAddrs p₂ excl x := by
  unfold moduleAccountAddrs
  rw [memberTest_order_independent p₁ p₂ h]

-- the reviewed allow-list: one entry per site

def allow : List Allowed := [
  -- app wiring, runs once at process start / CLI option assembly
  { kind := .maprange, file := "app/app.go", fn := "App.AutoCliOpts", cls := "unknown", ord := 0, reason := .appWiring },
  -- HTTP health-check handler, not consensus code (two reads)
  { kind := .wallclock, file := "app/healthcheck.go", fn := "HealthcheckRequestHandlerFn", cls := "time.Now", ord := 0, reason := .notConsensus },
  { kind := .wallclock, file := "app/healthcheck.go", fn := "HealthcheckRequestHandlerFn", cls := "time.Now", ord := 1, reason := .notConsensus },
  -- map-to-map copy  (membership_only)
  { kind := .maprange, file := "app/modules.go", fn := "ModuleAccountAddrs", cls := "membership", ord := 0, reason := .membershipOnly },
  -- genesis export fallback when the context carries no block time (export is not block execution)
  { kind := .wallclock, file := "x/dymns/genesis.go", fn := "ExportGenesis", cls := "time.Now", ord := 0, reason := .notConsensus },
  -- values of a map keyed by the value's own string, sorted by that string in a defer  (values_sorted_by_map_key)
  { kind := .maprange, file := "x/dymns/types/reverse_resolved_dym_name_address.go", fn := "ReverseResolvedDymNameAddresses.Distinct", cls := "collectValues+sorted", ord := 0, reason := .sortedByUniqueKey },
  -- keys collected then sorted  (keys_collected_then_sorted)
  { kind := .maprange, file := "x/dymns/utils/map.go", fn := "GetSortedStringKeys", cls := "collectKeys+sorted", ord := 0, reason := .sortedAfter },
  -- deterministic PRNG seeded by a message field (extractor: the seed is a parameter that every
  -- production caller fills from a field of a proto `Msg…`)  (seeded_shuffle_function_of_tx)
  { kind := .rand, file := "x/eibc/keeper/lps.go", fn := "Keeper.FulfillByOnDemandLP", cls := "math/rand.New", ord := 0, reason := .seededFromTx },
  { kind := .rand, file := "x/eibc/keeper/lps.go", fn := "Keeper.FulfillByOnDemandLP", cls := "math/rand.NewSource seed=param<-msgField", ord := 1, reason := .seededFromTx },
  -- event attributes only (events are not part of the app hash nor of the results hash)
  { kind := .maprange, file := "x/incentives/keeper/gauge_asset.go", fn := "RewardDistributionTracker.GetEvents", cls := "collectValues", ord := 0, reason := .eventOnly },
  -- durations collected then sorted  (keys_collected_then_sorted)
  { kind := .maprange, file := "x/lockup/keeper/lock.go", fn := "Keeper.InitializeAllLocks", cls := "collectKeys+sorted", ord := 0, reason := .sortedAfter },
  -- proposer set of a hard fork: keys collected then sorted  (keys_collected_then_sorted)
  { kind := .maprange, file := "x/rollapp/keeper/hard_fork.go", fn := "mapKeysToSlice", cls := "collectKeys+sorted", ord := 0, reason := .sortedAfter },
  -- non-zero records of a map keyed by gauge id, then sorted by gauge id  (values_sorted_by_map_key)
  { kind := .maprange, file := "x/streamer/keeper/keeper_replace_update_distribution.go", fn := "Keeper.UpdateDistrRecords", cls := "collectFiltered+sorted", ord := 0, reason := .sortedByUniqueKey }
]

/-- the table regenerated from the source IS the allow-list, entry for entry (re-decided on every
    run): every site has its own entry, every entry its site -/
theorem sites_eq_allow : Gen.MapSites.sites = allow.map Allowed.site := rfl

/-- the reason of every entry is one its own kind and loop class admit -/
theorem allow_reasons_admitted : (allow.all fun a => a.reason.admits a.kind a.cls) = true := by decide +kernel

/-- **every nondeterminism site of the production packages is covered by its own reviewed entry**
    (kind, file, function, loop class, ordinal; re-decided on every run over the regenerated table) -/
theorem site_table_ok : covered Gen.MapSites.sites allow = true := by
  rw [sites_eq_allow]; exact covered_map_site allow

/-- **every function has exactly as many extracted sites as allow entries** -/
theorem site_counts_match : countsMatch Gen.MapSites.sites allow = true := by
  rw [sites_eq_allow]; exact countsMatch_map_site allow

/-- ANY further site — whatever its kind, class and ordinal, inside an allow-listed function or
    not — breaks the table (for all sites, not only the ones tried) -/
theorem any_added_site_breaks_the_table (s : Site) : countsMatch (s :: Gen.MapSites.sites) allow = false :=
  added_site_breaks_counts Gen.MapSites.sites allow s site_counts_match

/-- the reason of every entry is one the extractor's classification of the source admits
    (`sortedAfter` only where it saw the collected slice being sorted, `seededFromTx` only where the
    seed comes from a message field, …) -/
theorem site_reasons_match_source : wellReasoned Gen.MapSites.sites allow = true := by
  rw [sites_eq_allow]; exact wellReasoned_map_site allow allow_reasons_admitted

/-- no entry of the allow-list is stale -/
theorem allow_list_has_no_stale_entry :
    (allow.all fun a => Gen.MapSites.sites.any fun s => s.allowedBy a) = true := by
  rw [sites_eq_allow]; exact no_stale_map_site allow

/-- **for every extracted site**: it has a reviewed entry whose reason the source admits, and the
    value a loop of that reason's shape computes does not depend on the order in which the map is
    enumerated nor on anything local to the replica (`outside`: the site computes nothing that
    reaches consensus state — reviewed, not derived) -/
theorem every_site_order_independent :
    ∀ s ∈ Gen.MapSites.sites, ∃ a ∈ allow, s.allowedBy a = true ∧ a.reason.admits s.kind s.cls = true ∧
      ∀ (p : Params) (loc' : Local) (m₁ m₂ : Enum), m₁.WF → m₁.Perm m₂ →
        a.reason.shape.eval p m₁ = a.reason.shape.eval { p with loc := loc' } m₂ := by
  intro s hs
  obtain ⟨a, ha, h1, h2⟩ := wellReasoned_spec _ _ site_reasons_match_source s hs
  refine ⟨a, ha, h1, h2, ?_⟩
  intro p loc' m₁ m₂ hw h
  rw [shape_order_independent a.reason.shape p m₁ m₂ hw h]
  exact shape_replica_independent _ p loc' m₂

/-- no goroutines and no `select` in the production packages at all -/
theorem no_goroutines : (Gen.MapSites.sites.filter fun s => s.kind == .go || s.kind == .select) = [] := by decide

/-- no `maps.Keys` / `maps.Values` / `maps.All` (std or x/exp) -/
theorem no_mapkeys : (Gen.MapSites.sites.filter fun s => s.kind == .mapkeys) = [] := by decide

/-- no `reflect.Value.MapKeys` / `MapRange` -/
theorem no_reflectmap : (Gen.MapSites.sites.filter fun s => s.kind == .reflectmap) = [] := by decide

/-- no `(*sync.Map).Range` -/
theorem no_syncmap : (Gen.MapSites.sites.filter fun s => s.kind == .syncmap) = [] := by decide

/-- no float32 / float64 arithmetic outside CLI and simulation code -/
theorem no_float : (Gen.MapSites.sites.filter fun s => s.kind == .float) = [] := by decide

/-- no read of the process environment -/
theorem no_getenv : (Gen.MapSites.sites.filter fun s => s.kind == .getenv) = [] := by decide

/-- no `%p` and no capability pointer handed to a formatting call -/
theorem no_fmtptr : (Gen.MapSites.sites.filter fun s => s.kind == .fmtptr) = [] := by decide

/-- wall-clock reads (time.Now / Since / Until, cometbft's tmtime.Now, …) only in the two
    non-consensus places -/
theorem wallclock_only_outside_consensus :
    ((Gen.MapSites.sites.filter fun s => s.kind == .wallclock).map (·.fn)).all
      (fun f => f == "HealthcheckRequestHandlerFn" || f == "ExportGenesis") = true := by decide +kernel

/-- randomness only in the one seeded place, and nothing there but the seeded constructor pair -/
theorem rand_only_seeded_from_tx :
    ((Gen.MapSites.sites.filter fun s => s.kind == .rand).map (·.cls)) =
      ["math/rand.New", "math/rand.NewSource seed=param<-msgField"] := rfl

example : collectThenSort [(3, 0), (1, 0), (2, 0)] = collectThenSort [(2, 0), (3, 0), (1, 0)] :=
  keys_collected_then_sorted _ _ (by decide)

example : collectThenSort [(3, 0), (1, 0), (2, 0)] = [1, 2, 3] := by
  simp [collectThenSort, List.mergeSort, List.MergeSort.Internal.splitInTwo]

example : updateDistrRecords (mapOfList ([(1, 5), (2, 7), (3, 1)] ++ [(2, 0), (4, 9)])) = some [(1, 5), (3, 1), (4, 9)] := by
  simp [updateDistrRecords, mapOfList, mapInsert, collectFilteredSortByKey, List.mergeSort, List.MergeSort.Internal.splitInTwo]

/-- without unique keys the sort-by-key shape DOES depend on the order (so `WF` is not decoration) -/
example : collectFilteredSortByKey (fun _ => true) [(1, 5), (1, 6)] ≠ collectFilteredSortByKey (fun _ => true) [(1, 6), (1, 5)] := by
  simp [collectFilteredSortByKey, List.mergeSort, List.MergeSort.Internal.splitInTwo]

/-- a second, unsorted range in an allow-listed function breaks the count -/
example : countsMatch ({ kind := .maprange, file := "x/rollapp/keeper/hard_fork.go", fn := "mapKeysToSlice", cls := "unknown", ord := 1 } :: Gen.MapSites.sites) allow = false :=
  any_added_site_breaks_the_table _

end DymVerif.C12
