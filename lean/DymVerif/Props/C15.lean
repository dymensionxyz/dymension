/-
  Props/C15 — incentive payouts never exceed what was funded.
  Property theorems, with the three notions their statements need (`owedUnfinished`, `streamerOwed`,
  `Admissible`) and the executed histories.  Every statement is for all inputs / all operation histories / all values
  of the per-block iteration limit (no bounds).  Clauses the current code violates are kept in full
  in a comment, with `…_partial` (true under the stated extra hypothesis) and `…_counterexample`.

  Clauses of the property text and the theorems that carry them (model = the code with fixes D1, D2;
  D3 — activation in the middle of an epoch — is NOT repaired: an existing test pins it, see fixes/fix_d3.status)
    gauge never pays more than deposited ........ asset_gauge_bounded, rollapp_gauge_bounded, gauge_bounded
    stream never pays more than its total ....... stream_epoch_bounded (per epoch), stream_bounded (all admissible
                                                  histories; `Admissible` excludes governance re-targeting, see
                                                  stream_bounded_retarget_counterexample)
    module accounts hold the undistributed rest . module_solvent_incentives, module_solvent_streamer
    rewards reach only qualifying owners ........ recipients_legit, asset_rewards_proportional
    independence from the iteration limit ....... iterator level, every sequence of limits: paging_independent,
                                                  paging_exactly_once, paging_progress, paging_effect; their
                                                  hypothesis holds for what `Distribute` iterates
                                                  (distribute_data_sorted); state level: paging_never_overserves
                                                  (no EndBlock hands out more than was pending, any limit).
                                                  STATE LEVEL, one epoch (§4b): endblock_conserves_settled (distributed +
                                                  pending is conserved EXACTLY by every EndBlock, any limit),
                                                  epoch_end_realises_settled, paging_state_independent (ANY two schedules of
                                                  limits: at the epoch end every stream of the epoch has handed out the same,
                                                  a function of the state at the start of the window).  Exclusions, each with
                                                  its counterexample: mid-epoch activation D3 (paging_midepoch_counterexample),
                                                  the stream under the pointer terminated = ¬PtrsOKS
                                                  (paging_pointer_terminated_counterexample), re-targeting
                                                  (stream_bounded_retarget_counterexample); a record naming a finished /
                                                  unknown gauge is skipped by the code (LiveS).
                                                  GAUGE SIDE: FALSE of the code, inside the quantifier — a gauge that
                                                  distributes nothing in the call it is funded in is not written back, its
                                                  share is stranded; which block serves it depends on the limit:
                                                  paging_gauge_side_counterexample (known finding
                                                  C15/stream_hands_to_gauges/share-moved-gauge-not-credited).
                                                  Whole blocks: begin_block_pays_exactly, end_block_pays_exactly.
    exact amounts (state level) ................ distribute_pays_exactly, distribute_gauges_exactly, endBlock_pays_exactly, end_step_pays_exactly,
                                                  asset_due_is_sum_of_lockRewards (what an account gains in a distribution
                                                  is Σ lockReward over its qualifying locks, over the gauges distributed)
    sponsored streams (re-targeted at every epoch start from x/sponsorship's distribution, an input of the model) are
    inside `Admissible`: stream_bounded / module_solvent_streamer / streamer_endBlock_ok_reachable hold for them;
    sponsored_retarget_keeps_bound (any distribution, ANY pointer position), sponsored_epoch_start_follows_distribution,
    sponsored_zero_weight_epoch_not_filled; UpdateStreamDistributionProposal is a re-targeting (excluded like
    ReplaceStreamDistributionProposal: stream_bounded_update_counterexample); CreatePoolGauge is an ordinary op.
  Endorsement gauges are C16's (not in M-Incent).
-/
import DymVerif.Lemmas.IncentInv
import DymVerif.Lemmas.IncentStreams
import DymVerif.Lemmas.IncentBound
import DymVerif.Lemmas.IncentPaging
import DymVerif.Lemmas.IncentShare
import DymVerif.Lemmas.GenEqIncent
import DymVerif.Lemmas.IncentProp
import DymVerif.Lemmas.IncentDue
import DymVerif.Lemmas.IncentPagingState
import DymVerif.Lemmas.IncentLive
namespace DymVerif.C15
open DymVerif DymVerif.Incent DymVerif.Incent.Coins

/-! ## 1. gauges -/

/-- one distribution of an asset gauge: Σ_locks ⌊remain·l/(L·e)⌋ ≤ remain, for every lock table,
    remainder and number of remaining epochs ≥ 1 -/
theorem asset_gauge_bounded (remain e : Nat) (he : 1 ≤ e) (locks : List Lock) :
    (locks.map (fun l => lockShare remain l.amount (lockSum locks) e)).sum ≤ remain :=
  lockShare_total_le remain e he locks

example : (([⟨0, 0, 7, 1⟩, ⟨1, 0, 5, 1⟩, ⟨2, 0, 1, 1⟩] : List Lock).map
    (fun l => lockShare 100 l.amount 13 3)).sum = 31 := by decide +kernel

/-- `calculateAssetGaugeRewards` as a whole: what it hands out, added to what the gauge has already
    distributed, stays within the gauge's coins; the tracker grows by exactly that amount -/
theorem asset_gauge_payout_le (g : Gauge) (locks : List Lock) (tr tr' : Tracker) (c : Coins)
    (hb : ∀ i, amt g.distributed i ≤ amt g.coins i) (h : calcAsset g locks tr = some (tr', c)) :
    (∀ i, amt c i + amt g.distributed i ≤ amt g.coins i) ∧ (∀ i, trSum tr' i = trSum tr i + amt c i) := by
  obtain ⟨_, b, a, _⟩ := calcAsset_acct h
  exact ⟨fun i => Nat.add_le_of_le_sub (hb i) (by rw [a i]; exact dueAssetAll_le g locks i), b⟩

/-- non-vacuity: a non-perpetual gauge with 100 coins, 10 already distributed, 3 epochs left, two locks -/
def exGauge : Gauge := ⟨1, .asset 0 1, false, [100], [10], 1, 4, 1, .active⟩
example : calcAsset exGauge [⟨0, 0, 2, 5⟩, ⟨1, 0, 1, 5⟩] [] = some ([(0, [20]), (1, [10])], [30]) := by decide +kernel

/-- a rollapp gauge pays its owner exactly the remainder (so never more than was deposited) -/
theorem rollapp_gauge_bounded (s : State) (g : Gauge) (r : Nat) (tr tr' : Tracker) (c : Coins)
    (hb : ∀ i, amt g.distributed i ≤ amt g.coins i) (h : calcRollapp s g r tr = .ok tr' c) :
    ∀ i, amt c i + amt g.distributed i ≤ amt g.coins i := by
  obtain ⟨_, _, _, _, _, a, _⟩ := calcRollapp_acct h
  intro i
  refine Nat.add_le_of_le_sub (hb i) ?_
  rw [a i]; split
  · exact Nat.le_refl _
  · exact Nat.zero_le _

def exRollappGauge : Gauge := ⟨1, .rollapp 0, true, [100], [10], 0, 0, 0, .active⟩
example : (match calcRollapp { rollapps := [⟨true, 4, true⟩] } exRollappGauge 0 [] with
    | .ok tr c => tr == [(4, [90])] && c == [90]
    | _ => false) = true := by decide +kernel

/-- **for every history** of gauge creation, top-up, stream creation / termination / re-targeting, lock
    and rollapp changes, blocks, epoch boundaries and iteration limits: no gauge (asset or rollapp) has
    distributed more than was put into it -/
theorem gauge_bounded (now mi : Nat) (ops : List Op) (hw : ∀ op ∈ ops, op.wf) :
    ∀ g ∈ (run (init now mi) ops).gauges, ∀ i, amt g.distributed i ≤ amt g.coins i :=
  (run_ginv ops _ (init_ginv now mi) hw).bounded

/-- one step keeps the gauge invariant `gauge_bounded` rests on -/
theorem gauge_invariant_inductive (s : State) (op : Op) (h : GInv s) (hw : op.wf) : GInv (step s op).2 :=
  step_ginv s op h hw

/-! ## 2. the incentives module account covers what gauges still owe -/

/-- coins not yet distributed by the gauges that are not finished -/
def owedUnfinished (gs : List Gauge) (i : Nat) : Nat :=
  ((gs.filter (fun g => g.status != .finished)).map (owedG · i)).sum

/-- **for every history**: the incentives module account holds at least the undistributed remainder of
    all its unfinished gauges (indeed of all gauges), per denom -/
theorem module_solvent_incentives (now mi : Nat) (ops : List Op) (hw : ∀ op ∈ ops, op.wf) (i : Nat) :
    owedUnfinished (run (init now mi) ops).gauges i ≤ amt ((run (init now mi) ops).bank.get incAddr) i :=
  Nat.le_trans (sum_filter_le _ _ _) ((run_ginv ops _ (init_ginv now mi) hw).solvent i)

/-! ## 3. who is paid, and in which proportion -/

/-- **for every state satisfying the invariant and every block (begin or end)**: accounts other than the
    two module accounts are never debited, and an account whose balance changes is not a blocked
    address and owns a lock qualifying for some asset gauge, or a launched rollapp that has a gauge -/
theorem recipients_legit (s : State) (op : Op) (h : GInv s) (hop : (∃ dt, op = .begin dt) ∨ op = .end_)
    (a : Nat) (ha : a ≠ streamerAddr) (hb : a ≠ incAddr) :
    (∀ i, amt (s.bank.get a) i ≤ amt ((step s op).2.bank.get a) i) ∧
    ((∃ i, amt ((step s op).2.bank.get a) i ≠ amt (s.bank.get a) i) →
      blocked a = false ∧
      ∃ g ∈ s.gauges,
        match g.kind with
        | .asset d dur => ∃ l ∈ s.locks, l.owner = a ∧ l.denom = d ∧ dur ≤ l.duration
        | .rollapp r => ∃ ra, s.rollapps[r]? = some ra ∧ ra.launched = true ∧ ra.owner = a) := by
  have hp := step_pay s op h hop
  refine ⟨hp.mono a ha hb, ?_⟩
  intro hx
  obtain ⟨q, k, hk, hl⟩ := hp.legit a ha hb hx
  refine ⟨q, ?_⟩
  obtain ⟨g, hg, he⟩ := List.mem_map.1 hk
  refine ⟨g, hg, ?_⟩
  rw [he]
  unfold LegitFor at hl
  cases k with
  | asset d dur =>
    simp only at hl ⊢
    obtain ⟨l, h1, h2, h3⟩ := hl
    unfold qualifies at h3
    simp only [Bool.and_eq_true, beq_iff_eq, decide_eq_true_eq] at h3
    exact ⟨l, h1, h2, h3.1, h3.2⟩
  | rollapp r =>
    simp only at hl ⊢
    obtain ⟨ra, h1, _, h3, h4⟩ := hl
    exact ⟨ra, h1, h3, h4⟩

/-- after every history a block (begin or end) is a `Pay` step: accounts other than the two module accounts are only
    credited, and only legitimate recipients (`Pay.mono`, `Pay.legit`) -/
theorem recipients_legit_reachable (now mi : Nat) (ops : List Op) (hw : ∀ op ∈ ops, op.wf) (op : Op)
    (hop : (∃ dt, op = .begin dt) ∨ op = .end_) : Pay (run (init now mi) ops) (step (run (init now mi) ops) op).2 :=
  step_pay _ op (run_ginv ops _ (init_ginv now mi) hw) hop

/-- in proportion to the locked amounts: a lock's reward is ⌊remain·l/(L·e)⌋ per coin, so a larger lock
    never gets less and equal locks get equal rewards -/
theorem asset_rewards_proportional (remain : Coins) (L e l1 l2 i : Nat) (h : l1 ≤ l2) :
    amt (lockReward remain l1 L e) i = amt remain i * l1 / (L * e) ∧
    amt (lockReward remain l1 L e) i ≤ amt (lockReward remain l2 L e) i := by
  rw [amt_lockReward, amt_lockReward]
  exact ⟨rfl, lockShare_mono _ _ _ _ _ h⟩

example : amt (lockReward [100, 7] 5 13 3) 0 = 12 ∧ amt (lockReward [100, 7] 7 13 3) 0 = 17 := by decide +kernel

/-! ## 3b. exact amounts: "in proportion to the locked amounts" at state level -/

/-- **every call of x/incentives `Keeper.Distribute`, any state, any gauge list**: an account other than the
    incentives module account is credited exactly `Σ_{g ∈ gauges} dueG s g a` — for an asset gauge the sum of
    `lockReward` over the account's qualifying locks (`asset_due_is_sum_of_lockRewards`), for a rollapp gauge the
    whole remainder if the account owns the launched rollapp — nothing more, nothing less -/
theorem distribute_pays_exactly (s : State) (gs : List Gauge) (ee : Bool) (s' : State) (h : incDistribute s gs ee = .ok s')
    (a : Nat) (ha : a ≠ incAddr) (i : Nat) :
    amt (s'.bank.get a) i = amt (s.bank.get a) i + (gs.map (dueG s · a i)).sum :=
  incDistribute_exact s gs ee s' h a ha i

/-- what one gauge hands out in that call is exactly the sum of what it owes (per coin) -/
theorem gauge_hands_out_exactly (s : State) (g : Gauge) (tr tr' : Tracker) (c : Coins) (h : calcGauge s g tr = .ok tr' c) (i : Nat) :
    amt c i = dueTotal s g i :=
  (calcGauge_acct h).2.2.1 i

/-- ... and every gauge handed in (a copy of a stored gauge: same kind and distributed coins, coins possibly topped
    up) is stored afterwards with its distributed coins grown by exactly that amount -/
theorem distribute_gauges_exactly (s : State) (gs : List Gauge) (ee : Bool) (s' : State) (hg : GInv s)
    (hnd : (gs.map (·.id)).Nodup) (hcoh : ∀ g ∈ gs, Coh s.gauges g) (h : incDistribute s gs ee = .ok s') :
    ∀ g ∈ gs, ∃ g', getG s'.gauges g.id = some g' ∧ ∀ i, amt g'.distributed i = amt g.distributed i + dueTotal s g i :=
  incDistribute_gauges_exact s gs ee s' hg.ids hg.bounded hnd hcoh h

/-- for an asset gauge (with coins, qualifying locks and an epoch left) `dueG` IS the sum of `lockReward` over the
    account's locks that qualify for the gauge -/
theorem asset_due_is_sum_of_lockRewards (s : State) (g : Gauge) (d dur : Nat) (hk : g.kind = .asset d dur) (hc : g.coins.isZero = false)
    (hL : lockSum (s.locks.filter (qualifies d dur)) ≠ 0) (hre : remainEpochs g ≠ 0) (a i : Nat) :
    dueG s g a i =
      (((s.locks.filter (qualifies d dur)).filter (·.owner == a)).map (fun l =>
        amt (lockReward (Coins.sub g.coins g.distributed) l.amount (lockSum (s.locks.filter (qualifies d dur))) (remainEpochs g)) i)).sum :=
  dueG_asset s g d dur hk hc hL hre a i

/-- **state level, the streamer EndBlock in a state satisfying the gauge invariant**: the balance of every account
    other than the two module accounts grows by exactly what the gauges funded in this block owe it; those gauges
    are copies of stored gauges (same kind, same distributed coins, coins topped up by the streams), ids distinct;
    and each of them is stored afterwards with its distributed coins grown by exactly what it handed out -/
theorem endBlock_pays_exactly (s s' : State) (hg : GInv s) (h : streamerEndBlock s = .ok s') :
    ∃ gs : List Gauge, (gs.map (·.id)).Nodup ∧ (∀ g ∈ gs, Coh s.gauges g) ∧
      (∀ a, a ≠ streamerAddr → a ≠ incAddr → ∀ i,
        amt (s'.bank.get a) i = amt (s.bank.get a) i + (gs.map (dueG s · a i)).sum) ∧
      (∀ g ∈ gs, ∃ g', getG s'.gauges g.id = some g' ∧ ∀ i, amt g'.distributed i = amt g.distributed i + dueTotal s g i) :=
  strDistribute_pays_exactly s _ _ _ _ s' hg h

/-- the same **after every history** (module accounts do not sign), for the `end` step whatever its outcome -/
theorem end_step_pays_exactly (now mi : Nat) (ops : List Op) (hw : ∀ op ∈ ops, op.wf) :
    ∃ gs : List Gauge, (gs.map (·.id)).Nodup ∧ (∀ g ∈ gs, Coh (run (init now mi) ops).gauges g) ∧
      (∀ a, a ≠ streamerAddr → a ≠ incAddr → ∀ i,
        amt ((step (run (init now mi) ops) .end_).2.bank.get a) i =
          amt ((run (init now mi) ops).bank.get a) i + (gs.map (dueG (run (init now mi) ops) · a i)).sum) ∧
      (∀ g ∈ gs, ∃ g', getG (step (run (init now mi) ops) .end_).2.gauges g.id = some g' ∧
        ∀ i, amt g'.distributed i = amt g.distributed i + dueTotal (run (init now mi) ops) g i) := by
  have hg := run_ginv ops _ (init_ginv now mi) hw
  generalize run (init now mi) ops = s at hg ⊢
  have hnone : ∀ s0 : State, s0.bank = s.bank → ∃ gs : List Gauge, (gs.map (·.id)).Nodup ∧ (∀ g ∈ gs, Coh s.gauges g) ∧
      (∀ a, a ≠ streamerAddr → a ≠ incAddr → ∀ i, amt (s0.bank.get a) i = amt (s.bank.get a) i + (gs.map (dueG s · a i)).sum) ∧
      (∀ g ∈ gs, ∃ g', getG s0.gauges g.id = some g' ∧ ∀ i, amt g'.distributed i = amt g.distributed i + dueTotal s g i) :=
    fun s0 hb => ⟨[], List.nodup_nil, by simp, by intro a _ _ i; rw [hb]; simp, by simp⟩
  cases hh : s.halted with
  | true => rw [step_halted s _ hh]; exact hnone s rfl
  | false =>
    rw [step_end s hh]
    cases h : streamerEndBlock s with
    | ok s' => exact endBlock_pays_exactly s s' hg h
    | error e => exact hnone { s with halted := true } rfl

/-- non-vacuity: two locks of account 1 and one of account 2 qualify for gauge 1 (90 coins left, 3 epochs) -/
example : (let s : State := { locks := [⟨1, 0, 2, 5⟩, ⟨2, 0, 1, 5⟩, ⟨1, 0, 3, 9⟩, ⟨1, 1, 50, 9⟩] }
    (dueG s exGauge 1 0, dueG s exGauge 2 0, dueTotal s exGauge 0)) = (25, 5, 30) := by decide +kernel

/-! ## 4. independence from the per-block iteration limit -/

/-- **one block**: with an id-sorted stream list, what was still to be visited in the epoch is what this
    block's call visits followed by what is still to be visited from the pointer it saves — for every
    budget, every callback (weights may depend on the evolving caches) and every pointer -/
theorem paging_resume {σ : Type} (data : List SView) (e : Nat) (hs : SortedData data) (p : Pointer) (max : Nat)
    (cb : σ → SView → Rec → σ × Nat) (acc : σ) :
    remaining data e p = iterVisits data e p max cb acc ++ remaining data e (iterateEpochPointer data e p max cb acc).1 :=
  iterate_resume data e hs p max cb acc

/-- the model's `IterateEpochPointer` applies the callback to exactly those positions, in that order -/
theorem paging_effect {σ : Type} (data : List SView) (e : Nat) (p : Pointer) (max : Nat)
    (cb : σ → SView → Rec → σ × Nat) (acc : σ) :
    (iterateEpochPointer data e p max cb acc).2.2 = foldCb data cb acc (iterVisits data e p max cb acc) :=
  iterate_acc data e p max cb acc

/-- **for EVERY sequence of blocks** (each with its own limit ≥ 0, callback and weights) followed by the
    unlimited call at the epoch end: the concatenation of all visits equals the visit list of a single
    unlimited call from the first pointer.  (`B` bounds a single item's weight; the epoch-end budget is
    `IterationsNoLimit = 2^64-1`.) -/
theorem paging_independent {σ : Type} (data : List SView) (e : Nat) (hs : SortedData data)
    (rounds : List (Round σ)) (flush one : Round σ) (B : Nat)
    (hBf : ∀ acc s r, (flush.cb acc s r).2 ≤ B) (hMf : B * totalRecs data < flush.max)
    (hBo : ∀ acc s r, (one.cb acc s r).2 ≤ B) (hMo : B * totalRecs data < one.max) :
    (pagedRun data e Pointer.first rounds).2 ++
        iterVisits data e (pagedRun data e Pointer.first rounds).1 flush.max flush.cb flush.acc
      = iterVisits data e Pointer.first one.max one.cb one.acc := by
  rw [(iterate_unlimited data e hs _ flush.max B flush.cb flush.acc hBf hMf).1,
      (iterate_unlimited data e hs _ one.max B one.cb one.acc hBo hMo).1]
  exact (paged_concat data e hs rounds Pointer.first).symm

/-- hence the totals of any per-pair quantity agree -/
theorem paging_totals_agree {σ : Type} (data : List SView) (e : Nat) (hs : SortedData data)
    (rounds : List (Round σ)) (flush one : Round σ) (B : Nat)
    (hBf : ∀ acc s r, (flush.cb acc s r).2 ≤ B) (hMf : B * totalRecs data < flush.max)
    (hBo : ∀ acc s r, (one.cb acc s r).2 ≤ B) (hMo : B * totalRecs data < one.max) (f : Nat × Nat → Nat) :
    (((pagedRun data e Pointer.first rounds).2 ++
        iterVisits data e (pagedRun data e Pointer.first rounds).1 flush.max flush.cb flush.acc).map f).sum
      = ((iterVisits data e Pointer.first one.max one.cb one.acc).map f).sum := by
  rw [paging_independent data e hs rounds flush one B hBf hMf hBo hMo]

/-- **exactly once**: over an epoch the visited positions are exactly the valid (stream, gauge)
    positions — streams of this epoch identifier with records — each exactly once -/
theorem paging_exactly_once (data : List SView) (e : Nat) (hs : SortedData data) :
    (remaining data e Pointer.first).Nodup ∧
    ∀ p : Nat × Nat, p ∈ remaining data e Pointer.first ↔ validAt data e p.1 p.2 = true :=
  remaining_first_exact data e hs

/-- every block whose limit is at least 1 makes progress while something is left -/
theorem paging_progress {σ : Type} (data : List SView) (e : Nat) (p : Pointer) (max : Nat)
    (cb : σ → SView → Rec → σ × Nat) (acc : σ) (hmax : 1 ≤ max) (hne : remaining data e p ≠ []) :
    iterVisits data e p max cb acc ≠ [] :=
  iterate_progress data e p max cb acc hmax hne

/-- the data used in the examples: streams 2 and 3 (hour), 5 (day), sorted by id -/
def exData : List SView := [⟨2, 1, [⟨1, 1⟩, ⟨2, 1⟩]⟩, ⟨3, 1, [⟨1, 5⟩, ⟨4, 5⟩]⟩, ⟨5, 0, [⟨1, 1⟩]⟩]
def unitCb : Unit → SView → Rec → Unit × Nat := fun _ _ _ => ((), 1)

theorem exData_sorted : SortedData exData := by
  refine ⟨strictInc_of_pairwise _ (by decide), ?_, ?_⟩
  · intro s hs
    apply strictInc_of_pairwise
    simp only [exData, List.mem_cons, List.not_mem_nil, or_false] at hs
    rcases hs with h | h | h <;> (subst h; decide)
  · intro k hk
    simp only [exData, List.length_cons, List.length_nil] at hk
    have : k = 0 ∨ k = 1 ∨ k = 2 := by omega
    rcases this with h | h | h <;> (subst h; decide)

/-- non-vacuity: three blocks with limits 1, 2, 1 and the flush visit (0,0) | (0,1),(1,0) | (1,1) | — -/
example : (pagedRun exData 1 Pointer.first [⟨1, unitCb, ()⟩, ⟨2, unitCb, ()⟩, ⟨1, unitCb, ()⟩]).2
    = [(0, 0), (0, 1), (1, 0), (1, 1)] := by decide +kernel
example : iterVisits exData 1 Pointer.first maxU64 unitCb () = [(0, 0), (0, 1), (1, 0), (1, 1)] := by decide +kernel
example : ∀ acc s r, (unitCb acc s r).2 ≤ 1 := fun _ _ _ => Nat.le_refl _

/- The hypothesis `SortedData` is necessary: `GetActiveStreams` is ordered by start time and, within one
   start time, by a swap-remove list — not by id — while `NewStreamIterator` bisects by id.  Since fix D2
   `Keeper.Distribute` sorts the list by id first (`sortById`; `sorted_sortById`, `nodup_sortById`). -/

/-- two streams created together, a third finishing earlier leaves the reference list as [3, 2]: with
    limit 1 the saved pointer (stream 3, gauge 2) is bisected to "past the end", so the pairs (3,2),
    (2,1), (2,2) are never visited, not even by the unlimited call at the epoch end -/
theorem paging_unsorted_counterexample :
    let data : List SView := [⟨3, 1, [⟨1, 1⟩, ⟨2, 1⟩]⟩, ⟨2, 1, [⟨1, 1⟩, ⟨2, 1⟩]⟩]
    (pagedRun data 1 Pointer.first [⟨1, unitCb, ()⟩]).2 ++
      iterVisits data 1 (pagedRun data 1 Pointer.first [⟨1, unitCb, ()⟩]).1 maxU64 unitCb ()
      = [(0, 0)] ∧
    iterVisits data 1 Pointer.first maxU64 unitCb () = [(0, 0), (0, 1), (1, 0), (1, 1)] := by decide +kernel

/-- the same unsorted list with limit 3: the first block visits (3,1),(3,2),(2,1) and saves the pointer
    (stream 2, gauge 2), which bisects to stream 3 again — the second block re-visits (3,2) and (2,1) -/
theorem paging_revisit_counterexample :
    let data : List SView := [⟨3, 1, [⟨1, 1⟩, ⟨2, 1⟩]⟩, ⟨2, 1, [⟨1, 1⟩, ⟨2, 1⟩]⟩]
    (pagedRun data 1 Pointer.first [⟨3, unitCb, ()⟩, ⟨3, unitCb, ()⟩]).2
      = [(0, 0), (0, 1), (1, 0), (0, 1), (1, 0), (1, 1)] := by decide +kernel

/-- **the hypothesis of the paging theorems holds for the list `Keeper.Distribute` iterates** (fix D2): in
    every state satisfying the invariant the sorted copies of the active streams form `SortedData` -/
theorem distribute_data_sorted (s : State) (hi : Inv s) :
    SortedData ((sortById (activeStreams s)).map Stream.view) :=
  (goodCache_sortById (activeStreams_good s hi.struct) hi.active_static).sortedData

/-- **state level, every value of the per-block limit**: one streamer EndBlock never makes a stream hand out
    more than what was pending for it — `distributed' + pending' ≤ distributed + pending` for every stream in
    the cache (pending = shares of its records at or after its epoch's stored pointer) -/
theorem paging_never_overserves (s s' : State) (hi : Inv s) (h : streamerEndBlock s = .ok s') :
    ∀ st' ∈ s'.streams, ∀ st0 ∈ s.streams, st0.id = st'.id → st0.id ∈ s.active.ids → ∀ i,
      amt st'.distributed i + pendId (ptrOfEpoch s' st'.epochId) st' i ≤ amt st0.distributed i + pendId (ptrOfEpoch s st0.epochId) st0 i := by
  intro st' hm' st0 hm0 hid hact i
  unfold streamerEndBlock at h
  have hf := strDistribute_facts s _ _ _ _ s' hi.struct (activeStreams_good s hi.struct) hi.active_static h
  -- the cached copy `v` of `st0`: `st0` is what is stored under its id before, `st'` is what `v` is saved as
  obtain ⟨v, hv, hvid⟩ := hf.handed st0.id (by rw [activeStreams_ids s hi.struct]; exact hact)
  obtain ⟨st1, g0, _, g2⟩ := hf.window v hv
  have h8 := hf.saved v hv
  rw [hvid, getS_of_mem hi.struct.sid hm0] at g0
  rw [hvid, hid, getS_of_mem hf.struct.sid hm'] at h8
  obtain rfl := Option.some.inj g0
  obtain rfl : st' = v := Option.some.inj h8
  exact (g2 i).1


/-! ## 4b. state level: what a stream hands out over an epoch does not depend on the per-block limit -/

/-- **every streamer EndBlock, EVERY value of the iteration limit (0 included)**: for every active stream
    `distributed + (shares of its records at or after its epoch's stored pointer)` is the same before and after —
    EQUALITY (`paging_never_overserves` has `≤`); nothing else about the stream changes, the active list, the iterated
    list and the resumability of the pointers are kept.  Hypotheses: the invariant of the admissible histories;
    every record of an active stream names a gauge the code accepts (`LiveS`); the stored pointers are resumable
    (`PtrsOKS`: at a first gauge, or naming an active stream of their own epoch, or past every stream). -/
theorem endblock_conserves_settled (s s' : State) (hi : Inv s) (hl : LiveS s) (hp : PtrsOKS s) (h : streamerEndBlock s = .ok s') :
    (∀ st0 ∈ s.streams, st0.id ∈ s.active.ids → ∃ st', getS s'.streams st0.id = some st' ∧
        st' = { st0 with distributed := st'.distributed } ∧ ∀ i, Settled s' st' i = Settled s st0 i) ∧
    s'.active = s.active ∧ dataOf s' = dataOf s ∧ PtrsOKS s' :=
  let ⟨a, b, _, c, d⟩ := endBlock_settled s s' hi hl hp h
  ⟨a, b, c, d⟩

/-- … and the EndBlock keeps `LiveS` (a gauge's liveness reads its start, perpetual flag, filled and total epochs; the
    EndBlock writes back cached copies of live gauges with more coins / distributed coins only), so the three
    hypotheses of `endblock_conserves_settled` hold again in the next block -/
theorem endblock_keeps_live (s s' : State) (hi : Inv s) (hl : LiveS s) (hp : PtrsOKS s) (h : streamerEndBlock s = .ok s') :
    Inv s' ∧ LiveS s' ∧ PtrsOKS s' :=
  ⟨endBlock_inv s s' hi h, endBlock_live s s' hi hl h, (endBlock_settled s s' hi hl hp h).2.2.2.2⟩

/-- one block of a schedule IS the two operations `setMaxIter n; end` -/
theorem block_is_two_ops (s s' : State) (n : Nat) (hh : s.halted = false) (h : streamerEndBlock { s with maxIter := n } = .ok s') :
    (step (step s (.setMaxIter n)).2 .end_) = (.ok, s') := by
  have h1 : (step s (.setMaxIter n)).2 = { s with maxIter := n } := by unfold step; simp [hh]
  rw [h1, step_end _ (show ({ s with maxIter := n } : State).halted = false from hh), h]

/-- **the epoch-end flush** hands every active stream of the ending epoch exactly what was still pending: its
    distributed coins become the settled amount -/
theorem epoch_end_realises_settled (s s' : State) (e : Nat) (he : e ≤ 2) (hi : Inv s) (hl : LiveS s) (hp : PtrsOKS s)
    (hsmall : (s.locks.length + 1) * totalRecs (dataOf s) < maxU64) (h : streamerAfterEpochEnd s e = .ok s') :
    ∀ st0 ∈ s.streams, st0.id ∈ s.active.ids → st0.epochId = e →
      ∃ D, getS s'.streams st0.id = some ({ st0 with distributed := D } : Stream).atEpochEnd ∧ ∀ i, amt D i = Settled s st0 i :=
  flush_settled s s' e he hi hl hp hsmall h

/-- **ANY two schedules of per-block iteration limits** (lists of any lengths, any values — `runBlocks s ns` runs
    `setMaxIter n; end` for each `n`), from the same state `s`, each followed by the end of epoch `e`: every stream of
    that epoch active in `s` is stored with THE SAME distributed coins in both runs (equal as coins, every other field
    equal), namely `Settled s` — a function of the starting state alone.
    The window contains blocks only: an epoch boundary of ANOTHER identifier inside it activates due streams in the
    middle of their epoch (D3, `paging_midepoch_counterexample`), termination of the stream under the pointer breaks
    `PtrsOKS` (`paging_pointer_terminated_counterexample`), re-targeting changes the shares
    (`stream_bounded_retarget_counterexample`); `hsmall`: lock count × record count below 2^64-1 (the epoch-end budget). -/
theorem paging_state_independent (s : State) (e : Nat) (he : e ≤ 2) (hi : Inv s) (hp : PtrsOKS s)
    (hsmall : (s.locks.length + 1) * totalRecs (dataOf s) < maxU64)
    (ns1 ns2 : List Nat) (t1 t2 u1 u2 : State) (hl : LiveS s)
    (h1 : runBlocks s ns1 = some t1) (h2 : runBlocks s ns2 = some t2)
    (f1 : streamerAfterEpochEnd t1 e = .ok u1) (f2 : streamerAfterEpochEnd t2 e = .ok u2) :
    ∀ st0 ∈ s.streams, st0.id ∈ s.active.ids → st0.epochId = e →
      ∃ a b, getS u1.streams st0.id = some a ∧ getS u2.streams st0.id = some b ∧
        b = { a with distributed := b.distributed } ∧
        ∀ i, amt a.distributed i = amt b.distributed i ∧ amt a.distributed i = Settled s st0 i := by
  intro st0 hm ha hep
  obtain ⟨D1, p1, q1⟩ := schedule_settled s e he hi hp hl hsmall ns1 t1 u1 h1 f1 st0 hm ha hep
  obtain ⟨D2, p2, q2⟩ := schedule_settled s e he hi hp hl hsmall ns2 t2 u2 h2 f2 st0 hm ha hep
  -- `atEpochEnd` touches the epoch counter only
  have hd : ∀ D, (({ st0 with distributed := D } : Stream).atEpochEnd).distributed = D := by
    intro D; unfold Stream.atEpochEnd; split <;> rfl
  refine ⟨_, _, p1, p2, ?_, fun i => ?_⟩
  · unfold Stream.atEpochEnd
    split <;> rfl
  · rw [hd, hd, q1 i, q2 i]
    exact ⟨rfl, rfl⟩

/-- THE GAUGE SIDE of the clause —
      ∀ ops mi mi', Admissible ops → (run (init now mi) ops).gauges.map (·.coins) = (run (init now mi') ops).gauges.map (·.coins)
    (`Admissible`, §5: every op well-formed, no governance re-targeting)
    — is FALSE of the code, inside the property's quantifier (gauges, a stream, a lock arriving between two blocks,
    limits 1 and 500; no governance).  x/incentives `Distribute` writes a gauge handed in by the streamer back only
    when it distributes something in the same call; gauge 2 (denom 1) has no qualifying lock when the stream's share
    reaches it with limit 500 (first block of the epoch) — its 2000 are stranded in the incentives account and
    account 2 is never paid; with limit 1 it is served one block later, after the lock: it receives 2000 and pays
    account 2.  The stream side is the same in both runs (4000 handed out), as `paging_state_independent` says. -/
def strandedHistory (mi : Nat) : List Op :=
  [.setMaxIter mi, .begin 1, .end_, .createGauge 0 true 0 3600 true [] 101 1, .createGauge 0 true 1 3600 true [] 101 1,
   .locks [⟨1, 0, 100, 3600⟩],
   .fund streamerAddr [4000], .createStream false [4000] [⟨1, 1⟩, ⟨2, 1⟩] 101 1 2,
   .begin 3601, .end_, .begin 3601, .end_, .locks [⟨1, 0, 100, 3600⟩, ⟨2, 1, 50, 3600⟩], .begin 10, .end_, .begin 10, .end_,
   .begin 3601, .end_, .begin 3601, .end_]

theorem paging_gauge_side_counterexample :
    (run (init 100 500) (strandedHistory 1)).gauges.map (fun g => (g.coins, g.distributed)) = [([2000], [2000]), ([2000], [2000])] ∧
    (run (init 100 500) (strandedHistory 500)).gauges.map (fun g => (g.coins, g.distributed)) = [([2000], [2000]), ([], [])] ∧
    (run (init 100 500) (strandedHistory 1)).bank.get 2 = [2000] ∧ (run (init 100 500) (strandedHistory 500)).bank.get 2 = [] ∧
    (run (init 100 500) (strandedHistory 500)).bank.get incAddr = [2000] ∧
    (run (init 100 500) (strandedHistory 1)).streams.map (fun s => (s.distributed, s.filled)) = [([4000], 2)] ∧
    (run (init 100 500) (strandedHistory 500)).streams.map (fun s => (s.distributed, s.filled)) = [([4000], 2)] ∧
    (∀ op ∈ strandedHistory 1, op.wf ∧ op.wfS ∧ op.noRetarget) ∧ (∀ op ∈ strandedHistory 500, op.wf ∧ op.wfS ∧ op.noRetarget) := by
  decide +kernel

/-- the excluded case `¬ PtrsOKS`: stream 1 is terminated while the `hour` pointer points into it (stream 1, gauge 2);
    `NewStreamIterator` bisects to stream 2 but keeps gauge id 2, so stream 2's gauge 1 is skipped and never served:
    with limit 1 stream 2 hands out 2000 of its 4000 and the epoch still counts; with limit 500 it hands out 4000
    (known finding C15/paging_independent/pointer-stream-terminated, governance only) -/
def termHistory (mi : Nat) : List Op :=
  [.setMaxIter mi, .begin 1, .end_, .createGauge 0 true 0 1 true [] 101 1, .createGauge 0 true 0 1 true [] 101 1,
   .locks [⟨1, 0, 100, 3600⟩], .fund streamerAddr [8000],
   .createStream false [4000] [⟨1, 1⟩, ⟨2, 1⟩] 101 1 2, .createStream false [4000] [⟨1, 1⟩, ⟨2, 1⟩] 101 1 2,
   .begin 3601, .end_, .begin 3601, .end_, .terminateStream 1, .begin 10, .end_, .begin 10, .end_, .begin 3601, .end_]

theorem paging_pointer_terminated_counterexample :
    (run (init 100 1) (termHistory 1)).streams.map (fun s => (s.id, s.distributed, s.filled)) = [(1, [2000], 1), (2, [2000], 2)] ∧
    (run (init 100 1) (termHistory 500)).streams.map (fun s => (s.id, s.distributed, s.filled)) = [(1, [4000], 1), (2, [4000], 2)] ∧
    (run (init 100 1) ((termHistory 1).take 14)).ptrs.map (fun p => (p.streamId, p.gaugeId)) =
      [(maxU64, maxU64), (1, 2), (maxU64, maxU64)] ∧
    (run (init 100 1) ((termHistory 1).take 14)).active.ids = [2] := by
  decide +kernel

/-! ## 4c. exact amounts over WHOLE BLOCKS (the three-hook `begin` step and the `end` step) -/

/-- **the whole `begin` step** — the epochs BeginBlocker over day, hour, week; per ending epoch the streamer flush,
    the incentives hook and the streamer epoch start, each inside the error-discarding wrapper — in any state
    satisfying the gauge invariant: every account other than the two module accounts gains EXACTLY
    `Σ_{g ∈ beginGauges s dt} dueG s g a` (the gauge values the block's successful distributions were handed) -/
theorem begin_block_pays_exactly (s : State) (dt : Nat) (hg : GInv s) (a : Nat) (ha : a ≠ streamerAddr) (hb : a ≠ incAddr) (i : Nat) :
    amt ((beginBlock s dt).bank.get a) i = amt (s.bank.get a) i + blockDue s (beginGauges s dt) a i :=
  begin_pays_exactly s dt hg a ha hb i

/-- **the whole `end` step**, whatever its outcome -/
theorem end_block_pays_exactly (s : State) (hg : GInv s) (a : Nat) (ha : a ≠ streamerAddr) (hb : a ≠ incAddr) (i : Nat) :
    amt ((step s .end_).2.bank.get a) i = amt (s.bank.get a) i + (if s.halted then 0 else blockDue s (endGauges s) a i) :=
  end_pays_exactly s hg a ha hb i

/-- … along every history (module accounts do not sign): whole blocks pay exactly what the specification says -/
theorem blocks_pay_exactly_reachable (now mi : Nat) (ops : List Op) (hw : ∀ op ∈ ops, op.wf) (dt : Nat) (a : Nat)
    (ha : a ≠ streamerAddr) (hb : a ≠ incAddr) (i : Nat) :
    amt ((beginBlock (run (init now mi) ops) dt).bank.get a) i =
      amt ((run (init now mi) ops).bank.get a) i + blockDue (run (init now mi) ops) (beginGauges (run (init now mi) ops) dt) a i :=
  begin_pays_exactly _ dt (run_ginv ops _ (init_ginv now mi) hw) a ha hb i

/-! ## 5. streams -/

/-- **for every epoch coins amount, total weight and record weights adding up to at most the total**: the
    gauges' shares of one epoch never exceed the epoch's coins (share = ⌊epochCoins·w/W⌋, fix D1) -/
theorem stream_epoch_bounded (epochCoins W : Nat) (ws : List Nat) (h : ws.sum ≤ W) :
    (ws.map (fun w => streamShare epochCoins w W)).sum ≤ epochCoins :=
  streamShare_sum_le epochCoins W ws h

/-- the same about the expression **as regenerated from `CalculateGaugeRewards` on this run** -/
theorem stream_epoch_bounded_regenerated (epochCoins W : Nat) (ws : List Nat) (h : ws.sum ≤ W) :
    (ws.map (fun w => Gen.Incent.streamShare epochCoins w W)).sum ≤ epochCoins := by
  simp only [GenEq.streamShare_eq]
  exact streamShare_sum_le epochCoins W ws h

example : (([1, 1, 1, 1, 1, 1] : List Nat).map (fun w => streamShare 1000000000000000000 w 6)).sum
    = 999999999999999996 := by decide +kernel
example : (([1, 2, 5] : List Nat).map (fun w => streamShare 1000 w 8)).sum = 1000 := by decide +kernel

/-- the upstream formula `streamShareOld` (ratio rounded half-even before multiplying; replaced by fix D1) gives
    10^18 + 2 for six equal weights -/
theorem stream_share_before_repair_counterexample :
    (([1, 1, 1, 1, 1, 1] : List Nat).map (fun w => streamShareOld 1000000000000000000 w 6)).sum
      = 1000000000000000002 := by decide +kernel

theorem asset_gauge_bounded_regenerated (remain e : Nat) (he : 1 ≤ e) (locks : List Lock) :
    (locks.map (fun l => Gen.Incent.lockShare remain l.amount (lockSum locks) e)).sum ≤ remain := by
  simp only [GenEq.lockShare_eq]
  exact lockShare_total_le remain e he locks

def sixGauges (now : Nat) : List Op := List.replicate 6 (Op.createGauge 0 true 0 1 true [] now 1)
def sixRecs : List Rec := [⟨1, 1⟩, ⟨2, 1⟩, ⟨3, 1⟩, ⟨4, 1⟩, ⟨5, 1⟩, ⟨6, 1⟩]
def blocks (n dt : Nat) : List Op := (List.replicate n [Op.begin dt, Op.end_]).flatten

/-- history: six perpetual gauges, one lock, a 6·10^18 stream over two `hour` epochs with equal weights
    (the history that over-distributes under `streamShareOld`), a second small stream, four hours of blocks -/
def overHistory : List Op :=
  [.begin 1, .end_] ++ sixGauges 101 ++
  [.locks [⟨1, 0, 100, 3600⟩], .fund streamerAddr [6000000000000001000],
   .createStream false [6000000000000000000] sixRecs 101 1 2, .createStream false [1000] [⟨1, 1⟩] 101 2 3] ++ blocks 4 3601

/-- with share = amount·weight/total (fix D1) the stream hands out exactly its coins and the second stream stays covered -/
example : (run (init 100 500) overHistory).streams.map (fun s => (s.coins, s.distributed)) =
    [([6000000000000000000], [6000000000000000000]), ([1000], [])] ∧
    (run (init 100 500) overHistory).bank.get streamerAddr = [1000] := by decide +kernel

/-- … and the exactly funded stream does not stop block processing -/
example : (run (init 100 500) ([.begin 1, .end_] ++ sixGauges 101 ++
      [.locks [⟨1, 0, 100, 3600⟩], .fund streamerAddr [6000000000000000000],
       .createStream false [6000000000000000000] sixRecs 101 1 2] ++ blocks 4 3601)).halted = false := by decide +kernel

/-- what is still owed to the streams in the upcoming and active lists (as `GetModuleToDistributeCoins`
    sums them), per denom -/
def streamerOwed (s : State) (i : Nat) : Nat := owedL s i

/-- the histories the stream clauses quantify over: creation and top-up of gauges and streams, termination,
    lock and rollapp changes, blocks, epoch boundaries, iteration limits — everything except re-targeting
    a stream's records by governance (`ReplaceStreamDistributionProposal`), and module accounts do not sign -/
def Admissible (ops : List Op) : Prop := ∀ op ∈ ops, op.wf ∧ op.wfS ∧ op.noRetarget

/-- **for every admissible history: a stream never hands out more than its total** (fewer than 2^64-1
    streams created).  Rests on the invariant `distributed + shares still pending in this epoch +
    (remaining epochs − 1)·(shares of one epoch) ≤ coins` (`Incent.SBst`), kept by the paged distribution
    for every sequence of limits (`ptrLoop_window`) and re-established at every epoch start. -/
theorem stream_bounded (now mi : Nat) (ops : List Op) (hw : Admissible ops)
    (hlen : (run (init now mi) ops).streams.length < maxU64) :
    ∀ st ∈ (run (init now mi) ops).streams, ∀ i, amt st.distributed i ≤ amt st.coins i :=
  SB_noOver _ (run_inv ops _ (init_inv now mi) hw hlen).sb

/-- the invariant `stream_bounded` rests on, along every admissible history -/
theorem stream_invariant (now mi : Nat) (ops : List Op) (hw : Admissible ops)
    (hlen : (run (init now mi) ops).streams.length < maxU64) : Inv (run (init now mi) ops) :=
  run_inv ops _ (init_inv now mi) hw hlen

/-- **for every admissible history: the streamer account covers all upcoming and active streams** -/
theorem module_solvent_streamer (now mi : Nat) (ops : List Op) (hw : Admissible ops)
    (hlen : (run (init now mi) ops).streams.length < maxU64) (i : Nat) :
    streamerOwed (run (init now mi) ops) i ≤ amt ((run (init now mi) ops).bank.get streamerAddr) i :=
  run_solvent ops _ (init_sstruct now mi) (init_solv now mi)
    (fun op ho => ⟨(hw op ho).1, (hw op ho).2.1⟩) (stream_bounded now mi ops hw hlen) i

/-- without the admissibility restriction only the conditional form holds -/
theorem module_solvent_streamer_partial (now mi : Nat) (ops : List Op) (hw : ∀ op ∈ ops, op.wf ∧ op.wfS)
    (hno : ∀ st ∈ (run (init now mi) ops).streams, ∀ i, amt st.distributed i ≤ amt st.coins i) (i : Nat) :
    streamerOwed (run (init now mi) ops) i ≤ amt ((run (init now mi) ops).bank.get streamerAddr) i :=
  run_solvent ops _ (init_sstruct now mi) (init_solv now mi) hw hno i

/-- re-targeting in the middle of an epoch is excluded for a reason: stream 1 (1000 coins, gauges 1 and 2,
    1000 for its last epoch) is half served with limit 1, then re-targeted to gauge 2 alone — gauge 2 now
    receives the whole epoch amount: 1500 of 1000 handed out, and the next EndBlock cannot pay stream 2
    (block processing stops) -/
def retargetHistory : List Op :=
  [.begin 1, .end_, .createGauge 0 true 0 1 true [] 101 1, .createGauge 0 true 0 1 true [] 101 1,
   .createGauge 0 true 0 1 true [] 101 1, .locks [⟨1, 0, 100, 3600⟩], .fund streamerAddr [2000],
   .createStream false [1000] [⟨1, 1⟩, ⟨2, 1⟩] 101 1 2, .createStream false [1000] [⟨3, 1⟩] 101 1 2,
   .begin 3601, .end_, .begin 3601, .end_, .replaceDistr 1 [⟨2, 1⟩], .begin 10, .end_, .begin 10, .end_]

theorem stream_bounded_retarget_counterexample :
    (run (init 100 1) retargetHistory).streams.map (fun s => (s.id, s.coins, s.distributed)) = [(1, [1000], [1500]), (2, [1000], [])] ∧
    (run (init 100 1) retargetHistory).halted = true := by decide +kernel

example : Admissible overHistory := by unfold Admissible; decide +kernel

/-! ### sponsored streams, UpdateStreamDistributionProposal, pool gauges -/

/-- **a sponsored stream's re-targeting keeps the stream bound, for EVERY distribution handed in and EVERY position
    of the epoch pointer** (reset to the first gauge, left at the last gauge, or anywhere in between — the pointer is
    not reset when the epoch had no active stream): the value `UpdateStreamAtEpochStart` stores satisfies
    `distributed + pending + (remaining epochs − 1)·(shares of one epoch) ≤ coins`, because the epoch coins are
    recomputed from what is left in the same step -/
theorem sponsored_retarget_keeps_bound (st : Stream) (d : List Rec) (p : Pointer) (htw : st.totalWeight = totalWeightOf st.recs)
    (hre : st.numEpochs - st.filled ≠ 0) (hle : ∀ i, amt st.distributed i ≤ amt st.coins i) (i : Nat) :
    amt (started (st.retarget d)).distributed i + pendId p (started (st.retarget d)) i +
      ((started (st.retarget d)).numEpochs - (started (st.retarget d)).filled - 1) *
        sharesOf (started (st.retarget d)) (started (st.retarget d)).recs i ≤ amt (started (st.retarget d)).coins i := by
  obtain ⟨_, q2, q3, _, _, q6, q7, _⟩ := retarget_static st d
  exact started_strong (st.retarget d) p (retarget_tw st d htw) (by rw [q6, q7]; exact hre) (by intro j; rw [q2, q3]; exact hle j) i

/-- at its epoch start a sponsored stream is stored with exactly the current distribution as its records and the
    sum of the powers as its total weight (`DistrInfoFromDistribution`); other streams keep their records -/
theorem sponsored_epoch_start_follows_distribution (l : List Stream) (s s' : State) (hs : SStruct s) (hnd : (l.map (·.id)).Nodup)
    (hall : ∀ st ∈ l, getS s.streams st.id = some st) (h : startStreams l s = .ok s') :
    ∀ st ∈ l, ∃ st', getS s'.streams st.id = some st' ∧ st'.sponsored = st.sponsored ∧
      (st.sponsored = true → st'.recs = s.distr ∧ st'.totalWeight = totalWeightOf s.distr) ∧
      (st.sponsored = false → st'.recs = st.recs ∧ st'.totalWeight = st.totalWeight) := by
  intro st hst
  obtain ⟨_, _, _, _, _, r⟩ := startStreams_exact l s s' hs hnd hall h
  refine ⟨_, (r st hst).1, (retarget_static st s.distr).2.2.2.2.2.2.2, ?_, ?_⟩
  · intro hsp
    show (st.retarget s.distr).recs = _ ∧ (st.retarget s.distr).totalWeight = _
    unfold Stream.retarget; rw [if_pos hsp]; exact ⟨rfl, rfl⟩
  · intro hsp
    show (st.retarget s.distr).recs = _ ∧ (st.retarget s.distr).totalWeight = _
    unfold Stream.retarget; rw [if_neg (by rw [hsp]; decide)]; exact ⟨rfl, rfl⟩

/-- `UpdateStreamAtEpochEnd`: an epoch in which the stream had no weight (empty distribution) is not counted -/
theorem sponsored_zero_weight_epoch_not_filled (st : Stream) (h : st.totalWeight = 0) : st.atEpochEnd = st := by
  unfold Stream.atEpochEnd; simp [h]

/-- history: three perpetual gauges, a sponsored stream (3000 over three `hour` epochs) created on the distribution
    {1:5, 2:5}; the distribution moves to {3:9} in the middle of the first epoch, is empty during what would be the
    third epoch, and comes back as {1:1, 3:3}; paged with limit 1 -/
def sponsoredHistory : List Op :=
  [.begin 1, .end_, .createGauge 0 true 0 1 true [] 101 1, .createGauge 0 true 0 1 true [] 101 1,
   .createGauge 0 true 0 1 true [] 101 1, .locks [⟨1, 0, 100, 3600⟩], .distribution [⟨1, 5⟩, ⟨2, 5⟩],
   .fund streamerAddr [3000], .createStream true [3000] [] 101 1 3,
   .begin 3601, .end_, .begin 10, .end_, .distribution [⟨3, 9⟩], .begin 10, .end_,
   .begin 3601, .end_, .begin 10, .end_, .distribution [],
   .begin 3601, .end_, .begin 3601, .end_, .distribution [⟨1, 1⟩, ⟨3, 3⟩],
   .begin 3601, .end_, .begin 10, .end_, .begin 10, .end_, .begin 3601, .end_]

/-- non-vacuity of the sponsored clauses: the history is admissible; the stream re-targets itself at every epoch
    start — {1,2} in its first epoch (which hands out nothing and still counts: the `hour` pointer was left at the
    last gauge because the epoch before had no active stream, D3), gauge 3 in the second (1500), the two epochs with
    an empty distribution are not counted, gauges 1 and 3 in the last (375 + 1125) — and hands out exactly its 3000 -/
example : Admissible sponsoredHistory := by unfold Admissible; decide +kernel
example : (run (init 100 1) sponsoredHistory).streams.map (fun s => (s.sponsored, s.filled, s.coins, s.distributed, s.recs)) =
    [(true, 3, [3000], [3000], [⟨1, 1⟩, ⟨3, 3⟩])] ∧
    (run (init 100 1) sponsoredHistory).gauges.map (fun g => g.coins) = [[375], [], [2625]] := by decide +kernel

/-- `UpdateStreamDistributionProposal` is a re-targeting like `ReplaceStreamDistributionProposal` and excluded from
    `Admissible` for the same reason: stream 1 (1000 coins, gauges 1 and 2, last epoch) is half served with limit 1,
    then gauge 1 is dropped by an update (weight 0) — gauge 2 now receives the whole epoch amount: 1500 of 1000 -/
def updateHistory : List Op :=
  [.begin 1, .end_, .createGauge 0 true 0 1 true [] 101 1, .createGauge 0 true 0 1 true [] 101 1,
   .createGauge 0 true 0 1 true [] 101 1, .locks [⟨1, 0, 100, 3600⟩], .fund streamerAddr [2000],
   .createStream false [1000] [⟨1, 1⟩, ⟨2, 1⟩] 101 1 2, .createStream false [1000] [⟨3, 1⟩] 101 1 2,
   .begin 3601, .end_, .begin 3601, .end_, .updateDistr 1 [⟨1, 0⟩], .begin 10, .end_, .begin 10, .end_]

theorem stream_bounded_update_counterexample :
    (run (init 100 1) updateHistory).streams.map (fun s => (s.id, s.coins, s.distributed, s.recs)) =
      [(1, [1000], [1500], [⟨2, 1⟩]), (2, [1000], [], [⟨3, 1⟩])] ∧
    (run (init 100 1) updateHistory).halted = true := by decide +kernel

/-- `Hooks.AfterPoolCreated → CreatePoolGauge` (the streamer module account creates five perpetual asset gauges with
    empty coins) is an ordinary operation of the admissible histories: it keeps the full invariant -/
theorem pool_gauges_keep_invariant (s : State) (hi : Inv s) (denom : Nat) (hasSupply : Bool) :
    Inv (step s (.poolGauges denom hasSupply)).2 := by
  have hl : (step s (.poolGauges denom hasSupply)).2.streams.length < maxU64 := by
    unfold step
    split
    · exact hi.len
    · simp only
      unfold createPoolGauges
      rw [(poolGaugesLoop_frame denom hasSupply lockableDurations s).1]; exact hi.len
  exact step_inv s _ hi trivial trivial trivial hl

example : (step (init 100 500) (.poolGauges 11 true)).2.gauges.map (fun g => (g.id, g.kind, g.perpetual, g.coins)) =
    [(1, .asset 11 1, true, []), (2, .asset 11 3600, true, []), (3, .asset 11 10800, true, []),
     (4, .asset 11 25200, true, []), (5, .asset 11 60, true, [])] ∧
    (step (init 100 500) (.poolGauges 12 false)).1 = .err := by decide +kernel

/-- **for every history**: streams are never removed, keep their coins and ids, and their distributed
    coins only grow -/
theorem streams_monotone (now mi : Nat) (ops more : List Op) (hw : ∀ op ∈ ops ++ more, op.wf ∧ op.wfS) :
    StreamsMono (run (init now mi) ops).streams (run (run (init now mi) ops) more).streams := by
  have h1 : ∀ op ∈ ops, op.wf ∧ op.wfS := fun o ho => hw o (List.mem_append_left _ ho)
  have h2 : ∀ op ∈ more, op.wf ∧ op.wfS := fun o ho => hw o (List.mem_append_right _ ho)
  have hg := run_ginv ops _ (init_ginv now mi) (fun o ho => (h1 o ho).1)
  have hs := (run_struct_mono ops _ (init_sstruct now mi) h1).1
  exact (run_struct_mono more _ hs h2).2

/-- the allocation `CreateStream` subtracts from the balance is exactly `streamerOwed` while no stream
    has over-distributed -/
theorem module_to_distribute_exact (s : State) (alloc : Coins) (h : moduleToDistribute s = some alloc)
    (hno : NoOver s.streams) (i : Nat) : amt alloc i = streamerOwed s i :=
  moduleToDistribute_amt s alloc h hno i


/-! ## 6. histories and the iteration limit: id-sorted iteration (fix D2) is independent of it, mid-epoch activation (D3) is not -/

def unsortedHistory : List Op :=
  [.begin 1, .end_, .createGauge 0 true 0 1 true [] 101 1, .createGauge 0 true 0 1 true [] 101 1,
   .locks [⟨1, 0, 100, 3600⟩], .fund streamerAddr [9000],
   .createStream false [3000] [⟨1, 1⟩, ⟨2, 1⟩] 101 1 1, .createStream false [3000] [⟨1, 1⟩, ⟨2, 1⟩] 101 1 3,
   .createStream false [3000] [⟨1, 1⟩, ⟨2, 1⟩] 101 1 3, .begin 3601, .end_] ++
  blocks 2 1200 ++ blocks 1 1201 ++ blocks 2 1200 ++ [.begin 1201]

/-- the reference list is still [3, 2], but with limits 1, 3 and 500 every stream has handed out the same -/
example : (run (init 100 1) unsortedHistory).active.ids = [3, 2] ∧
    ([1, 3, 500].map (fun mi => (run (init 100 mi) unsortedHistory).streams.map (fun s => (s.id, s.distributed)))) =
      List.replicate 3 [(1, []), (2, [1500]), (3, [1500])] := by decide +kernel

def midEpochHistory : List Op :=
  [.begin 1, .end_, .createGauge 0 true 0 1 true [] 101 1, .createGauge 0 true 0 1 true [] 101 1,
   .createGauge 0 true 0 1 true [] 101 1, .locks [⟨1, 0, 100, 3600⟩], .fund streamerAddr [9000],
   .createStream false [3000] [⟨1, 1⟩, ⟨2, 1⟩, ⟨3, 1⟩] 101 0 3] ++ blocks 2 86401 ++
  [.createStream false [3000] [⟨1, 1⟩, ⟨2, 1⟩, ⟨3, 1⟩] 172903 0 2, .begin 3601, .end_, .begin 10, .end_, .begin 10, .end_, .begin 86401]

/-- D3 (not repaired): a `day` stream that becomes active at an `hour` boundary is served in its first
    (partial) day only when the `day` pointer has not yet reached the end: with limit 1 it hands out 1500,
    with limit 500 nothing — and in both runs the epoch counts as filled.  So the state-level clause
      ∀ ops mi mi', Admissible ops → (run (init now mi) ops).streams = (run (init now mi') ops).streams
    is false of the code. -/
theorem paging_midepoch_counterexample :
    (run (init 100 1) midEpochHistory).streams.map (fun s => (s.id, s.distributed, s.filled)) = [(1, [1500], 2), (2, [1500], 1)] ∧
    (run (init 100 500) midEpochHistory).streams.map (fun s => (s.id, s.distributed, s.filled)) = [(1, [1500], 2), (2, [], 1)] ∧
    Admissible midEpochHistory := by
  refine ⟨by decide +kernel, by decide +kernel, ?_⟩
  unfold Admissible; decide +kernel

/-- non-vacuity of the state-level theorems: in `overHistory` gauges have been funded and have paid out,
    and a lock owner (account 1) has been paid -/
example : (run (init 100 500) overHistory).gauges.all (fun g => !g.distributed.isZero && Coins.le g.distributed g.coins) = true := by decide +kernel
example : (run (init 100 500) overHistory).bank.get 1 = [6000000000000000000] := by decide +kernel
example : ∀ op ∈ overHistory, op.wf := by decide +kernel

/-- a window state: in the middle of an `hour` epoch of `unsortedHistory` (reference list [3, 2], stream 2 half
    served, the `hour` pointer at stream 3 gauge 1) -/
def windowState : State := run (init 100 1) (unsortedHistory.take 16)

/-- non-vacuity (executed): from that state the schedules [1,1,1], [3], [0,2,500] and [] followed by the end of the
    `hour` epoch all store the same distributed coins -/
example : ([[1, 1, 1], [3], [0, 2, 500], []].map (fun ns =>
      match runBlocks windowState ns with
      | some t => (match streamerAfterEpochEnd t 1 with
          | .ok u => u.streams.map (fun st => (st.id, st.distributed))
          | .error _ => [])
      | none => [])) = List.replicate 4 [(1, []), (2, [1500]), (3, [1500])] := by decide +kernel

/-- non-vacuity (executed): after the second `begin` of `overHistory` the pending `end` pays account 1 the whole stream
    through gauges 1..6, and so would an epoch-ending `begin` in its place (the flush) -/
example : (endGauges (run (init 100 500) (overHistory.take 15))).map (·.id) = [1, 2, 3, 4, 5, 6] ∧
    blockDue (run (init 100 500) (overHistory.take 15)) (endGauges (run (init 100 500) (overHistory.take 15))) 1 0 = 6000000000000000000 ∧
    blockDue (run (init 100 500) (overHistory.take 15)) (beginGauges (run (init 100 500) (overHistory.take 15)) 3601) 1 0 = 6000000000000000000 := by decide +kernel

end DymVerif.C15
