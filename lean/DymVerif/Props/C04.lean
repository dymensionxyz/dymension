/-
  Props/C04 — Bridged funds are released only after finality, and exactly once.
  Theorems over M-Packets (Model/Packets.lean), for all operation sequences.

  The ghost log `St.log` gets one entry per *real* (not dry-run) execution of the ICS-20 callback —
  on the pass-through path of the middleware and in `finalizeRollappPacket` — recording the packet's
  identity, its proof height, the registered rollapp of its channel and that rollapp's latest
  finalized height at that moment.  Packet messages and finalization touch bank balances and
  acknowledgements only in those executions (`delayed_only_recorded`, `rejected_unchanged`).
-/
import DymVerif.Lemmas.PacketsStep
import DymVerif.Lemmas.PacketsFork
import DymVerif.Lemmas.Base64
namespace DymVerif.C04
open DymVerif DymVerif.Keys DymVerif.Packets

/-- **release_only_final** — every release of a packet of a registered rollapp, in every history,
    happened when the proof height was at or below that rollapp's latest finalized height. -/
theorem release_only_final (s0 : St) (h0 : Inv04 s0) (ops : List Op) :
    ∀ e ∈ (run s0 ops).log, ∀ r, e.delayedRa = some r → ∃ f, e.finAt = some f ∧ e.proofHeight ≤ f :=
  fun e he => InvF.final (inv_run ops h0) e he

/-- **release_at_most_once** — no packet identity (received / sent, hub channel, sequence) is released twice. -/
theorem release_at_most_once (s0 : St) (h0 : Inv04 s0) (ops : List Op) :
    ((run s0 ops).log.map LogE.uid).Nodup :=
  InvF.nodup (inv_run ops h0)

/-- a packet that is still pending has not been released, and nothing released is pending -/
theorem pending_not_released (s0 : St) (h0 : Inv04 s0) (ops : List Op) :
    ∀ p ∈ (run s0 ops).packets, p.status = .pending → p.uid ∉ (run s0 ops).log.map LogE.uid :=
  fun p hp hs hl => InvF.excl (inv_run ops h0) p.uid hl ⟨p, hp, hs, rfl⟩

/-- redelivery is impossible while a packet is pending or after its release: the receipt (received
    packets) is there, the commitment (sent packets) is gone -/
theorem redelivery_guarded (s0 : St) (h0 : Inv04 s0) (ops : List Op) :
    (∀ c q, (true, c, q) ∈ (run s0 ops).log.map LogE.uid → (c, q) ∈ (run s0 ops).receipts) ∧
    (∀ c q, (false, c, q) ∈ (run s0 ops).log.map LogE.uid → (c, q) ∉ (run s0 ops).commits) :=
  ⟨fun c q hl => InvF.rcv (inv_run ops h0) c q (Or.inl hl), fun c q hl => (InvF.snt (inv_run ops h0) c q (Or.inl hl)).1⟩

theorem init_ok (n : Nat) (fund : Int) (a b c : Dec) (r0 r1 : Bytes) (ch : List Chan) : Inv04 (initSt n fund a b c r0 r1 ch) :=
  inv_init n fund a b c r0 r1 ch

/-- **pending_retrievable (by key)** — every stored packet, in particular every pending one, is
    returned by `GetRollappPacket` under its own key. -/
theorem pending_retrievable_by_key (s0 : St) (h0 : Inv04 s0) (ops : List Op) :
    ∀ p ∈ (run s0 ops).packets, getPacket (run s0 ops) (pkey p) = some p :=
  fun _ hp => getPacket_of_mem (InvF.keys (inv_run ops h0)) hp

-- ------------------------------------------------------------------ "only recorded as pending"

/-- **delayed_only_recorded** — a delayed receive moves no coin, writes no acknowledgement and
    releases nothing: the packet is only recorded. -/
theorem delayed_only_recorded (s : St) (c seq ph : Nat) (d : RecvData)
    (h : (recvPacket s c seq ph d).2 = .async) :
    (recvPacket s c seq ph d).1.bal = s.bal ∧ (recvPacket s c seq ph d).1.acks = s.acks ∧
    (recvPacket s c seq ph d).1.log = s.log := by
  have out := recvPacket_out s c seq ph d
  generalize recvPacket s c seq ph d = r at out h
  cases out <;> try cases h
  exact ⟨rfl, rfl, rfl⟩

theorem ofM_err {s : St} {m : M St} {e : Err} (h : (ofM s m).2 = .err e) : (ofM s m).1 = s := by
  cases m with
  | ok s' => cases h
  | error _ => rfl

/-- a rejected message leaves the whole state untouched: every handler's result goes through `ofM` (or the
    same case analysis for acknowledgements and timeouts); receive, epoch and block never answer `.err` -/
theorem rejected_unchanged (s : St) (o : Op) (e : Err) (h : (step s o).2 = .err e) : (step s o).1 = s := by
  cases o with
  | recv c seq ph d => cases h
  | ack c seq ph isErr =>
    simp only [step] at h ⊢
    split at h
    · cases h
    · cases h
    · rfl
  | timeout c seq ph =>
    simp only [step] at h ⊢
    split at h
    · cases h
    · cases h
    · rfl
  | epoch => cases h
  | block => cases h
  | _ => exact ofM_err h

-- ------------------------------------------------------------------ permissionless release

/-- **release_permissionless** — the sender of a finalize message has no influence on its outcome -/
theorem release_permissionless (s : St) (a a' : Addr) (rid : Bytes) (ph : Nat) (t : PType) (src : Bytes) (seq : Nat) :
    step s (.finalize a rid ph t src seq) = step s (.finalize a' rid ph t src seq) := rfl

theorem release_permissionless_by_key (s : St) (a a' : Addr) (b : Bytes) :
    step s (.finalizeByKey a b) = step s (.finalizeByKey a' b) := rfl

/-- once the proof height is final, a finalize request naming the pending packet succeeds, whoever sends it -/
theorem finalizable_succeeds (s : St) (hk : KeysNodup s.packets) (p : Packet) (hp : p ∈ s.packets) (hs : p.status = .pending)
    (f : Nat) (hf : finHeight s p.rollappId = some f) (hph : p.proofHeight ≤ f)
    (hr : p.rollappId ≠ []) (hc : p.srcChan ≠ []) (a : Addr) :
    ∃ s', msgFinalize s a p.rollappId p.proofHeight p.ptype p.srcChan p.seq = .ok s' := by
  unfold msgFinalize
  have e1 : (p.rollappId.isEmpty || p.srcChan.isEmpty) = false := by
    cases h1 : p.rollappId with
    | nil => exact absurd h1 hr
    | cons _ _ => cases h2 : p.srcChan with
      | nil => exact absurd h2 hc
      | cons _ _ => rfl
  simp only [e1, Bool.false_eq_true, if_false]
  have hkey : rollappPacketKey .pending p.rollappId p.proofHeight p.ptype p.srcChan p.seq = pkey p := by
    unfold pkey; rw [hs]
  rw [hkey]
  unfold finalizePacket
  rw [getPacket_of_mem hk hp]
  have hv : verifyHeightFinalized s p.rollappId p.proofHeight = .ok () := by
    unfold verifyHeightFinalized
    rw [hf]
    simp [Nat.not_lt.mpr hph]
  simp only [hv]
  unfold updateAfterFinalization
  have : ((finalizedRecord p (releaseEffect s p).2).status != Status.pending) = false := by
    rw [finalizedRecord_status, hs]; rfl
  simp only [this, Bool.false_eq_true, if_false]
  exact ⟨_, rfl⟩

-- ------------------------------------------------------------------ plain chains are never delayed

/-- **non_rollapp_never_delayed** — on a channel whose client is not the canonical client of a
    registered rollapp a received packet is never delayed and never stored -/
theorem non_rollapp_never_delayed_recv (s : St) (c seq ph : Nat) (d : RecvData)
    (hc : chanRollapp s c = .ok none) :
    (recvPacket s c seq ph d).2 ≠ .async ∧ (recvPacket s c seq ph d).1.packets = s.packets := by
  have out := recvPacket_out s c seq ph d
  generalize recvPacket s c seq ph d = r at out
  cases out with
  | delayed _ _ _ _ _ _ _ hra => rw [hc] at hra; cases hra
  | _ => exact ⟨by simp, rfl⟩

theorem non_rollapp_never_delayed_ack (s s' : St) (c seq ph : Nat) (isTimeout isErr : Bool)
    (hc : chanRollapp s c = .ok none)
    (h0 : ackPacket s c seq ph isTimeout isErr = .ok (some s')) : s'.packets = s.packets := by
  obtain ⟨-, x, s0, ra, p, hx, hs0, hra, rfl, hcase⟩ := ackOpen_shape (ackPacket_ok h0)
  obtain ⟨rfl, rfl⟩ := getSent_some hx
  have e0 : s0.packets = s.packets := by rw [hs0]
  rw [chanRollapp_ids (s := s) (by rw [hs0]) (by rw [hs0]; rfl) x.chan, hc] at hra
  cases hra
  rcases hcase with ⟨-, s1, f1, rfl⟩ | ⟨hdel, -⟩
  · exact f1.dframe.packets.trans e0
  · exact absurd rfl hdel

-- ------------------------------------------------------------------ finalize by key

/-- **finalize_by_key_roundtrip** — the base64 text of a packet key, as `EncodePacketKey` prints it,
    addresses exactly that packet (uses C19's base64 round trip; `DecodePacketKey` does not trim zero
    bytes). -/
theorem finalize_by_key_roundtrip (s : St) (a : Addr) (k : Bytes) (hw : Bytes.WF k) (hne : k ≠ []) :
    msgFinalizeByKey s a (encodePacketKey k) = finalizePacket s k := by
  unfold msgFinalizeByKey
  have : (encodePacketKey k).isEmpty = false := by
    unfold encodePacketKey
    cases h : b64enc k with
    | nil => exact absurd h (b64enc_ne_nil k hne)
    | cons _ _ => rfl
  simp only [this, Bool.false_eq_true, if_false]
  unfold decodePacketKeyExact encodePacketKey
  rw [b64dec_enc k hw]

-- ------------------------------------------------------------------ pending packets by beneficiary address

/-- the by-address index is exact: it lists every pending packet under its current beneficiary and
    nothing else -/
def IdxOk (s : St) : Prop :=
  (∀ p ∈ s.packets, p.status = .pending → (p.target, pkey p) ∈ s.byAddr) ∧
  (∀ e ∈ s.byAddr, ∃ p ∈ s.packets, pkey p = e.2 ∧ p.status = .pending ∧ p.target = e.1)

/- **pending_retrievable (by beneficiary address)** — `RestoreOriginalTransferTarget` returns a copy and leaves
   the caller's packet alone, so `UpdateRollappPacketAfterFinalization` / `DeleteRollappPacket` remove the index
   entry of the packet's CURRENT beneficiary (after a fulfilment: the fulfiller's).  The `example` below runs a
   history with a fulfilment followed by the finalization. -/

def cexChans : List Chan := [{ hubId := [99, 48], cpId := [99, 55], rollapp := some 0, canonical := true }]
def cexInit : St := initSt 3 1000 ⟨0⟩ ⟨0⟩ ⟨0⟩ [114] [115] cexChans
def cexRecv (a : Addr) : RecvData := { dref := .foreign, amount := 100, target := some a, memo := .none }
/-- two transfers arrive (to a1 and to a2), a2 fulfils a1's order, the height becomes final and
    anyone finalizes the first packet -/
def cexOps : List Op :=
  [ .recv 0 1 5 (cexRecv 1), .recv 0 2 6 (cexRecv 2), .fulfill 2 (rollappPacketKey .pending [114] 5 .onRecv [99, 55] 1) 0,
    .addState [114] 10, .finalizeState [114], .finalize 0 [114] 5 .onRecv [99, 55] 1 ]

/-- no dangling entry for the fulfiller a2: its other pending packet is still returned by the by-address
    query, and the finalized packet keeps naming the fulfiller -/
example : pendingByAddr (run cexInit cexOps) 2 = some ((run cexInit cexOps).packets.filter (·.status == .pending)) ∧
    ((run cexInit cexOps).packets.map (fun p => (p.status, p.target, p.orig))) = [(.pending, 2, none), (.finalized, 2, some 1)] ∧
    (run cexInit cexOps).byAddr.length = 1 := by decide +kernel

/-- `List.mapM` in `Option`: succeeds when every element does, and returns exactly the images -/
theorem mapM_option {α β : Type} (f : α → Option β) : ∀ (l : List α), (∀ x ∈ l, ∃ y, f x = some y) →
    ∃ r, l.mapM f = some r ∧ ∀ y, y ∈ r ↔ ∃ x ∈ l, f x = some y
  | [], _ => ⟨[], by simp, by simp⟩
  | a :: t, h => by
    obtain ⟨b, hb⟩ := h a List.mem_cons_self
    obtain ⟨r, hr, hm⟩ := mapM_option f t (fun x hx => h x (List.mem_cons_of_mem _ hx))
    refine ⟨b :: r, by simp [List.mapM_cons, hb, hr], ?_⟩
    intro y
    simp only [List.mem_cons, hm]
    constructor
    · rintro (rfl | ⟨x, hx, hy⟩)
      · exact ⟨a, Or.inl rfl, hb⟩
      · exact ⟨x, Or.inr hx, hy⟩
    · rintro ⟨x, (rfl | hx), hy⟩
      · left; rw [hb] at hy; exact (Option.some.inj hy).symm
      · exact Or.inr ⟨x, hx, hy⟩

/-- with an exact index the by-address query returns exactly the address's pending packets -/
theorem pendingByAddr_exact {s : St} (hk : KeysNodup s.packets) (h : IdxOk s) (a : Addr) :
    ∃ l, pendingByAddr s a = some l ∧ ∀ p, p ∈ l ↔ (p ∈ s.packets ∧ p.status = .pending ∧ p.target = a) := by
  obtain ⟨fwd, bwd⟩ := h
  unfold pendingByAddr
  obtain ⟨r, hr, hm⟩ := mapM_option (fun e => getPacket s e.2) (s.byAddr.filter (·.1 == a)) (by
    intro e he
    obtain ⟨q, hq, h1, _, _⟩ := bwd e (List.mem_filter.mp he).1
    exact ⟨q, h1 ▸ getPacket_of_mem hk hq⟩)
  refine ⟨r, hr, fun p => ?_⟩
  rw [hm]
  constructor
  · rintro ⟨e, he, hp⟩
    obtain ⟨he1, he2⟩ := List.mem_filter.mp he
    obtain ⟨q, hq, h1, h2, h3⟩ := bwd e he1
    have : getPacket s e.2 = some q := h1 ▸ getPacket_of_mem hk hq
    rw [this] at hp
    cases hp
    exact ⟨hq, h2, by rw [h3]; simpa using he2⟩
  · rintro ⟨hp, hs, ht⟩
    exact ⟨(p.target, pkey p), List.mem_filter.mpr ⟨fwd p hp hs, by simp [ht]⟩, getPacket_of_mem hk hp⟩

/-- **pending_retrievable (by beneficiary address)** — in every history (uint64 heights and
    sequences; channel table well formed, ids without '/': the hypotheses of C19's key injectivity)
    the index is exact and the by-address query returns exactly the address's pending packets, where
    the beneficiary of a fulfilled packet is the fulfiller / LP. -/
theorem pending_retrievable_by_address (s0 : St) (h4 : Inv04 s0) (hi : IdxInv s0) (ops : List Op)
    (hp : ∀ o ∈ ops, BoundedOp o) :
    IdxOk (run s0 ops) ∧
    ∀ a, ∃ l, pendingByAddr (run s0 ops) a = some l ∧
      ∀ p, p ∈ l ↔ (p ∈ (run s0 ops).packets ∧ p.status = .pending ∧ p.target = a) := by
  have h := idx_run ops hp h4 hi
  have hk := InvF.keys (inv_run ops h4)
  exact ⟨⟨h.fwd, h.bwd⟩, fun a => pendingByAddr_exact hk ⟨h.fwd, h.bwd⟩ a⟩

/-- the initial state of a run satisfies the index invariant when its channel table is well formed -/
theorem idx_init (n : Nat) (fund : Int) (a b c : Dec) (r0 r1 : Bytes) (ch : List Chan)
    (hc : CfgOk (initSt n fund a b c r0 r1 ch)) : IdxInv (initSt n fund a b c r0 r1 ch) where
  cfg := hc
  pk := by intro q hq; cases hq
  fwd := by intro q hq; cases hq
  bwd := by intro e he; cases he

/-- finalizing a packet removes exactly the index entry of its current beneficiary -/
theorem finalize_removes_own_index_entry (s s' : St) (k : Bytes) (p : Packet)
    (hp : getPacket s k = some p) (hf : finalizePacket s k = .ok s') :
    s'.byAddr = s.byAddr.filter (fun e => !(e.1 == p.target && e.2 == pkey p)) := by
  obtain ⟨p', os, hp', -, -, rfl⟩ := finalizePacket_state hf
  cases hp.symm.trans hp'
  rfl

-- ================================================================== finalization when the ack cannot be written

/-- **finalize_when_ack_cannot_be_written** — what `finalizeRollappPacket` does for a received packet
    whose channel end is CLOSED (`WriteAcknowledgement` fails although the capability resolves):
    `ibc.OnRecvPacket` has already run for real, so the funds are released exactly as in the normal
    case (credit minus bridging fee if the transfer succeeds, nothing if it fails); NO acknowledgement
    is written; the failure is recorded in the packet's `Error`; and the packet is finalized all the
    same — status FINALIZED under its finalized key, its index entry removed, its release logged, so it
    can never be finalized (and acknowledged) later. -/
theorem finalize_when_ack_cannot_be_written (s s' : St) (k : Bytes) (p : Packet)
    (hp : getPacket s k = some p) (ht : p.ptype = .onRecv) (hc : isClosed s p.chan = true)
    (hf : finalizePacket s k = .ok s') :
    s'.acks = s.acks ∧ s'.bal = (recvRelease s p).1.bal ∧
    getPacket s' (pkey (flipped p)) = some (flipped { p with perr := some .ackClosed }) ∧
    s'.byAddr = s.byAddr.filter (fun e => !(e.1 == p.target && e.2 == pkey p)) ∧
    s'.log = s.log ++ [logEntry (recvRelease s p).1 p (some p.rollappId) true] := by
  obtain ⟨p', os, hp', -, -, rfl⟩ := finalizePacket_state hf
  cases hp.symm.trans hp'
  have hcl : (recvRelease s p).1.closed = s.closed ∧ (recvRelease s p).1.acks = s.acks := by
    obtain ⟨b, a, e⟩ := coins_recvRelease s p
    rw [e]; exact ⟨rfl, rfl⟩
  -- the callback ran, the acknowledgement was refused
  have hre : releaseEffect s p = ((recvRelease s p).1, some PErr.ackClosed) := by
    unfold releaseEffect
    rw [ht]
    show writeRecvAck _ p _ = _
    unfold writeRecvAck isClosed
    rw [hcl.1]
    exact if_pos hc
  rw [hre]
  exact ⟨hcl.2, rfl,
    (getPacket_congr (s := setPacket (delPacket s (pkey p)) (flipped (finalizedRecord p (some .ackClosed)))) rfl _).trans
      (getPacket_setPacket_self _ _), rfl, rfl⟩

-- ================================================================== C03 over M-Packets: the hard-fork hook
-- (delayedack `OnHardFork(rollapp, lastValid)` = `onHardFork s rid lv`; the clauses of C03 that concern packets)

/-- the fork range in terms of the packet's fields (C19's `range_from_height_exact`): pending, this
    rollapp, proof height in `[lv+1, 2^64-1)` — the single height 2^64-1 is out of the range's reach -/
theorem forkRange_fields (rid : Bytes) (lv : Nat) (p : Packet) (hr : sep ∉ rid) (hr' : sep ∉ p.rollappId)
    (hlv : lv + 1 < 2 ^ 64) (hph : p.proofHeight < 2 ^ 64) :
    forkRange rid lv (pkey p) = true ↔
      p.status = .pending ∧ p.rollappId = rid ∧ lv + 1 ≤ p.proofHeight ∧ p.proofHeight < 2 ^ 64 - 1 := by
  unfold forkRange pkey
  rw [Nat.mod_eq_of_lt hlv]
  exact C19.range_from_height_exact p.status rid p.rollappId (lv + 1) p.proofHeight p.ptype p.srcChan p.seq hr hr' hlv hph

/-- **fork_removes_range** — after the hook no stored packet lies in the fork range … -/
theorem fork_removes_range (s : St) (rid : Bytes) (lv : Nat) :
    ∀ p ∈ (onHardFork s rid lv).packets, forkRange rid lv (pkey p) = false := by
  intro p hp
  rw [onHardFork_eq, foldl_revert_packets] at hp
  obtain ⟨hmem, hall⟩ := List.mem_filter.mp hp
  cases hf : forkRange rid lv (pkey p) with
  | false => rfl
  | true =>
    have hv : p ∈ forkVictims s rid lv := List.mem_filter.mpr ⟨hmem, hf⟩
    have := List.all_eq_true.mp hall p hv
    simp at this

/-- … i.e. no pending packet of that rollapp with a proof height above `lv` (up to the documented
    edge 2^64-1) is left -/
theorem fork_removes_above_height (s : St) (rid : Bytes) (lv : Nat) (hr : sep ∉ rid) (hlv : lv + 1 < 2 ^ 64) :
    ∀ p ∈ (onHardFork s rid lv).packets, sep ∉ p.rollappId → p.proofHeight < 2 ^ 64 →
      ¬ (p.status = .pending ∧ p.rollappId = rid ∧ lv < p.proofHeight ∧ p.proofHeight < 2 ^ 64 - 1) := by
  intro p hp hs hph hcon
  have := fork_removes_range s rid lv p hp
  rw [(forkRange_fields rid lv p hr hs hlv hph).mpr ⟨hcon.1, hcon.2.1, hcon.2.2.1, hcon.2.2.2⟩] at this
  cases this

/-- **fork_keeps_others** — packets outside the range (finalized, other rollapps, proof height at or
    below `lv`) are untouched -/
theorem fork_keeps_others (s : St) (rid : Bytes) (lv : Nat) :
    ∀ q ∈ s.packets, forkRange rid lv (pkey q) = false → q ∈ (onHardFork s rid lv).packets := by
  intro q hq hf
  rw [onHardFork_eq, foldl_revert_packets]
  refine List.mem_filter.mpr ⟨hq, List.all_eq_true.mpr ?_⟩
  intro p hp
  have hpf := (List.mem_filter.mp hp).2
  simp only [bne_iff_ne, ne_eq]
  intro hk
  rw [hk, hpf] at hf
  cases hf

theorem fork_keeps_at_or_below (s : St) (rid : Bytes) (lv : Nat) (hr : sep ∉ rid) (hlv : lv + 1 < 2 ^ 64) :
    ∀ q ∈ s.packets, sep ∉ q.rollappId → q.proofHeight < 2 ^ 64 →
      (q.status = .finalized ∨ q.rollappId ≠ rid ∨ q.proofHeight ≤ lv) → q ∈ (onHardFork s rid lv).packets := by
  intro q hq hs hph hc
  apply fork_keeps_others s rid lv q hq
  cases hf : forkRange rid lv (pkey q) with
  | false => rfl
  | true =>
    obtain ⟨h1, h2, h3, _⟩ := (forkRange_fields rid lv q hr hs hlv hph).mp hf
    rcases hc with h | h | h
    · rw [h1] at h; cases h
    · exact absurd h2 h
    · omega

/-- **fork_clears_receipts** — every reverted received packet has no receipt afterwards (it can be delivered again) -/
theorem fork_clears_receipts (s : St) (rid : Bytes) (lv : Nat) :
    ∀ p ∈ forkVictims s rid lv, (p.ptype == .onRecv) = true → (p.chan, p.seq) ∉ (onHardFork s rid lv).receipts := by
  intro p hp hr hm
  rw [onHardFork_eq, foldl_revert_receipts] at hm
  have := List.all_eq_true.mp (List.mem_filter.mp hm).2 p hp
  simp [hr] at this

/-- **fork_restores_commitments** — every reverted acknowledgement / timeout packet has its commitment
    back, and it is the commitment of the packet with the ORIGINAL transfer target (the fulfiller, if
    any, is not what the rollapp will acknowledge) -/
theorem fork_restores_commitments (s : St) (rid : Bytes) (lv : Nat) :
    ∀ p ∈ forkVictims s rid lv, (p.ptype == .onRecv) = false →
      (p.chan, p.seq) ∈ (onHardFork s rid lv).commits ∧
      ((p.chan, p.seq), p.orig.getD p.target) ∈ (onHardFork s rid lv).restored := by
  intro p hp hr
  have := foldl_revert_restores (forkVictims s rid lv) s p hp hr
  rw [onHardFork_eq]
  refine ⟨this.1, ?_⟩
  have e : (restoreTarget p).target = p.orig.getD p.target := by rw [restoreTarget_eq]
  rw [← e]; exact this.2

/-- **fork_removes_orders** — the demand orders of the reverted packets go with them, all others stay -/
theorem fork_removes_orders (s : St) (rid : Bytes) (lv : Nat) :
    (∀ p ∈ forkVictims s rid lv, ∀ o ∈ (onHardFork s rid lv).orders, o.id ≠ pendKeyOf p) ∧
    (∀ o ∈ s.orders, (∀ p ∈ forkVictims s rid lv, o.id ≠ pendKeyOf p) → o ∈ (onHardFork s rid lv).orders) := by
  rw [onHardFork_eq, foldl_revert_orders]
  refine ⟨fun p hp o ho => ?_, fun o ho hn => List.mem_filter.mpr ⟨ho, List.all_eq_true.mpr fun p hp => ?_⟩⟩
  · simpa using List.all_eq_true.mp (List.mem_filter.mp ho).2 p hp
  · simpa using hn p hp

/-- **fork_preserves_invariants** — the hook preserves both invariants: afterwards every order
    still refers to a stored packet of its status, the index is exact, nothing reverted counts as released -/
theorem fork_preserves_invariants (s : St) (rid : Bytes) (lv : Nat) (h : Inv s) (hi : IdxInv s) :
    Inv (onHardFork s rid lv) ∧ IdxInv (onHardFork s rid lv) :=
  ⟨⟨inv_onHardFork rid lv h.1, inv05_foldl_revertPacket _ h.2⟩, idx_onHardFork rid lv h.1 hi⟩

-- ------------------------------------------------------------------ non-vacuity

/-- a history with a delayed packet, a premature and a valid finalization, and an immediate release -/
def demoOps : List Op :=
  [ .addState [114] 4, .finalizeState [114],
    .recv 0 1 3 (cexRecv 1),                          -- proof height 3 <= 4: released at once
    .recv 0 2 7 (cexRecv 2),                          -- delayed
    .finalize 9 [114] 7 .onRecv [99, 55] 2,           -- premature: rejected
    .addState [114] 6, .finalizeState [114],
    .finalize 9 [114] 7 .onRecv [99, 55] 2,           -- released
    .finalize 9 [114] 7 .onRecv [99, 55] 2 ]          -- repeated: rejected

example : (run cexInit demoOps).log.map LogE.uid = [(true, 0, 1), (true, 0, 2)] := by decide +kernel
example : (run cexInit demoOps).log.map (fun e => (e.proofHeight, e.finAt)) = [(3, some 4), (7, some 10)] := by decide +kernel
example : (step (run cexInit (demoOps.take 4)) (.finalize 9 [114] 7 .onRecv [99, 55] 2)).2 = .err .notFinal := by decide +kernel
example : (step (run cexInit (demoOps.take 8)) (.finalize 9 [114] 7 .onRecv [99, 55] 2)).2 = .err .notFound := by decide +kernel
example : (recvPacket (run cexInit (demoOps.take 3)) 0 2 7 (cexRecv 2)).2 = .async := by decide +kernel
example : getBal (run cexInit demoOps).bal 2 1 = 1100 := by decide +kernel
example : ((run cexInit (demoOps.take 4)).packets.map (fun p => (p.status, p.target))) = [(.pending, 2)] := by decide +kernel
example : pendingByAddr (run cexInit (demoOps.take 4)) 2 = some (run cexInit (demoOps.take 4)).packets := by decide +kernel
example : ∀ o ∈ demoOps, BoundedOp o := by
  intro o ho
  simp only [demoOps, List.mem_cons, List.mem_nil_iff, or_false] at ho
  rcases ho with rfl | rfl | rfl | rfl | rfl | rfl | rfl | rfl | rfl <;> simp [BoundedOp]
example : ∀ o ∈ cexOps, BoundedOp o := by
  intro o ho
  simp only [cexOps, List.mem_cons, List.mem_nil_iff, or_false] at ho
  rcases ho with rfl | rfl | rfl | rfl | rfl | rfl <;> simp [BoundedOp]
/-- the demo's channel table is well formed, so the theorem applies to its histories -/
example : CfgOk cexInit where
  raSep := by decide +kernel
  chSep := by decide +kernel
  raNe := by decide +kernel
  chNe := by decide +kernel
  canon := by
    intro i j rid hi hj
    have one : ∀ k rid, chanRollapp cexInit k = .ok (some rid) → k = 0 := by
      intro k rid hk
      cases k with
      | zero => rfl
      | succ n =>
        have : cexInit.chans[n + 1]? = none := by simp [cexInit, initSt, cexChans]
        simp [chanRollapp, this] at hk
    rw [one i rid hi, one j rid hj]
example : (match chanRollapp { cexInit with chans := cexChans ++ [{ hubId := [1], cpId := [2], rollapp := none, canonical := false }] } 1 with
    | .ok none => true | _ => false) = true := by decide +kernel
example : (step (run cexInit (demoOps.take 7)) (.finalizeByKey 9 (encodePacketKey (rollappPacketKey .pending [114] 7 .onRecv [99, 55] 2)))).2 = .ok ∧
    (step (run cexInit (demoOps.take 7)) (.finalizeByKey 9 (encodePacketKey (rollappPacketKey .pending [114] 7 .onRecv [99, 55] 2)))).1.log.length = 2 := by decide +kernel

/-- a fork history: two delayed receives (heights 3 and 7) and a sent packet timing out at height 8;
    a2 fulfils the timeout order; fork at 5 reverts the two packets above 5 -/
def forkInit : St := initSt 3 1000 ⟨0⟩ ⟨100000000000000000⟩ ⟨0⟩ [114] [115] cexChans
def forkOps : List Op :=
  [ .addState [114] 10,
    .recv 0 1 3 (cexRecv 1), .recv 0 2 7 (cexRecv 2),
    .send 1 0 0 500, .timeout 0 1 8,
    .fulfill 2 (rollappPacketKey .pending [114] 8 .onTimeout [99, 48] 1) 50 ]

example : ((run forkInit forkOps).packets.map (fun p => (p.proofHeight, p.target, p.orig))) = [(3, 1, none), (7, 2, none), (8, 2, some 1)] := by decide +kernel
example : ((onHardFork (run forkInit forkOps) [114] 5).packets.map (·.proofHeight)) = [3] := by decide +kernel
example : (onHardFork (run forkInit forkOps) [114] 5).receipts = [(0, 1)] ∧ (onHardFork (run forkInit forkOps) [114] 5).commits = [(0, 1)] := by decide +kernel
/-- the restored commitment is the one of the original sender a1, not of the fulfiller a2 -/
example : (onHardFork (run forkInit forkOps) [114] 5).restored = [((0, 1), 1)] := by decide +kernel
example : (onHardFork (run forkInit forkOps) [114] 5).byAddr.map (·.1) = [1] ∧ (onHardFork (run forkInit forkOps) [114] 5).orders.length = 1 := by decide +kernel
example : (step (run forkInit forkOps) (.fork [114] 5)).2 = .ok := by decide +kernel

/-- the closed-channel history: a delayed transfer becomes final, the channel end is closed, anyone
    finalizes — the receiver is paid, no acknowledgement exists, the packet records the failure; opening
    the channel again does not bring the acknowledgement back -/
def closeOps : List Op :=
  [ .recv 0 1 5 (cexRecv 1), .addState [114] 10, .finalizeState [114], .chanClose 0,
    .finalize 2 [114] 5 .onRecv [99, 55] 1, .chanOpen 0, .finalize 2 [114] 5 .onRecv [99, 55] 1 ]

example : getBal (run cexInit closeOps).bal 1 1 = 1100 ∧ (run cexInit closeOps).acks = [] ∧
    ((run cexInit closeOps).packets.map (fun p => (p.status, p.perr))) = [(.finalized, some .ackClosed)] ∧
    (run cexInit closeOps).byAddr = [] ∧ (run cexInit closeOps).log.length = 1 := by decide +kernel
example : (step (run cexInit (closeOps.take 6)) (.finalize 2 [114] 5 .onRecv [99, 55] 1)).2 = .err .notFound := by decide +kernel
example : (step (run cexInit (closeOps.take 4)) (.recv 0 2 6 (cexRecv 1))).2 = .recv .closed ∧
    (step (run cexInit (closeOps.take 4)) (.send 1 0 0 5)).2 = .err .chanClosed ∧
    (step (run cexInit (closeOps.take 4)) (.ack 0 1 3 true)).2 = .err .chanClosed ∧
    (step (run cexInit (closeOps.take 4)) (.timeout 0 1 3)).2 = .replay := by decide +kernel

end DymVerif.C04
