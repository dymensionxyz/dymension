/-
  Props/C05 — eIBC orders: fulfilled at most once, with exact and conserving payments.
  Theorems over M-Packets (Model/Packets.lean): what every accepted eIBC message implies, for all
  states, and invariants for all operation sequences.
-/
import DymVerif.Lemmas.PacketsEibc2
import DymVerif.Lemmas.GenEqEibc
import DymVerif.Lemmas.PacketsStep
namespace DymVerif.C05
open DymVerif DymVerif.Keys DymVerif.Packets

/-- the order `id` is outstanding in `s`: pending, unfulfilled, its packet pending and not finalizable -/
def Outstanding (s : St) (id : Bytes) (o : Order) (p : Packet) : Prop :=
  getOrder s .pending id = some o ∧ o.fulfiller = none ∧ getPacket s o.trackingKey = some p ∧ p.status = .pending ∧
  NotFinalizable s o.rollappId p.proofHeight

theorem getOrder_congr {s s1 : St} (h : s1.orders = s.orders) (st : Status) (k : Bytes) : getOrder s1 st k = getOrder s st k := by
  unfold getOrder; rw [h]

/-- every accepted fulfilment, on whichever path: the order was outstanding (pending, unfulfilled, its packet
    pending and not finalizable), it now carries the fulfiller, and its packet names the beneficiary and
    remembers the old target -/
theorem fulfilsBy_spec {id o f c} {s s' : St} (h : FulfilsBy id o f c s s') :
    ∃ p, Outstanding s id o p ∧ getPacket s' o.trackingKey = some (retarget p (c.getD f)) ∧
      getOrder s' .pending id = some { o with fulfiller := some f } := by
  obtain ⟨b, a, l, g, s1, ho, -, hf, hs'⟩ := h
  obtain ⟨h1, h2, p, hp, hn⟩ := getOutstanding_ok ho
  obtain ⟨hst, hid⟩ := (getOrder_some h1).2
  obtain ⟨p', hp', hpend, hr, hord, -⟩ := setOrderFulfilled_ok hf
  cases hp.symm.trans hp'
  refine ⟨p, ⟨h1, h2, hp, hpend, hn⟩, ?_⟩
  rw [← hid, ← hst]
  rcases hs' with rfl | ⟨lp, -, rfl⟩
  · exact ⟨hr, hord⟩
  · exact ⟨hr, hord⟩

/-- **fulfil_only_outstanding** (direct fulfilment) -/
theorem fulfil_only_outstanding {s s' : St} {a : Addr} {id : Bytes} {fee : Int} (h : msgFulfill s a id fee = .ok s') :
    ∃ o p, Outstanding s id o p := by
  obtain ⟨o, -, hb⟩ := msgFulfill_by h
  obtain ⟨p, hp, -⟩ := fulfilsBy_spec hb
  exact ⟨o, p, hp⟩

/-- **fulfil_only_outstanding** (on-demand LP) -/
theorem fulfil_only_outstanding_on_demand {s s' : St} {id : Bytes} {perm : List Nat} (h : msgOnDemand s id perm = .ok s') :
    ∃ o p, Outstanding s id o p := by
  obtain ⟨o, l, -, hb⟩ := msgOnDemand_by h
  obtain ⟨p, hp, -⟩ := fulfilsBy_spec hb
  exact ⟨o, p, hp⟩

/-- the steps of an accepted authorised fulfilment, about the order as it is outstanding in `s` -/
theorem authorized_steps {s s' : St} {g : Addr} {m : AuthMsg} (h : msgFulfillAuthorized s g m = .ok s') :
    ∃ sg o s1 s2, sg.bal = s.bal ∧ getOutstanding s m.orderId = .ok o ∧ validateOrder sg o m = .ok () ∧
      sendCoins sg m.lp o.recipient o.denom o.price = some s1 ∧
      payOperator s1 m.lp m.opAddr o.denom (operatorFee o.fee m.share) = some s2 ∧ s2.packets = s.packets ∧
      setOrderFulfilled s2 o m.opAddr (some m.lp) = .ok s' := by
  obtain ⟨sg, f, e3, e4, hc⟩ := authorized_core h
  obtain ⟨o, ho, hv, s1, s2, hs1, hs2, hf⟩ := fulfillAuthorizedCore_ok hc
  rw [getOutstanding_congr f.packets f.orders e3] at ho
  exact ⟨sg, o, s1, s2, e4, ho, hv, hs1, hs2,
    ((coins_sendCoins hs1).trans (coins_payOperator hs2)).bank.oframe.packets.trans f.packets, hf⟩

/-- **fulfil_only_outstanding** (authorised) -/
theorem fulfil_only_outstanding_authorized {s s' : St} {g : Addr} {m : AuthMsg} (h : msgFulfillAuthorized s g m = .ok s') :
    ∃ o p, Outstanding s m.orderId o p := by
  obtain ⟨o, -, hb⟩ := msgFulfillAuthorized_by h
  obtain ⟨p, hp, -⟩ := fulfilsBy_spec hb
  exact ⟨o, p, hp⟩

/-- **fulfil_fee_exact** — only at the fee the fulfiller stated -/
theorem fulfil_fee_exact {s s' : St} {a : Addr} {id : Bytes} {fee : Int} (h : msgFulfill s a id fee = .ok s') :
    ∃ o, getOrder s .pending id = some o ∧ o.fee = fee := by
  obtain ⟨o, hfee, hb⟩ := msgFulfill_by h
  obtain ⟨p, hp, -⟩ := fulfilsBy_spec hb
  exact ⟨o, hp.1, hfee⟩

theorem fulfil_fee_exact_authorized {s s' : St} {g : Addr} {m : AuthMsg} (h : msgFulfillAuthorized s g m = .ok s') :
    ∃ o, getOrder s .pending m.orderId = some o ∧ o.fee = m.expectedFee := by
  obtain ⟨o, hfee, hb⟩ := msgFulfillAuthorized_by h
  obtain ⟨p, hp, -⟩ := fulfilsBy_spec hb
  exact ⟨o, hp.1, hfee⟩

/-- **fulfil_at_most_once** — an order that carries a fulfiller is refused by every fulfilment path
    and by the fee update -/
theorem fulfil_at_most_once {s : St} {id : Bytes} {o : Order} (ho : getOrder s .pending id = some o)
    (hf : o.fulfiller.isSome = true) :
    (∀ a fee s', msgFulfill s a id fee ≠ .ok s') ∧ (∀ perm s', msgOnDemand s id perm ≠ .ok s') ∧
    (∀ g m s', m.orderId = id → msgFulfillAuthorized s g m ≠ .ok s') ∧ (∀ a fee s', msgUpdateFee s a id fee ≠ .ok s') := by
  refine ⟨?_, ?_, ?_, ?_⟩
  · intro a fee s' h
    obtain ⟨o', ho', _⟩ := msgFulfill_ok h
    exact getOutstanding_fulfilled ho hf o' ho'
  · intro perm s' h
    obtain ⟨o', ho', _⟩ := msgOnDemand_ok h
    exact getOutstanding_fulfilled ho hf o' ho'
  · intro g m s' hid h
    subst hid
    obtain ⟨o', p, h1, h2, _⟩ := fulfil_only_outstanding_authorized h
    rw [ho] at h1; cases h1
    rw [h2] at hf; cases hf
  · intro a fee s' h
    obtain ⟨_, o', p, price, ho', _⟩ := msgUpdateFee_ok h
    exact getOutstanding_fulfilled ho hf o' ho'

theorem fulfil_marks {s s' : St} {a : Addr} {id : Bytes} {fee : Int} (h : msgFulfill s a id fee = .ok s') :
    ∃ o, getOrder s .pending id = some o ∧ getOrder s' .pending id = some { o with fulfiller := some a } := by
  obtain ⟨o, -, hb⟩ := msgFulfill_by h
  obtain ⟨p, hp, -, hm⟩ := fulfilsBy_spec hb
  exact ⟨o, hp.1, hm⟩

/-- hence the same order cannot be fulfilled directly a second time -/
theorem fulfil_twice_impossible {s s' : St} {a : Addr} {id : Bytes} {fee : Int} (h : msgFulfill s a id fee = .ok s') :
    ∀ a' fee' s'', msgFulfill s' a' id fee' ≠ .ok s'' := by
  obtain ⟨o, _, ho'⟩ := fulfil_marks h
  exact (fulfil_at_most_once ho' rfl).1

/-- **payment_exact** (direct) — the recipient receives exactly the price from the fulfiller, who
    has it; no other balance moves -/
theorem payment_exact {s s' : St} {a : Addr} {id : Bytes} {fee : Int} (h : msgFulfill s a id fee = .ok s') :
    ∃ o, getOrder s .pending id = some o ∧ (o.price = 0 ∨ o.price ≤ getBal s.bal a o.denom) ∧
      ∀ a' d', getBal s'.bal a' d' = getBal s.bal a' d'
        - (if a' = a ∧ d' = o.denom then o.price else 0) + (if a' = o.recipient ∧ d' = o.denom then o.price else 0) := by
  obtain ⟨o, ho, _, hc⟩ := msgFulfill_ok h
  obtain ⟨_, s1, hs1, hb, _⟩ := fulfillCore_ok hc
  obtain ⟨h1, h2⟩ := sendCoins_spec hs1
  exact ⟨o, (getOutstanding_ok ho).1, h1, fun a' d' => by rw [hb]; exact h2 a' d'⟩

theorem bal_setLp (s : St) (l : LP) : (setLp s l).bal = s.bal := rfl

/-- **payment_exact** (on-demand) — one compatible LP pays exactly the price to the recipient -/
theorem payment_exact_on_demand {s s' : St} {id : Bytes} {perm : List Nat} (h : msgOnDemand s id perm = .ok s') :
    ∃ o l, getOrder s .pending id = some o ∧ l ∈ compatibleLPs s o ∧
      ∀ a' d', getBal s'.bal a' d' = getBal s.bal a' d'
        - (if a' = l.addr ∧ d' = o.denom then o.price else 0) + (if a' = o.recipient ∧ d' = o.denom then o.price else 0) := by
  obtain ⟨o, ho, l0, hl0, s1, s2, hd, hc, rfl⟩ := msgOnDemand_ok h
  obtain ⟨_, s3, hs3, hb, _⟩ := fulfillCore_ok hc
  obtain ⟨_, h2⟩ := sendCoins_spec hs3
  refine ⟨o, l0, (getOutstanding_ok ho).1, hl0, fun a' d' => ?_⟩
  rw [bal_setLp, hb, h2 a' d', (lpDel_fields hd).2.2.1]

/-- **payment_exact** (authorised) — the LP pays the price to the recipient and the operator's share
    `⌊fee · share⌋` to the operator address; no other balance moves -/
theorem payment_exact_authorized {s s' : St} {g : Addr} {m : AuthMsg} (h : msgFulfillAuthorized s g m = .ok s') :
    ∃ o, getOrder s .pending m.orderId = some o ∧
      ∀ a' d', getBal s'.bal a' d' = getBal s.bal a' d'
        - (if a' = m.lp ∧ d' = o.denom then o.price else 0) + (if a' = o.recipient ∧ d' = o.denom then o.price else 0)
        - (if a' = m.lp ∧ d' = o.denom then max (operatorFee o.fee m.share) 0 else 0)
        + (if a' = m.opAddr ∧ d' = o.denom then max (operatorFee o.fee m.share) 0 else 0) := by
  obtain ⟨sg, o, s1, s2, e4, ho, _, hs1, hs2, _, hf⟩ := authorized_steps h
  obtain ⟨_, _, _, _, _, hb⟩ := setOrderFulfilled_ok hf
  refine ⟨o, (getOutstanding_ok ho).1, fun a' d' => ?_⟩
  rw [hb, payOperator_spec hs2 a' d', (sendCoins_spec hs1).2 a' d', e4]

/-- after a direct fulfilment the packet names the fulfiller and remembers the original recipient -/
theorem fulfil_redirects_packet {s s' : St} {a : Addr} {id : Bytes} {fee : Int} (h : msgFulfill s a id fee = .ok s') :
    ∃ o p, Outstanding s id o p ∧ getPacket s' o.trackingKey = some (retarget p a) := by
  obtain ⟨o, -, hb⟩ := msgFulfill_by h
  obtain ⟨p, hp, hr, -⟩ := fulfilsBy_spec hb
  exact ⟨o, p, hp, hr⟩

/-- after an authorised fulfilment the packet names the LP -/
theorem fulfil_authorized_redirects_packet {s s' : St} {g : Addr} {m : AuthMsg} (h : msgFulfillAuthorized s g m = .ok s') :
    ∃ o p, Outstanding s m.orderId o p ∧ getPacket s' o.trackingKey = some (retarget p m.lp) := by
  obtain ⟨o, -, hb⟩ := msgFulfillAuthorized_by h
  obtain ⟨p, hp, hr, -⟩ := fulfilsBy_spec hb
  exact ⟨o, p, hp, hr⟩

theorem icsCredit_bal {s s' : St} {p : Packet} (h : icsCredit s p = some s') :
    ∀ a' d', a' ≠ p.target → a' ≠ escrowAcct p.chan → getBal s'.bal a' d' = getBal s.bal a' d' := by
  intro a' d' h1 h2
  unfold icsCredit at h
  split at h
  · rw [(sendCoins_spec h).2 a' d']
    simp [h1, h2]
  · cases h
    rw [getBal_credit]; simp [h1]

/-- the ICS-20 payout credits the address the packet names with the whole amount -/
theorem icsCredit_pays_target {s s' : St} {p : Packet} (h : icsCredit s p = some s') (ht : p.target ≠ escrowAcct p.chan) :
    getBal s'.bal p.target p.denom = getBal s.bal p.target p.denom + p.amount := by
  unfold icsCredit at h
  split at h
  · rw [(sendCoins_spec h).2 p.target p.denom]; simp [ht]
  · cases h; rw [getBal_credit]; simp

theorem chargeBridgingFee_bal (s : St) (p : Packet) :
    ∀ a' d', a' ≠ p.target → getBal (chargeBridgingFee s p).bal a' d' = getBal s.bal a' d' := by
  intro a' d' h1
  unfold chargeBridgingFee
  split
  · rfl
  · split
    · rfl
    · rw [getBal_debit]; simp [h1]

theorem fwdSettle_bal {s s' : St} {p : Packet} {r : Nat × Nat} (h : fwdSettle s p r = some s') :
    ∀ a' d', a' ≠ escrowAcct p.chan → a' ≠ escrowAcct r.1 → getBal s'.bal a' d' = getBal s.bal a' d' := by
  intro a' d' h2 h3
  unfold fwdSettle at h
  split at h
  · cases h
  · rename_i s1 h1
    split at h
    · cases h
    · cases h
      show getBal s1.bal a' d' = _
      split at h1
      · cases h1; rfl
      · unfold fwdRefundFunds at h1
        split at h1
        · split at h1
          · rw [(sendCoins_spec h1).2 a' d']; simp [h2, h3]
          · split at h1
            · cases h1
            · cases h1; rw [getBal_debit]; simp [h2]
        · cases h1; rw [getBal_credit]; simp [h3]

/-- **finalize_pays_fulfiller** — the release of a packet credits (and, for the bridging fee, debits)
    only the address the packet currently names, and the channel escrow: once a fulfilment has
    rewritten the packet to the fulfiller / LP, the original recipient receives nothing further.
    (A packet the hub sent as a packet-forward is settled between the two channel escrows: Props/C05Pfm.) -/
theorem release_touches_only_target (s : St) (p : Packet) :
    ∀ a' d', a' ≠ p.target → a' ≠ escrowAcct p.chan → (∀ r, p.fwd = some r → a' ≠ escrowAcct r.1) →
      getBal (releaseEffect s p).1.bal a' d' = getBal s.bal a' d' := by
  intro a' d' h1 h2 h3
  have hrefund : getBal (refundRelease s p).1.bal a' d' = getBal s.bal a' d' := by
    unfold refundRelease
    split
    · rename_i s1 hr
      unfold icsRefund at hr
      split at hr
      · exact icsCredit_bal hr a' d' h1 h2
      · rename_i r hfw; exact fwdSettle_bal hr a' d' h2 (h3 r hfw)
    · rfl
  have hwrite : ∀ (s1 : St) (b : Bool), (writeRecvAck s1 p b).1.bal = s1.bal := by
    intro s1 b; unfold writeRecvAck
    split
    · rfl
    · split <;> rfl
  have hrecv : getBal (recvRelease s p).1.bal a' d' = getBal s.bal a' d' := by
    unfold recvRelease
    split
    · rename_i s1 hi
      unfold icsRecv at hi
      split at hi
      · cases hi
      · split at hi
        · cases hi
        · rename_i s2 hc
          cases hi
          simp only [if_true]
          rw [chargeBridgingFee_bal _ _ a' d' h1, icsCredit_bal hc a' d' h1 h2]
    · rfl
  unfold releaseEffect
  split
  · rw [hwrite]; exact hrecv
  · split
    · exact hrefund
    · unfold ackRelease; split
      · rfl
      · exact hrefund
  · exact hrefund
  · rfl

/-- finalization changes balances exactly as the release of the packet's effect does -/
theorem finalizePacket_bal {s s' : St} {k : Bytes} (h : finalizePacket s k = .ok s') :
    ∃ p, getPacket s k = some p ∧ s'.bal = (releaseEffect s p).1.bal := by
  obtain ⟨p, hp, _, hu⟩ := finalizePacket_ok h
  obtain ⟨_, rfl⟩ := updateAfterFinalization_ok hu
  refine ⟨p, hp, ?_⟩
  unfold afterPacketStatusUpdated
  split <;> simp only [setOrder, delOrder, setPacket, delPacket, delByAddr, logRelease]

/-- the whole finalization moves coins only through that release -/
theorem finalize_pays_fulfiller {s s' : St} {k : Bytes} (h : finalizePacket s k = .ok s') :
    ∃ p, getPacket s k = some p ∧
      ∀ a' d', a' ≠ p.target → a' ≠ escrowAcct p.chan → (∀ r, p.fwd = some r → a' ≠ escrowAcct r.1) →
        getBal s'.bal a' d' = getBal s.bal a' d' := by
  obtain ⟨p, hp, hb⟩ := finalizePacket_bal h
  exact ⟨p, hp, fun a' d' h1 h2 h3 => hb ▸ release_touches_only_target s p a' d' h1 h2 h3⟩

/-- **price_identity** — `CalcPriceWithBridgingFee`: price + fee + ⌊bridgingFee · amount⌋ = amount, price > 0
    (the truncation is the SDK's `LegacyDec.MulInt(..).TruncateInt()`) -/
theorem price_identity (amt fee : Int) (mult : Dec) (price : Int) (h : calcPrice amt fee mult = .ok price) :
    price + fee + (mult.mulInt amt).truncateInt = amt ∧ 0 < price := calcPrice_ok h

/-- the same about the function as regenerated from `x/eibc/types/fees.go` -/
theorem price_identity_gen (amt fee : Int) (mult : Dec) (price : Int)
    (h : Gen.Eibc.calcPriceWithBridgingFee amt fee mult = some price) :
    price + fee + (mult.mulInt amt).truncateInt = amt ∧ 0 < price := by
  rw [GenEqEibc.calcPrice_eq] at h
  cases hc : calcPrice amt fee mult with
  | ok p => rw [hc] at h; cases h; exact calcPrice_ok hc
  | error e => rw [hc] at h; cases h

/-- the order created for a received packet satisfies the identity -/
theorem price_identity_on_recv {s s' : St} {p : Packet} {m : Memo} (h : eibcOnRecv s p m = .ok s') :
    ∃ o, s' = setOrder s o ∧ o.id = pkey p ∧ o.recipient = p.target ∧
      o.price + o.fee + bridgingFeeOf s p.amount = p.amount ∧ 0 < o.price ∧ 0 ≤ o.fee := by
  obtain ⟨fee, price, hfee, hp, rfl⟩ := eibcOnRecv_ok h
  obtain ⟨h1, h2⟩ := calcPrice_ok hp
  exact ⟨_, rfl, rfl, rfl, h1, h2, memoFee_nonneg hfee⟩

/-- the order created for a refund (error acknowledgement / timeout): price + fee = amount, both positive -/
theorem price_identity_on_refund {s s' : St} {p : Packet} (h : eibcOnRefund s p = .ok s') :
    s' = s ∨ ∃ o, s' = setOrder s o ∧ o.id = pkey p ∧ o.recipient = p.target ∧ o.price + o.fee = p.amount ∧ 0 < o.price ∧ 0 < o.fee := by
  rcases eibcOnRefund_ok h with rfl | ⟨hf, hp, rfl⟩
  · exact Or.inl rfl
  · exact Or.inr ⟨_, rfl, rfl, rfl, Int.sub_add_cancel _ _, hp, hf⟩

/-- the identity is preserved by the fee update (bridging fee only for received packets) -/
theorem price_identity_update {s s' : St} {a : Addr} {id : Bytes} {fee : Int} (h : msgUpdateFee s a id fee = .ok s') :
    ∃ o p price, getOrder s .pending id = some o ∧ getPacket s o.trackingKey = some p ∧
      s' = setOrder s { o with fee := fee, price := price, amount := p.amount, withBf := p.ptype == .onRecv } ∧ 0 < price ∧ 0 ≤ fee ∧
      price + fee + (if p.ptype = .onRecv then bridgingFeeOf s p.amount else 0) = p.amount := by
  obtain ⟨hf, o, p, price, ho, _, hp, hc, hs⟩ := msgUpdateFee_ok h
  obtain ⟨h1, h2⟩ := calcPrice_ok hc
  refine ⟨o, p, price, (getOutstanding_ok ho).1, hp, hs, h2, hf, ?_⟩
  by_cases ht : p.ptype = .onRecv
  · simp only [ht, if_true]
    have : (p.ptype == PType.onRecv) = true := by simp [ht]
    simpa [this, bridgingFeeOf] using h1
  · simp only [ht, if_false]
    have : (p.ptype == PType.onRecv) = false := by simpa using ht
    rw [this] at h1
    simp only [Bool.false_eq_true, if_false] at h1
    have := zero_mulInt_truncateInt p.amount
    omega

/-- **only_recipient_updates_fee** -/
theorem only_recipient_updates_fee {s s' : St} {a : Addr} {id : Bytes} {fee : Int} (h : msgUpdateFee s a id fee = .ok s') :
    ∃ o, getOrder s .pending id = some o ∧ a = o.recipient := by
  obtain ⟨_, o, _, _, ho, ha, _⟩ := msgUpdateFee_ok h
  exact ⟨o, (getOutstanding_ok ho).1, ha⟩

/-- **lp_limits** — the on-demand LP that was charged lists the order's rollapp and denom, the price
    is within its max price and its remaining spend limit, the fee at least its minimum fee, the
    order at least its minimum age; its `Spent` grows by exactly the price and stays within the limit. -/
theorem lp_limits {s s' : St} {id : Bytes} {perm : List Nat} (h : msgOnDemand s id perm = .ok s') :
    ∃ o l s2, getOrder s .pending id = some o ∧ l ∈ s.lps ∧
      l.rollappId = o.rollappId ∧ l.denom = o.denom ∧ o.price ≤ l.maxPrice ∧ o.price ≤ l.spendLimit - l.spent ∧
      l.minFee ≤ o.fee ∧ l.minAge ≤ (s.h + 2 ^ 64 - o.creationHeight) % 2 ^ 64 ∧
      s' = setLp s2 { l with spent := l.spent + o.price } ∧ l.spent + o.price ≤ l.spendLimit := by
  obtain ⟨o, ho, l0, hl0, s1, s2, _, _, hs⟩ := msgOnDemand_ok h
  obtain ⟨h1, h2, h3, h4, h5, h6, h7⟩ := compatible_spec hl0
  exact ⟨o, l0, s2, (getOutstanding_ok ho).1, h1, h2, h3, h4, h5, h6, h7, hs, by omega⟩

/-- the acceptance test as regenerated from `x/eibc/types/lp.go` is the one the model's
    `compatibleLPs` applies -/
theorem lp_accepts_gen (l : LP) (now : Nat) (o : Order) :
    Gen.Eibc.accepts now o.price l.maxPrice l.spendLimit l.spent l.minFee o.fee l.minAge o.creationHeight = lpAccepts l now o :=
  GenEqEibc.accepts_eq l now o

/-- a new LP record starts unspent, within its positive limit -/
theorem lp_created_within_limit {s s' : St} {l : LP} {ok : Bool} (h : msgCreateLp s l ok = .ok s') :
    s' = { (setLp s { l with id := s.nextLp, spent := 0 }) with nextLp := s.nextLp + 1 } ∧ 0 < l.spendLimit ∧ 0 < l.maxPrice ∧ 0 ≤ l.minFee :=
  msgCreateLp_ok h

theorem amountOf_ne_zero_not_isZero {c : Coins} {d : Denom} (h : coinsAmountOf c d ≠ 0) : coinsIsZero c = false := by
  unfold coinsAmountOf at h
  cases hf : c.find? (·.1 == d) with
  | none => simp [hf] at h
  | some x =>
    simp only [hf] at h
    have hx := List.mem_of_find?_eq_some hf
    cases hz : coinsIsZero c with
    | false => rfl
    | true =>
      unfold coinsIsZero at hz
      have := List.all_eq_true.mp hz x hx
      simp at this
      exact absurd this h

/-- what an accepted authorised fulfilment through a grant (`grantee ≠ lp`) respected — against the
    REAL order, because the handler compares the message's rollapp, price and fee with the order -/
structure GrantRespected (s : St) (g : Grant) (c : Criteria) (o : Order) (m : AuthMsg) : Prop where
  first : g.crit.find? (·.rollappId == o.rollappId) = some c
  share : c.opShare = m.share
  sv : c.sv = m.sv
  validated : c.sv = true → settlementValidated s o = .ok true
  denom : c.denoms.isEmpty = false → o.denom ∈ c.denoms
  maxPrice : coinsAmountOf c.maxPrice o.denom ≠ 0 → o.price ≤ coinsAmountOf c.maxPrice o.denom
  limit : coinsIsZero c.spendLimit = false → o.price ≤ coinsAmountOf c.spendLimit o.denom
  minFeeStated : grantMinFee c m.amount ≤ o.fee

/-- **grant_limits** — rollapp, denoms, max price, spend limit, operator share and the settlement
    flag of the grant are enforced against the real order; the grant is then reduced by the real price -/
theorem grant_limits {s s' : St} {grantee : Addr} {m : AuthMsg} (h : msgFulfillAuthorized s grantee m = .ok s')
    (hne : m.lp ≠ grantee) :
    ∃ g c o r, getGrant s m.lp grantee = some g ∧ getOrder s .pending m.orderId = some o ∧ GrantRespected s g c o m ∧
      acceptSpend g c { m with price := [(o.denom, o.price)] } = .ok r ∧
      fulfillAuthorizedCore (match r with | none => delGrant s m.lp grantee | some g' => setGrant s g') m = .ok s' := by
  obtain ⟨hvalid, hcase⟩ := msgFulfillAuthorized_ok h
  rcases hcase with ⟨he, _⟩ | ⟨_, g, r, hg, ha, hc⟩
  · exact absurd he hne
  · obtain ⟨c, hacc, hsp⟩ := acceptGrant_ok ha
    have hfields : ∀ sg : St, sg.packets = s.packets → sg.orders = s.orders → sg.ras = s.ras →
        fulfillAuthorizedCore sg m = .ok s' →
        ∃ o, getOrder s .pending m.orderId = some o ∧ GrantRespected s g c o m ∧ m.price = [(o.denom, o.price)] := by
      intro sg e1 e2 e3 hcore
      obtain ⟨o, ho, hv, _⟩ := fulfillAuthorizedCore_ok hcore
      rw [getOutstanding_congr e1 e2 e3] at ho
      obtain ⟨hr, hp, hf, hsv⟩ := validateOrder_ok hv
      have hpos : 0 < o.price := by
        unfold authMsgValid at hvalid
        simp only [Bool.and_eq_true, decide_eq_true_eq, List.all_eq_true] at hvalid
        have := hvalid.1.1.1.2 (o.denom, o.price) (by rw [hp]; exact List.mem_singleton.mpr rfl)
        exact this
      refine ⟨o, (getOutstanding_ok ho).1, ?_, hp⟩
      refine ⟨by rw [hr]; exact hacc.first, hacc.share, hacc.sv, ?_, ?_, ?_, ?_, by rw [hf]; exact hacc.minFee⟩
      · intro hcsv
        rw [← settlementValidated_congr e1 e3]
        exact hsv (by rw [← hacc.sv]; exact hcsv)
      · intro hd
        exact hacc.denoms hd (o.denom, o.price) (by rw [hp]; exact List.mem_singleton.mpr rfl)
      · intro hm
        have := hacc.maxPrice (amountOf_ne_zero_not_isZero hm)
        rw [hp] at this
        exact exceeds_single this hm
      · intro hz
        have := hacc.limit hz
        rw [hp] at this
        exact safeSub_single hpos this
    cases r with
    | none =>
      obtain ⟨o, ho, hgr, hp⟩ := hfields (delGrant s m.lp grantee) rfl rfl rfl hc
      refine ⟨g, c, o, none, hg, ho, hgr, ?_, hc⟩
      rw [← hp]; exact hsp
    | some g' =>
      obtain ⟨o, ho, hgr, hp⟩ := hfields (setGrant s g') rfl rfl rfl hc
      refine ⟨g, c, o, some g', hg, ho, hgr, ?_, hc⟩
      rw [← hp]; exact hsp

/- **grant_min_fee_on_real_amount** — full statement, FALSE of the current code:

     theorem grant_min_fee_on_real_amount (h : msgFulfillAuthorized s grantee m = .ok s') (hne : m.lp ≠ grantee) :
         ∃ g c o p, getGrant s m.lp grantee = some g ∧ ... ∧ getPacket s o.trackingKey = some p ∧
           grantMinFee c p.amount ≤ o.fee        -- the minimum fee as a share of the REAL transfer amount

   `FulfillOrderAuthorization.Accept` computes the minimum fee from `msg.Amount`, and `validateOrder`
   compares rollapp, price and fee with the order but never `msg.Amount` with the packet's amount.
   Below: the statement under `m.amount = p.amount`, and the witness (replayed on the real code by
   the monitor `C05/grant_min_fee_on_real_amount/fee-below-min-share-of-real-amount`). -/

theorem grant_min_fee_on_real_amount_partial {s s' : St} {grantee : Addr} {m : AuthMsg}
    (h : msgFulfillAuthorized s grantee m = .ok s') (hne : m.lp ≠ grantee) :
    ∃ g c o p, getGrant s m.lp grantee = some g ∧ g.crit.find? (·.rollappId == o.rollappId) = some c ∧
      getOrder s .pending m.orderId = some o ∧ getPacket s o.trackingKey = some p ∧
      (m.amount = p.amount → grantMinFee c p.amount ≤ o.fee) := by
  obtain ⟨g, c, o, r, hg, ho, hgr, _, _⟩ := grant_limits h hne
  obtain ⟨o', p, ⟨ho', _, hp, _⟩⟩ := fulfil_only_outstanding_authorized h
  rw [ho] at ho'; cases ho'
  exact ⟨g, c, o, p, hg, hgr.first, ho, hp, fun e => e ▸ hgr.minFeeStated⟩

def f6Chans : List Chan := [{ hubId := [99, 48], cpId := [99, 55], rollapp := some 0, canonical := true }]
def f6Init : St := initSt 3 100000 ⟨1000000000000000⟩ ⟨0⟩ ⟨0⟩ [114] [115] f6Chans
def f6Key : Bytes := rollappPacketKey .pending [114] 5 .onRecv [99, 55] 1
/-- a 1000-unit transfer with an eIBC fee of 1 (0.1 %); a grant with a 10 % minimum fee -/
def f6Ops : List Op :=
  [ .recv 0 1 5 { dref := .foreign, amount := 1000, target := some 0, memo := .eibc 1 },
    .grant { granter := 1, grantee := 2, crit := [{ rollappId := [114], denoms := [], minFeePct := ⟨100000000000000000⟩,
                                                     maxPrice := [], spendLimit := [], opShare := ⟨0⟩, sv := false }] } ]
/-- the operator states amount 10 instead of 1000 -/
def f6Msg : AuthMsg :=
  { orderId := f6Key, rollappId := [114], price := [(1, 998)], amount := 10, lp := 1, opAddr := 2, expectedFee := 1,
    share := ⟨0⟩, sv := false }

theorem grant_min_fee_on_real_amount_counterexample :
    (step (run f6Init f6Ops) (.fulfillAuth 2 f6Msg)).2 = .ok ∧
    (getOrder (run f6Init f6Ops) .pending f6Key).map (·.fee) = some 1 ∧
    (getPacket (run f6Init f6Ops) f6Key).map (·.amount) = some 1000 ∧
    ((run f6Init f6Ops).grants.flatMap (·.crit)).map (fun c => grantMinFee c 1000) = [100] := by
  decide +kernel

-- ================================================================== invariants over all histories

/-- **order_packet_bijection** — in every reachable state every demand order refers to exactly one
    stored packet (the one under its tracking key), of the order's status, whose pending key is the
    order's id; and there is at most one order per (status, id), hence per packet. -/
theorem order_packet_bijection (s0 : St) (h0 : Inv s0) (ops : List Op) :
    (∀ o ∈ (run s0 ops).orders, ∃ p, getPacket (run s0 ops) o.trackingKey = some p ∧ p.status = o.status ∧ pendKeyOf p = o.id) ∧
    OrdersNodup (run s0 ops).orders := by
  obtain ⟨h4, h5⟩ := inv_run_both ops h0
  refine ⟨fun o ho => ?_, h5.okeys⟩
  obtain ⟨p, hp, h1, h2, h3⟩ := h5.link o ho
  exact ⟨p, h1 ▸ getPacket_of_mem (InvF.keys h4) hp, h2, h3⟩

/-- an order is removed together with its packet: after `DeleteRollappPacket` (epoch clean-up, hard
    fork) no order of that packet is left -/
theorem order_removed_with_packet (s : St) (p : Packet) :
    ∀ o ∈ (deletePacket s p).orders, o.id ≠ pendKeyOf p := by
  intro o ho hid
  unfold deletePacket at ho
  obtain ⟨ho1, hf⟩ := mem_delOrder.mp ho
  obtain ⟨_, hp⟩ := mem_delOrder.mp ho1
  cases hs : o.status with
  | pending => exact hp ⟨hs, hid⟩
  | finalized => exact hf ⟨hs, hid⟩

/-- **price_identity** as an invariant — in every reachable state, for every order:
    price + fee + ⌊bridging fee · amount⌋ = amount (the bridging fee only for received packets),
    price > 0, fee ≥ 0; `amount` is the transfer amount of the packet the price was computed from -/
theorem price_identity_invariant (s0 : St) (h0 : Inv s0) (ops : List Op) :
    ∀ o ∈ (run s0 ops).orders, 0 < o.price ∧ 0 ≤ o.fee ∧
      o.price + o.fee + (if o.withBf then bridgingFeeOf (run s0 ops) o.amount else 0) = o.amount :=
  fun o ho => (inv_run_both ops h0).2.price o ho

/-- **lp_limits** as an invariant — no on-demand LP record is ever spent beyond its spend limit -/
theorem lp_spent_within_limit (s0 : St) (h0 : Inv s0) (ops : List Op) :
    ∀ l ∈ (run s0 ops).lps, l.spent ≤ l.spendLimit :=
  fun l hl => (inv_run_both ops h0).2.lps l hl

theorem init_ok (n : Nat) (fund : Int) (a b c : Dec) (r0 r1 : Bytes) (ch : List Chan) : Inv (initSt n fund a b c r0 r1 ch) :=
  inv_init_both n fund a b c r0 r1 ch

-- ================================================================== non-vacuity

def demoOps : List Op :=
  f6Ops ++ [ .recv 0 2 6 { dref := .foreign, amount := 500, target := some 0, memo := .eibc 5 },
             .createLp { id := 0, addr := 1, rollappId := [114], denom := 1, maxPrice := 600, minFee := 5, spendLimit := 1000, minAge := 0, spent := 0 } true ]
def demoKey2 : Bytes := rollappPacketKey .pending [114] 6 .onRecv [99, 55] 2

example : (step (run f6Init demoOps) (.fulfill 2 f6Key 1)).2 = .ok := by decide +kernel
example : (step (run f6Init demoOps) (.fulfill 2 f6Key 2)).2 = .err .feeMismatch := by decide +kernel
example : (step (step (run f6Init demoOps) (.fulfill 2 f6Key 1)).1 (.fulfill 1 f6Key 1)).2 = .err .fulfilled := by decide +kernel
example : getBal (step (run f6Init demoOps) (.fulfill 2 f6Key 1)).1.bal 0 1 = 100000 + 998 := by decide +kernel
example : getBal (step (run f6Init demoOps) (.fulfill 2 f6Key 1)).1.bal 2 1 = 100000 - 998 := by decide +kernel
example : (step (run f6Init demoOps) (.onDemand 0 demoKey2 [0])).2 = .ok := by decide +kernel
example : ((step (run f6Init demoOps) (.onDemand 0 demoKey2 [0])).1.lps.map (·.spent)) = [495] := by decide +kernel
example : (step (run f6Init demoOps) (.updateFee 0 demoKey2 10)).2 = .ok := by decide +kernel
example : (step (run f6Init demoOps) (.updateFee 1 demoKey2 10)).2 = .err .unauthorized := by decide +kernel
example : ((step (run f6Init demoOps) (.updateFee 0 demoKey2 10)).1.orders.map (fun o => (o.price, o.fee))) = [(998, 1), (490, 10)] := by decide +kernel
example : (step (run f6Init demoOps) (.fulfillAuth 2 { f6Msg with amount := 1000 })).2 = .err .unauthorized := by decide +kernel
example : (run f6Init demoOps).orders.length = 2 ∧ (run f6Init demoOps).packets.length = 2 := by decide +kernel
example : ((run f6Init demoOps).orders.map (fun o => (o.price, o.fee, o.amount, o.withBf))) = [(998, 1, 1000, true), (495, 5, 500, true)] := by decide +kernel

end DymVerif.C05
