/-
  Props/C19Addr — property C19, the clause "Dym-Name and alias addresses round-trip exactly for every
  possible value and name one and only one object", at the TEXT level (Model/KeysAddr):

  * the chains/aliases table of the x/dymns params: `validateAliasesOfChainIds` accepts a table only
    if every chain-id and alias text is listed ONCE among all of them, in any order
    (`chains_validation_unique_among_all`); on such a table an alias names exactly one chain, no alias
    is a chain-id, alias -> chain-id translation follows membership, and chain-id -> handle -> chain-id
    is the identity (`handle_translates_back`), so the handle map is injective on the table;
  * the address text: `ParseDymNameAddress (String (sub, name, handle)) = (sub, name, handle)` for
    every sub-name / name / handle of the validators' languages, in the '@' and in the all-dots
    spelling; hence the formatter is injective;
  * both together (`dymname_address_roundtrip`): what reverse resolution hands out for a config on
    chain `c` parses back to the same (sub-name, name) and reaches the config of chain `c`.
  * what the validation must refuse: a chain-id listed first and LATER the same text as another
    chain's alias (`chains_alias_equals_earlier_chain_id_counterexample`).
-/
import DymVerif.Lemmas.KeysAddr2
import DymVerif.Lemmas.KeysAddrLit
import DymVerif.Lemmas.KeysAddrTable
namespace DymVerif.Props.C19Addr
open DymVerif DymVerif.Keys

/-! ### the table -/

/-- `validateAliasesOfChainIds` accepts only tables in which all chain-ids and aliases are pairwise
    distinct — whatever the order in which a chain-id and an equal alias are listed — and are in the
    validators' languages -/
theorem chains_validation_unique_among_all (t : Chains) (h : validChains t = true) :
    (tableNames t).Nodup ∧ (∀ r ∈ t, validChainIdFormat r.chainId = true) ∧
      (∀ r ∈ t, ∀ a ∈ r.aliases, validAlias a = true) :=
  let w := validChains_wf h
  ⟨w.nodup, w.chains, w.aliases⟩

/-- … and refuses nothing else: the validation accepts EXACTLY the tables whose chain-ids and aliases
    are well formed and pairwise distinct among all -/
theorem chains_validation_iff (t : Chains) :
    validChains t = true ↔ ((tableNames t).Nodup ∧ (∀ r ∈ t, validChainIdFormat r.chainId = true) ∧
      (∀ r ∈ t, ∀ a ∈ r.aliases, validAlias a = true)) :=
  (validChains_iff t).trans ⟨fun w => ⟨w.nodup, w.chains, w.aliases⟩, fun ⟨h1, h2, h3⟩ => ⟨h1, h2, h3⟩⟩

/-- the order of the records does not matter to the validation (in particular a chain-id and an equal
    alias are refused whichever comes first) -/
theorem chains_validation_order_free (t : Chains) : validChains t.reverse = validChains t :=
  validChains_perm (List.reverse_perm t)

/-- an alias names exactly one chain: two records that list the same alias are one record -/
theorem alias_names_one_chain (t : Chains) (h : validChains t = true) (r r' : ChainRec) (a : Bytes)
    (hr : r ∈ t) (hr' : r' ∈ t) (ha : a ∈ r.aliases) (ha' : a ∈ r'.aliases) : r = r' :=
  name_in_one_record (validChains_wf h).nodup hr hr' (List.mem_cons_of_mem _ ha) (List.mem_cons_of_mem _ ha')

/-- no alias of the table is a chain-id of the table -/
theorem alias_is_no_chain_id (t : Chains) (h : validChains t = true) (a : Bytes)
    (ha : a ∈ tableAliases t) : a ∉ tableChainIds t := by
  have w := validChains_wf h
  obtain ⟨r, hr, har⟩ := mem_tableAliases.mp ha
  intro hc
  obtain ⟨r', hr', e⟩ := mem_tableChainIds.mp hc
  have : r = r' := name_in_one_record w.nodup hr hr' (List.mem_cons_of_mem _ har) (e ▸ List.mem_cons_self)
  subst this
  exact (List.nodup_cons.mp (rec_nodup w.nodup hr)).1 (e ▸ har)

/-- chain-ids of the table are pairwise distinct: a chain-id names one record -/
theorem chain_id_names_one_record (t : Chains) (h : validChains t = true) (r r' : ChainRec)
    (hr : r ∈ t) (hr' : r' ∈ t) (e : r.chainId = r'.chainId) : r = r' :=
  name_in_one_record (validChains_wf h).nodup hr hr' List.mem_cons_self (e ▸ List.mem_cons_self)

/-- alias -> chain-id: every alias of a record (not only the default one) translates to that
    record's chain-id (the host chain-id is answered before the table is consulted) -/
theorem alias_translates_to_its_chain (host : Bytes) (t : Chains) (h : validChains t = true)
    (r : ChainRec) (a : Bytes) (hr : r ∈ t) (ha : a ∈ r.aliases) (hh : a ≠ host) :
    toChainId host t a = some r.chainId := by
  have w := validChains_wf h
  rw [toChainId_eq, if_neg hh, find_name w.nodup hr (by simp [ha])]; rfl

/-- a chain-id of the table translates to itself -/
theorem chain_id_translates_to_itself (host : Bytes) (t : Chains) (h : validChains t = true)
    (r : ChainRec) (hr : r ∈ t) : toChainId host t r.chainId = some r.chainId := by
  have w := validChains_wf h
  rw [toChainId_eq]
  split
  · rfl
  · rw [find_name w.nodup hr (by simp)]; rfl

theorem toHandle_cases (t : Chains) (c : Bytes) :
    (toHandle t c = c) ∨ (∃ r ∈ t, r.chainId = c ∧ toHandle t c ∈ r.aliases) := by
  unfold toHandle
  split
  · rename_i r hf
    have hr := List.mem_of_find?_eq_some hf
    have hc : r.chainId = c := by simpa using List.find?_some hf
    split
    · rename_i a as ha
      exact Or.inr ⟨r, hr, hc, by simp [ha]⟩
    · exact Or.inl rfl
  · exact Or.inl rfl

/-- chain-id -> handle -> chain-id is the identity: the handle reverse resolution writes after '@'
    (the default alias when the params give one, else the chain-id) translates back to the chain-id
    it was written for.  `c` is any chain-id text that the params do not use as an alias (every
    chain-id of the table is one, `alias_is_no_chain_id`); the host chain-id is not an alias text
    (the hub's has the `name_number-number` form, which no alias has) -/
theorem handle_translates_back (host : Bytes) (t : Chains) (h : validChains t = true) (c : Bytes)
    (hhost : host ∉ tableAliases t) (hc : c ∉ tableAliases t) :
    resolveChain host t (toHandle t c) = c := by
  have w := validChains_wf h
  rcases toHandle_cases t c with e | ⟨r, hr, hrc, ha⟩
  · rw [e]
    unfold resolveChain
    rw [toChainId_eq]
    split
    · rfl
    · cases hf : t.find? (namesRec c) with
      | none => rfl
      | some r =>
        have hr := List.mem_of_find?_eq_some hf
        have hp := List.find?_some hf
        simp only [namesRec, Bool.or_eq_true, beq_iff_eq, List.contains_iff_mem] at hp
        rcases hp with hp | hp
        · simp [hp]
        · exact absurd (mem_tableAliases.mpr ⟨r, hr, hp⟩) hc
  · have hne : toHandle t c ≠ host := fun e => hhost (e ▸ mem_tableAliases.mpr ⟨r, hr, ha⟩)
    unfold resolveChain
    rw [alias_translates_to_its_chain host t h r _ hr ha hne]
    simpa using hrc

/-- the handle map is injective on chain-id texts that are not aliases: two chains never share the
    text written after '@' -/
theorem handle_injective (host : Bytes) (t : Chains) (h : validChains t = true) (c c' : Bytes)
    (hhost : host ∉ tableAliases t) (hc : c ∉ tableAliases t) (hc' : c' ∉ tableAliases t)
    (e : toHandle t c = toHandle t c') : c = c' := by
  rw [← handle_translates_back host t h c hhost hc, ← handle_translates_back host t h c' hhost hc', e]

/-- the handle is a text the parser accepts after '@' -/
theorem handle_valid (t : Chains) (h : validChains t = true) (c : Bytes) (hc : validChainIdFormat c = true) :
    (validChainIdFormat (toHandle t c) || validAlias (toHandle t c)) = true := by
  have w := validChains_wf h
  rcases toHandle_cases t c with e | ⟨r, hr, _, ha⟩
  · rw [e, hc]; rfl
  · rw [w.aliases r hr _ ha]; simp

/-! ### the address text -/

/-- `ParseDymNameAddress(ReverseResolvedDymNameAddress{sub, name, handle}.String())` gives back
    (sub, name, handle): for EVERY list of sub-name parts and name in `IsValidDymName`'s language and
    every handle in `IsValidChainIdFormat`'s or `IsValidAlias`'s (whatever the bech32 oracle says) -/
theorem dymname_address_parse_format (bech : Bytes → Bool) (parts : List Bytes) (name handle : Bytes)
    (hp : ∀ p ∈ parts, validDymName p = true) (hn : validDymName name = true)
    (hh : (validChainIdFormat handle || validAlias handle) = true) :
    parseAddr bech (formatAddr (joinDot parts) name handle) = some (joinDot parts, name, handle) := by
  unfold formatAddr
  rw [format_eq_glue parts name handle 64 (fun p hp' => validDymName_clean (hp p hp'))]
  exact parseAddr_glue bech parts name handle 64 (Or.inr rfl) hp hn hh

/-- the all-dots spelling `sub.name.handle` parses to the same triple -/
theorem dymname_address_parse_format_dot (bech : Bytes → Bool) (parts : List Bytes) (name handle : Bytes)
    (hp : ∀ p ∈ parts, validDymName p = true) (hn : validDymName name = true)
    (hh : (validChainIdFormat handle || validAlias handle) = true) :
    parseAddr bech (formatAddrDot (joinDot parts) name handle) = some (joinDot parts, name, handle) := by
  unfold formatAddrDot
  rw [format_eq_glue parts name handle 46 (fun p hp' => validDymName_clean (hp p hp'))]
  exact parseAddr_glue bech parts name handle 46 (Or.inl rfl) hp hn hh

/-- the same for the statement-by-statement model of `ParseDymNameAddress` (`parseAddrLit`: Go's
    `LastIndex` / `IndexRune` arithmetic, the "||" test, `FieldsFunc`): on the formatter's texts every
    guard passes and the same chunks are cut -/
theorem dymname_address_parse_format_lit (bech : Bytes → Bool) (parts : List Bytes) (name handle : Bytes)
    (hp : ∀ p ∈ parts, validDymName p = true) (hn : validDymName name = true)
    (hh : (validChainIdFormat handle || validAlias handle) = true) :
    parseAddrLit bech (formatAddr (joinDot parts) name handle) = some (joinDot parts, name, handle) ∧
      parseAddrLit bech (formatAddrDot (joinDot parts) name handle) = some (joinDot parts, name, handle) := by
  unfold formatAddr formatAddrDot
  rw [format_eq_glue parts name handle 64 (fun p hp' => validDymName_clean (hp p hp')),
    format_eq_glue parts name handle 46 (fun p hp' => validDymName_clean (hp p hp'))]
  exact ⟨parseAddrLit_glue bech parts name handle 64 (Or.inr rfl) hp hn hh,
    parseAddrLit_glue bech parts name handle 46 (Or.inl rfl) hp hn hh⟩

/-- an address text names one and only one (sub-name, name, handle) -/
theorem dymname_address_format_injective (parts parts' : List Bytes) (name name' handle handle' : Bytes)
    (hp : ∀ p ∈ parts, validDymName p = true) (hn : validDymName name = true)
    (hh : (validChainIdFormat handle || validAlias handle) = true)
    (hp' : ∀ p ∈ parts', validDymName p = true) (hn' : validDymName name' = true)
    (hh' : (validChainIdFormat handle' || validAlias handle') = true)
    (e : formatAddr (joinDot parts) name handle = formatAddr (joinDot parts') name' handle') :
    joinDot parts = joinDot parts' ∧ name = name' ∧ handle = handle' := by
  have h1 := dymname_address_parse_format (fun _ => false) parts name handle hp hn hh
  have h2 := dymname_address_parse_format (fun _ => false) parts' name' handle' hp' hn' hh'
  rw [e, h2] at h1
  simpa [eq_comm] using h1

/-! ### both levels -/

/-- the round trip: reverse resolution writes, for a config of (`name`, sub-name `parts`) on chain
    `c`, the text `sub.name@handle` with `handle = toHandle t c`; forward resolution parses exactly
    (sub, name, handle) out of it and, through the params `t` that passed validation, reaches the
    config of chain `c` again — for every valid table, every name / sub-name, every chain-id `c` that
    is not an alias text of the table -/
theorem dymname_address_roundtrip (bech : Bytes → Bool) (host : Bytes) (t : Chains) (h : validChains t = true)
    (parts : List Bytes) (name c : Bytes)
    (hp : ∀ p ∈ parts, validDymName p = true) (hn : validDymName name = true)
    (hcv : validChainIdFormat c = true) (hhost : host ∉ tableAliases t) (hc : c ∉ tableAliases t) :
    parseAddrLit bech (formatAddr (joinDot parts) name (toHandle t c)) = some (joinDot parts, name, toHandle t c) ∧
      parseAddr bech (formatAddr (joinDot parts) name (toHandle t c)) = some (joinDot parts, name, toHandle t c) ∧
      resolveChain host t (toHandle t c) = c ∧ reachesConfig host t (toHandle t c) c = true := by
  refine ⟨(dymname_address_parse_format_lit bech parts name _ hp hn (handle_valid t h c hcv)).1,
    dymname_address_parse_format bech parts name _ hp hn (handle_valid t h c hcv),
    handle_translates_back host t h c hhost hc, ?_⟩
  simp [reachesConfig, handle_translates_back host t h c hhost hc]

/-! ### what the validation must refuse -/

/-- "nim" -/
def nim : Bytes := [110, 105, 109]
/-- "nim_1122-1" -/
def nim1122 : Bytes := [110, 105, 109, 95, 49, 49, 50, 50, 45, 49]
/-- "dymension_1100-1" -/
def hubId : Bytes := [100, 121, 109, 101, 110, 115, 105, 111, 110, 95, 49, 49, 48, 48, 45, 49]

/-- the table that lists chain-id `nim` and LATER gives the same text as alias of `nim_1122-1` -/
def clashTable : Chains := [⟨nim, []⟩, ⟨nim1122, [nim]⟩]

/-- the validation answers "chain ID and alias must unique among all, found duplicated" -/
def refusedDup (t : Chains) : Bool := match validateChains t with | .error .dup => true | _ => false

/-- on that table the text `nim` names two chains and the address does not come back: reverse
    resolution writes `@nim` for `nim_1122-1`, resolution reads `nim` as the chain `nim`.  The
    validation refuses it — in this order and in the other one -/
theorem chains_alias_equals_earlier_chain_id_counterexample :
    toHandle clashTable nim1122 = nim ∧ resolveChain hubId clashTable nim = nim ∧
      reachesConfig hubId clashTable (toHandle clashTable nim1122) nim1122 = false ∧
      nim ∈ tableChainIds clashTable ∧ nim ∈ tableAliases clashTable ∧
      refusedDup clashTable = true ∧ refusedDup clashTable.reverse = true := by decide +kernel

/-- a host chain-id that is an alias text (not the hub's form) and listed as another chain's alias:
    accepted by the validation (it does not know the host chain-id) and not translated back — the
    reason for the hypothesis `host ∉ tableAliases t` -/
theorem host_chain_id_as_alias_counterexample :
    validChains [⟨nim1122, [nim]⟩] = true ∧ resolveChain nim [⟨nim1122, [nim]⟩] (toHandle [⟨nim1122, [nim]⟩] nim1122) = nim ∧
      validAlias hubId = false := by decide +kernel

/-- a name that configures a chain literally called like an alias of the params: the handle written
    is that text, its translation is the aliased chain, and resolution still reaches the config
    because it reads the handle literally first — the reason for the hypothesis `c ∉ tableAliases t`
    in `handle_translates_back` -/
theorem config_chain_id_is_alias_text_remark :
    toHandle [⟨nim1122, [nim]⟩] nim = nim ∧ resolveChain hubId [⟨nim1122, [nim]⟩] nim = nim1122 ∧
      reachesConfig hubId [⟨nim1122, [nim]⟩] (toHandle [⟨nim1122, [nim]⟩] nim) nim = true := by decide +kernel

/-! ### non-vacuity -/

example : validChains [⟨hubId, [[100, 121, 109]]⟩, ⟨nim1122, [nim]⟩] = true := by decide +kernel
example : validDymName [97, 108, 105, 99, 101] = true ∧ validChainIdFormat nim1122 = true ∧ validAlias nim = true := by decide +kernel
/-- "sub.alice@nim" -/
example : parseAddr (fun _ => false) (formatAddr (joinDot [[115, 117, 98]]) [97, 108, 105, 99, 101] nim) =
    some ([115, 117, 98], [97, 108, 105, 99, 101], nim) := by decide +kernel
example : parseAddrLit (fun _ => false) [115, 117, 98, 46, 97, 108, 105, 99, 101, 64, 110, 105, 109] =
    some ([115, 117, 98], [97, 108, 105, 99, 101], nim) := by decide +kernel
/-- "a@b@c", ".a@b", "a..b@c", "a@b.c" are refused -/
example : parseAddr (fun _ => false) [97, 64, 98, 64, 99] = none ∧ parseAddr (fun _ => false) [46, 97, 64, 98] = none ∧
    parseAddr (fun _ => false) [97, 46, 46, 98, 64, 99] = none ∧ parseAddr (fun _ => false) [97, 64, 98, 46, 99] = none := by decide +kernel

end DymVerif.Props.C19Addr
