/-
  Props/C06LC — C06's light-client clause, over M-LC (Model/LC.lean: x/lightclient layered on M-Core):

    "A sequencer cannot withdraw anything … while a header it signed for the canonical client is still
     unverified."

  1. `optimistic_header_recorded`        an accepted header for a height no state info covers leaves the record
                                         (sequencer, client, height) — on canonical and not-yet-canonical clients
  2. `signer_record_removed_only_by`     a record disappears only through a successful state update of the rollapp
                                         the client is canonical for that reaches its height (validated without
                                         error), or through the rollback of that client by a fork at or below it
  3. `withdraw_refused_while_recorded`   while a record of `a` for the canonical client of its rollapp exists,
                                         `MsgDecreaseBond` / `MsgUnbond` of `a` move no money
     `withdraw_ok_no_record`             conversely
  4. `withdraw_refused_until_verified_or_rolled_back`   the trace corollary
-/
import DymVerif.Lemmas.LCSigners
import DymVerif.Props.C09
namespace DymVerif.C06LC
open DymVerif DymVerif.LC
open DymVerif.Core (Addr)

/-- **optimistic_header_recorded** — if `HandleMsgUpdateClient` lets a header through, the proposer it names is a
    sequencer `q`, and no state info of `q`'s rollapp covers the header's height (the header is optimistic),
    then the record (q, client, height) is in the signer set afterwards — whether or not the client is
    canonical (there is no hypothesis on the designation maps). -/
theorem optimistic_header_recorded {s s1 : St} {c : Nat} {hd : Hdr} {q : Core.Seq} {r : Core.Rollapp}
    (h : handleUpdate s c hd = (s1, none)) (hq : Core.getSeq s.core hd.propData = some q)
    (hr : Core.getRa s.core q.rollapp = some r) (hf : Core.findByHeight r hd.h = none) :
    (q.addr, c, hd.h) ∈ s1.signerSet := by
  rcases handleUpdate_cases s c hd with ⟨e, he⟩ | ⟨_, ⟨hn, _, _⟩ | ⟨q', r', hk, hopt⟩⟩
  · rw [he] at h; cases h
  · rw [hq] at hn; cases hn
  · cases hq.symm.trans hk.seq
    cases hr.symm.trans hk.ra
    rcases hopt with ⟨_, _, e⟩ | ⟨i, _, hi, _⟩
    · rw [e] at h; cases h
      exact mem_saveSigner s c hd.h q.addr
    · rw [hf] at hi; cases hi

/-- … and the record survives the rest of the transaction: the ante handler's writes are kept whether the
    IBC message then succeeds (`.ok`) or fails (`.msg`). -/
theorem optimistic_header_recorded_tx {s : St} {c : Nat} {hd : Hdr} {ibc : Bool} {q : Core.Seq} {r : Core.Rollapp}
    (hacc : ∀ e, (updateClient s c .top hd ibc).2 ≠ .ante e) (hq : Core.getSeq s.core hd.propData = some q)
    (hr : Core.getRa s.core q.rollapp = some r) (hf : Core.findByHeight r hd.h = none) :
    (q.addr, c, hd.h) ∈ (updateClient s c .top hd ibc).1.signerSet := by
  cases hh : handleUpdate s c hd with
  | mk s1 oe =>
    cases oe with
    | some e =>
      exfalso
      apply hacc e
      simp [updateClient, hh]
    | none =>
      have hm := optimistic_header_recorded hh hq hr hf
      unfold updateClient
      simp only [hh]
      cases getClient s c with
      | none => exact hm
      | some cl =>
        simp only
        split
        · exact hm
        · exact hm

/-- the ops that can release a record of client `c` at height `h`, executed from `s`:
    a Core op that succeeded, hooks included, and
    (i)  is a state update of the rollapp `c` is canonical for, whose stored state info (the rollapp's latest
         after the op) ends at or above `h`, and which the `AfterUpdateState` hook validated against the
         client's consensus states without error (`validateStateInfo`, in the hook's state `s3`); or
    (ii) forked a rollapp `c` is canonical for with `lastValid - 1 < h` (`RollbackCanonicalClient` deletes the
         consensus states above `lastValid` and prunes the signer records above `lastValid - 1`, as the Go code
         does: a record *at* `lastValid` is released although its consensus state stays). -/
def Releases (s : St) (op : Op) (c h : Nat) : Prop :=
  ∃ o ds, op = .core o ds ∧ (step s op).2 = .ok ∧
    ((∃ m r st, o = .update m ∧ lookup s.r2c m.ra = some c ∧ Core.getRa (step s op).1.core m.ra = some r ∧
        r.states.getLast? = some st ∧ h ≤ st.last ∧
        ∃ s3 cl, s3.core = (step s op).1.core ∧ getClient s3 c = some cl ∧ (validateStateInfo s3 cl m.ra st).2 = none) ∨
     (∃ ra lv, (ra, lv) ∈ newForks s.core (step s op).1.core ∧ lookup s.r2c ra = some c ∧ lv - 1 < h))

/-- **signer_record_removed_only_by** — for every state and op: a record that is there before the op and gone after
    it was released by an op of kind (i) or (ii). -/
theorem signer_record_removed_only_by (s : St) (op : Op) (a : Addr) (c h : Nat)
    (hin : (a, c, h) ∈ s.signerSet) (hout : (a, c, h) ∉ (step s op).1.signerSet) : Releases s op c h := by
  cases op with
  | core o ds =>
    obtain ⟨hok, hk⟩ := coreOp_removed (o := o) (ds := ds) hin hout
    exact ⟨o, ds, rfl, hok, hk⟩
  | _ => exact absurd (step_signers_sub s _ (by intro _ _ e; cases e) _ hin) hout

/-- the light-client blocker fires for a non-proposer with a record on its rollapp's canonical client -/
theorem blocked_of_record {s : St} {a : Addr} {c h : Nat} {q : Core.Seq} (hin : (a, c, h) ∈ s.signerSet)
    (hq : Core.getSeq s.core a = some q) (hc : lookup s.r2c q.rollapp = some c) (hp : Core.isProposer s.core q = false) :
    unbondBlocked s a = true := by
  unfold unbondBlocked
  simp only [hq, hp, hc]
  exact List.any_eq_true.2 ⟨(a, c, h), hin, by simp⟩

/-- **withdraw_refused_while_recorded** — let `a` be a sequencer whose rollapp's canonical client is `c`, with a record
    (a, c, h) in the signer set.  Then
    * `MsgDecreaseBond` of `a` is refused, whatever the amount, and nothing changes (x/sequencer refuses the proposer,
      the light-client blocker everybody else);
    * `MsgUnbond` of `a` is refused and nothing changes — unless `a` is the proposer, whose `MsgUnbond` never
      reaches `TryUnbond`: if accepted it only starts the notice period, the bond and all balances stay. -/
theorem withdraw_refused_while_recorded {s : St} {a : Addr} {c h : Nat} {q : Core.Seq} (hin : (a, c, h) ∈ s.signerSet)
    (hq : Core.getSeq s.core a = some q) (hc : lookup s.r2c q.rollapp = some c) (ds : List (Nat × Option Nat)) :
    (∀ amt, (coreOp s (.bondDec a amt) ds).2 ≠ .ok ∧ (coreOp s (.bondDec a amt) ds).1 = s) ∧
    (((coreOp s (.unbond a) ds).2 ≠ .ok ∧ (coreOp s (.unbond a) ds).1 = s) ∨
     (Core.isProposer s.core q = true ∧
      (coreOp s (.unbond a) ds).1.core.bal = s.core.bal ∧ (coreOp s (.unbond a) ds).1.core.modBal = s.core.modBal ∧
      (coreOp s (.unbond a) ds).1.core.burned = s.core.burned ∧
      ∃ q', Core.getSeq (coreOp s (.unbond a) ds).1.core a = some q' ∧ q'.tokens = q.tokens)) := by
  constructor
  · intro amt
    rcases coreOp_cases s (.bondDec a amt) ds with ⟨e, hne⟩ | ⟨core1, _, _, ⟨hstep, hb, _, _, _⟩, _⟩
    · exact ⟨hne, e⟩
    · exfalso
      -- the Core step succeeded, so `a` is not the proposer; then the blocker fires
      have hap : Core.decreaseBond s.core a amt = .ok core1 := apply_of_step hstep
      have hp := decreaseBond_not_proposer hap hq
      have := blocked_of_record hin hq hc hp
      simp only [coreBlocked] at hb
      rw [this] at hb; cases hb
  · by_cases hp : Core.isProposer s.core q = true
    · rcases coreOp_cases s (.unbond a) ds with ⟨e, hne⟩ | ⟨core1, _, _, hst, _⟩
      · exact Or.inl ⟨hne, e⟩
      · right
        have hap : Core.unbond s.core a = .ok core1 := apply_of_step hst.step
        obtain ⟨e1, e2, e3, q', hq', ht, _⟩ := unbond_proposer hap hq hp
        refine ⟨hp, ?_⟩
        rcases coreOp_core s (.unbond a) ds with e | e
        · rw [e]; exact ⟨rfl, rfl, rfl, q, hq, rfl⟩
        · rw [e, hst.step]; exact ⟨e1, e2, e3, q', hq', ht⟩
    · left
      have hp' : Core.isProposer s.core q = false := by simpa using hp
      rcases coreOp_cases s (.unbond a) ds with ⟨e, hne⟩ | ⟨_, _, _, ⟨_, hb, _, _, _⟩, _⟩
      · exact ⟨hne, e⟩
      · exfalso
        have := blocked_of_record hin hq hc hp'
        simp only [coreBlocked] at hb
        rw [this] at hb; cases hb

/-- for a sequencer that is not the proposer both messages are plainly refused -/
theorem withdraw_refused_while_recorded_nonproposer {s : St} {a : Addr} {c h : Nat} {q : Core.Seq}
    (hin : (a, c, h) ∈ s.signerSet) (hq : Core.getSeq s.core a = some q) (hc : lookup s.r2c q.rollapp = some c)
    (hp : Core.isProposer s.core q = false) (ds : List (Nat × Option Nat)) :
    (coreOp s (.unbond a) ds).2 ≠ .ok ∧ (coreOp s (.unbond a) ds).1 = s ∧
    ∀ amt, (coreOp s (.bondDec a amt) ds).2 ≠ .ok ∧ (coreOp s (.bondDec a amt) ds).1 = s := by
  obtain ⟨h1, h2⟩ := withdraw_refused_while_recorded hin hq hc ds
  rcases h2 with h2 | ⟨hp', _⟩
  · exact ⟨h2.1, h2.2, h1⟩
  · rw [hp] at hp'; cases hp'

/-- **withdraw_ok_no_record** — conversely: if `MsgDecreaseBond` of `a` is accepted, or `MsgUnbond` of a non-proposer
    `a` is accepted, then the canonical client of `a`'s rollapp holds no record of `a` at any height. -/
theorem withdraw_ok_no_record {s : St} {a : Addr} {c : Nat} {q : Core.Seq} (hq : Core.getSeq s.core a = some q)
    (hc : lookup s.r2c q.rollapp = some c) (ds : List (Nat × Option Nat))
    (hok : (∃ amt, (coreOp s (.bondDec a amt) ds).2 = .ok) ∨
           ((coreOp s (.unbond a) ds).2 = .ok ∧ Core.isProposer s.core q = false)) :
    ∀ h, (a, c, h) ∉ s.signerSet := by
  intro h hin
  obtain ⟨h1, h2⟩ := withdraw_refused_while_recorded hin hq hc ds
  rcases hok with ⟨amt, hok⟩ | ⟨hok, hp⟩
  · exact (h1 amt).1 hok
  · rcases h2 with h2 | ⟨hp', _⟩
    · exact h2.1 hok
    · rw [hp] at hp'; cases hp'

/-- no op of the run `ops`, executed in sequence from `s`, releases (c, h) -/
def Quiet : St → List Op → Nat → Nat → Prop
  | _, [], _, _ => True
  | s, op :: ops, c, h => ¬ Releases s op c h ∧ Quiet (step s op).1 ops c h

/-- the record stays as long as nothing releases it -/
theorem record_kept_while_quiet : ∀ (ops : List Op) (s : St) (a : Addr) (c h : Nat),
    (a, c, h) ∈ s.signerSet → Quiet s ops c h → (a, c, h) ∈ (run s ops).signerSet
  | [], _, _, _, _, hin, _ => hin
  | op :: ops, s, a, c, h, hin, hq => by
    simp only [run, List.foldl_cons]
    apply record_kept_while_quiet ops (step s op).1 a c h ?_ hq.2
    apply Classical.byContradiction
    intro hout
    exact hq.1 (signer_record_removed_only_by s op a c h hin hout)

/-- **withdraw_refused_until_verified_or_rolled_back** — for every state `s` and op list `ops`: if `a` has a record
    for client `c` at height `h` and no op of the run verifies the height by a validated state update of the
    rollapp `c` is canonical for, or rolls the client back at or below it (`Quiet`), then after the run the record
    is still there; and if then `c` is the canonical client of the rollapp `ra` of the sequencer `a` (a designation
    made at any point of the run, or before it, is still there: `run_r2c_stable`; sequencer records never change
    their rollapp: Lemmas/CoreLevOwn `RolMono`, for reachable states), a withdrawal of `a` is refused:
    `MsgDecreaseBond` always, `MsgUnbond` unless `a` is the proposer (whose `MsgUnbond` moves no money). -/
theorem withdraw_refused_until_verified_or_rolled_back (s : St) (ops : List Op) (a : Addr) (c h : Nat) (q' : Core.Seq)
    (hin : (a, c, h) ∈ s.signerSet) (hquiet : Quiet s ops c h)
    (hq' : Core.getSeq (run s ops).core a = some q') (hc : lookup (run s ops).r2c q'.rollapp = some c)
    (ds : List (Nat × Option Nat)) :
    (a, c, h) ∈ (run s ops).signerSet ∧
    (∀ amt, (coreOp (run s ops) (.bondDec a amt) ds).2 ≠ .ok ∧ (coreOp (run s ops) (.bondDec a amt) ds).1 = run s ops) ∧
    (Core.isProposer (run s ops).core q' = false →
      (coreOp (run s ops) (.unbond a) ds).2 ≠ .ok ∧ (coreOp (run s ops) (.unbond a) ds).1 = run s ops) := by
  have hkept := record_kept_while_quiet ops s a c h hin hquiet
  refine ⟨hkept, (withdraw_refused_while_recorded hkept hq' hc ds).1, ?_⟩
  intro hp
  have := withdraw_refused_while_recorded_nonproposer hkept hq' hc hp ds
  exact ⟨this.1, this.2.1⟩

/-- the same with the designation made before the run -/
theorem withdraw_refused_until_verified_or_rolled_back_designated (s : St) (ops : List Op) (a : Addr) (c h ra : Nat) (q' : Core.Seq)
    (hin : (a, c, h) ∈ s.signerSet) (hc : lookup s.r2c ra = some c) (hquiet : Quiet s ops c h)
    (hq' : Core.getSeq (run s ops).core a = some q') (hra : q'.rollapp = ra) (ds : List (Nat × Option Nat)) :
    (∀ amt, (coreOp (run s ops) (.bondDec a amt) ds).2 ≠ .ok) ∧
    (Core.isProposer (run s ops).core q' = false → (coreOp (run s ops) (.unbond a) ds).2 ≠ .ok) := by
  have hc' : lookup (run s ops).r2c q'.rollapp = some c := by rw [hra]; exact run_r2c_stable ops s ra c hc
  obtain ⟨_, h1, h2⟩ := withdraw_refused_until_verified_or_rolled_back s ops a c h q' hin hquiet hq' hc' ds
  exact ⟨fun amt => (h1 amt).1, fun hp => (h2 hp).1⟩

open DymVerif.Props.C09 (P0 upd)

/-- the optimistic header: height 5 (heights 1..3 are posted), naming the bonded non-proposer a1 as proposer,
    validator set {a0, a1} (not a1 alone: only a not-yet-canonical client takes it) -/
def hdr5 : Hdr := { h := 5, cons := ⟨6, 50, 1⟩, propSig := 1, propData := 1, rev := 0, sole := false }

/-- rollapp 0 with the bonded sequencers a0 (proposer) and a1; heights 1..3 posted; a client of rollapp 0 is
    created and takes `hdr5` BEFORE it is designated canonical -/
def before : List Op := [.core (.createRollapp 0 99999 1) [], .core (.fund 0 100000) [], .core (.createSeq 0 0 3000 true) [],
  .core (.fund 1 100000) [], .core (.createSeq 1 0 2000 true) [], upd 0 0 1 3,
  .createClient 0 expParams 2 ⟨3, 20, 1⟩, .updateClient 0 .top hdr5 true]
def sBefore : St := run (init P0) before
def sCanon : St := run sBefore [.setCanonical 0]

/-- the header was accepted on the not-yet-canonical client and left the record (a1, c0, 5) -/
example : lookup sBefore.r2c 0 = none ∧ sBefore.signerSet = [(1, 0, 5)] := by decide +kernel
/-- while the client is not canonical the record blocks nothing … -/
example : (step sBefore (.core (.unbond 1) [])).2 = .ok := by decide +kernel
/-- … after the designation a1 can neither unbond nor decrease its bond -/
example : lookup sCanon.r2c 0 = some 0 ∧ (step sCanon (.core (.unbond 1) [])) = (sCanon, .msg .unbondBlocked) := by
  refine ⟨by decide +kernel, Prod.ext rfl (by decide +kernel)⟩
example : (step sCanon (.core (.bondDec 1 100) [])).2 = .msg .unbondBlocked := by decide +kernel
/-- the designation releases nothing: the trace theorem applies to the run `[setCanonical]` from `sBefore` -/
example : (1, 0, 5) ∈ sBefore.signerSet ∧ Quiet sBefore [.setCanonical 0] 0 5 :=
  ⟨by decide +kernel, ⟨(by rintro ⟨o, ds, h, _⟩; cases h), trivial⟩⟩
/-- a later (c, h)-quiet run keeps it that way: the proposer posts height 4 only -/
example : (step (run sCanon [upd 0 0 4 1, .core (.begin_ 1) [], .core (.end_ []) []]) (.core (.unbond 1) [])).2 = .msg .unbondBlocked := by decide +kernel
/-- the state update that reaches height 5 verifies the header, the record goes (kind (i)) and a1 may leave -/
example : (run sCanon [upd 0 0 4 1, upd 0 0 5 2]).signerSet = [] ∧
    (step (run sCanon [upd 0 0 4 1, upd 0 0 5 2]) (.core (.unbond 1) [])).2 = .ok := by decide +kernel
/-- the hypotheses of `optimistic_header_recorded` hold for `hdr5` on the state before it -/
example : ∃ q r, Core.getSeq (run (init P0) (before.take 7)).core hdr5.propData = some q ∧
    Core.getRa (run (init P0) (before.take 7)).core q.rollapp = some r ∧ Core.findByHeight r hdr5.h = none ∧
    (handleUpdate (run (init P0) (before.take 7)) 0 hdr5).2 = none :=
  ⟨_, _, rfl, rfl, by decide +kernel, by decide +kernel⟩

end DymVerif.C06LC
