/-
  Props/C20 — Privileged operations cannot be reached by unprivileged callers.

  Part 1 (nesting).  Theorems about `anteCheck Gen.Ante.config` — the model of
  `RejectMessagesDecorator` instantiated with the tables REGENERATED from app/ante/*.go on every run
  (maxDepth, BlockTypeUrls predicates, type-assertion reject, switch cases) — for ALL message
  trees, all paths, all depths.  A node is addressed by an index path `p` (`reach`), its depth is
  `p.length - 1`; descent goes only through wrappers whose inner messages are executed.

  Part 1b (routes).  `NewAnteHandler` picks the ante chain by the tx's first extension option; the
  route table (URL → constructor → decorators) is regenerated into `Gen.Ante.routes`.  The theorems
  say that EVERY route gates the message types: it runs the reject decorator right after context
  set-up, or (the eth route) a decorator that in every mode insists on MsgEthereumTx only — so no
  disabled cosmos message is accepted through any route, and an unlisted extension option is
  rejected outright.  What the SDK / ethermint decorators do is the hand-written `classify`
  (trusted reading, exercised by the harness through the real `app.AnteHandler()`).

  Part 2 (guards).  `authority_guard_table` / `owner_guard_table` are facts about the regenerated
  guard table (`Gen.Guards`), and the M-Guards theorems say what those facts give for every state,
  every signer and every op sequence.  That the table describes the handlers is the extractor's
  claim, validated behaviourally by the harness (translator = trusted base).
-/
import DymVerif.Lemmas.AnteBasic
import DymVerif.Lemmas.AnteRoutes
import DymVerif.Gen.Ante
import DymVerif.Gen.Guards
namespace DymVerif.C20
open DymVerif DymVerif.Ante

abbrev cfg : Config := Gen.Ante.config

/-! ## facts about the regenerated ante tables -/

/-- everything in reject_msgs.go that is not extracted as data still has the modelled text -/
theorem gen_shape_ok : Gen.Ante.shapeOk = true := by decide

/-- the `switch` unwraps exactly the hub's real wrappers (authz exec, gov v1 and group proposals)
    and reads grants; a wrapper missing from the switch breaks this -/
theorem gen_unwraps_real : cfg.unwraps = realWrappers := by decide

/-- the reject decorator runs right after `SetUpContext`: before fees are deducted and before any
    signature work -/
theorem gen_reject_decorator_first : Gen.Ante.rejectIndex = 1 := by decide

/-- the real wrapper relation as a function (what `reach` descends through) -/
def W : Nat → Option Acc := fun ty => realWrappers.lookup ty

theorem accOf_cfg : accOf cfg = W :=
  funext fun ty => congrArg (List.lookup ty) gen_unwraps_real

/-- message types the hub disables everywhere -/
def alwaysDisabled : List Nat := [tyEthTx, tyVest, tyVestPeriodic, tyVestPermanent]

/-- table fact (decided on the regenerated table): each of them is blocked already at depth 0 -/
theorem gen_blocked_at_top : ∀ ty ∈ alwaysDisabled, blocked cfg ty 0 = true := by decide

/-- table fact: the light-client update is blocked at depth 1 -/
theorem gen_updateClient_blocked_nested : blocked cfg tyUpdateClient 1 = true := by decide

/-- table fact: at the top level the light-client update is allowed (relayers send it directly) -/
theorem gen_updateClient_allowed_top : blocked cfg tyUpdateClient 0 = false := by decide

/-- table fact: no predicate mentions the grant message itself -/
theorem gen_grant_not_listed : ∀ r ∈ cfg.rules, tyGrant ∉ r.tys := by decide

/-- table fact: `MsgSubmitMisbehaviour` is blocked from depth 1 on (it is listed next to the
    light-client update) -/
theorem gen_misbehaviour_blocked_nested : blocked cfg tyMisbehaviour 1 = true := by decide

/-- table fact: at the top level it is allowed; there the light-client decorator sees it -/
theorem gen_misbehaviour_allowed_top : blocked cfg tyMisbehaviour 0 = false := by decide

theorem blocked_always {ty : Nat} (h : ty ∈ alwaysDisabled) (d : Nat) : blocked cfg ty d = true :=
  blocked_mono (gen_blocked_at_top ty h) (Nat.zero_le d)

theorem blocked_nested {ty d : Nat} (h : ty = tyUpdateClient ∨ ty = tyMisbehaviour) (hd : 1 ≤ d) :
    blocked cfg ty d = true := by
  rcases h with rfl | rfl
  · exact blocked_mono gen_updateClient_blocked_nested hd
  · exact blocked_mono gen_misbehaviour_blocked_nested hd

/-! ## clause: disabled messages are rejected wherever they appear -/

/-- Everything below about nesting rests on this: every node reachable through wrapper edges in a
    transaction the decorator accepts is itself accepted at its depth (`accepted_path`, read for the
    generated tables and paths from the top). -/
theorem accepted_node {tx : List Msg} (hacc : anteCheck cfg tx = none) {p : List Nat} {m : Msg}
    (hr : reach W tx p = some m) : Accepted cfg (p.length - 1) m := by
  rw [← accOf_cfg] at hr
  simpa only [Nat.zero_add] using accepted_path cfg p 0 tx m hacc hr

/-- a reachable node whose type some predicate blocks at its depth makes the transaction fail -/
theorem blocked_node_rejected {tx : List Msg} {p : List Nat} {m : Msg} (hr : reach W tx p = some m)
    (hb : blocked cfg m.ty (p.length - 1) = true) : anteCheck cfg tx ≠ none := fun hacc => by
  have := (accepted_node hacc hr).notBlocked
  rw [hb] at this
  cases this

/-- grants: the type an authorization names is judged at the depth of the grant -/
theorem blocked_grant_rejected {tx : List Msg} {p : List Nat} {m : Msg} (hr : reach W tx p = some m)
    (hg : m.ty = tyGrant) (hb : blocked cfg m.auth (p.length - 1) = true) :
    anteCheck cfg tx ≠ none := fun hacc => by
  have := ((accepted_node hacc hr).grant (by rw [hg]; decide)).2
  rw [hb] at this
  cases this

/-- **disabled_rejected_everywhere** (generated tables): vesting-account creation (three message
    types) and raw EVM messages are rejected at every position of every tree, a light-client update
    at every nested position (depth ≥ 1), whatever surrounds them. -/
theorem disabled_rejected_everywhere (tx : List Msg) (p : List Nat) (m : Msg)
    (hr : reach W tx p = some m)
    (hd : m.ty ∈ alwaysDisabled ∨ (m.ty = tyUpdateClient ∧ 2 ≤ p.length)) :
    anteCheck cfg tx ≠ none := by
  refine blocked_node_rejected hr ?_
  rcases hd with h | h
  · exact blocked_always h _
  · exact blocked_nested (.inl h.1) (by omega)

example : anteCheck cfg [.node tyExec [.node tyGovSubmit [.node tyVest [] 0 false] 0 false] 0 false]
    = some (.disabled tyVest) := by decide +kernel
example : (reach W [.node tyExec [.node tyGovSubmit [.node tyVest [] 0 false] 0 false] 0 false] [0, 0, 0]).map Msg.ty
    = some tyVest := by decide +kernel

/-- a raw EVM message anywhere in the tree makes the transaction fail (the predicates list it; at the
    top level the Go type assertion fires first, see the last `example` of Part 1b) -/
theorem ethtx_rejected (tx : List Msg) (p : List Nat) (m : Msg)
    (hr : reach W tx p = some m) (ht : m.ty = tyEthTx) : anteCheck cfg tx ≠ none :=
  disabled_rejected_everywhere tx p m hr (.inl (by simp [ht, alwaysDisabled]))

/-- grants: an authorization naming a disabled type is judged at the depth of the grant -/
theorem grant_of_disabled_rejected (tx : List Msg) (p : List Nat) (m : Msg)
    (hr : reach W tx p = some m) (hg : m.ty = tyGrant)
    (hd : m.auth ∈ alwaysDisabled ∨ (m.auth = tyUpdateClient ∧ 2 ≤ p.length)) :
    anteCheck cfg tx ≠ none := by
  refine blocked_grant_rejected hr hg ?_
  rcases hd with h | h
  · exact blocked_always h _
  · exact blocked_nested (.inl h.1) (by omega)

example : anteCheck cfg [.node tyGroupSubmit [.node tyGrant [] tyUpdateClient false] 0 false]
    = some (.disabledGrant tyUpdateClient) := by decide +kernel

/-- a wrapper whose packed messages cannot be read never passes -/
theorem unreadable_wrapper_rejected (tx : List Msg) (p : List Nat) (m : Msg)
    (hr : reach W tx p = some m) (hw : W m.ty ≠ none) (hb : m.bad = true) :
    anteCheck cfg tx ≠ none := by
  intro hacc
  rw [← accOf_cfg] at hw
  have := (accepted_node hacc hr).readable hw
  rw [hb] at this
  cases this

example : anteCheck cfg [.node tyExec [] 0 true] = some .unpack := by decide +kernel

/-! ## clause: deeper nesting is rejected outright -/

/-- **too_deep_rejected**: any node at depth ≥ maxDepth (path longer than maxDepth), disabled or
    not, makes the transaction fail. -/
theorem too_deep_rejected (tx : List Msg) (p : List Nat) (m : Msg)
    (hr : reach W tx p = some m) (hd : cfg.maxDepth < p.length) : anteCheck cfg tx ≠ none := by
  intro hacc
  have := (accepted_node hacc hr).depth
  omega

/-- the limit is the regenerated one: 6 (depths 0 to 5 are allowed).  If the constant
    is changed this lemma fails and the harness' documented limit must be revisited. -/
theorem gen_maxDepth : cfg.maxDepth = 6 := by decide

example : anteCheck cfg
    [.node 1 [.node 2 [.node 3 [.node 1 [.node 2 [.node 3 [.node 0 [] 0 false] 0 false] 0 false] 0 false] 0 false] 0 false] 0 false]
    = some .deep := by decide +kernel
example : anteCheck cfg
    [.node 1 [.node 2 [.node 3 [.node 1 [.node 2 [.node 0 [] 0 false] 0 false] 0 false] 0 false] 0 false] 0 false]
    = none := by decide +kernel

/-! ## clause: completeness — an accepted transaction contains nothing forbidden -/

/-- **check_complete**: if the decorator accepts, then every node reachable through wrapper edges
    is within the depth limit, is not a raw EVM message, is not blocked at its depth, is readable if
    it is a wrapper, and (grants) does not name a type blocked at the grant's depth. -/
theorem check_complete (tx : List Msg) (hacc : anteCheck cfg tx = none) (p : List Nat) (m : Msg)
    (hr : reach W tx p = some m) :
    p.length - 1 < cfg.maxDepth ∧ m.ty ∉ cfg.typeRejects ∧ blocked cfg m.ty (p.length - 1) = false ∧
    (W m.ty ≠ none → m.bad = false) ∧
    (m.ty = tyGrant → blocked cfg m.auth (p.length - 1) = false) := by
  have ha := accepted_node hacc hr
  refine ⟨ha.depth, ha.notTypeRejected, ha.notBlocked, fun hw => ?_, fun hg => ?_⟩
  · rw [← accOf_cfg] at hw
    exact ha.readable hw
  · exact (ha.grant (by rw [hg]; decide)).2

/-- no disabled message type occurs anywhere in an accepted transaction -/
theorem accepted_has_no_disabled (tx : List Msg) (hacc : anteCheck cfg tx = none) (p : List Nat)
    (m : Msg) (hr : reach W tx p = some m) :
    m.ty ∉ alwaysDisabled ∧ (m.ty = tyUpdateClient → p.length = 1) := by
  constructor
  · intro h
    exact disabled_rejected_everywhere tx p m hr (.inl h) hacc
  · intro h
    have := reach_length_pos hr
    by_cases h2 : 2 ≤ p.length
    · exact absurd hacc (disabled_rejected_everywhere tx p m hr (.inr ⟨h, h2⟩))
    · omega

example : anteCheck cfg [.node tyUpdateClient [] 0 false, .node tyExec [.node 0 [] 0 false] 0 false] = none := by
  decide +kernel

/-- **reject_sound** (no over-rejection): whenever the decorator rejects, some node reachable
    through wrapper edges really offends — too deep, raw EVM message, blocked at its depth,
    unreadable wrapper, or a grant naming a type blocked at its depth. -/
theorem reject_sound (tx : List Msg) (e : Err) (h : anteCheck cfg tx = some e) :
    ∃ p n, reach W tx p = some n ∧ Offends cfg (p.length - 1) n e := by
  obtain ⟨i, p, n, hr, ho⟩ := checkMsgs_some cfg tx 0 e h
  refine ⟨i :: p, n, ?_, ?_⟩
  · rw [← accOf_cfg]; exact hr
  · simpa using ho

/-! ## clause: what the code does for grants -/

/-- **grant_depth_semantics**: for a readable grant that is itself allowed at depth `d`, the verdict
    is exactly "is the granted type blocked at the grant's own depth `d`" (not at `d+1`). -/
theorem grant_depth_semantics (d auth : Nat) (inner : List Msg) (hd : d < cfg.maxDepth)
    : checkMsg cfg d (.node tyGrant inner auth false) =
        if blocked cfg auth d then some (.disabledGrant auth) else none := by
  rw [checkMsg_node]
  have h1 : ¬ cfg.maxDepth ≤ d := by omega
  have h2 : tyGrant ∉ cfg.typeRejects := by decide
  have h3 : blocked cfg tyGrant d = false := blocked_eq_false_of_not_listed gen_grant_not_listed d
  have h4 : accOf cfg tyGrant = some .grant := by decide
  simp [h1, h2, h3, h4]

/-- consequence of `grant_depth_semantics`: a top-level grant of the light-client update is accepted -/
theorem top_level_grant_of_update_client_accepted :
    anteCheck cfg [.node tyGrant [] tyUpdateClient false] = none := by decide

/-- executing a light-client update through authz (at any depth ≥ 1, under any wrappers) is
    rejected, so a grant of it, though accepted at the top level, can never be exercised -/
theorem granted_update_client_cannot_be_executed (tx : List Msg) (p : List Nat) (m : Msg)
    (hr : reach W tx p = some m) (ht : m.ty = tyUpdateClient) (hn : 2 ≤ p.length) :
    anteCheck cfg tx ≠ none :=
  disabled_rejected_everywhere tx p m hr (.inr ⟨ht, hn⟩)

example : anteCheck cfg [.node tyExec [.node tyUpdateClient [] 0 false] 0 false]
    = some (.disabled tyUpdateClient) := by decide +kernel

/-! ## clause: the deprecated misbehaviour submission -/

/-- **misbehaviour_rejected_when_nested**: a `MsgSubmitMisbehaviour` at any depth ≥ 1 — inside authz
    exec, a gov or a group proposal, in any combination — makes the transaction fail -/
theorem misbehaviour_rejected_when_nested (tx : List Msg) (p : List Nat) (m : Msg)
    (hr : reach W tx p = some m) (ht : m.ty = tyMisbehaviour) (hn : 2 ≤ p.length) :
    anteCheck cfg tx ≠ none :=
  blocked_node_rejected hr (blocked_nested (.inr ht) (by omega))

/-- a nested grant naming `MsgSubmitMisbehaviour` makes the transaction fail too -/
theorem grant_of_misbehaviour_rejected_when_nested (tx : List Msg) (p : List Nat) (m : Msg)
    (hr : reach W tx p = some m) (hg : m.ty = tyGrant) (ha : m.auth = tyMisbehaviour)
    (hn : 2 ≤ p.length) : anteCheck cfg tx ≠ none :=
  blocked_grant_rejected hr hg (blocked_nested (.inr ha) (by omega))

example : anteCheck cfg [.node tyGovSubmit [.node tyMisbehaviour [] 0 false] 0 false]
    = some (.disabled tyMisbehaviour) := by decide +kernel
example : anteCheck cfg [.node tyMisbehaviour [] 0 false] = none := by decide +kernel

/-! ## Part 1b: every route of `NewAnteHandler` -/

abbrev routes : List Route := Gen.Ante.routes

/-- everything of NewAnteHandler's closure that is not extracted as data still has the modelled text
    (first extension option selects the route, default case rejects, no option = cosmos chain) -/
theorem gen_route_shape_ok : Gen.Ante.routeShapeOk = true := by decide

/-- table fact (decided on the regenerated route table, decorators classified by `classify`): every
    route runs the reject decorator first after context set-up, or contains a decorator that in
    every mode fails unless all messages are MsgEthereumTx.  A new route without either, or the
    reject decorator moved behind a fee / signature decorator, breaks this. -/
theorem gen_routes_guarded : ∀ r ∈ routes, routeGuarded r = true := by decide +kernel

/-- table fact: a tx without extension options is routed, and to a chain that rejects first -/
theorem gen_plain_route_rejects_first :
    (routeOf routes none).any (fun r => rejectFirst (r.decs.map classify)) = true := by decide +kernel

/-- table fact: the routes are not vacuous — the plain and the ethereum one exist, with different
    chains (non-vacuity of the statements below) -/
theorem gen_routes_nonvacuous :
    routes.length = 2 ∧
    (routeOf routes (some "/ethermint.evm.v1.ExtensionOptionsEthereumTx")).any
      (fun r => ethGuarded (r.decs.map classify) && !rejectFirst (r.decs.map classify)) = true := by
  decide +kernel

/-- **every_route_guards**: whatever the extension option and the mode (ReCheckTx or not), a
    transaction that no decorator of its route rejects for its message types has either passed
    the reject decorator (`anteCheck`) or consists of MsgEthereumTx messages only. -/
theorem every_route_guards (rc : Bool) (ext : Option String) (tx : List Msg)
    (h : runAnte cfg routes rc ext tx = none) :
    anteCheck cfg tx = none ∨ ∀ m ∈ tx, m.ty = tyEthTx := by
  unfold runAnte at h
  cases hr : routeOf routes ext with
  | none => rw [hr] at h; cases h
  | some r =>
    rw [hr] at h
    have hm : r ∈ routes := List.mem_of_find?_eq_some hr
    exact runDecs_guarded (gen_routes_guarded r hm) h

/-- **unknown_extension_rejected**: a first extension option that no route lists is refused before
    any chain runs -/
theorem unknown_extension_rejected (rc : Bool) (u : String) (tx : List Msg)
    (hu : ∀ r ∈ routes, r.ext ≠ some u) : runAnte cfg routes rc (some u) tx = some .unknownExt := by
  have : routeOf routes (some u) = none := by
    unfold routeOf
    rw [List.find?_eq_none]
    intro r hr
    simpa using hu r hr
  simp [runAnte, this]

example : runAnte cfg routes false (some "/ethermint.types.v1.ExtensionOptionsWeb3Tx")
    [.node tyOther [] 0 false] = some .unknownExt := by decide +kernel

/-- a MsgEthereumTx is no wrapper: nothing is reachable below it -/
theorem ethtx_not_wrapper : W tyEthTx ≠ some .msgs := by decide

/-- in a transaction of MsgEthereumTx only, only the top-level messages are reachable -/
theorem eth_only_reach {tx : List Msg} (hall : ∀ x ∈ tx, x.ty = tyEthTx) {p : List Nat} {m : Msg}
    (hr : reach W tx p = some m) : m.ty = tyEthTx ∧ p.length = 1 :=
  have ⟨hmem, hlen⟩ := reach_no_wrapper (fun x hx => by rw [hall x hx]; exact ethtx_not_wrapper) hr
  ⟨hall m hmem, hlen⟩

/-- **disabled_rejected_on_every_route**: vesting-account creation at any position, a light-client
    update or misbehaviour submission at any nested position: rejected through EVERY route, in
    every mode — on the eth route because a transaction carrying anything but MsgEthereumTx is
    refused as a whole. -/
theorem disabled_rejected_on_every_route (rc : Bool) (ext : Option String) (tx : List Msg)
    (p : List Nat) (m : Msg) (hr : reach W tx p = some m)
    (hd : (m.ty ∈ alwaysDisabled ∧ m.ty ≠ tyEthTx) ∨
          ((m.ty = tyUpdateClient ∨ m.ty = tyMisbehaviour) ∧ 2 ≤ p.length)) :
    runAnte cfg routes rc ext tx ≠ none := by
  intro h
  cases every_route_guards rc ext tx h with
  | inl hacc =>
    refine blocked_node_rejected hr ?_ hacc
    rcases hd with ⟨hm, _⟩ | ⟨hm, hn⟩
    · exact blocked_always hm _
    · exact blocked_nested hm (by omega)
  | inr hall =>
    have ⟨hty, hlen⟩ := eth_only_reach hall hr
    rcases hd with ⟨_, hne⟩ | ⟨_, hn⟩
    · exact hne hty
    · omega

/-- **ethtx_only_as_top_level_of_eth_only_tx**: a raw EVM message is accepted nowhere except as a
    top-level message of a transaction that consists of MsgEthereumTx only (which only the eth
    route lets through; the cosmos chain rejects it by type, `ethtx_rejected`) -/
theorem ethtx_only_as_top_level_of_eth_only_tx (rc : Bool) (ext : Option String) (tx : List Msg)
    (h : runAnte cfg routes rc ext tx = none) (p : List Nat) (m : Msg)
    (hr : reach W tx p = some m) (ht : m.ty = tyEthTx) :
    p.length = 1 ∧ ∀ x ∈ tx, x.ty = tyEthTx := by
  cases every_route_guards rc ext tx h with
  | inl hacc => exact absurd hacc (ethtx_rejected tx p m hr ht)
  | inr hall => exact ⟨(eth_only_reach hall hr).2, hall⟩

/-- non-vacuity: the eth route refuses a vesting message (also next to a MsgEthereumTx, also on
    ReCheckTx, where the validate-basic decorator is skipped), lets an eth-only tx through; the
    plain route refuses the raw EVM message -/
example :
    runAnte cfg routes false (some "/ethermint.evm.v1.ExtensionOptionsEthereumTx")
      [.node tyEthTx [] 0 false, .node tyVest [] 0 false] = some (.notEth tyVest) ∧
    runAnte cfg routes true (some "/ethermint.evm.v1.ExtensionOptionsEthereumTx")
      [.node tyVest [] 0 false] = some (.notEth tyVest) ∧
    runAnte cfg routes false (some "/ethermint.evm.v1.ExtensionOptionsEthereumTx")
      [.node tyEthTx [] 0 false] = none ∧
    runAnte cfg routes false none [.node tyEthTx [] 0 false] = some (.ante (.invalidType tyEthTx)) := by
  decide +kernel

/-! ## Part 2: guard table -/

/-- **authority_guard_table** (load-bearing table fact, decided on the regenerated table): every routed
    custom-module message that is governance-only BY DECLARATION — it has an `Authority` field, or
    its `cosmos.msg.v1.signer` option names a field called authority whatever the Go field is
    called, or it is declared in a governance service (a gRPC service other than `Msg`, e.g.
    `ProposalMsg`) — is compared with the keeper authority by its handler, and before any write. -/
theorem authority_guard_table :
    ∀ e ∈ Gen.Guards.entries, (e.hasAuthorityField = true ∨ e.govOnly = true) →
      e.guard = .authority ∧ e.guardFirst = true := by
  decide +kernel

/-- converse of `authority_guard_table`: no handler compares its signer with the keeper authority
    without being declared governance-only (the two notions coincide) -/
theorem authority_guard_converse :
    ∀ e ∈ Gen.Guards.entries, e.guard = .authority → e.govOnly = true := by
  decide +kernel

/-- **owner_guard_table** (load-bearing only in its second half): `ownerOnly` is DERIVED by the extractor
    from the handler (a comparison of the signer with a stored non-authority value, or a lookup keyed
    by the signer alone), so "`ownerOnly` → guard is `.owner` or `.self`" restates the derivation; the
    fact with content is `guardFirst`: in none of these handlers does a store write or bank call precede
    the comparison.  Which messages are in the class is pinned by `owner_rows_exact` /
    `unguarded_rows_exact` below. -/
theorem owner_guard_table :
    ∀ e ∈ Gen.Guards.entries, e.ownerOnly = true →
      (e.guard = .owner ∨ e.guard = .self) ∧ e.guardFirst = true := by
  decide +kernel

/-- the names of the rows with a given guard -/
def rowsWith (g : Guard) : List String :=
  (Gen.Guards.table.filter (fun r => r.2.guard = g)).map (·.1)

/-- **guard_table_covers_every_rpc**: the table has exactly one Msg row per rpc method of the gRPC
    service descriptors (`_Msg_serviceDesc`, `_ProposalMsg_serviceDesc`, … counted by an independent
    scan of the generated `.pb.go` files): no routed custom-module message is missing from it. -/
theorem guard_table_covers_every_rpc :
    (Gen.Guards.entries.filter (·.isMsg)).length = (Gen.Guards.rpcMethods.map (·.2)).sum ∧
    (Gen.Guards.rpcMethods.map (·.2)).sum = 62 := by
  decide +kernel

/-- **guard_table_exact_counts**: the number of rows of every class.
    A guard that disappears from a handler, a new message, a message that loses its `Authority`
    field: each changes one of these numbers and this theorem stops checking. -/
theorem guard_table_exact_counts :
    Gen.Guards.entries.length = 78 ∧
    (Gen.Guards.entries.filter (·.hasAuthorityField)).length = 7 ∧
    (Gen.Guards.entries.filter (·.govOnly)).length = 7 ∧
    (Gen.Guards.entries.filter (·.ownerOnly)).length = 34 ∧
    (rowsWith .authority).length = 7 ∧ (rowsWith .owner).length = 25 ∧ (rowsWith .self).length = 10 ∧
    (rowsWith .govRouted).length = 16 ∧ (rowsWith .none).length = 20 := by
  decide +kernel

/-- **unguarded_rows_exact**: the routed custom-module messages in whose handler the extractor finds NO
    signer comparison are exactly these twenty, each reviewed against the property text: they create
    a new object for the signer, spend the signer's own funds, or are open to anybody by design
    (finalizing a packet, fulfilling an order, relaying a client update).  `eibc.MsgFulfillOrderAuthorized`
    (signer = the LP address whose own funds are sent) and `sponsorship.MsgClaimRewards` (keyed by the
    claimer: `CanClaim(claimer)`) touch only what belongs to the signer.  A new message without a
    guard, or a guard removed from a handler, changes this list. -/
theorem unguarded_rows_exact :
    rowsWith .none =
      ["delayedack.MsgFinalizePacket", "delayedack.MsgFinalizePacketByPacketKey", "dymns.MsgRegisterName",
       "dymns.MsgPurchaseOrder", "eibc.MsgTryFulfillOnDemand", "eibc.MsgFulfillOrder",
       "eibc.MsgFulfillOrderAuthorized", "eibc.MsgCreateOnDemandLP", "incentives.MsgCreateGauge",
       "incentives.MsgAddToGauge", "iro.MsgBuy", "iro.MsgBuyExactSpend", "iro.MsgSell", "iro.MsgClaim",
       "lightclient.MsgSetCanonicalClient", "lightclient.MsgUpdateClient", "lockup.MsgLockTokens",
       "rollapp.MsgCreateRollapp", "sponsorship.MsgVote", "sponsorship.MsgClaimRewards"] :=
  rfl

/-- **owner_rows_exact**: the messages whose handler compares the signer with the stored owner /
    creator / buyer / controller / proposer of the targeted object (`.owner`), or addresses the
    signer's own object (`.self`) — derived, then pinned here.  Less obvious members:
    `rollapp.MsgUpdateState` (proposer only; the comparison sits in x/sequencer's
    `BeforeUpdateState` hook), `dymns.MsgPlaceBuyOrder` (continuing an order: its buyer),
    `iro.MsgCreatePlan` (rollapp owner), `sponsorship.MsgRevokeVote` (the voter's own vote). -/
theorem owner_rows_exact :
    rowsWith .owner =
      ["dymns.MsgRegisterAlias", "dymns.MsgTransferDymNameOwnership", "dymns.MsgSetController",
       "dymns.MsgUpdateResolveAddress", "dymns.MsgUpdateDetails", "dymns.MsgPlaceSellOrder",
       "dymns.MsgCancelSellOrder", "dymns.MsgCompleteSellOrder", "dymns.MsgPlaceBuyOrder",
       "dymns.MsgCancelBuyOrder", "dymns.MsgAcceptBuyOrder", "eibc.MsgUpdateDemandOrder",
       "eibc.MsgDeleteOnDemandLP", "iro.MsgCreatePlan", "iro.MsgEnableTrading", "iro.MsgClaimVested",
       "lockup.MsgBeginUnlocking", "lockup.MsgExtendLockup", "lockup.MsgForceUnlock",
       "rollapp.MsgUpdateRollappInformation", "rollapp.MsgUpdateState", "rollapp.MsgTransferOwnership",
       "rollapp.MsgAddApp", "rollapp.MsgUpdateApp", "rollapp.MsgRemoveApp"] ∧
    rowsWith .self =
      ["sequencer.MsgCreateSequencer", "sequencer.MsgUpdateSequencerInformation",
       "sequencer.MsgUpdateRewardAddress", "sequencer.MsgUpdateWhitelistedRelayers",
       "sequencer.MsgUpdateOptInStatus", "sequencer.MsgKickProposer", "sequencer.MsgUnbond",
       "sequencer.MsgIncreaseBond", "sequencer.MsgDecreaseBond", "sponsorship.MsgRevokeVote"] :=
  ⟨rfl, rfl⟩

/-- every guard found is found before the first write (all classes at once) -/
theorem every_guard_is_first :
    ∀ e ∈ Gen.Guards.entries, e.guard ≠ .none → e.guardFirst = true := by
  decide +kernel

/-- governance-only: for every state and every signer other than the authority, a message whose
    row of the regenerated table is governance-only by declaration is rejected and nothing changes.
    `non_authority_rejected` only unfolds `passes` / `gstep`; the fact about the Go code is
    `authority_guard_table` (with `guard_table_covers_every_rpc`, `guard_table_exact_counts`,
    `every_guard_is_first` and the differential runs: the driver executes `gstep` on the regenerated
    rows against the real handlers). -/
theorem authority_messages_unreachable (s : Owners) (a : Attempt)
    (he : a.entry ∈ Gen.Guards.entries) (hf : a.entry.hasAuthorityField = true ∨ a.entry.govOnly = true)
    (hs : a.signer ≠ .authority) : gstep s a = (s, false) :=
  non_authority_rejected s a (.inl (authority_guard_table a.entry he hf).1) hs

/-- owner-only, model level.  NOTE: given `owner_guard_table` (whose first half restates how
    `ownerOnly` is derived) this unfolds `passes` / `gstep` for the `.owner` / `.self` kinds; the facts
    about the Go code are `owner_rows_exact`, `unguarded_rows_exact`, `every_guard_is_first` and the
    differential runs.  Statement: whoever is not the current owner of the targeted object is
    rejected, nothing changes -/
theorem non_owner_rejected (s : Owners) (a : Attempt)
    (he : a.entry ∈ Gen.Guards.entries) (ho : a.entry.ownerOnly = true)
    (hs : ∀ x, a.signer = .actor x → ownerOf s a.obj ≠ some x) : gstep s a = (s, false) := by
  apply gstep_rejected
  rw [Bool.eq_false_iff, Ne, passes_owner (owner_guard_table a.entry he ho).1]
  exact fun ⟨x, hx, hown⟩ => hs x hx hown

/-- contrapositive of `non_owner_rejected` (same caveat: a restatement of `passes`): an accepted
    owner-only message was signed by the current owner of its object -/
theorem accepted_owner_only_signed_by_owner (s : Owners) (a : Attempt)
    (he : a.entry ∈ Gen.Guards.entries) (ho : a.entry.ownerOnly = true)
    (hacc : (gstep s a).2 = true) : ∃ x, a.signer = .actor x ∧ ownerOf s a.obj = some x :=
  (passes_owner (owner_guard_table a.entry he ho).1).1 (gstep_accepted_passes hacc).1

/-- is this attempt made by an outsider: a signer that is neither the authority nor one of `ins` -/
def outsider (ins : List Nat) (sg : Signer) : Prop :=
  sg ≠ .authority ∧ ∀ x, sg = .actor x → x ∉ ins

/-- a row of the table that the property calls privileged -/
def privilegedRow (e : GuardEntry) : Prop :=
  e ∈ Gen.Guards.entries ∧
    ((e.hasAuthorityField = true ∨ e.govOnly = true) ∨ e.ownerOnly = true ∨ e.guard = .govRouted)

/-- **outsiders_change_nothing** (all op sequences).  Per attempt this uses only the restatements
    above, and a run of rejected attempts changes nothing (`grun_rejected`), so its tie to the Go code
    is again the table theorems (`authority_guard_table`, `owner_rows_exact`, `unguarded_rows_exact`,
    `guard_table_exact_counts`, `every_guard_is_first`) plus the differential runs.
    Statement: if every object is owned by an insider, then no
    sequence of privileged messages signed by outsiders — however long, in whatever order, with
    whatever contents — changes any owner; every single one is rejected. -/
theorem outsiders_change_nothing (ins : List Nat) :
    ∀ (ops : List Attempt) (s : Owners),
      (∀ o x, ownerOf s o = some x → x ∈ ins) →
      (∀ a ∈ ops, privilegedRow a.entry ∧ outsider ins a.signer) →
      grun s ops = s ∧ ∀ a ∈ ops, gstep s a = (s, false) := by
  intro ops s hown hops
  have hrej : ∀ a ∈ ops, gstep s a = (s, false) := fun a ha => by
    obtain ⟨⟨he, hk⟩, hout⟩ := hops a ha
    rcases hk with hk | hk | hk
    · exact authority_messages_unreachable s a he hk hout.1
    · exact non_owner_rejected s a he hk fun x hx hown' => hout.2 x hx (hown _ _ hown')
    · exact non_authority_rejected s a (.inr hk) hout.1
  exact ⟨grun_rejected hrej, hrej⟩

/-- non-vacuity of the M-Guards statements: the owner passes, a stranger does not, ownership moves -/
example :
    let e : GuardEntry := { id := 0, isMsg := true, hasAuthorityField := false, govOnly := false, ownerOnly := true, guard := .owner, guardFirst := true }
    gstep [(0, 1)] { entry := e, obj := 0, signer := .actor 1, valid := true, newOwners := [(0, 2)] } = ([(0, 2)], true) ∧
    gstep [(0, 1)] { entry := e, obj := 0, signer := .actor 2, valid := true, newOwners := [(0, 2)] } = ([(0, 1)], false) ∧
    gstep [(0, 2)] { entry := e, obj := 0, signer := .actor 1, valid := true, newOwners := [(0, 1)] } = ([(0, 2)], false) := by
  decide +kernel

end DymVerif.C20
