/-
  Props/C14 — locked tokens are fully backed and return only to the owner after the period.
  The property theorems, with the one-step lemmas they are stated through (`endBlock_never_panics`,
  `rejected_leaves_state_untouched`, `matured_iff`, …) and a concrete history (`pEx`, `sEx`, `opsEx`) whose
  examples take every branch.  All statements are for every parameter value (minimum duration, fee,
  allow-list), every initial balance map and every sequence of operations (no bounds).

  `Inv` (Lemmas/LockupInv) is the state invariant; `reachable_inv` shows that every state reachable
  from a fresh chain satisfies it, so each `(h : Inv s)` below reads "in every reachable state".
-/
import DymVerif.Lemmas.LockupFate
import DymVerif.Gen.Lockup
import DymVerif.Lemmas.GenEqLockup
namespace DymVerif.C14
open DymVerif DymVerif.Lockup

/-! ## every reachable state -/

theorem reachable_inv (p : Params) (bal : Actor → Denom → Nat) (now height : Nat) (ops : List Op) :
    Inv (run p (init bal now height) ops) :=
  run_inv p ops (init_inv bal now height)

/-- **custody**: in every reachable state the lockup module account holds, per denom, exactly the
    sum of the coins of all existing locks -/
theorem custody_inv (p : Params) (bal : Actor → Denom → Nat) (now height : Nat) (ops : List Op) (d : Denom) :
    (run p (init bal now height) ops).modBal d = lockedDenom (run p (init bal now height) ops).locks d :=
  (reachable_inv p bal now height ops).custody d

/-- **accumulation**: in every reachable state, for every denom and *every* duration `k` (not just
    the four the registered invariant samples), `GetPeriodLocksAccumulation(denom, k)` equals the sum
    of the coins of the locks of that denom whose duration is at least `k` -/
theorem accumulation_inv (p : Params) (bal : Actor → Denom → Nat) (now height : Nat) (ops : List Op)
    (d : Denom) (k : Nat) :
    accQuery (run p (init bal now height) ops).acc d k =
      (lockedLonger (run p (init bal now height) ops).locks d k : Int) :=
  (reachable_inv p bal now height ops).accum d k

/-- the EndBlocker cannot fail: every matured lock can be paid out of the module account -/
theorem endBlock_never_panics (p : Params) {s : State} (h : Inv s) : (step p s .endBlock).2 = .ok 0 := by
  have d := step_did p h .endBlock
  generalize step p s .endBlock = r at d ⊢
  cases d with
  | rejected _ _ hop => exact absurd rfl hop
  | idle => rfl
  | matured => rfl

/-- the height from which the model's EndBlocker withdraws is the constant of the current source
    (`MinBlockHeightToBeginAutoWithdrawing`, regenerated on every run) -/
theorem auto_withdraw_height_is_source_constant :
    minHeightAutoWithdraw = Gen.Lockup.minBlockHeightToBeginAutoWithdrawing :=
  GenEq.Lockup.minHeight_eq.symm

/-! ## nobody but the owner -/

theorem rejected_leaves_state_untouched (p : Params) (s : State) (op : Op) (e : Err)
    (hr : (step p s op).2 = .err e) : (step p s op).1 = s := by
  -- a message that is not rejected answers `ok`
  have msg : ∀ {r : State × Out}, Did p s op r → r.2 = .err e → r.1 = s := fun d hr => by
    cases d with
    | rejected => rfl
    | _ => cases hr
  cases op with
  | lock a d amt dur => exact msg (lockTokens_did p s a d amt dur) hr
  | unlock a id c => exact msg (beginUnlocking_did p s a id c) hr
  | extend a id dur => exact msg (extendLockup_did p s a id dur) hr
  | force a id c => exact msg (forceUnlock_did p s a id c) hr
  | beginBlock dt => cases hr
  | endBlock => exact absurd hr (endBlock_not_err s e)

/-- **nobody else moves them**: begin-unlock, extend and force-unlock naming a lock that the signer
    does not own are rejected (whatever the coins, the duration, the allow-list), state unchanged -/
theorem nobody_else_moves (p : Params) (s : State) {l : Lock} (a id : Nat)
    (hl : findLock s.locks id = some l) (hne : l.owner ≠ a) (op : Op)
    (hop : (∃ c, op = .unlock a id c) ∨ (∃ dur, op = .extend a id dur) ∨ (∃ c, op = .force a id c)) :
    (step p s op).1 = s ∧ ∃ e, (step p s op).2 = .err e := by
  -- an accepted message names a lock its signer owns
  have own : ∀ {lt : Lock}, findLock s.locks id = some lt → lt.owner ≠ a := fun hlt => by
    cases hl.symm.trans hlt; exact hne
  rcases hop with ⟨c, rfl⟩ | ⟨dur, rfl⟩ | ⟨c, rfl⟩
  · have d := beginUnlocking_did p s a id c
    show (beginUnlocking s a id c).1 = s ∧ ∃ e, (beginUnlocking s a id c).2 = .err e
    generalize beginUnlocking s a id c = r at d ⊢
    cases d with
    | rejected _ e => exact ⟨rfl, e, rfl⟩
    | split hlt => exact absurd rfl (own hlt)
    | started _ hlt => exact absurd rfl (own hlt)
  · have d := extendLockup_did p s a id dur
    show (extendLockup s a id dur).1 = s ∧ ∃ e, (extendLockup s a id dur).2 = .err e
    generalize extendLockup s a id dur = r at d ⊢
    cases d with
    | rejected _ e => exact ⟨rfl, e, rfl⟩
    | extended hlt => exact absurd rfl (own hlt)
  · have d := forceUnlock_did p s a id c
    show (forceUnlock p s a id c).1 = s ∧ ∃ e, (forceUnlock p s a id c).2 = .err e
    generalize forceUnlock p s a id c = r at d ⊢
    cases d with
    | rejected _ e => exact ⟨rfl, e, rfl⟩
    | forcedPart hlt => exact absurd rfl (own hlt)
    | forced _ hlt => exact absurd rfl (own hlt)

/-- a force-unlock by an address that is not on the allow-list is rejected, even by the owner -/
theorem force_unlock_needs_authorisation (p : Params) (s : State) (a id : Nat) (c : Option (Denom × Nat))
    (hna : a ∉ p.allowed) :
    (step p s (.force a id c)).1 = s ∧ ∃ e, (step p s (.force a id c)).2 = .err e := by
  have d := forceUnlock_did p s a id c
  show (forceUnlock p s a id c).1 = s ∧ ∃ e, (forceUnlock p s a id c).2 = .err e
  generalize forceUnlock p s a id c = r at d ⊢
  cases d with
  | rejected _ e => exact ⟨rfl, e, rfl⟩
  | forcedPart _ ha => exact absurd ha hna
  | forced _ _ ha => exact absurd ha hna

/-! ## coins leave a lock only to its owner, only when due -/

/-- **coins never change hands**: over any step the free balance plus the locked total of every
    account, per denom, is unchanged — except that an accepted `MsgLockTokens` costs its signer the
    lock fee.  Together with `custody_inv`: whatever leaves a lock reaches the lock's owner, and
    splitting, topping up and extending conserve the owner's total. -/
theorem owner_total_conserved (p : Params) {s : State} (h : Inv s) (op : Op) (a d : Nat) :
    (step p s op).1.bal a d + lockedOwner (step p s op).1.locks a d = s.bal a d + lockedOwner s.locks a d ∨
    (∃ d0 amt dur id, op = .lock a d0 amt dur ∧ (step p s op).2 = .ok id ∧ d = p.feeDenom ∧
      (step p s op).1.bal a d + lockedOwner (step p s op).1.locks a d + p.fee =
        s.bal a d + lockedOwner s.locks a d) := by
  obtain ⟨out, h1, h2, -⟩ := owner_moves p h op a d
  by_cases hf : (lockedIn p op (step p s op).2 a d).2 = 0
  · exact Or.inl (by omega)
  · obtain ⟨d0, amt, dur, id, hop, hok, hd, hfee⟩ := lockedIn_fee hf
    exact Or.inr ⟨d0, amt, dur, id, hop, hok, hd, by omega⟩

/-- **exit only to the owner after the period**: whatever one step does to an existing lock `l`,
    (1) its coins stay in it (same id, owner, denom; amount not smaller), or
    (2) its owner's partial begin-unlock split them over `l` and a fresh lock of the same owner, or
    (3) its owner, who is on the force-unlock allow-list, force-unlocked it, or
    (4) the EndBlocker (height >= 6) paid it out, and then the owner had started unlocking at some
        `t0` and the full duration has elapsed since: `t0 + duration = endTime <= now`.
    Where the coins go in (3)/(4) is `owner_total_conserved`. -/
theorem exit_only_to_owner_after_period (p : Params) {s : State} (h : Inv s) (op : Op) {l : Lock}
    (hl : l ∈ s.locks) :
    (∃ l' ∈ (step p s op).1.locks, l'.id = l.id ∧ l'.owner = l.owner ∧ l'.denom = l.denom ∧
        l.amount ≤ l'.amount) ∨
    (∃ x l' n, op = .unlock l.owner l.id (some (l.denom, x)) ∧ l' ∈ (step p s op).1.locks ∧
        n ∈ (step p s op).1.locks ∧ l'.id = l.id ∧ n.id = s.lastId + 1 ∧ l'.owner = l.owner ∧
        n.owner = l.owner ∧ l'.denom = l.denom ∧ n.denom = l.denom ∧ l'.amount + n.amount = l.amount) ∨
    (∃ c, op = .force l.owner l.id c ∧ l.owner ∈ p.allowed) ∨
    (op = .endBlock ∧ minHeightAutoWithdraw ≤ s.height ∧ (∀ l' ∈ (step p s op).1.locks, l'.id ≠ l.id) ∧
      ∃ t0 e, l.startedAt = some t0 ∧ l.endTime = some e ∧ e = t0 + l.duration ∧ e ≤ s.now) := by
  have hf := lock_fate p h op hl
  cases hf with
  | same hm => exact Or.inl ⟨l, hm, rfl, rfl, rfl, Nat.le_refl _⟩
  | topup amt _ _ hm => exact Or.inl ⟨_, hm, rfl, rfl, rfl, by simp⟩
  | started c _ _ hm => exact Or.inl ⟨_, hm, rfl, rfl, rfl, Nat.le_refl _⟩
  | split x hop _ _ hx hm hn =>
    exact Or.inr (Or.inl ⟨x, _, _, hop, hm, hn, rfl, rfl, rfl, rfl, rfl, rfl, by simp; omega⟩)
  | extended dur _ _ _ hm => exact Or.inl ⟨_, hm, rfl, rfl, rfl, Nat.le_refl _⟩
  | forcedPart x hop ha _ _ _ => exact Or.inr (Or.inr (Or.inl ⟨_, hop, ha⟩))
  | forced c hop ha _ => exact Or.inr (Or.inr (Or.inl ⟨_, hop, ha⟩))
  | matured hop hh hm hgone =>
    obtain ⟨e, he, hle⟩ := matured_unlocking hm
    obtain ⟨t0, h1, h2, _⟩ := (h.ghost l hl).2 e he
    exact Or.inr (Or.inr (Or.inr ⟨hop, hh, hgone, t0, e, h1, he, h2, hle⟩))

/-- the unlock clock is started only by the owner: a lock of the next state whose unlocking started
    at `t0` either already carried that start time, or `t0` is the current block time and the step is
    a begin-unlock signed by the lock's owner, which set end time = now + duration -/
theorem unlock_started_only_by_owner (p : Params) {s : State} (h : Inv s) (op : Op) {l' : Lock}
    (hl' : l' ∈ (step p s op).1.locks) {t0 : Nat} (hs : l'.startedAt = some t0) :
    (∃ l ∈ s.locks, l.id = l'.id ∧ l.startedAt = some t0) ∨
    (t0 = s.now ∧ l'.endTime = some (s.now + l'.duration) ∧ ∃ id c, op = .unlock l'.owner id c) := by
  rcases lock_origin p h op hl' with ⟨l, hl, hid⟩ | ⟨_, hnew⟩
  · rcases (lock_succ p h op hl hl' hid.symm).2.2 with ⟨_, _, e3⟩ | ⟨c, hop, _, e1, e2, e3⟩ | ⟨_, _, _, e3⟩
    · exact Or.inl ⟨l, hl, hid, e3 ▸ hs⟩
    · rw [e3, Option.some.injEq] at hs
      rw [← (lock_succ p h op hl hl' hid.symm).1] at hop
      exact Or.inr ⟨hs.symm, by rw [e2, e1], _, c, hop⟩
    · exact Or.inl ⟨l, hl, hid, e3 ▸ hs⟩
  · rcases hnew with ⟨amt, _, _, hn, _⟩ | ⟨id, x, hop, he, hst, _⟩
    · rw [hn] at hs; cases hs
    · rw [hst] at hs
      simp only [Option.some.injEq] at hs
      exact Or.inr ⟨hs.symm, he, id, _, hop⟩

/-- **maturity exactly at the end time**: from height 6 on, the EndBlocker removes exactly the locks
    whose end time is `<= now` (a lock whose end time is `now + 1ns` stays), pays every owner exactly
    the coins of their matured locks; below height 6 it does nothing -/
theorem endBlock_returns_exactly_the_matured (p : Params) {s : State} (h : Inv s) :
    (minHeightAutoWithdraw ≤ s.height →
      (step p s .endBlock).1.locks = s.locks.filter (fun l => !matured s.now l) ∧
      (∀ a d, (step p s .endBlock).1.bal a d =
        s.bal a d + total (fun l => matured s.now l && (l.owner == a && l.denom == d)) s.locks)) ∧
    (s.height < minHeightAutoWithdraw → (step p s .endBlock).1 = s) := by
  constructor
  · intro hh
    obtain ⟨s', he, _, _, _, _, hlocks, hbal⟩ := endBlock_spec h hh
    simp only [step]
    rw [he]
    exact ⟨hlocks, fun a d => (hbal a d).1⟩
  · intro hlt
    simp only [step]
    unfold endBlock
    simp only [hlt, if_true]

theorem matured_iff (now : Nat) (l : Lock) : matured now l = true ↔ ∃ e, l.endTime = some e ∧ e ≤ now := by
  constructor
  · exact matured_unlocking
  · rintro ⟨e, he, hle⟩
    simp [matured, he, hle]

/-! ## split / top-up / extend conserve, durations only grow -/

/-- **split / top-up / extend conserve**: a begin-unlock (full or partial: split) and an extend
    leave every owner's locked total and free balance of every denom unchanged; an accepted lock /
    top-up of `amt` raises the signer's locked total of that denom by exactly `amt` -/
theorem split_topup_extend_conserve (p : Params) {s : State} (h : Inv s) :
    (∀ a id c a' d', lockedOwner (step p s (.unlock a id c)).1.locks a' d' = lockedOwner s.locks a' d' ∧
        (step p s (.unlock a id c)).1.bal a' d' = s.bal a' d') ∧
    (∀ a id dur a' d', lockedOwner (step p s (.extend a id dur)).1.locks a' d' = lockedOwner s.locks a' d' ∧
        (step p s (.extend a id dur)).1.bal a' d' = s.bal a' d') ∧
    (∀ a d amt dur id, (step p s (.lock a d amt dur)).2 = .ok id →
        ∀ a' d', lockedOwner (step p s (.lock a d amt dur)).1.locks a' d' =
          lockedOwner s.locks a' d' + (if a' = a ∧ d' = d then amt else 0)) := by
  -- nothing comes back at a message that is neither an EndBlocker nor a force-unlock
  have back : ∀ {op : Op} {out a' : Nat}, (out ≠ 0 → op = .endBlock ∨ ∃ id c, op = .force a' id c ∧ a' ∈ p.allowed) →
      (op ≠ .endBlock) → (∀ a id c, op ≠ .force a id c) → out = 0 := fun hb h1 h2 =>
    Classical.byContradiction fun hne => (hb hne).elim h1 fun ⟨id, c, e, _⟩ => h2 _ id c e
  refine ⟨fun a id c a' d' => ?_, fun a id dur a' d' => ?_, fun a d amt dur id hok a' d' => ?_⟩
  · obtain ⟨out, h1, h2, h3⟩ := owner_moves p h (.unlock a id c) a' d'
    have := back h3 nofun nofun
    simp only [lockedIn] at h1 h2
    omega
  · obtain ⟨out, h1, h2, h3⟩ := owner_moves p h (.extend a id dur) a' d'
    have := back h3 nofun nofun
    simp only [lockedIn] at h1 h2
    omega
  · obtain ⟨out, -, h2, h3⟩ := owner_moves p h (.lock a d amt dur) a' d'
    have := back h3 nofun nofun
    rw [hok] at h2
    simp only [lockedIn] at h2
    omega

/-- **until then no message by anyone moves them**: an account's locked total of a denom goes down
    only at an EndBlocker (maturity, see `exit_only_to_owner_after_period`) or by that account's own
    force-unlock while it is on the allow-list; no message of any other signer, and no lock /
    begin-unlock / extend at all, lowers it -/
theorem locked_total_decreases_only_when_due_or_forced (p : Params) {s : State} (h : Inv s) (op : Op)
    (a d : Nat) (hdec : lockedOwner (step p s op).1.locks a d < lockedOwner s.locks a d) :
    op = .endBlock ∨ ∃ id c, op = .force a id c ∧ a ∈ p.allowed := by
  obtain ⟨out, -, h2, h3⟩ := owner_moves p h op a d
  exact h3 (by omega)

/-- **durations only grow** (one step): a lock keeps its owner and denom, its duration never
    shrinks and changes only by its owner's `MsgExtendLockup` while it is not unlocking; once a
    lock is unlocking, its end time and duration are frozen -/
theorem duration_monotone (p : Params) {s : State} (h : Inv s) (op : Op) {l l' : Lock}
    (hl : l ∈ s.locks) (hl' : l' ∈ (step p s op).1.locks) (hid : l'.id = l.id) :
    l'.owner = l.owner ∧ l'.denom = l.denom ∧ l.duration ≤ l'.duration ∧
    (l.duration < l'.duration → op = .extend l.owner l.id l'.duration ∧ l.endTime = none) ∧
    (∀ e, l.endTime = some e → l'.endTime = some e ∧ l'.duration = l.duration) := by
  obtain ⟨ho, hd, hc⟩ := lock_succ p h op hl hl' hid
  refine ⟨ho, hd, ?_⟩
  rcases hc with ⟨e1, e2, _⟩ | ⟨c, _, hn, e1, _⟩ | ⟨hop, hn, hlt, _⟩
  · exact ⟨Nat.le_of_eq e1.symm, fun hh => absurd hh (by omega), fun e he => ⟨e2 ▸ he, e1⟩⟩
  · exact ⟨Nat.le_of_eq e1.symm, fun hh => absurd hh (by omega), fun e he => nomatch hn.symm.trans he⟩
  · exact ⟨Nat.le_of_lt hlt, fun _ => ⟨hop, hn⟩, fun e he => nomatch hn.symm.trans he⟩

/-- an id that is gone (at or below the counter, no lock) stays gone: ids are never reused -/
theorem id_stays_gone (p : Params) : ∀ (ops : List Op) {s : State}, Inv s → ∀ id, id ≤ s.lastId →
    (∀ x ∈ s.locks, x.id ≠ id) → ∀ x ∈ (run p s ops).locks, x.id ≠ id
  | [], _, _, _, _, hgone => hgone
  | op :: ops, s, h, id, hle, hgone => by
    apply id_stays_gone p ops (step_inv p h op) id (Nat.le_trans hle (lastId_mono p h op))
    intro x hx hxid
    rcases lock_origin p h op hx with ⟨l, hl, hlid⟩ | ⟨hnew, _⟩
    · exact hgone l hl (by rw [hlid, hxid])
    · omega

/-- **durations only grow** (any history): whatever sequence of operations follows, a lock that still
    exists has its original owner and denom and a duration at least as long as before -/
theorem duration_monotone_run (p : Params) : ∀ (ops : List Op) {s : State}, Inv s → ∀ {l l' : Lock},
    l ∈ s.locks → l' ∈ (run p s ops).locks → l'.id = l.id →
    l'.owner = l.owner ∧ l'.denom = l.denom ∧ l.duration ≤ l'.duration
  | [], s, h, l, l', hl, hl', hid => by
    have := eq_of_id_eq h.nodup hl' hl hid
    subst this
    exact ⟨rfl, rfl, Nat.le_refl _⟩
  | op :: ops, s, h, l, l', hl, hl', hid => by
    have hinv1 := step_inv p h op
    by_cases hex : ∃ l1 ∈ (step p s op).1.locks, l1.id = l.id
    · obtain ⟨l1, hl1, hid1⟩ := hex
      obtain ⟨a1, a2, a3, _⟩ := duration_monotone p h op hl hl1 hid1
      obtain ⟨b1, b2, b3⟩ := duration_monotone_run p ops hinv1 hl1 hl' (by rw [hid, hid1])
      exact ⟨by rw [b1, a1], by rw [b2, a2], Nat.le_trans a3 b3⟩
    · have hgone : ∀ x ∈ (step p s op).1.locks, x.id ≠ l.id := fun x hx hxid => hex ⟨x, hx, hxid⟩
      have hle := Nat.le_trans (h.idle l hl).2 (lastId_mono p h op)
      exact absurd hid (id_stays_gone p ops hinv1 l.id hle hgone l' hl')

/-- locks appear only through their owner: a lock of the next state continues an existing lock, or
    has the next fresh id and is its owner's own deposit (not unlocking) or the part its owner's
    partial begin-unlock split off an own lock (unlocking from now) -/
theorem locks_appear_only_by_owner (p : Params) {s : State} (h : Inv s) (op : Op) {l' : Lock}
    (hl' : l' ∈ (step p s op).1.locks) :
    (∃ l ∈ s.locks, l.id = l'.id) ∨
    (l'.id = s.lastId + 1 ∧
      ((∃ amt, op = .lock l'.owner l'.denom amt l'.duration ∧ l'.endTime = none ∧ l'.startedAt = none ∧
          l'.amount = amt ∧ (step p s op).2 = .ok l'.id) ∨
       (∃ id x, op = .unlock l'.owner id (some (l'.denom, x)) ∧ l'.endTime = some (s.now + l'.duration) ∧
          l'.startedAt = some s.now ∧ l'.amount = x ∧
          ∃ l ∈ s.locks, l.id = id ∧ l.owner = l'.owner ∧ l.denom = l'.denom ∧ l.duration = l'.duration ∧
            x < l.amount))) :=
  lock_origin p h op hl'

/-- a lock below the minimum duration is never created -/
theorem min_duration_enforced (p : Params) (s : State) (a d amt dur : Nat) (hlt : dur < p.minDur) :
    (step p s (.lock a d amt dur)).1 = s ∧ ∃ e, (step p s (.lock a d amt dur)).2 = .err e := by
  have hd := lockTokens_did p s a d amt dur
  show (lockTokens p s a d amt dur).1 = s ∧ ∃ e, (lockTokens p s a d amt dur).2 = .err e
  generalize lockTokens p s a d amt dur = r at hd ⊢
  cases hd with
  | rejected _ e => exact ⟨rfl, e, rfl⟩
  | topup _ hmin => omega
  | created _ hmin => omega

/-! ## non-vacuity: the hypotheses are met and every branch is taken by concrete histories

  min duration 5, fee 7, actor 1 on the force-unlock allow-list, fee denom 0; everybody starts with
  1000 of every denom; block height 6 (auto-withdraw active), time 0. -/

def pEx : Params := ⟨5, 7, [1], 0⟩
def sEx : State := init (fun _ _ => 1000) 0 6

/-- lock 100, top up 50 (same owner/denom/duration), partial begin-unlock of 30 (split -> lock 2),
    extend lock 1 to 20, another owner locks denom 1, 9 ns pass: nothing matured yet -/
def opsEx : List Op :=
  [.lock 0 0 100 10, .lock 0 0 50 10, .unlock 0 1 (some (0, 30)), .extend 0 1 20, .lock 1 1 40 10,
   .beginBlock 9, .endBlock]

example : Inv sEx := init_inv _ _ _
example : ((run pEx sEx opsEx).locks.map (fun l => (l.id, l.owner, l.duration, l.endTime, l.denom, l.amount)))
    = [(1, 0, 20, none, 0, 120), (2, 0, 10, some 10, 0, 30), (3, 1, 10, none, 1, 40)] := by decide +kernel
-- custody / accumulation (all durations: probes at 10, 11, 20, 21) / fee
example : (run pEx sEx opsEx).modBal 0 = 150 ∧ (run pEx sEx opsEx).modBal 1 = 40 := by decide +kernel
example : lockedDenom (run pEx sEx opsEx).locks 0 = 150 := by decide +kernel
example : (accQuery (run pEx sEx opsEx).acc 0 10, accQuery (run pEx sEx opsEx).acc 0 11,
           accQuery (run pEx sEx opsEx).acc 0 20, accQuery (run pEx sEx opsEx).acc 0 21) = (150, 120, 120, 0) := by decide +kernel
example : (run pEx sEx opsEx).bal 0 0 = 1000 - 150 - 2 * 7 := by decide +kernel
-- maturity exactly at the boundary: at now = 9 lock 2 (end 10) stays; one more ns and it is paid out
example : (step pEx (run pEx sEx opsEx) .endBlock).1.locks.length = 3 := by decide +kernel
example : ((run pEx sEx (opsEx ++ [.beginBlock 1, .endBlock])).locks.map (·.id)) = [1, 3] := by decide +kernel
example : (run pEx sEx (opsEx ++ [.beginBlock 1, .endBlock])).bal 0 0 = 1000 - 150 - 14 + 30 := by decide +kernel
example : (run pEx sEx (opsEx ++ [.beginBlock 1, .endBlock])).modBal 0 = 120 := by decide +kernel
-- below height 6 the EndBlocker does nothing
example : ((run pEx (init (fun _ _ => 1000) 0 1) ([.lock 0 0 100 10, .unlock 0 1 none, .beginBlock 50, .endBlock])).locks.map (·.id)) = [1] := by decide +kernel
-- nobody else: actor 1 (even though allow-listed) cannot unlock / extend / force actor 0's lock 1
example : (step pEx (run pEx sEx opsEx) (.unlock 1 1 none)).2 = .err .notOwner := by decide +kernel
example : (step pEx (run pEx sEx opsEx) (.extend 1 1 30)).2 = .err .notOwner := by decide +kernel
example : (step pEx (run pEx sEx opsEx) (.force 1 1 none)).2 = .err .notOwner := by decide +kernel
-- the owner, not on the allow-list, cannot force-unlock; the allow-listed owner can (partially, too)
example : (step pEx (run pEx sEx opsEx) (.force 0 1 none)).2 = .err .notAllowed := by decide +kernel
example : (step pEx (run pEx sEx opsEx) (.force 1 3 (some (1, 15)))).2 = .ok 0 := by decide +kernel
example : (step pEx (run pEx sEx opsEx) (.force 1 3 (some (1, 15)))).1.bal 1 1 = 1000 - 40 + 15 := by decide +kernel
example : (step pEx (run pEx sEx opsEx) (.force 1 3 none)).1.modBal 1 = 0 := by decide +kernel
-- durations only grow; an unlocking lock cannot be extended; below the minimum is refused
example : (step pEx (run pEx sEx opsEx) (.extend 0 1 20)).2 = .err .durNotGreater := by decide +kernel
example : (step pEx (run pEx sEx opsEx) (.extend 0 2 30)).2 = .err .isUnlocking := by decide +kernel
example : (step pEx sEx (.lock 0 0 100 4)).2 = .err .belowMin := by decide +kernel
example : (step pEx sEx (.lock 0 0 994 10)).2 = .err .feeFunds := by decide +kernel
example : (step pEx sEx (.lock 0 0 993 10)).2 = .ok 1 := by decide +kernel
-- extending lock 2 to the duration of another lock of the same owner, then topping up: lowest id wins
example : ((run pEx sEx [.lock 0 0 10 10, .lock 0 0 10 5, .extend 0 2 10, .lock 0 0 7 10]).locks.map
    (fun l => (l.id, l.duration, l.amount))) = [(1, 10, 17), (2, 10, 10)] := by decide +kernel

end DymVerif.C14
