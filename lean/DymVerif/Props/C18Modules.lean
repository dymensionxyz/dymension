/-
  Props/C18Modules — exporting and re-importing genesis preserves the chain: the custom modules
  other than x/rollapp + x/sequencer (those are in Props/C18 over M-Core).

  For every module: `import<M> (export<M> s) = s` (modulo `some`) for every state satisfying the
  module's store invariant, and `export_import_export`.  Each invariant is justified where it is
  declared: store representation (sorted sections, records under their own key) holds after every
  history of `Set` / `Delete` (`store_representation_reachable`); index exactness is either proved
  over a small op model here (x/iro: `iro_roundtrip_reachable`) or is the invariant of the module's
  own package (delayedack: M-Packets `idx_run`; lightclient: M-LC `MapsInv`; dymns: M-DymNS `IdxOK` /
  `run_inv`; sponsorship: M-Spons `distribution_eq_sum_of_votes`).

  Where the code does not round-trip, the full statement is kept in a comment and the theorem is
  split into `…_partial` (what survives, under the stated extra hypothesis) and `…_counterexample`
  (a concrete witness, by `decide`).  Status on the current tree:
    iro ✓ (any order of the plan list) · delayedack ✓ · lockup ✗ params · eibc ✗ LPs ·
    incentives ✗ started-upcoming gauges, finished gauges · streamer ✗ active order, finished
    streams vs last id, started-upcoming streams · sponsorship ✗ endorsements, blacklist ·
    dymns ✗ orders (refund by minting) · lightclient ✓ canonical pairs and signer set; the
    height → signer map only when it is exact.
-/
import DymVerif.Lemmas.GenesisIro
import DymVerif.Lemmas.GenesisChecks
import DymVerif.Lemmas.GenesisRefOps
namespace DymVerif.C18M
open DymVerif DymVerif.Genesis

/-! ## 0. keyed collections and id counters -/

/-- **import_any_order** — a KV section is rebuilt by setting its exported values one by one in ANY
    order (every entry sits under the key computed from its value, keys strictly ordered by a strict
    total order): the result of an `InitGenesis` loop does not depend on the export order. -/
theorem import_any_order {κ β : Type} {lt : κ → κ → Bool} (so : StrictOrder lt) (s : KV κ β) (key : β → κ)
    (hs : Sorted lt s) (hk : Keyed key s) (l : List β) (hp : l.Perm (exportVals s)) :
    importVals lt key l = s := importVals_perm so hs hk hp

/-- store representation is an invariant of every history of writes -/
theorem store_representation_reachable {κ β : Type} [DecidableEq κ] {lt : κ → κ → Bool} (so : StrictOrder lt)
    (key : β → κ) (ops : List (StoreOp κ β)) : Sorted lt (storeRun lt key ops) ∧ Keyed key (storeRun lt key ops) :=
  storeRun_inv so key ops

example : exportVals (storeRun ltNat (fun n : Nat => n % 10) [.set 13, .set 7, .set 23, .del 7]) = [23] := by decide +kernel

/-- the byte order used for every `Bytes` key is a strict total order -/
theorem byte_order_strict_total : StrictOrder lexLt := soBytes

/-- the maximum bounds every id -/
theorem max_id_bounds (ids : List Nat) : ∀ id ∈ ids, id ≤ maxId ids := maxId_ge ids
/-- the maximum is the same for every order of the list -/
theorem max_id_order_independent (l₁ l₂ : List Nat) (h : l₁.Perm l₂) : maxId l₁ = maxId l₂ := maxId_perm h

/-- the plan ids 1 … 10 in the order `GetAllPlans` walks them: lexical order of the decimal key -/
def planWalk : List Nat := sortBy (fun a b => lexLt (planKey a) (planKey b)) [1, 2, 3, 4, 5, 6, 7, 8, 9, 10]

/-- "the id of the last element" is NOT the maximum: in store order (real decimal strings, byte order)
    the last of 1 … 10 is 9 -/
theorem last_element_is_not_the_max :
    planWalk = [1, 10, 2, 3, 4, 5, 6, 7, 8, 9] ∧ lastId planWalk = 9 ∧ maxId planWalk = 10 := by decide +kernel

theorem last_element_depends_on_order : ∃ l₁ l₂ : List Nat, l₁.Perm l₂ ∧ lastId l₁ ≠ lastId l₂ :=
  ⟨[1, 2], [2, 1], List.Perm.swap 2 1 [], by decide +kernel⟩

/-! ## 1. x/iro -/

/-- **iro_roundtrip** — plans, the by-rollapp index and the id counter survive, for every state
    satisfying the store invariant `IroInv` -/
theorem iro_roundtrip (s : IroState) (h : IroInv s) : importIro (exportIro s) = s := iro_import_export h

/-- `IroInv` holds in every state reachable through `CreatePlan` (id counter, one plan per rollapp) and
    later `SetPlan`s of stored plans: **every reachable state round-trips** -/
theorem iro_roundtrip_reachable (ops : List IroOp) : importIro (exportIro (iroRun ops)) = iroRun ops :=
  iro_import_export (iroInv_run ops)

theorem iro_export_import_export (ops : List IroOp) :
    exportIro (importIro (exportIro (iroRun ops))) = exportIro (iroRun ops) := by rw [iro_roundtrip_reachable]

/-- continuing with the same operations on the imported chain gives the same states -/
theorem iro_continue_commutes (ops more : List IroOp) :
    more.foldl iroStep (importIro (exportIro (iroRun ops))) = iroRun (ops ++ more) := by
  rw [iro_roundtrip_reachable]; unfold iroRun; rw [List.foldl_append]

/-- the result does not depend on the order of the plan list -/
theorem iro_roundtrip_any_order (ops : List IroOp) (l : List Plan) (hp : l.Perm (exportIro (iroRun ops)).plans) :
    importIro { params := (iroRun ops).params, plans := l } = iroRun ops :=
  iro_import_perm (iroInv_run ops) hp

/-- **iro_next_plan_id_fresh** — whatever the genesis lists and in whatever order, the next plan id
    after import is greater than every imported id -/
theorem iro_next_plan_id_fresh (g : IroGenesis) : ∀ p ∈ g.plans, p.id < nextPlanId (importIro g) := by
  intro p hp
  have h : (importIro g).lastPlanId = maxId (g.plans.map (·.id)) := iroInitLastPlanId_eq_maxId _
  have := maxId_ge (g.plans.map (·.id)) p.id (List.mem_map.2 ⟨p, hp, rfl⟩)
  unfold nextPlanId; omega

/-- ten plans created one after the other -/
def iroTen : IroState := iroRun ((List.range 10).map fun i => IroOp.create [i] 0)

/-- non-vacuity, and why the counter must be the maximum: the export lists plan 9 last; a counter
    taken from the last element would hand out id 10 a second time -/
theorem iro_last_of_list_counter_collides :
    (exportIro iroTen).plans.map (·.id) = [1, 10, 2, 3, 4, 5, 6, 7, 8, 9] ∧
    lastId ((exportIro iroTen).plans.map (·.id)) + 1 ∈ (exportIro iroTen).plans.map (·.id) ∧
    nextPlanId (importIro (exportIro iroTen)) = 11 := by decide +kernel

example : importIro (exportIro iroTen) = iroTen := iro_roundtrip_reachable _

/-! ## 2. x/lockup -/

/- **lockup_roundtrip** (full statement — FALSE on the current code):
     ∀ s, LockupInv s → importLockup (exportLockup s) = s
   The module parameters are not part of the genesis state; `InitGenesis` writes `DefaultParams()`. -/

/-- locks (whatever the order of the list) and the id counter survive; the parameters are the defaults -/
theorem lockup_roundtrip_partial (s : LockupState) (h : LockupInv s) (hp : s.params = lockupDefaultParams) :
    importLockup (exportLockup s) = s := by
  rw [lockup_import_export h, ← hp]

theorem lockup_locks_survive (s : LockupState) (h : LockupInv s) :
    (importLockup (exportLockup s)).locks = s.locks ∧ (importLockup (exportLockup s)).lastLockId = s.lastLockId := by
  rw [lockup_import_export h]; exact ⟨rfl, rfl⟩

theorem lockup_any_order (s : LockupState) (h : LockupInv s) (l : List Lock) (hp : l.Perm (exportLockup s).locks) :
    importLockup { lastLockId := s.lastLockId, locks := l } = importLockup (exportLockup s) := by
  rw [lockup_import_export h]
  exact lockup_locks_any_order h (hp.trans (periodLocks_perm s))

theorem lockup_export_import_export (s : LockupState) (h : LockupInv s) :
    exportLockup (importLockup (exportLockup s)) = exportLockup s := by
  rw [lockup_import_export h]; rfl

def lockupEx : LockupState :=
  { params := 1, lastLockId := 3,
    locks := storeRun ltNat (fun l : Lock => l.id)
      [.set ⟨1, [1], 20, 0, [([100], 5)]⟩, .set ⟨2, [1], 10, 7, [([100], 1)]⟩, .set ⟨3, [2], 10, 0, [([100], 2)]⟩] }

/-- the export order is the reference order (not-unlocking by duration, then unlocking), not id order -/
example : (exportLockup lockupEx).locks.map (·.id) = [3, 1, 2] := by decide +kernel

theorem lockup_roundtrip_counterexample : ∃ s, LockupInv s ∧ importLockup (exportLockup s) ≠ s :=
  ⟨lockupEx, ⟨(storeRun_inv soNat _ _).1, (storeRun_inv soNat _ _).2⟩, by decide +kernel⟩

/-! ## 3. x/delayedack -/

/-- **delayedack_roundtrip** — packets and the pending-by-address index survive: the import does not
    panic and rebuilds exactly the original state -/
theorem delayedack_roundtrip (s : DaState) (h : DaInv s) : importDa (exportDa s) = some s := da_import_export h

theorem delayedack_export_import_export (s : DaState) (h : DaInv s) :
    (importDa (exportDa s)).map exportDa = some (exportDa s) := by rw [da_import_export h]; rfl

/-- a finalized packet contributes no index entry (`InitGenesis` of x/delayedack indexes pending packets only) -/
theorem delayedack_finalized_not_indexed (p : DPacket) (h : p.status = .finalized) : daIdxItem p = none := by
  unfold daIdxItem; rw [if_neg (by rw [h]; decide)]

/-- a pending packet of undefined type makes `InitGenesis` panic -/
theorem delayedack_undefined_pending_panics (g : DaGenesis) (p : DPacket) (hp : p ∈ g.packets)
    (h1 : p.status = .pending) (h2 : p.ptype = .undefined) : importDa g = none := by
  unfold importDa
  have : daInitPanics g = true := by
    unfold daInitPanics
    exact List.any_eq_true.2 ⟨p, hp, by simp [h1, h2, daIndexAddr]⟩
  rw [this]; rfl

def daP1 : DPacket := ⟨.pending, [114], 5, .onRecv, [99], 1, [1], [2], 0⟩
def daP2 : DPacket := ⟨.finalized, [114], 3, .onAck, [99], 2, [1], [2], 0⟩
def daP3 : DPacket := ⟨.pending, [114], 6, .onTimeout, [99], 3, [1], [2], 0⟩
def daEx : DaState :=
  { params := 7,
    packets := storeRun lexLt DPacket.key [.set daP1, .set daP2, .set daP3],
    byAddr := [(([1], daP1.key), ()), (([2], daP3.key), ())] }

theorem daEx_inv : DaInv daEx :=
  DaInv.of_checks (by decide +kernel)

example : importDa (exportDa daEx) = some daEx := delayedack_roundtrip _ daEx_inv
example : daEx.packets.length = 3 ∧ daEx.byAddr.length = 2 := by decide +kernel

/-! ## 4. x/eibc -/

/- **eibc_roundtrip** (full statement — FALSE on the current code):
     ∀ s, EibcInv s → importEibc (exportEibc s) = some s
   On-demand liquidity providers and their id sequence are not part of the genesis state. -/

/-- demand orders — with their tracking packet key through the base64 detour — and params survive -/
theorem eibc_roundtrip_partial (s : EibcState) (h : EibcInv s) (hl : s.lps = []) (hn : s.nextLpId = 0) :
    importEibc (exportEibc s) = some s := by
  rw [eibc_import_export h, ← hl, ← hn]

theorem eibc_orders_survive (s : EibcState) (h : EibcInv s) :
    ∃ t, importEibc (exportEibc s) = some t ∧ t.orders = s.orders ∧ t.params = s.params ∧ t.lps = [] :=
  ⟨_, eibc_import_export h, rfl, rfl, rfl⟩

theorem eibc_export_import_export (s : EibcState) (h : EibcInv s) :
    (importEibc (exportEibc s)).map exportEibc = some (exportEibc s) := by rw [eibc_import_export h]; rfl

/-- the tracking key decodes to exactly what was encoded (C19's base64 round trip) -/
theorem eibc_tracking_key_roundtrip (k : Bytes) (h : Bytes.WF k) : eibcDecodeKey (eibcEncodeKey k) = some k :=
  eibc_key_roundtrip k h

def eibcEx : EibcState :=
  { params := 1,
    orders := storeRun lexLt DOrder.key [.set ⟨[5], .pending, daP1.key, 0⟩, .set ⟨[6], .finalized, [], 0⟩],
    lps := [(1, 77)], nextLpId := 1 }

theorem eibcEx_inv : EibcInv eibcEx :=
  ⟨(storeRun_inv soBytes _ _).1, (storeRun_inv soBytes _ _).2, by unfold Bytes.WF; decide +kernel⟩

theorem eibc_roundtrip_counterexample : ∃ s, EibcInv s ∧ importEibc (exportEibc s) ≠ some s :=
  ⟨eibcEx, eibcEx_inv, by decide +kernel⟩

example : importEibc (exportEibc { eibcEx with lps := [], nextLpId := 0 }) = some { eibcEx with lps := [], nextLpId := 0 } :=
  eibc_roundtrip_partial _ ⟨eibcEx_inv.so, eibcEx_inv.ko, eibcEx_inv.wf⟩ rfl rfl

/-! ## 5. x/incentives -/

/- **incentives_roundtrip** (full statement — FALSE on the current code):
     ∀ s, RsInv s.gauges → importInc s.now (exportInc s) = some s
   (a) only not-finished gauges are exported; (b) `InitGenesis` re-classifies every gauge by the
   clock, so a gauge still filed as upcoming although its start time has passed becomes active. -/

/-- gauges, the three reference sections (with their internal order), parameters, lockable durations
    and the id counter survive when nothing is finished and every gauge is filed under the class the
    clock gives it -/
theorem incentives_roundtrip_partial (s : IncState) (h : RsInv s.gauges) (hc : ClsOk s.gauges s.now)
    (hf : s.gauges.finished = []) : importInc s.now (exportInc s) = some s := by
  unfold importInc exportInc
  simp only
  rw [refstore_import h hf (List.Perm.refl _) (orderOk_notFinished h hc hf)]
  rfl

theorem incentives_export_import_export (s : IncState) (h : RsInv s.gauges) (hc : ClsOk s.gauges s.now)
    (hf : s.gauges.finished = []) : (importInc s.now (exportInc s)).map exportInc = some (exportInc s) := by
  rw [incentives_roundtrip_partial s h hc hf]; rfl

/-- `RsInv` holds after EVERY history of the store's write paths (all five `RsOp`s), at any clock
    values; the same store underlies gauges and streams -/
theorem refstore_invariant_reachable (ops : List (Nat × RsOp)) : RsInv (rsRun ops) := rsInv_run ops

/-- hence, for every reachable gauge store: when nothing is finished and the classes agree with the
    clock, export followed by import gives back the state -/
theorem incentives_roundtrip_reachable_partial (ops : List (Nat × RsOp)) (now params last : Nat) (lockable : List Nat)
    (hc : ClsOk (rsRun ops) now) (hf : (rsRun ops).finished = []) :
    importInc now (exportInc ⟨now, params, lockable, last, rsRun ops⟩) = some ⟨now, params, lockable, last, rsRun ops⟩ :=
  incentives_roundtrip_partial ⟨now, params, lockable, last, rsRun ops⟩ (rsInv_run ops) hc hf

/-- continuing with the same store operations on the imported chain gives the same states -/
theorem incentives_continue_commutes_partial (ops more : List (Nat × RsOp)) (now params last : Nat) (lockable : List Nat)
    (hc : ClsOk (rsRun ops) now) (hf : (rsRun ops).finished = []) :
    (importInc now (exportInc ⟨now, params, lockable, last, rsRun ops⟩)).map
      (fun t => more.foldl (fun s o => rsStep o.1 s o.2) t.gauges) = some (rsRun (ops ++ more)) := by
  rw [incentives_roundtrip_reachable_partial ops now params last lockable hc hf]
  simp only [Option.map_some]
  unfold rsRun; rw [List.foldl_append]

/-- a history: gauge 1 created and activated, gauges 3 then 2 created for later -/
def incHistory : List (Nat × RsOp) :=
  [(1, .create ⟨1, 5, true, 1, 0, 0⟩), (6, .activate 1), (7, .create ⟨3, 20, false, 3, 0, 0⟩), (8, .create ⟨2, 20, false, 3, 0, 0⟩)]

/-- gauges 1 (started at 5, active), 2 and 3 (start at 20, upcoming; 3 was filed before 2) at time 10 -/
def incOk : IncState :=
  { now := 10, params := 0, lockable := [1], lastGaugeId := 3,
    gauges := { items := [(1, ⟨1, 5, true, 1, 0, 0⟩), (2, ⟨2, 20, false, 3, 0, 0⟩), (3, ⟨3, 20, false, 3, 0, 0⟩)],
                upcoming := [(20, [3, 2])], active := [(5, [1])], finished := [] } }

example : rsRun incHistory = incOk.gauges := by decide +kernel

theorem incOk_cls : ClsOk incOk.gauges incOk.now :=
  ClsOk.of_checks (by decide +kernel)

example : importInc incOk.now (exportInc incOk) = some incOk := incentives_roundtrip_partial _ (RsInv.of_checks (by decide +kernel)) incOk_cls rfl

/-- (b): gauge 2 started at 8 but is still filed as upcoming at time 10 (it is moved at the next epoch start) -/
def incStarted : IncState :=
  { incOk with gauges := { incOk.gauges with items := [(1, ⟨1, 5, true, 1, 0, 0⟩), (2, ⟨2, 8, false, 3, 0, 0⟩)],
                                             upcoming := [(8, [2])] }, lastGaugeId := 2 }

/-- (a): gauge 1 is finished -/
def incFinished : IncState :=
  { incOk with gauges := { incOk.gauges with items := [(1, ⟨1, 5, false, 1, 1, 0⟩), (2, ⟨2, 20, false, 3, 0, 0⟩)],
                                             upcoming := [(20, [2])], active := [], finished := [(5, [1])] }, lastGaugeId := 2 }

theorem incentives_roundtrip_counterexample :
    (∃ s, RsInv s.gauges ∧ s.gauges.finished = [] ∧ importInc s.now (exportInc s) ≠ some s ∧
       (importInc s.now (exportInc s)).map (fun t => (t.gauges.upcoming, t.gauges.active)) = some ([], [(5, [1]), (8, [2])])) ∧
    (∃ s, RsInv s.gauges ∧ ClsOk s.gauges s.now ∧ importInc s.now (exportInc s) ≠ some s ∧
       (importInc s.now (exportInc s)).map (fun t => (exportVals t.gauges.items).map (·.id)) = some [2]) :=
  ⟨⟨incStarted, RsInv.of_checks (by decide +kernel), rfl, by decide +kernel, by decide +kernel⟩,
   ⟨incFinished, RsInv.of_checks (by decide +kernel), ClsOk.of_checks (by decide +kernel),
    by decide +kernel, by decide +kernel⟩⟩

/-! ## 6. x/streamer -/

/- **streamer_roundtrip** (full statement — FALSE on the current code):
     ∀ s, RsInv s.streams → importStr s.now epochs (exportStr s) = some s
   (a) `InitGenesis` sorts the streams by id, the running chain keeps each reference list in
   activation order; (b) only not-finished streams are exported while `last_stream_id` is kept;
   (c) started-but-upcoming streams are re-classified as active. -/

/-- streams, reference sections, epoch pointers, parameters and the id counter survive when nothing is
    finished, classes agree with the clock, every reference list is in ascending id order and every
    epoch of x/epochs has its pointer -/
theorem streamer_roundtrip_partial (s : StrState) (epochs : List (Bytes × Nat)) (h : RsInv s.streams)
    (hc : ClsOk s.streams s.now) (hf : s.streams.finished = []) (ha : AscLists s.streams)
    (hps : Sorted lexLt s.pointers) (hpk : Keyed (fun p : Pointer => p.epochId) s.pointers)
    (hcov : ∀ ep ∈ epochs, ∃ e ∈ s.pointers, e.1 = ep.1) :
    importStr s.now epochs (exportStr s) = some s := by
  unfold importStr exportStr strInitSort
  simp only
  rw [refstore_import h hf (sortBy_perm _ _) (orderOk_sorted h hc hf ha), strInitPointers_export hps hpk epochs hcov]
  rfl

theorem streamer_export_import_export (s : StrState) (epochs : List (Bytes × Nat)) (h : RsInv s.streams)
    (hc : ClsOk s.streams s.now) (hf : s.streams.finished = []) (ha : AscLists s.streams)
    (hps : Sorted lexLt s.pointers) (hpk : Keyed (fun p : Pointer => p.epochId) s.pointers)
    (hcov : ∀ ep ∈ epochs, ∃ e ∈ s.pointers, e.1 = ep.1) :
    (importStr s.now epochs (exportStr s)).map exportStr = some (exportStr s) := by
  rw [streamer_roundtrip_partial s epochs h hc hf ha hps hpk hcov]; rfl

theorem streamer_roundtrip_reachable_partial (ops : List (Nat × RsOp)) (now params last : Nat) (epochs : List (Bytes × Nat))
    (ptrs : KV Bytes Pointer) (hc : ClsOk (rsRun ops) now) (hf : (rsRun ops).finished = []) (ha : AscLists (rsRun ops))
    (hps : Sorted lexLt ptrs) (hpk : Keyed (fun p : Pointer => p.epochId) ptrs) (hcov : ∀ ep ∈ epochs, ∃ e ∈ ptrs, e.1 = ep.1) :
    importStr now epochs (exportStr ⟨now, params, last, rsRun ops, ptrs⟩) = some ⟨now, params, last, rsRun ops, ptrs⟩ :=
  streamer_roundtrip_partial ⟨now, params, last, rsRun ops, ptrs⟩ epochs (rsInv_run ops) hc hf ha hps hpk hcov

/-- the epoch pointers alone survive whenever every epoch has its pointer (mid-epoch positions included) -/
theorem streamer_pointers_survive (ptrs : KV Bytes Pointer) (epochs : List (Bytes × Nat)) (hps : Sorted lexLt ptrs)
    (hpk : Keyed (fun p : Pointer => p.epochId) ptrs) (hcov : ∀ ep ∈ epochs, ∃ e ∈ ptrs, e.1 = ep.1) :
    strInitPointers epochs (exportVals ptrs) = ptrs := strInitPointers_export hps hpk epochs hcov

def strEpochs : List (Bytes × Nat) := [([100], 86400), ([104], 3600)]
/-- streams 2 and 3 active since 5 (listed [2, 3]), stream 4 upcoming; the day pointer is mid-epoch -/
def strOk : StrState :=
  { now := 10, params := 0, lastStreamId := 4,
    streams := { items := [(2, ⟨2, 5, false, 3, 1, 0⟩), (3, ⟨3, 5, false, 3, 0, 0⟩), (4, ⟨4, 20, false, 3, 0, 0⟩)],
                 upcoming := [(20, [4])], active := [(5, [2, 3])], finished := [] },
    pointers := [([100], ⟨[100], 3, 7, 86400⟩), ([104], ⟨[104], 0, 0, 3600⟩)] }

theorem strOk_inv : RsInv strOk.streams := RsInv.of_checks (by decide +kernel)

example : importStr strOk.now strEpochs (exportStr strOk) = some strOk :=
  streamer_roundtrip_partial _ _ strOk_inv
    (ClsOk.of_checks (by decide +kernel)) rfl
    (by unfold AscLists; decide +kernel) (by decide +kernel) (by decide +kernel) (by decide +kernel)

/-- (a): stream 3 was activated before stream 2 -/
def strOrder : StrState := { strOk with streams := { strOk.streams with active := [(5, [3, 2])] } }
/-- (b): stream 4 (the newest) is finished -/
def strFinished : StrState :=
  { strOk with streams := { strOk.streams with items := [(2, ⟨2, 5, false, 3, 1, 0⟩), (3, ⟨3, 5, false, 3, 0, 0⟩), (4, ⟨4, 6, false, 3, 3, 0⟩)],
                                               upcoming := [], finished := [(6, [4])] } }

theorem streamer_roundtrip_counterexample :
    (∃ s, RsInv s.streams ∧ ClsOk s.streams s.now ∧ s.streams.finished = [] ∧
       (importStr s.now strEpochs (exportStr s)).map (·.streams.active) = some [(5, [2, 3])] ∧ s.streams.active = [(5, [3, 2])]) ∧
    (∃ s, RsInv s.streams ∧ ClsOk s.streams s.now ∧
       (importStr s.now strEpochs (exportStr s)).map (fun t => (t.lastStreamId, maxId ((exportVals t.streams.items).map (·.id)))) = some (4, 3)) :=
  ⟨⟨strOrder, RsInv.of_checks (by decide +kernel), ClsOk.of_checks (by decide +kernel), rfl,
     by decide +kernel, rfl⟩,
   ⟨strFinished, RsInv.of_checks (by decide +kernel), ClsOk.of_checks (by decide +kernel),
     by decide +kernel⟩⟩

/-! ## 7. x/sponsorship -/

/- **sponsorship_roundtrip** (full statement — FALSE on the current code):
     ∀ s, SponsInv s → importSpons (exportSpons s) = s
   Endorsements and the claim blacklist are not part of the genesis state; the distribution is
   recomputed from the votes. -/

/-- votes, per-validator powers and parameters survive exactly; the recomputed distribution has, gauge
    by gauge and in total, the sum of the votes' powers — the value the original distribution has by
    C16's `distribution_eq_sum_of_votes` -/
theorem sponsorship_roundtrip_partial (s : SponsState) (h : SponsInv s) (hv : ∀ e ∈ s.votes, Spons.VoteOK e.2) :
    (importSpons (exportSpons s)).votes = s.votes ∧ (importSpons (exportSpons s)).dvp = s.dvp ∧
    (importSpons (exportSpons s)).params = s.params ∧
    (∀ g, Spons.gget (importSpons (exportSpons s)).dist.gauges g = ((s.votes.map (·.2)).map fun v => v.pow g).sum) ∧
    (importSpons (exportSpons s)).dist.vp = ((s.votes.map (·.2)).map (·.vp)).sum := by
  have hvd := spons_votes_dvp h
  have hr := spons_rest s
  have hd := sponsInitDist_spec (s.votes.map (·.2)) (by
    intro v hvm; obtain ⟨e, he, rfl⟩ := List.mem_map.1 hvm; exact hv e he)
  rw [hr.2.2.2]
  exact ⟨hvd.1, hvd.2, hr.1, hd.1, hd.2⟩

theorem sponsorship_export_import_export (s : SponsState) (h : SponsInv s) :
    exportSpons (importSpons (exportSpons s)) = exportSpons s := by
  have e : ∀ a b : SponsState, a.votes = b.votes → a.dvp = b.dvp → a.params = b.params → exportSpons a = exportSpons b := by
    intro a b h1 h2 h3; unfold exportSpons; rw [h1, h2, h3]
  exact e _ _ (spons_votes_dvp h).1 (spons_votes_dvp h).2 (spons_rest s).1

def sponsEx : SponsState :=
  { params := 1, votes := [([1], ⟨10, [(2, 50000000000000000000)]⟩)], dvp := [(([1], [9]), 10)],
    dist := ⟨10, [(2, 5)]⟩, endorsements := [([114], 2)], blacklist := [[1]] }

theorem sponsorship_roundtrip_counterexample :
    ∃ s, SponsInv s ∧ importSpons (exportSpons s) ≠ s ∧
      (importSpons (exportSpons s)).endorsements = [] ∧ (importSpons (exportSpons s)).blacklist = [] ∧
      (importSpons (exportSpons s)).dist = s.dist :=
  ⟨sponsEx, SponsInv.of_checks (by decide +kernel), by decide +kernel, by decide +kernel, by decide +kernel, by decide +kernel⟩

/-! ## 8. x/dymns -/

/- **dymns_roundtrip** (full statement — FALSE on the current code, by design of x/dymns/genesis.go):
     ∀ s, DymnsInv s → reimportDymns s = s
   Sell orders, bids and buy orders are not carried over; bids and offers are refunded by MINTING. -/

/-- names and their three reverse lookups, parameters, balances and supply survive when no order is
    open and no name expired longer ago than the grace period -/
theorem dymns_roundtrip_partial (s : DymnsState) (h : DymnsInv s) (hk : ∀ x ∈ s.names, x.2.kept s.now s.grace = true)
    (hs : s.sellOrders = []) (hb : s.buyOrders = []) : reimportDymns s = s := by
  have hn := dymns_names_rebuilt h hk
  -- the name loop touches only the names and their three lookups
  have fx {τ : Type} (π : DymnsState → τ) := foldl_fixed dymnsInitName π
  have hbids : (exportDymns s).bids = [] := by rw [exportDymns, hs]; rfl
  have hbos : (exportDymns s).buyOrders = [] := by rw [exportDymns, hb]; rfl
  unfold reimportDymns importDymns
  rw [hbids, hbos]
  exact DymnsState.eta (fx (·.now) (fun _ _ => rfl) _ _) (fx (·.params) (fun _ _ => rfl) _ _)
    (fx (·.grace) (fun _ _ => rfl) _ _) hn.1 hn.2.1 hn.2.2.1 hn.2.2.2
    ((fx (·.sellOrders) (fun _ _ => rfl) _ _).trans hs.symm) ((fx (·.buyOrders) (fun _ _ => rfl) _ _).trans hb.symm)
    (fx (·.bal) (fun _ _ => rfl) _ _) (fx (·.modBal) (fun _ _ => rfl) _ _) (fx (·.supply) (fun _ _ => rfl) _ _)

/-- in EVERY state the supply after import is the old supply plus all refunded bids and offers, while
    the escrow stays in the module account -/
theorem dymns_supply_after_import (s : DymnsState) :
    (reimportDymns s).supply = s.supply + ((exportDymns s).bids.map (·.amount)).sum +
      ((exportDymns s).buyOrders.map (·.offer)).sum ∧ (reimportDymns s).modBal = s.modBal := by
  unfold reimportDymns importDymns
  simp only
  have h1 := foldl_dymnsRefund_supply ((exportDymns s).buyOrders.map fun o => (⟨o.buyer, o.offer⟩ : Refund))
  have h2 := foldl_dymnsRefund_supply (exportDymns s).bids
  constructor
  · rw [(h1 _).1, (h2 _).1, foldl_fixed dymnsInitName (·.supply) fun _ _ => rfl, List.map_map]; rfl
  · rw [(h1 _).2, (h2 _).2, foldl_fixed dymnsInitName (·.modBal) fun _ _ => rfl]

def dymnsQuiet : DymnsState :=
  { now := 100, params := 0, grace := 10,
    names := [([97], ⟨[97], [1], 500, [[1], [7]], [[1]], 0⟩), ([98], ⟨[98], [1], 95, [[1]], [[1]], 0⟩)],
    ownIdx := [(([1], [97]), ()), (([1], [98]), ())],
    cfgIdx := [(([1], [97]), ()), (([1], [98]), ()), (([7], [97]), ())],
    fbIdx := [(([1], [97]), ()), (([1], [98]), ())],
    sellOrders := [], buyOrders := [], bal := [([1], 50)], modBal := 0, supply := 50 }

theorem dymnsQuiet_inv : DymnsInv dymnsQuiet :=
  DymnsInv.of_checks (by decide +kernel)

example : reimportDymns dymnsQuiet = dymnsQuiet := dymns_roundtrip_partial _ dymnsQuiet_inv (by decide +kernel) rfl rfl

/-- a bid of 30 on name "a" and a buy order offering 20 are open (50 in escrow) -/
def dymnsOpen : DymnsState :=
  { dymnsQuiet with sellOrders := [([97], ⟨[97], some ⟨[2], 30⟩, 0⟩)], buyOrders := [([49], ⟨[49], [3], 20, some 25, 0⟩)],
                    bal := [([1], 50)], modBal := 50, supply := 100 }

theorem dymns_roundtrip_counterexample :
    ∃ s, DymnsInv s ∧ reimportDymns s ≠ s ∧ (reimportDymns s).supply = s.supply + 50 ∧
      (reimportDymns s).modBal = s.modBal ∧ (reimportDymns s).sellOrders = [] ∧ (reimportDymns s).buyOrders = [] :=
  ⟨dymnsOpen, ⟨dymnsQuiet_inv.sn, dymnsQuiet_inv.kn, dymnsQuiet_inv.so, dymnsQuiet_inv.sc, dymnsQuiet_inv.sf,
      dymnsQuiet_inv.own, dymnsQuiet_inv.cfg, dymnsQuiet_inv.fb⟩, by decide +kernel, by decide +kernel, by decide +kernel, by decide +kernel, by decide +kernel⟩

/-! ## 9. x/lightclient -/

/- **lightclient_roundtrip** (full statement): ∀ s, LcInv s → importLc (exportLc s) = some s.
   Holds for the canonical pairs (both directions) and the signer set.  The height → signer map is
   rebuilt from the signer set in key order, so it survives only when it names exactly the recorded
   signers (`SignersExact`: one signer per (client, height)); `SaveSigner` itself does not enforce that. -/

theorem lightclient_roundtrip_partial (s : LcState) (h : LcInv s) (hex : SignersExact s) :
    importLc (exportLc s) = some s := by
  obtain ⟨t, ht, h1, h2, h3, h4⟩ := lc_import_export_parts h
  rw [ht]
  exact congrArg some (congr (congr (congr (congrArg LcState.mk h1) h2) h3) (h4 hex))

/-- canonical clients in both directions and the signer set survive in every state satisfying `LcInv` -/
theorem lightclient_canonical_and_signers_survive (s : LcState) (h : LcInv s) :
    ∃ t, importLc (exportLc s) = some t ∧ t.r2c = s.r2c ∧ t.c2r = s.c2r ∧ t.signers = s.signers := by
  obtain ⟨t, ht, h1, h2, h3, _⟩ := lc_import_export_parts h
  exact ⟨t, ht, h1, h2, h3⟩

theorem lightclient_export_import_export (s : LcState) (h : LcInv s) :
    (importLc (exportLc s)).map exportLc = some (exportLc s) := by
  obtain ⟨t, ht, h1, _, h3, _⟩ := lc_import_export_parts h
  rw [ht]; simp only [Option.map_some, exportLc, h1, h3]

def lcEx : LcState :=
  { r2c := [([114], [7, 0]), ([115], [7, 1])], c2r := [([7, 0], [114]), ([7, 1], [115])],
    signers := [(([1], [7, 0], 5), ()), (([1], [7, 0], 6), ()), (([2], [7, 1], 5), ())],
    h2s := [(([7, 0], 5), [1]), (([7, 0], 6), [1]), (([7, 1], 5), [2])] }

theorem lcEx_inv : LcInv lcEx :=
  LcInv.of_checks (by decide +kernel)

example : importLc (exportLc lcEx) = some lcEx :=
  lightclient_roundtrip_partial _ lcEx_inv (SignersExact.of_checks (by decide +kernel) (by decide +kernel))

/-- two sequencers are recorded for (client 7/0, height 5); the map names the one written last ([1]) -/
def lcTwo : LcState :=
  { lcEx with signers := [(([1], [7, 0], 5), ()), (([3], [7, 0], 5), ())], h2s := [(([7, 0], 5), [1])] }

theorem lightclient_roundtrip_counterexample :
    ∃ s, LcInv s ∧ importLc (exportLc s) ≠ some s ∧ (importLc (exportLc s)).map (·.h2s) = some [(([7, 0], 5), [3])] :=
  ⟨lcTwo, LcInv.of_checks (by decide +kernel), by decide +kernel, by decide +kernel⟩

end DymVerif.C18M
