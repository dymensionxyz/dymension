/-
  Props/C14Chain — C14 over the whole life of a chain: histories that contain, besides the messages
  and blocks of Props/C14, **restarts** (ExportGenesis → InitGenesis → InitializeAllLocks on a fresh
  application) and **parameter changes** (MinLockDuration, LockCreationFee,
  ForceUnlockAllowedAddresses set through the params subspace).  The property theorems — most are the
  clauses of Props/C14 lifted to `cstep` / `crun`, with the helpers of that lifting (`lastId_mono_chain`,
  `locks_appear_only_by_owner_chain`, …) — and a concrete chain (`pBig`, `cBig`, `opsBig`) for the examples and
  counterexamples.  Every statement is for all parameter values, all initial balances and all sequences of `COp`s.

  `CInv` (Lemmas/LockupChain) = `Inv` of Props/C14 + "the lock table is in id order"; `reachable_cinv`
  shows every state reachable from a fresh chain satisfies it, so `(h : CInv c)` reads "in every
  reachable state of a chain that may have been restarted and re-parameterised any number of times".
-/
import DymVerif.Props.C14
import DymVerif.Lemmas.LockupChain
import DymVerif.Lemmas.LockupChainEmbed
namespace DymVerif.C14
open DymVerif DymVerif.Lockup

/-! ## every reachable state, with restarts and parameter changes -/

theorem reachable_cinv (p : Params) (bal : Actor → Denom → Nat) (now height : Nat) (ops : List COp) :
    CInv (crun (cinit p bal now height) ops) :=
  crun_cinv ops (cinit_cinv p bal now height)

/-- `reachable_inv` of Props/C14 for histories with restarts and parameter changes -/
theorem reachable_inv_chain (p : Params) (bal : Actor → Denom → Nat) (now height : Nat) (ops : List COp) :
    Inv (crun (cinit p bal now height) ops).s :=
  (reachable_cinv p bal now height ops).inv

/-- **custody** across restarts: the module account holds, per denom, exactly the sum of the coins
    of all existing locks -/
theorem custody_inv_chain (p : Params) (bal : Actor → Denom → Nat) (now height : Nat) (ops : List COp) (d : Denom) :
    (crun (cinit p bal now height) ops).s.modBal d = lockedDenom (crun (cinit p bal now height) ops).s.locks d :=
  (reachable_inv_chain p bal now height ops).custody d

/-- **accumulation** across restarts: for every denom and every duration `k` the accumulation store —
    including the one `InitializeAllLocks` rebuilt — answers with the sum of the coins of the locks
    of that denom whose duration is at least `k` -/
theorem accumulation_inv_chain (p : Params) (bal : Actor → Denom → Nat) (now height : Nat) (ops : List COp)
    (d : Denom) (k : Nat) :
    accQuery (crun (cinit p bal now height) ops).s.acc d k =
      (lockedLonger (crun (cinit p bal now height) ops).s.locks d k : Int) :=
  (reachable_inv_chain p bal now height ops).accum d k

/-- the lock table of every reachable state is in id order (= the order of the store's lock section) -/
theorem lock_table_in_id_order (p : Params) (bal : Actor → Denom → Nat) (now height : Nat) (ops : List COp) :
    IdSorted (crun (cinit p bal now height) ops).s.locks :=
  (reachable_cinv p bal now height ops).sorted

/-- the EndBlocker cannot fail, whatever restarts and parameter changes came before -/
theorem endBlock_never_panics_chain {c : Chain} (h : CInv c) : (cstep c (.msg .endBlock)).2 = .ok 0 :=
  endBlock_never_panics c.p h.inv

/-! ## what a restart does -/

/-- **the accumulation store `InitializeAllLocks` builds** from ANY list of locks (any order, any
    number of locks sharing one (denom, duration) entry): every query = the sum over the listed locks -/
theorem initializeAllLocks_accumulates_every_lock (ls : List Lock) (d : Denom) (k : Nat) :
    accQuery (initializeAllLocks ls).2 d k = (lockedLonger ls d k : Int) :=
  initializeAllLocks_acc ls d k

/-- **a restart preserves the locks**: the lock table (ids, owners, durations, end times, coins — and
    its order), the id counter, every account's balance, the module account's balance, the clock and
    every accumulation total are unchanged by export → import -/
theorem restart_preserves_locks {c : Chain} (h : CInv c) :
    (restart c).s.locks = c.s.locks ∧ (restart c).s.lastId = c.s.lastId ∧
    (∀ a d, (restart c).s.bal a d = c.s.bal a d) ∧ (∀ d, (restart c).s.modBal d = c.s.modBal d) ∧
    (restart c).s.now = c.s.now ∧ (restart c).s.height = c.s.height ∧
    (∀ d k, accQuery (restart c).s.acc d k = accQuery c.s.acc d k) := by
  obtain ⟨h1, h2, h3, h4, h5, h6⟩ := restart_frame h
  refine ⟨h1, h2, fun a d => by rw [h3], fun d => by rw [h4], h5, h6, fun d k => ?_⟩
  rw [h.inv.accum d k]
  exact restart_acc c.s d k

/-- the exported list holds every lock exactly once; the import does not depend on its order -/
theorem restart_any_export_order {c : Chain} (h : CInv c) {l : List Lock} (hp : l.Perm c.s.locks) :
    (initializeAllLocks l).1 = c.s.locks ∧
    ∀ d k, accQuery (initializeAllLocks l).2 d k = accQuery c.s.acc d k := by
  refine ⟨storeLocks_perm h.sorted hp, fun d k => ?_⟩
  rw [initializeAllLocks_acc, h.inv.accum d k]
  exact congrArg Int.ofNat (total_perm _ hp)

/-- **this restart is C18's `importLockup ∘ exportLockup`** (Model/Genesis, Props/C18Modules): for every
    state, C18's genesis round trip of the encoded state (`embState`, any params code) yields the
    encoded lock section and the last id of `restart`, and the default params — the two models of
    x/lockup's ExportGenesis / InitGenesis are the same functions on what both represent -/
theorem restart_is_c18_import_export (params : Nat) (c : Chain) :
    (Genesis.importLockup (Genesis.exportLockup (embState params c.s))).lastLockId = (restart c).s.lastId ∧
    Genesis.exportVals (Genesis.importLockup (Genesis.exportLockup (embState params c.s))).locks =
      (restart c).s.locks.map embLock ∧
    (Genesis.importLockup (Genesis.exportLockup (embState params c.s))).params = Genesis.lockupDefaultParams := by
  have h2 := (embed_export params c.s).2
  simp only [Genesis.exportLockup] at h2 ⊢
  rw [h2]
  exact embed_import (exportGenesis c.s)

/-- the module writes `DefaultParams()` at import: minimum duration 0, the default creation fee, an
    empty force-unlock allow-list -/
theorem restart_resets_params (c : Chain) : (restart c).p = defaultParams c.p.feeDenom := rfl

/- **restart_preserves_params** (full statement — FALSE on the current code, recorded known finding
   `C18/queries/params.lockup-differs`):
     ∀ c, (restart c).p.minDur = c.p.minDur ∧ (restart c).p.fee = c.p.fee ∧ (restart c).p.allowed = c.p.allowed -/

theorem restart_preserves_params_partial (c : Chain) (hm : c.p.minDur = 0) (hf : c.p.fee = defaultLockFee)
    (ha : c.p.allowed = []) :
    (restart c).p.minDur = c.p.minDur ∧ (restart c).p.fee = c.p.fee ∧ (restart c).p.allowed = c.p.allowed := by
  rw [hm, hf, ha]; exact ⟨rfl, rfl, rfl⟩

/-- after a restart nobody can force-unlock (until the allow-list is set again) -/
theorem after_restart_nobody_force_unlocks (c : Chain) (a id : Nat) (co : Option (Denom × Nat)) :
    (cstep (restart c) (.msg (.force a id co))).1.s = (restart c).s ∧
    ∃ e, (cstep (restart c) (.msg (.force a id co))).2 = .err e :=
  force_unlock_needs_authorisation (restart c).p (restart c).s a id co (by simp [restart, defaultParams])

/-! ## one step of a chain's life: the clauses of Props/C14 -/

/-- a rejected operation changes nothing (restarts and parameter changes are never rejected) -/
theorem rejected_leaves_state_untouched_chain (c : Chain) (cop : COp) (e : Err)
    (hr : (cstep c cop).2 = .err e) : (cstep c cop).1.s = c.s ∧ (cstep c cop).1.p = c.p := by
  cases cop with
  | msg op => exact ⟨rejected_leaves_state_untouched c.p c.s op e hr, rfl⟩
  | restart | setParams => cases hr

/-- **coins never change hands**, restarts and parameter changes included: over any step the free
    balance plus the locked total of every account, per denom, is unchanged — except that an accepted
    `MsgLockTokens` costs its signer the lock fee *in force at that moment* -/
theorem owner_total_conserved_chain {c : Chain} (h : CInv c) (cop : COp) (a d : Nat) :
    (cstep c cop).1.s.bal a d + lockedOwner (cstep c cop).1.s.locks a d =
        c.s.bal a d + lockedOwner c.s.locks a d ∨
    (∃ d0 amt dur id, cop = .msg (.lock a d0 amt dur) ∧ (cstep c cop).2 = .ok id ∧ d = c.p.feeDenom ∧
      (cstep c cop).1.s.bal a d + lockedOwner (cstep c cop).1.s.locks a d + c.p.fee =
        c.s.bal a d + lockedOwner c.s.locks a d) := by
  cases cop with
  | msg op =>
    rcases owner_total_conserved c.p h.inv op a d with h1 | ⟨d0, amt, dur, id, rfl, h2, h3, h4⟩
    · exact Or.inl h1
    · exact Or.inr ⟨d0, amt, dur, id, rfl, h2, h3, h4⟩
  | restart | setParams =>
    left; rw [(cstep_nonmsg_frame h fun o => by nofun).1, (cstep_nonmsg_frame h fun o => by nofun).2.2.1]

/-- **exit only to the owner after the period**, restarts and parameter changes included: whatever
    one step does to an existing lock `l`, (1) its coins stay in it, or (2) its owner's partial
    begin-unlock split them, or (3) its owner, on the allow-list *in force at that moment*,
    force-unlocked it, or (4) the EndBlocker paid it out after `startedAt + duration = endTime <= now`.
    A restart and a parameter change are case (1): they do not touch any lock. -/
theorem exit_only_to_owner_after_period_chain {c : Chain} (h : CInv c) (cop : COp) {l : Lock}
    (hl : l ∈ c.s.locks) :
    (∃ l' ∈ (cstep c cop).1.s.locks, l'.id = l.id ∧ l'.owner = l.owner ∧ l'.denom = l.denom ∧
        l.amount ≤ l'.amount) ∨
    (∃ x l' n, cop = .msg (.unlock l.owner l.id (some (l.denom, x))) ∧ l' ∈ (cstep c cop).1.s.locks ∧
        n ∈ (cstep c cop).1.s.locks ∧ l'.id = l.id ∧ n.id = c.s.lastId + 1 ∧ l'.owner = l.owner ∧
        n.owner = l.owner ∧ l'.denom = l.denom ∧ n.denom = l.denom ∧ l'.amount + n.amount = l.amount) ∨
    (∃ co, cop = .msg (.force l.owner l.id co) ∧ l.owner ∈ c.p.allowed) ∨
    (cop = .msg .endBlock ∧ minHeightAutoWithdraw ≤ c.s.height ∧
      (∀ l' ∈ (cstep c cop).1.s.locks, l'.id ≠ l.id) ∧
      ∃ t0 e, l.startedAt = some t0 ∧ l.endTime = some e ∧ e = t0 + l.duration ∧ e ≤ c.s.now) := by
  cases cop with
  | msg op =>
    rcases exit_only_to_owner_after_period c.p h.inv op hl with h1 | ⟨x, l', n, rfl, h2⟩ | ⟨co, rfl, h3⟩ |
      ⟨rfl, h4⟩
    · exact Or.inl h1
    · exact Or.inr (Or.inl ⟨x, l', n, rfl, h2⟩)
    · exact Or.inr (Or.inr (Or.inl ⟨co, rfl, h3⟩))
    · exact Or.inr (Or.inr (Or.inr ⟨rfl, h4⟩))
  | restart | setParams =>
    exact Or.inl ⟨l, by rw [(cstep_nonmsg_frame h fun o => by nofun).1]; exact hl, rfl, rfl, rfl, Nat.le_refl _⟩

/-- locks appear only through their owner; a restart and a parameter change create none -/
theorem locks_appear_only_by_owner_chain {c : Chain} (h : CInv c) (cop : COp) {l' : Lock}
    (hl' : l' ∈ (cstep c cop).1.s.locks) :
    (∃ l ∈ c.s.locks, l.id = l'.id) ∨
    (l'.id = c.s.lastId + 1 ∧
      ((∃ amt, cop = .msg (.lock l'.owner l'.denom amt l'.duration) ∧ l'.endTime = none ∧
          l'.startedAt = none ∧ l'.amount = amt) ∨
       (∃ id x, cop = .msg (.unlock l'.owner id (some (l'.denom, x))) ∧
          l'.endTime = some (c.s.now + l'.duration) ∧ l'.startedAt = some c.s.now ∧ l'.amount = x))) := by
  cases cop with
  | msg op =>
    rcases locks_appear_only_by_owner c.p h.inv op hl' with h1 | ⟨hid, hc⟩
    · exact Or.inl h1
    · refine Or.inr ⟨hid, ?_⟩
      rcases hc with ⟨amt, rfl, a1, a2, a3, _⟩ | ⟨id, x, rfl, b1, b2, b3, _⟩
      · exact Or.inl ⟨amt, rfl, a1, a2, a3⟩
      · exact Or.inr ⟨id, x, rfl, b1, b2, b3⟩
  | restart | setParams =>
    rw [(cstep_nonmsg_frame h fun o => by nofun).1] at hl'
    exact Or.inl ⟨l', hl', rfl⟩

/-- the unlock clock is started only by the owner — never by a restart or a parameter change: a lock
    whose unlocking started at `t0` either already carried that start time, or `t0` is the current
    block time and the step is a begin-unlock signed by the lock's owner (end time = now + duration) -/
theorem unlock_started_only_by_owner_chain {c : Chain} (h : CInv c) (cop : COp) {l' : Lock}
    (hl' : l' ∈ (cstep c cop).1.s.locks) {t0 : Nat} (hs : l'.startedAt = some t0) :
    (∃ l ∈ c.s.locks, l.id = l'.id ∧ l.startedAt = some t0) ∨
    (t0 = c.s.now ∧ l'.endTime = some (c.s.now + l'.duration) ∧ ∃ id co, cop = .msg (.unlock l'.owner id co)) := by
  cases cop with
  | msg op =>
    rcases unlock_started_only_by_owner c.p h.inv op hl' hs with h1 | ⟨h2, h3, id, co, rfl⟩
    · exact Or.inl h1
    · exact Or.inr ⟨h2, h3, id, co, rfl⟩
  | restart | setParams =>
    rw [(cstep_nonmsg_frame h fun o => by nofun).1] at hl'
    exact Or.inl ⟨l', hl', rfl, hs⟩

/-- **durations only grow** (one step of a chain's life): a lock keeps its owner and denom, its
    duration never shrinks and changes only by its owner's `MsgExtendLockup`; an unlocking lock's end
    time and duration are frozen — across restarts, and whatever the minimum duration is changed to -/
theorem duration_monotone_chain {c : Chain} (h : CInv c) (cop : COp) {l l' : Lock}
    (hl : l ∈ c.s.locks) (hl' : l' ∈ (cstep c cop).1.s.locks) (hid : l'.id = l.id) :
    l'.owner = l.owner ∧ l'.denom = l.denom ∧ l.duration ≤ l'.duration ∧
    (l.duration < l'.duration → cop = .msg (.extend l.owner l.id l'.duration) ∧ l.endTime = none) ∧
    (∀ e, l.endTime = some e → l'.endTime = some e ∧ l'.duration = l.duration) := by
  have same : l' ∈ c.s.locks →
      l'.owner = l.owner ∧ l'.denom = l.denom ∧ l.duration ≤ l'.duration ∧
      (l.duration < l'.duration → cop = .msg (.extend l.owner l.id l'.duration) ∧ l.endTime = none) ∧
      (∀ e, l.endTime = some e → l'.endTime = some e ∧ l'.duration = l.duration) := fun hm => by
    have := eq_of_id_eq h.inv.nodup hm hl hid
    subst this
    exact ⟨rfl, rfl, Nat.le_refl _, fun hh => absurd hh (Nat.lt_irrefl _), fun e he => ⟨he, rfl⟩⟩
  cases cop with
  | msg op =>
    obtain ⟨a1, a2, a3, a4, a5⟩ := duration_monotone c.p h.inv op hl hl' hid
    exact ⟨a1, a2, a3, fun hh => ⟨by rw [(a4 hh).1], (a4 hh).2⟩, a5⟩
  | restart | setParams =>
    rw [(cstep_nonmsg_frame h fun o => by nofun).1] at hl'
    exact same hl'

theorem lastId_mono_chain {c : Chain} (h : CInv c) (cop : COp) : c.s.lastId ≤ (cstep c cop).1.s.lastId := by
  cases cop with
  | msg op => exact lastId_mono c.p h.inv op
  | restart | setParams => exact Nat.le_refl _

/-- ids are never reused, not even after a restart: an id at or below the counter that names no
    lock stays unused -/
theorem id_stays_gone_chain : ∀ (ops : List COp) {c : Chain}, CInv c → ∀ id, id ≤ c.s.lastId →
    (∀ x ∈ c.s.locks, x.id ≠ id) → ∀ x ∈ (crun c ops).s.locks, x.id ≠ id
  | [], _, _, _, _, hgone => hgone
  | op :: ops, c, h, id, hle, hgone => by
    apply id_stays_gone_chain ops (cstep_cinv h op) id (Nat.le_trans hle (lastId_mono_chain h op))
    intro x hx hxid
    rcases locks_appear_only_by_owner_chain h op hx with ⟨l, hl, hlid⟩ | ⟨hnew, _⟩
    · exact hgone l hl (by rw [hlid, hxid])
    · omega

/-- **durations only grow** (any history with restarts and parameter changes): a lock that still
    exists has its original owner and denom and a duration at least as long as before -/
theorem duration_monotone_crun : ∀ (ops : List COp) {c : Chain}, CInv c → ∀ {l l' : Lock},
    l ∈ c.s.locks → l' ∈ (crun c ops).s.locks → l'.id = l.id →
    l'.owner = l.owner ∧ l'.denom = l.denom ∧ l.duration ≤ l'.duration
  | [], c, h, l, l', hl, hl', hid => by
    have := eq_of_id_eq h.inv.nodup hl' hl hid
    subst this
    exact ⟨rfl, rfl, Nat.le_refl _⟩
  | op :: ops, c, h, l, l', hl, hl', hid => by
    have hinv1 := cstep_cinv h op
    by_cases hex : ∃ l1 ∈ (cstep c op).1.s.locks, l1.id = l.id
    · obtain ⟨l1, hl1, hid1⟩ := hex
      obtain ⟨a1, a2, a3, _⟩ := duration_monotone_chain h op hl hl1 hid1
      obtain ⟨b1, b2, b3⟩ := duration_monotone_crun ops hinv1 hl1 hl' (by rw [hid, hid1])
      exact ⟨by rw [b1, a1], by rw [b2, a2], Nat.le_trans a3 b3⟩
    · have hgone : ∀ x ∈ (cstep c op).1.s.locks, x.id ≠ l.id := fun x hx hxid => hex ⟨x, hx, hxid⟩
      have hle := Nat.le_trans (h.inv.idle l hl).2 (lastId_mono_chain h op)
      exact absurd hid (id_stays_gone_chain ops hinv1 l.id hle hgone l' hl')

/-- **until then no operation by anyone moves them**: an account's locked total of a denom goes down
    only at an EndBlocker or by that account's own force-unlock while it is on the allow-list in force;
    never by a restart or a parameter change -/
theorem locked_total_decreases_only_when_due_or_forced_chain {c : Chain} (h : CInv c) (cop : COp)
    (a d : Nat) (hdec : lockedOwner (cstep c cop).1.s.locks a d < lockedOwner c.s.locks a d) :
    cop = .msg .endBlock ∨ ∃ id co, cop = .msg (.force a id co) ∧ a ∈ c.p.allowed := by
  cases cop with
  | msg op =>
    rcases locked_total_decreases_only_when_due_or_forced c.p h.inv op a d hdec with rfl | ⟨id, co, rfl, ha⟩
    · exact Or.inl rfl
    · exact Or.inr ⟨id, co, rfl, ha⟩
  | restart | setParams =>
    rw [(cstep_nonmsg_frame h fun o => by nofun).1] at hdec
    exact absurd hdec (Nat.lt_irrefl _)

/-! ## parameter changes mid-history -/

theorem setParams_leaves_state_untouched (c : Chain) (m f : Nat) (al : List Actor) :
    (cstep c (.setParams m f al)).1.s = c.s := rfl

/-- the allow-list in force decides: whoever is not on it cannot force-unlock, own lock or not -/
theorem force_unlock_needs_authorisation_chain (c : Chain) (a id : Nat) (co : Option (Denom × Nat))
    (hna : a ∉ c.p.allowed) :
    (cstep c (.msg (.force a id co))).1.s = c.s ∧ ∃ e, (cstep c (.msg (.force a id co))).2 = .err e :=
  force_unlock_needs_authorisation c.p c.s a id co hna

/-- **an owner removed from the allow-list can no longer force-unlock**: after a parameter change
    whose allow-list does not contain `a`, every `MsgForceUnlock` of `a` is rejected, state unchanged -/
theorem removed_from_allow_list_cannot_force_unlock (c : Chain) (m f : Nat) (al : List Actor) (a id : Nat)
    (co : Option (Denom × Nat)) (hna : a ∉ al) :
    (cstep (cstep c (.setParams m f al)).1 (.msg (.force a id co))).1.s = c.s ∧
    ∃ e, (cstep (cstep c (.setParams m f al)).1 (.msg (.force a id co))).2 = .err e :=
  force_unlock_needs_authorisation_chain (cstep c (.setParams m f al)).1 a id co hna

/-- the minimum in force decides: a new lock below it is refused -/
theorem min_duration_enforced_chain (c : Chain) (a d amt dur : Nat) (hlt : dur < c.p.minDur) :
    (cstep c (.msg (.lock a d amt dur))).1.s = c.s ∧ ∃ e, (cstep c (.msg (.lock a d amt dur))).2 = .err e :=
  min_duration_enforced c.p c.s a d amt dur hlt

/-- **existing locks shorter than a raised minimum stay valid and still unlock** (1): whatever the
    parameters are changed to, an existing not-unlocking lock is still there and its owner's
    begin-unlock is accepted; the lock then matures after its own (old, short) duration -/
theorem short_lock_survives_raised_minimum {c : Chain} (h : CInv c) {l : Lock} (hl : l ∈ c.s.locks)
    (hn : l.endTime = none) (m f : Nat) (al : List Actor) :
    l ∈ (cstep c (.setParams m f al)).1.s.locks ∧
    (cstep (cstep c (.setParams m f al)).1 (.msg (.unlock l.owner l.id none))).2 = .ok l.id ∧
    { l with endTime := some (c.s.now + l.duration), startedAt := some c.s.now } ∈
      (cstep (cstep c (.setParams m f al)).1 (.msg (.unlock l.owner l.id none))).1.s.locks := by
  have key := beginUnlocking_full (findLock_of_mem h.inv.nodup hl) (h.inv.idle l hl).1 hn
  refine ⟨hl, ?_, ?_⟩
  · show (beginUnlocking c.s l.owner l.id none).2 = .ok l.id
    rw [key]
  · show _ ∈ (beginUnlocking c.s l.owner l.id none).1.locks
    rw [key]
    exact mem_setLock_new hl rfl

/-- **… and still unlock** (2): whatever the parameters have become, an unlocking lock whose end time
    has come is removed by the next EndBlocker (height >= 6) and its coins are in its owner's balance -/
theorem unlocking_lock_is_paid_out_when_due {c : Chain} (h : CInv c) {l : Lock} (hl : l ∈ c.s.locks)
    {e : Nat} (he : l.endTime = some e) (hdue : e ≤ c.s.now) (hh : minHeightAutoWithdraw ≤ c.s.height) :
    (∀ x ∈ (cstep c (.msg .endBlock)).1.s.locks, x.id ≠ l.id) ∧
    c.s.bal l.owner l.denom + l.amount ≤ (cstep c (.msg .endBlock)).1.s.bal l.owner l.denom := by
  obtain ⟨hlocks, hbal⟩ := (endBlock_returns_exactly_the_matured c.p h.inv).1 hh
  have hm : matured c.s.now l = true := (matured_iff c.s.now l).mpr ⟨e, he, hdue⟩
  constructor
  · intro x hx hxid
    have hx' : x ∈ (step c.p c.s .endBlock).1.locks := hx
    rw [hlocks, List.mem_filter] at hx'
    have := eq_of_id_eq h.inv.nodup hx'.1 hl hxid
    subst this
    simp [hm] at hx'
  · show _ ≤ (step c.p c.s .endBlock).1.bal l.owner l.denom
    rw [hbal l.owner l.denom]
    have := le_total_of_mem (fun x => matured c.s.now x && (x.owner == l.owner && x.denom == l.denom)) c.s.locks l hl
    simp only [weight, hm, beq_self_eq_true, Bool.and_self, if_true] at this
    omega

/-! ## non-vacuity and counterexamples

  `pBig`: minimum duration 5, fee 7, actor 1 on the allow-list, fee denom 0; everybody owns 10^18 of
  every denom (the default fee of 5·10^16 written by a restart must be payable); height 6, time 0. -/

def pBig : Params := ⟨5, 7, [1], 0⟩
def cBig : Chain := cinit pBig (fun _ _ => 1000000000000000000) 0 6

/-- two locks of the same denom AND the same duration (different owners), a third of another duration,
    a split (partial begin-unlock): then a restart -/
def opsBig : List COp :=
  [.msg (.lock 0 0 100 10), .msg (.lock 1 0 50 10), .msg (.lock 0 0 30 20), .msg (.unlock 0 1 (some (0, 40))),
   .restart]

example : CInv cBig := cinit_cinv _ _ _ _
example : ((crun cBig opsBig).s.locks.map (fun l => (l.id, l.owner, l.duration, l.endTime, l.denom, l.amount)))
    = [(1, 0, 10, none, 0, 60), (2, 1, 10, none, 0, 50), (3, 0, 20, none, 0, 30), (4, 0, 10, some 10, 0, 40)] := by decide +kernel
-- the export is in reference order (not-unlocking by (duration, id), then unlocking), not in id order
example : ((exportGenesis (crun cBig (opsBig.dropLast)).s).locks.map (·.id)) = [1, 2, 3, 4] := by decide +kernel
example : ((exportGenesis (crun cBig [.msg (.lock 0 0 100 20), .msg (.lock 1 0 50 10), .msg (.unlock 0 1 none),
    .msg (.lock 0 0 7 30)]).s).locks.map (·.id)) = [2, 3, 1] := by decide +kernel
-- the rebuilt accumulation store: three locks share (denom 0, duration 10): 60 + 50 + 40
example : (accQuery (crun cBig opsBig).s.acc 0 10, accQuery (crun cBig opsBig).s.acc 0 11,
           accQuery (crun cBig opsBig).s.acc 0 20, accQuery (crun cBig opsBig).s.acc 0 21) = (180, 30, 30, 0) := by decide +kernel
example : (crun cBig opsBig).s.acc = [⟨0, 10, 150⟩, ⟨0, 20, 30⟩] := by decide +kernel
example : (crun cBig opsBig).s.modBal 0 = 180 ∧ (crun cBig opsBig).s.lastId = 4 := by decide +kernel
-- … and the chain goes on: top-up of lock 1, extend, maturity of the split lock 4 at its old end time
example : ((crun cBig (opsBig ++ [.setParams 5 7 [1], .msg (.lock 0 0 5 10), .msg (.extend 1 2 15), .msg (.beginBlock 10),
    .msg .endBlock])).s.locks.map (fun l => (l.id, l.duration, l.amount))) = [(1, 10, 65), (2, 15, 50), (3, 20, 30)] := by decide +kernel
example : (accQuery (crun cBig (opsBig ++ [.setParams 5 7 [1], .msg (.lock 0 0 5 10), .msg (.extend 1 2 15), .msg (.beginBlock 10),
    .msg .endBlock])).s.acc 0 10, accQuery (crun cBig (opsBig ++ [.setParams 5 7 [1], .msg (.lock 0 0 5 10), .msg (.extend 1 2 15),
    .msg (.beginBlock 10), .msg .endBlock])).s.acc 0 11) = (145, 80) := by decide +kernel

/-- the params do not survive a restart: minimum duration, fee and allow-list all change -/
theorem restart_preserves_params_counterexample :
    ∃ c, CInv c ∧ (restart c).p.minDur ≠ c.p.minDur ∧ (restart c).p.fee ≠ c.p.fee ∧
      (restart c).p.allowed ≠ c.p.allowed :=
  ⟨cBig, cinit_cinv _ _ _ _, by decide, by decide, by decide⟩

/-- consequences on the same chain: before the restart a lock of duration 4 < 5 is refused and the
    allow-listed actor 1 can force-unlock its lock 2; after the restart the short lock is accepted (at
    the default fee) and actor 1's force-unlock is refused -/
theorem restart_forgets_minimum_and_allow_list_counterexample :
    (cstep (crun cBig opsBig.dropLast) (.msg (.lock 0 0 100 4))).2 = .err .belowMin ∧
    (cstep (crun cBig opsBig) (.msg (.lock 0 0 100 4))).2 = .ok 5 ∧
    (cstep (crun cBig opsBig.dropLast) (.msg (.force 1 2 none))).2 = .ok 0 ∧
    (cstep (crun cBig opsBig) (.msg (.force 1 2 none))).2 = .err .notAllowed ∧
    (cstep (crun cBig opsBig) (.msg (.lock 0 0 100 4))).1.s.bal 0 0 + 50000000000000000 + 100 =
      (crun cBig opsBig).s.bal 0 0 := by decide +kernel

-- parameter changes mid-history: actor 1 is taken off the allow-list, the minimum is raised to 100
example : (cstep (crun cBig (opsBig.dropLast ++ [.setParams 100 7 []])) (.msg (.force 1 2 none))).2 = .err .notAllowed := by decide +kernel
example : (cstep (crun cBig (opsBig.dropLast ++ [.setParams 100 7 [0]])) (.msg (.force 0 1 none))).2 = .ok 0 := by decide +kernel
-- lock 2 (duration 10 < 100) is still there, cannot be topped up or copied, but unlocks and is paid out
example : (cstep (crun cBig (opsBig.dropLast ++ [.setParams 100 7 []])) (.msg (.lock 1 0 5 10))).2 = .err .belowMin := by decide +kernel
example : ((crun cBig (opsBig.dropLast ++ [.setParams 100 7 [], .msg (.unlock 1 2 none), .msg (.beginBlock 10), .msg .endBlock])).s.locks.map (·.id))
    = [1, 3] := by decide +kernel
example : (crun cBig (opsBig.dropLast ++ [.setParams 100 7 [], .msg (.unlock 1 2 none), .msg (.beginBlock 10), .msg .endBlock])).s.bal 1 0
    = 1000000000000000000 - 7 := by decide +kernel
-- a fee change applies to the next lock only
example : (crun cBig [.msg (.lock 0 1 10 10), .setParams 5 1000 [], .msg (.lock 0 1 10 10)]).s.bal 0 0
    = 1000000000000000000 - 7 - 1000 := by decide +kernel

end DymVerif.C14
