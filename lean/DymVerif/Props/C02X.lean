/-
  Props/C02X — C02 (finalization only after the dispute period, in order, irreversible, unstarved):
  the frame of the rollapp `EndBlock`, exported as a property theorem.  An `end_` op — with any
  failure oracle — changes nothing of a rollapp but the finalization flags of its states (with the
  ghost finalization height), the latest finalized index and the liveness event height.
  Theorems over M-Core for every parameter value and every operation sequence (`run p ops`).
-/
import DymVerif.Props.C02
import DymVerif.Lemmas.CoreXFrame
namespace DymVerif.C02X
open DymVerif DymVerif.Core DymVerif.Core.XUpd

/-- **`EndBlock` frame.**  For every reachable state `run p ops` and every failure oracle `f`, after
    `end_ f`:
      * the rollapp ids are the same, in the same order (no rollapp created or removed);
      * every rollapp record `r` survives as a record `r'` with the same number of states;
      * every state of `r'` is either identical to the state at the same position of `r` — all
        fields, `next` included — or that state was unfinalized and the new one is
        `{ st with finalized := true, finalizedAt := block height }`: nothing else of a state changes;
      * the latest finalized index does not decrease and stays within the states;
      * owner, minimum bond, launched flag, revisions, `TransferProofHeight`, liveness countdown start,
        proposer and successor are unchanged (`EndBlock` — finalization and the liveness slashing —
        never replaces a proposer and never forks; of the record it writes only the states'
        finalization data, `lastFin` and the liveness event height `evH`). -/
theorem end_block_frame (p : Params) (ops : List Op) (f : List (Nat × Nat)) :
    (run p (ops ++ [.end_ f])).ras.map (·.id) = (run p ops).ras.map (·.id) ∧
    ∀ id r, getRa (run p ops) id = some r →
      ∃ r', getRa (run p (ops ++ [.end_ f])) id = some r' ∧
        r'.states.length = r.states.length ∧
        (∀ (i : Nat) (st : SInfo), r.states[i]? = some st → ∃ st', r'.states[i]? = some st' ∧
          (st' = st ∨ (st.finalized = false ∧ st' = { st with finalized := true, finalizedAt := (run p ops).h }))) ∧
        r.lastFin ≤ r'.lastFin ∧ r'.lastFin ≤ r'.states.length ∧
        r'.owner = r.owner ∧ r'.minBond = r.minBond ∧ r'.launched = r.launched ∧ r'.revs = r.revs ∧
        r'.tph = r.tph ∧ r'.cdStart = r.cdStart ∧ r'.proposer = r.proposer ∧ r'.successor = r.successor := by
  have hrun : run p (ops ++ [.end_ f]) = endBlock (run p ops) f := by
    rw [run_append]; rfl
  rw [hrun]
  constructor
  · exact endBlock_ids_eq f (run_chain p ops) (run_fin p ops)
  · intro id r hg
    obtain ⟨r', h1, h2, h3, h4, h5, h6⟩ := endBlock_rec f (run_fin p ops) hg
    obtain ⟨_, k2, k3, k4, k5, k6, k7, k8, k9⟩ := endKey_fields h6
    exact ⟨r', h1, h2, h3, h4, h5, k2, k3, k4, k5, k6, k7, k8, k9⟩

/-- corollary, backward reading: no state appears, disappears or moves at an `end_` op, and a state
    that is unfinalized afterwards is bit-for-bit the state before -/
theorem end_block_pending_untouched (p : Params) (ops : List Op) (f : List (Nat × Nat)) (id : Nat) (r r' : Rollapp)
    (hg : getRa (run p ops) id = some r) (hg' : getRa (run p (ops ++ [.end_ f])) id = some r')
    (i : Nat) (st' : SInfo) (hst' : r'.states[i]? = some st') (hnf : st'.finalized = false) :
    r.states[i]? = some st' := by
  obtain ⟨r2, h1, hlen, hst, _⟩ := (end_block_frame p ops f).2 id r hg
  rw [hg'] at h1; injection h1 with h1; subst h1
  have hlt : i < r.states.length := by rw [← hlen]; exact getElem?_lt hst'
  obtain ⟨st2, h2, hc⟩ := hst i r.states[i] (List.getElem?_eq_getElem hlt)
  rw [hst'] at h2; injection h2 with h2; subst h2
  rcases hc with hc | ⟨_, hc⟩
  · rw [hc]; exact List.getElem?_eq_getElem hlt
  · rw [hc] at hnf; cases hnf

/-- the records without the states, `lastFin` and `evH` -/
def recView (s : St) := s.ras.map fun r => (r.id, r.proposer, r.successor, r.tph, r.cdStart)
def revsView (s : St) := s.ras.map fun r => r.revs
/-- the states without their finalization data -/
def stView (s : St) := s.ras.map fun r => r.states.map fun st => (st.start, st.num, st.next)

-- the history of Props/C02 (two rollapps, three + one pending states, dispute period 2, block 3):
-- an `end_` with an injected failure finalizes part of the states and changes nothing of the frame
example : recView (run (C02.exParams 2) (C02.exOps ++ [.end_ [(0, 2)]])) = recView (run (C02.exParams 2) C02.exOps) := by decide +kernel
example : revsView (run (C02.exParams 2) (C02.exOps ++ [.end_ [(0, 2)]])) = revsView (run (C02.exParams 2) C02.exOps) := by decide +kernel
example : stView (run (C02.exParams 2) (C02.exOps ++ [.end_ [(0, 2)]])) = stView (run (C02.exParams 2) C02.exOps) := by decide +kernel
example : C02.view (run (C02.exParams 2) (C02.exOps ++ [.end_ [(0, 2)]])) ≠ C02.view (run (C02.exParams 2) C02.exOps) := by decide +kernel
-- the same through a liveness slash in the same `EndBlock` (LivenessSlashBlocks = 1: the event is due at block 3)
def exParamsL : Params := { C02.exParams 2 with lsBlocks := 1, lsInterval := 1, lsAbs := 1 }
example : recView (run exParamsL (C02.exOps ++ [.end_ []])) = recView (run exParamsL C02.exOps) := by decide +kernel
example : stView (run exParamsL (C02.exOps ++ [.end_ []])) = stView (run exParamsL C02.exOps) := by decide +kernel
example : ((run exParamsL (C02.exOps ++ [.end_ []])).seqs.map (·.tokens)) ≠ ((run exParamsL C02.exOps).seqs.map (·.tokens)) := by decide +kernel

end DymVerif.C02X
