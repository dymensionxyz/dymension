/-
  Props/C17Rollapp — C17 across a RollApp ownership transfer (x/rollapp `MsgTransferOwnership`).
  x/dymns never stores who owns a RollApp: `IsRollAppCreator` reads `rollapp.Owner` at the moment of
  every alias message.  The transfer therefore hands over, together with the RollApp, its aliases
  and every open sell order and buy order on them, unchanged:
  * `IsRollAppCreator` accepts the new owner and only him (`rollapp_transfer_exact`), so the previous
    owner's cancellation of an order he placed is refused (`alias_order_after_transfer`);
  * a completed sale pays exactly the winning amount to the account that owns the source RollApp
    WHEN THE SALE COMPLETES (`sale_exact_complete_alias` in Props/C17 holds in every state) — after a
    transfer that is the new owner, not the account that placed the order
    (`alias_sale_after_transfer_pays_current_owner`, witness `cxTransfer`).
  Reading "the seller" of C17 as "the owner of the asset when the sale completes", `sale_exact` holds
  across transfers; reading it as "the account that placed the order" it does not
  (`alias_order_seller_counterexample`).
-/
import DymVerif.Props.C17
import DymVerif.Lemmas.DymNSAliasSO
namespace DymVerif.C17
open DymVerif DymVerif.DymNS

/-- **what a RollApp ownership transfer changes**: the owner field of that RollApp and nothing else —
    in particular no alias, no sell order, no bid, no buy order, no balance; from then on
    `IsRollAppCreator` accepts the new owner and only him -/
theorem rollapp_transfer_exact {s s' : State} {a b : Acct} {c : Chain} (h : exec s (.transferRollapp a c b) = .ok s') :
    ∃ r, AMap.get s.al.rollapps c = some r ∧ r.owner = a ∧ a ≠ b ∧
      AMap.get s'.al.rollapps c = some { r with owner := b } ∧
      (∀ c', c' ≠ c → AMap.get s'.al.rollapps c' = AMap.get s.al.rollapps c') ∧
      s'.al.aliasTo = s.al.aliasTo ∧ s'.al.aliasesOf = s.al.aliasesOf ∧ s'.aliasSO = s.aliasSO ∧
      s'.nameSO = s.nameSO ∧ s'.bos = s.bos ∧ s'.bal = s.bal ∧ s'.modBal = s.modBal ∧ s'.ns = s.ns ∧ s'.p = s.p ∧
      (∀ x, isCreator s' c x = decide (x = b)) := by
  cases exec_step h with
  | @transferRollapp r _ _ hr hne =>
    refine ⟨r, hr, rfl, hne, by simp [withRollapp], fun c' hc' => by simp [withRollapp, AMap.get_set, hc'],
      rfl, rfl, rfl, rfl, rfl, rfl, rfl, rfl, rfl, fun x => ?_⟩
    simp only [isCreator, withRollapp, AMap.get_set_self]
    by_cases hx : x = b
    · simp [hx]
    · have : ¬ b = x := fun e => hx e.symm
      simp [hx, this]

/-- **who may cancel, who is paid**: after the transfer of RollApp `c` from `a` to `b`, for an alias
    of `c` with an open sell order: the previous owner's cancellation is refused; and a completion that
    sells pays exactly the highest bid to `b` — whoever placed the order -/
theorem alias_order_after_transfer {s s' : State} {a b : Acct} {c : Chain} {l : AliasId}
    (h : exec s (.transferRollapp a c b) = .ok s') (hl : AMap.get s.al.aliasTo l = some c) :
    (∃ e, cancelAliasSO s' a l = .error e) ∧
    ∀ x s'', completeAliasSOMsg s' x l = .ok s'' → (reserved s'.p l || !s'.p.tradeAlias) = false →
      ∃ so bid, AMap.get s.aliasSO l = some so ∧ so.bid = some bid ∧
        ∀ y, balOf s'' y = balOf s' y + (if y = b then bid.price else 0) := by
  obtain ⟨r, hr, ho, hne, hr', _, hto, _, hso, _, _, _, _, _, _, hcr⟩ := rollapp_transfer_exact h
  constructor
  · have hna : isCreator s' c a = false := by rw [hcr]; simp [hne]
    unfold cancelAliasSO
    rw [hto, hl]
    simp [hna, chk, bind, Except.bind]
  · intro x s'' hc hsell
    obtain ⟨so, bid, hso', hb, _, _, hres⟩ := sale_exact_complete_alias hc
    rw [hsell] at hres
    simp only [Bool.false_eq_true, if_false] at hres
    obtain ⟨src, r2, hsrc, hr2, _, hbal⟩ := hres
    rw [hto, hl] at hsrc
    injection hsrc with hsrc; subst hsrc
    rw [hr'] at hr2; injection hr2 with hr2; subst hr2
    exact ⟨so, bid, by rw [← hso]; exact hso', hb, hbal⟩

/-- **every open alias sell order stays attached to a registered RollApp** — in every reachable state,
    whatever was transferred, migrated or re-parametrised in between: a completion always finds the
    account to pay (`sale_exact_complete_alias`: the owner of that RollApp at that moment) -/
theorem alias_order_attached (p : Params) (t : Nat) (ops : List Op) (l : AliasId) (so : SellOrder)
    (h : AMap.get (run (State.start p t) ops).aliasSO l = some so) :
    ∃ src r, AMap.get (run (State.start p t) ops).al.aliasTo l = some src ∧
      AMap.get (run (State.start p t) ops).al.rollapps src = some r := by
  obtain ⟨src, r, h1, h2, _⟩ := run_asook ops (start_inv p t) (start_asook false p t) (fun e => by cases e) l so h
  exact ⟨src, r, h1, h2⟩

/-- **alias_order_seller_partial**: in every history WITHOUT a RollApp ownership transfer, every open
    alias sell order was placed by the current owner of the alias' RollApp — the account a completion
    pays and the only one that may cancel.  (Full statement, for all histories: fails, see
    `alias_order_seller_counterexample` below; what holds in general is `alias_order_attached`
    together with `alias_order_after_transfer`.) -/
theorem alias_order_seller_partial (p : Params) (t : Nat) (ops : List Op)
    (hops : ∀ op ∈ ops, ∀ x c y, op ≠ .transferRollapp x c y) (l : AliasId) (so : SellOrder)
    (h : AMap.get (run (State.start p t) ops).aliasSO l = some so) :
    ∃ src r, AMap.get (run (State.start p t) ops).al.aliasTo l = some src ∧
      AMap.get (run (State.start p t) ops).al.rollapps src = some r ∧ so.seller = r.owner := by
  obtain ⟨src, r, h1, h2, h3⟩ := run_asook ops (start_inv p t) (start_asook true p t) (fun _ => hops) l so h
  exact ⟨src, r, h1, h2, h3 rfl⟩

/-- a0 creates RollApp 1 (alias 0), a1 creates RollApp 2 (alias 1); a0 lists alias 0, a1 bids 3 for
    RollApp 2; a0 transfers RollApp 1 to a2; the order runs out and the bidder completes it -/
def cxTransfer : State := run (State.start cxParams 1000)
  [.fund 0 100, .fund 1 100, .createRollapp 0 1 1 0, .createRollapp 1 2 2 1, .sellAlias 0 0 2 0, .buyAlias 1 0 3 2,
   .transferRollapp 0 1 2, .advance 11]

/-- **alias_sale_after_transfer_pays_current_owner**: the order was placed by a0 (ghost field
    `seller`); after the transfer a0's cancel leaves his balance as it is and his complete leaves the order
    open (both are refused: `alias_order_after_transfer` for the cancel); the bidder's completion pays the bid
    of 3 to a2, the owner of the source RollApp at that moment, a0 receives nothing; the alias moves
    to the bidder's RollApp and the escrow is empty again -/
theorem alias_sale_after_transfer_pays_current_owner :
    (AMap.get cxTransfer.aliasSO 0).map (·.seller) = some 0 ∧
    balOf (step cxTransfer (.cancelSellAlias 0 0)) 0 = balOf cxTransfer 0 ∧
    (AMap.get (step cxTransfer (.completeAlias 0 0)).aliasSO 0).isSome = true ∧
    balOf (step cxTransfer (.completeAlias 1 0)) 2 = balOf cxTransfer 2 + 3 ∧
    balOf (step cxTransfer (.completeAlias 1 0)) 0 = balOf cxTransfer 0 ∧
    AMap.get (step cxTransfer (.completeAlias 1 0)).al.aliasTo 0 = some 2 ∧
    (step cxTransfer (.completeAlias 1 0)).modBal = 0 := by decide +kernel

/-- **alias_order_seller_counterexample**: "every open alias sell order was placed by the current
    owner of the alias' RollApp" — true of Dym-Name orders in every reachable state (`SOOK`), and of
    alias orders in histories without a RollApp transfer — fails after a transfer -/
theorem alias_order_seller_counterexample :
    ∃ so r, AMap.get cxTransfer.aliasSO 0 = some so ∧ AMap.get cxTransfer.al.aliasTo 0 = some 1 ∧
      AMap.get cxTransfer.al.rollapps 1 = some r ∧ so.seller ≠ r.owner :=
  ⟨⟨0, 1010, 2, 0, some ⟨1, 3, 2⟩⟩, ⟨2, 1⟩, by decide +kernel, by decide +kernel, by decide +kernel, by decide +kernel⟩

end DymVerif.C17
