/-
  Props/C19Ws — rollapp ids as `MsgCreateRollapp` registers them.  `NewChainID` trims the id before it
  matches the chain-id pattern, while the message, `SetRollapp` and every key builder use the text as
  sent.  Full statement (FALSE of the code as it is):

      ∀ id, createIdOk id = true → validRollappId id = true

  i.e. "a registered rollapp id is a chain id", the assumption under which the C19 scan theorems are
  stated (`Keys.validRollappId`).  It holds for ids without surrounding white space
  (`registered_id_valid_partial`); `registered_id_untrimmed_counterexample` is the witness the harness
  reproduces on the real keeper (known findings C19/rollapp_id/registered-with-surrounding-white-space,
  C19/prefix_scan/rollapp-by-name-misses-registered-rollapp, C19/rollapp_id/two-rollapps-one-name).
-/
import DymVerif.Props.C19X
import DymVerif.Lemmas.KeysAddr
namespace DymVerif.C19
open DymVerif DymVerif.Keys

/-- a chain id has no white space to trim -/
theorem valid_rollapp_id_trimmed (id : Bytes) (h : validRollappId id = true) : trimSpace id = id := by
  refine trimSpace_id fun c hm => ?_
  have := valid_rollapp_id_chars id h c hm
  simp only [isSpaceC, Bool.or_eq_false_iff, Bool.and_eq_false_iff, beq_eq_false_iff_ne, decide_eq_false_iff_not]
  omega

/-- an id that `MsgCreateRollapp` accepts and that has no surrounding white space is a
    chain id with revision 1 -/
theorem registered_id_valid_partial (id : Bytes) (h : createIdOk id = true) (ht : trimSpace id = id) :
    validRollappId id = true ∧ rollappRev id = 1 := by
  simp only [createIdOk, newChainIDOk, ht, Bool.and_eq_true, beq_iff_eq] at h
  exact h

/-- … and conversely every chain id with revision 1 is accepted -/
theorem valid_id_is_registrable (id : Bytes) (h : validRollappId id = true) (hr : rollappRev id = 1) :
    createIdOk id = true := by
  simp [createIdOk, newChainIDOk, valid_rollapp_id_trimmed id h, h, hr]

/-- " abc_1-1" -/
def wsId : Bytes := [32, 97, 98, 99, 95, 49, 45, 49]
/-- "abc_1-1" -/
def trimmedId : Bytes := [97, 98, 99, 95, 49, 45, 49]
/-- "abc_2-1" -/
def sameNameId : Bytes := [97, 98, 99, 95, 50, 45, 49]

/-- the counterexample: `MsgCreateRollapp` accepts " abc_1-1"; it is no chain id; it is keyed as sent,
    so the lookup of the ChainID it validates to ("abc_1-1") misses it, the name scan `abc_` of
    `GetRollappByName` / `CheckIfRollappExists` misses it, and "abc_2-1" — the same name — is
    registrable next to it -/
theorem registered_id_untrimmed_counterexample :
    createIdOk wsId = true ∧ validRollappId wsId = false ∧ trimSpace wsId = trimmedId ∧
      rollappKey wsId ≠ rollappKey trimmedId ∧
      isPrefix (rollappByNamePrefix (rollappName (trimSpace wsId))) (rollappKey wsId) = false ∧
      createIdOk sameNameId = true ∧ rollappExistsAfter wsId sameNameId = false ∧
      rollappName (trimSpace sameNameId) = rollappName (trimSpace wsId) := by decide +kernel

/-- with a chain id in the store the same-name check does what it is there for: any id of the same
    name (whatever white space surrounds it) is found to exist -/
theorem same_name_refused (stored id2 : Bytes) (h1 : validRollappId stored = true) (h2 : newChainIDOk id2 = true)
    (hn : rollappName (trimSpace id2) = rollappName stored) : rollappExistsAfter stored id2 = true := by
  obtain ⟨_, _, hno, _⟩ := valid_rollapp_id_name (trimSpace id2) h2
  have := rollapp_by_name_scan_exact (rollappName (trimSpace id2)) stored hno h1
  simp only [rollappExistsAfter, Bool.or_eq_true]
  right
  rw [this]; simp [hn]

example : createIdOk trimmedId = true ∧ rollappExistsAfter trimmedId sameNameId = true := by decide +kernel

end DymVerif.C19
