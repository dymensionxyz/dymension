/-
  Props/C11 — block processing never fails, whatever users have put on chain.

  Full statement (given): for every state reachable through user and governance messages, the hub's
  begin-block and end-block processing completes without returning an error and without panicking,
  so no single rollapp, sequencer, gauge, stream, lock, name or account can stop the chain from
  producing blocks; a failure while processing one item (finalizing one state, slashing one
  sequencer, paying one recipient, unlocking one lock) is confined to that item.

  What is proved here, per blocker (all for EVERY history of the respective model, no bounds):
    x/sequencer BeginBlock .......... `begin_block_never_fails`   (error channel: Model/CoreBlocks)
    x/rollapp EndBlock .............. `block_never_fails` (any per-item failure oracle),
                                      `finalization_failure_confined`, `finalization_of_others_completes`,
                                      `liveness_slash_never_fails`, `liveness_failure_confined`
    x/lockup EndBlock ............... `lockup_end_block_never_fails`
    x/streamer + x/incentives ....... Props/C11Incent (epoch-end distribution, per-gauge isolation)
  Blockers / epoch hooks whose logic is not modelled as a block-level theorem (dymns, sponsorship and
  delayedack epoch hooks run inside the epochs module's panic/error-isolating wrapper) are covered by
  the correspondence side only: every package harness reports any error or panic of
  `BeginBlocker` / `EndBlocker` / an epoch hook as a `C11/…` violation (see harness/c11_test.go).
-/
import DymVerif.Lemmas.CoreBlocks
import DymVerif.Props.C02
import DymVerif.Props.C08
import DymVerif.Props.C14
import DymVerif.Lemmas.CoreOwners
namespace DymVerif.C11
open DymVerif DymVerif.Core DymVerif.Core.Roles

/-- every notice-queue entry of a reachable state is backed by a sequencer record (roles invariant) -/
theorem run_nq_backed (p : Params) (hp : 0 < p.noticePeriod) (ops : List Op) :
    ∀ t a, (t, a) ∈ (run p ops).nq → ∃ q, getSeq (run p ops) a = some q := by
  intro t a h
  obtain ⟨q, _, hq, _⟩ := (run_roles p hp ops).core.nq t a h
  exact ⟨q, hq⟩

/-- **x/sequencer BeginBlock never returns an error**: in every reachable state of M-Core (any
    parameters with a positive notice period — `Params.ValidateBasic` — any operation sequence: user
    messages, governance fraud proposals, blocks) and for every block time step. The only error path
    of the Go code ("sequencer in notice queue but missing sequencer object") is excluded by the
    roles invariant: every queue entry is written together with its sequencer's notice time, and
    sequencer records are never deleted. -/
theorem begin_block_never_fails (p : Params) (hp : 0 < p.noticePeriod) (ops : List Op) (dt : Nat) :
    beginBlockE (run p ops) dt = .ok (beginBlock (run p ops) dt) :=
  beginBlockE_ok _ _ (run_nq_backed p hp ops)

/-- the hypothesis is needed: a queue entry without a record makes the real BeginBlock fail -/
theorem begin_block_fails_on_dangling_entry : ∃ s : St, ∃ dt, beginBlockE s dt = .error .internal :=
  beginBlockE_fails_without_record

/-- **a whole block never fails**, whichever items fail inside it: for every reachable state, every
    time step and EVERY failure oracle of the finalization loop (any set of (rollapp, index) pairs
    whose `finalizePendingState` errors or panics), begin + end complete. -/
theorem block_never_fails (p : Params) (hp : 0 < p.noticePeriod) (ops : List Op) (dt : Nat) (fails : List (Nat × Nat)) :
    blockE (run p ops) dt fails = .ok (endBlock (beginBlock (run p ops) dt) fails) :=
  blockE_ok _ _ _ (run_nq_backed p hp ops)

/-- **a finalization failure is confined to its rollapp** (C02 `failure_isolated`): a rollapp none of
    whose due indices fails ends the block with exactly the record it has when nothing fails -/
theorem finalization_failure_confined (p : Params) (ops : List Op) (fails : List (Nat × Nat)) (id : Nat)
    (hno : ∀ e ∈ (run p ops).queue, e.ra = id → e.ch + p.dispute ≤ (run p ops).h → ∀ j ∈ e.idx, (id, j) ∉ fails) :
    getRa (run p (ops ++ [.end_ fails])) id = getRa (run p (ops ++ [.end_ []])) id :=
  C02.failure_isolated p ops fails id hno

/-- … and the others are really processed (C02 `finalize_complete`): every due pending state of a
    rollapp whose own earlier indices do not fail is finalized in this block -/
theorem finalization_of_others_completes (p : Params) (ops : List Op) (fails : List (Nat × Nat))
    (r : Rollapp) (hr : r ∈ (run p ops).ras) (i : Nat) (st : SInfo) (hst : r.states[i]? = some st)
    (hnf : st.finalized = false) (hdue : st.creationHeight + p.dispute ≤ (run p ops).h)
    (hok : ∀ j, r.lastFin < j → j ≤ i + 1 → (r.id, j) ∉ fails) :
    ∃ r', getRa (run p (ops ++ [.end_ fails])) r.id = some r' ∧
      r'.states[i]? = some { st with finalized := true, finalizedAt := (run p ops).h } :=
  C02.finalize_complete p ops fails r hr i st hst hnf hdue hok

/-- the liveness slash of a due event never fails in a reachable state (C08) -/
theorem liveness_slash_never_fails (p : Params) (ops : List Op) (r : Rollapp) :
    ∃ s1, slashLiveness (run p ops) r = .ok s1 := C08.slash_never_fails p ops r

/-- … and if it did, the failure would be confined to that event: handling it leaves the state exactly as
    it was -/
theorem liveness_failure_confined (s : St) (ra : Nat) (r : Rollapp) (e : Err)
    (hg : getRa s ra = some r) (hf : slashLiveness s r = .error e) : handleLivenessEvent s ra = s := by
  unfold handleLivenessEvent; rw [hg]; dsimp only; rw [hf]

/-- **x/lockup EndBlock never fails** (C14): every matured lock can be paid out of the module account
    in every state satisfying the lockup invariant, which every reachable state does -/
theorem lockup_end_block_never_fails (p : Lockup.Params) (bal : Lockup.Actor → Lockup.Denom → Nat) (now height : Nat)
    (ops : List Lockup.Op) :
    (Lockup.step p (Lockup.run p (Lockup.init bal now height) ops) .endBlock).2 = .ok 0 :=
  C14.endBlock_never_panics p (C14.reachable_inv p bal now height ops)

-- ---------------------------------------------------------------- rollapp owners (payout recipients)

/-- **transfer_only_by_owner** (C20-style): an accepted `MsgTransferOwnership` was signed by the rollapp's
    current owner, names a different and non-blocked new owner, and changes nothing but the `owner` field
    of that one rollapp record. -/
theorem transfer_only_by_owner (s s' : St) (sg : Addr) (ra : Nat) (no : Addr)
    (h : apply s (.transferOwner sg ra no) = .ok s') :
    ∃ r, getRa s ra = some r ∧ r.owner = sg ∧ r.owner ≠ no ∧ blockedAddr no = false ∧
      s' = setRa s { r with owner := no } :=
  transferOwner_ok (show transferOwner s sg ra no = .ok s' from h)

/-- any other signer is refused with `unauthorized` and nothing changes -/
theorem transfer_by_non_owner_refused (s : St) (sg : Addr) (ra : Nat) (no : Addr) (r : Rollapp)
    (hg : getRa s ra = some r) (hne : r.owner ≠ sg) :
    (step s (.transferOwner sg ra no)).2 = some .unauthorized ∧ (step s (.transferOwner sg ra no)).1 = s := by
  have : apply s (.transferOwner sg ra no) = .error .unauthorized := by
    show transferOwner s sg ra no = _
    unfold transferOwner
    rw [hg]
    simp [hne]
  unfold step; rw [this]; exact ⟨rfl, rfl⟩

/-- a transfer to an address the bank refuses as a recipient is refused, whoever signs -/
theorem transfer_to_blocked_refused (s : St) (sg : Addr) (ra : Nat) (no : Addr) (hb : blockedAddr no = true) :
    ∃ e, (step s (.transferOwner sg ra no)).2 = some e ∧ (step s (.transferOwner sg ra no)).1 = s := by
  have : ∃ e, apply s (.transferOwner sg ra no) = .error e := by
    show ∃ e, transferOwner s sg ra no = .error e
    unfold transferOwner
    cases getRa s ra with
    | none => exact ⟨_, rfl⟩
    | some r =>
      dsimp only
      by_cases h1 : (r.owner != sg) = true
      · exact ⟨_, by rw [if_pos h1]⟩
      · by_cases h2 : (r.owner == no) = true
        · exact ⟨_, by rw [if_neg h1, if_pos h2]⟩
        · exact ⟨_, by rw [if_neg h1, if_neg h2, if_pos hb]⟩
  obtain ⟨e, he⟩ := this
  exact ⟨e, by unfold step; rw [he], by unfold step; rw [he]⟩

/-- **owners_not_blocked** — in every reachable state of M-Core (any parameters, any op sequence with
    ownership transfers, rollapps created by non-module accounts) no rollapp owner is an address the bank
    refuses to credit: the payout of a rollapp gauge to the owner (x/incentives, at epoch end inside the
    streamer's EndBlock) cannot fail for that reason — see `Props/C11Incent.streamer_end_block_never_fails`. -/
theorem owners_not_blocked (p : Params) (ops : List Op) (hc : ∀ o ∈ ops, Owners.creatorOk o) (r : Rollapp)
    (hr : r ∈ (run p ops).ras) : blockedAddr r.owner = false :=
  Owners.run_owners p ops hc r hr

/-- the hypothesis on creators is needed (and is all that is needed): a rollapp "created by" a blocked
    address would be owned by it -/
example : ((run (C02.exParams 2) [.createRollapp 0 900 1]).ras.map fun r => blockedAddr r.owner) = [true] := by decide +kernel

/-- ownership moves, the old owner cannot move it back, a blocked address is refused -/
example : ((run (C02.exParams 2) [.createRollapp 0 9 1, .transferOwner 9 0 5]).ras.map (·.owner)) = [5] ∧
    (step (run (C02.exParams 2) [.createRollapp 0 9 1, .transferOwner 9 0 5]) (.transferOwner 9 0 9)).2 = some .unauthorized ∧
    (step (run (C02.exParams 2) [.createRollapp 0 9 1]) (.transferOwner 9 0 900)).2 = some .invalid ∧
    (step (run (C02.exParams 2) [.createRollapp 0 9 1]) (.transferOwner 9 0 9)).2 = some .invalid ∧
    (step (run (C02.exParams 2) [.createRollapp 0 9 1]) (.transferOwner 9 1 5)).2 = some .unknownRollapp := by decide +kernel

-- ---------------------------------------------------------------- non-vacuity
/-- a reachable state with a due notice-queue entry: the sequencer's record is there and the block runs -/
example : ∃ p : Params, 0 < p.noticePeriod ∧ ∃ ops : List Op, (run p ops).nq ≠ [] ∧
    blockE (run p ops) 100 [] = .ok (endBlock (beginBlock (run p ops) 100) []) := by
  refine ⟨C02.exParams 2, by decide, [.createRollapp 0 9 1, .fund 1 100, .fund 2 100,
    .createSeq 1 0 10 true, .createSeq 2 0 10 true, C02.upd 0 1 1 3, .bridge 0 1, .unbond 1], ?_, ?_⟩
  · decide
  · exact block_never_fails _ (by decide) _ _ _

end DymVerif.C11
