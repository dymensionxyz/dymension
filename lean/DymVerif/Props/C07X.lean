/-
  Props/C07X — what is (and what is NOT) true about the bond of a rollapp's proposer.

  Props/C07 proves that a real proposer is always a Bonded sequencer of its rollapp and that the
  proposer choice takes the highest-bonded Bonded ∧ opted-in sequencer.  Neither says how large that
  bond is.  This file states the facts explicitly, for the code as it is:

    * `chosen_proposer_bond` — whenever a proposer slot is (re)filled by the choice algorithm, the new
      proposer is Bonded, opted in, of that rollapp and has the MAXIMAL bond among the candidates of
      that moment.  That is the only bond guarantee there is.
    * NO positive lower bound follows, because a sequencer's bond can reach zero without its status
      leaving Bonded:
        - `punished_keeps_status`: `PunishSequencer` (fraud proposal) sets the bond to zero and changes
          nothing else — x/sequencer/keeper/fraud.go:103-125 (`PunishSequencer`) and :127-146 (`slash`)
          never call `unbond`; only `TryUnbond` (bond.go:42-44) unbonds at zero tokens;
        - `candidate_beats_sentinel`: a Bonded ∧ opted-in sequencer is preferred to the sentinel whatever
          its bond (rotation.go:125-144 `ProposerChoiceAlgo`: stable sort by tokens, sentinel appended
          last by `RollappPotentialProposers`, proposer.go:47-53, with zero tokens, sequencer.go:12-18);
        - `liveness_slash_keeps_proposer`: a liveness slash never removes the proposer, not even when it
          takes the whole bond.
      Counterexamples (concrete histories, by `decide`): `zero_bond_proposer_possible` (punished
      non-proposer opts in after the fork and is chosen), `zero_bond_proposer_by_liveness` (proposer
      slashed to zero keeps proposing), `zero_bond_proposer_by_foreign_fraud` (a fraud proposal against
      rollapp 1 names the proposer of rollapp 0 as the sequencer to punish),
      `zero_bond_proposer_by_punish_proposal` (the standalone governance punish proposal: no fork at
      all), and the summary
      `no_positive_bond_bound`.
-/
import DymVerif.Props.C07
import DymVerif.Lemmas.CorePunish
import DymVerif.Lemmas.CoreForkSpec
import DymVerif.Lemmas.CoreLevEnd
namespace DymVerif.C07X
open DymVerif DymVerif.Core DymVerif.Core.Roles

/-- along every run with a valid parameter set: if an accepted operation
    makes `a` the proposer of rollapp `id` (it was not before), then either

    * it is the old proposer's LAST update and `a` is the successor recorded when the notice expired
      (itself the choice of that begin-block: `C07.successor_change_classified`), or
    * the slot was filled by the choice algorithm over the post-state (kick, sequencer creation,
      opt-in): `a` is Bonded, opted in, a sequencer of `id`, and NO Bonded opted-in sequencer of `id`
      has a larger bond (ties go to the smaller address).

    Nothing bounds the winning bond from below: the candidates may all have zero tokens
    (`zero_bond_proposer_possible`). -/
theorem chosen_proposer_bond (p : Params) (hp : 0 < p.noticePeriod) (ops : List Op) (o : Op) (s' : St)
    (id : Nat) (r r' : Rollapp) (a : Addr) (h : apply (run p ops) o = .ok s')
    (hr : getRa (run p ops) id = some r) (hr' : getRa s' id = some r') (hne : r'.proposer ≠ r.proposer)
    (hpa : r'.proposer = some a) :
    (∃ m, o = .update m ∧ m.last = true ∧ r.successor = some a) ∨
    (choose s' id = some a ∧ ∃ q, getSeq s' a = some q ∧ q.rollapp = id ∧ q.bonded = true ∧ q.optedIn = true ∧
      ∀ x ∈ s'.seqs, x.rollapp = id → x.bonded = true → x.optedIn = true →
        x.tokens ≤ q.tokens ∧ (x.tokens = q.tokens → q.addr ≤ x.addr)) := by
  have e1 : run p (ops ++ [o]) = s' := by
    have : run p (ops ++ [o]) = (step (run p ops) o).1 := by
      unfold run; rw [List.foldl_append]; rfl
    rw [this]; unfold step; rw [h]
  have fill : choose s' id = some a → ∃ q, getSeq s' a = some q ∧ q.rollapp = id ∧ q.bonded = true ∧ q.optedIn = true ∧
      ∀ x ∈ s'.seqs, x.rollapp = id → x.bonded = true → x.optedIn = true →
        x.tokens ≤ q.tokens ∧ (x.tokens = q.tokens → q.addr ≤ x.addr) := by
    intro hc
    have := C07.fill_chooses_max_bond p hp (ops ++ [o]) id a (by rw [e1]; exact hc)
    rw [e1] at this
    exact this
  rcases C07.proposer_change_classified p hp ops o s' id r r' h hr hr' hne with
    ⟨m, _, ho, _, hl, _, _, _, hs⟩ | ⟨_, _, _, _, _, _, _, _, _, _, _, _, _, hc, _⟩ | ⟨hn, _⟩ | ⟨_, hc, _, _⟩
  · exact Or.inl ⟨m, ho, hl, by rw [← hs]; exact hpa⟩
  · have hc' : choose s' id = some a := by rw [← hc]; exact hpa
    exact Or.inr ⟨hc', fill hc'⟩
  · rw [hn] at hpa; cases hpa
  · have hc' : choose s' id = some a := by rw [← hc]; exact hpa
    exact Or.inr ⟨hc', fill hc'⟩

/-- in ANY state: an accepted fraud proposal against rollapp `ra` naming
    `a` as the sequencer to punish leaves `a`'s record with ZERO tokens; its status is set to
    unbonded only if `a` was the proposer of the forked rollapp `ra` (the fork's abrupt removal), its
    opt-in flag is cleared only if it is a sequencer of `ra`; dishonor, notice and rollapp are as
    before.  So a punished sequencer that is not the proposer of `ra` is still Bonded — with a zero
    bond — and may opt in again (`MsgUpdateOptInStatus` only refuses once a notice has started). -/
theorem punished_keeps_status (s s' : St) (au : Bool) (ra hh rev : Nat) (a : Addr) (rw : Option Addr)
    (h : apply s (.fraud au ra hh rev (some a) rw) = .ok s') :
    ∃ q r, getSeq s a = some q ∧ getRa s ra = some r ∧
      getSeq s' a = some { q with tokens := 0,
                                  optedIn := if q.rollapp == ra then false else q.optedIn,
                                  bonded := if r.proposer = some a then false else q.bonded } := by
  simp only [apply] at h
  obtain ⟨_, _, r, s1, hg, _, hpun, hf⟩ := fraud_ok h
  obtain ⟨hc, _⟩ | ⟨_, ha, hpun⟩ := hpun
  · cases hc
  injection ha with ha; subst ha
  obtain ⟨q, hq, hq1⟩ := punish_record hpun
  have hg1 : getRa s1 ra = some r := by rw [Fork.punish_getRa hpun]; exact hg
  refine ⟨q, r, hq, hg, ?_⟩
  rw [Fork.hardFork_getSeq hg1 hf a, hq1]
  rfl

/-- in ANY state: as soon as a rollapp has one Bonded ∧ opted-in
    sequencer, the choice is a real sequencer, not the sentinel — whatever the bonds are (a candidate
    with zero tokens ties with the sentinel's zero tokens and the stable sort keeps it in front). -/
theorem candidate_beats_sentinel (s : St) (ra : Nat) (x : Seq) (hx : x ∈ s.seqs) (h1 : x.rollapp = ra)
    (h2 : x.bonded = true) (h3 : x.optedIn = true) : (choose s ra).isSome = true := by
  cases hc : choose s ra with
  | some _ => rfl
  | none => exact absurd ⟨h1, h2, h3⟩ ((C07.choose_none_iff s ra).1 hc x hx)

/-- with `LivenessSlashMinMultiplier = 1` the liveness slash takes the whole bond -/
theorem livSlashAmt_full (p : SeqParams) (hm : p.lsMul = ⟨1000000000000000000⟩) (t : Nat) :
    LevNs.livSlashAmt p t = t := by
  unfold LevNs.livSlashAmt
  rw [hm]
  have h : ((Dec.mulInt ⟨1000000000000000000⟩ (t : Int)).truncateInt).toNat = t := by
    unfold Dec.mulInt Dec.truncateInt chopTrunc decP
    simp only
    have : ((1000000000000000000 : Int) * (t : Int)).tdiv 1000000000000000000 = (t : Int) := by
      rw [Int.tdiv_eq_ediv_of_nonneg (by omega)]
      omega
    rw [this]; omega
  rw [h]
  omega

/-- along every run: the block end at the event height of a
    rollapp slashes its real proposer once and LEAVES IT THE PROPOSER: the rollapp record keeps its
    proposer, the sequencer record keeps its status (Bonded), opt-in flag, notice and rollapp; only
    the bond (minus `livSlashAmt`) and the dishonor change — both computed with the x/sequencer
    parameters in force at that block end (`(run p ops).sqp`).  Nothing unbonds or replaces a proposer
    whose bond the slash has exhausted (with a multiplier of 1 the first slash takes everything:
    `livSlashAmt_full`). -/
theorem liveness_slash_keeps_proposer (p : Params) (ops : List Op) (f : List (Nat × Nat)) (ra : Nat) (r : Rollapp)
    (a : Addr) (q : Seq) (hg : getRa (run p ops) ra = some r) (hev : r.evH = (run p ops).h)
    (hp : r.proposer = some a) (hq : getSeq (run p ops) a = some q) :
    (∃ r', getRa (step (run p ops) (.end_ f)).1 ra = some r' ∧ r'.proposer = some a) ∧
    getSeq (step (run p ops) (.end_ f)).1 a =
      some { q with tokens := q.tokens - LevNs.livSlashAmt (run p ops).sqp q.tokens,
                    dishonor := q.dishonor + (run p ops).sqp.dishonorL } := by
  have hm : ((run p ops).h, ra) ∈ (run p ops).lev :=
    (LevNs.due_iff (LevNs.run_lev p ops) (LevNs.run_grid p ops).hpos hg).2 hev
  have hd := LevNs.endBlock_due (f := f) (LevNs.run_lev p ops) (run_cust p ops) hg hm
  obtain ⟨r', hr', _, _, hpr⟩ := hd.1
  have h2 := hd.2 a q (LevNs.run_uniq p ops hg hp) hp hq
  exact ⟨⟨r', hr', hpr.trans hp⟩, h2⟩

def exParams : Params := C07.exParams
def exBds (start n : Nat) : List BD := C07.exBds start n

/-- rollapp 0 (minimum bond 10) with sequencers a1 (proposer, bond 10) and a2 (bond 15); a1 posts heights
    1–2; genesis bridge at height 1; a fraud proposal at height 2 punishes the NON-proposer a2 (bond → 0,
    still Bonded) and forks: a1 is removed and unbonded, everybody is opted out; a2 opts in again -/
def exPunishedOptsIn : List Op := [.createRollapp 0 9 10, .fund 1 100, .fund 2 100,
  .createSeq 1 0 10 true, .createSeq 2 0 15 true,
  .update { ra := 0, sender := 1, start := 1, num := 2, rev := 0, last := false, bds := exBds 1 2 },
  .bridge 0 1, .fraud true 0 2 0 (some 2) none, .optIn 2 true]

/-- before the opt-in: the slot is empty, a2 is Bonded with zero tokens and opted out -/
example : ((run exParams exPunishedOptsIn.dropLast).ras.map fun r => (r.proposer, r.minBond)) = [(none, 10)] ∧
    ((run exParams exPunishedOptsIn.dropLast).seqs.map fun q => (q.addr, q.bonded, q.optedIn, q.tokens)) =
      [(1, false, false, 10), (2, true, false, 0)] := by decide +kernel

/-- after that history rollapp 0, whose minimum bond is 10, has the
    real proposer a2 whose bond is 0 (and the opt-in was accepted). -/
theorem zero_bond_proposer_possible :
    ((run exParams exPunishedOptsIn).ras.map fun r => (r.id, r.minBond, r.proposer)) = [(0, 10, some 2)] ∧
    ((getSeq (run exParams exPunishedOptsIn) 2).map fun q => (q.bonded, q.optedIn, q.tokens)) = some (true, true, 0) ∧
    (step (run exParams exPunishedOptsIn.dropLast) (.optIn 2 true)).2 = none := by decide +kernel

/-- the zero-bond proposer's state updates are accepted like anybody's -/
example : (step (run exParams exPunishedOptsIn)
    (.update { ra := 0, sender := 2, start := 2, num := 1, rev := 1, last := false, bds := exBds 2 1 })).2 = none := by decide +kernel

/-- liveness route: slash multiplier 1, event every block; one idle block takes a1's whole bond -/
def exLiveParams : Params := { exParams with lsBlocks := 1, lsInterval := 1, lsMul := ⟨1000000000000000000⟩ }
def exSlashedOut : List Op := [.createRollapp 0 9 10, .fund 1 100, .createSeq 1 0 10 true, .begin_ 1, .end_ []]

/-- the proposer slashed to zero is still the proposer, Bonded. -/
theorem zero_bond_proposer_by_liveness :
    ((run exLiveParams exSlashedOut).ras.map fun r => (r.id, r.minBond, r.proposer)) = [(0, 10, some 1)] ∧
    ((getSeq (run exLiveParams exSlashedOut) 1).map fun q => (q.bonded, q.tokens)) = some (true, 0) ∧
    (run exLiveParams exSlashedOut).burned = 10 := by decide +kernel

/-- foreign-fraud route: a1 proposes for rollapp 0, a3 for rollapp 1; a fraud proposal against rollapp 1
    names a1 — a sequencer of ANOTHER rollapp — as the sequencer to punish (`SubmitRollappFraud` does not
    check that the punished sequencer belongs to the rollapp, x/rollapp/keeper/fraud_proposal.go:47-48) -/
def exForeignFraud : List Op := [.createRollapp 0 9 10, .createRollapp 1 9 10, .fund 1 100, .fund 3 100,
  .createSeq 1 0 10 true, .createSeq 3 1 10 true,
  .update { ra := 1, sender := 3, start := 1, num := 2, rev := 0, last := false, bds := exBds 1 2 },
  .bridge 1 1, .fraud true 1 2 0 (some 1) none]

/-- rollapp 0 was not forked and keeps its proposer a1, whose
    bond is now 0. -/
theorem zero_bond_proposer_by_foreign_fraud :
    ((run exParams exForeignFraud).ras.map fun r => (r.id, r.proposer, r.revs.length)) = [(0, some 1, 1), (1, none, 2)] ∧
    ((getSeq (run exParams exForeignFraud) 1).map fun q => (q.bonded, q.tokens)) = some (true, 0) := by decide +kernel

/-- punish-proposal route: the standalone governance
    `PunishSequencerProposal` against the sitting proposer a1 — no fork at all (`C07.punish_keeps_roles`) -/
def exPunishProposal : List Op := [.createRollapp 0 9 10, .fund 1 100, .createSeq 1 0 10 true, .punish true 1 none]

/-- the punished proposer is still the proposer, Bonded and
    opted in, with bond 0; the rollapp keeps its one revision. -/
theorem zero_bond_proposer_by_punish_proposal :
    ((run exParams exPunishProposal).ras.map fun r => (r.id, r.minBond, r.proposer, r.revs.length)) = [(0, 10, some 1, 1)] ∧
    ((getSeq (run exParams exPunishProposal) 1).map fun q => (q.bonded, q.optedIn, q.tokens)) = some (true, true, 0) := by decide +kernel

/-- parameter-update route: the liveness multiplier is raised to 1 by an x/sequencer `MsgUpdateParams`
    in mid-history (the rollapp parameters `lsBlocks = lsInterval = 1` are the genesis ones); the next
    idle block takes a1's whole bond — `liveness_slash_keeps_proposer` with the parameters in force -/
def exLiveParams0 : Params := { exParams with lsBlocks := 1, lsInterval := 1 }
def exSlashedOutAfterUpdate : List Op := [.createRollapp 0 9 10, .fund 1 100, .createSeq 1 0 10 true,
  .setSeqParams true { exLiveParams0.seq with lsMul := ⟨1000000000000000000⟩ }, .begin_ 1, .end_ []]
example :
    ((run exLiveParams0 exSlashedOutAfterUpdate).ras.map fun r => (r.id, r.minBond, r.proposer)) = [(0, 10, some 1)] ∧
    ((getSeq (run exLiveParams0 exSlashedOutAfterUpdate) 1).map fun q => (q.bonded, q.tokens)) = some (true, 0) ∧
    (run exLiveParams0 exSlashedOutAfterUpdate).burned = 10 := by decide +kernel

/-- there is no positive amount that every real proposer of every reachable
    state (valid parameters) has bonded: not the rollapp's minimum bond, not even 1. -/
theorem no_positive_bond_bound (b : Nat) (hb : 0 < b) :
    ∃ (p : Params) (ops : List Op), 0 < p.noticePeriod ∧ ∃ r ∈ (run p ops).ras, ∃ a q, r.proposer = some a ∧
      getSeq (run p ops) a = some q ∧ q.bonded = true ∧ 0 < r.minBond ∧ q.tokens < b := by
  have hras : (run exParams exPunishedOptsIn).ras.map (fun r => (r.id, r.minBond, r.proposer)) = [(0, 10, some 2)] :=
    zero_bond_proposer_possible.1
  have hseq : (getSeq (run exParams exPunishedOptsIn) 2).map (fun q => (q.bonded, q.optedIn, q.tokens)) = some (true, true, 0) :=
    zero_bond_proposer_possible.2.1
  refine ⟨exParams, exPunishedOptsIn, by decide +kernel, ?_⟩
  cases hl : (run exParams exPunishedOptsIn).ras with
  | nil => rw [hl] at hras; cases hras
  | cons r rest =>
    rw [hl] at hras
    simp only [List.map_cons, List.cons.injEq, Prod.mk.injEq] at hras
    cases hq : getSeq (run exParams exPunishedOptsIn) 2 with
    | none => rw [hq] at hseq; cases hseq
    | some q =>
      rw [hq] at hseq
      simp only [Option.map_some, Option.some.injEq, Prod.mk.injEq] at hseq
      exact ⟨r, List.mem_cons_self, 2, q, hras.1.2.2, hq, hseq.1, by rw [hras.1.2.1]; omega, by rw [hseq.2.2]; exact hb⟩

end DymVerif.C07X
