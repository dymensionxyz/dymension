/-
  Props/C09Safe — C09: the side condition `SafeRun` of `agreement_inv` (at every designation each descriptor
  M-LC holds lies inside a state info of M-Core), as a theorem instead of a hypothesis.

    * `safeRun_of_coreStepsCov`: `SafeRun (init p) ops` for EVERY history, from one statement about M-Core alone
      (`CoreStepsCov p`: a Core transition loses covered heights only above the forks it performs).  Everything
      about M-LC (descriptor bookkeeping of `withDescs` / `rollbackClient` / `finishUpdate`) is discharged.
    * `stepCov_mild`: `StepCov` proved for every Core op except kick / fraud / obsolete
      (the three fork sources) — state updates (whatever their `last` flag) and the end-block (finalization) included.
    * `safeRun_mild` (PARTIAL, clearly labelled): `SafeRun` outright for every history whose Core ops are not
      kick / fraud / obsolete; `agreement_inv_mild`, `later_conflict_rejected_update_mild` restate the
      two theorems of Props/C09 without the hypothesis for those histories.
-/
import DymVerif.Props.C09
import DymVerif.Props.C01X
import DymVerif.Lemmas.LCCovered
import DymVerif.Lemmas.LCCoveredEnd

-- ---------------------------------------------------------------- M-Core: quiet ops keep every state info

namespace DymVerif.Core.Fork

/-- Core ops that are neither a state update, a fork source (kick, fraud proposal, obsolete marking) nor the
    end-block (finalization) -/
def QuietOp : Op → Prop
  | .kick _ => False
  | .update _ => False
  | .fraud _ _ _ _ _ _ => False
  | .obsolete _ _ => False
  | .end_ _ => False
  | _ => True

theorem apply_good_quiet {s s' : St} {o : Op} (hi : Inv s) (e : apply s o = .ok s') (hq : QuietOp o) : Good s s' :=
  apply_good hi.cust.nodup e (by cases o <;> first | rfl | exact hq.elim)

/-- a `Good` transition keeps every covered height covered -/
theorem Good.cov {c c1 : St} (g : Good c c1) (ra h : Nat) (hc : LC.Cov c ra h) : LC.Cov c1 ra h := by
  obtain ⟨r, st, hg, hst, h1, h2⟩ := hc
  obtain ⟨r', g1, hv, _⟩ := g.keep ra r hg
  have e : r'.states.map eraseNext = r.states.map eraseNext := congrArg Prod.snd hv
  obtain ⟨i, hi⟩ := List.mem_iff_getElem?.1 hst
  obtain ⟨st', hs', ee⟩ := getElem?_of_map_eraseNext e hi
  refine ⟨r', st', g1, List.mem_of_getElem? hs', ?_, ?_⟩
  · rw [(eraseNext_fields ee).2.1]; exact h1
  · rw [eraseNext_last ee]; exact h2

/-- the end-block (finalization + liveness events) keeps every covered height covered -/
theorem endBlock_ck (s : St) (fails : List (Nat × Nat)) : CK s (endBlock s fails) := by
  unfold endBlock
  refine CK.trans ?_ (fun ra h hc => (checkLiveness_good _).cov ra h hc)
  unfold finalizeRollappStates
  split
  · exact CK.refl s
  · exact finalizeAll_ck _ _ _ _

end DymVerif.Core.Fork

-- ---------------------------------------------------------------- M-Core: an accepted update keeps every state info

namespace DymVerif.C09Safe
open DymVerif DymVerif.Core DymVerif.Core.XUpd

/-- an accepted state update (any `last` flag, the fork to the latest height of the sentinel hand-over included)
    keeps every covered height of every rollapp covered -/
theorem update_cov {s s' : St} {m : UpdMsg} (hc : ChainAll s) (hf : FinInv s) (e : apply s (.update m) = .ok s')
    (ra h : Nat) (hcov : LC.Cov s ra h) : LC.Cov s' ra h := by
  obtain ⟨r0, st, hg0, hst, h1, h2⟩ := hcov
  obtain ⟨r, hg, _⟩ := C01X.update_accept_spec_full s s' m e
  have e' : updateState s m = .ok s' := e
  have hk := updateState_rkeys hc hf hg e'
  have hid := getRa_id hg
  have hx : ∃ r2, getRa (setRa s { r with states := r.states ++ [newSInfo s m (updSucc r m)] }) ra = some r2 ∧ st ∈ r2.states := by
    by_cases hra : ra = m.ra
    · subst hra
      rw [hg] at hg0; injection hg0 with hg0; subst hg0
      refine ⟨{ r with states := r.states ++ [newSInfo s m (updSucc r m)] }, ?_, List.mem_append_left _ hst⟩
      have := getRa_setRa_self (r := { r with states := r.states ++ [newSInfo s m (updSucc r m)] }) (hid ▸ hg)
      rw [← hid]; exact this
    · refine ⟨r0, ?_, hst⟩
      rw [getRa_setRa_ne (r := { r with states := r.states ++ [newSInfo s m (updSucc r m)] })
        (by show r.id ≠ ra; rw [hid]; exact fun x => hra x.symm)]
      exact hg0
  obtain ⟨r2, hg2, hst2⟩ := hx
  obtain ⟨r', h1', hk1⟩ := getRa_rKey_some hk hg2
  obtain ⟨_, _, k3⟩ := rKey_fields hk1
  have hm : sKey st ∈ r'.states.map sKey := by rw [k3]; exact List.mem_map.2 ⟨st, hst2, rfl⟩
  obtain ⟨st', hs', ee⟩ := List.mem_map.1 hm
  unfold sKey at ee
  simp only [Prod.mk.injEq] at ee
  have hl : st'.last = st.last := by unfold SInfo.last; rw [ee.2.1, ee.2.2.1]
  exact ⟨r', st', h1', hs', by rw [ee.2.1]; exact h1, by rw [hl]; exact h2⟩

end DymVerif.C09Safe

-- ---------------------------------------------------------------- M-LC

namespace DymVerif.LC
open DymVerif.Core (Addr NextP)

/-- the Core ops for which `StepCov` is proved here: everything but kick / fraud / obsolete -/
def MildCore (o : Core.Op) : Prop := Core.Fork.QuietOp o ∨ (∃ m, o = .update m) ∨ ∃ f, o = .end_ f

/-- in every reachable Core state a mild op keeps every covered height -/
theorem stepCov_mild (p : Core.Params) (cops : List Core.Op) (o : Core.Op) (hm : MildCore o) :
    StepCov (Core.run p cops) (Core.step (Core.run p cops) o).1 := by
  intro ra h hc
  refine Or.inl ?_
  unfold Core.step
  cases ha : Core.apply (Core.run p cops) o with
  | error er => exact hc
  | ok s1 =>
    simp only
    rcases hm with hq | ⟨m, rfl⟩ | ⟨f, rfl⟩
    · exact (Core.Fork.apply_good_quiet (Core.Fork.run_inv p cops) ha hq).cov ra h hc
    · exact C09Safe.update_cov (Core.run_chain p cops) (Core.run_fin p cops) ha ra h hc
    · simp only [Core.apply] at ha
      injection ha with ha; subst ha
      exact Core.Fork.endBlock_ck _ f ra h hc

/-- the statement about M-Core alone that `SafeRun` reduces to: a Core transition from a reachable state loses
    covered heights only above the forks it performs -/
def CoreStepsCov (p : Core.Params) : Prop :=
  ∀ cops o, StepCov (Core.run p cops) (Core.step (Core.run p cops) o).1

structure CovInv (p : Core.Params) (s : St) : Prop where
  cov : CovAll s
  reach : ∃ cops, s.core = Core.run p cops

theorem CovInv.of_eq {p : Core.Params} {s s' : St} (h : CovInv p s) (e1 : s'.descs = s.descs) (e2 : s'.core = s.core) :
    CovInv p s' :=
  ⟨h.cov.of_eq e1 e2, by obtain ⟨cops, hr⟩ := h.reach; exact ⟨cops, e2.trans hr⟩⟩

theorem init_covInv (p : Core.Params) : CovInv p (init p) :=
  ⟨fun d hd => by simp [init] at hd, ⟨[], rfl⟩⟩

/-- the covering invariant through one M-LC op, given `StepCov` of the Core transition of a Core op -/
theorem step_covInv {p : Core.Params} {s : St} (h : CovInv p s) (op : Op)
    (hc : ∀ o ds, op = .core o ds → StepCov s.core (Core.step s.core o).1) : CovInv p (step s op).1 := by
  cases op with
  | core o ds =>
    refine ⟨coreOp_covAll h.cov o ds (hc o ds rfl), ?_⟩
    obtain ⟨cops, hr⟩ := h.reach
    rcases coreOp_core s o ds with e | e
    · exact ⟨cops, by show (coreOp s o ds).1.core = _; rw [e]; exact hr⟩
    · refine ⟨cops ++ [o], ?_⟩
      show (coreOp s o ds).1.core = _
      rw [e, hr, Core.run_append]; rfl
  | _ => exact h.of_eq (step_descs_core s _ (by intro _ _ e; cases e)).1 (step_descs_core s _ (by intro _ _ e; cases e)).2

/-- `SafeRun`, and the covering invariant at the end of the run, for histories whose Core ops satisfy a predicate `A`
    under which the Core transition is `StepCov` -/
theorem safeRun_gen (p : Core.Params) (A : Core.Op → Prop)
    (HA : ∀ cops o, A o → StepCov (Core.run p cops) (Core.step (Core.run p cops) o).1) :
    ∀ (ops : List Op) (s : St), CovInv p s → (∀ o ds, Op.core o ds ∈ ops → A o) → SafeRun s ops ∧ CovInv p (run s ops)
  | [], _, h, _ => ⟨trivial, h⟩
  | op :: ops, s, h, ha => by
    have hstep : CovInv p (step s op).1 := by
      apply step_covInv h
      intro o ds ho
      obtain ⟨cops, hr⟩ := h.reach
      rw [hr]
      exact HA cops o (ha o ds (by rw [ho]; exact List.mem_cons_self))
    obtain ⟨h1, h2⟩ := safeRun_gen p A HA ops _ hstep (fun o ds hm => ha o ds (List.mem_cons_of_mem _ hm))
    refine ⟨⟨?_, h1⟩, h2⟩
    cases op with
    | setCanonical c => exact fun cl _ => h.cov.descsCovered cl.chain
    | _ => trivial

/-- **safeRun_of_coreStepsCov** — `SafeRun` holds for EVERY history of M-LC as soon as M-Core's transitions lose
    covered heights only above their forks: nothing about the light-client code is left to assume. -/
theorem safeRun_of_coreStepsCov (p : Core.Params) (H : CoreStepsCov p) (ops : List Op) : SafeRun (init p) ops :=
  (safeRun_gen p (fun _ => True) (fun cops o _ => H cops o) ops (init p) (init_covInv p) (fun _ _ _ => trivial)).1

/-- a history without kick / fraud proposal / obsolete marking among its Core ops -/
def Mild (ops : List Op) : Prop := ∀ o ds, Op.core o ds ∈ ops → MildCore o

/-- **safeRun_mild (PARTIAL: histories without kick / fraud / obsolete)** — `SafeRun` outright. -/
theorem safeRun_mild (p : Core.Params) (ops : List Op) (hm : Mild ops) : SafeRun (init p) ops :=
  (safeRun_gen p MildCore (stepCov_mild p) ops (init p) (init_covInv p) hm).1

/-- `agreement_inv` without the `SafeRun` hypothesis, for mild histories (PARTIAL) -/
theorem agreement_inv_mild (p : Core.Params) (ops : List Op) (hm : Mild ops) : AgreeInv (run (init p) ops) :=
  Props.C09.agreement_inv p ops (safeRun_mild p ops hm)

/-- `agreement_inv` for every history, from the Core-only statement -/
theorem agreement_inv_of_coreStepsCov (p : Core.Params) (H : CoreStepsCov p) (ops : List Op) : AgreeInv (run (init p) ops) :=
  Props.C09.agreement_inv p ops (safeRun_of_coreStepsCov p H ops)

/-- `later_conflict_rejected_update_reachable` without the `SafeRun` hypothesis, for mild histories (PARTIAL): after
    any such run a state update that contradicts an optimistically accepted header is rejected with the state
    untouched, and agreement holds afterwards -/
theorem later_conflict_rejected_update_mild (p : Core.Params) (ops : List Op) (hm : Mild ops)
    (m : Core.UpdMsg) (ds : List (Nat × Option Nat)) :
    ((coreOp (run (init p) ops) (.update m) ds).2 ≠ .ok → (coreOp (run (init p) ops) (.update m) ds).1 = run (init p) ops) ∧
    AgreeInv (coreOp (run (init p) ops) (.update m) ds).1 :=
  Props.C09.later_conflict_rejected_update_reachable p ops (safeRun_mild p ops hm) m ds

/-- the same for every history, from the Core-only statement -/
theorem later_conflict_rejected_update_of_coreStepsCov (p : Core.Params) (H : CoreStepsCov p) (ops : List Op)
    (m : Core.UpdMsg) (ds : List (Nat × Option Nat)) :
    ((coreOp (run (init p) ops) (.update m) ds).2 ≠ .ok → (coreOp (run (init p) ops) (.update m) ds).1 = run (init p) ops) ∧
    AgreeInv (coreOp (run (init p) ops) (.update m) ds).1 :=
  Props.C09.later_conflict_rejected_update_reachable p ops (safeRun_of_coreStepsCov p H ops) m ds

/-- the covering invariant itself along a mild history: every descriptor of M-LC lies in a state info of M-Core -/
theorem covAll_mild (p : Core.Params) : ∀ (ops : List Op) (s : St), CovInv p s → Mild ops → CovAll (run s ops) :=
  fun ops s h hm => (safeRun_gen p MildCore (stepCov_mild p) ops s h hm).2.cov

/-- non-vacuity: a history with a state update, a client creation and a designation is mild -/
example : Mild ([.core (.update { ra := 0, sender := 1, start := 1, num := 3, rev := 0, last := false, bds := [] }) [],
    .createClient 0 expParams 2 ⟨0, 0, 0⟩, .setCanonical 0] : List Op) := by
  intro o ds hm
  simp only [List.mem_cons, List.mem_nil_iff, or_false] at hm
  rcases hm with hm | hm | hm
  · injection hm with a b; subst a; exact Or.inr (Or.inl ⟨_, rfl⟩)
  · cases hm
  · cases hm

end DymVerif.LC
