/-
  Props/C19X — C19 for the '/'-separated key families of x/rollapp, x/sequencer and x/delayedack: the
  rollapp-id grammar (a valid id contains none of '/', NUL, 0xFF, which discharges the `sep ∉ r`
  hypotheses the key theorems take); sequencers-by-rollapp(-by-status) keys and scans; the
  rollapp-by-name scan; liveness-queue scans and order; demand orders by status; packet keys sort by
  proof height; the x/rollapp store keys; prefix disjointness inside the delayedack store.
-/
import DymVerif.Model.KeysX
import DymVerif.Lemmas.KeysRange
import DymVerif.Props.C19
namespace DymVerif.C19
open DymVerif DymVerif.Keys

/-! ## the rollapp-id grammar -/

theorem splitAtSep_some (sp : Nat) (b a r : Bytes) (h : splitAtSep sp b = some (a, r)) :
    b = a ++ sp :: r ∧ sp ∉ a := by
  induction b generalizing a with
  | nil => simp [splitAtSep] at h
  | cons x xs ih =>
    simp only [splitAtSep] at h
    by_cases hx : x = sp
    · simp [hx] at h; obtain ⟨rfl, rfl⟩ := h; simp [hx]
    · simp only [hx, if_false] at h
      cases hs : splitAtSep sp xs with
      | none => simp [hs] at h
      | some p =>
        obtain ⟨a', r'⟩ := p
        simp [hs] at h
        obtain ⟨rfl, rfl⟩ := h
        obtain ⟨e, hn⟩ := ih a' hs
        refine ⟨by rw [e]; simp, ?_⟩
        intro hm
        rcases List.mem_cons.1 hm with h1 | h1
        · exact hx h1.symm
        · exact hn h1

theorem all_lower_not_mem (s : Bytes) (c : Nat) (hc : c < 97 ∨ 122 < c) (h : s.all isLowerB = true) : c ∉ s := by
  intro hm
  have := List.all_eq_true.1 h c hm
  simp [isLowerB] at this; omega

theorem decimal_not_mem (s : Bytes) (c : Nat) (hc : c < 48 ∨ 57 < c) (h : isDecimalNoLead s = true) : c ∉ s := by
  cases s with
  | nil => simp [isDecimalNoLead] at h
  | cons x xs =>
    simp only [isDecimalNoLead, Bool.and_eq_true] at h
    intro hm
    rcases List.mem_cons.1 hm with h1 | h1
    · subst h1; have := h.1; simp at this; omega
    · have := List.all_eq_true.1 h.2 c h1
      simp [isDigitB] at this; omega

/-- what a valid rollapp id looks like: `name _ eip155 - revision`, name non-empty lower-case letters,
    the two numbers decimal digits -/
theorem valid_rollapp_id_shape (id : Bytes) (h : validRollappId id = true) :
    ∃ name eip rev, id = name ++ 95 :: (eip ++ 45 :: rev) ∧ name ≠ [] ∧ rollappName id = name ∧
      name.all isLowerB = true ∧ isDecimalNoLead eip = true ∧ isDecimalNoLead rev = true := by
  unfold validRollappId at h
  simp only [Bool.and_eq_true] at h
  obtain ⟨_, h⟩ := h
  cases h1 : splitAtSep 95 id with
  | none => simp [h1] at h
  | some p =>
    obtain ⟨name, rest⟩ := p
    simp only [h1, Bool.and_eq_true] at h
    obtain ⟨⟨hne, hlow⟩, h⟩ := h
    cases h2 : splitAtSep 45 rest with
    | none => simp [h2] at h
    | some q =>
      obtain ⟨eip, rev⟩ := q
      simp only [h2, Bool.and_eq_true] at h
      obtain ⟨e1, _⟩ := splitAtSep_some 95 id name rest h1
      obtain ⟨e2, _⟩ := splitAtSep_some 45 rest eip rev h2
      refine ⟨name, eip, rev, by rw [e1, e2], ?_, by simp [rollappName, h1], hlow, h.1.1, h.1.2⟩
      intro e; simp [e] at hne

/-- a valid rollapp id is a text over `[a-z0-9_-]` -/
theorem valid_rollapp_id_chars (id : Bytes) (h : validRollappId id = true) :
    ∀ c ∈ id, (97 ≤ c ∧ c ≤ 122) ∨ (48 ≤ c ∧ c ≤ 57) ∨ c = 95 ∨ c = 45 := by
  obtain ⟨name, eip, rev, rfl, _, _, hl, he, hr⟩ := valid_rollapp_id_shape id h
  intro c hm
  refine Classical.byContradiction fun hc => ?_
  simp only [List.mem_append, List.mem_cons] at hm
  rcases hm with h1 | h1 | h1 | h1 | h1
  · exact all_lower_not_mem name c (by omega) hl h1
  · omega
  · exact decimal_not_mem eip c (by omega) he h1
  · omega
  · exact decimal_not_mem rev c (by omega) hr h1

/-- a valid rollapp id contains none of the bytes the hub's key encodings use as structure:
    '/' (0x2f), NUL (the collections delimiter), 0xFF -/
theorem valid_rollapp_id_no_sep (id : Bytes) (h : validRollappId id = true) :
    sep ∉ id ∧ 0 ∉ id ∧ 255 ∉ id := by
  have k := valid_rollapp_id_chars id h
  exact ⟨fun m => by have := k _ m; simp [sep] at this, fun m => by have := k _ m; omega, fun m => by have := k _ m; omega⟩

/-- the name of a valid id contains no '_' and the rest of the id no further '_' -/
theorem valid_rollapp_id_name (id : Bytes) (h : validRollappId id = true) :
    ∃ rest, id = rollappName id ++ 95 :: rest ∧ 95 ∉ rollappName id ∧ 95 ∉ rest := by
  obtain ⟨name, eip, rev, rfl, _, hn, hl, he, hr⟩ := valid_rollapp_id_shape id h
  rw [hn]
  refine ⟨eip ++ 45 :: rev, rfl, all_lower_not_mem name 95 (by omega) hl, ?_⟩
  intro hm
  simp only [List.mem_append, List.mem_cons] at hm
  rcases hm with h1 | h1 | h1
  · exact decimal_not_mem eip 95 (by omega) he h1
  · omega
  · exact decimal_not_mem rev 95 (by omega) hr h1

-- non-vacuity: "abc_1-12" is valid, "abc_01-1", "ab/c_1-1", "_1-1" are not
example : validRollappId [97, 98, 99, 95, 49, 45, 49, 50] = true := by decide +kernel
example : validRollappId [97, 98, 99, 95, 48, 49, 45, 49] = false ∧ validRollappId [97, 98, 47, 99, 95, 49, 45, 49] = false ∧
    validRollappId [95, 49, 45, 49] = false := by decide +kernel

/-- the packet key is injective in all six components — for VALID rollapp ids (no raw hypothesis on
    the id; channel ids are `channel-N`, '/'-free) -/
theorem packet_key_injective_valid
    (st st' : Status) (r r' : Bytes) (h h' : Nat) (t t' : PType) (c c' : Bytes) (s s' : Nat)
    (hr : validRollappId r = true) (hr' : validRollappId r' = true) (hc : sep ∉ c) (hc' : sep ∉ c')
    (hh : h < 2 ^ 64) (hh' : h' < 2 ^ 64) (hs : s < 2 ^ 64) (hs' : s' < 2 ^ 64)
    (e : rollappPacketKey st r h t c s = rollappPacketKey st' r' h' t' c' s') :
    st = st' ∧ r = r' ∧ h = h' ∧ t = t' ∧ c = c' ∧ s = s' :=
  packet_key_injective st st' r r' h h' t t' c c' s s' (valid_rollapp_id_no_sep r hr).1
    (valid_rollapp_id_no_sep r' hr').1 hc hc' hh hh' hs hs' e

/-- C19 "sort numerically by height": within one status and rollapp, packet keys sort by proof height,
    whatever the remaining components are (`ListRollappPackets(…).Take(limit)` walks them in this order) -/
theorem packet_key_height_order (st : Status) (r : Bytes) (h h' : Nat) (t t' : PType) (c c' : Bytes) (s s' : Nat)
    (hh : h < 2 ^ 64) (hh' : h' < 2 ^ 64) (hlt : h < h') :
    lexLt (rollappPacketKey st r h t c s) (rollappPacketKey st r h' t' c' s') = true := by
  simp only [rollappPacketKey, byStatusRollappHeightPrefix, List.append_assoc, lexLt_append_left]
  exact lexLt_be64_append h h' _ _ hh hh' hlt

/-! ## sequencers by rollapp (x/sequencer): `0x01 / rollapp / status addr`, scans without trailing separator -/

/-- the key names exactly one (rollapp, status, address) — rollapp ids without '/' -/
theorem sequencer_by_rollapp_by_status_key_injective (r r' a a' : Bytes) (st st' : OpStatus)
    (hr : sep ∉ r) (hr' : sep ∉ r')
    (e : sequencerByRollappByStatusKey r a st = sequencerByRollappByStatusKey r' a' st') :
    r = r' ∧ st = st' ∧ a = a' := by
  simp only [sequencerByRollappByStatusKey, sequencersByRollappByStatusKey, sequencersByRollappKey,
    List.append_assoc, List.cons_append, List.nil_append, List.cons.injEq, true_and] at e
  have e1 := sep_split_unique sep r r' _ _ hr hr' e
  have e2 := List.append_inj e1.2 (by rw [opStatusPrefix_length, opStatusPrefix_length])
  exact ⟨e1.1, opStatusPrefix_inj _ _ e2.1, e2.2⟩

/-- `GetRollappSequencersByStatus(rollapp, status)` (prefix `SequencersByRollappByStatusKey`): returns
    the entry (rollapp', status', addr) exactly when rollapp' = rollapp and status' = status -/
theorem sequencers_by_rollapp_by_status_scan_exact (r r' a : Bytes) (st st' : OpStatus)
    (hr : sep ∉ r) (hr' : sep ∉ r') :
    isPrefix (sequencersByRollappByStatusKey r st) (sequencerByRollappByStatusKey r' a st') = true ↔
      r' = r ∧ st' = st := by
  simp only [sequencerByRollappByStatusKey, sequencersByRollappByStatusKey, sequencersByRollappKey,
    List.append_assoc, List.cons_append, List.nil_append, isPrefix_cons_self]
  rw [isPrefix_sep sep r r' _ _ hr hr', eqlen_isPrefix _ _ _ (by rw [opStatusPrefix_length, opStatusPrefix_length])]
  simp only [Bool.and_eq_true, decide_eq_true_eq]
  exact ⟨fun h => ⟨h.1.symm, (opStatusPrefix_inj _ _ h.2).symm⟩, fun h => ⟨h.1.symm, h.2 ▸ rfl⟩⟩

/-- **`GetSequencersByRollapp(rollapp)`** (prefix `SequencersByRollappKey`, NO trailing separator):
    for two valid rollapp ids the scan for `r` returns an entry of `r'` exactly when `r' = r`, provided
    the two ids do not share their name (registered ids never do: `CheckIfRollappExists` refuses a
    second id with the same name) -/
theorem sequencers_by_rollapp_scan_exact_iff (r r' a : Bytes) (st : OpStatus)
    (hr : validRollappId r = true) (hr' : validRollappId r' = true)
    (hname : r ≠ r' → rollappName r ≠ rollappName r') :
    isPrefix (sequencersByRollappKey r) (sequencerByRollappByStatusKey r' a st) = true ↔ r' = r := by
  constructor
  · intro hx
    obtain ⟨rest, e, hn, _⟩ := valid_rollapp_id_name r hr
    obtain ⟨rest', e', hn', _⟩ := valid_rollapp_id_name r' hr'
    by_cases heq : r = r'
    · exact heq.symm
    · exfalso
      apply hname heq
      rw [e, e'] at hx
      exact sequencers_by_rollapp_scan_exact _ _ rest rest' a st hn hn' hx
  · rintro rfl
    simp only [sequencerByRollappByStatusKey, sequencersByRollappByStatusKey, List.append_assoc]
    exact isPrefix_append _ _

/-- without the distinct-names side condition the scan is NOT exact: `abc_1-1` is a byte prefix of
    `abc_1-12`, so the sequencers of the second would be listed under the first.  Both ids are valid,
    but they share the name `abc` and cannot both be registered. -/
theorem sequencers_by_rollapp_scan_exact_counterexample :
    let r : Bytes := [97, 98, 99, 95, 49, 45, 49]        -- "abc_1-1"
    let r' : Bytes := [97, 98, 99, 95, 49, 45, 49, 50]   -- "abc_1-12"
    validRollappId r = true ∧ validRollappId r' = true ∧ r ≠ r' ∧ rollappName r = rollappName r' ∧
      isPrefix (sequencersByRollappKey r) (sequencerByRollappByStatusKey r' [100] .bonded) = true := by decide +kernel

/-! ## x/rollapp store keys -/

theorem rollapp_key_injective (a b : Bytes) (e : rollappKey a = rollappKey b) : a = b := by
  simpa [rollappKey] using e

/-- **`GetRollappByName(name)`** (prefix `name + "_"` over `RollappKey`): finds the rollapp `id'`
    exactly when its name is `name` -/
theorem rollapp_by_name_scan_exact (name id' : Bytes) (hn : 95 ∉ name) (h' : validRollappId id' = true) :
    isPrefix (rollappByNamePrefix name) (rollappKey id') = decide (rollappName id' = name) := by
  obtain ⟨rest', e', hn', _⟩ := valid_rollapp_id_name id' h'
  generalize rollappName id' = name' at *
  subst e'
  simp only [rollappByNamePrefix, rollappKey, List.append_assoc, List.cons_append]
  exact isPrefix_sep_nil 95 name name' _ hn hn'

theorem state_info_key_injective (r r' : Bytes) (i i' : Nat) (hr : sep ∉ r) (hr' : sep ∉ r')
    (hi : i < 2 ^ 64) (hi' : i' < 2 ^ 64) (e : stateInfoKey r i = stateInfoKey r' i') : r = r' ∧ i = i' := by
  simp only [stateInfoKey, List.append_assoc, List.cons_append] at e
  have e1 := sep_split_unique sep r r' _ _ hr hr' e
  exact ⟨e1.1, be64_inj i i' hi hi' (List.append_cancel_right e1.2)⟩

/-- C19 "sort numerically": the state infos of one rollapp sort by state index -/
theorem state_info_index_order (r : Bytes) (i i' : Nat) (hi : i < 2 ^ 64) (hi' : i' < 2 ^ 64) :
    lexLt (stateInfoKey r i) (stateInfoKey r i') = decide (i < i') := by
  simp only [stateInfoKey, List.append_assoc, lexLt_append_left]
  rw [lexLt_append_eqlen _ _ _ _ (by rw [be64_length, be64_length]), lexLt_irrefl, Bool.and_false, Bool.or_false,
    lexLt_be64 i i' hi hi']

/-- the state infos of one rollapp are never returned by a by-rollapp prefix scan of another -/
theorem state_info_scan_by_rollapp_exact (r r' : Bytes) (i : Nat) (hr : sep ∉ r) (hr' : sep ∉ r') :
    isPrefix (r ++ [sep]) (stateInfoKey r' i) = decide (r' = r) := by
  simp only [stateInfoKey, List.append_assoc, List.cons_append, List.nil_append]
  exact isPrefix_sep_nil sep r r' _ hr hr'

theorem app_key_injective (r r' : Bytes) (n n' : Nat) (hr : sep ∉ r) (hr' : sep ∉ r')
    (hn : n < 2 ^ 64) (hn' : n' < 2 ^ 64) (e : appKey r n = appKey r' n') : r = r' ∧ n = n' := by
  simp only [appKey, List.append_assoc, List.singleton_append] at e
  have e1 := sep_split_unique sep r r' _ _ hr hr' e
  exact ⟨e1.1, be64_inj n n' hn hn' e1.2⟩

/-- `GetRollappApps(rollapp)` (prefix `RollappAppKeyPrefix`): exactly that rollapp's apps -/
theorem app_scan_by_rollapp_exact (r r' : Bytes) (n : Nat) (hr : sep ∉ r) (hr' : sep ∉ r') :
    isPrefix (rollappAppKeyPrefix r) (appKey r' n) = decide (r' = r) := by
  simp only [rollappAppKeyPrefix, appKey, List.append_assoc, List.cons_append, List.nil_append]
  exact isPrefix_sep_nil sep r r' _ hr hr'

theorem rollapp_by_eip155_key_injective (n n' : Nat) (hn : n < 2 ^ 64) (hn' : n' < 2 ^ 64)
    (e : rollappByEIP155Key n = rollappByEIP155Key n') : n = n' := by
  simp only [rollappByEIP155Key, le64] at e
  have := List.append_cancel_right e
  exact be64_inj n n' hn hn' (List.reverse_inj.1 this)

/-- the edge, stated: the EIP155 index is LITTLE endian, so its keys do NOT sort numerically (nothing
    in the hub iterates this index in order) -/
theorem rollapp_by_eip155_key_order_counterexample :
    lexLt (rollappByEIP155Key 256) (rollappByEIP155Key 1) = true := by decide +kernel

theorem block_height_queue_key_order (h h' : Nat) (hh : h < 2 ^ 64) (hh' : h' < 2 ^ 64) (hlt : h < h') :
    lexLt (blockHeightToFinalizationQueueKey h) (blockHeightToFinalizationQueueKey h') = true :=
  lexLt_be64_append h h' _ _ hh hh' hlt

/-! ## liveness queue, demand orders, delayedack store -/

/-- **`GetLivenessEvents(&h)`** (prefix `LivenessEventQueueIterHeightKey(h)`): returns the event
    (h', rollapp) exactly when h' = h — the `*height < e.HubHeight → break` guard of the loop never fires -/
theorem liveness_scan_by_height_exact (h h' : Nat) (r : Bytes) (hh : h < 2 ^ 64) (hh' : h' < 2 ^ 64) :
    isPrefix (livenessScanPrefix h) (livenessKey h' r) = decide (h' = h) := by
  simp only [livenessScanPrefix, livenessKey, livenessIterHeightKey, List.append_assoc, isPrefix_append_left]
  have := eqlen_isPrefix (be64 h) (be64 h') ([sep] ++ ([115] ++ ([sep] ++ r))) (by simp [be64_length])
  rw [this]
  by_cases e : h' = h
  · subst e; simp
  · have : be64 h ≠ be64 h' := fun x => e (be64_inj h h' hh hh' x).symm
    simp [e, this]

/-- C19 "sort by height": liveness events are stored in hub-height order (what the whole-queue walk
    `GetLivenessEvents(nil)` and the comment "events are stored in height non-decreasing order" rely on) -/
theorem liveness_key_height_order (h h' : Nat) (r r' : Bytes) (hh : h < 2 ^ 64) (hh' : h' < 2 ^ 64) (hlt : h < h') :
    lexLt (livenessKey h r) (livenessKey h' r') = true := by
  simp only [livenessKey, livenessIterHeightKey, List.append_assoc, lexLt_append_left]
  exact lexLt_be64_append h h' _ _ hh hh' hlt

theorem liveness_key_injective (h h' : Nat) (r r' : Bytes) (hh : h < 2 ^ 64) (hh' : h' < 2 ^ 64)
    (e : livenessKey h r = livenessKey h' r') : h = h' ∧ r = r' := by
  have a := liveness_key_roundtrip h r hh
  rw [e, liveness_key_roundtrip h' r' hh'] at a
  simpa [eq_comm] using a

/-- **`ListDemandOrdersByStatus(status)`**: the prefix scan returns exactly the orders stored under that status -/
theorem demand_orders_by_status_scan_exact (st st' : Status) (i : Bytes) :
    isPrefix (demandOrdersByStatusPrefix st) (demandOrderKey st' i) = decide (st' = st) := by
  simp only [demandOrdersByStatusPrefix, demandOrderKey, List.append_assoc]
  rw [eqlen_isPrefix _ _ _ (by rw [statusBytes_length, statusBytes_length])]
  exact decide_eq_decide.2 ⟨fun h => (statusBytes_inj _ _ h).symm, fun h => h ▸ rfl⟩

/-- the by-status scan of rollapp packets returns exactly the packets of that status -/
theorem packets_by_status_scan_exact (st st' : Status) (r : Bytes) (h : Nat) (t : PType) (c : Bytes) (s : Nat) :
    isPrefix (byStatusPrefix st) (rollappPacketKey st' r h t c s) = decide (st' = st) := by
  simp only [byStatusPrefix, rollappPacketKey, byStatusRollappHeightPrefix, byStatusRollappPrefix,
    List.append_assoc, List.cons_append, List.nil_append]
  rw [isPrefix_statusBytes, isPrefix_cons_self, isPrefix_nil, Bool.and_true]
  exact decide_eq_decide.2 eq_comm

/-- inside the delayedack store the collections key set `pendingPacketsByAddress` (prefix 0x01) and the
    rollapp packets (keys starting 0x00) never meet: no packet key lies in any scan of the key set and
    no key-set entry is returned by a packet scan -/
theorem delayedack_prefixes_disjoint (st : Status) (r : Bytes) (h : Nat) (t : PType) (c : Bytes) (s : Nat) (x : Bytes) :
    isPrefix pendingPacketsByAddressPrefix (rollappPacketKey st r h t c s) = false ∧
    isPrefix (byStatusPrefix st) (pendingPacketsByAddressPrefix ++ x) = false := by
  cases st <;> exact ⟨rfl, rfl⟩

end DymVerif.C19
