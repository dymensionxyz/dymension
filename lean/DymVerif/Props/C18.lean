/-
  Props/C18 — exporting and re-importing genesis preserves the chain (x/rollapp + x/sequencer part,
  over M-Core; the other modules' genesis round trips live in their own packages).
-/
import DymVerif.Lemmas.CoreGenesis
import DymVerif.Lemmas.CoreRoles5
namespace DymVerif.C18
open DymVerif DymVerif.Core DymVerif.Core.Roles

/-- **export followed by import is the identity** on every M-Core state whose rollapp ids are pairwise distinct
    and whose notice queue is backed by the sequencer records — all components: rollapp records,
    every state info under its index, latest and latest-finalized indices, finalization queue,
    liveness events, sequencer liabilities, obsolete versions, sequencers, proposers, successors,
    notice queue, balances.  (Both hypotheses are invariants of reachable states: ids come from
    `createRollapp`, which refuses an existing id; notice-queue entries are written together with the
    sequencer's notice time.) -/
theorem export_import_identity (s : St) (hd : IdsDistinct s.ras) (hn : NqOk s) : reimport s = s :=
  reimport_id s hd hn

/-- hence the second export equals the first … -/
theorem export_import_export (s : St) (hd : IdsDistinct s.ras) (hn : NqOk s) :
    exportCore (reimport s) = exportCore s := by rw [reimport_id s hd hn]

/-- … and continuing with the same messages and blocks on both chains produces the same states
    (and therefore the same results and observations) -/
theorem continue_commutes (s : St) (hd : IdsDistinct s.ras) (hn : NqOk s) (ops : List Op) :
    ops.foldl (fun s o => (step s o).1) (reimport s) = ops.foldl (fun s o => (step s o).1) s := by
  rw [reimport_id s hd hn]

/-- the flat genesis keeps hub height, time and parameters (no hypotheses needed) -/
theorem reimport_clock (s : St) : (reimport s).h = s.h ∧ (reimport s).t = s.t ∧ (reimport s).p = s.p := ⟨rfl, rfl, rfl⟩

/-- bank-side components, sequencer records, queue, liabilities and events are carried verbatim -/
theorem reimport_flat_components (s : St) :
    (reimport s).seqs = s.seqs ∧ (reimport s).queue = s.queue ∧ (reimport s).seqH = s.seqH ∧
    (reimport s).lev = s.lev ∧ (reimport s).obsolete = s.obsolete ∧ (reimport s).bal = s.bal ∧
    (reimport s).modBal = s.modBal := ⟨rfl, rfl, rfl, rfl, rfl, rfl, rfl⟩

/-- **Every reachable state round-trips**: for every valid parameter set (the notice period is
    validated to be positive) and every operation sequence, exporting the genesis of the reached
    state and importing it gives back exactly that state — so the imported chain re-exports the same
    genesis, answers every query identically and continues identically.  The two hypotheses of
    `export_import_identity` are discharged by the roles invariant (`run_roles`, C07). -/
theorem export_import_reachable (p : Params) (hp : 0 < p.noticePeriod) (ops : List Op) :
    reimport (run p ops) = run p ops := by
  have h := run_roles p hp ops
  apply reimport_id
  · exact h.core.uniq.ids
  · intro e he
    obtain ⟨q, r, hq, hn, _, _⟩ := h.core.nq e.1 e.2 he
    exact ⟨q, hq, hn⟩

/-- … and any continuation of the imported chain equals the continuation of the original -/
theorem continue_commutes_reachable (p : Params) (hp : 0 < p.noticePeriod) (ops more : List Op) :
    more.foldl (fun s o => (step s o).1) (reimport (run p ops)) = run p (ops ++ more) := by
  rw [export_import_reachable p hp ops]
  unfold run; rw [List.foldl_append]

/-- without distinct ids the round trip is NOT the identity (two records under one id collapse to the
    first one's indices): the hypothesis is needed, and `createRollapp` is what provides it -/
theorem distinct_ids_needed :
    ∃ s : St, ¬ IdsDistinct s.ras ∧ reimport s ≠ s := by
  refine ⟨{ (init default) with ras := [{ (newRollapp 0 1 1) with lastFin := 1 }, newRollapp 0 1 1] }, ?_, ?_⟩
  · intro h; have := (List.pairwise_cons.1 h).1 (newRollapp 0 1 1) (by simp); exact this rfl
  · intro h
    have := congrArg (fun s => s.ras.map (·.lastFin)) h
    revert this; decide

end DymVerif.C18
