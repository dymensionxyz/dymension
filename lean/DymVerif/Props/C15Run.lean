/-
  Props/C15Run — the hypotheses of the state-level paging theorems (Props/C15 §4b: `LiveS`, `PtrsOKS`, `Inv` on the
  state at the START of the window) DERIVED ALONG WHOLE HISTORIES `run (init now mi) ops`.

    liveS_reachable .................. every record of every active stream names a gauge the code accepts, after every
                                       `Admissible` history in which no SPONSORED stream is created (`Op.notSponsored`).
                                       Precise reason: `validateGauges` (CreateStream; Replace- and UpdateStreamDistribution
                                       are outside `Admissible`) accepts existing PERPETUAL gauges only, a perpetual
                                       gauge is never finished (`perpetual_never_finished`), blocks never change a
                                       gauge's id / perpetual flag nor a non-sponsored stream's records.  A sponsored
                                       stream's records are the sponsorship distribution, read unvalidated at creation
                                       and at every epoch start: `liveS_sponsored_counterexample`.
    ptrsOKS_reachable ................ the stored epoch pointers are resumable, after every `Admissible` history
                                       (sponsored streams included) in which no termination hits a stream named by an epoch pointer in the middle of
                                       its records (`TermSafe`, a decidable predicate: it runs the model along the
                                       history).  Needed: `ptrsOKS_terminated_counterexample` (the history of
                                       `paging_pointer_terminated_counterexample`).  In fact the stronger `StrongS`
                                       holds: each pointer is at a first gauge, names an ACTIVE stream of its own epoch,
                                       or is the last-gauge pointer.
    paging_state_independent_reachable  `paging_state_independent` with hypotheses on the HISTORY only.
-/
import DymVerif.Props.C15
import DymVerif.Lemmas.IncentLiveRun
import DymVerif.Lemmas.IncentPtrRun
namespace DymVerif.C15
open DymVerif DymVerif.Incent DymVerif.Incent.Coins

/-- a perpetual gauge is never finished, at any time, whatever its start, filled and total epochs are
    (`IsFinishedGauge`): the reason why `validateGauges`' check is enough for `LiveS` -/
theorem perpetual_never_finished (g : Gauge) (now : Nat) (h : g.perpetual = true) : g.isFinished now = false :=
  perpetual_not_finished g now h

/-- **`LiveS` along whole histories**: after every admissible history (well-formed ops, no governance re-targeting)
    that creates no sponsored stream, every record of every active stream names a gauge `getActiveGaugeByID`
    accepts.  (Invariant `NamedS`: every stored stream — upcoming, active or finished — is not sponsored and names
    slots of the gauge table holding perpetual gauges.) -/
theorem liveS_reachable (now mi : Nat) (ops : List Op) (hw : Admissible ops) (hns : ∀ op ∈ ops, op.notSponsored)
    (hlen : (run (init now mi) ops).streams.length < maxU64) : LiveS (run (init now mi) ops) :=
  liveS_of_named _ (run_named ops _ (init_inv now mi) (init_named now mi) hw hns hlen)

/-- the history of the sponsored exclusion: a sponsored hour stream created while the sponsorship distribution names
    gauge 7, which does not exist (the distribution is an input of x/streamer; `CreateStream` does not validate it) -/
def unknownGaugeHistory : List Op :=
  [.begin 1, .end_, .createGauge 0 true 0 1 true [] 101 1, .fund streamerAddr [4000], .distribution [⟨7, 1⟩],
   .createStream true [4000] [] 101 1 2, .begin 3601, .end_]

/-- **the exclusion `notSponsored` is needed**: the history is admissible, its only offence is the sponsored stream;
    afterwards stream 1 is active and its record names gauge 7, unknown to x/incentives — `LiveS` fails (the code skips
    the record and its share is not handed out, whatever the limit) -/
theorem liveS_sponsored_counterexample :
    Admissible unknownGaugeHistory ∧ ¬ (∀ op ∈ unknownGaugeHistory, op.notSponsored) ∧
    (run (init 100 500) unknownGaugeHistory).streams.length < maxU64 ∧
    ¬ LiveS (run (init 100 500) unknownGaugeHistory) := by
  refine ⟨by unfold Admissible; decide +kernel, by decide +kernel, by decide +kernel, ?_⟩
  intro h
  have hm : ∃ st ∈ activeStreams (run (init 100 500) unknownGaugeHistory), (⟨7, 1⟩ : Rec) ∈ st.recs := by decide +kernel
  obtain ⟨st, hst, hr⟩ := hm
  obtain ⟨g, hg, _⟩ := h st hst ⟨7, 1⟩ hr
  have : getGauge (run (init 100 500) unknownGaugeHistory) 7 = none := by decide +kernel
  rw [this] at hg
  exact absurd hg (by simp)

/-- **`PtrsOKS` along whole histories**: after every admissible history (sponsored streams INCLUDED) in which no
    termination hits a stream named by an epoch pointer in the middle of its records (`TermSafe`), the stored epoch
    pointers are resumable — termination under the pointer is the only way to lose `PtrsOKS` -/
theorem ptrsOKS_reachable (now mi : Nat) (ops : List Op) (hw : Admissible ops)
    (hts : TermSafe (init now mi) ops) (hlen : (run (init now mi) ops).streams.length < maxU64) :
    PtrsOKS (run (init now mi) ops) := by
  obtain ⟨hi, hst⟩ := run_strong ops _ (init_inv now mi) (init_strong now mi) hw hts hlen
  exact ptrsOKS_of_strong _ hi hst

/-- … in the stronger, inductive form: every stored pointer is at a first gauge, or names a stored ACTIVE stream of its
    own epoch identifier, or is the last-gauge pointer -/
theorem pointers_name_active_streams_reachable (now mi : Nat) (ops : List Op) (hw : Admissible ops)
    (hts : TermSafe (init now mi) ops)
    (hlen : (run (init now mi) ops).streams.length < maxU64) (e : Nat) :
    let s := run (init now mi) ops
    let p := s.ptrs.getD e Pointer.last
    p.gaugeId = 0 ∨ (∃ st, getS s.streams p.streamId = some st ∧ p.streamId ∈ s.active.ids ∧ st.epochId = e) ∨ p = Pointer.last :=
  (run_strong ops _ (init_inv now mi) (init_strong now mi) hw hts hlen).2 e

/-- non-vacuity of the sponsored case: the sponsored history above is `TermSafe` -/
example : TermSafe (init 100 500) unknownGaugeHistory := by decide +kernel

/-- **the exclusion `TermSafe` is needed**: the first 14 ops of `termHistory 1` (Props/C15) are admissible and create no
    sponsored stream; the last of them terminates stream 1 while the hour pointer is (stream 1, gauge 2) — `TermSafe`
    fails there and only there, and `PtrsOKS` is false afterwards (pointer into a stream that is no longer active,
    with the active stream 2 behind it) -/
theorem ptrsOKS_terminated_counterexample :
    Admissible ((termHistory 1).take 14) ∧ (∀ op ∈ (termHistory 1).take 14, op.notSponsored) ∧
    TermSafe (init 100 1) ((termHistory 1).take 13) ∧ ¬ TermSafe (init 100 1) ((termHistory 1).take 14) ∧
    ¬ PtrsOKS (run (init 100 1) ((termHistory 1).take 14)) := by
  refine ⟨by unfold Admissible; decide +kernel, by decide +kernel, by decide +kernel, by decide +kernel, ?_⟩
  intro h
  have h1 := h 1 trivial
  unfold PtrOKe at h1
  revert h1
  decide +kernel

/-- **`paging_state_independent` with hypotheses on the HISTORY only**: after ANY admissible history `ops` that creates
    no sponsored stream and terminates no stream under an epoch pointer, for ANY two schedules of per-block iteration
    limits from the reached state, each followed by the end of epoch `e`: every stream of that epoch active in the
    reached state is stored with THE SAME distributed coins in both runs, namely `Settled` of the reached state.
    (`hlen`: fewer than 2^64-1 streams; `hsmall`: lock count × record count below 2^64-1, the epoch-end budget.) -/
theorem paging_state_independent_reachable (now mi : Nat) (ops : List Op) (hw : Admissible ops)
    (hns : ∀ op ∈ ops, op.notSponsored) (hts : TermSafe (init now mi) ops)
    (hlen : (run (init now mi) ops).streams.length < maxU64)
    (e : Nat) (he : e ≤ 2)
    (hsmall : ((run (init now mi) ops).locks.length + 1) * totalRecs (dataOf (run (init now mi) ops)) < maxU64)
    (ns1 ns2 : List Nat) (t1 t2 u1 u2 : State)
    (h1 : runBlocks (run (init now mi) ops) ns1 = some t1) (h2 : runBlocks (run (init now mi) ops) ns2 = some t2)
    (f1 : streamerAfterEpochEnd t1 e = .ok u1) (f2 : streamerAfterEpochEnd t2 e = .ok u2) :
    ∀ st0 ∈ (run (init now mi) ops).streams, st0.id ∈ (run (init now mi) ops).active.ids → st0.epochId = e →
      ∃ a b, getS u1.streams st0.id = some a ∧ getS u2.streams st0.id = some b ∧
        b = { a with distributed := b.distributed } ∧
        ∀ i, amt a.distributed i = amt b.distributed i ∧ amt a.distributed i = Settled (run (init now mi) ops) st0 i := by
  obtain ⟨hi, hn, hst⟩ := run_live_strong ops _ (init_inv now mi) (init_named now mi) (init_strong now mi) hw hns hts hlen
  exact paging_state_independent _ e he hi (ptrsOKS_of_strong _ hi hst) hsmall ns1 ns2 t1 t2 u1 u2 (liveS_of_named _ hn) h1 h2 f1 f2

/-- non-vacuity: the history of `paging_gauge_side_counterexample` (Props/C15, limit 1) satisfies every hypothesis on
    the history — admissible, no sponsored stream, no termination under a pointer — and has an active hour stream -/
example : Admissible (strandedHistory 1) ∧ (∀ op ∈ strandedHistory 1, op.notSponsored) ∧
    TermSafe (init 100 1) (strandedHistory 1) ∧ (run (init 100 1) (strandedHistory 1)).streams.length < maxU64 := by
  refine ⟨by unfold Admissible; decide +kernel, by decide +kernel, by decide +kernel, by decide +kernel⟩

end DymVerif.C15
