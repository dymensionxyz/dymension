/-
  Props/C05Pfm — C05 "when the packet later finalizes the whole packet amount goes to the fulfiller":
  the positive statement (the release credits the address the packet names — after a fulfilment the
  fulfiller / LP — with the whole amount, minus the bridging fee for a received packet) for every
  packet the hub did NOT send as a packet-forward (packet-forward middleware below delayedack,
  app/transfer_stack.go):

     theorem finalize_pays_fulfiller_partial (h : finalizePacket s k = .ok s') (hp : getPacket s k = some p)
         (hf : p.fwd = none) (refund : p.ptype = .onTimeout ∨ (p.ptype = .onAck ∧ p.ackErr)) (ok : no error recorded) :
         getBal s'.bal p.target p.denom = getBal s.bal p.target p.denom + p.amount

  For a forwarded packet the release settles the forward between the channel escrows and pays `p.target`
  nothing; such a packet gets no demand order (`forwarded_gets_no_order`, `IBCMiddleware.isForwarded`: the
  model mirrors the code after `fixes/fix_pfm_forwarded_order.diff`; finding
  `C05/finalize_pays_fulfiller/fulfiller-not-paid-on-finalization/forwarded-packet`, replay
  corpus/C05/pfm-forwarded-timeout-fulfilled.ops), so it cannot be fulfilled.  The history-level form (the
  packet of a pending order has `fwd = none`) is `C05X.order_linked_x` (used in
  `C05X.finalize_pays_fulfiller_run`).
-/
import DymVerif.Props.C05
namespace DymVerif.C05
open DymVerif DymVerif.Keys DymVerif.Packets

/-- the refund of a packet that is not a forward credits the address it names with the whole amount -/
theorem refundRelease_pays_target (s : St) (p : Packet) (hf : p.fwd = none) (ht : p.target ≠ escrowAcct p.chan)
    (hok : (refundRelease s p).2 = none) :
    getBal (refundRelease s p).1.bal p.target p.denom = getBal s.bal p.target p.denom + p.amount := by
  unfold refundRelease at hok ⊢
  split
  · rename_i s1 hr
    unfold icsRefund at hr
    rw [hf] at hr
    exact icsCredit_pays_target hr ht
  · rename_i hr; rw [hr] at hok; cases hok

/-- **finalize_pays_fulfiller** (refunds: timeout / error acknowledgement), `_partial`: under the
    hypothesis that the hub did not send the packet as a packet-forward.  After a fulfilment `p.target`
    is the fulfiller / LP (`fulfil_redirects_packet`), so the whole amount goes to the fulfiller. -/
theorem finalize_pays_fulfiller_partial {s s' : St} {k : Bytes} {p : Packet} (h : finalizePacket s k = .ok s')
    (hp : getPacket s k = some p) (hf : p.fwd = none)
    (hr : p.ptype = .onTimeout ∨ (p.ptype = .onAck ∧ p.ackErr = true)) (ht : p.target ≠ escrowAcct p.chan)
    (hok : (releaseEffect s p).2 = none) :
    getBal s'.bal p.target p.denom = getBal s.bal p.target p.denom + p.amount := by
  have hrel : releaseEffect s p = refundRelease s p := by
    unfold releaseEffect
    rcases hr with hr | ⟨hr, he⟩
    · rw [hr]
    · rw [hr]; simp [he]
  obtain ⟨p', hp', hb⟩ := finalizePacket_bal h
  cases hp.symm.trans hp'
  rw [hb, hrel]
  exact refundRelease_pays_target s p hf ht (hrel ▸ hok)

-- ------------------------------------------------------------------ forwarded packets get no order

/-- **forwarded_gets_no_order** — (`IBCMiddleware.isForwarded`) a delayed acknowledgement / timeout of a
    packet the packet-forward middleware sent creates no demand order: the packet is only stored, so
    nobody can fulfil it, and its later finalization settles the forward towards the origin chain at
    nobody's expense. -/
theorem forwarded_gets_no_order {s0 s' : St} {p : Packet} {refund : Bool} (hf : p.fwd.isSome = true)
    (h : ackDelay s0 p refund = .ok (some s')) : s'.orders = s0.orders := by
  unfold ackDelay at h
  split at h
  · cases h
  · have : (refund && p.fwd.isNone) = false := by
      cases hfw : p.fwd with
      | none => rw [hfw] at hf; cases hf
      | some r => simp
    rw [this] at h
    cases h
    rfl

/-- c0: canonical channel of rollapp "r"; c1: a plain chain -/
def pfmChans : List Chan :=
  [ { hubId := [99, 48], cpId := [99, 55], rollapp := some 0, canonical := true },
    { hubId := [99, 49], cpId := [99, 56], rollapp := none, canonical := false } ]
/-- timeout fee 0.15 % -/
def pfmInit : St := initSt 3 100000 ⟨0⟩ ⟨1500000000000000⟩ ⟨0⟩ [114] [115] pfmChans
def pfmKey : Bytes := rollappPacketKey .pending [114] 15 .onTimeout [99, 48] 1
/-- 1000 units arrive from the plain chain with a forward memo towards the rollapp; the forwarded packet
    times out above the finalized height; the rollapp's states become final -/
def pfmOps : List Op :=
  [ .addState [114] 10,
    .recv 1 1 0 { dref := .foreign, amount := 1000, target := some 0, memo := .forward 0 },
    .addState [114] 10,
    .timeout 0 1 15 ]

/-- the history of corpus/C05/pfm-forwarded-timeout-fulfilled.ops: the timed-out forwarded packet is stored
    pending WITHOUT a demand order, a fulfilment is refused, and the finalization burns the escrowed
    voucher and acknowledges the inbound packet with an error — the refund goes back to the origin chain
    and no third party pays anything. -/
theorem forwarded_timeout_has_no_order_example :
    (run pfmInit pfmOps).orders = [] ∧
    (getPacket (run pfmInit pfmOps) pfmKey).map (fun p => (p.target, p.orig, p.amount, p.fwd)) = some (pfmAddr 1, none, 1000, some (1, 1)) ∧
    (step (run pfmInit pfmOps) (.fulfill 2 pfmKey 1)).2 = .err .notFound ∧
    (step (run pfmInit (pfmOps ++ [.finalizeState [114], .finalizeState [114]])) (.finalize 0 [114] 15 .onTimeout [99, 48] 1)).2 = .ok ∧
    getBal (step (run pfmInit (pfmOps ++ [.finalizeState [114], .finalizeState [114]])) (.finalize 0 [114] 15 .onTimeout [99, 48] 1)).1.bal (escrowAcct 0) 2 = 0 ∧
    (step (run pfmInit (pfmOps ++ [.finalizeState [114], .finalizeState [114]])) (.finalize 0 [114] 15 .onTimeout [99, 48] 1)).1.acks = [((1, 1), false)] := by
  decide +kernel

end DymVerif.C05
