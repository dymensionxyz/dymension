/-
  Props/C08X — C08 (an idle rollapp's proposer is slashed on schedule; an active one never), further clauses.

  A real proposer always has a liveness event: in every reachable state a rollapp whose proposer is not
  the sentinel carries a non-zero event height and exactly that event is queued.  (Every
  `setProposer (some _)` of the Go code goes through the rollapp hook `AfterSetRealProposer` →
  `IndicateLiveness`; a hard fork, which clears the event, also removes the proposer.)  A change that sets
  a proposer without `IndicateLiveness`, or forks without removing the proposer, breaks
  `real_proposer_has_event`.  With it `C08.idle_slashed_on_schedule` holds without the hypothesis `r.evH ≠ 0`.

  Arbitrary interleavings of messages and blocks (messages inside blocks, bond increases, updates / forks
  of other rollapps, …): every scheduled event lies on the slash grid of the rollapp's then-current
  countdown start, a block end slashes the proposer exactly once iff the event is due, and never at a
  height off that grid.

  The per-record invariant `PE` is closed under the ways M-Core rewrites a rollapp record (`QClosed`,
  Lemmas/CoreXWalk*.lean), for all parameters and all op sequences.
-/
import DymVerif.Props.C08
import DymVerif.Lemmas.CoreXProp
namespace DymVerif.C08X
open DymVerif DymVerif.Core DymVerif.Core.LevNs

/-- **a real proposer has an event**: in every reachable state, a rollapp with a real (non-sentinel)
    proposer has a non-zero `LivenessEventHeight`, and exactly that event is in the liveness-event
    queue — so the schedule theorems of C08 apply to every rollapp that has a proposer to slash. -/
theorem real_proposer_has_event (p : Params) (ops : List Op) (r : Rollapp) (hr : r ∈ (run p ops).ras)
    (hp : r.proposer.isSome = true) : r.evH ≠ 0 ∧ (r.evH, r.id) ∈ (run p ops).lev := by
  have hpe := XW.run_pe p ops r hr
  have hne : r.evH ≠ 0 := by
    intro h0
    rw [hpe.2 h0] at hp
    cases hp
  rcases (run_lev p ops).ra_ev r hr with h | h
  · exact absurd h hne
  · exact ⟨hne, h⟩

/-- the same through `getRa` -/
theorem real_proposer_has_event_at (p : Params) (ops : List Op) (ra : Nat) (r : Rollapp) (a : Addr)
    (hg : getRa (run p ops) ra = some r) (hp : r.proposer = some a) :
    r.evH ≠ 0 ∧ (r.evH, ra) ∈ (run p ops).lev := by
  have := real_proposer_has_event p ops r (getRa_mem hg) (by rw [hp]; rfl)
  rw [getRa_id hg] at this
  exact this

/-- its countdown has been started at a real hub height (`LivenessCountdownStartHeight ≥ 1`), and the
    event lies at least `LivenessSlashBlocks` after it -/
theorem real_proposer_clock_started (p : Params) (ops : List Op) (r : Rollapp) (hr : r ∈ (run p ops).ras)
    (hp : r.proposer.isSome = true) : 1 ≤ r.cdStart ∧ r.cdStart + p.lsBlocks ≤ r.evH := by
  have hpe := XW.run_pe p ops r hr
  have h1 : 1 ≤ r.cdStart := by
    rcases Nat.eq_zero_or_pos r.cdStart with h0 | h0
    · rw [hpe.1 h0] at hp; cases hp
    · exact h0
  refine ⟨h1, ?_⟩
  rcases (C08.event_not_before_window p ops).2 r hr with h | h
  · exact absurd h (real_proposer_has_event p ops r hr hp).1
  · exact h

/-- contrapositive, the form a regression test reads: a rollapp without event height (fresh, or
    forked and not yet recovered) has the sentinel proposer -/
theorem no_event_no_proposer (p : Params) (ops : List Op) (r : Rollapp) (hr : r ∈ (run p ops).ras)
    (h0 : r.evH = 0) : r.proposer = none := (XW.run_pe p ops r hr).2 h0

/-- step form: whatever accepted op gives rollapp `ra` a real proposer (first sequencer, opt-in,
    hand-over by the last block of a rotation, kick) leaves it with its event scheduled -/
theorem proposer_set_schedules_event (p : Params) (ops : List Op) (o : Op) (s' : St) (ra : Nat) (r' : Rollapp) (a : Addr)
    (h : apply (run p ops) o = .ok s') (hg' : getRa s' ra = some r') (hp' : r'.proposer = some a) :
    r'.evH ≠ 0 ∧ (r'.evH, ra) ∈ s'.lev := by
  have hs : s' = run p (ops ++ [o]) := by
    rw [DymVerif.Core.LevNs.run_append]
    simp only [List.foldl_cons, List.foldl_nil]
    unfold step; rw [h]
  subst hs
  exact real_proposer_has_event_at p (ops ++ [o]) ra r' a hg' hp'

/-- **an idle rollapp's proposer is slashed on schedule** (`C08.idle_slashed_on_schedule` without the
    hypothesis that an event is scheduled): take any reachable state between blocks in which rollapp
    `ra` has a real proposer `a` (record `q`); let any number of blocks pass without a message.  Then
    the hub height advanced by that many blocks, the countdown start and the proposer are unchanged,
    the event is again at the next slash height, and the proposer's record is `idleSeq` under the
    x/sequencer parameters in force when the idle stretch begins (`(run p ops).sqp`: the history `ops`
    may contain any number of `MsgUpdateParams`; the stretch itself contains no message): slashed at the
    end of exactly the blocks whose height is a grid point `cdStart + N + j·I`. -/
theorem idle_slashed_on_schedule (p : Params) (hI : 1 ≤ p.lsInterval) (ops : List Op)
    (hph : ops.foldl phaseStep (some false) = some false)
    (ra : Nat) (r : Rollapp) (a : Addr) (q : Seq)
    (hg : getRa (run p ops) ra = some r) (hp : r.proposer = some a) (hq : getSeq (run p ops) a = some q)
    (bs : List (Nat × List (Nat × Nat))) :
    (run p (ops ++ blockOps bs)).h = (run p ops).h + bs.length ∧
    (∃ r', getRa (run p (ops ++ blockOps bs)) ra = some r' ∧ r'.cdStart = r.cdStart ∧ r'.proposer = some a ∧
      r'.evH = nextSlashHeight p.lsBlocks p.lsInterval ((run p ops).h + bs.length) r.cdStart) ∧
    getSeq (run p (ops ++ blockOps bs)) a = some (idleSeq p (run p ops).sqp r.cdStart (run p ops).h bs.length q) :=
  C08.idle_slashed_on_schedule p hI ops hph ra r a q hg hp hq (real_proposer_has_event_at p ops ra r a hg hp).1 bs

/-- **every scheduled event lies on the slash grid of the rollapp's current countdown start**, in
    every reachable state, whatever messages and blocks were interleaved -/
theorem event_on_grid (p : Params) (ops : List Op) (r : Rollapp) (hr : r ∈ (run p ops).ras) :
    r.evH = 0 ∨ ∃ j, r.evH = r.cdStart + p.lsBlocks + j * p.lsInterval := by
  have := (run_grid p ops).ev r hr
  rw [run_p] at this
  exact this

/-- between blocks the event of a rollapp with a real proposer is EXACTLY the next slash height of
    its countdown start (`C08.event_exactly_at_next_slash_height` without its `evH = 0` alternative) -/
theorem real_proposer_event_exact (p : Params) (hI : 1 ≤ p.lsInterval) (ops : List Op)
    (hph : ops.foldl phaseStep (some false) = some false) (r : Rollapp) (hr : r ∈ (run p ops).ras)
    (hp : r.proposer.isSome = true) :
    r.evH = nextSlashHeight p.lsBlocks p.lsInterval (run p ops).h r.cdStart := by
  rcases C08.event_exactly_at_next_slash_height p hI ops hph r hr with h | h
  · exact absurd h (real_proposer_has_event p ops r hr hp).1
  · exact h

/-- **an idle rollapp's proposer is slashed on schedule, any interleaving**: take ANY reachable state
    (messages may have been interleaved anywhere, also inside the current block: bond increases of the
    proposer, updates and forks of other rollapps, …) in which rollapp `ra` has the real proposer `a`
    with record `q`, and end the block.  Then
    * if the rollapp's event is due (`evH` = the hub height) the proposer's record becomes exactly
      `slashOnce (run p ops).sqp q` — slashed once, on whatever its bond then is, with the x/sequencer
      parameters IN FORCE at that block end (`MsgUpdateParams` may occur anywhere in `ops`, also inside the
      current block) — and the hub height is a grid point
      `cdStart + N + j·I` of the record's then-current countdown start;
    * otherwise the record is untouched;
    * in particular at a height off that grid the proposer is never slashed. -/
theorem idle_slashed_on_schedule_interleaved (p : Params) (ops : List Op) (f : List (Nat × Nat))
    (ra : Nat) (r : Rollapp) (a : Addr) (q : Seq)
    (hg : getRa (run p ops) ra = some r) (hp : r.proposer = some a) (hq : getSeq (run p ops) a = some q) :
    (r.evH = (run p ops).h →
      getSeq (step (run p ops) (.end_ f)).1 a = some (slashOnce (run p ops).sqp q) ∧
      ∃ j, (run p ops).h = r.cdStart + p.lsBlocks + j * p.lsInterval) ∧
    (r.evH ≠ (run p ops).h → getSeq (step (run p ops) (.end_ f)).1 a = some q) ∧
    ((¬ ∃ j, (run p ops).h = r.cdStart + p.lsBlocks + j * p.lsInterval) →
      getSeq (step (run p ops) (.end_ f)).1 a = some q) := by
  have hne := (real_proposer_has_event_at p ops ra r a hg hp).1
  have hgrid : ∃ j, r.evH = r.cdStart + p.lsBlocks + j * p.lsInterval := by
    rcases event_on_grid p ops r (getRa_mem hg) with h | h
    · exact absurd h hne
    · exact h
  have hnot : r.evH ≠ (run p ops).h → getSeq (step (run p ops) (.end_ f)).1 a = some q := by
    intro h
    rw [(C08.end_before_event_height_does_not p ops f ra r hg h).2 a hp]
    exact hq
  refine ⟨?_, hnot, ?_⟩
  · intro hev
    refine ⟨C08.end_at_event_height_slashes p ops f ra r a q hg hev hp hq, ?_⟩
    obtain ⟨j, hj⟩ := hgrid
    exact ⟨j, by rw [← hev]; exact hj⟩
  · intro hoff
    apply hnot
    intro hev
    obtain ⟨j, hj⟩ := hgrid
    exact hoff ⟨j, by rw [← hev]; exact hj⟩

-- after the first sequencer is created the rollapp has a proposer and its event (height 1 + N = 3)
example : let s := run C08.exParams [.createRollapp 0 9 10, .fund 1 100, .createSeq 1 0 40 true]
    s.ras.map (fun r => (r.proposer, r.evH, r.cdStart)) = [(some 1, 3, 1)] ∧ s.lev = [(3, 0)] := by decide +kernel

-- a fraud fork removes both the proposer and the event; the opt-in of a remaining sequencer restores both
example : let pre : List Op := [.createRollapp 0 9 10, .fund 1 100, .fund 2 100, .createSeq 1 0 40 true, .createSeq 2 0 20 true,
      C08.exUpd 1 3 false, .bridge 0 1]
    (run C08.exParams (pre ++ [.fraud true 0 2 0 none none])).ras.map (fun r => (r.proposer, r.evH)) = [(none, 0)] ∧
    (run C08.exParams (pre ++ [.fraud true 0 2 0 none none, .optIn 2 true])).ras.map (fun r => (r.proposer, r.evH)) = [(some 2, 3)] := by
  decide +kernel

-- an interleaved history: the proposer's bond is increased inside the block whose end slashes it
-- (event due at height 3): the slash is computed on the increased bond (40 + 20 → 30), dishonor + 2
example : let s := run C08.exParams [.createRollapp 0 9 10, .fund 1 100, .createSeq 1 0 40 true, .end_ [], .begin_ 5, .end_ [],
      .begin_ 5, .bondInc 1 20 true, .end_ []]
    s.h = 3 ∧ s.seqs.map (fun q => (q.tokens, q.dishonor)) = [(30, 2)] ∧ s.lev = [(4, 0)] := by decide +kernel

-- a `MsgUpdateParams` inside the very block whose end slashes the proposer: the slash uses the NEW values
-- (slash max(25, 40·0.5) = 25 instead of max(3, 40·0.5) = 20; liveness dishonor 7 instead of 2)
example : let sp : SeqParams := { C08.exParams.seq with lsAbs := 25, dishonorL := 7 }
    let s := run C08.exParams [.createRollapp 0 9 10, .fund 1 100, .createSeq 1 0 40 true, .end_ [], .begin_ 5, .end_ [],
      .begin_ 5, .setSeqParams true sp, .end_ []]
    s.h = 3 ∧ s.seqs.map (fun q => (q.tokens, q.dishonor)) = [(15, 7)] ∧ s.lev = [(4, 0)] := by decide +kernel

end DymVerif.C08X
