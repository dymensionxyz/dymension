/-
  Props/C19Coll — C19 for the cosmossdk.io/collections key codecs: keys decode back to exactly what
  they name, composite keys sort numerically by height, and the range scans the hub builds
  (`NewPrefixedPairRange` ± `StartExclusive` / `EndExclusive`, `NewPrefixUntilPairRange`,
  `NewSuperPrefixedTripleRange`) return exactly the entries of the requested string(s) / heights.
  The only hypothesis on strings is the one the codec itself enforces (no 0x00 byte): it is carried by
  `… = some _` (an encoding error of the Go code is `none`), and `coll_str_encodable` shows it is met
  by every NUL-free string.  Numbers are uint64.
-/
import DymVerif.Model.KeysColl
import DymVerif.Lemmas.KeysRange
namespace DymVerif.C19
open DymVerif DymVerif.Keys

/-- the codec refuses exactly the strings that contain the delimiter -/
theorem coll_str_encodable (s : Bytes) : collStrNT s = some (s ++ [0]) ↔ 0 ∉ s := by
  unfold collStrNT; by_cases h : 0 ∈ s <;> simp [h]

theorem coll_str_nt_some (s e : Bytes) (h : collStrNT s = some e) : 0 ∉ s ∧ e = s ++ [0] := by
  unfold collStrNT at h
  by_cases h0 : 0 ∈ s
  · simp [h0] at h
  · simp [h0] at h; exact ⟨h0, h.symm⟩

theorem splitAtSep_append (sp : Nat) (s r : Bytes) (hs : sp ∉ s) :
    splitAtSep sp (s ++ sp :: r) = some (s, r) := by
  induction s with
  | nil => simp [splitAtSep]
  | cons x xs ih =>
    have hx : x ≠ sp := fun e => hs (by simp [e])
    have hxs : sp ∉ xs := fun e => hs (by simp [e])
    simp [splitAtSep, hx, ih hxs]

/-- `DecodeNonTerminal(EncodeNonTerminal(s) ++ rest) = (s, rest)`: a non-terminal string reads back
    exactly, whatever follows it -/
theorem coll_str_nt_roundtrip (s e rest : Bytes) (h : collStrNT s = some e) :
    collStrDecodeNT (e ++ rest) = some (s, rest) := by
  obtain ⟨h0, rfl⟩ := coll_str_nt_some s e h
  simp only [collStrDecodeNT, List.append_assoc, List.singleton_append]
  exact splitAtSep_append 0 s rest h0

theorem coll_u64_roundtrip (n : Nat) (rest : Bytes) (hn : n < 2 ^ 64) :
    collU64Decode (collU64 n ++ rest) = some (n, rest) := by
  have hl := be64_length n
  unfold collU64Decode collU64
  have : ¬ (be64 n ++ rest).length < 8 := by simp [hl]
  rw [if_neg this, List.take_left' hl, List.drop_left' hl]
  rw [show beVal (be64 n) = n from beVal_beN 8 n (by simpa using hn)]

/-- the bytes codec in non-terminal position is injective (length byte) -/
theorem coll_bytes_nt_injective (a b e : Bytes) (ha : collBytesNT a = some e) (hb : collBytesNT b = some e) :
    a = b := by
  unfold collBytesNT at ha hb
  split at ha
  · cases ha
  · split at hb
    · cases hb
    · exact (List.cons.inj (Option.some.inj (ha.trans hb.symm))).2

/-! ## Pair[string, uint64] — x/rollapp `seqToUnfinalizedHeight`, x/eibc `byAddr` -/

theorem pair_str_u64_key_some (pfx s K : Bytes) (n : Nat) (h : pairStrU64Key pfx s n = some K) :
    0 ∉ s ∧ K = pfx ++ (s ++ [0] ++ be64 n) := by
  rw [pairStrU64Key, collStrNT] at h
  split at h
  · cases h
  · cases h
    exact ⟨‹_›, by simp only [collU64, List.append_assoc]⟩

/-- C19 "round-trips exactly": the (sequencer, height) key reads back as exactly that pair -/
theorem pair_str_u64_roundtrip (pfx s K : Bytes) (n : Nat) (hn : n < 2 ^ 64)
    (h : pairStrU64Key pfx s n = some K) : pairStrU64Decode (K.drop pfx.length) = some (s, n) := by
  obtain ⟨h0, rfl⟩ := pair_str_u64_key_some pfx s K n h
  rw [List.drop_left' rfl]
  unfold pairStrU64Decode
  have h1 := coll_str_nt_roundtrip s (s ++ [0]) (be64 n) ((coll_str_encodable s).2 h0)
  rw [h1]
  have h2 := coll_u64_roundtrip n [] hn
  simp only [collU64, List.append_nil] at h2
  simp [h2]

/-- C19 "names one and only one object": injective in (string, number) -/
theorem pair_str_u64_key_injective (pfx s s' K : Bytes) (n n' : Nat) (hn : n < 2 ^ 64) (hn' : n' < 2 ^ 64)
    (h : pairStrU64Key pfx s n = some K) (h' : pairStrU64Key pfx s' n' = some K) : s = s' ∧ n = n' := by
  have r := pair_str_u64_roundtrip pfx s K n hn h
  have r' := pair_str_u64_roundtrip pfx s' K n' hn' h'
  rw [r] at r'
  simpa using r'

/-- C19 "sort numerically by height": within one string, keys sort as the numbers -/
theorem pair_str_u64_key_order (pfx s K K' : Bytes) (n n' : Nat) (hn : n < 2 ^ 64) (hn' : n' < 2 ^ 64)
    (h : pairStrU64Key pfx s n = some K) (h' : pairStrU64Key pfx s n' = some K') :
    lexLt K K' = decide (n < n') := by
  obtain ⟨_, rfl⟩ := pair_str_u64_key_some pfx s K n h
  obtain ⟨_, rfl⟩ := pair_str_u64_key_some pfx s K' n' h'
  rw [lexLt_append_left, lexLt_append_left, lexLt_be64 n n' hn hn']

theorem scan_by_string_some (pfx s : Bytes) (rg : CRange) (h : scanByString pfx s = some rg) :
    0 ∉ s ∧ rg = (pfx ++ s ++ [0], some (pfx ++ s ++ [1])) := by
  unfold scanByString prefixedPairRange collWithPrefix collPairPrefix nextBytesPrefixKey at h
  cases he : collStrNT s with
  | none => simp [he] at h
  | some e =>
    obtain ⟨h0, rfl⟩ := coll_str_nt_some s e he
    simp only [he, Option.map_some, Option.some.injEq] at h
    refine ⟨h0, ?_⟩
    rw [← h, ← List.append_assoc, prefixEnd_snoc (pfx ++ s) 0 (by decide)]

/-- every NUL-free string has a scan (non-vacuity of the `= some` hypotheses below) -/
theorem scan_by_string_defined (pfx s : Bytes) (h0 : 0 ∉ s) :
    scanByString pfx s = some (pfx ++ s ++ [0], some (pfx ++ s ++ [1])) := by
  unfold scanByString prefixedPairRange collWithPrefix collPairPrefix nextBytesPrefixKey
  rw [(coll_str_encodable s).2 h0]
  simp only [Option.map_some]
  rw [← List.append_assoc, prefixEnd_snoc (pfx ++ s) 0 (by decide)]

/-- the bounds pass `parseRangeInstruction`'s start ≤ end check -/
theorem scan_by_string_valid (pfx s : Bytes) (rg : CRange) (h : scanByString pfx s = some rg) :
    rangeValid rg = true := by
  obtain ⟨_, rfl⟩ := scan_by_string_some pfx s rg h
  simp only [rangeValid, List.append_assoc, lexLt_append_left]
  simp [lexLt]

/-- **`CanUnbond`, `LPs.GetByAddr`, `GetPendingPacketsByAddress`** (`NewPrefixedPairRange(s)` over
    `Pair[string, uint64]` and `Pair[string, []byte]`): the scan for `s` returns the entry
    `(s', anything)` exactly when `s' = s` — a scan for one sequencer / owner / receiver never returns
    entries of another, even when one address string extends the other -/
theorem scan_by_string_exact (pfx s s' k2 K : Bytes) (rg : CRange)
    (hr : scanByString pfx s = some rg) (hk : pairStrBytesKey pfx s' k2 = some K) :
    inCRange rg K = decide (s' = s) := by
  obtain ⟨h0, rfl⟩ := scan_by_string_some pfx s rg hr
  have hK : 0 ∉ s' ∧ K = pfx ++ (s' ++ [0] ++ k2) := by
    rw [pairStrBytesKey, collStrNT] at hk
    split at hk
    · cases hk
    · cases hk
      exact ⟨‹_›, by simp only [collBytesT, List.append_assoc]⟩
  obtain ⟨h0', rfl⟩ := hK
  simp only [inCRange, inRangeO_some, List.append_assoc, List.singleton_append, inRange_prefix]
  rw [sep_range_end 0 s s' [] k2 h0 h0', lexLe, lexLt_nil_right]
  exact Bool.and_true _

/-- the same for the uint64-valued maps, stated on their own key builder -/
theorem scan_by_string_u64_exact (pfx s s' K : Bytes) (n : Nat) (rg : CRange)
    (hr : scanByString pfx s = some rg) (hk : pairStrU64Key pfx s' n = some K) :
    inCRange rg K = decide (s' = s) :=
  scan_by_string_exact pfx s s' (be64 n) K rg hr (by simpa [pairStrU64Key, pairStrBytesKey, collU64, collBytesT] using hk)

/-- **`PruneSequencerHeights(seq, h)`** (`NewPrefixedPairRange(seq).StartExclusive(h)`): exactly the
    entries of `seq` with height strictly above `h` -/
theorem scan_by_string_above_exact (pfx s s' K : Bytes) (h n : Nat) (rg : CRange)
    (hh : h < 2 ^ 64) (hn : n < 2 ^ 64)
    (hr : scanByStringAbove pfx s h = some rg) (hk : pairStrU64Key pfx s' n = some K) :
    inCRange rg K = (decide (s' = s) && decide (h < n)) := by
  obtain ⟨h0', rfl⟩ := pair_str_u64_key_some pfx s' K n hk
  have hR : 0 ∉ s ∧ rg = (pfx ++ s ++ [0] ++ (be64 h ++ [0]), some (pfx ++ s ++ [1])) := by
    unfold scanByStringAbove prefixedPairRangeStartExclusive collWithPrefix collPair collPairPrefix
      nextBytesPrefixKey nextBytesKey collU64 at hr
    cases he : collStrNT s with
    | none => simp [he] at hr
    | some e =>
      obtain ⟨h0, rfl⟩ := coll_str_nt_some s e he
      simp only [he, Option.map_some, Option.some.injEq] at hr
      refine ⟨h0, ?_⟩
      rw [← hr, ← List.append_assoc pfx s [0], prefixEnd_snoc (pfx ++ s) 0 (by decide)]
      simp
  obtain ⟨h0, rfl⟩ := hR
  simp only [inCRange, inRangeO_some, List.append_assoc, List.singleton_append, inRange_prefix]
  rw [sep_range_end 0 s s' _ (be64 n) h0 h0', lexLe, lexLt_eqlen_snoc _ _ 0 [] (by rw [be64_length, be64_length]), lexLe,
    Bool.not_not, lexLt_be64 h n hh hn]

/-- x/lightclient pruning below a height (`….EndExclusive(h)`): exactly the entries of `s` below `h` -/
theorem scan_by_string_below_exact (pfx s s' K : Bytes) (h n : Nat) (rg : CRange)
    (hh : h < 2 ^ 64) (hn : n < 2 ^ 64)
    (hr : scanByStringBelow pfx s h = some rg) (hk : pairStrU64Key pfx s' n = some K) :
    inCRange rg K = (decide (s' = s) && decide (n < h)) := by
  obtain ⟨h0', rfl⟩ := pair_str_u64_key_some pfx s' K n hk
  have hR : 0 ∉ s ∧ rg = (pfx ++ s ++ [0], some (pfx ++ s ++ [0] ++ be64 h)) := by
    rw [scanByStringBelow, collStrNT] at hr
    split at hr
    · cases hr
    · cases hr
      exact ⟨‹_›, by simp only [collU64, List.append_assoc]⟩
  obtain ⟨h0, rfl⟩ := hR
  simp only [inCRange, inRangeO_some, List.append_assoc, List.singleton_append, inRange_prefix]
  rw [sep_range 0 s s' [] _ (be64 n) h0 h0', inRange, lexLe, lexLt_nil_right, lexLt_be64 n h hn hh]
  rfl

-- non-vacuity: a string and one that extends it
example : scanByString [1] [100, 121, 109] = some ([1, 100, 121, 109, 0], some [1, 100, 121, 109, 1]) := by decide +kernel
example : pairStrU64Key [1] [100, 121, 109, 49] 7 = some ([1, 100, 121, 109, 49, 0] ++ be64 7) := by decide +kernel
example : inCRange ([1, 100, 121, 109, 0], some [1, 100, 121, 109, 1]) ([1, 100, 121, 109, 49, 0] ++ be64 7) = false := by decide +kernel

/-! ## Pair[uint64, string] — x/rollapp `finalizationQueue` (creation height, rollapp id) -/

theorem pair_u64_str_key_eq (pfx : Bytes) (n : Nat) (s : Bytes) :
    pairU64StrKey pfx n s = some (pfx ++ (be64 n ++ s)) := by
  simp [pairU64StrKey, collWithPrefix, collPair, collU64, collStrT]

/-- round trip: the queue key reads back as exactly (height, rollapp id) — for every rollapp id,
    the string being in terminal position needs no delimiter -/
theorem pair_u64_str_roundtrip (pfx : Bytes) (n : Nat) (s K : Bytes) (hn : n < 2 ^ 64)
    (h : pairU64StrKey pfx n s = some K) : pairU64StrDecode (K.drop pfx.length) = some (n, s) := by
  rw [pair_u64_str_key_eq] at h
  cases h
  rw [List.drop_left' rfl]
  exact coll_u64_roundtrip n s hn

theorem pair_u64_str_key_injective (pfx : Bytes) (n n' : Nat) (s s' K : Bytes) (hn : n < 2 ^ 64) (hn' : n' < 2 ^ 64)
    (h : pairU64StrKey pfx n s = some K) (h' : pairU64StrKey pfx n' s' = some K) : n = n' ∧ s = s' := by
  have r := pair_u64_str_roundtrip pfx n s K hn h
  rw [pair_u64_str_roundtrip pfx n' s' K hn' h'] at r
  simpa [eq_comm] using r

/-- C19 "composite store keys sort by height numerically": an entry of a lower creation height sorts
    before every entry of a higher one, whatever the two rollapp ids are (this is the order in which
    `GetFinalizationQueueUntilHeightInclusive` hands the queue to `FinalizeRollappStates`) -/
theorem finalization_queue_key_order (pfx : Bytes) (n n' : Nat) (s s' K K' : Bytes) (hn : n < 2 ^ 64) (hn' : n' < 2 ^ 64)
    (h : pairU64StrKey pfx n s = some K) (h' : pairU64StrKey pfx n' s' = some K') (hlt : n < n') :
    lexLt K K' = true := by
  rw [pair_u64_str_key_eq] at h h'
  cases h; cases h'
  rw [lexLt_append_left]
  exact lexLt_be64_append n n' _ _ hn hn' hlt

theorem scan_until_height_eq (pfx : Bytes) (h : Nat) :
    scanUntilHeight pfx h = some (pfx, prefixEnd (pfx ++ be64 h)) := by
  simp [scanUntilHeight, prefixUntilPairRange, collWithPrefix, collPairPrefix, nextBytesPrefixKey, collU64]

/-- **`GetFinalizationQueueUntilHeightInclusive(h)`** (`NewPrefixUntilPairRange[uint64, string](h)`):
    returns the queue entry (n, rollapp) exactly when `n ≤ h` — for every uint64 `h` including
    2^64−1 (where the end bound falls back to the end of the map prefix) and every rollapp id -/
theorem scan_until_height_exact (pfx : Bytes) (h n : Nat) (s K : Bytes) (rg : CRange)
    (hh : h < 2 ^ 64) (hn : n < 2 ^ 64)
    (hr : scanUntilHeight pfx h = some rg) (hk : pairU64StrKey pfx n s = some K) :
    inCRange rg K = decide (n ≤ h) := by
  rw [scan_until_height_eq] at hr
  rw [pair_u64_str_key_eq] at hk
  cases hr; cases hk
  rw [inCRange, inRangeO_eq, lexLe, lexLt_self_append, below_prefixEnd_append,
    below_prefixEnd_eqlen (be64 h) (be64 n) s (by rw [be64_length, be64_length]) (beN_wf 8 n), lexLe,
    lexLt_be64 h n hh hn, ← decide_not]
  exact decide_eq_decide.2 (by omega)

/-- … and nothing of another map of the same store: every key in the range carries the map prefix -/
theorem scan_until_height_only_queue (pfx : Bytes) (h : Nat) (K : Bytes) (rg : CRange) (hK : Bytes.WF K)
    (hr : scanUntilHeight pfx h = some rg) (hin : inCRange rg K = true) : isPrefix pfx K = true := by
  rw [scan_until_height_eq] at hr
  cases hr
  exact isPrefix_of_inRangeO pfx [] (be64 h) K hK (by rwa [List.append_nil])

-- non-vacuity: height 255 (trailing 0xFF in the bound) and the uint64 maximum
example : scanUntilHeight [7] 255 = some ([7], some [7, 0, 0, 0, 0, 0, 0, 1]) := by decide +kernel
example : scanUntilHeight [7] (2 ^ 64 - 1) = some ([7], some [8]) := by decide +kernel
example : inCRange ([7], some [7, 0, 0, 0, 0, 0, 0, 1]) ([7] ++ be64 255 ++ [97]) = true ∧
    inCRange ([7], some [7, 0, 0, 0, 0, 0, 0, 1]) ([7] ++ be64 256 ++ [97]) = false := by decide +kernel

/-! ## Triple[string, string, uint64] — x/eibc `byRollAppDenom` -/

theorem triple_key_some (pfx a b K : Bytes) (n : Nat) (h : tripleStrStrU64Key pfx a b n = some K) :
    0 ∉ a ∧ 0 ∉ b ∧ K = pfx ++ (a ++ [0] ++ (b ++ [0] ++ be64 n)) := by
  simp only [tripleStrStrU64Key, collStrNT] at h
  split at h
  · cases h
  · split at h
    · cases h
    · cases h
      exact ⟨‹_›, ‹_›, by simp only [collU64, List.append_assoc]⟩

theorem triple_roundtrip (pfx a b K : Bytes) (n : Nat) (hn : n < 2 ^ 64)
    (h : tripleStrStrU64Key pfx a b n = some K) : tripleStrStrU64Decode (K.drop pfx.length) = some (a, b, n) := by
  obtain ⟨h0, h0', rfl⟩ := triple_key_some pfx a b K n h
  rw [List.drop_left' rfl]
  unfold tripleStrStrU64Decode
  rw [coll_str_nt_roundtrip a (a ++ [0]) _ ((coll_str_encodable a).2 h0)]
  simp only []
  rw [coll_str_nt_roundtrip b (b ++ [0]) _ ((coll_str_encodable b).2 h0')]
  have h2 := coll_u64_roundtrip n [] hn
  simp only [collU64, List.append_nil] at h2
  simp [h2]

theorem triple_key_injective (pfx a b a' b' K : Bytes) (n n' : Nat) (hn : n < 2 ^ 64) (hn' : n' < 2 ^ 64)
    (h : tripleStrStrU64Key pfx a b n = some K) (h' : tripleStrStrU64Key pfx a' b' n' = some K) :
    a = a' ∧ b = b' ∧ n = n' := by
  have r := triple_roundtrip pfx a b K n hn h
  rw [triple_roundtrip pfx a' b' K n' hn' h'] at r
  simpa [eq_comm] using r

/-- **`LPs.GetOrderCompatibleLPs`** (`NewSuperPrefixedTripleRange(rollapp, denom)`): returns the LP
    entry (rollapp', denom', id) exactly when rollapp' = rollapp and denom' = denom — including denoms
    that extend one another and a rollapp id that is a prefix of another -/
theorem scan_by_two_strings_exact (pfx a b a' b' K : Bytes) (n : Nat) (rg : CRange)
    (hr : scanByTwoStrings pfx a b = some rg) (hk : tripleStrStrU64Key pfx a' b' n = some K) :
    inCRange rg K = (decide (a' = a) && decide (b' = b)) := by
  obtain ⟨h0a', h0b', rfl⟩ := triple_key_some pfx a' b' K n hk
  have hR : 0 ∉ a ∧ 0 ∉ b ∧ rg = (pfx ++ a ++ [0] ++ b ++ [0], some (pfx ++ a ++ [0] ++ b ++ [1])) := by
    unfold scanByTwoStrings superPrefixedTripleRange collWithPrefix collTripleSuperPrefix nextBytesPrefixKey at hr
    cases ha : collStrNT a with
    | none => simp [ha] at hr
    | some ea =>
      cases hb : collStrNT b with
      | none => simp [ha, hb] at hr
      | some eb =>
        obtain ⟨h0, rfl⟩ := coll_str_nt_some a ea ha
        obtain ⟨h0', rfl⟩ := coll_str_nt_some b eb hb
        simp only [ha, hb, Option.bind_some, Option.map_some, Option.some.injEq] at hr
        refine ⟨h0, h0', ?_⟩
        have e1 : pfx ++ (a ++ [0] ++ (b ++ [0])) = (pfx ++ a ++ [0] ++ b) ++ [0] := by simp
        rw [← hr, e1, prefixEnd_snoc _ 0 (by decide)]
  obtain ⟨h0a, h0b, rfl⟩ := hR
  simp only [inCRange, inRangeO_some, List.append_assoc, List.cons_append, List.nil_append, inRange_prefix]
  rw [sep_range 0 a a' _ _ _ h0a h0a', sep_range_end 0 b b' [] _ h0b h0b', lexLe, lexLt_nil_right]
  exact congrArg _ (Bool.and_true _)

-- non-vacuity: denoms "p/1" and "p/10" under one rollapp
example : inCRange ([9, 114, 0, 112, 47, 49, 0], some [9, 114, 0, 112, 47, 49, 1]) ([9, 114, 0, 112, 47, 49, 48, 0] ++ be64 3) = false ∧
    scanByTwoStrings [9] [114] [112, 47, 49] = some ([9, 114, 0, 112, 47, 49, 0], some [9, 114, 0, 112, 47, 49, 1]) := by decide +kernel

end DymVerif.C19
