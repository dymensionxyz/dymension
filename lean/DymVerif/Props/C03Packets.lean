/-
  Props/C03Packets — the packet clause of C03 across the M-Core / M-Packets boundary.
  (`Props/C04.lean`, section "C03 over M-Packets", proves what the delayedack / eibc fork hook does
  for a GIVEN height; `Props/C03.lean` proves what M-Core's fork does to the rollapp. Here: the
  height the hooks are given is the effective fork height, so no pending packet above it survives
  and none at or below it, or of another rollapp, is touched.)
-/
import DymVerif.Model.CorePackets
import DymVerif.Props.C03
namespace DymVerif.C03
open DymVerif DymVerif.Core DymVerif.Core.Fork

/-- nothing is added by a fork -/
theorem prune_sublist (b a : St) (pk : List Pk) : ∀ p ∈ prunePkts b a pk, p ∈ pk := by
  intro p hp; exact (List.mem_filter.1 hp).1

/-- **no pending packet of a forked rollapp at or above the new revision's start survives** -/
theorem prune_removes_above (b a : St) (pk : List Pk) (p : Pk) (hp : p ∈ prunePkts b a pk)
    (hf : forked b a p.ra = true) : p.ph < newStart a p.ra := by
  have h := (List.mem_filter.1 hp).2
  rw [hf] at h
  simp only [Bool.true_and, Bool.not_eq_true', decide_eq_false_iff_not] at h
  omega

/-- **every other pending packet is kept**: packets of rollapps that were not forked, and packets of
    a forked rollapp below the new revision's start -/
theorem prune_keeps_others (b a : St) (pk : List Pk) (p : Pk) (hp : p ∈ pk)
    (h : forked b a p.ra = false ∨ p.ph < newStart a p.ra) : p ∈ prunePkts b a pk := by
  apply List.mem_filter.2 ⟨hp, ?_⟩
  rcases h with h | h
  · rw [h]; rfl
  · have : decide (p.ph ≥ newStart a p.ra) = false := by simp; omega
    rw [this]; simp

/-- an accepted M-Core hard fork is seen as a fork of exactly that rollapp, and the new revision
    starts right above the EFFECTIVE fork height `kst.last` (the last height of the last kept state,
    which is below the requested height when the request lies beyond the latest posted height) -/
theorem hardFork_seen (s s' : St) (ra lv keep : Nat) (r r' : Rollapp) (kst : SInfo)
    (hg : getRa s ra = some r) (hplan : revertPlan r ((lv + 1) % 2 ^ 64) = .ok (keep, kst))
    (e : hardFork s ra lv = .ok s') (hr' : getRa s' ra = some r') :
    forked s s' ra = true ∧ newStart s' ra = kst.last + 1 := by
  have hrev := (fork_revision s s' ra lv keep r r' kst hg hplan e hr').1
  have h1 : s'.ras.find? (fun x => x.id == ra) = some r' := hr'
  have h2 : s.ras.find? (fun x => x.id == ra) = some r := hg
  constructor
  · unfold forked; rw [h1, h2]; simp [hrev]
  · unfold newStart; rw [h1]; dsimp only; unfold revStart; rw [hrev]; simp

/-- **C03, packet clause, composed**: after an accepted hard fork of rollapp `ra` (fraud proposal,
    kick, rotation to the sentinel, obsolete-version marking — all are `hardFork`, see `Props/C03`)
    no pending delayed packet of `ra` with a proof height above the effective fork height remains,
    every packet at or below it remains, and the packets of the other rollapps remain if those were
    not forked in the same step. -/
theorem fork_packets (s s' : St) (ra lv keep : Nat) (r r' : Rollapp) (kst : SInfo)
    (hg : getRa s ra = some r) (hplan : revertPlan r ((lv + 1) % 2 ^ 64) = .ok (keep, kst))
    (e : hardFork s ra lv = .ok s') (hr' : getRa s' ra = some r') (pk : List Pk) :
    (∀ p ∈ prunePkts s s' pk, p.ra = ra → p.ph ≤ kst.last) ∧
    (∀ p ∈ pk, p.ra = ra → p.ph ≤ kst.last → p ∈ prunePkts s s' pk) ∧
    (∀ p ∈ pk, forked s s' p.ra = false → p ∈ prunePkts s s' pk) := by
  obtain ⟨hf, hs⟩ := hardFork_seen s s' ra lv keep r r' kst hg hplan e hr'
  refine ⟨?_, ?_, ?_⟩
  · intro p hp hra
    have := prune_removes_above s s' pk p hp (by rw [hra]; exact hf)
    rw [hra, hs] at this; omega
  · intro p hp hra hle
    exact prune_keeps_others s s' pk p hp (Or.inr (by rw [hra, hs]; omega))
  · intro p hp hnf
    exact prune_keeps_others s s' pk p hp (Or.inl hnf)

-- non-vacuity: the example history of Props/C03 forked at 5 (request) — packets at 5, 6 and of rollapp 1
example : prunePkts (run exParams exPre) (run exParams (exPre ++ [.fraud true 0 5 0 none none]))
    [⟨0, 4, 1, "R"⟩, ⟨0, 5, 2, "A"⟩, ⟨0, 9, 3, "T"⟩, ⟨1, 9, 4, "R"⟩] = [⟨0, 4, 1, "R"⟩, ⟨1, 9, 4, "R"⟩] := by decide +kernel

end DymVerif.C03
