/-
  Props/C16 — Sponsorship weights track staked power; endorsement claims are bounded.

  Theorems about M-Spons (`Model/Spons.lean`, mirrored from x/sponsorship and the endorsement part of
  x/incentives, validated op by op against the real code by `harness/c16_test.go`).

  Clauses of the property and their status on the code WITH the two repairs (fix: staking hook
  replaces the voter's contribution exactly; fix: epoch hook acts on the distribution identifier only):
    (1) distribution = Σ votes                — full strength, ALL histories (votes, revocations, staking
                                                 hooks with any powers, slashes, claims, epoch ends, funding):
                                                 `distribution_eq_sum_of_votes`
    (2) recorded power = bonded delegations   — FALSE after a validator slash (no hook fires);
                                                 true for slash-free histories with faithful hooks
    (3) below the minimum ⇒ the vote is gone  — the hook prunes exactly (`hook_below_min_prunes`); every
                                                 RECORDED power is ≥ the minimum in force when the vote last
                                                 changed, in all histories (`min_power_recorded_at_last_change`;
                                                 ≥ the CURRENT minimum unless MsgUpdateParams raised it); w.r.t.
                                                 the bonded power FALSE after a slash
    (4) at most one claim per epoch, none in the vote epoch — full strength w.r.t. the x/incentives
                                                 distribution epoch: `claim_once_per_epoch`, `no_claim_in_vote_epoch`
    (5) claims ≤ allotment                    — FALSE (claim uses current power against the snapshot);
                                                 true for ALL mixed histories within a distribution epoch
                                                 (votes, revocations, staking, slashes, funding, other epochs'
                                                 ends, creation ops, parameter changes, claims) in which no
                                                 staking message RAISES the recorded power of a voter who can
                                                 still claim: `claims_le_allotment_mixed_partial`, from genesis
                                                 `claims_le_allotment_mixed_from_init_partial` (shares are exact
                                                 in all histories: `endorsement_shares_exact_from_init`)

  The world is built by ops (`addGauge`, `addRollapp` = the RollappCreated hook, `setParams` =
  MsgUpdateParams): the from-genesis theorems quantify over histories that create their gauges,
  rollapps and endorsements themselves; `RaGauge` / `ShareInv` are proved, not assumed (`world_from_init`).
-/
import DymVerif.Lemmas.SponsShares
import DymVerif.Lemmas.SponsWorld
import DymVerif.Lemmas.SponsMin
import DymVerif.Lemmas.SponsMixed
import DymVerif.Lemmas.GenEqSpons
namespace DymVerif.Props.C16
open DymVerif.Spons

/-! ## a small world for examples and counterexamples: gauges 1 (rollapp r0), 2 and 4 (asset, perpetual),
    3 (endorsement gauge of r0 holding 100); MinVotingPower 1, MinAllocationWeight 1 -/

def g1 : Gauge := { id := 1, kind := .rollapp 0, perpetual := true }
def g2 : Gauge := { id := 2, kind := .asset, perpetual := true }
def g4 : Gauge := { id := 4, kind := .asset, perpetual := true }
def g3 : Gauge := { id := 3, kind := .endorsement 0, perpetual := true, coins := 100 }

def s0 : State :=
  { State.init 1 1 with gauges := [g1, g2, g3, g4], endorsements := [⟨0, 1, 0, 0⟩], incBal := 100000 }

def half : Int := 50000000000000000000    -- 50 %
def full : Int := 100000000000000000000   -- 100 %

/-- delegator `a` (re)delegates so that its delegation to validator `v` is worth `p` -/
def stake (a v : Nat) (p : Int) : Op := .staking a [(v, some p)] [((a, v), some p)]

theorem init_wf (ma mv : Int) (h : 0 ≤ mv) : WF (State.init ma mv) :=
  ⟨h, trivial, trivial, fun _ hx => (by cases hx)⟩

theorem init_distInv (ma mv : Int) : DistInv (State.init ma mv) := ⟨fun _ => rfl, rfl⟩

theorem s0_wf : WF s0 := ⟨by decide +kernel, trivial, trivial, fun _ hx => (by cases hx)⟩
theorem s0_distInv : DistInv s0 := ⟨fun _ => rfl, rfl⟩

/-! ## (1) distribution = Σ over votes -/

/-- In Go terms: for a stored vote, `Vote.pow` is `Vote.GetGaugePower` (= the gauge's entry of
    `Vote.ToDistribution()`). -/
theorem pow_eq_gaugePower {v : Vote} (h : VoteOK v) (g : Nat) :
    v.pow g = v.gaugePower g ∧ v.pow g = gget v.toDist.gauges g :=
  ⟨(gaugePowerW_eq_wpow h.nodup g).symm, (gget_toDist v g).symm⟩

/-- **vote_revoke_exact** — a vote (including re-vote) or a revocation keeps
    `distribution = Σ_votes toDistribution(vote)`, for every state, voter and weights. -/
theorem vote_revoke_exact (s : State) (op : Op)
    (hop : (∃ a ws, op = .vote a ws) ∨ (∃ a, op = .revoke a)) (wf : WF s) (inv : DistInv s) :
    WF (step s op).1 ∧ DistInv (step s op).1 := by
  rcases hop with ⟨a, ws, rfl⟩ | ⟨a, rfl⟩ <;> exact step_good wf inv

example : (step (step s0 (stake 0 0 7)).1 (.vote 0 [(2, half), (1, 1)])).2.1 = none := by decide +kernel

/-- **distribution_eq_sum_of_votes** — through EVERY history (votes, revocations, staking hooks with
    arbitrary old/new powers, validator slashes, claims, epoch ends, funding) the distribution stays,
    gauge by gauge, the sum over the current votes of the vote's power split by its weights, and its
    total the sum of the votes' powers. -/
theorem distribution_eq_sum_of_votes (s : State) (ops : List Op) (wf : WF s) (inv : DistInv s) :
    WF (run s ops) ∧ DistInv (run s ops) := by
  induction ops generalizing s with
  | nil => exact ⟨wf, inv⟩
  | cons op ops ih =>
    have := step_good (op := op) wf inv
    exact ih _ this.1 this.2

/-- from the genesis state -/
theorem distribution_eq_sum_of_votes_from_init (ma mv : Int) (h : 0 ≤ mv) (ops : List Op) :
    DistInv (run (State.init ma mv) ops) :=
  (distribution_eq_sum_of_votes _ ops (init_wf ma mv h) (init_distInv ma mv)).2

/-- every history from a state that has them keeps the well-formedness, the distribution invariant and the
    world-building invariant (fresh gauge ids, one rollapp gauge per endorsement, exact total shares,
    votes weigh existing gauges only) -/
theorem run_world (s : State) (ops : List Op) (wf : WF s) (inv : DistInv s) (w : World s) :
    WF (run s ops) ∧ DistInv (run s ops) ∧ World (run s ops) := by
  induction ops generalizing s with
  | nil => exact ⟨wf, inv, w⟩
  | cons op ops ih =>
    have g := step_good (op := op) wf inv
    exact ih _ g.1 g.2 (step_world wf w)

theorem world_from_init (ma mv : Int) (h : 0 ≤ mv) (ops : List Op) :
    WF (run (State.init ma mv) ops) ∧ DistInv (run (State.init ma mv) ops) ∧ World (run (State.init ma mv) ops) :=
  run_world _ ops (init_wf ma mv h) (init_distInv ma mv) (init_world ma mv)

/-- the example world, built from genesis by ops: rollapp r0 (gauge 1 + endorsement), asset gauge 2,
    endorsement gauge 3 of r0 holding 100, asset gauge 4 -/
def worldOps : List Op :=
  [.addRollapp 0, .addGauge { id := 0, kind := .asset, perpetual := true },
   .addGauge { id := 0, kind := .endorsement 0, perpetual := true, coins := 100 },
   .addGauge { id := 0, kind := .asset, perpetual := true }]

example : (run (State.init 1 1) worldOps).gauges = s0.gauges ∧
    (run (State.init 1 1) worldOps).endorsements = s0.endorsements ∧
    (run (State.init 1 1) worldOps).incBal = 100 ∧ (run (State.init 1 1) worldOps).lastGauge = 4 := by decide +kernel

/-- non-vacuity of the from-genesis theorems: votes ARE accepted in a world built by ops, the tally is
    not empty -/
example : (run (State.init 1 1) (worldOps ++ [stake 0 0 7, .vote 0 [(2, half), (1, 1)]])).dist
    = ⟨7, [(1, 0), (2, 3)]⟩ := by decide +kernel

/-- creation ops are checked: an endorsement gauge needs its rollapp, a rollapp is created once, rollapp
    gauges come from the hook only -/
example : (step (State.init 1 1) (.addGauge { id := 0, kind := .endorsement 0, perpetual := true })).2.1 = some .noRollapp ∧
    (step (run (State.init 1 1) worldOps) (.addRollapp 0)).2.1 = some .rollappExists ∧
    (step (State.init 1 1) (.addGauge { id := 0, kind := .rollapp 0, perpetual := true })).2.1 = some .badGauge ∧
    (step (State.init 1 1) (.setParams (-1) 0)).2.1 = some .badParams := by decide +kernel

/-- consequence: no gauge ever has negative power in the distribution -/
theorem distribution_power_nonneg (s : State) (ops : List Op) (wf : WF s) (inv : DistInv s) (g : Nat) :
    0 ≤ gget (run s ops).dist.gauges g := by
  have h := distribution_eq_sum_of_votes s ops wf inv
  rw [h.2.gauges g]
  exact vsum_nonneg _ (fun x hx => (h.1.votes x hx).pow_nonneg g)

/-- stake 5 → 6 at a weight of 50 %: the distribution follows the vote (⌊6 · 50 %⌋ = 3, not 2 + ⌊1 · 50 %⌋) -/
def f9ops : List Op := [stake 0 0 5, .vote 0 [(2, half)], stake 0 0 6]

example : gget (run s0 f9ops).dist.gauges 2 = 3 ∧ vsum (fun v => v.pow 2) (run s0 f9ops).votes = 3 := by decide +kernel

/-- pruning after a hook leaves an empty distribution (no entry with negative power) -/
example : (run s0 [stake 0 0 1, .vote 0 [(2, half)], stake 0 0 2, stake 0 0 0]).dist = ⟨0, []⟩ := by decide +kernel

/-! ## (2) recorded power = bonded delegations -/

/- **power_tracks_staking** (full statement — FALSE on the current code):
     ∀ s ops, Tracked s → Tracked (run s ops)
   A validator slash changes the bonded power of its delegators and no sponsorship hook fires. -/

/-- **power_tracks_staking_partial** — in slash-free histories in which a delegation's power
    changes only through its own hook, to the value the hook saw, every voter's recorded power
    equals the sum of its bonded delegations and every per-validator record equals the delegation. -/
theorem power_tracks_staking_partial (s : State) (ops : List Op) (ht : Tracked s)
    (hf : RunFaithful ops) :
    Tracked (run s ops) ∧
    ∀ a v, (run s ops).vote? a = some v →
      v.vp = powerOf (run s ops).stk a ∧ ∀ val, pOf (run s ops).dvp a val = pOf (run s ops).stk a val := by
  suffices h : Tracked (run s ops) from ⟨h, fun a v hv => ⟨(h.track a v hv).2, (h.track a v hv).1⟩⟩
  induction ops generalizing s with
  | nil => exact ht
  | cons op ops ih =>
    exact ih _ (step_tracked ht (hf op (by simp))) (fun o ho => hf o (by simp [ho]))

theorem init_tracked (ma mv : Int) : Tracked (State.init ma mv) :=
  ⟨trivial, fun _ _ h => (by cases h), fun _ _ _ => rfl⟩

theorem s0_tracked : Tracked s0 := ⟨trivial, fun _ _ h => (by cases h), fun _ _ _ => rfl⟩
theorem s0_min : MinInv s0 := fun _ _ h => (by cases h)

example : RunFaithful [stake 0 0 10, .vote 0 [(2, half)], stake 0 1 7, .staking 0 [(0, none)] [((0, 0), none)]] := by
  intro op hop
  simp only [List.mem_cons, List.mem_nil_iff, or_false] at hop
  rcases hop with rfl | rfl | rfl | rfl
  · rfl
  · trivial
  · rfl
  · rfl

/-- slash: a0 has 10 bonded and voted; the validator is slashed by half: recorded 10, bonded 5 -/
def slashOps : List Op := [stake 0 0 10, .vote 0 [(2, half)], .slash [((0, 0), some 5)]]

theorem power_tracks_staking_counterexample :
    ∃ s ops, Tracked s ∧ MinInv s ∧
      ∃ a v, (run s ops).vote? a = some v ∧ v.vp ≠ powerOf (run s ops).stk a :=
  ⟨s0, slashOps, s0_tracked, s0_min, 0, ⟨10, [(2, half)]⟩, by decide +kernel, by decide +kernel⟩

/-! ## (3) a voter whose power falls below the minimum loses the whole vote -/

/-- the hook prunes: if the new total is below the minimum, the vote and every per-validator record of
    the voter are gone (and, by `revokeVote_inv`, the distribution loses exactly that vote) -/
theorem hook_below_min_prunes (s : State) (a val : Nat) (v : Vote) (old new : Int)
    (hlow : v.vp + (new - old) < s.minVP) :
    let s' := s.processHook a val v old new
    s'.vote? a = none ∧ (∀ val', alookup (a, val') s'.dvp = none) ∧
      (∀ b, b ≠ a → s'.vote? b = s.vote? b) := by
  intro s'
  have e : s' = s.revokeVote a v := by
    rcases processHook_eq s a val v old new with ⟨_, e⟩ | ⟨hge, _⟩
    · exact e
    · omega
  rw [e]
  refine ⟨alookup_aerase_self _ _, fun val' => alookup_filter_eq_none _ _, fun b hb => alookup_aerase_ne hb _⟩

/-- and the distribution stays exact when the hook prunes -/
theorem hook_below_min_exact (s : State) (a val : Nat) (v : Vote) (old new : Int) (wf : WF s) (inv : DistInv s)
    (hv : s.vote? a = some v) (_hlow : v.vp + (new - old) < s.minVP) :
    DistInv (s.processHook a val v old new) :=
  (processHook_inv wf inv hv).2

/- **min_power_recorded** (full statement w.r.t. the CURRENT minimum — FALSE once MsgUpdateParams exists):
     ∀ s ops, MinInv s → MinInv (run s ops)
   `SetParams` stores the new parameters and does not revisit the votes: a vote cast under a lower
   MinVotingPower stays (until its voter's next staking hook or re-vote compares against the new value). -/

/-- **min_power_recorded_at_last_change** — in ALL histories (parameter changes included) every stored
    vote's recorded power is at least the MinVotingPower that was in force when that vote last changed
    (`ghostRun` carries that value per voter) -/
theorem min_power_recorded_at_last_change (s : State) (ops : List Op) (m : Nat → Int) (hm : GMinInv s m) :
    GMinInv (run s ops) (ghostRun s m ops) := run_gmin ops hm

/-- from genesis (no votes yet, any initial ghost map) -/
theorem min_power_recorded_at_last_change_from_init (ma mv : Int) (ops : List Op) (m : Nat → Int) :
    GMinInv (run (State.init ma mv) ops) (ghostRun (State.init ma mv) m ops) :=
  run_gmin ops (fun _ _ h => by cases h)

/-- **min_power_recorded_partial** — histories that never RAISE MinVotingPower: every stored vote's
    recorded power is at least the current minimum -/
theorem min_power_recorded_partial (s : State) (ops : List Op) (hm : MinInv s) (hr : RunNoRaiseMin s ops) :
    MinInv (run s ops) := run_min ops hm hr

/-- a raise: a0 votes with 5 under minimum 1, the minimum becomes 8 — the vote with recorded power 5 stays -/
def raiseOps : List Op := [stake 0 0 5, .vote 0 [(2, half)], .setParams 1 8]

theorem min_power_recorded_counterexample :
    ∃ s ops, MinInv s ∧ ¬ MinInv (run s ops) :=
  ⟨s0, raiseOps, s0_min, fun h => absurd (h 0 ⟨5, [(2, half)]⟩ (by decide +kernel)) (by decide +kernel)⟩

/-- … while the ghost statement holds on that witness: the vote last changed under minimum 1 -/
example : ghostRun s0 (fun _ => 1) raiseOps 0 = 1 ∧ (run s0 raiseOps).minVP = 8 ∧
    (run s0 raiseOps).vote? 0 = some ⟨5, [(2, half)]⟩ := by decide +kernel

/-- the voter's next hook compares with the raised minimum: the vote is pruned -/
example : (run s0 (raiseOps ++ [stake 0 0 6])).vote? 0 = none := by decide +kernel

/- **below_min_prunes_vote** (full statement, w.r.t. the BONDED power — FALSE on the current code):
     ∀ s ops a, Tracked s → MinInv s → powerOf (run s ops).stk a < (run s ops).minVP → (run s ops).vote? a = none -/

/-- **below_min_prunes_vote_partial** — slash-free faithful histories that never raise
    MinVotingPower: whoever has less bonded power than the minimum has no vote. -/
theorem below_min_prunes_vote_partial (s : State) (ops : List Op) (ht : Tracked s) (hm : MinInv s)
    (hf : RunFaithful ops) (hr : RunNoRaiseMin s ops) (a : Nat)
    (hlow : powerOf (run s ops).stk a < (run s ops).minVP) :
    (run s ops).vote? a = none := by
  cases hv : (run s ops).vote? a with
  | none => rfl
  | some v =>
    have h1 := ((power_tracks_staking_partial s ops ht hf).2 a v hv).1
    have h2 := min_power_recorded_partial s ops hm hr a v hv
    omega

example : (run s0 [stake 0 0 10, .vote 0 [(2, half)], stake 0 0 0]).vote? 0 = none := by decide +kernel

/-- slash to below the minimum (min 8): bonded 5, the vote with recorded power 10 stays -/
theorem below_min_prunes_vote_counterexample :
    ∃ s ops a, Tracked s ∧ MinInv s ∧ powerOf (run s ops).stk a < (run s ops).minVP ∧
      (run s ops).vote? a ≠ none :=
  ⟨{ s0 with minVP := 8 }, slashOps, 0, ⟨trivial, fun _ _ h => (by cases h), fun _ _ _ => rfl⟩,
    fun _ _ h => (by cases h), by decide +kernel, by decide +kernel⟩

/-! ## (4) claims: once per epoch, not in the vote epoch -/

/-- **claim_once_per_epoch** — after an accepted claim every further claim of the same voter (any
    gauge) is rejected until the x/incentives distribution epoch — the one that fixes the allotment
    `EpochRewards` — ends, whatever else happens (ends of other epochs included). -/
theorem claim_once_per_epoch (s s1 : State) (a g g' : Nat) (p : Int) (ops : List Op)
    (hc : s.claim a g = .ok (s1, p)) (hne : ∀ op ∈ ops, isEpochEnd op = false) :
    (run s1 ops).claim a g' = .error .cannotClaim :=
  claim_blocked (run_blacklist (by rw [claim_blacklist hc]; simp) hne) g'

/-- **no_claim_in_vote_epoch** — after an accepted vote the voter cannot claim until the distribution
    epoch ends. -/
theorem no_claim_in_vote_epoch (s s1 : State) (a g : Nat) (ws : List GP) (ops : List Op)
    (hv : s.vote a ws = .ok s1) (hne : ∀ op ∈ ops, isEpochEnd op = false) :
    (run s1 ops).claim a g = .error .cannotClaim :=
  claim_blocked (run_blacklist (vote_blacklist hv).1 hne) g

/-- two voters with 10 each endorse r0; the distribution epoch ends (allotment 100, snapshot 20) -/
def claimWorld : State :=
  run s0 [stake 0 0 10, stake 1 0 10, .vote 0 [(1, full)], .vote 1 [(1, full)], .epochEnd true]

example : (step claimWorld (.claim 0 3)).2 = (none, 50) := by decide +kernel

/-- the end of an hour epoch (`epochEnd false`) does not reopen claims: the second claim, and the claim in
    the vote epoch, are rejected -/
example : (step (run claimWorld [.claim 0 3, .epochEnd false]) (.claim 0 3)).2.1 = some .cannotClaim := by decide +kernel

example : (step (run claimWorld [stake 2 0 20]) (.vote 2 [(1, full)])).2.1 = none ∧
    (step (run claimWorld [stake 2 0 20, .vote 2 [(1, full)], .epochEnd false]) (.claim 2 3)).2.1
      = some .cannotClaim := by decide +kernel

/-! ## (5) claims never exceed the epoch's allotment -/

/- **claims_le_allotment** (full statement — FALSE on the current code):
     between two distribution-epoch ends, the sum of the amounts claimed from a gauge ≤ its EpochRewards.
   `EstimateClaim` multiplies the CURRENT power of the vote by EpochRewards / EpochShares (snapshot). -/

/-- **claims_le_allotment_partial** — if the snapshot covers the power of the voters who can still
    claim (true right after a distribution-epoch end, see below), any sequence of claims by any
    voters on any gauges takes at most the allotment `R` out of gauge `gid`. -/
theorem claims_le_allotment_partial (s : State) (gid r : Nat) (e : Endorsement) (R : Int) (ops : List Op)
    (ctx : ClaimCtx s gid r e R) (hR : 0 ≤ R) (hS : 0 < e.epoch)
    (hcov : usum s.blacklist e.gaugeId s.votes ≤ e.epoch)
    (hall : ∀ op ∈ ops, isClaim op = true) : runPaid s gid ops ≤ R := by
  exact le_of_mul_le_cover (claims_bound hR hS ops hall s ctx) hR hS hcov

/-- gauge 3 after the distribution epoch ended -/
def g3' : Gauge := { g3 with epochRewards := some 100, filled := 1, status := .active }

/-- non-vacuity: the context and the covering hypothesis hold in `claimWorld` -/
example : ClaimCtx claimWorld 3 0 ⟨0, 1, 20, 20⟩ 100 ∧
    usum claimWorld.blacklist 1 claimWorld.votes ≤ 20 ∧ runPaid claimWorld 3 [.claim 0 3, .claim 1 3, .claim 0 3] = 100 := by
  refine ⟨⟨⟨g3', by decide +kernel, by decide +kernel, by decide +kernel⟩, by decide +kernel, ?_, ?_⟩, by decide +kernel, by decide +kernel⟩
  · exact ⟨by decide +kernel, ⟨by decide +kernel, trivial⟩⟩
  · intro x hx
    have : x ∈ [(1, (⟨10, [(1, full)]⟩ : Vote)), (0, ⟨10, [(1, full)]⟩)] := hx
    simp only [List.mem_cons, List.mem_nil_iff, or_false] at this
    rcases this with rfl | rfl <;> decide +kernel

/-- **endorsement_shares_exact** — along EVERY history the total shares of a rollapp's endorsement
    are the sum over the votes of their power on the rollapp gauge -/
theorem endorsement_shares_exact (s : State) (ops : List Op) (r rg : Nat) (wf : WF s) (inv : DistInv s)
    (hg : RaGauge s r rg) (hs : ShareInv s r rg) :
    ShareInv (run s ops) r rg ∧ RaGauge (run s ops) r rg := run_share ops wf hg hs

/-- non-vacuity: in `s0` gauge 1 is the one rollapp gauge of r0 and the shares are exact -/
theorem s0_raGauge : RaGauge s0 0 1 := by
  -- `worldOps` builds the gauges and endorsements of `s0`, and `RaGauge` reads nothing else
  have h := ((world_from_init 1 1 (by decide) worldOps).2.2.endo 0 ⟨0, 1, 0, 0⟩ (by decide +kernel)).1
  have hg : (run (State.init 1 1) worldOps).gauges = s0.gauges := by decide +kernel
  have he : (run (State.init 1 1) worldOps).endorsements = s0.endorsements := by decide +kernel
  exact ⟨hg ▸ h.only, he ▸ h.endo⟩

example : ShareInv s0 0 1 := rfl

example : ShareInv (run s0 [stake 0 0 10, .vote 0 [(1, half)], stake 0 0 21]) 0 1 ∧
    totalOf (run s0 [stake 0 0 10, .vote 0 [(1, half)], stake 0 0 21]).endorsements 0 = 10 := by
  refine ⟨by unfold ShareInv; decide +kernel, by decide +kernel⟩

/-- **claims_le_allotment_after_epoch_end_partial** — the shares are exact when the distribution epoch
    ends (`endorsement_shares_exact`), so whatever claims follow (and nothing else), the endorsement
    gauge `eg` of rollapp `r` pays at most its epoch rewards `R`. -/
theorem claims_le_allotment_after_epoch_end_partial (s : State) (r rg eg : Nat) (R : Int)
    (ops : List Op) (wf : WF s) (hs : ShareInv s r rg) (e : Endorsement)
    (he : s.endorsement? r = some e) (heg : e.gaugeId = rg) (hpos : 0 < e.total)
    (hG : GaugeIs (s.epochEnd true) eg r R) (hR : 0 ≤ R) (hall : ∀ op ∈ ops, isClaim op = true) :
    runPaid (s.epochEnd true) eg ops ≤ R := by
  subst heg
  obtain ⟨he', hv, hcov⟩ := epochEnd_cover wf he hs
  refine claims_le_allotment_partial (s.epochEnd true) eg r { e with epoch := e.total } R ops
    ⟨hG, he', hv ▸ wf.keys, fun x hx => ?_⟩ hR hpos (Int.le_of_eq hcov) hall
  rw [hv] at hx
  exact (wf.votes x hx).gp_nonneg _

/-- **endorsement_shares_exact_from_init** — along EVERY history from genesis (rollapps, gauges and
    endorsements created by ops): an endorsement names exactly one rollapp gauge, and its total shares
    are the sum over the votes of their power on that gauge.  No hypotheses on the state. -/
theorem endorsement_shares_exact_from_init (ma mv : Int) (h : 0 ≤ mv) (ops : List Op) (r : Nat) (e : Endorsement)
    (he : (run (State.init ma mv) ops).endorsement? r = some e) :
    e.total = vsum (fun v => v.pow e.gaugeId) (run (State.init ma mv) ops).votes ∧
    (∀ g, raOf (run (State.init ma mv) ops).gauges g = some r ↔ g = e.gaugeId) := by
  have w := (world_from_init ma mv h ops).2.2
  have := w.endo r e he
  refine ⟨?_, this.1.only⟩
  have hs : totalOf (run (State.init ma mv) ops).endorsements r = _ := this.2
  unfold totalOf at hs
  unfold State.endorsement? at he
  rw [he] at hs
  exact hs

example : (run (State.init 1 1) (worldOps ++ [stake 0 0 10, .vote 0 [(1, half)], stake 0 0 21])).endorsement? 0
    = some ⟨0, 1, 10, 0⟩ := by decide +kernel

/- **claims_le_allotment** for MIXED histories (full statement — FALSE on the current code):
     within one distribution epoch (no `epochEnd true` among `ops`), from a state whose snapshot covers
     the power that can still claim, `runPaid s eg ops ≤ R` for EVERY op list.
   The invariant  paid·S + R·U ≤ R·S  (U = power on the rollapp gauge of the voters not yet blacklisted)
   is kept by claim, vote (the voter is blacklisted), revoke, power-DEcreasing staking messages, slash,
   fund, ends of other epochs, creation ops and parameter changes; it is broken ONLY by a staking message
   that leaves a voter who can still claim with more recorded power (`NoRaiseOp`): the finding F7. -/

/-- **claims_le_allotment_mixed_partial** — any interleaving of ops within one distribution epoch in
    which no staking message raises the recorded power of a voter who has not yet claimed / voted in
    this epoch: gauge `eg` pays at most its epoch rewards `R`. -/
theorem claims_le_allotment_mixed_partial (s : State) (eg r rg : Nat) (R S : Int) (ops : List Op)
    (ctx : EpochCtx s eg r rg R S) (hR : 0 ≤ R) (hS : 0 < S) (hcov : U s rg ≤ S)
    (hne : ∀ op ∈ ops, isEpochEnd op = false) (hnr : NoRaiseRun s ops) : runPaid s eg ops ≤ R := by
  exact le_of_mul_le_cover (claims_bound_mixed hR hS ops hne s ctx hnr) hR hS hcov

/-- **claims_le_allotment_mixed_from_init_partial** — from genesis: after ANY history `pre` the
    distribution epoch ends; whatever follows within the new epoch (under the exclusion above), the
    endorsement gauge `eg` of rollapp `r` pays at most the epoch rewards `R` it was given at that end. -/
theorem claims_le_allotment_mixed_from_init_partial (ma mv : Int) (hmv : 0 ≤ mv) (pre ops : List Op)
    (eg r : Nat) (R : Int) (e : Endorsement)
    (hG : GaugeIs ((run (State.init ma mv) pre).epochEnd true) eg r R)
    (he : ((run (State.init ma mv) pre).epochEnd true).endorsement? r = some e)
    (hR : 0 ≤ R) (hS : 0 < e.epoch)
    (hne : ∀ op ∈ ops, isEpochEnd op = false)
    (hnr : NoRaiseRun ((run (State.init ma mv) pre).epochEnd true) ops) :
    runPaid ((run (State.init ma mv) pre).epochEnd true) eg ops ≤ R := by
  obtain ⟨wf, inv, w⟩ := world_from_init ma mv hmv pre
  generalize run (State.init ma mv) pre = s at *
  have g := step_good (op := .epochEnd true) wf inv
  -- the endorsement before the epoch end
  obtain ⟨e0, he0, _⟩ := some_of_map_eq ((epochEnd_frame0 ekey0 (fun _ _ => rfl) s true).1.ek r).symm he
  obtain ⟨he', _, hcov⟩ := epochEnd_cover wf he0 (w.endo r e0 he0).2
  obtain rfl : e = { e0 with epoch := e0.total } := Option.some.inj (he.symm.trans he')
  exact claims_le_allotment_mixed_partial (s.epochEnd true) eg r e0.gaugeId R e0.total ops
    ⟨hG, ⟨_, he, rfl, rfl⟩, g.1, g.2⟩ hR hS (Int.le_of_eq hcov) hne hnr

/-- F7 — a0 and a1 hold 10 each at the snapshot (allotment 100); a0 raises its stake to 30 and claims
    150 > 100 (paid out of the module's pooled balance), a1 still claims its 50 -/
def f7ops : List Op := [stake 0 0 30, .claim 0 3, .claim 1 3]

theorem claims_le_allotment_counterexample :
    ∃ s gid R, GaugeIs s gid 0 R ∧ R < runPaid s gid f7ops :=
  ⟨claimWorld, 3, 100, ⟨g3', by decide +kernel, by decide +kernel, by decide +kernel⟩, by decide +kernel⟩

theorem claimWorld_ctx : EpochCtx claimWorld 3 0 1 100 20 := by
  have h := distribution_eq_sum_of_votes s0
    [stake 0 0 10, stake 1 0 10, .vote 0 [(1, full)], .vote 1 [(1, full)], .epochEnd true] s0_wf s0_distInv
  exact ⟨⟨g3', by decide +kernel, by decide +kernel, by decide +kernel⟩, ⟨⟨0, 1, 20, 20⟩, by decide +kernel, rfl, rfl⟩, h.1, h.2⟩

/-- the F7 witness satisfies EVERY hypothesis of `claims_le_allotment_mixed_partial` except the
    exclusion — and it violates exactly that one (a0, not yet blacklisted, goes from 10 to 30) -/
theorem claims_le_allotment_counterexample_only_breaks_exclusion :
    EpochCtx claimWorld 3 0 1 100 20 ∧ U claimWorld 1 ≤ 20 ∧ (∀ op ∈ f7ops, isEpochEnd op = false) ∧
    ¬ NoRaiseRun claimWorld f7ops ∧ 100 < runPaid claimWorld 3 f7ops := by
  refine ⟨claimWorld_ctx, by decide +kernel, by decide, fun h => ?_, by decide +kernel⟩
  rcases h.1 with hin | hle
  · exact absurd hin (by decide +kernel)
  · have := hle ⟨10, [(1, full)]⟩ ⟨30, [(1, full)]⟩ (by decide +kernel) (by decide +kernel)
    exact absurd this (by decide +kernel)

/-- non-vacuity of the mixed theorem: a history with a vote, a revocation, a DEcreasing staking message,
    funding, an hour epoch's end, a parameter change and a new rollapp between the claims satisfies the
    hypotheses; the gauge pays 50 + 25 ≤ 100 -/
def mixedOps : List Op :=
  [.claim 0 3, .epochEnd false, stake 1 0 5, .fund 3 7, .setParams 1 2, .addRollapp 1, stake 2 0 9,
   .vote 2 [(1, full)], .claim 2 3, .claim 1 3, .revoke 0, .slash [((1, 0), some 4)]]

example : U claimWorld 1 ≤ 20 ∧ (∀ op ∈ mixedOps, isEpochEnd op = false) ∧ runPaid claimWorld 3 mixedOps = 75 := by
  exact ⟨by decide +kernel, by decide, by decide +kernel⟩

/- **gauge_never_overpaid** (full statement — FALSE on the current code, two root causes):
     along every history an endorsement gauge's DistributedCoins stays ≤ its Coins.
   (a) F7 above (current power against the snapshot); (b) a FINISHED gauge: x/incentives updates only
   ACTIVE gauges at the epoch end, so a finished endorsement gauge keeps its last EpochRewards, and
   `Claim` / `EstimateClaim` / `DistributeEndorsementRewards` look neither at the gauge's state nor at
   Coins − DistributedCoins.  `claims_le_allotment_mixed_partial` still holds for such a gauge — but the
   `R` it speaks of is a stale field, not an allotment the gauge was given for this epoch. -/

/-- the 1-epoch variant of gauge 3 -/
def g3n : Gauge := { g3 with perpetual := false }

def s0n : State := { s0 with gauges := [g1, g2, g3n, g4] }

/-- a0 endorses r0 alone; the epoch ends (gauge 3 gets all its 100 as EpochRewards and is finished), a0
    claims 100; the next epoch ends (the finished gauge is not touched, the blacklist is cleared), a0
    claims 100 again: 200 distributed out of 100 — with NO staking message at all after the vote -/
def finishedOps : List Op :=
  [stake 0 0 10, .vote 0 [(1, full)], .epochEnd true, .claim 0 3, .epochEnd true, .claim 0 3]

theorem gauge_never_overpaid_counterexample :
    ∃ s ops gid g, NoRaiseRun ((run s (ops.take 3))) (ops.drop 3) ∧ (run s ops).gauge? gid = some g ∧
      g.status = .finished ∧ g.kind = .endorsement 0 ∧ g.coins < g.distributed :=
  ⟨s0n, finishedOps, 3, { g3n with distributed := 200, epochRewards := some 100, filled := 1, status := .finished },
    ⟨trivial, trivial, trivial, trivial⟩, by decide +kernel, rfl, rfl, by decide +kernel⟩

end DymVerif.Props.C16
