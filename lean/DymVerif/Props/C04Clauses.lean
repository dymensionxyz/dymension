/-
  Props/C04Clauses — further clauses of C04 over M-Packets:
  * `delayed_refund_only_recorded`, `delayed_is_recorded`: a delayed acknowledgement / timeout / receive
    moves no coin, writes no acknowledgement, releases nothing, and the packet is stored PENDING with its
    by-address index entry;
  * `effects_are_logged`: the ghost release log is tied to the real effects — a packet message or a
    finalization that changes a bank balance appends a log entry (so `release_only_final` and
    `release_at_most_once` are statements about balances, not only about the log);
  * `failed_refund_is_final`: what the code does when the refund fails at finalization.
-/
import DymVerif.Props.C04
namespace DymVerif.C04
open DymVerif DymVerif.Keys DymVerif.Packets

-- ------------------------------------------------------------------ delayed = only recorded

/-- what `savePacket` leaves behind -/
def Recorded (s0 s' : St) (p : Packet) : Prop :=
  s'.bal = s0.bal ∧ s'.acks = s0.acks ∧ s'.log = s0.log ∧ p ∈ s'.packets ∧ (p.target, pkey p) ∈ s'.byAddr

theorem recorded_save (s0 : St) (p : Packet) : Recorded s0 (setPacket (addByAddr s0 p.target (pkey p)) p) p :=
  ⟨rfl, rfl, rfl, mem_setPacket.mpr (Or.inl rfl), mem_addByAddr.mpr (Or.inl rfl)⟩

/-- **delayed_refund_only_recorded** — an acknowledgement / timeout above the finalized height
    (`ackDelay`) moves no coin, writes no acknowledgement, logs no release: the packet is stored with
    status PENDING (`mkSentPacket` builds it pending) together with its index entry under the sender. -/
theorem delayed_refund_only_recorded {s0 s' : St} {p : Packet} {refund : Bool}
    (h : ackDelay s0 p refund = .ok (some s')) : Recorded s0 s' p := by
  unfold ackDelay at h
  split at h
  · cases h
  · split at h
    · split at h
      · cases h
      · rename_i s2 he
        cases h
        rcases eibcOnRefund_ok (eibcRefundHandler_ok he) with e | ⟨-, -, e⟩
        · rw [e]; exact recorded_save s0 p
        · rw [e]; exact recorded_save s0 p
    · cases h; exact recorded_save s0 p

/-- **delayed_is_recorded** — a delayed receive (`.async`) stores the packet PENDING with its index entry
    under the receiver (and `delayed_only_recorded`: nothing else happens) -/
theorem delayed_is_recorded {s0 : St} {c seq : Nat} {p : Packet} {memo : Memo}
    (h : (recvDelay s0 c seq p memo).2 = .async) : Recorded s0 (recvDelay s0 c seq p memo).1 p := by
  cases hi : icsRecv s0 p true with
  | none => simp [recvDelay, hi, recvFail] at h
  | some sx =>
    cases he : eibcOnRecv (setPacket (addByAddr s0 p.target (pkey p)) p) p memo with
    | error e => simp [recvDelay, hi, he, recvFail] at h
    | ok s2 =>
      obtain ⟨_, _, -, -, rfl⟩ := eibcOnRecv_ok he
      simp only [recvDelay, hi, he]
      exact recorded_save s0 p

theorem delayed_is_recorded_msg (s : St) (c seq ph : Nat) (d : RecvData) (h : (recvPacket s c seq ph d).2 = .async) :
    ∃ p, p.status = .pending ∧ p.ptype = .onRecv ∧ p.proofHeight = ph ∧ p.seq = seq ∧ p.chan = c ∧ some p.target = d.target ∧
      p ∈ (recvPacket s c seq ph d).1.packets ∧ (p.target, pkey p) ∈ (recvPacket s c seq ph d).1.byAddr := by
  have out := recvPacket_out s c seq ph d
  generalize recvPacket s c seq ph d = r at out h
  cases out <;> try cases h
  rename_i rid tgt fee price p o _ _ htgt _ _ hp _
  subst hp
  exact ⟨_, rfl, rfl, rfl, rfl, rfl, htgt.symm, mem_insertPkt.mpr (Or.inl rfl), mem_insertAK.mpr (Or.inl rfl)⟩

-- ------------------------------------------------------------------ the log is tied to the effects

/-- **effects_are_logged (receive)** — a `MsgRecvPacket` that logs no release leaves every bank balance as it was -/
theorem effects_are_logged_recv (s : St) (c seq ph : Nat) (d : RecvData) (h : (recvPacket s c seq ph d).1.log = s.log) :
    (recvPacket s c seq ph d).1.bal = s.bal := by
  have out := recvPacket_out s c seq ph d
  generalize recvPacket s c seq ph d = r at out h
  -- a release appends to the log; every other outcome leaves the bank alone
  cases out with
  | pass | forwarded => exact absurd h (by simp)
  | _ => rfl

/-- **effects_are_logged (acknowledgement / timeout)** -/
theorem effects_are_logged_ack {s s' : St} {c seq ph : Nat} {isTimeout isErr : Bool}
    (h0 : ackPacket s c seq ph isTimeout isErr = .ok (some s')) (hl : s'.log = s.log) : s'.bal = s.bal := by
  obtain ⟨-, x, s0, ra, p, -, rfl, -, -, hcase⟩ := ackOpen_shape (ackPacket_ok h0)
  rcases hcase with ⟨-, s1, f1, rfl⟩ | ⟨-, rfl | ⟨-, he⟩⟩
  · -- passed on: the release is logged
    have : s1.log ++ [logEntry s1 p ra false] = s1.log := hl.trans f1.dframe.log.symm
    simp at this
  · rfl
  · rcases eibcOnRefund_ok he with rfl | ⟨-, -, rfl⟩ <;> rfl

/-- **effects_are_logged (finalization)** — an accepted finalization always logs its release -/
theorem effects_are_logged_finalize {s s' : St} {k : Bytes} (h : finalizePacket s k = .ok s') :
    ∃ e, s'.log = s.log ++ [e] ∧ e.viaFinalize = true := by
  obtain ⟨p, os, -, -, -, rfl⟩ := finalizePacket_state h
  exact ⟨_, rfl, rfl⟩

-- ------------------------------------------------------------------ a refund that fails at finalization

/-- **failed_refund_is_final** — when the refund (or the settlement of a forward) cannot be paid at
    finalization (`refundRelease` fails: the channel escrow is short), `finalizeRollappPacket` records
    the error text in the packet and finalizes it all the same: no balance moves, the release is logged
    (the identity counts as released: `release_at_most_once` then forbids any later release), and the
    packet is no longer pending — nothing in the module ever pays that refund.  This is within
    "released at most once" (zero times), and it is what the code does; whether the sender should keep a
    claim is outside C04's text. -/
theorem failed_refund_is_final {s s' : St} {k : Bytes} {p : Packet} (h : finalizePacket s k = .ok s')
    (hp : getPacket s k = some p) (hr : p.ptype = .onTimeout ∨ (p.ptype = .onAck ∧ p.ackErr = true))
    (hf : icsRefund s p = none) :
    s'.bal = s.bal ∧ s'.acks = s.acks ∧ (∃ e, s'.log = s.log ++ [e] ∧ e.uid = p.uid) ∧
    { p with status := .finalized, perr := some (refundPErr s p) } ∈ s'.packets ∧
    ∀ q ∈ s'.packets, q.status = .pending → pkey q ≠ k := by
  have hrel : releaseEffect s p = (s, some (refundPErr s p)) := by
    have : refundRelease s p = (s, some (refundPErr s p)) := by unfold refundRelease; rw [hf]
    unfold releaseEffect
    rcases hr with hr | ⟨hr, he⟩
    · rw [hr]; exact this
    · rw [hr]; simp [he, this]
  obtain ⟨p', os, hp', -, -, rfl⟩ := finalizePacket_state h
  cases hp.symm.trans hp'
  rw [hrel]
  refine ⟨rfl, rfl, ⟨_, rfl, rfl⟩, mem_setPacket.mpr (Or.inl rfl), ?_⟩
  intro q hq hs hkq
  rcases mem_setPacket.mp hq with e | ⟨hq1, -⟩
  · rw [e] at hs; cases hs
  · exact (mem_delPacket.mp hq1).2 (hkq.trans (getPacket_some hp).2.symm)

-- ------------------------------------------------------------------ non-vacuity

/-- account 0 sends 100 to the rollapp, the packet times out above the finalized height (stored pending);
    meanwhile the escrowed 100 come back to account 1 at a finalized height (the escrow is empty);
    finalizing the timeout: accepted, nothing is paid, the packet is FINALIZED with the refund error -/
def lostOps : List Op :=
  [ .send 0 0 0 100, .addState [114] 10, .timeout 0 1 5, .finalizeState [114],
    .recv 0 1 3 { dref := .back 0, amount := 100, target := some 1, memo := .none } ]

example : (step (run cexInit lostOps) (.finalize 2 [114] 5 .onTimeout [99, 48] 1)).2 = .ok ∧
    getBal (run cexInit lostOps).bal 0 0 = 900 ∧
    getBal (step (run cexInit lostOps) (.finalize 2 [114] 5 .onTimeout [99, 48] 1)).1.bal 0 0 = 900 ∧
    (step (run cexInit lostOps) (.finalize 2 [114] 5 .onTimeout [99, 48] 1)).1.packets.map (fun p => (p.status, p.perr)) =
      [(.finalized, some (.refund 0 100 0))] ∧
    (step (step (run cexInit lostOps) (.finalize 2 [114] 5 .onTimeout [99, 48] 1)).1 (.finalize 2 [114] 5 .onTimeout [99, 48] 1)).2 = .err .notFound := by
  decide +kernel

/-- a delayed timeout only records: balances, acknowledgements and log untouched, packet and index entry there -/
example : (run cexInit (lostOps.take 3)).bal = (run cexInit (lostOps.take 2)).bal ∧
    (run cexInit (lostOps.take 3)).log = [] ∧
    (run cexInit (lostOps.take 3)).packets.map (fun p => (p.status, p.target)) = [(.pending, 0)] ∧
    (run cexInit (lostOps.take 3)).byAddr.map (·.1) = [0] := by decide +kernel

end DymVerif.C04
