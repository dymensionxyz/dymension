/-
  Props/C06X — sequencer bonds leave only by refund, slash or reward: the op-level statements.

  Props/C06 states the withdrawal rules for the helper `tryUnbond` and classifies every bond decrease
  by the kind of op.  This file states them for the MESSAGES themselves and ties the third kind
  (block end) to the liveness schedule of C08:

    (a) an accepted `MsgDecreaseBond` / a paying `MsgUnbond` REQUIRES that the sender is neither
        proposer nor successor of its rollapp, has no unfinalized rollapp height on record, and leaves
        it with a bond that is zero (then unbonded) or at least the rollapp's minimum bond — with the
        exact accounting; an accepted `MsgUnbond` of the proposer pays nothing (it only starts the
        notice period).  Run-level corollary: while a sequencer is liable for an unfinalized height
        (has a sequencer-height record), its decrease / unbond is refused.
    (b) in every reachable state, a bond lowered by a block end belongs to the proposer of a rollapp
        whose liveness event is due at that very height, and is lowered by exactly one liveness slash.
-/
import DymVerif.Props.C06
import DymVerif.Props.C03
import DymVerif.Lemmas.CoreLevEnd
import DymVerif.Lemmas.CoreXLiable
namespace DymVerif.C06X
open DymVerif DymVerif.Core DymVerif.Core.LevNs DymVerif.Core.XLiable

/-- the pre-conditions and the accounting of a withdrawal of `amt` by `a` in the step `s → s'`:
    `a`'s record `q` (before) / `q'` (after) and its rollapp `r` (before) -/
structure Paid (s s' : St) (a : Addr) (amt : Nat) (q q' : Seq) (r : Rollapp) : Prop where
  seq : getSeq s a = some q
  seq' : getSeq s' a = some q'
  ra : getRa s q.rollapp = some r
  /-- `a` is not the proposer of its rollapp -/
  notProposer : r.proposer ≠ some a
  /-- … nor the successor -/
  notSuccessor : r.successor ≠ some a
  /-- no rollapp height posted by `a` is still unfinalized -/
  notLiable : s.seqH.any (·.1 == a) = false
  /-- the bond went down by exactly `amt` -/
  bond : q'.tokens + amt = q.tokens
  /-- … `a`'s own bank balance up by exactly `amt` -/
  bal : getBal s'.bal a = getBal s.bal a + amt
  /-- … the module account down by exactly `amt`, nothing burned, nobody else's balance or record moved -/
  modBal : s'.modBal + amt = s.modBal
  burned : s'.burned = s.burned
  otherBal : ∀ b, b ≠ a → getBal s'.bal b = getBal s.bal b
  others : ∀ b, b ≠ a → getSeq s' b = getSeq s b
  /-- the remaining bond is zero or at least the rollapp's minimum bond -/
  minBond : q'.tokens = 0 ∨ r.minBond ≤ q'.tokens
  /-- a sequencer left with nothing is unbonded -/
  zeroUnbonded : q'.tokens = 0 → q'.bonded = false
  /-- the record stays with its address and rollapp -/
  same : q'.addr = a ∧ q'.rollapp = q.rollapp

/-- the common core: a successful `tryUnbond` on (a copy of) `a`'s record, written back -/
theorem paid_of_tryUnbond {s s1 : St} {q0 q q1 : Seq} {a : Addr} {amt : Nat} (hg : getSeq s a = some q0)
    (hqa : q.addr = a) (hqt : q.tokens = q0.tokens) (hqr : q.rollapp = q0.rollapp)
    (e : tryUnbond s q amt = .ok (s1, q1)) : ∃ r, Paid s (setSeq s1 q1) a amt q0 q1 r := by
  obtain ⟨_, _, _, r, _, hr, _, _, _⟩ := tryUnbond_ok e
  have hb := C06.withdraw_blocked s s1 q q1 amt e
  have hx := C06.withdraw_exact_and_min_bond s s1 q q1 amt r hr e
  have hq := Fork.tryUnbond_money e
  have w := withdrawn_of_tryUnbond hg hqa hqt e
  have hq1a : q1.addr = a := hq.addr.trans hqa
  have hrec' : getSeq (setSeq s1 q1) a = some q1 := by
    have : getSeq s1 q1.addr = some q0 := by rw [getSeq_congr hq.seqs, hq1a]; exact hg
    rw [← hq1a]; exact getSeq_setSeq_self this
  have hnp : r.proposer ≠ some a := by
    have := hb.1
    unfold isProposer at this
    rw [hr, hqa] at this
    simpa using this
  have hns : r.successor ≠ some a := by
    have := hb.2.1
    unfold isSuccessor at this
    rw [hr, hqa] at this
    simpa using this
  refine ⟨r, hg, hrec', by rw [← hqr]; exact hr, hnp, hns, by rw [← hqa]; exact hb.2.2,
    by rw [← hqt]; exact hx.1, ?_, hx.2.2.1, w.burned, w.otherBal, w.others, ?_, hx.2.2.2.1,
    hq1a, hq.rollapp.trans hqr⟩
  · show getBal s1.bal a = _
    rw [← hqa]; exact hx.2.1
  · by_cases h0 : q1.tokens = 0
    · exact Or.inl h0
    · exact Or.inr (hx.2.2.2.2 h0)

/-- in ANY state: if `MsgDecreaseBond(a, amt)` is accepted
    then `amt > 0`, `a` is a sequencer that is neither the proposer nor the successor of its rollapp,
    no sequencer-height record of `a` exists (none of the rollapp heights it posted is unfinalized),
    the bond goes down by exactly `amt`, which is paid to `a`'s own address out of the module account
    (nothing burned, nobody else touched), and the remaining bond is either zero — then the sequencer
    is unbonded — or at least the rollapp's minimum bond. -/
theorem bondDec_requires (s s' : St) (a : Addr) (amt : Nat) (h : apply s (.bondDec a amt) = .ok s') :
    0 < amt ∧ ∃ q q' r, Paid s s' a amt q q' r := by
  simp only [apply] at h
  obtain ⟨q, s1, q1, hg, hamt, hs, rfl⟩ := decreaseBond_ok h
  obtain ⟨r, pd⟩ := paid_of_tryUnbond hg (getSeq_addr hg) rfl rfl hs
  exact ⟨Nat.pos_of_ne_zero hamt, q, q1, r, pd⟩

/-- in ANY state, an accepted `MsgUnbond(a)` is one of two things:

    * `a` IS the proposer of its rollapp: nothing is paid — no balance, bond, module-account or burn
      change; the message only opts `a` out and starts its notice period (queued at `now + noticePeriod`);
      this requires that no rotation is already in progress and that the rollapp may be forked;
    * `a` is NOT the proposer: the whole bond `q.tokens` is paid to `a`'s own address under the
      conditions of `Paid` (not the successor either, no unfinalized height on record), and the
      record is left with zero tokens, unbonded and opted out. -/
theorem unbond_requires (s s' : St) (a : Addr) (h : apply s (.unbond a) = .ok s') :
    ∃ q r, getSeq s a = some q ∧ getRa s q.rollapp = some r ∧
      ((r.proposer = some a ∧
          getSeq s' a = some { q with optedIn := false, notice := some (s.t + s.sqp.noticePeriod) } ∧
          s'.nq = insertSorted ltPair (s.t + s.sqp.noticePeriod, a) s.nq ∧
          s'.bal = s.bal ∧ s'.modBal = s.modBal ∧ s'.burned = s.burned ∧ s'.ras = s.ras ∧ s'.seqH = s.seqH ∧
          (∀ b, b ≠ a → getSeq s' b = getSeq s b) ∧
          forkLatestAllowed r = true ∧ noticeInProgress q s.t = false ∧ awaitingLast s r = false) ∨
       (r.proposer ≠ some a ∧ ∃ q', Paid s s' a q.tokens q q' r ∧
          q'.tokens = 0 ∧ q'.bonded = false ∧ q'.optedIn = false)) := by
  simp only [apply] at h
  obtain ⟨q, r, hg, hr, haw, h2⟩ := unbond_ok h
  have hqa : q.addr = a := getSeq_addr hg
  refine ⟨q, r, hg, hr, ?_⟩
  have hisP : isProposer s q = (r.proposer == some a) := by
    unfold isProposer; rw [hr, hqa]
  rcases h2 with ⟨hp, hfl, hnip, rfl⟩ | ⟨hp, s1, q1, hs, rfl⟩
  · -- the proposer: only the notice period starts
    have hpa : r.proposer = some a := by rw [hisP] at hp; simpa using hp
    left
    have hg0 : getSeq { s with nq := insertSorted ltPair (s.t + s.sqp.noticePeriod, a) s.nq } q.addr = some q := by
      rw [hqa]; exact hg
    refine ⟨hpa, ?_, rfl, rfl, rfl, rfl, rfl, rfl, ?_, hfl, hnip, ?_⟩
    · rw [← hqa]
      exact getSeq_setSeq_self (q := { q with optedIn := false, notice := some (s.t + s.sqp.noticePeriod) }) hg0
    · intro b hb
      rw [getSeq_setSeq_other (show (noticed q (s.t + s.sqp.noticePeriod)).addr ≠ b by
        show q.addr ≠ b; rw [hqa]; exact Ne.symm hb)]
      rfl
    · rcases haw with h | ⟨h, _⟩
      · exact h
      · rw [hp] at h; cases h
  · -- anybody else: the whole bond is withdrawn
    have hpa : r.proposer ≠ some a := by rw [hisP] at hp; simpa using hp
    right
    obtain ⟨r', pd⟩ := paid_of_tryUnbond (q := { q with optedIn := false }) hg hqa rfl rfl hs
    have : r' = r := Option.some.inj (pd.ra.symm.trans hr)
    subst this
    have ht : q1.tokens = 0 := by have := pd.bond; omega
    refine ⟨hpa, q1, pd, ht, pd.zeroUnbonded ht, ?_⟩
    obtain ⟨_, _, _, rfl⟩ := Fork.tryUnbond_money hs
    rfl

/-- the two messages together, in the shape of kind 1 of
    `C06.bond_decreases_only_by`: in ANY state, if `MsgUnbond(a)` or `MsgDecreaseBond(a, ·)` is accepted
    and `a`'s bond is strictly smaller afterwards, then the decrease `d` was a withdrawal satisfying
    `Paid`: `a` was neither proposer nor successor of its rollapp, had no unfinalized height on record,
    `d` went to `a`'s own address out of the module account, and the remaining bond is zero (unbonded)
    or at least the rollapp's minimum bond. -/
theorem withdraw_requires (s s' : St) (a : Addr) (o : Op) (ho : o = .unbond a ∨ ∃ amt, o = .bondDec a amt)
    (h : apply s o = .ok s') (q q' : Seq) (hq : getSeq s a = some q) (hq' : getSeq s' a = some q')
    (hlt : q'.tokens < q.tokens) : ∃ r, Paid s s' a (q.tokens - q'.tokens) q q' r := by
  rcases ho with ho | ⟨amt, ho⟩
  · subst ho
    obtain ⟨q0, r, hq0, hr, hc⟩ := unbond_requires s s' a h
    have e1 : q0 = q := Option.some.inj (hq0.symm.trans hq)
    subst e1
    rcases hc with ⟨_, hrec, _⟩ | ⟨_, q1, pd, ht, _⟩
    · exfalso
      rw [hq'] at hrec; injection hrec with hrec
      rw [hrec] at hlt
      exact Nat.lt_irrefl _ hlt
    · have e2 : q1 = q' := Option.some.inj (pd.seq'.symm.trans hq')
      subst e2
      refine ⟨r, ?_⟩
      rw [ht, Nat.sub_zero]; exact pd
  · subst ho
    obtain ⟨_, q0, q1, r, pd⟩ := bondDec_requires s s' a amt h
    have e1 : q0 = q := Option.some.inj (pd.seq.symm.trans hq)
    subst e1
    have e2 : q1 = q' := Option.some.inj (pd.seq'.symm.trans hq')
    subst e2
    have : q0.tokens - q1.tokens = amt := by have := pd.bond; omega
    exact ⟨r, by rw [this]; exact pd⟩

/-- in ANY state, while `a` is the proposer or the successor of its
    rollapp, or has a sequencer-height record (an unfinalized rollapp height it posted), its
    `MsgDecreaseBond` is refused whatever the amount, and its `MsgUnbond` pays nothing: it is refused,
    or — for the proposer — only starts the notice period. -/
theorem withdraw_refused_when_blocked (s : St) (a : Addr) (q : Seq) (r : Rollapp)
    (hq : getSeq s a = some q) (hr : getRa s q.rollapp = some r)
    (hb : r.proposer = some a ∨ r.successor = some a ∨ s.seqH.any (·.1 == a) = true) :
    (∀ amt, ∃ e, apply s (.bondDec a amt) = .error e) ∧
    (∀ s', apply s (.unbond a) = .ok s' → r.proposer = some a ∧ s'.bal = s.bal ∧ s'.modBal = s.modBal ∧
      ∃ q', getSeq s' a = some q' ∧ q'.tokens = q.tokens ∧ q'.bonded = q.bonded) := by
  constructor
  · intro amt
    cases h : apply s (.bondDec a amt) with
    | error e => exact ⟨e, rfl⟩
    | ok s' =>
      exfalso
      obtain ⟨_, q0, q', r0, pd⟩ := bondDec_requires s s' a amt h
      have e1 : q0 = q := Option.some.inj (pd.seq.symm.trans hq)
      subst e1
      have e2 : r0 = r := Option.some.inj (pd.ra.symm.trans hr)
      subst e2
      rcases hb with h1 | h1 | h1
      · exact pd.notProposer h1
      · exact pd.notSuccessor h1
      · rw [pd.notLiable] at h1; cases h1
  · intro s' h
    obtain ⟨q0, r0, hq0, hr0, hc⟩ := unbond_requires s s' a h
    have e1 : q0 = q := Option.some.inj (hq0.symm.trans hq)
    subst e1
    have e2 : r0 = r := Option.some.inj (hr0.symm.trans hr)
    subst e2
    rcases hc with ⟨hp, hrec, _, hbal, hmod, _⟩ | ⟨hnp, q', pd, _⟩
    · exact ⟨hp, hbal, hmod, _, hrec, rfl, rfl⟩
    · exfalso
      rcases hb with h1 | h1 | h1
      · exact hnp h1
      · exact pd.notSuccessor h1
      · rw [pd.notLiable] at h1; cases h1

/-- in ANY state: while some (a, height) liability is on record, `a`'s
    `MsgDecreaseBond` is refused whatever the amount, and an accepted `MsgUnbond` of `a` can only be the
    proposer's notice (no balance, module-account or bond change). -/
theorem liable_blocks (s : St) (a : Addr) (hl : s.seqH.any (·.1 == a) = true) :
    (∀ amt, ∃ e, apply s (.bondDec a amt) = .error e) ∧
    (∀ s', apply s (.unbond a) = .ok s' → ∃ q r, getSeq s a = some q ∧ getRa s q.rollapp = some r ∧
      r.proposer = some a ∧ s'.bal = s.bal ∧ s'.modBal = s.modBal ∧
      getSeq s' a = some { q with optedIn := false, notice := some (s.t + s.sqp.noticePeriod) }) := by
  constructor
  · intro amt
    cases h : apply s (.bondDec a amt) with
    | error e => exact ⟨e, rfl⟩
    | ok s' =>
      exfalso
      obtain ⟨_, q0, q', r0, pd⟩ := bondDec_requires s s' a amt h
      rw [pd.notLiable] at hl; cases hl
  · intro s' h
    obtain ⟨q, r, hq, hr, hc⟩ := unbond_requires s s' a h
    rcases hc with ⟨hp, hrec, _, hbal, hmod, _⟩ | ⟨_, q', pd, _⟩
    · exact ⟨q, r, hq, hr, hp, hbal, hmod, hrec⟩
    · exfalso; rw [pd.notLiable] at hl; cases hl

/-- in ANY state: an accepted `MsgUpdateState` leaves a (sender, height)
    liability for every block descriptor it carries (at least one), so from that moment — until the
    heights are finalized or pruned by a fork — the sender's `MsgDecreaseBond` is refused. -/
theorem update_makes_liable (s s' : St) (m : UpdMsg) (h : apply s (.update m) = .ok s') :
    (∀ b ∈ m.bds, (m.sender, b.height) ∈ s'.seqH) ∧ s'.seqH.any (·.1 == m.sender) = true ∧
    ∀ amt, ∃ e, apply s' (.bondDec m.sender amt) = .error e := by
  simp only [apply] at h
  obtain ⟨hne, hall⟩ := updateState_liable h
  have hany : s'.seqH.any (·.1 == m.sender) = true := by
    cases hb : m.bds with
    | nil => exact absurd hb hne
    | cons b bs =>
      exact List.any_eq_true.2 ⟨(m.sender, b.height), hall b (by rw [hb]; exact List.mem_cons_self), by simp⟩
  exact ⟨hall, hany, (liable_blocks s' m.sender hany).1⟩

/-- in every reachable state: while a liability
    `(a, h)` is on record — by the liability invariant (`C03.liability_inv`) it refers to an UNFINALIZED
    height `h` of a state of `a`'s own rollapp that `a` itself created — `a`'s `MsgDecreaseBond` is
    refused and its `MsgUnbond` pays nothing.

    Direction of the invariant: what is proved for every reachable state is "every liability record
    refers to an unfinalized state created by that sequencer" (`Fork.Liab`).  The converse inclusion
    (Appendix A6: every height of every unfinalized state has a liability record) is established by
    the step that creates the state (`update_makes_liable`) but is not proved as an invariant of all
    runs, so the hypothesis here is the record, not the state. -/
theorem withdraw_blocked_while_liable (p : Params) (ops : List Op) (a : Addr) (h : Nat)
    (hm : (a, h) ∈ (run p ops).seqH) :
    (∃ (q : Seq) (r : Rollapp) (i : Nat) (st : SInfo), getSeq (run p ops) a = some q ∧
      getRa (run p ops) q.rollapp = some r ∧ r.states[i]? = some st ∧ st.creator = a ∧ st.finalized = false ∧
      st.start ≤ h ∧ h ≤ st.last) ∧
    (∀ amt, ∃ e, (step (run p ops) (.bondDec a amt)).2 = some e) ∧
    (∀ s', apply (run p ops) (.unbond a) = .ok s' → s'.bal = (run p ops).bal ∧ s'.modBal = (run p ops).modBal ∧
      ∃ q q', getSeq (run p ops) a = some q ∧ getSeq s' a = some q' ∧ q'.tokens = q.tokens ∧ q'.bonded = q.bonded) := by
  have hany : (run p ops).seqH.any (·.1 == a) = true := List.any_eq_true.2 ⟨(a, h), hm, by simp⟩
  have hb := liable_blocks (run p ops) a hany
  refine ⟨C03.liability_inv p ops (a, h) hm, ?_, ?_⟩
  · intro amt
    obtain ⟨e, he⟩ := hb.1 amt
    exact ⟨e, by unfold step; rw [he]⟩
  · intro s' hs'
    obtain ⟨q, r, hq, _, _, hbal, hmod, hrec⟩ := hb.2 s' hs'
    exact ⟨hbal, hmod, q, _, hq, hrec, rfl, rfl⟩

/-- along every run, for every block end (with whatever injected
    finalization failures): a sequencer record that is different afterwards belongs to the PROPOSER of
    a rollapp whose liveness event height equals the current hub height, and the new record is the
    old one after exactly one liveness slash (`slashOnce`: bond minus `livSlashAmt`, dishonor plus the
    liveness penalty, both with the x/sequencer parameters in force `(run p ops).sqp`).  Sequencers that propose for no rollapp, proposers of rollapps whose event is
    not due, and everything finalization does, leave every other record untouched. -/
theorem end_changes_only_due_proposers (p : Params) (ops : List Op) (f : List (Nat × Nat)) (a : Addr) (q q' : Seq)
    (hq : getSeq (run p ops) a = some q) (hq' : getSeq (step (run p ops) (.end_ f)).1 a = some q')
    (hne : q' ≠ q) :
    ∃ ra r, getRa (run p ops) ra = some r ∧ r.proposer = some a ∧ r.evH = (run p ops).h ∧
      q' = slashOnce (run p ops).sqp q :=
  endBlock_changed_record (f := f) (run_lev p ops) (run_cust p ops) (run_own p ops)
    (run_grid p ops).hpos hq hq' hne

/-- the `end_` kind of `C06.bond_decreases_only_by`, tied to the
    liveness schedule (C08): along every run, a bond that is lower after a block end than before it
    belongs to the proposer of a rollapp whose liveness event was due at that height
    (`r.evH = hub height`, equivalently `(height, rollapp)` is queued — `C08.event_fires_iff`), the
    record is the old one after one `slashOnce`, and the decrease is exactly
    `livSlashAmt sp q.tokens = min(bond, max(LivenessSlashMinAbsolute, ⌊LivenessSlashMinMultiplier · bond⌋))`
    for `sp = (run p ops).sqp`, the x/sequencer parameters IN FORCE at that block end (the history may
    contain any number of `MsgUpdateParams`).
    Conversely `C08.end_at_event_height_slashes` / `C08.end_before_event_height_does_not` say that
    such a proposer IS slashed and no other proposer is. -/
theorem end_decrease_is_liveness_slash (p : Params) (ops : List Op) (f : List (Nat × Nat)) (a : Addr) (q q' : Seq)
    (hq : getSeq (run p ops) a = some q) (hq' : getSeq (step (run p ops) (.end_ f)).1 a = some q')
    (hlt : q'.tokens < q.tokens) :
    ∃ ra r, getRa (run p ops) ra = some r ∧ r.proposer = some a ∧ r.evH = (run p ops).h ∧
      q' = slashOnce (run p ops).sqp q ∧ q.tokens - q'.tokens = livSlashAmt (run p ops).sqp q.tokens := by
  obtain ⟨ra, r, hg, hp, hev, hs⟩ := end_changes_only_due_proposers p ops f a q q' hq hq'
    (by intro e; rw [e] at hlt; omega)
  refine ⟨ra, r, hg, hp, hev, hs, ?_⟩
  have hle := livSlashAmt_le (run p ops).sqp q.tokens
  rw [hs]
  show q.tokens - (q.tokens - livSlashAmt (run p ops).sqp q.tokens) = livSlashAmt (run p ops).sqp q.tokens
  omega

/-- the conditions behind the kinds of `C06.bond_decreases_only_by_run`,
    along every run: if `a`'s bond is lower after the next op `o` than before it, then

    * if `o` is `a`'s own `MsgUnbond` / `MsgDecreaseBond` (kind 1), the withdrawal satisfied `Paid`: not
      proposer, not successor, no unfinalized height on record, refunded to its own address, remainder
      zero-and-unbonded or at least the minimum bond;
    * if `o` is a block end (kind 3), `a` is the proposer of a rollapp whose liveness event height is the
      current hub height, and the decrease is exactly one liveness slash `livSlashAmt (run p ops).sqp q.tokens`
      (parameters in force).

    (`C06.bond_decreases_only_by_run` says that `o` IS of one of the listed kinds — the remaining kind,
    a punishment naming `a`, has no pre-condition on `a` at all — and gives the money flow of each.) -/
theorem bond_decrease_conditions_run (p : Params) (ops : List Op) (o : Op) (a : Addr) (q q' : Seq)
    (hq : getSeq (run p ops) a = some q) (hq' : getSeq (run p (ops ++ [o])) a = some q') (hlt : q'.tokens < q.tokens) :
    ((o = .unbond a ∨ ∃ amt, o = .bondDec a amt) →
      ∃ r, Paid (run p ops) (run p (ops ++ [o])) a (q.tokens - q'.tokens) q q' r) ∧
    (∀ f, o = .end_ f → ∃ ra r, getRa (run p ops) ra = some r ∧ r.proposer = some a ∧ r.evH = (run p ops).h ∧
      q' = slashOnce (run p ops).sqp q ∧ q.tokens - q'.tokens = livSlashAmt (run p ops).sqp q.tokens) := by
  have hr : run p (ops ++ [o]) = (step (run p ops) o).1 := by
    unfold run; rw [List.foldl_append]; rfl
  constructor
  · intro ho
    have hap : apply (run p ops) o = .ok (run p (ops ++ [o])) := by
      rw [hr] at hq' ⊢
      unfold step at hq' ⊢
      cases h : apply (run p ops) o with
      | ok s' => rfl
      | error e =>
        exfalso
        rw [h] at hq'
        simp only at hq'
        rw [hq] at hq'; injection hq' with hq'; rw [hq'] at hlt; exact Nat.lt_irrefl _ hlt
    exact withdraw_requires _ _ a o ho hap q q' hq hq' hlt
  · intro f ho
    subst ho
    rw [hr] at hq'
    exact end_decrease_is_liveness_slash p ops f a q q' hq hq' hlt

open DymVerif.C06 in
/-- (a) the non-proposer a2 (bond 15, minimum 10) may take out 5 but not 6; the proposer a1 nothing -/
example : (step (run exLive exPre) (.bondDec 2 5)).2 = none ∧
    (step (run exLive exPre) (.bondDec 2 6)).2 = some .unbondNotAllowed ∧
    (step (run exLive exPre) (.bondDec 1 1)).2 = some .proposerOrSuccessor := by decide +kernel

/-- a rotated-out proposer: a1 serves notice, a2 becomes successor, a1's last update hands over.  a1 is
    then neither proposer nor successor, but heights 1–3 it posted are unfinalized -/
def exRot : List Op := C06.exPre ++ [C06.exUpd, .bridge 0 1, .unbond 1, .begin_ 10,
  .update { ra := 0, sender := 1, start := 3, num := 1, rev := 0, last := true, bds := [C06.exBD 3] }]

example : ((run C06.exParams exRot).ras.map fun r => (r.proposer, r.successor)) = [(some 2, none)] ∧
    (run C06.exParams exRot).seqH = [(1, 1), (1, 2), (1, 3)] := by decide +kernel
/-- … so both withdrawals of a1 are refused by the liability blocker … -/
example : (step (run C06.exParams exRot) (.unbond 1)).2 = some .unbondNotAllowed ∧
    (step (run C06.exParams exRot) (.bondDec 1 1)).2 = some .unbondNotAllowed := by decide +kernel
/-- … until the dispute period (2 blocks) is over and the states are finalized: then the whole bond is
    refunded and a1 is unbonded -/
example : (let s := run C06.exParams (exRot ++ [.end_ [], .begin_ 1, .end_ [], .begin_ 1, .end_ [], .unbond 1])
    (s.seqH, (getSeq s 1).map fun q => (q.tokens, q.bonded), getBal s.bal 1, s.modBal)) =
    ([], some (0, false), 100, 15) := by decide +kernel
/-- the proposer's `MsgUnbond` pays nothing: bond, balance and module account as before, notice started -/
def exProp : St := run C06.exParams (C06.exPre ++ [C06.exUpd, .bridge 0 1])
def exProp' : St := (step exProp (.unbond 1)).1
example : ((getSeq exProp 1).map (·.tokens), (getSeq exProp' 1).map (·.tokens), (getSeq exProp' 1).map (·.bonded),
      (getSeq exProp' 1).map (·.optedIn), (getSeq exProp' 1).map (·.notice)) =
    (some 10, some 10, some true, some false, some (some 10)) := by decide +kernel
example : (getBal exProp.bal 1, getBal exProp'.bal 1, exProp.modBal, exProp'.modBal) = (90, 90, 25, 25) := by decide +kernel

/-- (b) block end at the event height of rollapp 0 (event due at hub height 2): the proposer a1 is
    slashed by `livSlashAmt = max(3, 0) = 3`, the non-proposer a2 is untouched -/
def exDue : St := run C06.exLive (C06.exPre ++ [.begin_ 1])
def exDue' : St := (step exDue (.end_ [])).1
example : ((getRa exDue 0).map (·.evH), exDue.h, (getSeq exDue 1).map (·.tokens), (getSeq exDue' 1).map (·.tokens),
      (getSeq exDue' 2) == (getSeq exDue 2), livSlashAmt C06.exLive.seq 10) = (some 2, 2, some 10, some 7, true, 3) := by decide +kernel

end DymVerif.C06X
