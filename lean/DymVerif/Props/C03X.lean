/-
  Props/C03X — C03 (a fork removes everything above h and nothing at or below it) over M-Core, further:

  * finalized states and forks, for every reachable state: `C03.fork_refused_if_finalized_above` and
    `C03.fork_touches_no_finalized_state` assume that the finalized states form a prefix (`FinPrefix`) and that
    the chain is gap-free (`Chain`); both hold in every reachable state (`finPrefix_run`, from C02's finalization
    invariant `run_fin`), so the two theorems are stated on `run p ops`, and for the whole fraud-proposal op
    (`fraud …`), whose fork runs on the state AFTER the punishment (`punish` changes no rollapp record, so both
    invariants carry over);
  * `fraud_other_rollapps`: what a fraud proposal may touch when the punished sequencer belongs to
    ANOTHER rollapp than the forked one (neither `SubmitRollappFraud` nor `PunishSequencer` checks
    that the punished address is a sequencer of the rollapp named in the proposal);
  * `fork_refused_no_state_named`: the exact error of a fork of a rollapp without states, per guard.
-/
import DymVerif.Props.C03
import DymVerif.Lemmas.CoreXFork
namespace DymVerif.C03X
open DymVerif DymVerif.Core DymVerif.Core.Fork DymVerif.Core.XFork

/-- **Finalized states form a prefix, every reachable state**: for every parameter set, every op
    sequence and every rollapp record `r` of the reached state, if the state at position `j` is
    finalized then so is every state at a position `i ≤ j` (this is the `FinPrefix` hypothesis of
    `C03.fork_refused_if_finalized_above` and `C03.fork_touches_no_finalized_state`; it is C02's
    `finalized_prefix`: "finalized ⇔ index ≤ latest finalized index"). -/
theorem finPrefix_run (p : Params) (ops : List Op) (r : Rollapp) (hr : r ∈ (run p ops).ras) :
    FinPrefix r.states :=
  finPrefix_of_finInv (Core.run_fin p ops) hr

/-- the same, unfolded (no auxiliary definition in the statement) -/
theorem finalized_prefix_run (p : Params) (ops : List Op) (r : Rollapp) (hr : r ∈ (run p ops).ras)
    (i j : Nat) (a b : SInfo) (hij : i ≤ j) (ha : r.states[i]? = some a) (hb : r.states[j]? = some b)
    (hbf : b.finalized = true) : a.finalized = true :=
  finPrefix_run p ops r hr i j a b hij ha hb hbf

/-- **A fork below any finalized height is refused** — for any state satisfying the chain invariant
    (C01) and the finalization invariant (C02): if some finalized state of the rollapp has a height
    above the last valid height, `hardFork` returns an error, wherever the fork height itself falls. -/
theorem fork_refused_if_finalized_above_inv (s : St) (hc : ChainAll s) (hf : FinInv s) (ra lv j : Nat)
    (r : Rollapp) (x : SInfo) (hg : getRa s ra = some r) (hx : r.states[j]? = some x)
    (hxf : x.finalized = true) (hlv : lv < x.last) : ∃ e, hardFork s ra lv = .error e :=
  C03.fork_refused_if_finalized_above s ra lv j r x (hc.get hg) (finPrefix_of_finInv hf (getRa_mem hg)) hg hx hxf hlv

/-- **A fork below any finalized height is refused, every reachable state**:
    in the state reached by any op sequence, a fork of rollapp `ra` with last valid height `lv` is
    refused whenever some finalized state of `ra` contains a height above `lv`. -/
theorem fork_refused_if_finalized_above_run (p : Params) (ops : List Op) (ra lv j : Nat) (r : Rollapp) (x : SInfo)
    (hg : getRa (run p ops) ra = some r) (hx : r.states[j]? = some x) (hxf : x.finalized = true)
    (hlv : lv < x.last) : ∃ e, hardFork (run p ops) ra lv = .error e :=
  fork_refused_if_finalized_above_inv _ (run_chain p ops) (Core.run_fin p ops) ra lv j r x hg hx hxf hlv

/-- what an accepted fork does to finalized states, for a state satisfying the chain and
    finalization invariants: the plan exists; every removed state (index ≥ `keep`, 0-based position
    `j ≥ keep`) was unfinalized; every finalized state lies entirely at or below `h' = kst.last`, sits
    at a position below `keep` and is still recorded at the same position, literally unchanged — except
    that when it is the kept (now latest) state its `NextProposer` is cleared. -/
theorem fork_touches_no_finalized_state_inv (s s' : St) (hc : ChainAll s) (hf : FinInv s) (ra lv : Nat)
    (e : hardFork s ra lv = .ok s') :
    ∃ r keep kst r', getRa s ra = some r ∧ revertPlan r ((lv + 1) % 2 ^ 64) = .ok (keep, kst) ∧
      getRa s' ra = some r' ∧ r'.states = r.states.take (keep - 1) ++ [kst] ∧
      (∀ (j : Nat) (x : SInfo), keep ≤ j → r.states[j]? = some x → x.finalized = false) ∧
      (∀ (j : Nat) (x : SInfo), r.states[j]? = some x → x.finalized = true →
        x.last ≤ kst.last ∧ x.last ≤ lv ∧ j < keep ∧
        r'.states[j]? = some (if j + 1 = keep then { x with next := NextP.empty } else x)) := by
  obtain ⟨r, keep, kst, hg, _, _, _, hplan, _⟩ := hardFork_ok e
  have hcr : Chain r.states := hc.get hg
  have hfp : FinPrefix r.states := finPrefix_of_finInv hf (getRa_mem hg)
  obtain ⟨p', hr', _⟩ := hardFork_getRa_same hg hplan e
  obtain ⟨st, l, ps⟩ := revertPlan_spec hcr hplan
  have hrem := ps.removed_unfin hcr hfp
  have hlv : kst.last ≤ lv := (C03.fork_states_above_removed s s' ra lv keep r _ kst hcr hg hplan e hr').2.2.1
  refine ⟨r, keep, kst, _, hg, hplan, hr', rfl, hrem, ?_⟩
  intro j x hx hxf
  have hle := ps.no_finalized_above hcr hfp j x hx hxf
  have hjk : j < keep := Nat.lt_of_not_le fun h => by have := hrem j x h hx; rw [hxf] at this; cases this
  have hlen := Core.getElem?_lt hx
  refine ⟨hle, Nat.le_trans hle hlv, hjk, ?_⟩
  show (r.states.take (keep - 1) ++ [kst])[j]? = _
  by_cases hk : j + 1 = keep
  · -- the kept state is finalized, so it lost no height: only its `NextProposer` is cleared
    subst hk
    rw [if_pos rfl]
    cases ps.hst.symm.trans hx
    have hke := ps.kst_eq
    rw [Nat.le_antisymm ps.h_hi hle] at hke
    exact (forked_getElem?_keep kst (Nat.succ_pos j) hlen).trans
      (congrArg some (hke.trans (cut_self (hcr.wf _ (List.mem_of_getElem? hx)))))
  · rw [if_neg hk]
    exact (forked_getElem?_lt kst (by omega) (by have := Core.getElem?_lt ps.hst; have := ps.keep_pos; omega)).trans hx

/-- **An accepted fork touches no finalized state, every reachable state**:
    see `fork_touches_no_finalized_state_inv` for the clauses. -/
theorem fork_touches_no_finalized_state_run (p : Params) (ops : List Op) (s' : St) (ra lv : Nat)
    (e : hardFork (run p ops) ra lv = .ok s') :
    ∃ r keep kst r', getRa (run p ops) ra = some r ∧ revertPlan r ((lv + 1) % 2 ^ 64) = .ok (keep, kst) ∧
      getRa s' ra = some r' ∧ r'.states = r.states.take (keep - 1) ++ [kst] ∧
      (∀ (j : Nat) (x : SInfo), keep ≤ j → r.states[j]? = some x → x.finalized = false) ∧
      (∀ (j : Nat) (x : SInfo), r.states[j]? = some x → x.finalized = true →
        x.last ≤ kst.last ∧ x.last ≤ lv ∧ j < keep ∧
        r'.states[j]? = some (if j + 1 = keep then { x with next := NextP.empty } else x)) :=
  fork_touches_no_finalized_state_inv _ s' (run_chain p ops) (Core.run_fin p ops) ra lv e

/-- the punishment that precedes the fork inside a fraud proposal preserves the chain invariant and
    the finalization invariant (it writes no rollapp record and no queue entry) -/
theorem punish_preserves_chain_fin (s s1 : St) (a : Addr) (rw : Option Addr) (hc : ChainAll s) (hf : FinInv s)
    (e : punish s a rw = .ok s1) : ChainAll s1 ∧ FinInv s1 ∧ s1.ras = s.ras ∧ s1.queue = s.queue := by
  have hx := (punish_exact e).1
  exact ⟨hc.ras_eq hx.ras, hx.finInv hf, hx.ras, hx.queue⟩

/-- **A fraud proposal at or below any finalized height is refused** (whole op, any state with the
    chain and finalization invariants): if some finalized state of the rollapp contains a height
    `≥ h` (the fraud height = first height to remove), the proposal is refused — whoever it names for
    punishment, whatever authority / revision it carries — and the step leaves the state unchanged:
    in particular the named sequencer is NOT punished. -/
theorem fraud_refused_if_finalized_above_inv (s : St) (hc : ChainAll s) (hf : FinInv s) (au : Bool)
    (ra h rev j : Nat) (pun rw : Option Addr) (r : Rollapp) (x : SInfo) (hg : getRa s ra = some r)
    (hx : r.states[j]? = some x) (hxf : x.finalized = true) (hh : h ≤ x.last) :
    ∃ e, fraud s au ra h rev pun rw = .error e ∧ step s (.fraud au ra h rev pun rw) = (s, some e) := by
  cases hfr : fraud s au ra h rev pun rw with
  | error e => exact ⟨e, rfl, by simp [step, apply, hfr]⟩
  | ok s' =>
    exfalso
    obtain ⟨_, hh0, r0, s1, hg0, _, hp, nm, hg1, hfk⟩ := fraud_mid hfr
    cases hg.symm.trans hg0
    have hc1 : ChainAll s1 := hc.ras_eq nm.ras
    obtain ⟨e', he'⟩ := C03.fork_refused_if_finalized_above s1 ra (h - 1) j r x (hc1.get hg1)
      (finPrefix_of_finInv hf (getRa_mem hg)) hg1 hx hxf (by omega)
    rw [hfk] at he'; cases he'

/-- **A fraud proposal at or below any finalized height is refused, every reachable state**. -/
theorem fraud_refused_if_finalized_above_run (p : Params) (ops : List Op) (au : Bool) (ra h rev j : Nat)
    (pun rw : Option Addr) (r : Rollapp) (x : SInfo) (hg : getRa (run p ops) ra = some r)
    (hx : r.states[j]? = some x) (hxf : x.finalized = true) (hh : h ≤ x.last) :
    ∃ e, fraud (run p ops) au ra h rev pun rw = .error e ∧
      step (run p ops) (.fraud au ra h rev pun rw) = (run p ops, some e) :=
  fraud_refused_if_finalized_above_inv _ (run_chain p ops) (Core.run_fin p ops) au ra h rev j pun rw r x hg hx hxf hh

/-- **An accepted fraud proposal touches no finalized state** (whole op, any state with the chain and
    finalization invariants; `r` is the rollapp's record BEFORE the op — the punishment in between does
    not change it): every removed state was unfinalized; every finalized state lies entirely below
    the fraud height `h`, and is still recorded at the same position, literally unchanged except for
    the cleared `NextProposer` when it is the kept latest state. -/
theorem fraud_touches_no_finalized_state_inv (s s' : St) (hc : ChainAll s) (hf : FinInv s) (au : Bool)
    (ra h rev : Nat) (pun rw : Option Addr) (e : fraud s au ra h rev pun rw = .ok s') :
    ∃ r keep kst r', getRa s ra = some r ∧ revertPlan r (h % 2 ^ 64) = .ok (keep, kst) ∧
      getRa s' ra = some r' ∧ r'.states = r.states.take (keep - 1) ++ [kst] ∧
      (∀ (j : Nat) (x : SInfo), keep ≤ j → r.states[j]? = some x → x.finalized = false) ∧
      (∀ (j : Nat) (x : SInfo), r.states[j]? = some x → x.finalized = true →
        x.last ≤ kst.last ∧ x.last < h ∧ j < keep ∧
        r'.states[j]? = some (if j + 1 = keep then { x with next := NextP.empty } else x)) := by
  obtain ⟨_, hh0, r, s1, hg, _, hp, nm, hg1, hfk⟩ := fraud_mid e
  have hc1 : ChainAll s1 := hc.ras_eq nm.ras
  obtain ⟨r0, keep, kst, r', h1, h2, h3, h4, h5, h6⟩ :=
    fork_touches_no_finalized_state_inv s1 s' hc1 (nm.finInv hf) ra (h - 1) hfk
  cases hg1.symm.trans h1
  have hh1 : h - 1 + 1 = h := by omega
  rw [hh1] at h2
  refine ⟨r, keep, kst, r', hg, h2, h3, h4, h5, ?_⟩
  intro j x hx hxf
  obtain ⟨a1, a2, a3, a4⟩ := h6 j x hx hxf
  exact ⟨a1, by omega, a3, a4⟩

/-- **An accepted fraud proposal touches no finalized state, every reachable state**. -/
theorem fraud_touches_no_finalized_state_run (p : Params) (ops : List Op) (s' : St) (au : Bool)
    (ra h rev : Nat) (pun rw : Option Addr) (e : fraud (run p ops) au ra h rev pun rw = .ok s') :
    ∃ r keep kst r', getRa (run p ops) ra = some r ∧ revertPlan r (h % 2 ^ 64) = .ok (keep, kst) ∧
      getRa s' ra = some r' ∧ r'.states = r.states.take (keep - 1) ++ [kst] ∧
      (∀ (j : Nat) (x : SInfo), keep ≤ j → r.states[j]? = some x → x.finalized = false) ∧
      (∀ (j : Nat) (x : SInfo), r.states[j]? = some x → x.finalized = true →
        x.last ≤ kst.last ∧ x.last < h ∧ j < keep ∧
        r'.states[j]? = some (if j + 1 = keep then { x with next := NextP.empty } else x)) :=
  fraud_touches_no_finalized_state_inv _ s' (run_chain p ops) (Core.run_fin p ops) au ra h rev pun rw e

/-- **A fraud proposal that punishes a sequencer of ANOTHER rollapp** (`a` is a sequencer of
    `q.rollapp ≠ ra`; the Go handler `SubmitRollappFraud` passes `PunishSequencerAddress` to
    `PunishSequencer` without checking that it is a sequencer of `RollappId`, and so does the model).
    For any state satisfying the fork invariants (every reachable state, `fraud_other_rollapps_run`) an
    accepted such proposal
    * leaves the record of every rollapp other than the forked one literally unchanged — states,
      revisions, latest finalized index, liveness fields, owner, PROPOSER and SUCCESSOR;
    * leaves the finalization-queue entries of every other rollapp unchanged (same entries, same order);
    * keeps every liability `(sequencer, height)` of every sequencer of another rollapp, adds none;
    * changes of the punished sequencer's record ONLY `tokens` (to 0): it keeps `bonded`, `optedIn`,
      `rollapp`, `dishonor`, `notice` — so a punished PROPOSER of another rollapp stays bonded and
      stays that rollapp's proposer, with a bond of 0 (`fraud_punished_foreign_proposer_stays`);
    * leaves the record of every other sequencer of another rollapp literally unchanged, and the
      `tokens` of every sequencer other than the punished one unchanged;
    * keeps every liveness event of every other rollapp and adds none; keeps every notice-queue
      entry of sequencers of other rollapps and adds none;
    * leaves the hub clock, the parameters and the obsolete-version list unchanged;
    * moves money exactly as `Punished` says: the whole bond leaves the module account, at most half
      of it (truncated) goes to the rewardee, the rest is burned; no other balance changes. -/
theorem fraud_other_rollapps (s s' : St) (au : Bool) (ra h rev : Nat) (a : Addr) (rw : Option Addr) (q : Seq)
    (hi : Inv s) (e : fraud s au ra h rev (some a) rw = .ok s') (hq : getSeq s a = some q)
    (hne : q.rollapp ≠ ra) :
    (∀ id, id ≠ ra → getRa s' id = getRa s id) ∧
    (∀ ra', ra' ≠ ra → s'.queue.filter (·.ra == ra') = s.queue.filter (·.ra == ra')) ∧
    (∀ pr ∈ s.seqH, ∀ q0, getSeq s pr.1 = some q0 → q0.rollapp ≠ ra → pr ∈ s'.seqH) ∧
    s'.seqH.Sublist s.seqH ∧
    getSeq s' a = some { q with tokens := 0 } ∧
    (∀ b q0, b ≠ a → getSeq s b = some q0 → q0.rollapp ≠ ra → getSeq s' b = some q0) ∧
    (∀ b, b ≠ a → (getSeq s' b).map (·.tokens) = (getSeq s b).map (·.tokens)) ∧
    (∀ ev ∈ s.lev, ev.2 ≠ ra → ev ∈ s'.lev) ∧ (∀ ev ∈ s'.lev, ev ∈ s.lev) ∧
    (∀ x ∈ s.nq, ∀ q0, getSeq s x.2 = some q0 → q0.rollapp ≠ ra → x ∈ s'.nq) ∧ (∀ x ∈ s'.nq, x ∈ s.nq) ∧
    s'.h = s.h ∧ s'.t = s.t ∧ s'.p = s.p ∧ s'.obsolete = s.obsolete ∧
    Punished s s' a rw (punishShare rw) := by
  obtain ⟨_, _, r, s1, hg, _, hp, nm, hg1, hfk⟩ := fraud_mid e
  have hp : punish s a rw = .ok s1 := hp
  have hi1 : Inv s1 := punish_inv hi hp
  obtain ⟨_, ⟨q', hq', hq1⟩, hoth⟩ := punish_exact hp
  cases hq.symm.trans hq'
  obtain ⟨r0, keep, kst, hg0, _, _, _, hplan, _⟩ := hardFork_ok hfk
  cases hg1.symm.trans hg0
  obtain ⟨f_ra, _, _, _, f_lev, f_nqsub, f_nqkeep, f_h, f_t, f_p, _, _, _, f_obs⟩ :=
    C03.fork_frame s1 s' ra (h - 1) keep r kst hg1 hplan hfk
  have fo := C03.fork_other_rollapps_untouched s1 s' ra (h - 1) keep r kst hi1 hg1 hplan hfk
  have fq := (C03.fork_queue_pruned s1 s' ra (h - 1) keep r kst hg1 hplan hfk).2.2.2.1
  have fl := (C03.fork_liability_pruned s1 s' ra (h - 1) keep r kst hg1 hplan hfk).2.2.2
  rw [nm.queue] at fq
  rw [nm.seqH] at fl
  rw [nm.lev] at f_lev
  -- every sequencer record keeps its rollapp across the punishment
  have hsame : ∀ b q0, getSeq s b = some q0 → ∃ q1, getSeq s1 b = some q1 ∧ q1.rollapp = q0.rollapp := by
    intro b q0 hb
    by_cases hba : b = a
    · subst hba
      cases hq.symm.trans hb
      exact ⟨_, hq1, rfl⟩
    · exact ⟨q0, (hoth b hba).trans hb, rfl⟩
  have hpun : Punished s s' a rw (punishShare rw) := by
    rcases fraud_cases e with ⟨hn, _⟩ | ⟨a', ha', hP⟩
    · cases hn
    · cases ha'; exact hP
  refine ⟨fun id hid => (f_ra id hid).trans (getRa_congr nm.ras id), fq, ?_, fl, fo.1 a _ hq1 hne,
    fun b q0 hba hb hbr => fo.1 b q0 ((hoth b hba).trans hb) hbr, hpun.others, ?_, ?_, ?_, ?_,
    f_h.trans nm.h, f_t.trans nm.t, f_p.trans nm.p, f_obs.trans nm.obsolete, hpun⟩
  · intro pr hpr q0 hq0 hq0r
    obtain ⟨q1, hq1', hq1r⟩ := hsame pr.1 q0 hq0
    exact fo.2 pr (by rw [nm.seqH]; exact hpr) q1 hq1' (by rw [hq1r]; exact hq0r)
  · intro ev hev hevr
    rw [f_lev]
    exact List.mem_filter.2 ⟨hev, by simp [hevr]⟩
  · intro ev hev
    rw [f_lev] at hev
    exact (List.mem_filter.1 hev).1
  · intro x hx q0 hq0 hq0r
    refine f_nqkeep x (by rw [nm.nq]; exact hx) fun hc => ?_
    obtain ⟨q1, hq1', hq1r⟩ := hsame x.2 q0 hq0
    obtain ⟨q2, hq2, hq2r⟩ := (hi1.j.prop ra r hg1).1 x.2 hc
    cases hq1'.symm.trans hq2
    exact hq0r (by rw [← hq1r, hq2r]; exact getRa_id hg1)
  · intro x hx
    have := f_nqsub x hx
    rwa [nm.nq] at this

/-- `fraud_other_rollapps` for every reachable state. -/
theorem fraud_other_rollapps_run (p : Params) (ops : List Op) (s' : St) (au : Bool) (ra h rev : Nat) (a : Addr)
    (rw : Option Addr) (q : Seq) (e : fraud (run p ops) au ra h rev (some a) rw = .ok s')
    (hq : getSeq (run p ops) a = some q) (hne : q.rollapp ≠ ra) :
    (∀ id, id ≠ ra → getRa s' id = getRa (run p ops) id) ∧
    (∀ ra', ra' ≠ ra → s'.queue.filter (·.ra == ra') = (run p ops).queue.filter (·.ra == ra')) ∧
    (∀ pr ∈ (run p ops).seqH, ∀ q0, getSeq (run p ops) pr.1 = some q0 → q0.rollapp ≠ ra → pr ∈ s'.seqH) ∧
    s'.seqH.Sublist (run p ops).seqH ∧
    getSeq s' a = some { q with tokens := 0 } ∧
    (∀ b q0, b ≠ a → getSeq (run p ops) b = some q0 → q0.rollapp ≠ ra → getSeq s' b = some q0) ∧
    (∀ b, b ≠ a → (getSeq s' b).map (·.tokens) = (getSeq (run p ops) b).map (·.tokens)) ∧
    (∀ ev ∈ (run p ops).lev, ev.2 ≠ ra → ev ∈ s'.lev) ∧ (∀ ev ∈ s'.lev, ev ∈ (run p ops).lev) ∧
    (∀ x ∈ (run p ops).nq, ∀ q0, getSeq (run p ops) x.2 = some q0 → q0.rollapp ≠ ra → x ∈ s'.nq) ∧
    (∀ x ∈ s'.nq, x ∈ (run p ops).nq) ∧
    s'.h = (run p ops).h ∧ s'.t = (run p ops).t ∧ s'.p = (run p ops).p ∧ s'.obsolete = (run p ops).obsolete ∧
    Punished (run p ops) s' a rw (punishShare rw) :=
  fraud_other_rollapps _ s' au ra h rev a rw q (Fork.run_inv p ops) e hq hne

/-- **A punished proposer of another rollapp stays proposer, with a bond of 0.**  If the sequencer a
    fraud proposal against rollapp `ra` punishes is the PROPOSER of another rollapp `id1`, then after
    the accepted proposal rollapp `id1`'s record is literally the same — the punished address is still
    its proposer — and the sequencer's record differs only in `tokens = 0` (same `bonded`, `optedIn`,
    `notice`): nothing removes it from the role, elects a replacement or forks `id1`.  (The same holds
    for a punished successor.)  This is what the Go code does: `PunishSequencer` slashes the whole bond
    and writes the record back; unlike `TryKickProposer` / `OnHardFork` it does not touch the roles. -/
theorem fraud_punished_foreign_proposer_stays (s s' : St) (au : Bool) (ra h rev : Nat) (a : Addr)
    (rw : Option Addr) (hi : Inv s) (e : fraud s au ra h rev (some a) rw = .ok s') (id1 : Nat) (r1 : Rollapp)
    (hg1 : getRa s id1 = some r1) (hid : id1 ≠ ra) (hp : r1.proposer = some a ∨ r1.successor = some a) :
    ∃ q, getSeq s a = some q ∧ q.rollapp = id1 ∧ getRa s' id1 = some r1 ∧
      getSeq s' a = some { q with tokens := 0 } := by
  have hpq := hi.j.prop id1 r1 hg1
  obtain ⟨q, hq, hqr⟩ : SeqOf s a r1.id := by
    rcases hp with hp | hp
    · exact hpq.1 a hp
    · exact hpq.2 a hp
  have hqr' : q.rollapp = id1 := hqr.trans (getRa_id hg1)
  have h := fraud_other_rollapps s s' au ra h rev a rw q hi e hq (by rw [hqr']; exact hid)
  exact ⟨q, hq, hqr', by rw [h.1 id1 hid]; exact hg1, h.2.2.2.2.1⟩

/-- `fraud_punished_foreign_proposer_stays` for every reachable state -/
theorem fraud_punished_foreign_proposer_stays_run (p : Params) (ops : List Op) (s' : St) (au : Bool)
    (ra h rev : Nat) (a : Addr) (rw : Option Addr) (e : fraud (run p ops) au ra h rev (some a) rw = .ok s')
    (id1 : Nat) (r1 : Rollapp) (hg1 : getRa (run p ops) id1 = some r1) (hid : id1 ≠ ra)
    (hp : r1.proposer = some a ∨ r1.successor = some a) :
    ∃ q, getSeq (run p ops) a = some q ∧ q.rollapp = id1 ∧ getRa s' id1 = some r1 ∧
      getSeq s' a = some { q with tokens := 0 } :=
  fraud_punished_foreign_proposer_stays _ s' au ra h rev a rw (Fork.run_inv p ops) e id1 r1 hg1 hid hp

/-- **Fork of a rollapp without any recorded state: the exact error, per guard** (`hardFork` checks,
    in this order: rollapp known; genesis bridge done and not above the last valid height; `lv + 1`
    does not overflow uint64; the revert plan — which reports "no state").  So with `states = []`:
    `forkNotAllowed` when `tph = 0 ∨ lv < tph`; else `invalid` when `(lv + 1) % 2 ^ 64 = 0`; else
    `noState`.  (Remark, not a theorem of this file: in histories of M-Core a rollapp without states
    has `tph = 0` — the `bridge` op needs a latest height and a fork never empties the state list — so
    there the first case applies, see the `decide` example at the end; the other two cases pin the
    guard order on any record.) -/
theorem fork_refused_no_state_named (s : St) (ra lv : Nat) (r : Rollapp) (hg : getRa s ra = some r)
    (hs : r.states = []) :
    (r.tph = 0 ∨ lv < r.tph → hardFork s ra lv = .error .forkNotAllowed) ∧
    (0 < r.tph → r.tph ≤ lv → (lv + 1) % 2 ^ 64 = 0 → hardFork s ra lv = .error .invalid) ∧
    (0 < r.tph → r.tph ≤ lv → (lv + 1) % 2 ^ 64 ≠ 0 → hardFork s ra lv = .error .noState) := by
  refine ⟨C03.fork_refused_before_genesis_bridge s ra lv r hg, ?_, ?_⟩
  · intro h1 h2 h3
    rw [hardFork_of_get hg, if_neg (by omega), if_pos h3]
  · intro h1 h2 h3
    rw [hardFork_of_get hg, if_neg (by omega), if_neg h3, revertPlan_noState hs]

/-- the same as one equation -/
theorem fork_refused_no_state_error (s : St) (ra lv : Nat) (r : Rollapp) (hg : getRa s ra = some r)
    (hs : r.states = []) :
    hardFork s ra lv = .error (if r.tph = 0 ∨ lv < r.tph then Err.forkNotAllowed
      else if (lv + 1) % 2 ^ 64 = 0 then Err.invalid else Err.noState) := by
  have h := fork_refused_no_state_named s ra lv r hg hs
  by_cases h1 : r.tph = 0 ∨ lv < r.tph
  · rw [if_pos h1]; exact h.1 h1
  · rw [if_neg h1]
    have h2 : 0 < r.tph ∧ r.tph ≤ lv := by omega
    by_cases h3 : (lv + 1) % 2 ^ 64 = 0
    · rw [if_pos h3]; exact h.2.1 h2.1 h2.2 h3
    · rw [if_neg h3]; exact h.2.2 h2.1 h2.2 h3

/-- a fraud proposal against a rollapp without states: which error the op reports, per guard of the
    handler (authority; `h = 0`; rollapp known; revision; punishment; then the fork's own guards) -/
theorem fraud_refused_no_state_named (s : St) (ra h rev : Nat) (rw : Option Addr) (r : Rollapp)
    (hg : getRa s ra = some r) (hs : r.states = []) (hh : h ≠ 0) (hrev : revForHeight r h = rev) :
    fraud s true ra h rev none rw = .error (if r.tph = 0 ∨ h - 1 < r.tph then Err.forkNotAllowed
      else if h % 2 ^ 64 = 0 then Err.invalid else Err.noState) := by
  have := fork_refused_no_state_error s ra (h - 1) r hg hs
  rw [show h - 1 + 1 = h by omega] at this
  unfold fraud
  simp only [Bool.not_true, Bool.false_eq_true, if_false, hh, hg]
  rw [if_neg (by simp [hrev])]
  exact this

open DymVerif.C03 in
/-- rollapp 0 (sequencers 1 = proposer, 2) is forked at height 5 by a proposal that punishes
    sequencer 3 — the PROPOSER of rollapp 1 — with sequencer 2 as rewardee -/
def exForeign : St := run exParams (exPre ++ [.fraud true 0 5 0 (some 3) (some 2)])

def exSeqs (s : St) : List (Nat × Nat × Bool × Bool × Nat) :=
  s.seqs.map fun q => (q.addr, q.rollapp, q.bonded, q.optedIn, q.tokens)

open DymVerif.C03 in
-- before: three bonded opted-in sequencers with 10 tokens each; 3 is the proposer of rollapp 1
example : exSeqs (run exParams exPre) = [(1, 0, true, true, 10), (2, 0, true, true, 10), (3, 1, true, true, 10)] ∧
    exProposers (run exParams exPre) = [some 1, some 3] ∧ (run exParams exPre).modBal = 30 ∧
    (run exParams exPre).burned = 0 ∧ getBal (run exParams exPre).bal 2 = 90 := by decide +kernel
open DymVerif.C03 in
-- after: the proposal is accepted; rollapp 0 is forked (state 2 truncated, proposer 1 removed and
-- unbonded, 1 and 2 opted out); rollapp 1 is untouched — states, revisions, queue entry, liabilities —
-- and sequencer 3 is STILL its proposer, still bonded and opted in, with 0 tokens; 5 went to the
-- rewardee, 5 were burned
example : exStates exForeign = [[(1, 3, 1), (4, 1, 1)], [(1, 2, 3)]] ∧
    exRevs exForeign = [[(0, 0), (1, 5)], [(0, 0)]] ∧ exProposers exForeign = [none, some 3] ∧
    exQueue exForeign = [(1, 0, [1, 2]), (1, 1, [1])] ∧
    exForeign.seqH = [(1, 1), (1, 2), (1, 3), (1, 4), (3, 1), (3, 2)] ∧
    exSeqs exForeign = [(1, 0, false, false, 10), (2, 0, true, false, 10), (3, 1, true, true, 0)] ∧
    exForeign.modBal = 20 ∧ exForeign.burned = 5 ∧ getBal exForeign.bal 2 = 95 := by decide +kernel
open DymVerif.C03 in
-- the punished proposer of rollapp 1, holding no bond, still posts the next update of rollapp 1
example : (step exForeign (exUpd 1 3 3 1 0)).2 = none := by decide +kernel
open DymVerif.C03 in
-- after finalization of both states of rollapp 0 a proposal at height 6 (inside the
-- finalized state 4–6) is refused although it names a sequencer to punish — nobody is punished
example : (step exFin (.fraud true 0 6 0 (some 3) none)).2 = some .finalizedHeight ∧
    (step exFin (.fraud true 0 6 0 (some 3) none)).1.seqs = exFin.seqs := by decide +kernel
open DymVerif.C03 in
-- rollapp without states: no genesis bridge, so `forkNotAllowed`
example : (step (run exParams [.createRollapp 0 9 10]) (.fraud true 0 3 0 none none)).2 = some .forkNotAllowed := by decide +kernel
-- the other two guard outcomes, on a hand-made record (states = [], tph = 1)
def errOf (x : M St) : Option Err := match x with | .error e => some e | .ok _ => none
def exEmpty (tph : Nat) : St := { init C03.exParams with ras := [{ newRollapp 0 9 10 with tph := tph }] }
example : errOf (hardFork (exEmpty 1) 0 4) = some .noState ∧
    errOf (hardFork (exEmpty 1) 0 (2 ^ 64 - 1)) = some .invalid ∧
    errOf (hardFork (exEmpty 5) 0 4) = some .forkNotAllowed := by decide +kernel

end DymVerif.C03X
