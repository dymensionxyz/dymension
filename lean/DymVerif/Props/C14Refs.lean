/-
  Props/C14Refs — C14 with the lock-reference indexes of x/lockup as STATE (Model/LockupRefs) and
  with blocked bank recipients.  The property theorems, the predicate `Signed` they quantify over, and
  the concrete chains of the examples (`bMod`, `rcBig`, the hand-written genesis `rsHand`).  Every
  statement is for all parameter values, all initial balances, every set `B` of blocked recipients (module accounts) and all histories of
  messages, blocks, restarts (ExportGenesis → InitGenesis → InitializeAllLocks → setLockAndAddLockRefs)
  and parameter changes whose messages are signed by accounts that are not blocked (`SignerOk`: no key
  signs for a module account; the correspondence run tries every way a user has to make a module
  account own a lock and records the refusals).
-/
import DymVerif.Props.C14Chain
import DymVerif.Lemmas.LockupRefsEnd
namespace DymVerif.C14
open DymVerif DymVerif.Lockup DymVerif.Genesis

/-- all messages of a history are signed by accounts the bank does not block -/
def Signed (B : Actor → Bool) (ops : List COp) : Prop := ∀ op ∈ ops, SignerOk B op

/-! ## every reachable state -/

theorem reachable_rcinv (B : Actor → Bool) (p : Params) (bal : Actor → Denom → Nat) (now height : Nat)
    (ops : List COp) (hs : Signed B ops) : RCInv B (rcrun B (rcinit p bal now height) ops) :=
  (rcrun_sim ops (rcinit_rcinv B p bal now height) hs).2

/-- after any history (restarts included) a reference `(queue, family, account,
    denom, duration-or-time key, lock id)` is in the store iff it is one of the references a lock of
    the lock table must have: the four duration references in the not-unlocking queue for a lock that
    is not unlocking, all eight (duration and end time) in the unlocking queue for one that is -/
theorem refs_consistent (B : Actor → Bool) (p : Params) (bal : Actor → Denom → Nat) (now height : Nat)
    (ops : List COp) (hs : Signed B ops) (r : RefK) :
    (r, ()) ∈ (rcrun B (rcinit p bal now height) ops).refs ↔
      ∃ l ∈ (rcrun B (rcinit p bal now height) ops).c.s.locks, r ∈ lockRefs l := by
  rw [(reachable_rcinv B p bal now height ops hs).refs.mem (r, ())]
  exact mem_refsOf

theorem refs_sorted (B : Actor → Bool) (p : Params) (bal : Actor → Denom → Nat) (now height : Nat)
    (ops : List COp) (hs : Signed B ops) : Sorted ltRef (rcrun B (rcinit p bal now height) ops).refs :=
  (reachable_rcinv B p bal now height ops hs).refs.sorted

/-- `refs_consistent` as an equality: the store is the one a rebuild from the lock table gives -/
theorem refs_are_rebuilt_image (B : Actor → Bool) (p : Params) (bal : Actor → Denom → Nat) (now height : Nat)
    (ops : List COp) (hs : Signed B ops) :
    (refsOf (rcrun B (rcinit p bal now height) ops).c.s.locks).foldl (fun s r => kvSet ltRef r () s) []
      = (rcrun B (rcinit p bal now height) ops).refs := by
  have h := (reachable_rcinv B p bal now height ops hs).refs
  apply setRebuild_eq soRef (kf := fun r : RefK => r) h.sorted
  intro e
  rw [h.mem e]
  constructor
  · intro he; exact ⟨e.1, he, rfl⟩
  · rintro ⟨x, hx, rfl⟩; exact hx

/-- **the reference-level machine is M-Lockup**: same lock table, balances, accumulation store,
    parameters after any history, so every theorem of Props/C14 and Props/C14Chain holds of it -/
theorem refs_machine_is_lockup (B : Actor → Bool) (p : Params) (bal : Actor → Denom → Nat) (now height : Nat)
    (ops : List COp) (hs : Signed B ops) :
    (rcrun B (rcinit p bal now height) ops).c = crun (cinit p bal now height) ops :=
  (rcrun_sim ops (rcinit_rcinv B p bal now height) hs).1

/-- **no reference fault, ever**: in a reachable state no operation meets an existing reference
    (`addLockRefByKey`'s error), a reference whose lock is gone (`getLocksFromIterator`'s panic) or a
    refused payout; it answers what M-Lockup answers -/
theorem no_reference_fault (B : Actor → Bool) (p : Params) (bal : Actor → Denom → Nat) (now height : Nat)
    (ops : List COp) (hs : Signed B ops) (op : COp) (ho : SignerOk B op) :
    (rcstep B (rcrun B (rcinit p bal now height) ops) op).2 =
      .out (cstep (rcrun B (rcinit p bal now height) ops).c op).2 :=
  (rcstep_sim (reachable_rcinv B p bal now height ops hs) op ho).2.1

/-- a restart rebuilds the reference store of the lock table it imports, whatever the history -/
theorem restart_never_clashes (B : Actor → Bool) (p : Params) (bal : Actor → Denom → Nat) (now height : Nat)
    (ops : List COp) (hs : Signed B ops) :
    (restartR (rcrun B (rcinit p bal now height) ops)).2 = .out (.ok 0) ∧
    RCInv B (restartR (rcrun B (rcinit p bal now height) ops)).1 :=
  ⟨(restartR_good (reachable_rcinv B p bal now height ops hs)).2.1,
   (restartR_good (reachable_rcinv B p bal now height ops hs)).2.2⟩

/-! ## the index lookups are the list lookups -/

/-- **`HasLock` / `AddToExistingLock`** (walk of the account-denom-duration references of the
    not-unlocking queue, `GetLockByID` of every id) = the locks satisfying `sameLock`, in id order -/
theorem hasLock_by_refs (B : Actor → Bool) (p : Params) (bal : Actor → Denom → Nat) (now height : Nat)
    (ops : List COp) (hs : Signed B ops) (a : Actor) (d : Denom) (dur : Nat) :
    accountLockedDurationNotUnlockingOnly
        ⟨(rcrun B (rcinit p bal now height) ops).c.s, (rcrun B (rcinit p bal now height) ops).refs⟩ a d dur
      = some ((rcrun B (rcinit p bal now height) ops).c.s.locks.filter (sameLock a d dur)) :=
  sameLock_lookup (reachable_rcinv B p bal now height ops hs) a d dur

/-- **the EndBlocker's iterator** (`LockIteratorBeforeTime(now)`: end-time references of the unlocking
    queue with time key <= now) yields the id of a lock iff the lock is `matured` -/
theorem matured_by_refs (B : Actor → Bool) (p : Params) (bal : Actor → Denom → Nat) (now height : Nat)
    (ops : List COp) (hs : Signed B ops) (l : Lockup.Lock)
    (hl : l ∈ (rcrun B (rcinit p bal now height) ops).c.s.locks) :
    (maturedWalk (rcrun B (rcinit p bal now height) ops).refs (rcrun B (rcinit p bal now height) ops).c.s.now).contains l.id
      = matured (rcrun B (rcinit p bal now height) ops).c.s.now l :=
  matured_lookup (reachable_rcinv B p bal now height ops hs) hl

/-- every walk of the store yields exactly the ids of the locks that have a reference in its range,
    and `getLocksFromIterator` finds each of them (account queries, export walk, …) -/
theorem every_walk_finds_its_locks (B : Actor → Bool) (p : Params) (bal : Actor → Denom → Nat) (now height : Nat)
    (ops : List COp) (hs : Signed B ops) (q : RefK → Bool) :
    (∀ id, id ∈ walk (rcrun B (rcinit p bal now height) ops).refs q ↔
        ∃ l ∈ (rcrun B (rcinit p bal now height) ops).c.s.locks, l.id = id ∧ ∃ r ∈ lockRefs l, q r = true) ∧
    ∃ ls, getLocksFromIterator (rcrun B (rcinit p bal now height) ops).c.s.locks
            (walk (rcrun B (rcinit p bal now height) ops).refs q) = some ls ∧
          ls.map (·.id) = walk (rcrun B (rcinit p bal now height) ops).refs q := by
  have h := reachable_rcinv B p bal now height ops hs
  refine ⟨fun id => mem_walk_iff h.refs q id, ?_⟩
  obtain ⟨ls, h1, h2, _⟩ := walk_total h.refs h.inv.nodup q
  exact ⟨ls, h1, h2⟩

/-! ## blocked recipients: the EndBlocker's only way to panic, and why it is closed -/

/-- **the EndBlocker panics iff a matured lock's owner is a blocked bank recipient** (from the
    auto-withdraw height on) — in any state whose store is consistent, whoever owns the locks -/
theorem endBlock_panics_iff_blocked_owner (B : Actor → Bool) {rs : RState} (h : RInv0 rs) :
    (endBlockR B rs).2 = .out .panic ↔
      minHeightAutoWithdraw ≤ rs.s.height ∧ ∃ l ∈ rs.s.locks, matured rs.s.now l = true ∧ B l.owner = true := by
  have hB0 : RInv (fun _ => false) rs := ⟨h.inv, h.sorted, h.refs, fun _ _ => rfl⟩
  unfold endBlockR
  by_cases hh : rs.s.height < minHeightAutoWithdraw
  · simp only [if_pos hh]
    exact ⟨fun e => (nomatch e), fun ⟨h1, _⟩ => absurd hh (Nat.not_lt.2 h1)⟩
  simp only [if_neg hh]
  obtain ⟨ls, hls, _⟩ := walk_total h.refs h.inv.nodup (qBefore (queueOf true) fTime 0 0 rs.s.now)
  have hls' : getLocksFromIterator rs.s.locks (maturedWalk rs.refs rs.s.now) = some ls := hls
  simp only [hls', maturedWalk_filter hB0]
  obtain ⟨hnd, hmat⟩ := maturedIds h.inv.nodup
  -- M-Lockup's loop succeeds (`endBlock_spec`), so only a blocked owner stops the reference-level loop
  have hbase : withdrawAll ((rs.s.locks.filter (matured rs.s.now)).map (·.id)) rs.s ≠ none := fun hc => by
    obtain ⟨s', he, _⟩ := endBlock_spec h.inv (Nat.le_of_not_lt hh)
    rw [endBlock, if_neg hh, hc] at he
    cases he
  rcases withdrawAllR_spec B _ rs ⟨h.inv.nodup, h.refs⟩ hnd with
    ⟨rs', h1, _, _, _, hB⟩ | ⟨h1, h2 | ⟨i, hi, l, hl, hli, hb⟩⟩
  · simp only [h1]
    refine ⟨fun e => (nomatch e), fun ⟨_, l, hl, hm, hb⟩ => ?_⟩
    rw [hB l.id ((hmat l hl).2 hm) l hl rfl] at hb; cases hb
  · exact absurd h2 hbase
  · simp only [h1]
    exact ⟨fun _ => ⟨Nat.le_of_not_lt hh, l, hl, (hmat l hl).1 (hli ▸ hi), hb⟩, fun _ => trivial⟩

/-- **lock owners are never blocked recipients**: a lock is created only by its owner's own
    MsgLockTokens or split off an own lock; a restart re-creates the exported locks with their owners -/
theorem lock_owners_never_blocked (B : Actor → Bool) (p : Params) (bal : Actor → Denom → Nat) (now height : Nat)
    (ops : List COp) (hs : Signed B ops) :
    ∀ l ∈ (rcrun B (rcinit p bal now height) ops).c.s.locks, B l.owner = false :=
  (reachable_rcinv B p bal now height ops hs).owners

/-- **the EndBlocker cannot panic** after any history, with blocked recipients in the bank -/
theorem endBlock_never_panics_with_blocked_recipients (B : Actor → Bool) (p : Params) (bal : Actor → Denom → Nat) (now height : Nat)
    (ops : List COp) (hs : Signed B ops) :
    (rcstep B (rcrun B (rcinit p bal now height) ops) (.msg .endBlock)).2 = .out (.ok 0) := by
  rw [no_reference_fault B p bal now height ops hs (.msg .endBlock) (fun _ h => by cases h)]
  simp only [cstep]
  rw [endBlock_never_panics _ (reachable_rcinv B p bal now height ops hs).inv]

/-! ## non-vacuity and counterexamples -/

/-- actor 9 is a blocked recipient (a module account) -/
def bMod : Actor → Bool := fun a => a == 9

def rcBig : RChain := ⟨cBig, []⟩

example : RCInv bMod rcBig := rcinit_rcinv _ _ _ _ _
example : Signed bMod opsBig := by
  intro op hop
  simp only [opsBig, List.mem_cons, List.mem_nil_iff, or_false] at hop
  rcases hop with rfl | rfl | rfl | rfl | rfl <;> simp [SignerOk, opSigner, bMod]

/-- three not-unlocking locks and the unlocking split part of one: 4 + 4 + 4 + 8 references, and the same
    store after the restart -/
example : ((rcrun bMod rcBig opsBig.dropLast).refs.length, (rcrun bMod rcBig opsBig).refs.length) = (20, 20) := by decide +kernel
example : ((rcrun bMod rcBig opsBig.dropLast).refs.map (·.1)) = ((rcrun bMod rcBig opsBig).refs.map (·.1)) := by decide +kernel
example : walk (rcrun bMod rcBig opsBig).refs (qAll (queueOf true) fTime 0 0) = [4] := by decide +kernel
example : walk (rcrun bMod rcBig opsBig).refs (qAll (queueOf false) fDur 0 0) = [1, 2, 3] := by decide +kernel
example : maturedWalk (rcrun bMod rcBig (opsBig ++ [.msg (.beginBlock 10)])).refs 10 = [4] := by decide +kernel
example : (rcstep bMod (rcrun bMod rcBig (opsBig ++ [.msg (.beginBlock 10)])) (.msg .endBlock)).2 = .out (.ok 0) := by decide +kernel

/-- **what holds for a genesis import**: `InitGenesis` does not look at the owners.  A hand-written
    genesis (not the export of a reachable state) with an unlocking lock owned by a blocked recipient
    imports without error, the store is consistent — and the EndBlocker panics when the lock is due -/
def rsHand : RState :=
  ⟨{ locks := [⟨1, 9, 10, some 10, 0, 50, some 0⟩], lastId := 1, acc := [⟨0, 10, 50⟩],
     bal := fun _ _ => 0, modBal := fun d => if d = 0 then 50 else 0, now := 10, height := 6 },
   (importRefs [⟨1, 9, 10, some 10, 0, 50, some 0⟩] []).getD []⟩

theorem handwritten_genesis_blocked_owner_counterexample :
    (importRefs [⟨1, 9, 10, some 10, 0, 50, some 0⟩] []).isSome = true ∧ rsHand.refs.length = 8 ∧
    (endBlockR bMod rsHand).2 = .out .panic ∧ (endBlockR (fun _ => false) rsHand).2 = .out (.ok 0) := by
  decide +kernel

end DymVerif.C14
