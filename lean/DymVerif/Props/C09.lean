/-
  Props/C09 — the canonical light client always agrees with the settled rollapp state.

  All theorems are about M-LC (`Model/LC.lean`, layered on M-Core).  `Reachable s` = `s` is reached from
  the empty state by an arbitrary op sequence.  Where the current code violates a clause, the full
  statement is kept in a comment, the `_partial` theorem states it under the extra hypothesis the code
  needs and the `_counterexample` is a concrete witness evaluated by `decide` (each is reproduced on
  the real code by the harness monitor named next to it).  One clause is in that position: the canonical channel.
-/
import DymVerif.Lemmas.LCTxGood
import DymVerif.Lemmas.LCNext
namespace DymVerif.Props.C09
open DymVerif DymVerif.LC

def Reachable (p : Core.Params) (s : St) : Prop := ∃ ops, s = run (init p) ops

/-- **designation_unique_stable** — in every reachable state the two designation maps are mutually
    inverse (so: at most one canonical client per rollapp, at most one rollapp per client) and point
    at an existing client whose chain id is the rollapp; an entry, once made, is never changed or
    removed by any later op sequence. -/
theorem designation_unique_stable (p : Core.Params) (ops : List Op) :
    MapsInv (run (init p) ops) ∧
    (∀ r c, lookup (run (init p) ops).r2c r = some c → ∀ ops', lookup (run (run (init p) ops) ops').r2c r = some c) ∧
    (∀ r c, lookup (run (init p) ops).c2r c = some r → ∀ ops', lookup (run (run (init p) ops) ops').c2r c = some r) :=
  ⟨run_mapsInv (init_mapsInv p) ops, fun r c h ops' => run_r2c_stable ops' _ r c h, fun r c h ops' => run_c2r_stable ops' _ r c h⟩

/-- a client serves at most one rollapp, a rollapp has at most one canonical client -/
theorem designation_injective {p : Core.Params} {s : St} (hs : Reachable p s) {r1 r2 c : Nat}
    (h1 : lookup s.r2c r1 = some c) (h2 : lookup s.r2c r2 = some c) : r1 = r2 := by
  obtain ⟨ops, rfl⟩ := hs
  have hm := run_mapsInv (init_mapsInv p) ops
  have a := hm.r2c_c2r r1 c h1
  have b := hm.r2c_c2r r2 c h2
  rw [a] at b; simpa using b

/-- the parameter check pins the candidate's parameters down completely (and refuses frozen clients) -/
theorem set_canonical_params {p : CParams} {frozen : Bool} (h : paramsCheck p frozen = .ok) : p = expParams ∧ frozen = false := by
  unfold paramsCheck at h
  obtain ⟨h1, h⟩ := bad_else h
  obtain ⟨h2, h⟩ := bad_else h
  obtain ⟨h3, h⟩ := bad_else h
  obtain ⟨h4, h⟩ := bad_else h
  obtain ⟨h5, h⟩ := bad_else h
  obtain ⟨h6, h⟩ := bad_else h
  cases hs : checkList p.specs expSpecs with
  | bad => rw [hs] at h; cases h
  | panic => rw [hs] at h; cases h
  | ok =>
    rw [hs] at h
    obtain ⟨h7, h⟩ := bad_else h
    have e5 := checkList_full _ _ hs (by simpa using h6)
    have e6 := checkList_full _ _ h (by simpa using h7)
    obtain ⟨a, b, c, d, sp, pa⟩ := p
    simp only [bne_iff_ne, ne_eq, Decidable.not_not] at h1 h2 h3 h4 e5 e6
    subst h1 h2 h3 h4 e5 e6
    exact ⟨rfl, by simpa using h5⟩

/-- **set_canonical_requires_agreement** — an accepted `MsgSetCanonicalClient` (in any reachable state): the
    client exists, is a client of a registered rollapp that has no canonical client yet, has exactly the
    expected parameters and is not frozen; *every* consensus state of the client at a height inside a state
    info of the rollapp agrees (root, timestamp) with the descriptor of that height; at least one consensus
    state overlaps a state info; and the only change is the new pair in both designation maps. -/
theorem set_canonical_requires_agreement {p : Core.Params} {s s' : St} {c : Nat} (hs : Reachable p s)
    (h : step s (.setCanonical c) = (s', .ok)) :
    ∃ cl r, getClient s c = some cl ∧ Core.getRa s.core cl.chain = some r ∧ lookup s.r2c cl.chain = none ∧
      cl.params = expParams ∧ cl.frozen = false ∧
      (∀ st ∈ r.states, ∀ ht cs, st.start ≤ ht → ht ≤ st.last → getCons cl ht = some cs →
          ∃ d, getDesc s cl.chain ht = some d ∧ Agrees cs d) ∧
      (∃ st ∈ r.states, ∃ ht ∈ heightsOf st, (getCons cl ht).isSome) ∧
      s' = { s with r2c := s.r2c ++ [(cl.chain, c)], c2r := s.c2r ++ [(c, cl.chain)] } := by
  obtain ⟨ops, rfl⟩ := hs
  obtain ⟨cl, r, hcl, hr, hnone, hp, hv, e⟩ := step_setCanonical_ok h
  obtain ⟨hpar, hfr⟩ := set_canonical_params hp
  have hch : Core.Chain r.states := run_coreChain ops (init p) (init_coreChain p) r (Core.getRa_mem hr)
  exact ⟨cl, r, hcl, hr, hnone, hpar, hfr, validLoop_all hch hv, validLoop_overlap hch hv, e⟩

/-- truncated or over-long parameter lists are refused -/
example : paramsCheck ⟨0, 0, 0, 0, [1], []⟩ false = .bad ∧ paramsCheck ⟨0, 0, 0, 0, [1, 2, 1], [1, 2]⟩ false = .bad ∧
    paramsCheck expParams false = .ok := by decide +kernel

def P0 : Core.Params where
  dispute := 6
  lsBlocks := 1000000
  lsInterval := 1000000
  lsMul := ⟨10000000000000000⟩
  lsAbs := 1
  dishonorSU := 1
  dishonorL := 1
  kickThr := 1000000
  noticePeriod := 2000000000

def bds (start n : Nat) : List Core.BD := (List.range n).map fun i => { height := start + i, hasTs := true, drs := 1, rootOk := true }
/-- an honest update of rollapp `ra` by `a`: root of height h is h+1, timestamp 10·h -/
def upd (ra a start n : Nat) : Op :=
  .core (.update { ra := ra, sender := a, start := start, num := n, rev := 0, last := false, bds := bds start n })
    ((List.range n).map fun i => (start + i + 1, some (10 * (start + i))))
def mkRa (ra a : Nat) : List Op := [.core (.createRollapp ra 99999 1) [], .core (.fund a 100000) [], .core (.createSeq a ra 3000 true) []]

/-- rollapp 0 (sequencer a0) with heights 1..3 posted, rollapp 1 (sequencer a3); an honest client of
    rollapp 0 with a consensus state at height 2, designated canonical -/
def opsA : List Op := mkRa 0 0 ++ mkRa 1 3 ++ [upd 0 0 1 3, .createClient 0 expParams 2 ⟨3, 20, 1⟩, .setCanonical 0]
def sA : St := run (init P0) opsA

example : lookup sA.r2c 0 = some 0 ∧ lookup sA.c2r 0 = some 0 := by decide +kernel

/-- **agreement_inv** — in every state reached by any run, for the canonical client c of r and every height with
    both a consensus state and a descriptor, roots are equal and timestamps are equal when the descriptor has
    one.  The one hypothesis (`SafeRun`) is not about the light-client code: at each designation the descriptor
    table of M-LC must be covered by the state infos of M-Core (M-LC keeps that table as its copy of the
    descriptors stored in the state infos; C01's gap-free chain). -/
theorem agreement_inv (p : Core.Params) (ops : List Op) (hs : SafeRun (init p) ops) : AgreeInv (run (init p) ops) :=
  (run_good ops (init p) (init_good p) hs).agree

/-- `SafeRun` is not vacuous: the history `opsA` (two rollapps, heights 1..3 of rollapp 0 posted, an honest client
    designated canonical) satisfies it — at the designation every descriptor M-LC holds lies in the state info [1..3] -/
theorem safeRun_witness : SafeRun (init P0) opsA :=
  ⟨trivial, trivial, trivial, trivial, trivial, trivial, trivial, trivial,
    fun cl _ => coveredB_sound (by decide +kernel) cl.chain, trivial⟩

/-- a header at height 3 of rollapp 0 with a wrong root, signed for the canonical client of rollapp 0 but naming
    sequencer a3 of rollapp 1 (which has no state at height 3) as proposer -/
def hdrForeign : Hdr := { h := 3, cons := ⟨99, 30, 1⟩, propSig := 3, propData := 3, rev := 0, sole := true }

/-- it is refused: the named proposer is not a sequencer of the client's rollapp -/
example : step sA (.updateClient 0 .top hdrForeign true) = (sA, .ante .foreignSequencer) := by
  refine Prod.ext ?_ ?_
  · rfl
  · decide +kernel
/-- the same header naming the rollapp's own sequencer is refused (root mismatch) -/
example : (step sA (.updateClient 0 .top { hdrForeign with propSig := 0, propData := 0 } true)).2 = .ante .root := by decide +kernel
/-- an honest header at height 3 is accepted -/
example : (step sA (.updateClient 0 .top { h := 3, cons := ⟨4, 30, 1⟩, propSig := 0, propData := 0, rev := 0, sole := true } true)).2 = .ok := by decide +kernel

/-- rollapp 0 with state infos [1..8], [9], [10]; a client whose consensus states are at 8 (bogus root 99)
    and 10 (agreeing) -/
def opsD : List Op := mkRa 0 0 ++ [upd 0 0 1 8, upd 0 0 9 1, upd 0 0 10 1,
  .createClient 0 expParams 8 ⟨99, 80, 1002⟩,
  .updateClient 0 .top { h := 10, cons := ⟨11, 100, 1⟩, propSig := 1001, propData := 1001, rev := 0, sole := true } true]
def sD : St := run (init P0) opsD

/-- the designation is refused because of the consensus state at height 8; the lowest height is 8 -/
example : (step sD (.setCanonical 0)).2 = .msg .root ∧ ((getClient sD 0).map firstConsHeight) = some 8 := by decide +kernel

theorem updateClient_top_ante {s : St} {c : Nat} {hd : Hdr} {ibc : Bool} {x : St} {e : LErr}
    (h : handleUpdate s c hd = (x, some e)) : updateClient s c .top hd ibc = (s, .ante e) := by
  simp [updateClient, h]

/-- **later_conflict_rejected** (header after state update) — on a canonical client, a header for a height whose
    descriptor it contradicts (root or timestamp) is refused by the ante handler and nothing changes, whoever
    it names as proposer; no hypothesis on the state. -/
theorem later_conflict_rejected_header {s : St} {c r : Nat} {hd : Hdr} {ibc : Bool} {d : Desc}
    (hc : lookup s.c2r c = some r) (hd' : getDesc s r hd.h = some d) (hconf : ¬ Agrees hd.cons d) :
    ∃ e, updateClient s c .top hd ibc = (s, .ante e) := by
  cases hh : handleUpdate s c hd with
  | mk x oe =>
    cases oe with
    | some e => exact ⟨e, updateClient_top_ante hh⟩
    | none =>
      exfalso
      have hchk := handleUpdate_ok hh
      obtain ⟨_, _, _, _, _, _, _, hag⟩ := hchk r hc
      exact hconf (hag d hd')

/-- **later_conflict_rejected** (state update after header) — a state update is either refused as a whole
    (nothing changes, optimistic consensus states included) or it leaves a state in which every consensus
    state of every canonical client agrees with every descriptor, the new ones included: a descriptor
    that contradicts an optimistically accepted header cannot get in. -/
theorem later_conflict_rejected_update {s : St} (hg : Good s) (m : Core.UpdMsg) (ds : List (Nat × Option Nat)) :
    ((coreOp s (.update m) ds).2 ≠ .ok → (coreOp s (.update m) ds).1 = s) ∧ AgreeInv (coreOp s (.update m) ds).1 :=
  ⟨coreOp_fail_state s _ ds, (clientsOk_agree_coreOp hg _ ds).2⟩

/-- the same for every reachable state (the hypothesis `Good s` discharged by `run_good`): after any run that satisfies
    the side condition of `agreement_inv`, whatever state update comes next -/
theorem later_conflict_rejected_update_reachable (p : Core.Params) (ops : List Op) (hs : SafeRun (init p) ops)
    (m : Core.UpdMsg) (ds : List (Nat × Option Nat)) :
    ((coreOp (run (init p) ops) (.update m) ds).2 ≠ .ok → (coreOp (run (init p) ops) (.update m) ds).1 = run (init p) ops) ∧
    AgreeInv (coreOp (run (init p) ops) (.update m) ds).1 :=
  later_conflict_rejected_update (run_good ops (init p) (init_good p) hs) m ds

/- The third field, the next-sequencer hash (`Agrees3`; why it is stated per comparison: Lemmas/LCNext). -/

/-- **set_canonical_requires_agreement** (three fields) — an accepted designation: every consensus state of the client
    inside a state info of the rollapp agrees with the descriptor in root, timestamp and next-sequencer hash -/
theorem set_canonical_requires_agreement_next {p : Core.Params} {s s' : St} {c : Nat} (hs : Reachable p s)
    (h : step s (.setCanonical c) = (s', .ok)) :
    ∃ cl r, getClient s c = some cl ∧ Core.getRa s.core cl.chain = some r ∧
      ∀ st ∈ r.states, ∀ ht cs, st.start ≤ ht → ht ≤ st.last → getCons cl ht = some cs →
          ∃ d, getDesc s cl.chain ht = some d ∧ Agrees3 s st ht cs d := by
  obtain ⟨ops, rfl⟩ := hs
  obtain ⟨cl, r, hcl, hr, _, _, hv, _⟩ := step_setCanonical_ok h
  exact ⟨cl, r, hcl, hr, validLoop_all_next (run_coreChain ops (init p) (init_coreChain p) r (Core.getRa_mem hr)) hv⟩

/-- **later_conflict_rejected** (header after state update, three fields) — a header that names a registered sequencer,
    for a height a state info `st` of that sequencer's rollapp covers, and that differs from the descriptor of the
    height in root, timestamp or next-sequencer hash, is refused by the ante handler and nothing changes — on any
    client, canonical or not. -/
theorem later_conflict_rejected_header_next {s : St} {c : Nat} {hd : Hdr} {ibc : Bool} {q : Core.Seq} {ra : Core.Rollapp}
    {i : Nat} {st : Core.SInfo} {d : Desc}
    (hq : Core.getSeq s.core hd.propData = some q) (hr : Core.getRa s.core q.rollapp = some ra)
    (hi : Core.findByHeight ra hd.h = some i) (hst : ra.states[i - 1]? = some st)
    (hd' : getDesc s q.rollapp hd.h = some d) (hconf : ¬ Agrees3 s st hd.h hd.cons d) :
    ∃ e, updateClient s c .top hd ibc = (s, .ante e) := by
  cases hh : handleUpdate s c hd with
  | mk x oe =>
    cases oe with
    | some e => exact ⟨e, updateClient_top_ante hh⟩
    | none =>
      exfalso
      obtain ⟨st', d', hst', _, hd'', ha⟩ := handleUpdate_ok_next hh hq hr hi
      rw [hst] at hst'; cases hst'
      rw [hd'] at hd''; cases hd''
      exact hconf ha

/-- **later_conflict_rejected** (state update after header, three fields) — when the hook of an accepted state update
    (`AfterUpdateState`, ordinary path) lets the new state info `st` through, every consensus state of the canonical
    client at one of its heights agrees with the new descriptor in all three fields -/
theorem later_conflict_rejected_update_next {s s4 : St} {ra c : Nat} {st : Core.SInfo} {cl : Client}
    (h : validateNew s ra st c cl = (s4, none)) :
    ∀ ht cs, st.start ≤ ht → ht ≤ st.last → getCons cl ht = some cs → ∃ d, getDesc s ra ht = some d ∧ Agrees3 s st ht cs d := by
  obtain ⟨_, b, hb⟩ := validateNew_ok h
  intro ht cs h1 h2 hc
  exact validateStateInfo_agrees_next hb h1 h2 hc

/-- a header for the posted height 3 with the right root and timestamp but naming another next validator set is refused -/
example : (step sA (.updateClient 0 .top { h := 3, cons := ⟨4, 30, 2⟩, propSig := 0, propData := 0, rev := 0, sole := true } true)).2 = .ante .nextVal := by decide +kernel

/-- concrete: after an optimistic header at height 4 (root 5), a state update posting root 77 for height 4
    is refused with the root-mismatch error; the honest one is accepted -/
def sOpt : St := (step sA (.updateClient 0 .top { h := 4, cons := ⟨5, 40, 1⟩, propSig := 0, propData := 0, rev := 0, sole := true } true)).1
example : (step sOpt (.core (.update { ra := 0, sender := 0, start := 4, num := 1, rev := 0, last := false, bds := bds 4 1 }) [(77, some 40)])).2 = .msg .root := by decide +kernel
example : (step sOpt (upd 0 0 4 1)).2 = .ok := by decide +kernel


/-- **resolve_fork_next_validators** — the consensus state `ResolveHardFork` writes for the first height of the
    new revision carries the descriptor's root and timestamp and the validator-set hash of the sequencer the
    state info names for the next block. -/
theorem resolve_fork_next_validators {s s4 : St} {ra : Nat} {st : Core.SInfo} {cl : Client} (h : resolveFork s ra st cl = (s4, none)) :
    ∃ d q, getDesc s ra st.start = some d ∧ nextSeqFor s.core st st.start = some q ∧
      ∀ cl', getClient s4 cl.id = some cl' → getClient s cl.id = some cl →
        getCons cl' st.start = some ⟨d.root, d.ts.getD 0, valHash q⟩ := by
  obtain ⟨_, d, q, hd, hq, e⟩ := resolveFork_ok h
  refine ⟨d, q, hd, hq, ?_⟩
  intro cl' h1 h2
  subst e
  rw [getClient_setClient_self (cl := { cl with cons := insCons st.start ⟨d.root, d.ts.getD 0, valHash q⟩ cl.cons, latest := st.start, frozen := false }) h2] at h1
  cases h1
  rw [getCons_ins]; simp

/-- rollapp 0 with sequencers a0 (proposer), a1, a2; canonical client; fork at height 3; a1 and a2 opt in
    (a1 becomes proposer), a1 serves its notice; the first state update of the new revision is a1's last
    block (successor a2) -/
def opsC : List Op := mkRa 0 0 ++ [.core (.fund 1 100000) [], .core (.fund 2 100000) [], .core (.createSeq 1 0 2000 true) [],
  .core (.createSeq 2 0 1000 true) [], upd 0 0 1 3, .core (.bridge 0 1) [], .createClient 0 expParams 2 ⟨3, 20, 1⟩, .setCanonical 0,
  .core (.fraud true 0 3 0 none none) [], .core (.optIn 1 true) [], .core (.optIn 2 true) [], .core (.unbond 1) [],
  .core (.begin_ 3000000000) [], .core (.end_ []) [],
  .core (.update { ra := 0, sender := 1, start := 3, num := 1, rev := 1, last := true, bds := bds 3 1 }) [(4, some 30)]]
def sC : St := run (init P0) opsC

/-- the consensus state of height 3 names the successor a2, as the state info does; the client is unfrozen -/
example :
    ((getClient sC 0).bind fun cl => (getCons cl 3).map (·.nextVal)) = some (valHash 2) ∧
    ((Core.getRa sC.core 0).bind fun r => r.states.getLast?.map fun st => (st.creator, st.next, st.start, st.last)) = some (1, .addr 2, 3, 3) ∧
    ((getClient sC 0).map (·.frozen)) = some false := by decide +kernel

/-- **signer_rules** — a header the ante handler lets through on the canonical client of rollapp `r` has equal
    proposer fields, names a registered sequencer *of `r`* that is bonded, its validator set is that sequencer
    alone (so the sequencer is the signer), and it carries `r`'s latest revision. -/
theorem signer_rules {s : St} {c r : Nat} {hd : Hdr} {ibc : Bool} (hc : lookup s.c2r c = some r)
    (hacc : ∀ e, (updateClient s c .top hd ibc).2 ≠ .ante e) :
    hd.propSig = hd.propData ∧ hd.sole = true ∧ ∃ q ra, Core.getSeq s.core hd.propData = some q ∧ q.bonded = true ∧ q.rollapp = r ∧
      Core.getRa s.core r = some ra ∧ hd.rev = Core.latestRev ra := by
  cases hh : handleUpdate s c hd with
  | mk x oe =>
    cases oe with
    | some e => exact absurd (by rw [updateClient_top_ante hh]) (hacc e)
    | none =>
      have hchk := handleUpdate_ok hh
      obtain ⟨q, hq, hp, hb, hqr, hsole, ⟨ra, hra, hrev⟩, _⟩ := hchk r hc
      exact ⟨hp, hsole, q, ra, hq, hb, hqr, hra, hrev⟩

/-- non-vacuity of the refusals: unknown key, unbonded… -/
example : (step sA (.updateClient 0 .top { hdrForeign with propSig := 1000, propData := 1000 } true)).2 = .ante .nonSequencer := by decide +kernel
example : (step sA (.updateClient 0 .top { hdrForeign with propData := 0 } true)).2 = .ante .proposerMismatch := by decide +kernel
example : (step sA (.updateClient 0 .top { hdrForeign with propSig := 0, propData := 0, rev := 1 } true)).2 = .ante .revision := by decide +kernel

/-- **misbehaviour_rejected** — by every route (top level, through a client update, nested in a wrapper) evidence
    against a canonical client is refused and nothing changes. -/
theorem misbehaviour_rejected {s : St} {c r : Nat} (k : MKind) (ibc : Bool) (hc : lookup s.c2r c = some r) :
    (misbehaviour s c k ibc).1 = s ∧ (misbehaviour s c k ibc).2 ≠ .ok := by
  unfold misbehaviour
  cases getClient s c with
  | none => exact ⟨rfl, nofun⟩
  | some cl =>
    -- the client is canonical: the two top-level kinds are refused for that reason, the others whatever the client
    simp only [hc, Option.isSome_some, if_true]
    cases k <;> exact ⟨rfl, nofun⟩

example : (step sA (.misbehaviour 0 .submit true)).2 = .ante .misbehaviourDisabled ∧
    (step sA (.misbehaviour 0 .submitNested true)).2 = .ante .nestedDisabled := by decide +kernel
/-- clients that are not canonical can still be frozen by evidence -/
example : ((getClient (step sD (.misbehaviour 0 .submit true)).1 0).map (·.frozen)) = some true := by decide +kernel

/-- **nested_update_rejected** — an ibc `MsgUpdateClient` inside any wrapper (depth ≥ 1) is refused by the
    ante handler whatever it carries, and nothing changes; the hub-side checks cannot be bypassed by nesting. -/
theorem nested_update_rejected (s : St) (c : Nat) (hd : Hdr) (ibc : Bool) :
    updateClient s c .nested hd ibc = (s, .ante .nestedDisabled) ∧
    updateClient s c .storedProposal hd ibc = (s, .ante .nestedDisabled) := ⟨rfl, rfl⟩

/-- the same for evidence: inside authz.MsgExec or inside an x/group proposal that is only stored at submission
    (to be executed later by a vote, through the message router alone) the message is refused by the ante handler of
    the SUBMITTING transaction, whatever client it names (that the filter descends into proposals whatever their
    `Exec` field says is the regenerated fact `ante_filter_shape`, Lemmas/GenEqAnteLC) -/
theorem stored_proposal_rejected (s : St) (c : Nat) (hd : Hdr) (ibc : Bool) (cl : Client) (hc : getClient s c = some cl) :
    updateClient s c .storedProposal hd ibc = (s, .ante .nestedDisabled) ∧
    misbehaviour s c .submitStored ibc = (s, .ante .nestedDisabled) ∧
    misbehaviour s c .viaUpdateStored ibc = (s, .ante .nestedDisabled) := by
  refine ⟨rfl, ?_, ?_⟩ <;> simp [misbehaviour, hc]

/-- the wrapper message of x/lightclient cannot be executed at all as the code is (no signer annotation):
    refused without any change by both routes -/
theorem wrapped_update_unusable (s : St) (c : Nat) (hd : Hdr) (ibc : Bool) :
    (updateClient s c .wrapped hd ibc).1 = s ∧ (updateClient s c .nestedWrapped hd ibc).1 = s ∧
    (updateClient s c .wrapped hd ibc).2 ≠ .ok ∧ (updateClient s c .nestedWrapped hd ibc).2 ≠ .ok :=
  ⟨rfl, rfl, by simp [updateClient], by simp [updateClient]⟩

/-- **first_channel_only** — the canonical channel of a rollapp, once set, is never changed by any op
    sequence; it is set only by a channel-open-ack on a transfer channel over the rollapp's canonical
    client while the rollapp has none. -/
theorem first_channel_only (s : St) (r x : Nat) (h : lookup s.chanOf r = some x) (ops : List Op) :
    lookup (run s ops).chanOf r = some x :=
  run_preserves (P := fun s => lookup s.chanOf r = some x) (fun s op h => by
    obtain ⟨_, _, _, _, _, e⟩ := step_maps s op
    rw [e]; exact lookup_append_left h) ops s h

/-- by the two routes the decorator does not look at, `Rollapp.ChannelId` is never written -/
theorem chanAck_unseen_chanOf (s : St) (ch : Nat) (w : ChanRoute) (ibc : Bool) (hw : w ≠ .ack) :
    (chanAck s ch w ibc).1.chanOf = s.chanOf := by
  obtain ⟨_, _, e, rfl | ⟨_, _, hw', _⟩⟩ := chanAck_fst s ch w ibc
  · rw [e]
  · exact absurd hw' hw

theorem first_channel_only_set {s : St} {ch : Nat} {w : ChanRoute} {ibc : Bool} {r : Nat} (h0 : lookup s.chanOf r = none)
    (h1 : lookup (chanAck s ch w ibc).1.chanOf r = some ch) :
    w = .ack ∧ ∃ c, s.chans.find? (·.id == ch) = some c ∧ lookup s.c2r c.client = some r := by
  obtain ⟨_, _, e, rfl | ⟨c, r', hw, hc, hr, rfl⟩⟩ := chanAck_fst s ch w ibc <;> rw [e] at h1
  · rw [h0] at h1; cases h1
  · -- the pair the ante handler appended is the one found
    rcases lookup_append_single_some h1 with ho | ⟨_, rfl, _⟩
    · rw [h0] at ho; cases ho
    · exact ⟨hw, c, hc, hr⟩

/- Full clause: "only the first transfer channel *opened* over the canonical client becomes canonical":
     lookup (chanAck s ch w ibc).1.chanOf r = some ch (newly) → the channel ch is open afterwards
   FALSE of the current code: the ante handler writes the channel id before the handshake proof is checked,
   and the write is kept when the message fails. -/

/-- **first_channel_only_partial** — when the handshake proof verifies, the channel that became canonical is open -/
theorem first_channel_only_partial {s : St} {ch : Nat} {r : Nat} (h0 : lookup s.chanOf r = none)
    (h1 : lookup (chanAck s ch .ack true).1.chanOf r = some ch) :
    ∃ c ∈ (chanAck s ch .ack true).1.chans, c.id = ch ∧ c.isOpen = true := by
  obtain ⟨_, c, hc, hr⟩ := first_channel_only_set h0 h1
  have hcm := List.mem_of_find?_eq_some hc
  have hid : c.id = ch := by simpa using List.find?_some hc
  have hnone : (lookup s.chanOf r).isSome = false := by simp [h0]
  unfold chanAck
  simp only [hc, hr, hnone]
  refine ⟨{ c with isOpen := true }, ?_, hid, rfl⟩
  simp only [Bool.false_eq_true, if_false, if_true, List.mem_map]
  exact ⟨c, hcm, by simp [hid]⟩

/-- two transfer channels over the canonical client of rollapp 0 -/
def sCh : St := run sA [.chanInit 0, .chanInit 0]

/-- **first_channel_only_counterexample** (monitor `C09/first_channel_only/unopened-channel-became-canonical`): an ack
    with a bad proof for channel 0 makes it the canonical channel although it is not open; the ack with a
    good proof for channel 1 — the first channel that could actually open — is then refused. -/
theorem first_channel_only_counterexample :
    (step sCh (.chanAck 0 .ack false)).2 = .msg .ibc ∧
    lookup (step sCh (.chanAck 0 .ack false)).1.chanOf 0 = some 0 ∧
    ((step sCh (.chanAck 0 .ack false)).1.chans.map (·.isOpen)) = [false, false] ∧
    (step (step sCh (.chanAck 0 .ack false)).1 (.chanAck 1 .ack true)).2 = .ante .chanExists := by decide +kernel

/- Second way the full clause fails ("the FIRST transfer channel opened over the canonical client becomes the
   canonical channel"): the decorator only handles `MsgChannelOpenAck` at the top level of a transaction.  The same
   message inside `authz.MsgExec` (not in the nested-message filter either), and `MsgChannelOpenConfirm` (handshake
   started from the rollapp side), open the channel without `Rollapp.ChannelId` being written. -/

/-- **first_channel_only_seen_partial** — by the one route the decorator handles, with a verifying proof, the first
    channel acknowledged over the canonical client of a rollapp without canonical channel becomes canonical -/
theorem first_channel_only_seen_partial {s : St} {ch r : Nat} {c : Chan} (hc : s.chans.find? (·.id == ch) = some c)
    (hr : lookup s.c2r c.client = some r) (h0 : lookup s.chanOf r = none) :
    (chanAck s ch .ack true).2 = .ok ∧ lookup (chanAck s ch .ack true).1.chanOf r = some ch := by
  have hnone : (lookup s.chanOf r).isSome = false := by simp [h0]
  unfold chanAck
  simp only [hc, hr, hnone]
  refine ⟨by simp, ?_⟩
  simp only [Bool.false_eq_true, if_false, if_true]
  rw [lookup_append_single h0]
  simp

/-- what the code does on the two other routes: an existing channel opens (verifying proof), the canonical-channel
    record of every rollapp stays as it was -/
theorem unseen_route_opens_undesignated {s : St} {ch : Nat} {w : ChanRoute} {c : Chan} (hw : w ≠ .ack)
    (hc : s.chans.find? (·.id == ch) = some c) :
    (chanAck s ch w true).2 = .ok ∧ (chanAck s ch w true).1.chanOf = s.chanOf ∧
    ∃ c' ∈ (chanAck s ch w true).1.chans, c'.id = ch ∧ c'.isOpen = true := by
  have hcm := List.mem_of_find?_eq_some hc
  have hid : c.id = ch := by simpa using List.find?_some hc
  refine ⟨?_, chanAck_unseen_chanOf s ch w true hw, ?_⟩
  · unfold chanAck; cases w <;> simp_all
  · refine ⟨{ c with isOpen := true }, ?_, hid, rfl⟩
    unfold chanAck
    cases w with
    | ack => exact absurd rfl hw
    | nestedAck => simp only [hc, if_true, List.mem_map]; exact ⟨c, hcm, by simp [hid]⟩
    | confirm => simp only [hc, if_true, List.mem_map]; exact ⟨c, hcm, by simp [hid]⟩

/-- **first_channel_only_unseen_counterexample** (monitor `C09/first_channel_only/opened-channel-not-canonical`): channel 0
    over the canonical client of rollapp 0 is opened by an ack nested in `authz.MsgExec` (resp. by a
    `MsgChannelOpenConfirm`): it is open and rollapp 0 has no canonical channel; the later top-level ack of channel 1
    makes channel 1 — not the first opened one — the canonical channel. -/
theorem first_channel_only_unseen_counterexample : ∀ w ∈ [ChanRoute.nestedAck, ChanRoute.confirm],
    (step sCh (.chanAck 0 w true)).2 = .ok ∧
    ((step sCh (.chanAck 0 w true)).1.chans.map (·.isOpen)) = [true, false] ∧
    lookup (step sCh (.chanAck 0 w true)).1.chanOf 0 = none ∧
    (step (step sCh (.chanAck 0 w true)).1 (.chanAck 1 .ack true)).2 = .ok ∧
    lookup (step (step sCh (.chanAck 0 w true)).1 (.chanAck 1 .ack true)).1.chanOf 0 = some 1 := by decide +kernel

example : (step sCh (.chanAck 0 .ack true)).2 = .ok ∧ ((step sCh (.chanAck 0 .ack true)).1.chans.map (·.isOpen)) = [true, false] := by decide +kernel

end DymVerif.Props.C09
