/-
  Props/C13 — IRO plans stay solvent and the bonding curve cannot be gamed.

  The property theorems, with the few helper lemmas and the demo scenario they need.  Every statement is for EVERY curve oracle `I : Int → Int` (the raw value of
  `BondingCurve.integral` at a sold amount), every Newton oracle `T`, every liquidity-decimals value
  `L` (in particular 6..18), every configuration `cfg` and every list of operations — no bounds.
  `Reach I T cfg st` = `st` is the state after some list of messages from the initial state.

  What is an oracle here is exactly what is NOT proved: `BigDec.Power` and the convergence of the
  Newton iteration.  The clauses that depend on the Newton result are stated under an explicit
  contract, which the harness monitors on the real code on every exact-spend purchase and in a
  parameter sweep (monitoring, not proof).

  The contract is POINTWISE: `solvent_with_exact_spend`, `exact_spend_no_more`, the exact-spend half of
  `roundtrip_no_profit` and `exact_spend_tight_at` assume it only AT THE EXACT-SPEND PURCHASES THE HISTORY
  EXECUTES (`NewtonUpperOn I T (besPoints I T st ops)`, `BesOkAt`, `NewtonLowerAt`), each point being decided
  by the driver (`newtonUpperAtB`, `newtonLowerAtB`) and recomputed by the harness from the real
  code on every executed purchase, so they apply to every real trace whose per-op monitor passed;
  `solvent_blame` / `roundtrip_blame` name the blame set otherwise (some executed purchase violated
  the contract).  The GLOBAL contracts `NewtonUpper I T L` / `NewtonLowerDec I T tol` (every sold amount,
  every net spend) are violated by the real Newton iteration on dust inputs, so no real trace satisfies
  them; the statements under them (`…_global`, `exact_spend_tight`) are corollaries.
  `exact_spend_tight_step` is the step-level form with the tolerance `newtonTolRaw` built from the
  regenerated constant `Gen.Iro.epsilonPrecision`.
-/
import DymVerif.Lemmas.IroSolvent
import DymVerif.Lemmas.IroVestInv
import DymVerif.Lemmas.GenEqIro
namespace DymVerif.C13
open DymVerif DymVerif.Iro

def Reach (I : Int → Int) (T : Int → Int → Option Int) (cfg : Cfg) (st : State) : Prop :=
  ∃ ops : List Op, st = run I T (init cfg) ops

theorem reach_inv {I T cfg st} (h : Reach I T cfg st) : Inv st ∧ VInv st := by
  obtain ⟨ops, rfl⟩ := h
  exact inv_vinv_run ops _ (inv_init cfg) (vinv_init cfg)

/-! ## a concrete scenario used by the non-vacuity examples: fixed price 1 (integral(x) = x),
    exact Newton oracle, 18/18 decimals, 2 % taker fee -/

def demoCfg : Cfg where
  takerFee := ⟨20000000000000000⟩
  creationFee := 1000000000000000000
  minLiqPart := ⟨400000000000000000⟩
  minVestDur := 0
  minPlanDur := 0
  feeBase := false
  n := 3
  genAlloc := 1000000000000000000000
  liqDec := 18
def demoI : Int → Int := fun x => x
def demoT : Int → Int → Option Int := fun _ p => some p
def demoCreate : Op :=
  .create 1000000000000000000000 0 1000000000000000000 1000000000000000000 18 true 0 3600 ⟨500000000000000000⟩ 3 0
/-- funded owner and trader, plan created, trader a1 bought 100 tokens -/
def demoTrading : List Op :=
  [.fund 0 1000000000000000000000, .fund 1 1000000000000000000000, demoCreate,
   .buy 1 100000000000000000000 1000000000000000000000]
/-- … then sold 50, bought for an exact spend of 10, the plan was settled and 2 of 3 time units passed -/
def demoSettled : List Op :=
  demoTrading ++ [.sell 1 50000000000000000000 1, .bes 1 10000000000000000000 1,
                  .settle 1000000000000000000000 true, .time 2]

/-! ## sold never exceeds the sellable maximum or the allocation -/

/-- **sold_bounded**, full strength: in every reachable state `sold ≤ MaxAmountToSell ≤ allocation`
    (and `claimed ≤ sold`).  Holds since `Keeper.CreatePlan` rejects a creation fee above the sellable
    maximum (before that repair the fee was booked as sold unchecked: fee 6 tokens, allocation
    10 tokens + 1, liquidity part 1 gave sold 6 > maximum 5 right after creation). -/
theorem sold_bounded {I T cfg st} (h : Reach I T cfg st) (p : Plan) (hp : st.plan = some p) :
    p.sold ≤ p.maxSell ∧ 0 < p.maxSell ∧ p.maxSell ≤ p.alloc ∧ p.claimed ≤ p.sold := by
  obtain ⟨a1, a2, _, _, _, _, a7, a8, _⟩ := (reach_inv h).1.all p hp
  exact ⟨a7, a1, a2, a8⟩

/-- a creation fee above the sellable maximum is rejected: creation fee 6 tokens, allocation 10 tokens + 1,
    liquidity part 1 (sellable maximum 5 tokens) — no plan is created -/
example :
    let cfg : Cfg := { demoCfg with creationFee := 6000000000000000000, genAlloc := 10000000000000000001 }
    let st := run demoI demoT (init cfg) [.fund 0 1000000000000000000000]
    (step demoI demoT st
      (.create 10000000000000000001 0 1000000000000000000 1000000000000000000 18 true 0 3600 ⟨1000000000000000000⟩ 3 0)).2
      = .rej ∧ findEquilibrium 0 1000000000000000000 10000000000000000001 ⟨1000000000000000000⟩ = 5000000000000000000 := by
  decide +kernel

example : Reach demoI demoT demoCfg (run demoI demoT (init demoCfg) demoTrading) ∧
    ((run demoI demoT (init demoCfg) demoTrading).plan.map (fun p => (p.sold, p.maxSell))
      = some (101000000000000000000, 666666666666666667000)) := ⟨⟨_, rfl⟩, by decide +kernel⟩

/-! ## solvency before settlement -/

/-- rational-free core: `10^L·(I sold − I 0) < 10^18·(balance + trades + 1)` after any history of messages
    whose executed exact-spend purchases meet the Newton contract (`besPoints`) -/
theorem solvent_core_at {I T cfg} (ops : List Op) (hN : NewtonUpperOn I T (besPoints I T (init cfg) ops)) :
    Solv I (run I T (init cfg) ops) := by
  exact solv_run ops _ ⟨by simp [init], by intro p hp; simp [init] at hp⟩ hN

/-- `solvent_core_at` under the global contract for the configured liquidity decimals (needed only if the
    history contains an exact-spend purchase): every executed purchase is at those decimals -/
theorem solvent_core {I T cfg} (ops : List Op)
    (hN : (∃ o ∈ ops, isBes o = true) → NewtonUpper I T cfg.liqDec) :
    Solv I (run I T (init cfg) ops) := by
  have key : ∀ (ops : List Op) (st : State), Inv st →
      ((∃ o ∈ ops, isBes o = true) → NewtonUpper I T st.cfg.liqDec) →
      NewtonUpperOn I T (besPoints I T st ops) := by
    intro ops
    induction ops with
    | nil => intro _ _ _ pt hpt; cases hpt
    | cons o os ih =>
      intro st hi hN pt hpt
      simp only [besPoints, List.mem_append] at hpt
      rcases hpt with hpt | hpt
      · split at hpt
        · cases hp : st.plan with
          | none => cases o <;> simp [besPoint, hp] at hpt
          | some p =>
            exact besOkAt_of_global hp o
              (fun hb => hi.L_eq hp ▸ hN ⟨o, by simp, hb⟩) pt (by simpa using hpt)
        · cases hpt
      · exact ih _ (inv_step o hi)
          (fun ⟨o', ho', hb⟩ => step_cfg I T st o ▸ hN ⟨o', by simp [ho'], hb⟩) pt hpt
  exact solvent_core_at ops (key ops _ (inv_init cfg) hN)

/-- floor form of the solvency invariant: `Cost(0, sold) ≤ balance + trades` -/
theorem solv_floor {I : Int → Int} {st : State} (hsolv : Solv I st) (hinv : Inv st) (p : Plan)
    (hp : st.plan = some p) (hs : p.settled = false) : cost I p.L 0 p.sold ≤ st.planLiq + st.trades := by
  have hpl := (hinv.pre p hp hs).2.2.2.2.1
  exact Int.le_of_lt_add_one (cost_lt (by omega) (hsolv.2 p hp hs))

/-- **solvent_buy_sell**: along every history of create / buy / sell / enable / settle / claim / … (no
    exact-spend purchase) the unsettled plan's account holds at least the curve value `Cost(0, sold)`
    of the sold tokens minus one base unit per executed trade — for every curve and every L. -/
theorem solvent_buy_sell {I T cfg} (ops : List Op) (hno : ∀ o ∈ ops, isBes o = false)
    (p : Plan) (hp : (run I T (init cfg) ops).plan = some p) (hs : p.settled = false) :
    cost I p.L 0 p.sold ≤ (run I T (init cfg) ops).planLiq + (run I T (init cfg) ops).trades :=
  solv_floor (solvent_core ops fun ⟨o, ho, hb⟩ => by rw [hno o ho] at hb; cases hb)
    (reach_inv (I := I) (T := T) (cfg := cfg) ⟨ops, rfl⟩).1 p hp hs

/-- **solvent_with_exact_spend**: the same including exact-spend purchases, CONDITIONAL on the Newton
    contract AT THE PURCHASES THE HISTORY EXECUTED (`besPoints`: the (L, sold, net spend) of every
    executed exact-spend purchase) — what the per-op monitor checks on the real code. -/
theorem solvent_with_exact_spend {I T cfg} (ops : List Op) (hN : NewtonUpperOn I T (besPoints I T (init cfg) ops))
    (p : Plan) (hp : (run I T (init cfg) ops).plan = some p) (hs : p.settled = false) :
    pow10 p.L * (I p.sold - I 0) <
      decP * ((run I T (init cfg) ops).planLiq + (run I T (init cfg) ops).trades + 1) ∧
    cost I p.L 0 p.sold ≤ (run I T (init cfg) ops).planLiq + (run I T (init cfg) ops).trades :=
  ⟨(solvent_core_at ops hN).2 p hp hs,
   solv_floor (solvent_core_at ops hN) (reach_inv (I := I) (T := T) (cfg := cfg) ⟨ops, rfl⟩).1 p hp hs⟩

/-- **solvent_blame**: if the plan account IS short of the curve value, then one of the executed
    exact-spend purchases violated the Newton contract — the blame set is `besPoints` -/
theorem solvent_blame {I T cfg} (ops : List Op) (p : Plan) (hp : (run I T (init cfg) ops).plan = some p)
    (hs : p.settled = false)
    (hbad : (run I T (init cfg) ops).planLiq + (run I T (init cfg) ops).trades < cost I p.L 0 p.sold) :
    ∃ pt ∈ besPoints I T (init cfg) ops, ¬ NewtonUpperAt I T pt.1 pt.2.1 pt.2.2 := by
  apply Classical.byContradiction
  intro hne
  have := (solvent_with_exact_spend ops (NewtonUpperOn.of_no_blame hne) p hp hs).2
  omega

/-- the same under the global contract for the plan's liquidity decimals, a corollary -/
theorem solvent_with_exact_spend_global {I T cfg} (ops : List Op) (hN : NewtonUpper I T cfg.liqDec)
    (p : Plan) (hp : (run I T (init cfg) ops).plan = some p) (hs : p.settled = false) :
    pow10 p.L * (I p.sold - I 0) <
      decP * ((run I T (init cfg) ops).planLiq + (run I T (init cfg) ops).trades + 1) :=
  (solvent_core ops (fun _ => hN)).2 p hp hs

example : ∀ o ∈ demoTrading, isBes o = false := by decide
example : (run demoI demoT (init demoCfg) demoTrading).plan.map (fun p => (p.settled, cost demoI p.L 0 p.sold))
      = some (false, 101000000000000000000) ∧
    (run demoI demoT (init demoCfg) demoTrading).planLiq = 101000000000000000000 := by decide +kernel

/-- the exact Newton oracle of the fixed-price curve satisfies the contract at 18 decimals -/
theorem demo_newton : NewtonUpper demoI demoT 18 := by
  intro sold net t h
  cases (tokensForExactIn_some h).2
  show pow10 18 * (sold + net * pow10 (18 - 18) - sold) ≤ decP * net
  rw [show pow10 18 = decP from by decide, show pow10 (18 - 18) = 1 from by decide]
  unfold decP
  omega

/-! ## round trips: buying and selling the same tokens back never returns more than was paid -/

/-- **roundtrip_no_profit**: from ANY state, any sequence of buys (either method) and sells by one
    trader `a` (in any split and any order, failed attempts included) that brings `sold` back to its
    starting value leaves the trader with no more liquidity than before — strictly less as soon as one
    trade was executed.  Exact-spend purchases are covered CONDITIONALLY on the Newton contract. -/
theorem roundtrip_no_profit {I T} (st : State) (p : Plan) (hp : st.plan = some p) (a : Nat) (ops : List Op)
    (hops : ∀ o ∈ ops, isTradeBy a o = true)
    (hN : NewtonUpperOn I T (besPoints I T st ops))
    (p' : Plan) (hp' : (run I T st ops).plan = some p') (hsold : p'.sold = p.sold) :
    (run I T st ops).liq a ≤ st.liq a ∧ (run I T st ops ≠ st → (run I T st ops).liq a < st.liq a) := by
  rcases run_potential_at ops st p hp hops hN with h | ⟨q, hq, _, hlt⟩
  · rw [h]; exact ⟨Int.le_refl _, fun hne => absurd rfl hne⟩
  · -- less potential with `sold` back at its starting value is less liquidity
    cases hp'.symm.trans hq
    rw [potential, potential, hsold] at hlt
    have : (run I T st ops).liq a < st.liq a :=
      Int.lt_of_mul_lt_mul_left (Int.lt_of_add_lt_add_right hlt) (Int.le_of_lt decP_pos)
    exact ⟨Int.le_of_lt this, fun _ => this⟩

/-- **roundtrip_blame**: a round trip of one trader that does NOT lose contains an executed
    exact-spend purchase that violated the Newton contract -/
theorem roundtrip_blame {I T} (st : State) (p : Plan) (hp : st.plan = some p) (a : Nat) (ops : List Op)
    (hops : ∀ o ∈ ops, isTradeBy a o = true)
    (p' : Plan) (hp' : (run I T st ops).plan = some p') (hsold : p'.sold = p.sold)
    (hbad : st.liq a < (run I T st ops).liq a) :
    ∃ pt ∈ besPoints I T st ops, ¬ NewtonUpperAt I T pt.1 pt.2.1 pt.2.2 := by
  apply Classical.byContradiction
  intro hne
  have := (roundtrip_no_profit st p hp a ops hops (NewtonUpperOn.of_no_blame hne) p' hp' hsold).1
  omega

/-- the same under the global contract, a corollary -/
theorem roundtrip_no_profit_global {I T} (st : State) (p : Plan) (hp : st.plan = some p) (a : Nat) (ops : List Op)
    (hops : ∀ o ∈ ops, isTradeBy a o = true)
    (hN : (∃ o ∈ ops, isBes o = true) → NewtonUpper I T p.L)
    (p' : Plan) (hp' : (run I T st ops).plan = some p') (hsold : p'.sold = p.sold) :
    (run I T st ops).liq a ≤ st.liq a ∧ (run I T st ops ≠ st → (run I T st ops).liq a < st.liq a) :=
  roundtrip_no_profit st p hp a ops hops (NewtonUpperOn.of_global ops st p hp hops fun o ho hb => hN ⟨o, ho, hb⟩) p' hp' hsold

/-- buy 40 tokens in two pieces, sell them back in three pieces -/
def demoRoundTrip : List Op :=
  [.buy 1 30000000000000000000 1000000000000000000000, .bes 1 10200000000000000000 1,
   .sell 1 5000000000000000000 1, .sell 1 25000000000000000000 1, .sell 1 9996000000000000000 1]
example :
    let st := run demoI demoT (init demoCfg) demoTrading
    let st' := run demoI demoT st demoRoundTrip
    (∀ o ∈ demoRoundTrip, isTradeBy 1 o = true) ∧
    st.plan.map (·.sold) = st'.plan.map (·.sold) ∧ st'.trades = st.trades + 5 ∧ st'.liq 1 < st.liq 1 := by decide +kernel

/-! ## exact spend -/

/-- **exact_spend_no_more** (CONDITIONAL on the Newton contract AT THIS PURCHASE, `BesOkAt`): whenever
    an exact-spend purchase is executed, the tokens granted cost (by the plan's own `Cost`) no more than
    the spend net of the fee, hence less than the spend. -/
theorem exact_spend_no_more {I T} {st st' : State} {a : Nat} {spend mt : Int} (p : Plan) (hp : st.plan = some p)
    (hN : BesOkAt I T st (.bes a spend mt)) (h : exec I T st (.bes a spend mt) = .ok st') :
    ∃ p', st'.plan = some p' ∧ p.sold < p'.sold ∧ cost I p.L p.sold p'.sold < spend := by
  obtain ⟨q, net, fee, tokens, l1, ht, hmt, hf, htk, hmtk, _, _, _, _, rfl⟩ := doBes_ok h
  obtain ⟨hq, _, _⟩ := tradeable_ok ht
  cases hp.symm.trans hq
  obtain ⟨_, hfp, hnp, hnet⟩ := applyTakerFee_some hf
  simp only [Bool.false_eq_true, if_false] at hnet
  have hc : pow10 p.L * (I (p.sold + tokens) - I p.sold) ≤ decP * net :=
    hN (p.L, p.sold, net) (by simp [besPoint, hp, hf]) tokens htk
  refine ⟨_, rfl, by simp only []; omega, ?_⟩
  simp only []
  refine cost_lt (by omega) ?_
  unfold decP at hc ⊢
  omega

/-- the same under the global contract, a corollary -/
theorem exact_spend_no_more_global {I T} {st st' : State} {a : Nat} {spend mt : Int} (p : Plan) (hp : st.plan = some p)
    (hN : NewtonUpper I T p.L) (h : exec I T st (.bes a spend mt) = .ok st') :
    ∃ p', st'.plan = some p' ∧ p.sold < p'.sold ∧ cost I p.L p.sold p'.sold < spend :=
  exact_spend_no_more p hp (besOkAt_of_global hp _ (fun _ => hN)) h

example :
    let r := step demoI demoT (run demoI demoT (init demoCfg) demoTrading) (.bes 1 10200000000000000000 1)
    r.2 = .ok ∧ r.1.plan.map (·.sold) = some 110996000000000000000 := by decide +kernel

/-- the blame set of the demo history is one point, and the demo oracle meets the contract there -/
example : besPoints demoI demoT (init demoCfg) demoSettled = [(18, 51000000000000000000, 9800000000000000000)] ∧
    newtonUpperAtB demoI demoT 18 51000000000000000000 9800000000000000000 = true := by decide +kernel

/-- Newton contract, lower half, at the level of the Newton result itself (raw 10^-18 units of the
    decimal representation): the integral difference is within `tol` below the requested spend. -/
def NewtonLowerDec (I : Int → Int) (T : Int → Int → Option Int) (tol : Int) : Prop :=
  ∀ s p x, T s p = some x → p - tol ≤ I (s + x) - I s

theorem newtonLowerAtB_iff (I : Int → Int) (T : Int → Int → Option Int) (tol s p : Int) :
    newtonLowerAtB I T tol s p = true ↔ NewtonLowerAt I T tol s p := by
  unfold newtonLowerAtB NewtonLowerAt
  cases h : T s p with
  | none => simp
  | some x => simp

/-- the tolerance at the regenerated `epsilonPrecision` = 12 -/
example : newtonEpsRaw = 1000000 ∧ newtonTolRaw 1000000000000000000 = 13000000 := by decide

theorem lt_tdiv_succ (n : Int) : n < decP * (n.tdiv decP + 1) := by
  by_cases hn : 0 ≤ n
  · exact (tdiv_decP_of_nonneg n hn).2
  · have h1 : n = -(-n) := by omega
    rw [h1, Int.neg_tdiv, Int.tdiv_eq_ediv_of_nonneg (by omega)]
    unfold decP; omega

/-- **exact_spend_tight**, full strength, for EVERY liquidity decimals `L ≤ 18`: under the Newton lower
    contract with tolerance `tol` (raw 10^-18 units) the granted tokens cost more than
    `net − tol·10^L/10^18 − 1`, rational-free.  Holds since `TokensForExactInAmount` converts the
    Newton result with the supply decimals (finding F5 repaired). -/
theorem exact_spend_tight_at {I T} {L : Nat} {tol sold net t : Int} (hL : L ≤ 18)
    (hlow : NewtonLowerAt I T tol (scaleFromBase sold 18).raw (scaleFromBase net L).raw)
    (h : tokensForExactIn T L sold net = some t) :
    decP * net - pow10 L * tol < decP * (cost I L sold (sold + t) + 1) := by
  have hl := hlow _ (tokensForExactIn_some h).2
  simp only [scaleFromBase, show pow10 (18 - 18) = 1 from by decide, Int.mul_one] at hl
  have hpow : pow10 (18 - L) * pow10 L = decP := by
    unfold pow10 decP
    rw [← Int.natCast_mul, ← Nat.pow_add, Nat.sub_add_cancel hL]; rfl
  rw [cost_eq]
  have hlt := lt_tdiv_succ ((I (sold + t) - I sold) * pow10 L)
  have : (net * pow10 (18 - L) - tol) * pow10 L ≤ (I (sold + t) - I sold) * pow10 L :=
    Int.mul_le_mul_of_nonneg_right hl (Int.le_of_lt (pow10_pos L))
  have e2 : (net * pow10 (18 - L) - tol) * pow10 L = decP * net - pow10 L * tol := by
    rw [Int.sub_mul, Int.mul_assoc, hpow, Int.mul_comm net, Int.mul_comm tol]
  omega

/-- the same under the global lower contract with a free tolerance, a corollary -/
theorem exact_spend_tight {I T} {L : Nat} {tol sold net t : Int} (hL : L ≤ 18) (hlow : NewtonLowerDec I T tol)
    (h : tokensForExactIn T L sold net = some t) :
    decP * net - pow10 L * tol < decP * (cost I L sold (sold + t) + 1) :=
  exact_spend_tight_at hL (fun x hx => hlow _ _ x hx) h

/-- **exact_spend_tight_step**: step-level form with the REAL tolerance.  In a reachable state with
    liquidity decimals ≤ 18, an EXECUTED exact-spend purchase whose Newton result meets the lower
    contract at this point with the tolerance `newtonTolRaw` (three times the iteration's absolute
    epsilon `10^-epsilonPrecision` plus the relative stop `spend·10^-(epsilonPrecision−1)`, the constant
    regenerated from the source) grants tokens whose cost is more than
    `net − newtonTolRaw·10^L/10^18 − 1`. -/
theorem exact_spend_tight_step {I T cfg st} (hr : Reach I T cfg st) (hL : cfg.liqDec ≤ 18)
    {st' : State} {a : Nat} {spend mt : Int} (h : exec I T st (.bes a spend mt) = .ok st')
    (hlow : ∀ pt, besPoint st (.bes a spend mt) = some pt →
      NewtonLowerAt I T (newtonTolRaw (scaleFromBase pt.2.2 pt.1).raw) (scaleFromBase pt.2.1 18).raw (scaleFromBase pt.2.2 pt.1).raw) :
    ∃ p p' net fee, st.plan = some p ∧ st'.plan = some p' ∧ applyTakerFee spend st.cfg.takerFee false = some (net, fee) ∧
      decP * net - pow10 p.L * newtonTolRaw (scaleFromBase net p.L).raw < decP * (cost I p.L p.sold p'.sold + 1) := by
  obtain ⟨q, net, fee, tokens, l1, ht, hmt, hf, htk, hmtk, _, _, _, _, rfl⟩ := doBes_ok h
  obtain ⟨hq, _, _⟩ := tradeable_ok ht
  have hLq : q.L ≤ 18 := by
    have e1 := (reach_inv hr).1.L_eq hq
    have e2 : st.cfg = cfg := by obtain ⟨ops, rfl⟩ := hr; exact run_cfg I T ops _
    rw [e1, e2]; exact hL
  have hl := hlow (q.L, q.sold, net) (by simp [besPoint, hq, hf])
  exact ⟨q, _, net, fee, hq, rfl, hf, exact_spend_tight_at hLq hl htk⟩

/-- with 18-decimals liquidity the bound is simply `net − tol ≤ cost` -/
theorem exact_spend_tight_18 {I T} {tol sold net t : Int} (hlow : NewtonLowerDec I T tol)
    (h : tokensForExactIn T 18 sold net = some t) : net - tol ≤ cost I 18 sold (sold + t) := by
  have h1 := exact_spend_tight (L := 18) (by decide) hlow h
  have e1 : pow10 18 = decP := by decide
  rw [e1] at h1
  have hd := decP_pos
  have : decP * (net - tol) < decP * (cost I 18 sold (sold + t) + 1) := by
    rw [Int.mul_sub]; exact h1
  have := Int.lt_of_mul_lt_mul_left this (Int.le_of_lt hd)
  omega

/-- the same clause about the function the source CURRENTLY has (`Gen.Iro.…` is regenerated from
    `BondingCurve.TokensForExactInAmount` and `BondingCurve.Cost` on every run; 18 supply decimals) -/
theorem exact_spend_tight_current_source {I T} {L : Nat} {tol sold net t : Int} (hL : L ≤ 18)
    (hlow : NewtonLowerDec I T tol) (h : Gen.Iro.tokensForExactInAmount T 18 L sold net = some t) :
    decP * net - pow10 L * tol <
      decP * (Gen.Iro.cost (fun d => ⟨I d.raw⟩) 18 L sold (sold + t) + 1) := by
  rw [GenEq.iro_tokensForExactIn_eq] at h
  rw [GenEq.iro_cost_eq]
  exact exact_spend_tight hL hlow h

/-- the pre-repair behaviour (kept: finding F5): the Newton result converted with the LIQUIDITY decimals -/
def tokensForExactInLiqScaled (T : Int → Int → Option Int) (L : Nat) (currX spendAmt : Int) : Option Int :=
  if (scaleFromBase currX 18).raw < decP then none
  else if spendAmt ≤ 0 then none
  else match T (scaleFromBase currX 18).raw (scaleFromBase spendAmt L).raw with
    | none => none
    | some x => some (scaleToBase ⟨x⟩ L)

/-- 6-decimals liquidity, fixed price 1, exact Newton oracle (tolerance 0), net spend 1 unit (10^6):
    the pre-repair scaling granted 10^6 base tokens = 10^-12 token whose cost is 0; the current one
    grants 1 token costing exactly the spend. -/
theorem exact_spend_tight_prefix_counterexample :
    NewtonLowerDec demoI demoT 0 ∧
    tokensForExactInLiqScaled demoT 6 1000000000000000000 1000000 = some 1000000 ∧
    cost demoI 6 1000000000000000000 (1000000000000000000 + 1000000) = 0 ∧
    tokensForExactIn demoT 6 1000000000000000000 1000000 = some 1000000000000000000 ∧
    cost demoI 6 1000000000000000000 (1000000000000000000 + 1000000000000000000) = 1000000 := by
  refine ⟨?_, by decide +kernel, by decide +kernel, by decide +kernel, by decide +kernel⟩
  intro s p x h
  simp only [demoT, Option.some.injEq] at h
  subst h
  simp only [demoI]; omega

example : NewtonLowerDec demoI demoT 0 ∧ tokensForExactIn demoT 18 1000000000000000000 5 = some 5 := by
  refine ⟨exact_spend_tight_prefix_counterexample.1, by decide +kernel⟩

/-! ## what happens when the Newton result violates the contract (as the real one does)

  `TokensApproximation` stops as soon as |f(x)| < 10^-12 (absolute, decimal units).  For a spend below
  10^-12 liquidity units the FIRST GUESS (1 token per liquidity unit) already passes that test, so at
  price 1000 the result is 1000× too many tokens; for ordinary spends it overshoots by up to 10^-12.
  The oracle below is exactly what the real function returns in the harness' witness trace
  (price 1000, 18/18 decimals: `T(s, p) = p`). -/

def dustCfg : Cfg := { demoCfg with genAlloc := 1000000000000000000000000 }
def dustI : Int → Int := fun x => 1000 * x
def dustOps : List Op :=
  [.fund 0 2000000000000000000000, .fund 1 1000000000000000000000,
   .create 1000000000000000000000000 0 1000000000000000000 1000000000000000000000 18 true 0 3600 ⟨500000000000000000⟩ 3 0,
   .bes 1 1000 1]

/-- the contract really is violated by this oracle … -/
theorem dust_violates_newton : ¬ NewtonUpper dustI demoT 18 := by
  intro h
  have := h 1000000000000000000 980 980 (by decide)
  revert this
  decide +kernel

/-- … and then the three clauses that were conditional on it fail: a spend of 1000 is granted 980
    base tokens that cost 980000, the plan account is short of the curve value by 979020 (one trade),
    and selling the tokens back returns 960400 for the 1000 paid. -/
theorem exact_spend_no_more_counterexample :
    let st := run dustI demoT (init dustCfg) dustOps
    st.plan.map (fun p => (p.sold, cost dustI p.L 1000000000000000000 p.sold)) = some (1000000000000000980, 980000) := by
  decide +kernel

theorem solvent_with_exact_spend_counterexample :
    let st := run dustI demoT (init dustCfg) dustOps
    st.plan.map (fun p => (cost dustI p.L 0 p.sold, st.planLiq, st.trades)) =
      some (1000000000000000980000, 1000000000000000000980, 1) := by decide +kernel

theorem roundtrip_no_profit_counterexample :
    let st := run dustI demoT (init dustCfg) (dustOps.take 3)
    let st' := run dustI demoT st [.bes 1 1000 1, .sell 1 980 1]
    st.plan.map (·.sold) = st'.plan.map (·.sold) ∧ st'.liq 1 = st.liq 1 + 959400 := by decide +kernel

/-! ## who may trade, and when -/

theorem trade_rejected {I T} {st : State} {a : Nat} {e : Err} (he : tradeable st a = .error e) (hne : e ≠ .ok)
    (op : Op) (hop : isTradeBy a op = true) : (step I T st op).1 = st ∧ (step I T st op).2 ≠ .ok := by
  rcases trade_err (I := I) (T := T) hop he with h | h
  · exact step_of_exec_err h hne
  · exact step_of_exec_err h (by decide)

/-- **trade_gating (1)**: before the start time (or while trading is not enabled) nobody but the
    rollapp's CURRENT owner (`st.owner`; it changes with MsgTransferOwnership) can buy,
    buy-exact-spend or sell; the state is untouched. -/
theorem trade_gating_before_start {I T} {st : State} {p : Plan} (hp : st.plan = some p) {a : Nat} (ha : a ≠ st.owner)
    (hpre : p.enabled = false ∨ st.now < p.startTime) (op : Op) (hop : isTradeBy a op = true) :
    (step I T st op).1 = st ∧ (step I T st op).2 ≠ .ok := by
  have : ∃ e, tradeable st a = .error e ∧ e ≠ .ok := by
    unfold tradeable
    rw [hp]
    simp only []
    by_cases hs : p.settled = true
    · exact ⟨.settled, by simp [hs], by decide⟩
    · rcases hpre with h | h
      · exact ⟨.precond, by simp [hs, ha, h], by decide⟩
      · by_cases hen : p.enabled = true
        · exact ⟨.notStarted, by simp [hs, ha, hen, h], by decide⟩
        · exact ⟨.precond, by simp [hs, ha, hen], by decide⟩
  obtain ⟨e, he, hne⟩ := this
  exact trade_rejected he hne op hop

/-- **trade_gating (2)**: after settlement nobody — not even the owner — can trade. -/
theorem trade_gating_after_settlement {I T} {st : State} {p : Plan} (hp : st.plan = some p) (hs : p.settled = true)
    (a : Nat) (op : Op) (hop : isTradeBy a op = true) :
    (step I T st op).1 = st ∧ (step I T st op).2 ≠ .ok := by
  have he : tradeable st a = .error .settled := by
    unfold tradeable; rw [hp]; simp [hs]
  exact trade_rejected he (by decide) op hop

example : (run demoI demoT (init demoCfg) demoSettled).plan.map (·.settled) = some true ∧
    (step demoI demoT (run demoI demoT (init demoCfg) demoSettled) (.buy 0 1000000000000000000 1000000000000000000000)).2 = .settled := by
  decide +kernel
/-- before the start (plan starts at time 60, now is 0) the owner's purchase is executed, a trader's is not -/
example :
    let st := run demoI demoT (init demoCfg) [.fund 0 1000000000000000000000, .fund 1 1000000000000000000000,
      .create 1000000000000000000000 0 1000000000000000000 1000000000000000000 18 true 60 3600 ⟨500000000000000000⟩ 3 0]
    (step demoI demoT st (.buy 0 1000000000000000000 1000000000000000000000)).2 = .ok ∧
    (step demoI demoT st (.buy 1 1000000000000000000 1000000000000000000000)).2 = .notStarted := by decide +kernel

/-! ## after settlement: claims -/

/-- **module_holds_unclaimed**: after settlement the module account holds exactly the rollapp tokens
    still owed: the sum of all IRO-token holdings = sold − claimed; no IRO token is left in the module. -/
theorem module_holds_unclaimed {I T cfg st} (h : Reach I T cfg st) (p : Plan) (hp : st.plan = some p)
    (hs : p.settled = true) :
    st.modRa = sumTo st.cfg.n st.iro ∧ st.modRa = p.sold - p.claimed ∧ st.modIro = 0 := by
  obtain ⟨h1, h2, h3, _, _⟩ := (reach_inv h).1.post p hp hs
  exact ⟨h2, h3, h1⟩

/-- **claim_once_1to1**: after settlement every holder of IRO tokens can claim; the claim pays exactly
    the holding in rollapp tokens, burns the IRO tokens, touches nobody else, and an immediate second
    claim is rejected (no tokens to claim). -/
theorem claim_once_1to1 {I T cfg st} (h : Reach I T cfg st) (p : Plan) (hp : st.plan = some p) (hs : p.settled = true)
    (a : Nat) (ha : a < st.cfg.n) (hb : st.iro a ≠ 0) :
    (step I T st (.claim a)).2 = .ok ∧
    (step I T st (.claim a)).1.ra a = st.ra a + st.iro a ∧ (step I T st (.claim a)).1.iro a = 0 ∧
    (∀ j, j ≠ a → (step I T st (.claim a)).1.iro j = st.iro j ∧ (step I T st (.claim a)).1.ra j = st.ra j) ∧
    (step I T (step I T st (.claim a)).1 (.claim a)).2 = .noTokens ∧
    (step I T (step I T st (.claim a)).1 (.claim a)).1 = (step I T st (.claim a)).1 := by
  have hinv := (reach_inv h).1
  obtain ⟨_, h2, _, _, _⟩ := hinv.post p hp hs
  have hle := le_sumTo st.cfg.n st.iro hinv.iro_nonneg a ha
  have hex : ∃ s, doClaim st a = .ok s := by
    simp only [doClaim, hp, hs]
    simp [hb, show ¬ st.modRa < st.iro a by omega]
  obtain ⟨s, hs1⟩ := hex
  obtain ⟨q, hq, _, _, _, hs'⟩ := doClaim_ok hs1
  rw [hp] at hq; cases hq
  have hact : opActorsOk st.cfg.n (.claim a) = true := by simp [opActorsOk, ha]
  rw [step_of_exec_ok hact (show exec I T st (.claim a) = .ok s from hs1)]
  subst hs'
  refine ⟨rfl, by simp [upd], by simp [upd], fun j hj => by simp [upd, hj], ?_⟩
  unfold step
  simp [opActorsOk, ha, exec, doClaim_noTokens (p := { p with claimed := p.claimed + st.iro a }) (hs := hs), upd]

example : Reach demoI demoT demoCfg (run demoI demoT (init demoCfg) demoSettled) ∧
    (run demoI demoT (init demoCfg) demoSettled).iro 1 = 59800000000000000000 ∧
    (run demoI demoT (init demoCfg) demoSettled).modRa = 59800000000000000000 := ⟨⟨_, rfl⟩, by decide +kernel, by decide +kernel⟩

/-! ## after settlement: the owner's vesting -/

/-- **vesting_bounded**: the owner's cumulative claims never exceed the vesting total, and the plan
    account holds exactly the unreleased remainder. -/
theorem vesting_bounded {I T cfg st} (h : Reach I T cfg st) (p : Plan) (hp : st.plan = some p) (hs : p.settled = true) :
    0 ≤ p.vest.claimed ∧ p.vest.claimed ≤ p.vest.amount ∧ st.planLiq = p.vest.amount - p.vest.claimed := by
  obtain ⟨hi, hv⟩ := reach_inv h
  obtain ⟨h1, h2, h3, h4⟩ := hv.vest p hp hs
  have := (vestedBy_bounds p.vest st.now h1 h4).2
  exact ⟨h2, by omega, (hi.post p hp hs).2.2.2.1⟩

/-- only the rollapp's CURRENT owner can claim vested liquidity, and only after settlement -/
theorem vesting_only_owner {I T} {st : State} (a : Nat)
    (h : a ≠ st.owner ∨ ∀ p, st.plan = some p → p.settled = false) :
    (step I T st (.claimv a)).1 = st ∧ (step I T st (.claimv a)).2 ≠ .ok := by
  have hex : ∃ e, exec I T st (.claimv a) = .error e ∧ e ≠ .ok := by
    simp only [exec, doClaimVested]
    cases hp : st.plan with
    | none => exact ⟨.notFound, rfl, by decide⟩
    | some p =>
      simp only []
      by_cases hs : p.settled = true
      · rcases h with ha | hn
        · exact ⟨.denied, by simp [hs, ha], by decide⟩
        · have := hn p hp; rw [hs] at this; cases this
      · exact ⟨.notSettled, by simp [hs], by decide⟩
  obtain ⟨e, he, hne⟩ := hex
  exact step_of_exec_err he hne

example : (step demoI demoT (run demoI demoT (init demoCfg) demoSettled) (.claimv 1)).2 = .denied ∧
    (step demoI demoT (run demoI demoT (init demoCfg) demoSettled) (.claimv 0)).2 = .ok := by decide +kernel

/-- a successful vesting claim is made by the current owner, pays exactly what is booked as claimed,
    out of the plan account, and touches nobody else's liquidity -/
theorem claimv_pays_current_owner {I T} {st st' : State} {a : Nat} (h : exec I T st (.claimv a) = .ok st') :
    a = st.owner ∧ st'.owner = st.owner ∧
    ∃ p p', st.plan = some p ∧ st'.plan = some p' ∧ 0 < p'.vest.claimed - p.vest.claimed ∧
      st'.liq a = st.liq a + (p'.vest.claimed - p.vest.claimed) ∧
      st'.planLiq = st.planLiq - (p'.vest.claimed - p.vest.claimed) ∧
      ∀ j, j ≠ a → st'.liq j = st.liq j := by
  obtain ⟨p, amt, hp, _, ha, _, hpos, _, rfl⟩ := doClaimVested_ok h
  refine ⟨ha, rfl, p, _, hp, rfl, ?_, ?_, ?_, ?_⟩
  · simp only []; omega
  · simp only [upd, if_true]; omega
  · simp only []; omega
  · intro j hj; simp [upd, hj]

/-! ## the rollapp owner can change (x/rollapp MsgTransferOwnership)

  The owner is re-read from the rollapp on every message (`GetTradeableIRO`, `EnableTrading`,
  `ClaimVested`, `CreatePlan`, the taker-fee beneficiary): `State.owner`, changed by `Op.chown`.
  Every theorem of this file quantifies over histories WITH ownership transfers (`Reach` ranges over
  all op lists): the invariants, solvency, `vesting_bounded` (the total released to ALL successive
  owners never exceeds the vesting amount, and the plan account holds exactly the unreleased rest)
  and `vesting_not_faster_than_linear` (cumulative over owners). -/

/-- only the current owner can hand the rollapp over, and not to himself -/
theorem chown_only_owner {I T} {st : State} (a b : Nat) (h : a ≠ st.owner ∨ b = st.owner) :
    (step I T st (.chown a b)).1 = st ∧ (step I T st (.chown a b)).2 ≠ .ok := by
  have hex : ∃ e, exec I T st (.chown a b) = .error e ∧ e ≠ .ok := by
    simp only [exec, doChown]
    by_cases ha : a = st.owner
    · rcases h with h | h
      · exact absurd ha h
      · exact ⟨.rej, by simp [ha, h], by decide⟩
    · exact ⟨.denied, by simp [ha], by decide⟩
  obtain ⟨e, he, hne⟩ := hex
  exact step_of_exec_err he hne

/-- an executed transfer changes the owner and nothing else; from then on the FORMER owner is an
    ordinary trader: gated before the start like everybody else, and refused by claim-vested -/
theorem chown_hands_over {I T} {st st' : State} {a b : Nat} (h : exec I T st (.chown a b) = .ok st') :
    a = st.owner ∧ st'.owner = b ∧ b ≠ a ∧ st' = { st with owner := b } ∧
    (∀ p, st'.plan = some p → (p.enabled = false ∨ st'.now < p.startTime) → ∀ op, isTradeBy a op = true →
      (step I T st' op).1 = st' ∧ (step I T st' op).2 ≠ .ok) ∧
    ((step I T st' (.claimv a)).1 = st' ∧ (step I T st' (.claimv a)).2 ≠ .ok) := by
  obtain ⟨ha, hb, rfl⟩ := doChown_ok h
  have hne : a ≠ b := by rw [ha]; exact fun e => hb e.symm
  refine ⟨ha, rfl, fun e => hne e.symm, rfl, ?_, ?_⟩
  · intro p hp hpre op hop
    exact trade_gating_before_start (st := { st with owner := b }) hp (by simpa using hne) hpre op hop
  · exact vesting_only_owner (st := { st with owner := b }) a (Or.inl (by simpa using hne))

/-- the rollapp is handed to a2 before the start (plan starts at 60, now is 0): the former owner a0 is
    gated like any trader, a2 trades; after settlement a2 — not a0 — claims the vested liquidity, and
    the taker fee's beneficiary is re-read as well -/
example :
    let st := run demoI demoT (init demoCfg) [.fund 0 1000000000000000000000, .fund 2 1000000000000000000000,
      .create 1000000000000000000000 0 1000000000000000000 1000000000000000000 18 true 60 3600 ⟨500000000000000000⟩ 3 0,
      .chown 0 2]
    st.owner = 2 ∧ (step demoI demoT st (.chown 0 1)).2 = .denied ∧ (step demoI demoT st (.chown 2 2)).2 = .rej ∧
    (step demoI demoT st (.buy 0 1000000000000000000 1000000000000000000000)).2 = .notStarted ∧
    (step demoI demoT st (.buy 2 1000000000000000000 1000000000000000000000)).2 = .ok ∧
    (let st2 := run demoI demoT st [.buy 2 5000000000000000000 1000000000000000000000, .settle 1000000000000000000000 true, .time 2]
     (step demoI demoT st2 (.claimv 0)).2 = .denied ∧ (step demoI demoT st2 (.claimv 2)).2 = .ok ∧
     (let st3 := run demoI demoT st2 [.claimv 2, .chown 2 1, .time 1]
      (step demoI demoT st3 (.claimv 2)).2 = .denied ∧ (step demoI demoT st3 (.claimv 1)).2 = .ok ∧
      (run demoI demoT st3 [.claimv 1]).plan.map (fun p => (p.vest.amount, p.vest.claimed)) = some (3000000000000000000, 3000000000000000000))) := by
  decide +kernel

/-- nothing is released before the vesting start -/
theorem vesting_nothing_before_start {I T cfg st} (h : Reach I T cfg st) (p : Plan) (hp : st.plan = some p)
    (hs : p.settled = true) (hnow : st.now < p.vest.start) : p.vest.claimed = 0 := by
  obtain ⟨_, h2, h3, _⟩ := (reach_inv h).2.vest p hp hs
  unfold vestedBy at h3
  rw [if_pos hnow] at h3
  omega

/-- **vesting_not_faster_than_linear**, exact, no tolerance: at every time within the vesting window
    the owner's cumulative claims are at most the linear share,
    `(stop − start)·claimed ≤ amount·(now − start)`.  Holds since `VestedAmt` truncates the time ratio
    (finding F16 repaired; the half-even rounded ratio released up to amount/(2·10^18) ahead). -/
theorem vesting_not_faster_than_linear {I T cfg st} (h : Reach I T cfg st) (p : Plan) (hp : st.plan = some p)
    (hs : p.settled = true) (h1 : p.vest.start ≤ st.now) (h2 : st.now ≤ p.vest.stop) (hy : p.vest.start < p.vest.stop) :
    (p.vest.stop - p.vest.start) * p.vest.claimed ≤ p.vest.amount * (st.now - p.vest.start) := by
  obtain ⟨ha, _, h3, _⟩ := (reach_inv h).2.vest p hp hs
  unfold vestedBy at h3
  rw [if_neg (by omega), if_neg (by omega), if_neg (by omega)] at h3
  have hl := vestedTotal_linear p.vest st.now ha h1 hy
  have hy' : 0 ≤ p.vest.stop - p.vest.start := by omega
  exact Int.le_trans (Int.mul_le_mul_of_nonneg_left h3 hy') hl

/-- vesting total 3·10^18 over 3 time units; after 2 units the owner has claimed 2·10^18 − 2 ≤ 2/3 of it
    (the half-even ratio 0.666…667 of the pre-repair code paid 2·10^18 + 1) -/
def demoVesting : List Op :=
  [.fund 0 1000000000000000000000, .fund 1 1000000000000000000000, demoCreate,
   .buy 1 5000000000000000000 1000000000000000000000, .settle 1000000000000000000000 true, .time 2, .claimv 0]

example :
    let st := run demoI demoT (init demoCfg) demoVesting
    st.plan.map (fun p => (p.vest.amount, p.vest.claimed, p.vest.start, p.vest.stop, st.now)) =
      some (3000000000000000000, 1999999999999999998, 0, 3, 2) := by decide +kernel

/-- the pre-repair ratio (kept: finding F16): `Quo` rounds 2/3 up to 0.666…667, and the product with
    3·10^18 is 2·10^18 + 1 -/
theorem vesting_prefix_counterexample :
    (((Dec.ofInt 2).quo (Dec.ofInt 3)).mul (Dec.ofInt 3000000000000000000)).truncateInt = 2000000000000000001 ∧
    (((Dec.ofInt 2).quoTruncate (Dec.ofInt 3)).mul (Dec.ofInt 3000000000000000000)).truncateInt = 1999999999999999998 := by
  decide +kernel

example : Reach demoI demoT demoCfg (run demoI demoT (init demoCfg) demoVesting) := ⟨_, rfl⟩

end DymVerif.C13
