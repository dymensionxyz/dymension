/-
  Props/C10Closed — C10, the clauses about ALL channels over a rollapp's canonical client and about
  the whole history:

  * before the handshake of `r` has completed nothing can be sent to, and nothing is credited from, ANY
    channel over `r`'s canonical client — the recorded canonical channel (where only the matching
    handshake packet is accepted) and every other channel over that client, whether it opened before a
    canonical channel was recorded (handshake started from the rollapp, or `MsgChannelOpenAck` nested
    in `authz.MsgExec`: the ante hook never saw it) or next to one; on such a channel nothing flows
    afterwards either;
  * frame: the bridge part of a rollapp record (proof height, credited balances, metadata flag,
    handshake counter) changes in one step only: the packet that completes the handshake;
  * hence an open bridge stays open (ordinary transfers flow from then on, on every history), the
    total of the credited vouchers is the sum of the genesis accounts registered at the time of the
    handshake and stays so, and the canonical channel is recorded at most once.
-/
import DymVerif.Props.C10
import DymVerif.Lemmas.GBFrame
namespace DymVerif.Props.C10
open DymVerif.GB

/-- `c` is a channel over the canonical client of rollapp `r` (the recorded canonical channel or not) -/
def OverClient (s : St) (c r : Nat) : Prop :=
  ∃ c' k, s.chans.find? (·.1 == c) = some (c', k) ∧ (k = ChanKind.canon r ∨ k = ChanKind.second r)

theorem canonChan_overClient {s : St} {c r : Nat} (h : CanonChan s c r) : OverClient s c r := by
  obtain ⟨c', h⟩ := h
  exact ⟨c', _, h, Or.inl rfl⟩

/-- **second_channel_never_flows** — a channel over `r`'s canonical client that is not its recorded
    canonical channel carries nothing, in any state: the hub's transfer is refused, every incoming
    packet gets an error acknowledgement (`noChannel`: no canonical channel is recorded — an
    internal error of `GetRollappByPortChan`, NOT "not a rollapp"; `notCanonical`: another channel is
    recorded; or, while a hard fork has the canonical client frozen, ibc core refuses the packet message
    itself), and the state is unchanged. -/
theorem second_channel_never_flows {s : St} {c c' r : Nat} {ra : Ra}
    (hc : s.chans.find? (·.1 == c) = some (c', ChanKind.second r)) (hg : getRa s r = some ra) :
    step s (.send c) = (s, .err) ∧
    ∀ ph p, step s (.recv c ph p) =
      (s, if ra.frozen then .err else .rerr (if ra.chan.isNone then .noChannel else .notCanonical)) := by
  refine ⟨by simp [step, stepSend, hc], fun ph p => ?_⟩
  simp only [step, stepRecv, hc, hg]
  cases ra.frozen <;> cases ra.chan <;> rfl

/-- **closed_all_channels** — while the handshake of `r` has not completed: a transfer from the hub
    over ANY channel of `r`'s canonical client is refused without any change, and a packet arriving on
    any such channel either is the matching handshake packet on the recorded canonical channel
    (success acknowledgement) or gets an error acknowledgement and leaves the whole state — credited
    balances included — unchanged.  Nothing is passed on to the transfer stack. -/
theorem closed_all_channels {s : St} {c r : Nat} {ra : Ra} (hs : Reachable s) (hc : OverClient s c r)
    (hg : getRa s r = some ra) (h0 : ra.nOpen = 0) :
    step s (.send c) = (s, .err) ∧
    ∀ ph p, ((step s (.recv c ph p)).2 = .ok ∧ CanonChan s c r ∧ ∃ d, p = .gb d ∧ Matches d ra.gi) ∨
            (∃ e, step s (.recv c ph p) = (s, .rerr e)) := by
  obtain ⟨c', k, hf, hk | hk⟩ := hc
  · subst hk
    have hcc : CanonChan s c r := ⟨c', hf⟩
    refine ⟨closed_blocks_outgoing hs hcc hg h0, ?_⟩
    intro ph p
    rcases first_packet_must_be_handshake hs hcc hg h0 ph p with ⟨h1, h2⟩ | h
    · exact Or.inl ⟨h1, hcc, h2⟩
    · exact Or.inr h
  · subst hk
    obtain ⟨h1, h2⟩ := second_channel_never_flows hf hg
    -- a closed bridge has never been forked: its canonical client is not frozen
    have hnf : ra.frozen = false := by
      cases hfz : ra.frozen
      · rfl
      · exact absurd ((closed_iff hs hg).1 h0) (((reachable_inv hs).get hg).frz hfz)
    exact ⟨h1, fun ph p => Or.inr ⟨_, by rw [h2 ph p, hnf]; rfl⟩⟩

/-- … in particular with no canonical channel recorded at all (every channel over the client opened
    behind the ante hook's back): nothing is accepted, whatever the packet -/
theorem no_canonical_channel_nothing_accepted {s : St} {c c' r : Nat} {ra : Ra}
    (hc : s.chans.find? (·.1 == c) = some (c', ChanKind.second r)) (hg : getRa s r = some ra)
    (hn : ra.chan = none) (hf : ra.frozen = false) (ph : Nat) (p : Pkt) : step s (.recv c ph p) = (s, .rerr .noChannel) := by
  rw [(second_channel_never_flows hc hg).2 ph p, hn, hf]; rfl

-- ------------------------------------------------------------------------------------------------ frame

/-- **bridge_state_step** — one op leaves the proof height, the credited balances, the metadata flag
    and the handshake counter of every rollapp as they are, unless it is a packet on the rollapp's
    recorded canonical channel, received while the bridge is closed (`tph = 0`) and answered with a
    success acknowledgement: then the record is what the handshake writes — or a governance registration
    of the denom metadata outside the handshake (`premd`), which sets the metadata flag only. -/
theorem bridge_state_step (s : St) (op : Op) (r : Nat) (ra : Ra) (hg : getRa s r = some ra) :
    ∃ ra', getRa (step s op).1 r = some ra' ∧
      ((ra'.tph = ra.tph ∧ ra'.bal = ra.bal ∧ ra'.md = ra.md ∧ ra'.nOpen = ra.nOpen) ∨
       (∃ c ph p, op = .recv c ph p ∧ CanonChan s c r ∧ ra.tph = 0 ∧ (step s op).2 = .ok ∧ ra' = (handshake ra ph p).1) ∨
       (op = .premd r ∧ ra.md = false ∧ ra'.md = true ∧ ra'.tph = ra.tph ∧ ra'.bal = ra.bal ∧ ra'.nOpen = ra.nOpen)) := by
  rcases step_getRa s op hg with h | ⟨x, hw, hok, h⟩
  · exact ⟨ra, h, .inl ⟨rfl, rfl, rfl, rfl⟩⟩
  · refine ⟨x, h, ?_⟩
    obtain rfl := (getRa_mem hg).2
    cases hw with
    | premd _ _ hm => exact .inr (.inr ⟨rfl, hm, rfl, rfl, rfl, rfl⟩)
    | recv c c' ph p hc ht => exact .inr (.inl ⟨c, ph, p, rfl, ⟨c', hc⟩, ht, hok, rfl⟩)
    | _ => exact .inl ⟨rfl, rfl, rfl, rfl⟩

/-- **canonical_channel_recorded_once** — the recorded canonical channel of a rollapp never changes once
    it is set: an op leaves it as it is, or there was none and the op opens a channel (`chopen`), or the
    op is the atomic `link` of a rollapp that had no canonical client. -/
theorem canonical_channel_recorded_once (s : St) (op : Op) (r : Nat) (ra : Ra) (hg : getRa s r = some ra) :
    ∃ ra', getRa (step s op).1 r = some ra' ∧
      (ra'.chan = ra.chan ∨ (ra.chan = none ∧ ∃ via, op = .chopen r via) ∨ op = .link r) := by
  rcases step_getRa s op hg with h | ⟨x, hw, _, h⟩
  · exact ⟨ra, h, .inl rfl⟩
  · refine ⟨x, h, ?_⟩
    obtain rfl := (getRa_mem hg).2
    cases hw with
    | link => exact .inr (.inr rfl)
    | chopen hc => exact .inr (.inl ⟨hc, 0, rfl⟩)
    | recv => exact .inl (handshake_keeps ra _ _).2.2.1
    | _ => exact .inl rfl

/-- a top-level `MsgChannelOpenAck` for a second channel is refused when a canonical channel is recorded
    (the channel identifier is spent, nothing else changes) -/
theorem chopen_ack_refused_when_recorded {s : St} {r : Nat} {ra : Ra} (hg : getRa s r = some ra)
    (hl : ra.linked = true) (hf : ra.frozen = false) (hc : ra.chan.isSome = true) :
    step s (.chopen r 0) = ({ s with nextChan := s.nextChan + 1 }, .err) := by
  simp [step, stepChopen, hg, hl, hf, hc]

-- ------------------------------------------------------------------------------------------------ monotonicity

/-- **opened_stays_open** — once the handshake of `r` has completed, no op sequence whatsoever changes
    its proof height, credited balances or handshake counter, and registered metadata stays registered. -/
theorem opened_stays_open {s : St} {r : Nat} {ra : Ra} (hg : getRa s r = some ra) (h1 : ra.tph ≠ 0) (ops : List Op) :
    ∃ ra', getRa (run s ops) r = some ra' ∧ ra'.tph = ra.tph ∧ ra'.bal = ra.bal ∧ ra'.nOpen = ra.nOpen ∧
      (ra.md = true → ra'.md = true) :=
  run_opened s ops r ra hg h1

/-- **open_flows_forever** — … so from the completed handshake on, after any further history, the genesis
    bridge never stands in the way of an ordinary transfer from the hub over the canonical channel again:
    the transfer goes out unless — and exactly when — the canonical client is frozen at that moment, which
    only a hard fork of the rollapp brings about and the rollapp's next state update ends
    (`fork_freezes`, `update_reopens`, `frozen_until_update` in Props/C10Fork). -/
theorem open_flows_forever {s : St} {c r : Nat} {ra : Ra} (hs : Reachable s) (hc : CanonChan s c r)
    (hg : getRa s r = some ra) (h1 : ra.nOpen ≠ 0) (ops : List Op) :
    ∃ ra', getRa (run s ops) r = some ra' ∧ ra'.tph = ra.tph ∧
      step (run s ops) (.send c) = (run s ops, if ra'.frozen then .err else .ok) := by
  obtain ⟨c', hc⟩ := hc
  have ht : ra.tph ≠ 0 := fun h => h1 ((closed_iff hs hg).2 h)
  obtain ⟨ra', hg', ht', _⟩ := opened_stays_open hg ht ops
  have hc' := run_find s ops c _ hc
  have : ra'.tph ≠ 0 := by rw [ht']; exact ht
  refine ⟨ra', hg', ht', ?_⟩
  cases hf : ra'.frozen <;> simp [step, stepSend, hc', hg', this, hf]

/-- … and every further packet on the canonical channel is passed on (or, under a frozen client, refused by
    ibc core), never handled by the genesis bridge again, after any further history -/
theorem open_never_rehandshakes {s : St} {c r : Nat} {ra : Ra} (hs : Reachable s) (hc : CanonChan s c r)
    (hg : getRa s r = some ra) (h1 : ra.nOpen ≠ 0) (ops : List Op) (ph : Nat) (p : Pkt) :
    ∃ ra', getRa (run s ops) r = some ra' ∧
      step (run s ops) (.recv c ph p) = (run s ops, if ra'.frozen then .err else lowerRollapp p) := by
  obtain ⟨c', hc⟩ := hc
  have ht : ra.tph ≠ 0 := fun h => h1 ((closed_iff hs hg).2 h)
  obtain ⟨ra', hg', ht', _⟩ := opened_stays_open hg ht ops
  have hc' := run_find s ops c _ hc
  have : ra'.tph ≠ 0 := by rw [ht']; exact ht
  refine ⟨ra', hg', ?_⟩
  cases hf : ra'.frozen <;> simp [step, stepRecv, hc', hg', this, hf]

/-- **total_eq_sum** — the handshake credits, in total, exactly the sum of the genesis accounts registered
    at that moment (the voucher supply of the rollapp's denom on the hub), and no later op changes that
    total. -/
theorem total_eq_sum {s : St} {c r : Nat} {ra : Ra} (hs : Reachable s) (hc : CanonChan s c r)
    (hg : getRa s r = some ra) (h0 : ra.nOpen = 0) (ph : Nat) (hph : 0 < ph) (p : Pkt)
    (hok : (step s (.recv c ph p)).2 = .ok) (ops : List Op) :
    ∃ ra', getRa (run (step s (.recv c ph p)).1 ops) r = some ra' ∧
      totalBal ra'.bal = sumAccs ra.gi.accounts ∧ ra'.tph = ph ∧ ra'.nOpen = 1 := by
  rcases recv_closed_cases hs hc hg h0 ph p with ⟨e, h⟩ | ⟨d, bal', _, hm, _, hcr, _, _, hget⟩
  · rw [h] at hok; cases hok
  · obtain ⟨_, htot⟩ := credit_total d.gi.accounts [] bal' (by simp) hcr
    obtain ⟨ra', hg', h1, h2, h3, _⟩ := opened_stays_open hget (Nat.pos_iff_ne_zero.1 hph) ops
    refine ⟨ra', hg', ?_, h1, ?_⟩
    · rw [h2]
      show totalBal bal' = _
      rw [htot, sumAccs_perm hm.2.2.2.2.1]
      simp [totalBal]
    · rw [h3]
      show ra.nOpen + 1 = 1
      rw [h0]

-- ------------------------------------------------------------------------------------------------ pre-registered metadata

/-- **preregistered_metadata_blocks_handshake** — when bank metadata of the rollapp's IBC denom is
    registered before the handshake (governance `CreateDenomMetadataProposal`; `premd`), the handshake's
    own `CreateDenomMetadata` fails: every packet on the closed canonical channel of a rollapp with a
    native denom gets an error acknowledgement and the state stays as it is — the bridge cannot open
    while the registered genesis info keeps its native denom. -/
theorem preregistered_metadata_blocks_handshake {s : St} {c r : Nat} {ra : Ra} (hs : Reachable s) (hc : CanonChan s c r)
    (hg : getRa s r = some ra) (h0 : ra.nOpen = 0) (hmd : ra.md = true) (hd : ra.gi.denom.isSet = true)
    (ph : Nat) (p : Pkt) : ∃ e, step s (.recv c ph p) = (s, .rerr e) := by
  rcases recv_closed_cases hs hc hg h0 ph p with h | ⟨_, _, _, _, hn, _⟩
  · exact h
  · have := hn hd
    rw [hmd] at this
    cases this

/-- the registration itself is possible only once, needs a recorded canonical channel and a native denom,
    and leaves the bridge closed -/
theorem premd_accepted {s : St} {r : Nat} (hok : (step s (.premd r)).2 = .ok) :
    ∃ ra, getRa s r = some ra ∧ ra.chan.isSome = true ∧ ra.gi.denom.isSet = true ∧ ra.md = false ∧
      step s (.premd r) = (setRa s { ra with md := true }, .ok) := by
  obtain ⟨ra, _, hg, hw, he⟩ := (premd_errOrWrites s r).ok hok
  cases hw with
  | premd h1 h2 h3 => exact ⟨ra, hg, h1, h2, h3, he⟩

-- ------------------------------------------------------------------------------------------------ non-vacuity

/-- metadata registered by governance between the channel opening and the handshake: the matching packet is refused
    with `mdExists` and the bridge stays closed; without the registration the same packet opens it -/
example : (step (run init (ops0 ++ [.premd 0])) (.recv 0 7 pkt0)).2 = .rerr .mdExists ∧
    (step (run init ops0) (.recv 0 7 pkt0)).2 = .ok ∧ (step (run init ops0) (.premd 0)).2 = .ok ∧
    (step (run init (ops0 ++ [.premd 0])) (.premd 0)).2 = .err ∧ (step (run init [.create 0 (some gi0), .seq 0, .canon 0]) (.premd 0)).2 = .err := by decide +kernel

/-- launch, canonical client, then a channel opened from the rollapp side (Try/Confirm) and one through a
    nested `MsgChannelOpenAck`: two open channels over the canonical client, no canonical channel recorded -/
def opsNoChan : List Op := [.create 0 (some gi0), .seq 0, .canon 0, .chopen 0 2, .chopen 0 1]
theorem opsNoChan_ok : AllPhOk opsNoChan := by
  intro op hop; simp [opsNoChan] at hop; rcases hop with rfl | rfl | rfl | rfl | rfl <;> trivial

example : Reachable (run init opsNoChan) ∧ OverClient (run init opsNoChan) 0 0 ∧ OverClient (run init opsNoChan) 1 0 ∧
    (getRa (run init opsNoChan) 0).map (fun ra => (ra.linked, ra.chan, ra.nOpen)) = some (true, none, 0) :=
  ⟨⟨opsNoChan, opsNoChan_ok, rfl⟩, ⟨0, _, by decide +kernel, Or.inr rfl⟩, ⟨1, _, by decide +kernel, Or.inr rfl⟩, by decide +kernel⟩
/-- nothing goes out, an ordinary transfer and the matching handshake packet are both refused with `noChannel` -/
example : (step (run init opsNoChan) (.send 0)).2 = .err ∧ (step (run init opsNoChan) (.send 1)).2 = .err := by decide +kernel
example : (step (run init opsNoChan) (.recv 0 7 (.ft ⟨1, 5, true, 1, true⟩))).2 = .rerr .noChannel := by decide +kernel
example : (step (run init opsNoChan) (.recv 1 7 pkt0)).2 = .rerr .noChannel := by decide +kernel
/-- the top-level ack then records channel 2 as canonical; the earlier channels stay shut (`notCanonical`), the handshake
    runs on channel 2 only, and afterwards transfers flow on 2 and still not on 0 / 1 -/
example : (getRa (run init (opsNoChan ++ [.chopen 0 0])) 0).map (·.chan) = some (some 2) := by decide +kernel
example : (step (run init (opsNoChan ++ [.chopen 0 0])) (.recv 0 7 pkt0)).2 = .rerr .notCanonical := by decide +kernel
example : (step (run init (opsNoChan ++ [.chopen 0 0])) (.send 2)).2 = .err := by decide +kernel
example : (step (run init (opsNoChan ++ [.chopen 0 0])) (.recv 2 7 pkt0)).2 = .ok := by decide +kernel
example : (step (run init (opsNoChan ++ [.chopen 0 0, .recv 2 7 pkt0])) (.send 2)).2 = .ok ∧
    (step (run init (opsNoChan ++ [.chopen 0 0, .recv 2 7 pkt0])) (.send 0)).2 = .err ∧
    (step (run init (opsNoChan ++ [.chopen 0 0, .recv 2 7 pkt0])) (.recv 1 8 (.ft ⟨1, 5, true, 1, true⟩))).2 = .rerr .notCanonical := by decide +kernel
/-- a second top-level ack is refused and spends the identifier: the next channel is 4 -/
example : (step (run init (opsNoChan ++ [.chopen 0 0])) (.chopen 0 0)).2 = .err ∧
    (run init (opsNoChan ++ [.chopen 0 0, .chopen 0 0, .chopen 0 2])).chans.map (·.1) = [0, 1, 2, 4] := by decide +kernel
/-- the total credited by `pkt0` is the registered 30, also after more ops -/
example : (getRa (run init (opsNoChan ++ [.chopen 0 0, .recv 2 7 pkt0, .recv 2 8 pkt0, .tick 5, .chopen 0 1])) 0).map
    (fun ra => (totalBal ra.bal, ra.tph, ra.nOpen)) = some (30, 7, 1) := by decide +kernel

end DymVerif.Props.C10
