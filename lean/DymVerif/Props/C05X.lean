/-
  Props/C05X — eIBC orders, the strengthened order/packet link over all histories.
  `order_packet_bijection` (Props/C05) ties an order to a packet by key only; here the order's ghost
  fields are tied to the packet's contents, for every PENDING order of every reachable state:
  amount, kind (received: bridging fee), recipient = the packet's original transfer target,
  fulfilled ⇔ the packet has been redirected.  Hypotheses: the invariants of C04 / C05 on the
  initial state and uint64 heights / sequences (`BoundedOp`), exactly those of
  `C04.pending_retrievable_by_address` (a key collision of a new acknowledgement / timeout packet
  with a stored one is excluded through `IdxInv`).
  FINALIZED orders are not covered (see Lemmas/PacketsLinkX).
-/
import DymVerif.Props.C05
import DymVerif.Lemmas.PacketsLinkX
import DymVerif.Props.C04Persist
namespace DymVerif.C05X
open DymVerif DymVerif.Keys DymVerif.Packets

/-- the initial state of a run satisfies all four invariants when its channel table is well formed -/
theorem init_ok (n : Nat) (fund : Int) (a b c : Dec) (r0 r1 : Bytes) (ch : List Chan)
    (hc : CfgOk (initSt n fund a b c r0 r1 ch)) : InvAll (initSt n fund a b c r0 r1 ch) where
  i4 := (inv_init_both n fund a b c r0 r1 ch).1
  i5 := (inv_init_both n fund a b c r0 r1 ch).2
  idx := C04.idx_init n fund a b c r0 r1 ch hc
  x := by intro o ho; cases ho

/-- **order_linked_x** — in every reachable state every pending demand order refers to the stored
    packet under its tracking key, which is pending, whose key is the order's id, and
    * the order's (ghost) amount is the packet's amount,
    * the order's (ghost) `withBf` says whether the packet is a received one,
    * the order's recipient is the packet's original transfer target (`orig`, or `target` while the
      packet has not been redirected),
    * the order carries a fulfiller iff the packet has been redirected,
    * the packet is not one the packet-forward middleware sent (`fwd = none`): the history-level form of
      `forwarded_gets_no_order`; `p.fwd = none` is a conclusion here, where `finalize_pays_fulfiller_partial` assumes it. -/
theorem order_linked_x (s0 : St) (h0 : InvAll s0) (ops : List Op) (hb : ∀ o ∈ ops, BoundedOp o) :
    ∀ o ∈ (run s0 ops).orders, o.status = .pending →
      ∃ p, getPacket (run s0 ops) o.trackingKey = some p ∧ p.status = o.status ∧ pendKeyOf p = o.id ∧
        o.amount = p.amount ∧ o.withBf = (p.ptype == .onRecv) ∧ o.recipient = p.orig.getD p.target ∧
        (o.fulfiller.isSome ↔ p.orig.isSome) ∧ p.fwd = none := by
  intro o ho hs
  have h := invAll_run ops hb h0
  obtain ⟨p, hp, hl⟩ := h.x o ho hs
  refine ⟨p, hl.key ▸ getPacket_of_mem (InvF.keys h.i4) hp, hl.pend.trans hs.symm, ?_, hl.amount, hl.withBf,
    hl.recipient, hl.fulfiller, hl.nofwd⟩
  rw [pendKeyOf_of_pending hl.pend]; exact hl.id

/-- **price_identity_real_amount** — in every reachable state, for every pending order:
    price + fee + ⌊bridging fee · amount⌋ = amount where `amount` is the transfer amount of the PACKET
    the order tracks (the bridging fee only when that packet is a received one); price > 0, fee ≥ 0 -/
theorem price_identity_real_amount (s0 : St) (h0 : InvAll s0) (ops : List Op) (hb : ∀ o ∈ ops, BoundedOp o) :
    ∀ o ∈ (run s0 ops).orders, o.status = .pending →
      ∃ p, getPacket (run s0 ops) o.trackingKey = some p ∧ 0 < o.price ∧ 0 ≤ o.fee ∧
        o.price + o.fee + (if p.ptype == .onRecv then bridgingFeeOf (run s0 ops) p.amount else 0) = p.amount := by
  intro o ho hs
  have h := invAll_run ops hb h0
  obtain ⟨p, hp, hl⟩ := h.x o ho hs
  obtain ⟨h1, h2, h3⟩ := h.i5.price o ho
  refine ⟨p, hl.key ▸ getPacket_of_mem (InvF.keys h.i4) hp, h1, h2, ?_⟩
  rw [hl.withBf, hl.amount] at h3
  exact h3

/-- the order `id` of a reachable state and the packet it tracks -/
theorem order_packet (s0 : St) (h0 : InvAll s0) (ops : List Op) (hb : ∀ o ∈ ops, BoundedOp o) {id : Bytes} {o : Order}
    (ho : getOrder (run s0 ops) .pending id = some o) :
    ∃ p, getPacket (run s0 ops) id = some p ∧ LinkP p o := by
  have h := invAll_run ops hb h0
  obtain ⟨hm, hs, hi⟩ := getOrder_some ho
  obtain ⟨p, hp, hl⟩ := h.x o hm hs
  refine ⟨p, ?_, hl⟩
  rw [← hi, ← hl.id]
  exact getPacket_of_mem (InvF.keys h.i4) hp

/-- **fulfil_at_most_once_run** — in every reachable state: a pending order carries a fulfiller exactly
    when its packet has been redirected away from the order's recipient (the packet remembers the
    recipient as its original target), and then every fulfilment path and the fee update refuse it;
    an order without a fulfiller has a packet that still names the recipient. -/
theorem fulfil_at_most_once_run (s0 : St) (h0 : InvAll s0) (ops : List Op) (hb : ∀ o ∈ ops, BoundedOp o) {id : Bytes} {o : Order}
    (ho : getOrder (run s0 ops) .pending id = some o) :
    ∃ p, getPacket (run s0 ops) id = some p ∧
      (o.fulfiller.isSome = true →
        p.orig = some o.recipient ∧
        (∀ a fee s', msgFulfill (run s0 ops) a id fee ≠ .ok s') ∧ (∀ perm s', msgOnDemand (run s0 ops) id perm ≠ .ok s') ∧
        (∀ g m s', m.orderId = id → msgFulfillAuthorized (run s0 ops) g m ≠ .ok s') ∧
        (∀ a fee s', msgUpdateFee (run s0 ops) a id fee ≠ .ok s')) ∧
      (o.fulfiller = none → p.orig = none ∧ p.target = o.recipient) := by
  obtain ⟨p, hp, hl⟩ := order_packet s0 h0 ops hb ho
  refine ⟨p, hp, ?_, ?_⟩
  · intro hf
    refine ⟨?_, C05.fulfil_at_most_once ho hf⟩
    have h1 := hl.fulfiller.mp hf
    have h2 := hl.recipient
    cases hh : p.orig with
    | none => rw [hh] at h1; simp at h1
    | some x => rw [hh] at h2; rw [h2]; rfl
  · intro hf
    have h1 := hl.fulfiller
    have h2 := hl.recipient
    rw [hf] at h1
    cases hh : p.orig with
    | none => rw [hh] at h2; exact ⟨rfl, h2.symm⟩
    | some x => rw [hh] at h1; simp at h1

/-- **finalize_pays_fulfiller_run** — finalization of the packet of a fulfilled order in a reachable
    state: the packet names the party the fulfilment redirected it to and remembers the order's
    recipient as its original target; what is released is the packet's whole amount, which is the
    order's price + fee (+ bridging fee for a received packet); the packet is not a packet-forward
    (`p.fwd = none` is a conclusion); and no balance other than that target's and the channel escrow's
    changes — in particular the order's recipient, paid at fulfilment, receives nothing more. -/
theorem finalize_pays_fulfiller_run (s0 : St) (h0 : InvAll s0) (ops : List Op) (hb : ∀ o ∈ ops, BoundedOp o)
    {k : Bytes} {o : Order} {s' : St}
    (ho : getOrder (run s0 ops) .pending k = some o) (hf : o.fulfiller.isSome = true)
    (hfin : finalizePacket (run s0 ops) k = .ok s') :
    ∃ p, getPacket (run s0 ops) k = some p ∧ p.orig = some o.recipient ∧
      o.price + o.fee + (if p.ptype == .onRecv then bridgingFeeOf (run s0 ops) p.amount else 0) = p.amount ∧
      p.fwd = none ∧
      (∀ a' d', a' ≠ p.target → a' ≠ escrowAcct p.chan →
        getBal s'.bal a' d' = getBal (run s0 ops).bal a' d') := by
  obtain ⟨p, hp, hfu, _⟩ := fulfil_at_most_once_run s0 h0 ops hb ho
  obtain ⟨hm, hs, _⟩ := getOrder_some ho
  obtain ⟨p1, hp1, _, _, hpr⟩ := price_identity_real_amount s0 h0 ops hb o hm hs
  obtain ⟨p2, hp2, hl⟩ := order_packet s0 h0 ops hb ho
  obtain ⟨p3, hp3, hbal⟩ := C05.finalize_pays_fulfiller hfin
  have e2 : p2 = p := Option.some.inj (hp2.symm.trans hp)
  have e3 : p3 = p := Option.some.inj (hp3.symm.trans hp)
  have hk : o.trackingKey = k := hl.key.symm.trans (hl.id.trans (getOrder_some ho).2.2)
  rw [hk] at hp1
  have e1 : p1 = p := Option.some.inj (hp1.symm.trans hp)
  rw [e1] at hpr
  rw [e3] at hbal
  have hfw : p.fwd = none := e2 ▸ hl.nofwd
  refine ⟨p, hp, (hfu hf).1, hpr, hfw, ?_⟩
  intro a' d' h1 h2
  exact hbal a' d' h1 h2 (fun r hr => by rw [hfw] at hr; cases hr)

-- ================================================================== a fulfilled order is frozen

/-- **fulfiller_persists (one operation)** — a pending order that carries a fulfiller and is still
    pending (under its id) after an operation is the very same record: same fulfiller, and also the same
    price, fee and recipient.  (It can only leave the pending orders: finalization of its packet turns it
    FINALIZED, epoch clean-up / hard fork delete it.) -/
theorem fulfiller_persists_step (s : St) (op : Op) (hb : BoundedOp op) (h : InvAll s) {o o' : Order}
    (ho : o ∈ s.orders) (hs : o.status = .pending) (hf : o.fulfiller.isSome = true)
    (ho' : o' ∈ (step s op).1.orders) (hs' : o'.status = .pending) (hid : o'.id = o.id) : o' = o :=
  fulfilled_frozen_step op hb h ho hs hf ho' hs' hid

/-- the order id `id` is the id of a pending order after every operation of the history -/
def StaysPending (id : Bytes) : St → List Op → Prop
  | _, [] => True
  | s, op :: rest => (∃ o' ∈ (step s op).1.orders, o'.status = .pending ∧ o'.id = id) ∧ StaysPending id (step s op).1 rest

/-- **fulfiller_persists** — through any history during which the order stays pending, a fulfilled
    order is unchanged: in the final state it is still there with the same fulfiller (so, by
    `fulfil_at_most_once_run`, it was never fulfilled a second time and its packet still remembers the
    recipient as its original target) -/
theorem fulfiller_persists : ∀ (ops : List Op) (s : St), (∀ o ∈ ops, BoundedOp o) → InvAll s →
    ∀ o ∈ s.orders, o.status = .pending → o.fulfiller.isSome = true → StaysPending o.id s ops →
    o ∈ (run s ops).orders
  | [], _, _, _, _, ho, _, _, _ => ho
  | op :: rest, s, hb, h, o, ho, hs, hf, hst => by
    have hbo := hb op (List.mem_cons_self ..)
    obtain ⟨⟨o', ho', hs', hid⟩, hrest⟩ := hst
    have e : o' = o := fulfilled_frozen_step op hbo h ho hs hf ho' hs' hid
    rw [e] at ho'
    exact fulfiller_persists rest (step s op).1 (fun x hx => hb x (List.mem_cons_of_mem _ hx)) (invAll_step op hbo h)
      o ho' hs hf hrest

-- ================================================================== the redirected packet is frozen

/-- **beneficiary_persists (one operation)** — a pending packet that a fulfilment has redirected
    (`orig` set: `target` is the fulfiller / the LP) is, after any operation, still stored as the very
    same record — same target, same original target, same amount — unless the operation is its own
    accepted finalization or a hard fork whose range contains it.  So the packet names the party the
    fulfilment redirected it to until it is finalized or reverted. -/
theorem beneficiary_persists_step (s : St) (op : Op) (hb : BoundedOp op) (h : InvAll s) (p : Packet)
    (hp : p ∈ s.packets) (hs : p.status = .pending) (ho : p.orig.isSome = true) :
    p ∈ (step s op).1.packets ∨ C04.FinalizesKey s op (pkey p) ∨ C04.ForksKey op (pkey p) := by
  rcases C04.pending_persists s op hb h.i4 h.idx p hp hs with h1 | h1 | h1
  · obtain ⟨p', hp', hk, hs', _⟩ := h1
    have e : p' = p := redirected_frozen_step op hb h hp ho hp' hs' hk
    exact Or.inl (e ▸ hp')
  · exact Or.inr (Or.inl h1)
  · exact Or.inr (Or.inr h1)

/-- **beneficiary_persists** — through any history that neither finalizes the packet nor forks its
    rollapp below its proof height, a redirected pending packet is unchanged: in the final state it still
    names the same target -/
theorem beneficiary_persists : ∀ (ops : List Op) (s : St), (∀ o ∈ ops, BoundedOp o) → InvAll s →
    ∀ p ∈ s.packets, p.status = .pending → p.orig.isSome = true →
    (∀ (pre : List Op) (o : Op) (post : List Op), ops = pre ++ o :: post →
        ¬ C04.FinalizesKey (run s pre) o (pkey p) ∧ ¬ C04.ForksKey o (pkey p)) →
    p ∈ (run s ops).packets
  | [], _, _, _, _, hp, _, _, _ => hp
  | o :: rest, s, hb, h, p, hp, hs, ho, hno => by
    have hbo := hb o (List.mem_cons_self ..)
    obtain ⟨n1, n2⟩ := hno [] o rest rfl
    rcases beneficiary_persists_step s o hbo h p hp hs ho with h1 | h1 | h1
    · exact beneficiary_persists rest (step s o).1 (fun x hx => hb x (List.mem_cons_of_mem _ hx)) (invAll_step o hbo h)
        p h1 hs ho (by
          intro pre o' post e
          exact hno (o :: pre) o' post (by rw [e]; rfl))
    · exact absurd h1 n1
    · exact absurd h1 n2

-- ================================================================== non-vacuity

/-- after the direct fulfilment of the first demo order by account 2: its packet is redirected to 2 and
    remembers the recipient 0; the second order is untouched -/
example : ((step (run C05.f6Init C05.demoOps) (.fulfill 2 C05.f6Key 1)).1.packets.map (fun p => (p.target, p.orig, p.amount))) =
    [(2, some 0, 1000), (0, none, 500)] := by decide +kernel
example : ((step (run C05.f6Init C05.demoOps) (.fulfill 2 C05.f6Key 1)).1.orders.map
    (fun o => (o.recipient, o.fulfiller, o.amount))) = [(0, some 2, 1000), (0, none, 500)] := by decide +kernel

/-- the fulfilled order stays as it is through a later accepted operation on the other order -/
example : ((step (step (run C05.f6Init C05.demoOps) (.fulfill 2 C05.f6Key 1)).1 (.updateFee 0 C05.demoKey2 10)).1.orders.map
    (fun o => (o.id == C05.f6Key, o.status, o.fulfiller, o.fee))) = [(true, .pending, some 2, 1), (false, .pending, none, 10)] := by decide +kernel

end DymVerif.C05X
