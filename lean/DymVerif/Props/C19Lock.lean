/-
  Props/C19Lock — C19 for the lockup scans of the module balance and the per-account queries:
  `LockIterator`, `LockIteratorAfterTime` (module balance), `AccountLockIteratorAfterTime`
  (`GetAccountUnlockingCoins`, `GetAccountLockedCoins`, `GetAccountLockedPastTime`),
  `AccountLockIteratorLongerDuration` (`GetAccountLockedLongerDuration…`),
  `AccountLockIteratorAfterTimeDenom`, `AccountLockIteratorLongerDurationDenom`
  (`GetAccountLockedPastTimeDenom`, `GetAccountLockedLongerDurationDenom`),
  `AccountLockIteratorDurationDenom` (`GetAccountLockedDurationNotUnlockingOnly`).
  Owners: any bytes (also 0xFF), equal address length; denoms: non-empty, no byte 0xFF.
-/
import DymVerif.Props.C19
import DymVerif.Lemmas.KeysLock
namespace DymVerif.C19
open DymVerif DymVerif.Keys

/-- `LockIterator(u)` (the module-balance scan of not-unlocking locks): every family-0x07 entry of the
    same unlocking status and none of the other status -/
theorem lockup_all_locks_scan_exact (u u' : Bool) (d : Int) (id : Nat) :
    isPrefix (iterPrefix (lkFamilyPrefix u 7 [])).1 (lockRefStoreKey u' (combineKeys [[7], lkDurationKey d]) id)
      = decide (u = u') := by
  cases u <;> cases u' <;> rfl

/-- `LockIteratorAfterTime(T)` (the module-balance scan of unlocking locks): exactly the entries whose
    end time is strictly after `T` -/
theorem lockup_after_time_scan_exact (T t : TimeF) (id : Nat) (hT : T.InRange) (ht : t.InRange) :
    inRangeO (iterAfterTime (lkFamilyPrefix true 11 []) T).1 (iterAfterTime (lkFamilyPrefix true 11 []) T).2
      (lockRefStoreKey true (combineKeys [[11], lkTimeKey t]) id) = lexLt T.fields t.fields := by
  rw [iterAfterTime_eq _ T hT]
  simp only [lockRefStoreKey_family, combineKeys, List.append_assoc, List.cons_append, List.nil_append]
  rw [inRangeO_eq, below_prefixEnd_self, Bool.and_true, lexLe, lexLt_append_left, lexLt_cons_self,
    timeKey_tail_lt T t hT ht, Bool.not_not]

/-- `AccountLockIteratorAfterTime(A, T)`: exactly owner `A` and end time strictly after `T` -/
theorem lockup_account_after_time_scan_exact (A B : Bytes) (T t : TimeF) (id : Nat)
    (hl : A.length = B.length) (hB : Bytes.WF B) (hT : T.InRange) (ht : t.InRange) :
    inRangeO (iterAfterTime (lkFamilyPrefix true 12 [A]) T).1 (iterAfterTime (lkFamilyPrefix true 12 [A]) T).2
      (lockRefStoreKey true (combineKeys [[12], B, lkTimeKey t]) id) =
      (decide (B = A) && lexLt T.fields t.fields) := by
  rw [iterAfterTime_eq _ T hT]
  simp only [lkFamilyPrefix_cons, lockRefStoreKey_family, combineKeys, List.append_assoc, List.cons_append,
    List.nil_append]
  rw [eqlen_tail_range _ A B _ _ hl hB, lexLe, timeKey_tail_lt T t hT ht, Bool.not_not]

/-- `AccountLockIteratorLongerDuration(u, A, d)`: exactly owner `A` and duration `≥ d` -/
theorem lockup_account_longer_duration_scan_exact (u : Bool) (A B : Bytes) (d d' : Int) (id : Nat)
    (hl : A.length = B.length) (hB : Bytes.WF B) (h0 : 0 ≤ d) (h0' : 0 ≤ d') (h : d < 2 ^ 63) (h' : d' < 2 ^ 63) :
    inRangeO (iterLongerDuration (lkFamilyPrefix u 8 [A]) d).1 (iterLongerDuration (lkFamilyPrefix u 8 [A]) d).2
      (lockRefStoreKey u (combineKeys [[8], B, lkDurationKey d']) id) = (decide (B = A) && decide (d ≤ d')) := by
  rw [iterLongerDuration_eq]
  simp only [lkFamilyPrefix_cons, lockRefStoreKey_family, combineKeys, List.append_assoc, List.cons_append,
    List.nil_append]
  rw [eqlen_tail_range _ A B _ _ hl hB, durKey_tail_le d d' h0 h0' (by omega) (by omega)]

/-- `AccountLockIteratorAfterTimeDenom(A, denom, T)`: exactly owner `A`, exactly that denom (also when
    one denom extends the other), end time strictly after `T` -/
theorem lockup_account_denom_after_time_scan_exact (A B dn dn' : Bytes) (T t : TimeF) (id : Nat)
    (hl : A.length = B.length) (hne : dn ≠ []) (hd : ∀ c ∈ dn, c < 255) (hd' : ∀ c ∈ dn', c < 255)
    (hT : T.InRange) (ht : t.InRange) :
    inRangeO (iterAfterTime (lkFamilyPrefix true 14 [A, dn]) T).1 (iterAfterTime (lkFamilyPrefix true 14 [A, dn]) T).2
      (lockRefStoreKey true (combineKeys [[14], B, dn', lkTimeKey t]) id) =
      (decide (B = A) && (decide (dn' = dn) && lexLt T.fields t.fields)) := by
  have hend : prefixEnd (lkFamilyPrefix true 14 [A, dn]) = _ := prefixEnd_lkFamilyPrefix_snoc true 14 [A] hne hd
  rw [iterAfterTime_eq _ T hT, hend]
  simp only [lkFamilyPrefix_cons, lockRefStoreKey_family, combineKeys, List.append_assoc, List.cons_append,
    List.nil_append, inRangeO_some, inRange_prefix, inRange_cons]
  rw [eqlen_head_range A B _ _ _ hl, inRange_cons, sepmax_range dn dn' _ _ hne hd hd', lexLe,
    timeKey_tail_lt T t hT ht, Bool.not_not]

/-- `AccountLockIteratorLongerDurationDenom(u, A, denom, d)`: exactly owner `A`, exactly that denom,
    duration `≥ d` -/
theorem lockup_account_denom_longer_duration_scan_exact (u : Bool) (A B dn dn' : Bytes) (d d' : Int) (id : Nat)
    (hl : A.length = B.length) (hne : dn ≠ []) (hd : ∀ c ∈ dn, c < 255) (hd' : ∀ c ∈ dn', c < 255)
    (h0 : 0 ≤ d) (h0' : 0 ≤ d') (h : d < 2 ^ 63) (h' : d' < 2 ^ 63) :
    inRangeO (iterLongerDuration (lkFamilyPrefix u 10 [A, dn]) d).1 (iterLongerDuration (lkFamilyPrefix u 10 [A, dn]) d).2
      (lockRefStoreKey u (combineKeys [[10], B, dn', lkDurationKey d']) id) =
      (decide (B = A) && (decide (dn' = dn) && decide (d ≤ d'))) := by
  have hend : prefixEnd (lkFamilyPrefix u 10 [A, dn]) = _ := prefixEnd_lkFamilyPrefix_snoc u 10 [A] hne hd
  rw [iterLongerDuration_eq, hend]
  simp only [lkFamilyPrefix_cons, lockRefStoreKey_family, combineKeys, List.append_assoc, List.cons_append,
    List.nil_append, inRangeO_some, inRange_prefix, inRange_cons]
  rw [eqlen_head_range A B _ _ _ hl, inRange_cons, sepmax_range dn dn' _ _ hne hd hd',
    durKey_tail_le d d' h0 h0' (by omega) (by omega)]

/-- `AccountLockIteratorDurationDenom(u, A, denom, d)`: exactly owner `A`, that denom, that duration -/
theorem lockup_account_denom_duration_scan_exact (u : Bool) (A B dn dn' : Bytes) (d d' : Int) (id : Nat)
    (hl : A.length = B.length) (hd : ∀ c ∈ dn, c < 255) (hd' : ∀ c ∈ dn', c < 255)
    (h0 : 0 ≤ d) (h0' : 0 ≤ d') (h : d < 2 ^ 63) (h' : d' < 2 ^ 63) :
    isPrefix (iterDuration (lkFamilyPrefix u 10 [A, dn]) d).1
      (lockRefStoreKey u (combineKeys [[10], B, dn', lkDurationKey d']) id) =
      (decide (A = B) && (decide (dn = dn') && decide (d = d'))) := by
  simp only [iterDuration_fst, lkFamilyPrefix_cons, lockRefStoreKey_family, combineKeys, List.append_assoc, List.cons_append,
    List.nil_append, isPrefix_append_left, isPrefix_cons_self]
  rw [eqlen_isPrefix_head A B _ _ hl, isPrefix_cons_self, isPrefix_sep 255 dn dn' _ _ (fun h => Nat.lt_irrefl _ (hd _ h)) (fun h => Nat.lt_irrefl _ (hd' _ h)),
    durKey_isPrefix d d' h0 h0' (by omega) (by omega)]

-- non-vacuity: a 20-byte owner with 0xFF bytes, denoms that extend one another
example : inRangeO (iterLongerDuration (lkFamilyPrefix false 10 [List.replicate 20 255, [112, 47, 49]]) 5).1
    (iterLongerDuration (lkFamilyPrefix false 10 [List.replicate 20 255, [112, 47, 49]]) 5).2
    (lockRefStoreKey false (combineKeys [[10], List.replicate 20 255, [112, 47, 49], lkDurationKey 7]) 3) = true ∧
  inRangeO (iterLongerDuration (lkFamilyPrefix false 10 [List.replicate 20 255, [112, 47, 49]]) 5).1
    (iterLongerDuration (lkFamilyPrefix false 10 [List.replicate 20 255, [112, 47, 49]]) 5).2
    (lockRefStoreKey false (combineKeys [[10], List.replicate 20 255, [112, 47, 49, 48], lkDurationKey 7]) 3) = false := by decide +kernel

/-! ### families and unlocking status do not mix -/

/-- every reference key of a lock starts with its family byte 0x07..0x0E and the separator -/
theorem lock_ref_keys_family (l : LockK) (k : Bytes) (hk : k ∈ lockRefKeys l) :
    ∃ f rest, k = f :: 255 :: rest ∧ 7 ≤ f ∧ f ≤ 14 := by
  rcases (lock_ref_keys_mem l k).mp hk with h | h | ⟨dn, _, h | h⟩ | h | h | ⟨dn, _, h | h⟩ <;>
    (subst h; simp only [combineKeys, List.cons_append, List.nil_append]) <;>
    exact ⟨_, _, rfl, by omega, by omega⟩

/-- a prefix scan of family `f` under unlocking status `u` (whatever owner / denom components follow)
    matches a stored reference key only of the same family and the same status -/
theorem lockup_family_prefix_disjoint (u u' : Bool) (f f' : Nat) (comps : List Bytes) (rest : Bytes) (id : Nat)
    (h : isPrefix (lkFamilyPrefix u f comps) (lockRefStoreKey u' (f' :: 255 :: rest) id) = true) :
    u = u' ∧ f = f' := by
  have h' : isPrefix (lkFamilyPrefix u f []) (lockRefStoreKey u' (f' :: 255 :: rest) id) = true := by
    cases comps with
    | nil => exact h
    | cons c cs =>
      obtain ⟨r, e⟩ := (isPrefix_iff _ _).1 h
      rw [lkFamilyPrefix_cons, List.append_assoc] at e
      exact (isPrefix_iff _ _).2 ⟨_, e⟩
  cases u <;> cases u' <;>
    simp [lkFamilyPrefix, combineKeys, unlockingPrefix, lockRefStoreKey, isPrefix] at h' ⊢ <;> omega

/-- the range scans bounded above by `PrefixEndBytes(prefix)` (`iteratorAfterTime`,
    `iteratorLongerDuration`, `iteratorDuration`, `iterator`) return only keys that carry the prefix —
    hence, by `lockup_family_prefix_disjoint`, only keys of their own family and unlocking status -/
theorem lockup_scan_within_prefix (pfx s k : Bytes) (hk : Bytes.WF k)
    (h : inRangeO (pfx ++ s) (prefixEnd pfx) k = true) : isPrefix pfx k = true :=
  isPrefix_of_inRangeO pfx s [] k hk (by rwa [List.append_nil])

end DymVerif.C19
