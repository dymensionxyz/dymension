/-
  Props/C04Persist — C04 "while pending it remains retrievable": **pending_persists**.  For every
  operation, a pending packet is still stored afterwards under the same key, PENDING, unchanged except
  possibly for `target` / `orig` (a fulfilment), unless the operation is its own accepted finalization or
  a hard fork whose range contains it; and the corollary for whole histories.
-/
import DymVerif.Lemmas.PacketsPersist
import DymVerif.Props.C04
namespace DymVerif.C04
open DymVerif DymVerif.Keys DymVerif.Packets

/-- **pending_persists** — one operation -/
theorem pending_persists (s : St) (op : Op) (hb : BoundedOp op) (h4 : Inv04 s) (hi : IdxInv s)
    (p : Packet) (hp : p ∈ s.packets) (hs : p.status = .pending) :
    Surv p (step s op).1 ∨ FinalizesKey s op (pkey p) ∨ ForksKey op (pkey p) :=
  surv_tr (step_tr s op) hb h4 hi hp hs

/-- **pending_persists (histories)** — through any history that neither finalizes the packet nor forks
    its rollapp below its proof height, a pending packet stays stored and pending (and retrievable by key
    and by its current beneficiary's address: `pending_retrievable_by_key`, `pending_retrievable_by_address`) -/
theorem pending_persists_run : ∀ (ops : List Op) (s : St), (∀ o ∈ ops, BoundedOp o) → Inv04 s → IdxInv s →
    ∀ p ∈ s.packets, p.status = .pending →
    (∀ (pre : List Op) (o : Op) (post : List Op), ops = pre ++ o :: post →
        ¬ FinalizesKey (run s pre) o (pkey p) ∧ ¬ ForksKey o (pkey p)) →
    Surv p (run s ops)
  | [], s, _, _, _, p, hp, hs, _ => Surv.of_mem hp hs
  | o :: rest, s, hb, h4, hi, p, hp, hs, hno => by
    have hbo := hb o (List.mem_cons_self ..)
    obtain ⟨n1, n2⟩ := hno [] o rest rfl
    rcases pending_persists s o hbo h4 hi p hp hs with h | h | h
    · obtain ⟨p', hp', hsm⟩ := h
      have ih := pending_persists_run rest (step s o).1 (fun x hx => hb x (List.mem_cons_of_mem _ hx))
        (inv_step o h4) (idx_step o hbo h4 hi) p' hp' hsm.2.1 (by
          intro pre o' post e
          rw [hsm.1]
          exact hno (o :: pre) o' post (by rw [e]; rfl))
      obtain ⟨p'', hp'', hsm'⟩ := ih
      exact ⟨p'', hp'', hsm.trans hsm'⟩
    · exact absurd h n1
    · exact absurd h n2

/-- **finalizable_succeeds (histories)** — in every reachable state (well-formed channel table, uint64
    heights and sequences), once a pending packet's proof height is at or below its rollapp's latest
    finalized height, `MsgFinalizePacket` naming it succeeds, whoever sends it: the side conditions of
    `finalizable_succeeds` (unique keys, non-empty rollapp and channel ids) follow from the invariants. -/
theorem finalizable_succeeds_run (s0 : St) (h4 : Inv04 s0) (hi : IdxInv s0) (ops : List Op) (hb : ∀ o ∈ ops, BoundedOp o)
    (p : Packet) (hp : p ∈ (run s0 ops).packets) (hs : p.status = .pending)
    (f : Nat) (hf : finHeight (run s0 ops) p.rollappId = some f) (hph : p.proofHeight ≤ f) (a : Addr) :
    ∃ s', msgFinalize (run s0 ops) a p.rollappId p.proofHeight p.ptype p.srcChan p.seq = .ok s' := by
  have h4' := inv_run ops h4
  have hi' := idx_run ops hb h4 hi
  obtain ⟨hr, hc⟩ := (hi'.pk p hp).nonEmpty hi'.cfg
  exact finalizable_succeeds _ (InvF.keys h4') p hp hs f hf hph hr hc a

-- ------------------------------------------------------------------ non-vacuity

/-- the first packet of `cexOps` (to a1) after the fulfilment by a2: still stored under its key and pending, now
    naming a2 with `orig = a1` — the same packet up to the beneficiary rewrite -/
example : ((run cexInit (cexOps.take 2)).packets.map (fun p => (p.status, p.target, p.orig))) = [(.pending, 1, none), (.pending, 2, none)] ∧
    ((run cexInit (cexOps.take 3)).packets.map (fun p => (p.status, p.target, p.orig))) = [(.pending, 2, some 1), (.pending, 2, none)] := by decide +kernel
example : ∀ p ∈ (run cexInit (cexOps.take 2)).packets, ∃ p' ∈ (run cexInit (cexOps.take 3)).packets,
    pkey p' = pkey p ∧ p'.status = .pending ∧ { p' with target := p.target, orig := p.orig } = p := by decide +kernel
/-- the two exceptions occur: the last op of `cexOps` is the accepted finalization of the first packet's key … -/
example : (step (run cexInit (cexOps.take 5)) (.finalize 0 [114] 5 .onRecv [99, 55] 1)).2 = .ok ∧
    ((run cexInit cexOps).packets.map (fun p => p.status)) = [.pending, .finalized] := by decide +kernel
/-- … and a fork of the rollapp below the proof heights removes both pending packets -/
example : forkRange [114] 4 (rollappPacketKey .pending [114] 5 .onRecv [99, 55] 1) = true ∧
    (run cexInit (cexOps.take 3 ++ [.addState [114] 10, .fork [114] 4])).packets = [] := by decide +kernel

end DymVerif.C04
