/-
  Props/C14RefsX — C14, the index-driven queries of x/lockup at the LIST / SUM level (Model/LockupRefs).
  Props/C14Refs proves the reference walks correct up to membership; here, for every history of
  messages, blocks, restarts and parameter changes (signed by accounts that are not blocked), every
  query is the filtered lock table in the walk's own (key, lock id) order, or the sum over it.
-/
import DymVerif.Props.C14Refs
import DymVerif.Lemmas.LockupRefsSum
namespace DymVerif.C14
open DymVerif DymVerif.Lockup DymVerif.Genesis

/-- the reference-level state of a chain -/
abbrev rsOf (rc : RChain) : RState := ⟨rc.c.s, rc.refs⟩

/-- after any history `GetPeriodLocks`, computed as the keeper does (walk of the
    by-duration references of the not-unlocking queue, then of the unlocking queue, `GetLockByID` of
    every id), returns exactly the list `periodLocks` of the lock table — same locks, same order -/
theorem periodLocksR_eq (B : Actor → Bool) (p : Params) (bal : Actor → Denom → Nat) (now height : Nat)
    (ops : List COp) (hs : Signed B ops) :
    periodLocksR (rsOf (rcrun B (rcinit p bal now height) ops))
      = some (periodLocks (rcrun B (rcinit p bal now height) ops).c.s.locks) :=
  periodLocksR_list (rs := rsOf _) (reachable_rcinv B p bal now height ops hs).refs
    (reachable_rcinv B p bal now height ops hs).inv.nodup

/-- the list the reference walk yields at a restart is the exported
    genesis, and the restart imports exactly that list: exporting by the walk = exporting the list -/
theorem restartR_exports_by_refs (B : Actor → Bool) (p : Params) (bal : Actor → Denom → Nat) (now height : Nat)
    (ops : List COp) (hs : Signed B ops) :
    ∃ pl refs', periodLocksR (rsOf (rcrun B (rcinit p bal now height) ops)) = some pl ∧
      pl = (exportGenesis (rcrun B (rcinit p bal now height) ops).c.s).locks ∧
      importRefs pl [] = some refs' ∧
      restartR (rcrun B (rcinit p bal now height) ops)
        = (⟨restart (rcrun B (rcinit p bal now height) ops).c, refs'⟩, .out (.ok 0)) := by
  have hpl := periodLocksR_eq B p bal now height ops hs
  have hgood := (restartR_good (reachable_rcinv B p bal now height ops hs)).2.1
  generalize rcrun B (rcinit p bal now height) ops = rc at hpl hgood
  refine ⟨_, ?_, hpl, rfl, ?_⟩
  · exact ((importRefs (exportGenesis rc.c.s).locks []).getD [])
  · unfold restartR at hgood ⊢
    rw [show periodLocksR ⟨rc.c.s, rc.refs⟩ = some (periodLocks rc.c.s.locks) from hpl] at hgood ⊢
    dsimp only at hgood ⊢
    cases hi : importRefs (exportGenesis rc.c.s).locks [] with
    | none => rw [hi] at hgood; cases hgood
    | some r => exact ⟨hi, rfl⟩

/-- `GetAccountPeriodLocks` by the account-duration references = the owner's
    not-unlocking locks then the unlocking ones, each sorted by (duration, id) -/
theorem accountPeriodLocksR_eq (B : Actor → Bool) (p : Params) (bal : Actor → Denom → Nat) (now height : Nat)
    (ops : List COp) (hs : Signed B ops) (a : Actor) :
    accountPeriodLocksR (rsOf (rcrun B (rcinit p bal now height) ops)) a
      = some (accountPeriodLocks (rcrun B (rcinit p bal now height) ops).c.s.locks a) :=
  accountPeriodLocksR_list (rs := rsOf _) (reachable_rcinv B p bal now height ops hs).refs
    (reachable_rcinv B p bal now height ops hs).inv.nodup a

/-- the ids, in the walk's order -/
theorem accountPeriodLocksR_ids (B : Actor → Bool) (p : Params) (bal : Actor → Denom → Nat) (now height : Nat)
    (ops : List COp) (hs : Signed B ops) (a : Actor) :
    (accountPeriodLocksR (rsOf (rcrun B (rcinit p bal now height) ops)) a).map (·.map (·.id))
      = some ((accountPeriodLocks (rcrun B (rcinit p bal now height) ops).c.s.locks a).map (·.id)) := by
  rw [accountPeriodLocksR_eq B p bal now height ops hs a]; rfl

/-- `GetLocksLongerThanDurationDenom(denom, k)` by the
    denom-duration references = the locks of the denom with duration >= k, not-unlocking first, each
    queue sorted by (duration, id) -/
theorem locksLongerThanDurationDenomR_eq (B : Actor → Bool) (p : Params) (bal : Actor → Denom → Nat) (now height : Nat)
    (ops : List COp) (hs : Signed B ops) (d : Denom) (k : Nat) :
    locksLongerThanDurationDenomR (rsOf (rcrun B (rcinit p bal now height) ops)) d k
      = some (locksLongerThanDurationDenom (rcrun B (rcinit p bal now height) ops).c.s.locks d k) :=
  locksLongerThanDurationDenomR_list (rs := rsOf _) (reachable_rcinv B p bal now height ops hs).refs
    (reachable_rcinv B p bal now height ops hs).inv.nodup d k

/-- `GetAccountUnlockableCoins` (walk of the account's end-time references
    up to now) = Σ amount over the lock table of the owner's matured locks of the denom -/
theorem accountUnlockableCoinsR_eq (B : Actor → Bool) (p : Params) (bal : Actor → Denom → Nat) (now height : Nat)
    (ops : List COp) (hs : Signed B ops) (a : Actor) (d : Denom) :
    accountUnlockableCoinsR (rsOf (rcrun B (rcinit p bal now height) ops)) a d
      = some (total (fun l => (l.owner == a && matured (rcrun B (rcinit p bal now height) ops).c.s.now l) && l.denom == d)
          (rcrun B (rcinit p bal now height) ops).c.s.locks) :=
  accountUnlockableCoinsR_sum (rs := rsOf _) (reachable_rcinv B p bal now height ops hs).refs
    (reachable_rcinv B p bal now height ops hs).inv.nodup a d

/-- `GetAccountUnlockingCoins` (walk of the account's end-time references
    after now) = Σ amount of the owner's unlocking locks of the denom whose end time is still ahead -/
theorem accountUnlockingCoinsR_eq (B : Actor → Bool) (p : Params) (bal : Actor → Denom → Nat) (now height : Nat)
    (ops : List COp) (hs : Signed B ops) (a : Actor) (d : Denom) :
    accountUnlockingCoinsR (rsOf (rcrun B (rcinit p bal now height) ops)) a d
      = some (total (fun l => (l.owner == a && l.isUnlocking &&
                !matured (rcrun B (rcinit p bal now height) ops).c.s.now l) && l.denom == d)
          (rcrun B (rcinit p bal now height) ops).c.s.locks) :=
  accountUnlockingCoinsR_sum (rs := rsOf _) (reachable_rcinv B p bal now height ops hs).refs
    (reachable_rcinv B p bal now height ops hs).inv.nodup a d

/-- `GetAccountLockedCoins` (not-unlocking walk + unlocking-after-now walk)
    = Σ amount of the owner's locks of the denom that are not matured -/
theorem accountLockedCoinsR_eq (B : Actor → Bool) (p : Params) (bal : Actor → Denom → Nat) (now height : Nat)
    (ops : List COp) (hs : Signed B ops) (a : Actor) (d : Denom) :
    accountLockedCoinsR (rsOf (rcrun B (rcinit p bal now height) ops)) a d
      = some (total (fun l => l.owner == a && l.denom == d && !matured (rcrun B (rcinit p bal now height) ops).c.s.now l)
          (rcrun B (rcinit p bal now height) ops).c.s.locks) :=
  accountLockedCoinsR_sum (rs := rsOf _) (reachable_rcinv B p bal now height ops hs).refs
    (reachable_rcinv B p bal now height ops hs).inv.nodup a d

/-- locked + unlockable = everything the owner has locked in the denom: no lock is counted twice or
    missed by the two index-driven coin queries -/
theorem locked_plus_unlockable_is_all (B : Actor → Bool) (p : Params) (bal : Actor → Denom → Nat) (now height : Nat)
    (ops : List COp) (hs : Signed B ops) (a : Actor) (d : Denom) :
    ∃ x y, accountLockedCoinsR (rsOf (rcrun B (rcinit p bal now height) ops)) a d = some x ∧
      accountUnlockableCoinsR (rsOf (rcrun B (rcinit p bal now height) ops)) a d = some y ∧
      x + y = total (fun l => l.owner == a && l.denom == d) (rcrun B (rcinit p bal now height) ops).c.s.locks := by
  refine ⟨_, _, accountLockedCoinsR_eq B p bal now height ops hs a d,
    accountUnlockableCoinsR_eq B p bal now height ops hs a d, ?_⟩
  apply total_partition
  intro l
  cases h1 : (l.owner == a) <;> cases h2 : (l.denom == d) <;>
    cases h3 : matured (rcrun B (rcinit p bal now height) ops).c.s.now l <;> simp [weight, h1, h2, h3]

/-- the references of one lock — 4 duration references when it is not
    unlocking, 8 (duration and end time) when it is — are pairwise distinct store keys -/
theorem lock_ref_keys_nodup (l : Lockup.Lock) :
    (lockRefs l).Nodup ∧ (lockRefs l).length = (if l.isUnlocking then 8 else 4) :=
  ⟨lockRefs_nodup l, lockRefs_length l⟩

/-- **every walk inside one (queue, family, account, denom)** whose range is the locks satisfying `P`
    under the key `key` returns, in every reachable state, the filtered lock table sorted by (key, id) -/
theorem walk_in_key_id_order (B : Actor → Bool) (p : Params) (bal : Actor → Denom → Nat) (now height : Nat)
    (ops : List COp) (hs : Signed B ops) {Q F a d : Nat} {q : RefK → Bool} {key : Lockup.Lock → Nat}
    {P : Lockup.Lock → Bool} (hr : RangeOf Q F a d q key P) :
    getLocksFromIterator (rcrun B (rcinit p bal now height) ops).c.s.locks
        (walk (rcrun B (rcinit p bal now height) ops).refs q)
      = some (sortBy (keyLt key) ((rcrun B (rcinit p bal now height) ops).c.s.locks.filter P)) :=
  walk_range (reachable_rcinv B p bal now height ops hs).refs (reachable_rcinv B p bal now height ops hs).inv.nodup hr

/-! ## non-vacuity -/

example : (periodLocksR (rsOf (rcrun bMod rcBig opsBig))).map (·.map (·.id)) = some [1, 2, 3, 4] := by decide +kernel
example : (accountPeriodLocksR (rsOf (rcrun bMod rcBig opsBig)) 1).map (·.length) ≠ some 0 := by decide +kernel
example : lockRefs ⟨1, 9, 10, some 10, 0, 50, some 0⟩ ≠ [] := by decide +kernel

end DymVerif.C14
