/-
  Props/C17Gov — C17 across the governance paths of x/dymns (`MigrateChainIdsProposal`,
  `UpdateAliasesProposal`; keeper/proposal.go; `MsgUpdateParams`) which the message-level theorems of
  Props/C17 take as ordinary operations of a history (`Op.migrateChainIds`, `Op.updateAliases`,
  `Op.setParams`).

  * The chain-id migration rewrites name records with `SetDymName` and deliberately skips the
    Before/After config hooks.  The reverse indexes stay exact all the same
    (`migration_keeps_indexes`, and `reachable_inv` / `indexes_consistent_*` of Props/C17 hold for
    histories that contain migrations): the index keys depend on the values and on which config is the
    default one, and the migration changes neither (`migration_changes_only_chain_ids`).
  * What the migration does break — for the code as it is — is `resolve_agree`: a migration ONTO THE
    HOST CHAIN-ID stores the host chain-id as a literal text, while every message stores the host
    chain as the empty chain-id and forward resolution only ever looks the empty chain-id up.  The
    rewritten record is listed by reverse resolution on the host chain and is unreachable by forward
    resolution (`resolve_agree_counterexample_host_literal`); it can also sit next to a record of
    the same name for the same path on the (empty) host chain-id
    (`host_literal_record_duplicates_host_record`).  Reachable through governance only.
    `resolve_agree_partial` (Props/C17) therefore assumes `NoLitName`; `hostLit_free` shows that the
    assumption holds in every history without a migration onto the host chain-id.
  * A parameter update changes no record, order, bid, offer or balance (`params_change_keeps_orders`).
-/
import DymVerif.Props.C17
namespace DymVerif.C17
open DymVerif DymVerif.DymNS

/-- **indexes_consistent across a chain-id migration**: the three reverse indexes are exact after the
    migration although no Before/After config hook ran -/
theorem migration_keeps_indexes {s s' : State} {m : List (Chain × Chain)} (hI : Inv s)
    (h : exec s (.migrateChainIds m) = .ok s') : IdxOK s'.ns :=
  (exec_inv hI h).idx

/-- **what a chain-id migration can change**: no record appears or disappears; of a record only the
    chain-ids of its address records change — never from or to the empty (host) chain-id — while
    owner, controller, expiry, contact, and the paths and values of the address records stay; the
    records of expired names are not touched at all -/
theorem migration_changes_only_chain_ids {s s' : State} {m : List (Chain × Chain)}
    (h : exec s (.migrateChainIds m) = .ok s') (n : Name) :
    (getName s' n).isSome = (getName s n).isSome ∧
    ∀ d, getName s n = some d → ∃ d', getName s' n = some d' ∧
      d'.owner = d.owner ∧ d'.controller = d.controller ∧ d'.expireAt = d.expireAt ∧ d'.contact = d.contact ∧
      d'.configs.map (·.path) = d.configs.map (·.path) ∧ d'.configs.map (·.value) = d.configs.map (·.value) ∧
      d'.configs.map (fun c => decide (c.chain = 0)) = d.configs.map (fun c => decide (c.chain = 0)) ∧
      (d.expired s.now = true → d' = d) := by
  cases exec_step h
  rw [getName_migrateT]
  refine ⟨by cases getName s n <;> rfl, fun d hd => ⟨migName s.now m d, by rw [hd]; rfl, by simp, by simp, by simp, by simp, ?_⟩⟩
  rcases migName_cases s.now m d with e | ⟨he, _, e⟩
  · rw [e]; exact ⟨rfl, rfl, rfl, fun _ => rfl⟩
  · rw [e]
    refine ⟨?_, ?_, ?_, fun hx => by rw [he] at hx; cases hx⟩
    · simp [List.map_map, Function.comp_def]
    · simp [List.map_map, Function.comp_def]
    · simp only [List.map_map, Function.comp_def]
      apply List.map_congr_left
      intro c _
      have := migConfig_chain_zero m c
      by_cases hz : c.chain = 0
      · simp [hz, this.mpr hz]
      · have : ¬ (migConfig m c).chain = 0 := fun e => hz (this.mp e)
        simp [hz, this]

/-- the governance paths leave the module params with pairwise distinct chain-ids and aliases
    (`validateAliasesOfChainIds` runs inside `SetParams`) -/
theorem governance_params_valid {s s' : State} {op : Op} (h : exec s op = .ok s')
    (hop : (∃ m, op = .migrateChainIds m) ∨ ∃ ad rm, op = .updateAliases ad rm) :
    caValid s'.p.chainAliases = true := by
  rcases hop with ⟨m, rfl⟩ | ⟨ad, rm, rfl⟩
  · cases exec_step h with | migrate _ _ hv => exact hv
  · cases exec_step h with | updateAliases _ _ _ hv => exact hv

/-- valid chains params list no alias under two chain-ids: the assumption `ParamsWF` of
    `resolve_agree_partial` is what `validateAliasesOfChainIds` enforces, and therefore holds after
    every accepted chain-id migration and alias update (`governance_params_valid`) -/
theorem paramsWF_of_caValid {p : Params} (h : caValid p.chainAliases = true) : ParamsWF p := by
  unfold caValid at h
  simp only [Bool.and_eq_true, decide_eq_true_eq] at h
  obtain ⟨_, hn⟩ := h
  unfold ParamsWF
  generalize p.chainAliases = ca at hn
  induction ca with
  | nil => intro r hr; cases hr
  | cons x xs ih =>
    simp only [List.flatMap_cons, List.nodup_append] at hn
    obtain ⟨hx, hxs, hdis⟩ := hn
    intro r hr r' hr' l hl hl'
    rcases List.mem_cons.mp hr with e1 | h1 <;> rcases List.mem_cons.mp hr' with e2 | h2
    · rw [e1, e2]
    · subst e1; exact absurd rfl (hdis l hl l (List.mem_flatMap.mpr ⟨r', h2, hl'⟩))
    · subst e2; exact absurd rfl (hdis l hl' l (List.mem_flatMap.mpr ⟨r, h1, hl⟩))
    · exact ih hxs r h1 r' h2 l hl hl'

/-- **no host-literal records without a migration onto the host chain-id**: in every history none of
    whose operations is a chain-id migration with the host chain-id as a target (nor carries the
    text-less id `hostLit` as an argument), no address record is stored under the literal host
    chain-id — so the extra assumption `NoLitName` of `resolve_agree_partial` holds for every name -/
theorem hostLit_free (p : Params) (t : Nat) (ops : List Op) (hops : ∀ op ∈ ops, ¬ IntroducesLit op) (n : Name) :
    NoLitName (run (State.start p t) ops) n := by
  have hN := run_inv_noLit ops (start_inv p t) (start_noLit p t) hops
  intro d hl c hc
  exact hN n d (getNameLive_some hl).1 c hc

/-- a0 registers n0 and points `n0@cosmoshub-4` (chain 100) to a1's cosmos address; governance then
    migrates chain-id cosmoshub-4 to the host chain-id -/
def cxHostLit : State := run (State.start cxParams 1000)
  [.fund 0 100, .register 0 0 1 5 0, .updateResolve 0 0 100 false 0 (some ⟨100, 1⟩), .migrateChainIds [(100, 0)]]

/-- **resolve_agree_counterexample (record migrated onto the host chain-id)**: the record is now
    stored under the literal host chain-id; reverse resolution of a1's cosmos address on the host
    chain lists `n0@host`, which resolves forward to a0's own address — no handle resolves forward to
    the stored record any more.  The reverse indexes are exact in this state (`reachable_inv`). -/
theorem resolve_agree_counterexample_host_literal :
    (∃ d, getName cxHostLit 0 = some d ∧ d.configs = [⟨hostLit, 0, ⟨100, 1⟩⟩]) ∧
    (0, 0, Handle.chain 0) ∈ reverse cxHostLit ⟨100, 1⟩ 0 ∧
    resolve cxHostLit 0 0 (.chain 0) = some ⟨0, 0⟩ ∧ resolve cxHostLit 0 0 (.chain 100) = none := by
  decide +kernel

/-- the same migration with a host-chain record for the same path already present: the name ends up
    with two records for (host chain, path 0) — `DymName.Validate` compares the identity texts, and the
    empty chain-id differs from the literal host chain-id -/
def cxHostDup : State := run (State.start cxParams 1000)
  [.fund 0 100, .register 0 0 1 5 0, .updateResolve 0 0 0 true 0 (some ⟨0, 2⟩),
   .updateResolve 0 0 100 false 0 (some ⟨100, 1⟩), .migrateChainIds [(100, 0)]]

theorem host_literal_record_duplicates_host_record :
    (∃ d, getName cxHostDup 0 = some d ∧ d.configs = [⟨0, 0, ⟨0, 2⟩⟩, ⟨hostLit, 0, ⟨100, 1⟩⟩]) ∧
    cfgText 0 = cfgText hostLit ∧
    resolve cxHostDup 0 0 (.chain 0) = some ⟨0, 2⟩ ∧
    (0, 0, Handle.chain 0) ∈ reverse cxHostDup ⟨0, 2⟩ 0 ∧ (0, 0, Handle.chain 0) ∈ reverse cxHostDup ⟨100, 1⟩ 0 := by
  decide +kernel

/-- **a parameter update while orders are open** (`MsgUpdateParams`: grace period, sell-order
    duration, minimum offer, bid increment): accepted only inside the bounds of `validatePriceParams` /
    `validateMiscParams`; no record, order, bid, offer or balance changes — an open sell order keeps the
    expiry it was placed with, an open offer below the new minimum stays escrowed and refundable.
    (`escrow_inv`, `reachable_inv`, `owner_unique_authorised` of Props/C17 quantify over histories
    that contain such updates; the grace period and the bid increment they mention are the values in
    force when the respective message is processed.) -/
theorem params_change_keeps_orders {s s' : State} {g d mo bi : Nat} (h : exec s (.setParams g d mo bi) = .ok s') :
    (minPriceValue ≤ mo ∧ bi ≤ 10 ∧ 30 * 86400 ≤ g ∧ 1 ≤ d ∧ d ≤ 7 * 86400) ∧
    s'.p = { s.p with grace := g, soDur := d, minOffer := mo, bidInc := bi } ∧
    s'.ns = s.ns ∧ s'.nameSO = s.nameSO ∧ s'.aliasSO = s.aliasSO ∧ s'.bos = s.bos ∧ s'.al = s.al ∧
    s'.bal = s.bal ∧ s'.modBal = s.modBal ∧ s'.now = s.now ∧ escrowed s' = escrowed s := by
  cases exec_step h with
  | setParams _ _ _ _ h1 h2 h3 h4 h5 => exact ⟨⟨h1, h2, h3, h4, h5⟩, rfl, rfl, rfl, rfl, rfl, rfl, rfl, rfl, rfl, rfl⟩

/-! ## non-vacuity -/

/-- a migration onto a chain-id other than the host's keeps forward and reverse resolution in
    agreement: the record moves to the new chain-id in both directions, the indexes are untouched -/
example :
    let s := run (State.start cxParams 1000)
      [.fund 0 100, .register 0 0 1 5 0, .updateResolve 0 0 100 false 1 (some ⟨100, 1⟩), .migrateChainIds [(100, 102)]]
    resolve s 1 0 (.chain 102) = some ⟨100, 1⟩ ∧ resolve s 1 0 (.chain 100) = none ∧
    reverse s ⟨100, 1⟩ 102 = [(1, 0, .chain 102)] ∧ s.ns.cfgIdx.lookup ⟨100, 1⟩ = [0] := by decide +kernel

/-- two records that would collapse onto the same (chain, path): the record fails `Validate` and the
    name is skipped -/
example :
    let s0 := run (State.start cxParams 1000)
      [.fund 0 100, .register 0 0 1 5 0, .updateResolve 0 0 100 false 0 (some ⟨100, 1⟩),
       .updateResolve 0 0 102 false 0 (some ⟨100, 2⟩)]
    getName (step s0 (.migrateChainIds [(100, 102)])) 0 = getName s0 0 := by decide +kernel

/-- `UpdateAliases`: add an alias to a new chain-id, remove one of an existing chain-id; the result is
    stored sorted by chain-id text and alias text; a rejected update changes nothing -/
example :
    let s := run (State.start { cxParams with chainAliases := [(0, [1000]), (100, [1001]), (101, [])] } 1000)
      [.updateAliases [(102, 1002), (100, 1003)] [(0, 1000)]]
    s.p.chainAliases = [(100, [1001, 1003]), (102, [1002]), (101, [])] := by decide +kernel
def errOf (r : M State) : Option Err := match r with | .error e => some e | .ok _ => none
example :
    let s0 := State.start { cxParams with chainAliases := [(0, [1000]), (100, [1001])] } 1000
    errOf (exec s0 (.updateAliases [(100, 1001)] [])) = some .exists_ ∧
    errOf (exec s0 (.updateAliases [] [(102, 1002)])) = some .notfound ∧
    errOf (exec s0 (.updateAliases [(102, 1000)] [])) = some .invalid ∧
    errOf (exec s0 (.updateAliases [] [])) = some .invalid := by decide +kernel

/-- a0 lists n1 (order lasts 10 s), a1 bids 100; the params change to +10 % increment, orders of one
    hour, minimum offer 2e18: a bid of 109 is refused, 110 accepted (a1 refunded), the order still ends
    at the expiry it was placed with -/
example :
    let s := run (State.start cxParams 1000)
      [.fund 0 1000, .fund 1 1000, .fund 2 1000, .register 0 1 2 5 0, .sellName 0 1 2 0, .buyName 1 1 100,
       .setParams (30 * 86400) 3600 (2 * 10 ^ 18) 10]
    s.p.bidInc = 10 ∧ (AMap.get s.nameSO 1).map (·.expireAt) = some 1010 ∧
    balOf (step s (.buyName 2 1 109)) 2 = 1000 ∧ balOf (step s (.buyName 2 1 110)) 2 = 890 ∧
    balOf (step s (.buyName 2 1 110)) 1 = 1000 ∧ (step s (.buyName 2 1 110)).modBal = 110 := by decide +kernel

end DymVerif.C17
