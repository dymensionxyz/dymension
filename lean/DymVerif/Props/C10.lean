/-
  Props/C10 — the bridge to a rollapp opens only through a matching genesis handshake.

  All theorems are about M-GB (`Model/GB.lean`), for every reachable state (= every op sequence from
  the empty state whose accepted packets carry a proof height ≥ 1, assumption A-proofheight) and
  every packet / op.  "The handshake has completed for r" is the ghost counter `nOpen ≠ 0`.
-/
import DymVerif.Lemmas.GBInv
namespace DymVerif.Props.C10
open DymVerif.GB

/-- states reachable by arbitrary op sequences -/
def Reachable (s : St) : Prop := ∃ ops, AllPhOk ops ∧ s = run init ops

/-- `c` is the canonical channel of rollapp `r` -/
def CanonChan (s : St) (c r : Nat) : Prop := ∃ c', s.chans.find? (·.1 == c) = some (c', ChanKind.canon r)

theorem reachable_inv {s : St} (h : Reachable s) : AllRa RaInv s := by
  obtain ⟨ops, hp, rfl⟩ := h
  exact run_inv ops hp

theorem closed_iff {s : St} {r : Nat} {ra : Ra} (hs : Reachable s) (hg : getRa s r = some ra) :
    ra.nOpen = 0 ↔ ra.tph = 0 := by
  have hi := (reachable_inv hs).get hg
  constructor
  · intro h0
    by_cases ht : ra.tph = 0
    · exact ht
    · have := hi.opened ht; omega
  · intro ht; exact (hi.closed ht).2.2.1

-- ------------------------------------------------------------------------------------------------
/-- **closed_blocks_outgoing** — until the handshake of `r` has completed, a transfer from the hub over
    `r`'s canonical channel is refused and nothing changes. -/
theorem closed_blocks_outgoing {s : St} {c r : Nat} {ra : Ra} (hs : Reachable s) (hc : CanonChan s c r)
    (hg : getRa s r = some ra) (h0 : ra.nOpen = 0) : step s (.send c) = (s, .err) := by
  obtain ⟨c', hc⟩ := hc
  have ht := (closed_iff hs hg).1 h0
  simp [step, stepSend, hc, hg, ht]

/-- … and from then on ordinary transfers flow — as far as the genesis bridge is concerned: the ICS4
    wrapper lets every transfer through, and ibc core sends it unless the channel's client is not active.
    The one way the model (and the hub) gets there is a hard fork of the rollapp (`MsgRollappFraudProposal`),
    which freezes the canonical client until the rollapp's next state update (`fork_freezes`,
    `update_reopens`, Props/C10Fork). -/
theorem open_flows {s : St} {c r : Nat} {ra : Ra} (hs : Reachable s) (hc : CanonChan s c r)
    (hg : getRa s r = some ra) (h1 : ra.nOpen ≠ 0) :
    step s (.send c) = (s, if ra.frozen then .err else .ok) := by
  obtain ⟨c', hc⟩ := hc
  have ht : ra.tph ≠ 0 := fun h => h1 ((closed_iff hs hg).2 h)
  cases hf : ra.frozen <;> simp [step, stepSend, hc, hg, ht, hf]

/-- … in particular they do flow while the canonical client is not frozen -/
theorem open_flows_active {s : St} {c r : Nat} {ra : Ra} (hs : Reachable s) (hc : CanonChan s c r)
    (hg : getRa s r = some ra) (h1 : ra.nOpen ≠ 0) (hf : ra.frozen = false) : step s (.send c) = (s, .ok) := by
  rw [open_flows hs hc hg h1, hf]; rfl

-- ------------------------------------------------------------------------------------------------
/-- **accounts_match** — the hub's account comparison (same length, every registered account found in
    the packet) is multiset equality, because registered addresses are pairwise distinct. -/
theorem accounts_match (hub data : List Acc) (hn : (hub.map (·.addr)).Nodup)
    (h : compareAccounts hub data = true) : data.Perm hub :=
  compareAccounts_perm hub data hn h

/-- a packet on a closed canonical channel: an error acknowledgement and no change, or a matching handshake packet
    whose accounts are credited to empty balances and whose record `opened` replaces the old one -/
theorem recv_closed_cases {s : St} {c r : Nat} {ra : Ra} (hs : Reachable s) (hc : CanonChan s c r)
    (hg : getRa s r = some ra) (h0 : ra.nOpen = 0) (ph : Nat) (p : Pkt) :
    (∃ e, step s (.recv c ph p) = (s, .rerr e)) ∨
    ∃ d bal', p = .gb d ∧ Matches d ra.gi ∧ (ra.gi.denom.isSet = true → ra.md = false) ∧
      credit d.gi.accounts [] = some bal' ∧
      (∀ alloc st, ra.plan = some (alloc, st) → st = false ∧ getBal bal' iroAddr = alloc) ∧
      step s (.recv c ph p) = (setRa s (opened ra ph d bal'), .ok) ∧
      getRa (step s (.recv c ph p)).1 r = some (opened ra ph d bal') := by
  obtain ⟨c', hc⟩ := hc
  have hi := (reachable_inv hs).get hg
  have ht := (closed_iff hs hg).1 h0
  rcases handshake_cases ra ph p with ⟨e, he⟩ | ⟨d, bal', hp, hv, hmd, hcr, hpl, he⟩
  · exact .inl ⟨e, by simp [step, stepRecv, hc, hg, ht, he]⟩
  · have hm := validate_matches hi.wf hv
    obtain rfl := (getRa_mem hg).2
    have hst : step s (.recv c ph p) = (setRa s (opened ra ph d bal'), .ok) := by simp [step, stepRecv, hc, hg, ht, he]
    exact .inr ⟨d, bal', hp, hm, hm.2.2.1 ▸ hmd, (hi.closed ht).1 ▸ hcr, hpl, hst,
      by rw [hst]; exact getRa_setRa_self (x := opened ra ph d bal') hg⟩

/-- **first_packet_must_be_handshake** — while the handshake of `r` has not completed, the only packet
    its canonical channel accepts (success acknowledgement, or passing it on) is a genesis-bridge
    packet matching the registered genesis info; any other packet gets an error acknowledgement and
    leaves the state untouched. -/
theorem first_packet_must_be_handshake {s : St} {c r : Nat} {ra : Ra} (hs : Reachable s) (hc : CanonChan s c r)
    (hg : getRa s r = some ra) (h0 : ra.nOpen = 0) (ph : Nat) (p : Pkt) :
    ((step s (.recv c ph p)).2 = .ok ∧ ∃ d, p = .gb d ∧ Matches d ra.gi) ∨
    (∃ e, step s (.recv c ph p) = (s, .rerr e)) := by
  rcases recv_closed_cases hs hc hg h0 ph p with h | ⟨d, _, hp, hm, _, _, _, h, _⟩
  · exact .inr h
  · exact .inl ⟨by rw [h], d, hp, hm⟩

/-- **mismatch_credits_nothing** — a handshake packet that differs from the registered genesis info in
    any field, in the account multiset or in the genesis transfer is answered with an error
    acknowledgement, credits nothing and leaves the bridge closed (the whole state is unchanged). -/
theorem mismatch_credits_nothing {s : St} {c r : Nat} {ra : Ra} (hs : Reachable s) (hc : CanonChan s c r)
    (hg : getRa s r = some ra) (h0 : ra.nOpen = 0) (ph : Nat) (d : GBData) (hm : ¬ Matches d ra.gi) :
    ∃ e, step s (.recv c ph (.gb d)) = (s, .rerr e) := by
  rcases first_packet_must_be_handshake hs hc hg h0 ph (.gb d) with ⟨_, d', hp, hm'⟩ | h
  · cases hp; exact absurd hm' hm
  · exact h

/-- **credited_exactly** — on success every address holds exactly the sum of its registered genesis
    accounts (addresses are distinct, so: exactly the registered amount) of the rollapp's IBC denom,
    the credited total is the registered total and equals the genesis transfer, the metadata flag
    afterwards is the old flag or-ed with "there is a native denom" (and with a native denom it was unset before), the bridge is open with the packet's proof height, an IRO
    plan is settled and was backed by exactly its allocation, and the registered genesis info is
    unchanged. -/
theorem credited_exactly {s : St} {c r : Nat} {ra : Ra} (hs : Reachable s) (hc : CanonChan s c r)
    (hg : getRa s r = some ra) (h0 : ra.nOpen = 0) (ph : Nat) (p : Pkt)
    (hok : (step s (.recv c ph p)).2 = .ok) :
    ∃ ra' d, p = .gb d ∧ getRa (step s (.recv c ph p)).1 r = some ra' ∧
      (∀ x, getBal ra'.bal x = creditedTo ra.gi.accounts x) ∧
      sumAccs d.gi.accounts = sumAccs ra.gi.accounts ∧
      (∀ t, d.tr = some t → t.amt = sumAccs ra.gi.accounts ∧ t.recv = 0) ∧
      (ra'.md = (ra.md || ra.gi.denom.isSet) ∧ (ra.gi.denom.isSet = true → ra.md = false ∧ ra'.md = true)) ∧
      ra'.tph = ph ∧ ra'.nOpen = 1 ∧ ra'.gi = ra.gi ∧
      (∀ alloc st, ra.plan = some (alloc, st) → ra'.plan = some (alloc, true) ∧ creditedTo ra.gi.accounts iroAddr = alloc) := by
  rcases recv_closed_cases hs hc hg h0 ph p with ⟨e, h⟩ | ⟨d, bal', hp, hm, hmd, hcr, hpl, h, hget⟩
  · rw [h] at hok; cases hok
  · have hcred : ∀ x, getBal bal' x = creditedTo ra.gi.accounts x := fun x => by
      rw [credit_getBal _ _ _ hcr x, creditedTo_perm hm.2.2.2.2.1 x]
      simp [getBal]
    have hden : d.gi.denom.isSet = ra.gi.denom.isSet := by rw [hm.2.2.1]
    refine ⟨opened ra ph d bal', d, hp, hget, hcred, sumAccs_perm hm.2.2.2.2.1, fun t ht => ?_,
      ⟨congrArg (ra.md || ·) hden, fun hd => ⟨hmd hd, ?_⟩⟩, rfl, ?_, rfl, fun alloc st hp' => ⟨?_, ?_⟩⟩
    · have := hm.2.2.2.2.2
      rw [ht] at this
      exact ⟨this.2.2.2, this.2.1⟩
    · show (ra.md || d.gi.denom.isSet) = true
      rw [hden, hd, Bool.or_true]
    · show ra.nOpen + 1 = 1
      rw [h0]
    · show ra.plan.map _ = _
      rw [hp']; rfl
    · rw [← hcred iroAddr]; exact (hpl alloc st hp').2

/-- **handshake_once** — the handshake of a rollapp completes at most once on any history … -/
theorem handshake_once {s : St} {r : Nat} {ra : Ra} (hs : Reachable s) (hg : getRa s r = some ra) : ra.nOpen ≤ 1 := by
  have hi := (reachable_inv hs).get hg
  by_cases ht : ra.tph = 0
  · have := (hi.closed ht).2.2.1; omega
  · have := hi.opened ht; omega

/-- … because once it has completed, no packet on the canonical channel (a repeated handshake packet
    included) is handled by the genesis bridge any more: it is passed on and the model state
    (credits, metadata, proof height, plan) stays as it is.  (While a hard fork has the canonical client
    frozen ibc core refuses the packet message altogether.) -/
theorem handshake_once_no_second_credit {s : St} {c r : Nat} {ra : Ra} (hs : Reachable s) (hc : CanonChan s c r)
    (hg : getRa s r = some ra) (h1 : ra.nOpen ≠ 0) (ph : Nat) (p : Pkt) :
    step s (.recv c ph p) = (s, if ra.frozen then .err else lowerRollapp p) := by
  obtain ⟨c', hc⟩ := hc
  have ht : ra.tph ≠ 0 := fun h => h1 ((closed_iff hs hg).2 h)
  cases hf : ra.frozen <;> simp [step, stepRecv, hc, hg, ht, hf]

-- ------------------------------------------------------------------------------------------------
theorem sealed_eta (g : GInfo) (h : g.sealed = true) : ({ g with sealed := true } : GInfo) = g := by
  cases g; simp_all

/-- how the registered genesis info of rollapp `r` can change in one step: not at all, or it was not
    sealed, or the op is a governance `force` -/
theorem gi_step (s : St) (op : Op) (r : Nat) (ra : Ra) (hg : getRa s r = some ra) :
    ∃ ra', getRa (step s op).1 r = some ra' ∧
      (ra'.gi = ra.gi ∨ ra.gi.sealed = false ∨ ∃ g, op = .force r true g) := by
  rcases step_getRa s op hg with h | ⟨x, hw, _, h⟩
  · exact ⟨ra, h, .inl rfl⟩
  · refine ⟨x, h, ?_⟩
    obtain rfl := (getRa_mem hg).2
    cases hw with
    | setgi g hs => exact .inr (.inl hs)
    | force g => exact .inr (.inr ⟨g, rfl⟩)
    | plan _ _ _ _ _ _ hs => exact .inr (.inl hs)
    | seq =>
      -- the launch seals: no change when the genesis info was sealed already
      cases hs : ra.gi.sealed
      · exact .inr (.inl rfl)
      · exact .inl (sealed_eta _ hs)
    | recv => exact .inl (handshake_keeps ra _ _).2.1
    | _ => exact .inl rfl

theorem setgi_sealed {s : St} {r : Nat} {ra : Ra} (hg : getRa s r = some ra) (hsd : ra.gi.sealed = true) (g : GInfo) :
    step s (.setgi r true (some g)) = (s, .err) := by
  simp only [step, stepSetgi, hg]
  by_cases hv : g.vb.isSome = true
  · rw [if_pos hv]
  · rw [if_neg hv, if_neg (show ¬ (!true) = true by decide), if_pos hsd]

/-- **genesis_info_frozen** — once a rollapp is launched or has an IRO plan, its genesis info is sealed,
    the owner's update of it is rejected without any change, and no op other than a governance
    `MsgForceGenesisInfoChange` changes the registered genesis info. -/
theorem genesis_info_frozen {s : St} {r : Nat} {ra : Ra} (hs : Reachable s) (hg : getRa s r = some ra)
    (hl : ra.launched = true ∨ ra.plan.isSome = true) :
    ra.gi.sealed = true ∧
    (∀ g, step s (.setgi r true (some g)) = (s, .err)) ∧
    (∀ op, (∀ g, op ≠ .force r true g) → ∃ ra', getRa (step s op).1 r = some ra' ∧ ra'.gi = ra.gi) := by
  have hsd := ((reachable_inv hs).get hg).sealedI hl
  refine ⟨hsd, setgi_sealed hg hsd, fun op hop => ?_⟩
  obtain ⟨ra', h1, h2⟩ := gi_step s op r ra hg
  refine ⟨ra', h1, ?_⟩
  rcases h2 with h2 | h2 | ⟨g, h2⟩
  · exact h2
  · rw [hsd] at h2; cases h2
  · exact absurd h2 (hop g)

/-- sealing happens exactly at launch / plan creation and is never undone: in every reachable state a
    launched rollapp or one with a plan has a sealed genesis info -/
theorem launched_or_plan_sealed {s : St} {r : Nat} {ra : Ra} (hs : Reachable s) (hg : getRa s r = some ra)
    (hl : ra.launched = true ∨ ra.plan.isSome = true) : ra.gi.sealed = true :=
  ((reachable_inv hs).get hg).sealedI hl

-- ------------------------------------------------------------------------------------------------ IRO plans, deferred trading

/-- **plan_seals_genesis_info_any_trading_flag** — an accepted `MsgCreatePlan` seals the registered
    genesis info whether the plan is created with trading enabled or not (nothing else of the genesis
    info changes); the pre-launch time is plan start + duration when trading is enabled — the plan
    starts at the message's `start_time` when that lies in the future and at the block time otherwise —
    and block time + 10 years when it is not (then the message carries no start time). -/
theorem plan_seals_genesis_info_any_trading_flag (s : St) (r : Nat) (owner : Bool) (alloc : Int) (dur : Nat) (te : Bool)
    (start : Option Nat) (hok : (step s (.plan r owner alloc dur te start)).2 = .ok) :
    ∃ ra ra', getRa s r = some ra ∧ getRa (step s (.plan r owner alloc dur te start)).1 r = some ra' ∧
      ra'.gi.sealed = true ∧ ra'.gi = { ra.gi with sealed := true } ∧
      ra'.plan = some (alloc, false) ∧ ra'.te = te ∧ (te = false → start = none) ∧
      ra'.pstart = (if te then some (planStart s.now start) else none) ∧
      ra'.preLaunch = some (if te then planStart s.now start + dur else s.now + tenYears) := by
  obtain ⟨ra, _, hg, hw, he⟩ := (plan_errOrWrites s r owner alloc dur te start).ok hok
  have hx := hw.getRa hg
  cases hw with
  | plan _ _ _ _ _ _ _ hst =>
    refine ⟨ra, planned s.now ra alloc dur te start, hg, by rw [he]; exact hx, rfl, rfl, rfl, rfl, fun hte => ?_, rfl, rfl⟩
    cases start with
    | none => rfl
    | some t => have := hst rfl; rw [hte] at this; cases this

/-- the start of trading is never before the block time, is the block time when the message carries no
    start time or a past one, and the requested time when that lies in the future -/
theorem planStart_spec (now : Nat) (start : Option Nat) :
    now ≤ planStart now start ∧ (start = none → planStart now start = now) ∧
    (∀ t, start = some t → planStart now start = max now t) := by
  refine ⟨?_, ?_, ?_⟩
  · unfold planStart; split <;> (try split) <;> omega
  · intro h; subst h; rfl
  · intro t h; subst h; unfold planStart; simp only; split <;> omega

/-- a start time on a plan whose trading is not enabled at creation is refused (`ValidateBasic`) -/
theorem plan_start_needs_trading (s : St) (r : Nat) (owner : Bool) (alloc : Int) (dur : Nat) (t : Nat) :
    step s (.plan r owner alloc dur false (some t)) = (s, .err) := by
  simp [step, stepPlan]

/-- only the owner creates a plan: a `MsgCreatePlan` by anybody else is refused without any change -/
theorem plan_owner_only (s : St) (r : Nat) (alloc : Int) (dur : Nat) (te : Bool) (start : Option Nat) :
    step s (.plan r false alloc dur te start) = (s, .err) :=
  (plan_errOrWrites s r false alloc dur te start).resolve_right fun ⟨_, _, _, hw, _⟩ => nomatch hw

/-- **enable_trading_owner_only** — `MsgEnableTrading` by anybody but the rollapp's owner is refused and
    changes nothing … -/
theorem enable_trading_owner_only (s : St) (r : Nat) : step s (.enable r false) = (s, .err) :=
  (enable_errOrWrites s r false).resolve_right fun ⟨_, _, _, hw, _⟩ => nomatch hw

/-- … and an accepted one comes from the owner of a rollapp with an unsettled plan whose trading was
    not enabled yet. -/
theorem enable_trading_accepted_only_for_owner {s : St} {r : Nat} {owner : Bool}
    (hok : (step s (.enable r owner)).2 = .ok) :
    owner = true ∧ ∃ ra alloc, getRa s r = some ra ∧ ra.plan = some (alloc, false) ∧ ra.te = false := by
  obtain ⟨ra, _, hg, hw, _⟩ := (enable_errOrWrites s r owner).ok hok
  cases hw with
  | enable alloc hp hte => exact ⟨rfl, ra, alloc, hg, hp, hte⟩

/-- **enable_trading_keeps_seal** — `MsgEnableTrading`, accepted or not, leaves the registered genesis
    info (the seal included), the plan's allocation / settlement state and the launch flag of every
    rollapp as they are; when it is accepted (in a reachable state) the genesis info of its rollapp is
    sealed before and after, trading is enabled and the pre-launch time is block time + plan duration. -/
theorem enable_trading_keeps_seal {s : St} {r : Nat} {owner : Bool} (hs : Reachable s) :
    (∀ q ra, getRa s q = some ra → ∃ ra', getRa (step s (.enable r owner)).1 q = some ra' ∧
        ra'.gi = ra.gi ∧ ra'.plan = ra.plan ∧ ra'.launched = ra.launched) ∧
    ((step s (.enable r owner)).2 = .ok → ∃ ra ra', getRa s r = some ra ∧ getRa (step s (.enable r owner)).1 r = some ra' ∧
        ra.gi.sealed = true ∧ ra'.gi.sealed = true ∧ ra'.te = true ∧ ra'.pstart = some s.now ∧
        ra'.preLaunch = some (s.now + ra.pdur)) := by
  constructor
  · intro q ra hq
    rcases step_getRa s (.enable r owner) hq with h | ⟨x, hw, _, h⟩
    · exact ⟨ra, h, rfl, rfl, rfl⟩
    · cases hw
      exact ⟨_, h, rfl, rfl, rfl⟩
  · intro hok
    obtain ⟨ra, _, hg, hw, he⟩ := (enable_errOrWrites s r owner).ok hok
    have hx := hw.getRa hg
    cases hw with
    | enable alloc hp =>
      have hsd := ((reachable_inv hs).get hg).sealedI (.inr (by rw [hp]; rfl))
      exact ⟨ra, enabled s.now ra, hg, by rw [he]; exact hx, hsd, hsd, rfl, rfl, rfl⟩

/-- a plan created with trading disabled freezes the genesis info like any other plan: in every reachable
    state, before and after `MsgEnableTrading`, the owner's genesis-info update of a rollapp that has
    an IRO plan is refused without any change (instance of `genesis_info_frozen`, stated for the
    deferred-trading flow) -/
theorem trading_disabled_plan_frozen {s : St} {r : Nat} {ra : Ra} (hs : Reachable s) (hg : getRa s r = some ra)
    (hp : ra.plan.isSome = true) (_hte : ra.te = false) :
    ra.gi.sealed = true ∧ (∀ g, step s (.setgi r true (some g)) = (s, .err)) ∧
    (∀ owner, ∃ ra', getRa (step s (.enable r owner)).1 r = some ra' ∧ ra'.gi = ra.gi ∧ ra'.gi.sealed = true ∧
      ∀ g, step (step s (.enable r owner)).1 (.setgi r true (some g)) = ((step s (.enable r owner)).1, .err)) := by
  obtain ⟨hsd, hset, _⟩ := genesis_info_frozen hs hg (Or.inr hp)
  refine ⟨hsd, hset, fun owner => ?_⟩
  obtain ⟨ra', hg', hgi, _, _⟩ := (enable_trading_keeps_seal (r := r) (owner := owner) hs).1 r ra hg
  exact ⟨ra', hg', hgi, hgi ▸ hsd, setgi_sealed hg' (hgi ▸ hsd)⟩

-- ------------------------------------------------------------------------------------------------ non-vacuity

/-- a registered genesis info with two accounts -/
def gi0 : GInfo := { checksum := 1, pfx := 1, denom := ⟨1, 11, 18⟩, supply := some 30, accounts := [⟨1, 10⟩, ⟨2, 20⟩], sealed := false }
/-- the matching handshake packet, accounts in the other order -/
def pkt0 : Pkt := .gb { gi := { gi0 with accounts := [⟨2, 20⟩, ⟨1, 10⟩] }, md := ⟨1, [(1, 0), (11, 18)], true, true⟩,
                        tr := some ⟨1, 30, true, 0, true⟩ }
def pktBad : Pkt := .gb { gi := { gi0 with accounts := [⟨2, 19⟩, ⟨1, 10⟩] }, md := ⟨1, [(1, 0), (11, 18)], true, true⟩,
                          tr := some ⟨1, 29, true, 0, true⟩ }
def ops0 : List Op := [.create 0 (some gi0), .seq 0, .link 0]

theorem ops0_ok : AllPhOk ops0 := by intro op hop; simp [ops0] at hop; rcases hop with rfl | rfl | rfl <;> trivial

/-- the closed state is reachable, its canonical channel is 0, and the handshake has not completed -/
example : Reachable (run init ops0) ∧ CanonChan (run init ops0) 0 0 ∧
    (getRa (run init ops0) 0).map (fun ra => (ra.nOpen, ra.launched)) = some (0, true) :=
  ⟨⟨ops0, ops0_ok, rfl⟩, ⟨0, by decide +kernel⟩, by decide +kernel⟩
/-- closed: the hub's transfer is refused -/
example : (step (run init ops0) (.send 0)).2 = .err := by decide +kernel
/-- the matching packet (accounts permuted) is accepted, both accounts are credited, the bridge opens -/
example : (step (run init ops0) (.recv 0 7 pkt0)).2 = .ok := by decide +kernel
example : ((getRa (step (run init ops0) (.recv 0 7 pkt0)).1 0).map (fun ra => (ra.bal, ra.tph, ra.md, ra.nOpen)))
    = some ([(2, 20), (1, 10)], 7, true, 1) := by decide +kernel
/-- one changed amount: error acknowledgement -/
example : (step (run init ops0) (.recv 0 7 pktBad)).2 = .rerr .accounts := by decide +kernel
/-- an ordinary transfer before the handshake: error acknowledgement -/
example : (step (run init ops0) (.recv 0 7 (.ft ⟨1, 5, true, 1, true⟩))).2 = .rerr .missing := by decide +kernel
/-- after the handshake: transfers flow, a second handshake packet is passed on (and refused below) -/
example : (step (step (run init ops0) (.recv 0 7 pkt0)).1 (.send 0)).2 = .ok := by decide +kernel
example : (step (step (run init ops0) (.recv 0 7 pkt0)).1 (.recv 0 8 pkt0)) = ((step (run init ops0) (.recv 0 7 pkt0)).1, .rerr .lower) := by decide +kernel
/-- frozen: the owner's update after launch is rejected; before launch it is accepted -/
example : (step (run init ops0) (.setgi 0 true (some { gi0 with checksum := 2 }))).2 = .err := by decide +kernel
example : (step (run init [.create 0 (some gi0)]) (.setgi 0 true (some { gi0 with checksum := 2 }))).2 = .ok := by decide +kernel
/-- `compareAccounts` holds for a reordered list and fails for a list with a duplicate replacing an account -/
example : compareAccounts gi0.accounts [⟨2, 20⟩, ⟨1, 10⟩] = true ∧ compareAccounts gi0.accounts [⟨1, 10⟩, ⟨1, 10⟩] = false := by decide +kernel

-- deferred trading
/-- a registered genesis info with an IRO account of 11 tokens (18 decimals) -/
def giIro : GInfo := { checksum := 1, pfx := 1, denom := ⟨1, 11, 18⟩, supply := some 11000000000000000010,
                       accounts := [⟨1, 10⟩, ⟨iroAddr, 11000000000000000000⟩], sealed := false }
def pktIro : Pkt := .gb { gi := giIro, md := ⟨1, [(1, 0), (11, 18)], true, true⟩, tr := some ⟨1, 11000000000000000010, true, 0, true⟩ }
/-- create, 100 s later the owner creates the plan with trading DISABLED -/
def opsTD : List Op := [.create 0 (some giIro), .tick 100, .plan 0 true 11000000000000000000 600 false none]
theorem opsTD_ok : AllPhOk opsTD := by intro op hop; simp [opsTD] at hop; rcases hop with rfl | rfl | rfl <;> trivial

/-- the plan is accepted with either flag (hypothesis of `plan_seals_genesis_info_any_trading_flag`) and
    seals; pre-launch time: 100 + 600 with trading enabled, 100 + 10 years without -/
example : ∀ te, (step (run init [.create 0 (some giIro), .tick 100]) (.plan 0 true 11000000000000000000 600 te none)).2 = .ok := by decide +kernel
example : (getRa (run init opsTD) 0).map (fun ra => (ra.gi.sealed, ra.plan.isSome, ra.te, ra.pstart, ra.preLaunch))
    = some (true, true, false, (none : Option Nat), some 315360100) := by decide +kernel
example : ((getRa (step (run init [.create 0 (some giIro), .tick 100]) (.plan 0 true 11000000000000000000 600 true none)).1 0).map
    (fun ra => (ra.gi.sealed, ra.te, ra.pstart, ra.preLaunch))) = some (true, true, some 100, some 700) := by decide +kernel
/-- a start time in the future (100 s block time, start at 400): trading starts at 400, pre-launch time 1000; a past
    one (start at 40) is moved up to the block time -/
example : ((getRa (step (run init [.create 0 (some giIro), .tick 100]) (.plan 0 true 11000000000000000000 600 true (some 400))).1 0).map
    (fun ra => (ra.gi.sealed, ra.te, ra.pstart, ra.preLaunch))) = some (true, true, some 400, some 1000) := by decide +kernel
example : ((getRa (step (run init [.create 0 (some giIro), .tick 100]) (.plan 0 true 11000000000000000000 600 true (some 40))).1 0).map
    (fun ra => (ra.pstart, ra.preLaunch))) = some (some 100, some 700) := by decide +kernel
/-- … and the sequencer cannot launch before start + duration -/
example : (step (run init [.create 0 (some giIro), .tick 100, .plan 0 true 11000000000000000000 600 true (some 400), .tick 700]) (.seq 0)).2 = .err := by decide +kernel
example : (step (run init [.create 0 (some giIro), .tick 100, .plan 0 true 11000000000000000000 600 true (some 400), .tick 900]) (.seq 0)).2 = .ok := by decide +kernel
/-- the state with a trading-disabled plan is reachable (hypotheses of `trading_disabled_plan_frozen`) -/
example : Reachable (run init opsTD) ∧ (getRa (run init opsTD) 0).map (fun ra => (ra.plan.isSome, ra.te)) = some (true, false) :=
  ⟨⟨opsTD, opsTD_ok, rfl⟩, by decide +kernel⟩
/-- the owner's genesis-info update after the trading-disabled plan is refused; so is a sequencer (pre-launch time) -/
example : (step (run init opsTD) (.setgi 0 true (some { giIro with checksum := 2 }))).2 = .err := by decide +kernel
example : (step (run init opsTD) (.seq 0)).2 = .err := by decide +kernel
/-- `MsgEnableTrading`: refused for a stranger, for a rollapp without plan, accepted for the owner (hypothesis of
    `enable_trading_keeps_seal` / `enable_trading_accepted_only_for_owner`), refused a second time -/
example : (step (run init opsTD) (.enable 0 false)).2 = .err := by decide +kernel
example : (step (run init [.create 0 (some giIro)]) (.enable 0 true)).2 = .err := by decide +kernel
example : (step (run init (opsTD ++ [.tick 50])) (.enable 0 true)).2 = .ok := by decide +kernel
example : (step (run init (opsTD ++ [.tick 50, .enable 0 true])) (.enable 0 true)).2 = .err := by decide +kernel
/-- … it moves the pre-launch time to 150 + 600, keeps the seal, and the owner's update is still refused -/
example : (getRa (run init (opsTD ++ [.tick 50, .enable 0 true])) 0).map (fun ra => (ra.gi.sealed, ra.te, ra.pstart, ra.preLaunch))
    = some (true, true, some 150, some 750) := by decide +kernel
example : (step (run init (opsTD ++ [.tick 50, .enable 0 true])) (.setgi 0 true (some { giIro with checksum := 2 }))).2 = .err := by decide +kernel
/-- … and after the plan's duration the rollapp launches and the handshake settles the plan -/
example : ((getRa (run init (opsTD ++ [.tick 50, .enable 0 true, .tick 600, .seq 0, .link 0, .recv 0 7 pktIro])) 0).map
    (fun ra => (ra.launched, ra.plan, ra.tph, ra.nOpen))) = some (true, some (11000000000000000000, true), 7, 1) := by decide +kernel

end DymVerif.Props.C10
