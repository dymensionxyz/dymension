/-
  Props/C01XRev — the revision invariant of every reachable state (C01: "each update carries the
  current revision"): revision numbers are 0..k by position, the latest revision starts at most one
  block above the latest recorded height, and every STORED state was accepted under the revision its
  start height belongs to (`accRev = revForHeight r st.start` — the ghost field `SInfo.accRev` is now
  tied to an invariant: a stale- or future-revision update that slipped through, or a fork that left a
  state of the old revision above the new revision's start, breaks `stored_state_revision`).

  What does NOT hold (Appendix A7 of DESIGN.md claimed it): revision start heights are not monotone —
  a later fork may go below the start of an earlier revision while those heights are unfinalized
  (`rev_starts_not_monotone`; the Go code has no such guard either: `HardFork` → `BumpRevision`).

  Proof route: `RevQ` is `QClosed` (Lemmas/CoreXRev.lean), for all parameters and op sequences.
-/
import DymVerif.Lemmas.CoreXRev
import DymVerif.Lemmas.CoreForkSpec
namespace DymVerif.C01XRev
open DymVerif DymVerif.Core

/-- **revision numbers are 0, 1, …, k** (by position; at least revision 0 exists), so the latest
    revision number is the number of forks the rollapp went through -/
theorem revision_numbers_consecutive (p : Params) (ops : List Op) (r : Rollapp) (hr : r ∈ (run p ops).ras) :
    r.revs.map (·.1) = List.range r.revs.length ∧ latestRev r + 1 = r.revs.length := by
  have h := XW.run_rev p ops r hr
  refine ⟨?_, XW.latestRev_eq h⟩
  apply List.ext_getElem?
  intro i
  rw [List.getElem?_map]
  rcases Nat.lt_or_ge i r.revs.length with hlt | hge
  · have hx : r.revs[i]? = some r.revs[i] := List.getElem?_eq_getElem hlt
    rw [List.getElem?_range hlt, hx]
    simp only [Option.map_some]
    rw [h.num i _ hx]
  · rw [List.getElem?_eq_none hge, List.getElem?_eq_none (by rw [List.length_range]; exact hge)]
    rfl

/-- **the latest revision starts at most one block above the latest height**: `latest start ≤ latest
    height + 1` whenever a state exists (equality right after a fork), and before the first update the
    only revision is `(0, 0)` -/
theorem latest_revision_start_bound (p : Params) (ops : List Op) (r : Rollapp) (hr : r ∈ (run p ops).ras) :
    (∀ l, r.states.getLast? = some l → XW.lastRevStart r ≤ l.start + l.num) ∧ (r.states = [] → r.revs = [(0, 0)]) :=
  ⟨(XW.run_rev p ops r hr).top, (XW.run_rev p ops r hr).init⟩

/-- **every stored state carries the revision of its start height**: `accRev` (the revision the
    update was accepted under) equals `GetRevisionForHeight(start)` of the rollapp as it is NOW — after
    any number of later updates and forks -/
theorem stored_state_revision (p : Params) (ops : List Op) (r : Rollapp) (hr : r ∈ (run p ops).ras)
    (st : SInfo) (hs : st ∈ r.states) : st.accRev = revForHeight r st.start :=
  (XW.run_rev p ops r hr).acc st hs

/-- an accepted update in a reachable state carries the revision of its own start height (so a proposer
    cannot post blocks of an old revision above a fork point) -/
theorem accepted_update_revision_of_start (p : Params) (ops : List Op) (m : UpdMsg) (s' : St)
    (h : apply (run p ops) (.update m) = .ok s') :
    ∃ r, getRa (run p ops) m.ra = some r ∧ m.rev = latestRev r ∧ m.rev = revForHeight r m.start := by
  obtain ⟨r, hg, _, hrev, hstart⟩ := Fork.updateState_ok_elim (show updateState (run p ops) m = .ok s' from h)
  have hq := XW.run_rev p ops r (getRa_mem hg)
  refine ⟨r, hg, hrev.symm, ?_⟩
  rw [← hrev]
  symm
  apply XW.revForHeight_latest
  cases hl : r.states.getLast? with
  | none =>
    have : r.states = [] := List.getLast?_eq_none_iff.1 hl
    unfold XW.lastRevStart; rw [hq.init this]; exact Nat.zero_le _
  | some l => rw [hstart l hl]; exact hq.top l hl

def exParams : Params where
  dispute := 2
  lsBlocks := 2
  lsInterval := 1
  lsMul := ⟨0⟩
  lsAbs := 0
  dishonorSU := 1
  dishonorL := 2
  kickThr := 100
  noticePeriod := 10
def exBds (start n : Nat) : List BD := (List.range n).map fun i => { height := start + i, hasTs := true, drs := 1, rootOk := true }
def exUpd (sender start n rev : Nat) : Op :=
  .update { ra := 0, sender := sender, start := start, num := n, rev := rev, last := false, bds := exBds start n }
/-- two sequencers; heights 1..6 posted under revision 0; fork at height 5 (revision 1 starts at 5);
    the second sequencer takes over and posts 5..6 under revision 1; then a fork at height 3 -/
def exOps : List Op := [.createRollapp 0 9 10, .fund 1 100, .fund 2 100, .createSeq 1 0 40 true, .createSeq 2 0 20 true,
  exUpd 1 1 3 0, exUpd 1 4 3 0, .bridge 0 1, .fraud true 0 5 0 none none, .optIn 2 true, exUpd 2 5 2 1]

-- non-vacuity: after the first fork and the take-over, states (1..3, rev 0), (4..4, rev 0), (5..6, rev 1)
example : (run exParams exOps).ras.map (fun r => (r.revs, r.states.map fun s => (s.start, s.num, s.accRev))) =
    [([(0, 0), (1, 5)], [(1, 3, 0), (4, 1, 0), (5, 2, 1)])] := by decide +kernel

/-- **revision start heights are NOT monotone**: a second fork at height 3 (still unfinalized) after
    revision 1 started at height 5 yields revisions `(0,0), (1,5), (2,3)` — accepted by the model and,
    with no guard in `HardFork` / `BumpRevision`, by the Go code.  `revForHeight` scans from the latest
    revision, so every height ≥ 3 now belongs to revision 2. -/
theorem rev_starts_not_monotone :
    (run exParams (exOps ++ [.fraud true 0 3 0 none none])).ras.map (fun r => (r.revs, r.states.map fun s => (s.start, s.num, s.accRev))) =
      [([(0, 0), (1, 5), (2, 3)], [(1, 2, 0)])] := by decide +kernel

-- a stale-revision update after the fork is refused
example : (step (run exParams exOps) (exUpd 2 7 1 0)).2 = some Err.wrongRevision := by decide +kernel

end DymVerif.C01XRev
