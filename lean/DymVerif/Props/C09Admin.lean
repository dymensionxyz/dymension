/-
  Props/C09Admin — C09 and the two ibc client messages the hub does not look at (`Model/LCAdmin.lean`).

  Full clause (property text: the canonical client "always agrees"; designation "never changes"; DESIGN §4 C09 assumed
  immutable client parameters): in every state reached by transactions, upgrades and recoveries

      AgreeInv s  ∧  every canonical client is a client of its rollapp's chain with the expected parameters

  FALSE of the current code for both messages on a canonical client (`recover_counterexample`, reproduced on the real
  application, monitors `C09/canonical_client_immutable/*` and
  `C09/later_conflict_rejected/conflicting-consensus-state-written-by-lc_recover`; `upgrade_counterexample` for the model
  of what ibc-go does once the upgrade proof verifies).  `_partial`: on clients that are not canonical nothing C09 is about
  changes.  Reachability: MsgRecoverClient is signed by the ibc authority (governance) and needs a canonical client
  that is not Active — the window between `RollbackCanonicalClient` (fork) and the first state update of the new
  revision, or an expired client; the substitute is any client anybody created (consensus states unchecked).
  MsgUpgradeClient is permissionless but needs membership proofs of the upgraded client / consensus state under the
  client's upgrade path against the root of the consensus state at the client's latest height, i.e. a header signed by
  the rollapp's own sequencer whose app hash commits to an upgrade plan (and, for a posted height, a block descriptor
  with that same root): only the rollapp's sequencer can make it verify.
-/
import DymVerif.Lemmas.LCAdmin
import DymVerif.Props.C09
namespace DymVerif.Props.C09
open DymVerif DymVerif.LC

/-- **upgrade_recover_partial** — on a client that is not canonical, an upgrade or a recovery changes neither the
    designation maps nor the descriptors nor any canonical client: the agreement invariant is preserved. -/
theorem upgrade_recover_partial {s : St} (hm : MapsInv s) (ha : AgreeInv s) (c : Nat) (hc : lookup s.c2r c = none) :
    (∀ u ibc, AgreeInv (upgradeClient s c u ibc).1 ∧ (upgradeClient s c u ibc).1.r2c = s.r2c ∧ (upgradeClient s c u ibc).1.c2r = s.c2r) ∧
    (∀ sub, AgreeInv (recoverClient s c sub).1 ∧ (recoverClient s c sub).1.r2c = s.r2c ∧ (recoverClient s c sub).1.c2r = s.c2r) := by
  refine ⟨fun u ibc => ?_, fun sub => ?_⟩
  · rcases upgradeClient_fst s c u ibc with e | ⟨new, hid, e⟩
    · rw [e]; exact ⟨ha, rfl, rfl⟩
    · rw [e]; exact ⟨agree_setClient_noncanon hm ha new (by rw [hid]; exact hc), rfl, rfl⟩
  · rcases recoverClient_fst s c sub with e | ⟨new, hid, e⟩
    · rw [e]; exact ⟨ha, rfl, rfl⟩
    · rw [e]; exact ⟨agree_setClient_noncanon hm ha new (by rw [hid]; exact hc), rfl, rfl⟩

/-- an Active client cannot be recovered, whoever signs -/
theorem recover_needs_inactive {s : St} {c sub : Nat} {cl : Client} (hcl : getClient s c = some cl) (hf : cl.frozen = false) :
    (recoverClient s c sub).1 = s ∧ (recoverClient s c sub).2 ≠ .ok := by
  unfold recoverClient
  simp [hcl, hf]

/-- rollapp 0 with heights 1..5, bridge open, honest canonical client 0 (consensus state at 2); client 1 of ANOTHER chain
    (100) with a bogus consensus state at height 3 (root 99, foreign validator set) and another trusting period; a fork
    at height 5 freezes the canonical client -/
def opsR : List Op := mkRa 0 0 ++ [upd 0 0 1 5, .core (.bridge 0 1) [], .createClient 0 expParams 2 ⟨3, 20, 1⟩, .setCanonical 0,
  .createClient 100 { expParams with trusting := 1 } 3 ⟨99, 30, 1002⟩, .core (.fraud true 0 5 0 none none) []]
def sR : St := run (init P0) opsR

example : ((getClient sR 0).map (·.frozen)) = some true ∧ canonImmutableB sR = true ∧ (getDesc sR 0 3).map (·.root) = some 4 := by decide +kernel

/-- **recover_counterexample** — governance recovers the frozen canonical client with client 1: accepted; the canonical
    client of rollapp 0 is now a client of chain 100, has another trusting period, is unfrozen, and its consensus state at
    the posted height 3 has root 99 where the descriptor has 4. -/
theorem recover_counterexample :
    (recoverClient sR 0 1).2 = .ok ∧
    lookup (recoverClient sR 0 1).1.r2c 0 = some 0 ∧
    canonImmutableB (recoverClient sR 0 1).1 = false ∧
    ((getClient (recoverClient sR 0 1).1 0).map (fun cl => (cl.chain, cl.frozen, cl.params.trusting))) = some (100, false, 1) ∧
    ((getClient (recoverClient sR 0 1).1 0).bind fun cl => (getCons cl 3).map (·.root)) = some 99 ∧
    ((getDesc (recoverClient sR 0 1).1 0 3).map (·.root)) = some 4 := by decide +kernel

/-- **upgrade_counterexample** — what ibc-go does once an upgrade proof verifies, on the canonical client of `sA`: the
    designation stays, the client is now a client of chain 100 and trusts the validator set the upgrade named. -/
theorem upgrade_counterexample :
    (upgradeClient sA 0 ⟨100, 9, 90, 7⟩ true).2 = .ok ∧
    lookup (upgradeClient sA 0 ⟨100, 9, 90, 7⟩ true).1.r2c 0 = some 0 ∧
    canonImmutableB sA = true ∧ canonImmutableB (upgradeClient sA 0 ⟨100, 9, 90, 7⟩ true).1 = false ∧
    ((getClient (upgradeClient sA 0 ⟨100, 9, 90, 7⟩ true).1 0).bind fun cl => (getCons cl 9).map (·.nextVal)) = some 7 := by decide +kernel

end DymVerif.Props.C09
