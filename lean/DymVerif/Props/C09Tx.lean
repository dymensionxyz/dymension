/-
  Props/C09Tx — C09 for histories of TRANSACTIONS (`Model/LCTx.lean`: a transaction is a list of messages; the
  whole ante chain runs over all messages before any message executes).  The model mirrors the light-client decorator
  with `checkedMsgsTravelWithIBCOnly`: a transaction that carries a message the decorator checks — ibc MsgUpdateClient,
  MsgSubmitMisbehaviour, MsgChannelOpenAck — must consist of ibc core messages only.

  The property text: "no sequence of client updates and state updates, in either order" makes the canonical client
  disagree with a block descriptor.  It holds for every history of transactions of any number of messages
  (`agreement_inv_tx`).  The rule about mixed transactions is what makes it true: without it the ante handler would check
  a header before the MsgUpdateState / MsgSetCanonicalClient travelling in the same transaction has executed (replays
  corpus/C09/tx_*.ops, finding `C09/later_conflict_rejected/conflicting-items-accepted-in-one-transaction`); the examples
  at the end show such transactions refused.

  Transaction shapes that are possible (`accepted_tx_shape`): a transaction that gets past the ante chain either
  carries none of the three checked message types (any mix of rollapp / sequencer / lightclient messages, wrappers
  included, and unchecked ibc messages), or consists of ibc core messages only (client updates with packets /
  handshake messages / client creation — nothing that posts rollapp state or designates a client).
-/
import DymVerif.Lemmas.LCTxGood
import DymVerif.Props.C09
namespace DymVerif.Props.C09
open DymVerif DymVerif.LC

/-- **tx_single_is_step** — one message per transaction: the transaction is exactly the op of `Props/C09.lean`
    (ante part and message part of `updateClient` / `misbehaviour` / `chanAck` compose back; a single message is
    never refused as mixed) -/
theorem tx_single_is_step (s : St) (op : Op) : txStep s [op] = step s op := txStep_single s op

/-- **agreement_inv_tx** — FULL STRENGTH: for every history of transactions, each of any number of messages, in the
    state reached every consensus state of a canonical client agrees (root, timestamp) with the descriptor of its
    height.  (`SafeRunTx`: the side condition of `agreement_inv` — at each designation the descriptor table of M-LC is
    covered by the state infos of M-Core — through the message phases.) -/
theorem agreement_inv_tx (p : Core.Params) (txs : List (List Op)) (hs : SafeRunTx (init p) txs) :
    AgreeInv (runTx (init p) txs) :=
  (runTx_good txs (init p) (init_good p) hs).agree

/-- the designation maps stay mutually inverse through every transaction history -/
theorem designation_tx (p : Core.Params) (txs : List (List Op)) (hs : SafeRunTx (init p) txs) :
    MapsInv (runTx (init p) txs) :=
  -- holds for every history: `runTx_mapsInv` needs no side condition
  runTx_mapsInv txs (init p) (init_mapsInv p)

/-- **agreement_inv_tx_partial** — the statement for single-message transactions in terms of `SafeRun` -/
theorem agreement_inv_tx_partial (p : Core.Params) (txs : List (List Op)) (h1 : SingleMsg txs)
    (hs : SafeRun (init p) txs.flatten) : AgreeInv (runTx (init p) txs) := by
  rw [runTx_single txs (init p) h1]
  exact agreement_inv p txs.flatten hs

/-- **accepted_tx_shape** — a transaction the ante chain lets through either carries no checked message or consists of
    ibc core messages only -/
theorem accepted_tx_shape (s : St) (ms : List Op) (h : ∀ e, (txStep s ms).2 ≠ .ante e) :
    (∀ m ∈ ms, isChecked m = false) ∨ (∀ m ∈ ms, isIbcCore m = true) := by
  rcases txStep_cases s ms with ⟨e, he⟩ | ⟨_, hm, _⟩
  · exact absurd (by rw [he]) (h e)
  · exact mixed_false hm

/-- **agreement_inv_checked** — `agreement_inv` with the side condition in its executable form: if the coverage check
    `coveredB` (every descriptor of M-LC lies in a state info of M-Core) holds in every state along the run — the driver
    evaluates it after every op of every correspondence trace — then the agreement invariant holds at the end. -/
theorem agreement_inv_checked (p : Core.Params) (ops : List Op) (hc : CoveredRun (init p) ops) : AgreeInv (run (init p) ops) :=
  agreement_inv p ops (safeRun_of_covered ops (init p) hc)

example : coveredB sA = true := by decide +kernel

/-- the designation theorems carry over to single-message transaction histories in the same way -/
theorem designation_tx_partial (p : Core.Params) (txs : List (List Op)) (h1 : SingleMsg txs) :
    MapsInv (runTx (init p) txs) := by
  rw [runTx_single txs (init p) h1]
  exact (designation_unique_stable p txs.flatten).1

/-- a mixed transaction changes nothing -/
theorem mixed_tx_refused (s : St) (ms : List Op) (hn : ms.findSome? (nestedRefusal s) = none)
    (hsg : ms.findSome? (signerRefusal s) = none) (hm : mixedRefusal ms = true) : txStep s ms = (s, .ante .mixedTx) := by
  simp [txStep, hn, hsg, hm]


/-- a header for height 5 with state root 99 (the descriptor will say 6), signed by a0 -/
def hdrTx : Hdr := { h := 5, cons := ⟨99, 50, 1⟩, propSig := 0, propData := 0, rev := 0, sole := true }

/-- ONE transaction: the state update for heights 4..5 (honest: root of 5 is 6) and the conflicting header for 5 -/
def txBad : List Op := [upd 0 0 4 2, .updateClient 0 .top hdrTx true]

/-- it is refused as a whole, in either order of its messages, and for a height inside the batch -/
example : txStep sA txBad = (sA, .ante .mixedTx) := by
  refine Prod.ext ?_ ?_
  · rfl
  · decide +kernel
example : (txStep sA [.updateClient 0 .top hdrTx true, upd 0 0 4 2]).2 = .ante .mixedTx := by decide +kernel
example : (txStep sA [upd 0 0 4 2, .updateClient 0 .top { hdrTx with h := 4, cons := ⟨99, 40, 1⟩ } true]).2 = .ante .mixedTx := by decide +kernel

/-- the same two messages in two transactions: the header is refused by the ante handler (root mismatch) -/
example : (txStep (txStep sA [upd 0 0 4 2]).1 [.updateClient 0 .top hdrTx true]).2 = .ante .root := by decide +kernel

/-- an honest header travelling with another header (ibc core messages only) is still accepted -/
example : (txStep sA [.updateClient 0 .top { hdrTx with h := 4, cons := ⟨5, 40, 1⟩ } true,
    .updateClient 0 .top { hdrTx with cons := ⟨6, 50, 1⟩ } true]).2 = .ok := by decide +kernel

/-- rollapp 0 with heights 1..3 posted and a client (not canonical) whose consensus state at height 1 agrees -/
def opsE : List Op := mkRa 0 0 ++ [upd 0 0 1 3, .createClient 0 expParams 1 ⟨2, 10, 1⟩]
def sE : St := run (init P0) opsE

/-- a header for the posted height 3 with root 99 (descriptor: 4) naming the unregistered key 1001 as proposer -/
def hdrUnattr : Hdr := { h := 3, cons := ⟨99, 30, 1⟩, propSig := 1001, propData := 1001, rev := 0, sole := false }

/-- designation first, then the header / the evidence, in one transaction: refused -/
example : (txStep sE [.setCanonical 0, .updateClient 0 .top hdrUnattr true]).2 = .ante .mixedTx ∧
    (txStep sE [.setCanonical 0, .misbehaviour 0 .submit true]).2 = .ante .mixedTx ∧
    (step (step sE (.setCanonical 0)).1 (.updateClient 0 .top hdrUnattr true)).2 = .ante .nonSequencer ∧
    (step (step sE (.updateClient 0 .top hdrUnattr true)).1 (.setCanonical 0)).2 = .msg .root := by decide +kernel

end DymVerif.Props.C09
