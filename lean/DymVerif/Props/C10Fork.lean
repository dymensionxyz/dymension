/-
  Props/C10Fork — C10 and the hard fork of a rollapp (`MsgRollappFraudProposal` → `Keeper.HardFork`):

  * the guard: a fork is refused unless it comes from the authority, transfers are enabled
    (`ForkAllowed`: 0 < TransferProofHeight ≤ last valid height), the hub holds a state update, the rollapp
    has a canonical client and that client holds a consensus state at or below the new last height;
    in particular a rollapp whose bridge is still closed cannot be forked;
  * **fork_keeps_bridge** — an accepted (or refused) fork never changes the proof height, the registered
    genesis info, the credited balances, the registered bank metadata, the handshake counter, the
    recorded canonical channel, the IRO plan, the launch flag of ANY rollapp, nor the channel table
    (x/denommetadata's `OnHardFork` → `ClearRegisteredDenoms` clears x/rollapp's set of hub denoms the
    rollapp has been told about — the denommetadata middleware's memo bookkeeping —, NOT the bank
    metadata the handshake registered; the harness monitor `C10/fork_keeps_bridge/*` checks the bank);
  * what a fork does do to the bridge: it freezes the canonical client, so ibc core refuses transfers
    and packet messages over every channel of that client (**fork_freezes**), for as long as no state
    update of the rollapp arrives (**frozen_until_update**), and the first state update re-opens
    (**update_reopens**): "from then on ordinary transfers flow" holds exactly while the canonical
    client is active (`open_flows`, `open_flows_forever`).
-/
import DymVerif.Props.C10Closed
namespace DymVerif.Props.C10
open DymVerif.GB

/-- the part of a rollapp record the genesis bridge is about -/
def _root_.DymVerif.GB.Ra.bridgeAll (ra : Ra) : Nat × GInfo × List (Nat × Int) × Bool × Nat × Option Nat × Option (Int × Bool) × Bool × Bool :=
  (ra.tph, ra.gi, ra.bal, ra.md, ra.nOpen, ra.chan, ra.plan, ra.launched, ra.linked)

/-- **frozen_client_refuses** — while the canonical client of `r` is frozen nothing goes over the channels of
    that client: a transfer from the hub is refused, and every packet message is refused by ibc core (no
    acknowledgement, no state change) — on the recorded canonical channel and on every other channel. -/
theorem frozen_client_refuses {s : St} {c r : Nat} {ra : Ra} (hg : getRa s r = some ra) (hfz : ra.frozen = true)
    (ht : ra.tph ≠ 0) (hc : OverClient s c r) :
    step s (.send c) = (s, .err) ∧ ∀ ph p, step s (.recv c ph p) = (s, .err) := by
  obtain ⟨c', k, hf, hk⟩ := hc
  rcases hk with hk | hk <;> subst hk
  · exact ⟨by simp [step, stepSend, hf, hg, ht, hfz], fun ph p => by simp [step, stepRecv, hf, hg, ht, hfz]⟩
  · exact ⟨by simp [step, stepSend, hf], fun ph p => by simp [step, stepRecv, hf, hg, hfz]⟩

/-- an open bridge over an active client: transfers go out, packets are passed on -/
theorem active_open_flows {s : St} {c c' r : Nat} {ra : Ra} (hg : getRa s r = some ra) (hfz : ra.frozen = false)
    (ht : ra.tph ≠ 0) (hf : s.chans.find? (·.1 == c) = some (c', ChanKind.canon r)) :
    step s (.send c) = (s, .ok) ∧ ∀ ph p, step s (.recv c ph p) = (s, lowerRollapp p) :=
  ⟨by simp [step, stepSend, hf, hg, ht, hfz], fun ph p => by simp [step, stepRecv, hf, hg, ht, hfz]⟩

/-- **fork_guard** — an accepted fork comes from the authority, of a rollapp whose transfers are enabled at
    or below the last valid height, which has state on the hub and a canonical client with a consensus
    state at or below the new last height; the record afterwards is the old one with the last height
    cut, the client frozen and the revision bumped. -/
theorem fork_guard {s : St} {r : Nat} {gov : Bool} {h : Nat} (hok : (step s (.fork r gov h)).2 = .ok) :
    gov = true ∧ ∃ ra, getRa s r = some ra ∧ 0 < h ∧ 0 < ra.tph ∧ ra.tph ≤ h - 1 ∧ 0 < ra.lastH ∧ ra.linked = true ∧
      canonClientHeight ≤ min ra.lastH (h - 1) ∧
      step s (.fork r gov h) = (setRa s { ra with lastH := min ra.lastH (h - 1), frozen := true, rev := ra.rev + 1 }, .ok) := by
  obtain ⟨ra, _, hg, hw, he⟩ := (fork_errOrWrites s r gov h).ok hok
  cases hw with
  | fork _ h1 h2 h3 h4 h5 h6 => exact ⟨rfl, ra, hg, h1, h2, h3, h4, h5, h6, he⟩

/-- **fork_refused_while_closed** — a rollapp whose handshake has not completed cannot be forked -/
theorem fork_refused_while_closed {s : St} {r : Nat} {ra : Ra} (hg : getRa s r = some ra) (h0 : ra.tph = 0)
    (gov : Bool) (h : Nat) : step s (.fork r gov h) = (s, .err) := by
  refine (fork_errOrWrites s r gov h).resolve_right fun ⟨ra', _, hg', hw, _⟩ => ?_
  cases hw with
  | fork _ _ h2 =>
    rw [hg] at hg'; cases hg'
    omega

/-- … nor one asked for by anybody but the authority -/
theorem fork_needs_authority (s : St) (r h : Nat) : step s (.fork r false h) = (s, .err) := by
  simp [step, stepFork]

/-- **fork_keeps_bridge** — whatever the verdict, a fork leaves the proof height, the registered genesis
    info, the credited balances, the registered metadata, the handshake counter, the recorded canonical
    channel, the IRO plan, the launch flag and the canonical-client flag of every rollapp, the channel
    table and the clock as they are. -/
theorem fork_keeps_bridge (s : St) (r : Nat) (gov : Bool) (h : Nat) :
    (∀ r' ra, getRa s r' = some ra →
      ∃ ra', getRa (step s (.fork r gov h)).1 r' = some ra' ∧ ra'.bridgeAll = ra.bridgeAll) ∧
    (step s (.fork r gov h)).1.chans = s.chans ∧ (step s (.fork r gov h)).1.now = s.now ∧
    (step s (.fork r gov h)).1.nextChan = s.nextChan := by
  refine ⟨fun r' ra hg => ?_, ?_⟩
  · rcases step_getRa s (.fork r gov h) hg with h1 | ⟨x, hw, _, h1⟩
    · exact ⟨ra, h1, rfl⟩
    · cases hw
      exact ⟨_, h1, rfl⟩
  · rcases fork_errOrWrites s r gov h with e | ⟨_, _, _, _, e⟩ <;> rw [e] <;> exact ⟨rfl, rfl, rfl⟩

/-- **fork_freezes** — after an accepted fork of `r` nothing goes over the channels of `r`'s canonical
    client: a transfer from the hub is refused, and every packet message is refused by ibc core (no
    acknowledgement, no state change) — on the recorded canonical channel and on every other channel over
    that client. -/
theorem fork_freezes {s : St} {r : Nat} {gov : Bool} {h : Nat} (hok : (step s (.fork r gov h)).2 = .ok)
    {c : Nat} (hc : OverClient s c r) :
    step (step s (.fork r gov h)).1 (.send c) = ((step s (.fork r gov h)).1, .err) ∧
    ∀ ph p, step (step s (.fork r gov h)).1 (.recv c ph p) = ((step s (.fork r gov h)).1, .err) := by
  obtain ⟨ra, _, hg, hw, hst⟩ := (fork_errOrWrites s r gov h).ok hok
  have hg' := hw.getRa hg
  cases hw with
  | fork _ _ htp =>
    rw [hst]
    exact frozen_client_refuses hg' rfl (Nat.pos_iff_ne_zero.1 htp) hc

/-- **update_reopens** — the rollapp's next accepted state update ends the freeze: on an open bridge
    transfers over the canonical channel flow again right after it, and packets are passed on. -/
theorem update_reopens {s : St} {c r n : Nat} {ra : Ra} (hs : Reachable s) (hc : CanonChan s c r)
    (hg : getRa s r = some ra) (h1 : ra.nOpen ≠ 0) (hok : (step s (.update r n)).2 = .ok) :
    step (step s (.update r n)).1 (.send c) = ((step s (.update r n)).1, .ok) ∧
    ∀ ph p, step (step s (.update r n)).1 (.recv c ph p) = ((step s (.update r n)).1, lowerRollapp p) := by
  obtain ⟨ra0, _, hg0, hw, hst⟩ := (update_errOrWrites s r n).ok hok
  have hg' := hw.getRa hg0
  cases hw with
  | update =>
    rw [hg] at hg0; cases hg0
    rw [hst]
    obtain ⟨c', hc⟩ := hc
    exact active_open_flows hg' rfl (fun h => h1 ((closed_iff hs hg).2 h)) hc

/-- **frozen_only_open** — the canonical client of a rollapp is frozen only while its bridge is open (only a
    hard fork freezes it, and `ForkAllowed` wants transfers enabled): the test for a frozen client and the
    test for a closed bridge never compete, in whichever order ibc core and the genesis bridge make them. -/
theorem frozen_only_open {s : St} {r : Nat} {ra : Ra} (hs : Reachable s) (hg : getRa s r = some ra)
    (hf : ra.frozen = true) : ra.tph ≠ 0 ∧ ra.nOpen = 1 :=
  ⟨((reachable_inv hs).get hg).frz hf, ((reachable_inv hs).get hg).opened (((reachable_inv hs).get hg).frz hf)⟩

-- ------------------------------------------------------------------------------------------------ frozen until the next state update

/-- one op other than a state update of `r` leaves a frozen canonical client of `r` frozen -/
theorem step_frozen (s : St) (op : Op) (r : Nat) (ra : Ra) (hg : getRa s r = some ra) (hfz : ra.frozen = true)
    (hop : ∀ n, op ≠ .update r n) : ∃ ra', getRa (step s op).1 r = some ra' ∧ ra'.frozen = true := by
  rcases step_getRa s op hg with h | ⟨x, hw, _, h⟩
  · exact ⟨ra, h, hfz⟩
  · refine ⟨x, h, ?_⟩
    obtain rfl := (getRa_mem hg).2
    cases hw with
    | update n => exact absurd rfl (hop n)
    | fork => rfl
    | recv => exact (handshake_keeps ra _ _).2.2.2.trans hfz
    | _ => exact hfz

/-- **frozen_until_update** — a canonical client frozen by a hard fork stays frozen along every op sequence
    that contains no state update of that rollapp: nothing but the rollapp's next state update re-opens. -/
theorem frozen_until_update (s : St) (ops : List Op) (r : Nat) (ra : Ra) (hg : getRa s r = some ra)
    (hfz : ra.frozen = true) (hops : ∀ op ∈ ops, ∀ n, op ≠ .update r n) :
    ∃ ra', getRa (run s ops) r = some ra' ∧ ra'.frozen = true :=
  run_induction (P := fun s' => ∃ ra', getRa s' r = some ra' ∧ ra'.frozen = true) ops ⟨ra, hg, hfz⟩
    fun s op ho ⟨ra1, hg1, hf1⟩ => step_frozen s op r ra1 hg1 hf1 (hops op ho)

-- ------------------------------------------------------------------------------------------------ non-vacuity

/-- launch, link, 12 blocks of state, handshake at proof height 7 -/
def opsF : List Op := ops0 ++ [.update 0 12, .recv 0 7 pkt0]

example : (step (run init opsF) (.send 0)).2 = .ok := by decide +kernel
/-- a fork at fraud height 12 (last valid height 11) is accepted from the authority only, cuts the last height to 11,
    freezes, bumps the revision, and leaves proof height / credits / metadata alone -/
example : (step (run init opsF) (.fork 0 false 12)).2 = .err ∧ (step (run init opsF) (.fork 0 true 12)).2 = .ok ∧
    (getRa (run init (opsF ++ [.fork 0 true 12])) 0).map (fun ra => (ra.lastH, ra.frozen, ra.rev)) = some (11, true, 1) ∧
    (getRa (run init (opsF ++ [.fork 0 true 12])) 0).map (fun ra => (totalBal ra.bal, ra.tph, ra.nOpen)) = some (30, 7, 1) ∧
    (getRa (run init (opsF ++ [.fork 0 true 12])) 0).map (·.md) = some true := by decide +kernel
/-- frozen: nothing out, nothing in; the next state update re-opens; a repeated handshake packet is then passed on -/
example : (step (run init (opsF ++ [.fork 0 true 12])) (.send 0)).2 = .err ∧
    (step (run init (opsF ++ [.fork 0 true 12])) (.recv 0 9 (.ft ⟨1, 5, true, 1, true⟩))).2 = .err ∧
    (step (run init (opsF ++ [.fork 0 true 12, .update 0 3])) (.send 0)).2 = .ok ∧
    (step (run init (opsF ++ [.fork 0 true 12, .update 0 3])) (.recv 0 9 (.ft ⟨1, 5, true, 1, true⟩))).2 = .async ∧
    (step (run init (opsF ++ [.fork 0 true 12, .update 0 3])) (.recv 0 9 pkt0)).2 = .rerr .lower := by decide +kernel
/-- refused: before the handshake, at or below the proof height, without state, below the client's consensus state -/
example : (step (run init (ops0 ++ [.update 0 12])) (.fork 0 true 12)).2 = .err ∧
    (step (run init opsF) (.fork 0 true 7)).2 = .err ∧ (step (run init opsF) (.fork 0 true 8)).2 = .err ∧
    (step (run init (ops0 ++ [.recv 0 7 pkt0])) (.fork 0 true 12)).2 = .err ∧
    (step (run init (ops0 ++ [.update 0 9, .recv 0 7 pkt0])) (.fork 0 true 12)).2 = .err ∧
    (step (run init opsF) (.fork 0 true 0)).2 = .err ∧ (step (run init opsF) (.fork 0 true 11)).2 = .ok := by decide +kernel

end DymVerif.Props.C10
