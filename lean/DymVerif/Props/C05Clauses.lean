/-
  Props/C05Clauses — further clauses of C05 over M-Packets:
  * `fulfil_marks_on_demand`, `fulfil_marks_authorized`: every fulfilment path marks the order (so
    `fulfil_at_most_once` refuses every later attempt, on every path);
  * `finalize_pays_fulfiller_recv`: the positive clause for a received packet — the address the packet
    names (after a fulfilment: the fulfiller / LP) is credited the whole amount and charged the bridging fee.
-/
import DymVerif.Props.C05
namespace DymVerif.C05
open DymVerif DymVerif.Keys DymVerif.Packets

/-- a successful on-demand fulfilment marks the order with the LP that paid -/
theorem fulfil_marks_on_demand {s s' : St} {id : Bytes} {perm : List Nat} (h : msgOnDemand s id perm = .ok s') :
    ∃ o l, getOrder s .pending id = some o ∧ l ∈ compatibleLPs s o ∧
      getOrder s' .pending id = some { o with fulfiller := some l.addr } := by
  obtain ⟨o, l, hl, hb⟩ := msgOnDemand_by h
  obtain ⟨p, hp, -, hm⟩ := fulfilsBy_spec hb
  exact ⟨o, l, hp.1, hl, hm⟩

/-- a successful authorised fulfilment marks the order (the recorded fulfiller is the operator's fee
    address, the packet is redirected to the LP: `fulfil_authorized_redirects_packet`) -/
theorem fulfil_marks_authorized {s s' : St} {g : Addr} {m : AuthMsg} (h : msgFulfillAuthorized s g m = .ok s') :
    ∃ o, getOrder s .pending m.orderId = some o ∧ getOrder s' .pending m.orderId = some { o with fulfiller := some m.opAddr } := by
  obtain ⟨o, -, hb⟩ := msgFulfillAuthorized_by h
  obtain ⟨p, hp, -, hm⟩ := fulfilsBy_spec hb
  exact ⟨o, hp.1, hm⟩

/-- hence no path fulfils the same order a second time -/
theorem fulfil_twice_impossible_on_demand {s s' : St} {id : Bytes} {perm : List Nat} (h : msgOnDemand s id perm = .ok s') :
    (∀ a' fee' s'', msgFulfill s' a' id fee' ≠ .ok s'') ∧ (∀ perm' s'', msgOnDemand s' id perm' ≠ .ok s'') := by
  obtain ⟨o, l, _, _, ho'⟩ := fulfil_marks_on_demand h
  have := fulfil_at_most_once ho' rfl
  exact ⟨this.1, this.2.1⟩

theorem fulfil_twice_impossible_authorized {s s' : St} {g : Addr} {m : AuthMsg} (h : msgFulfillAuthorized s g m = .ok s') :
    (∀ a' fee' s'', msgFulfill s' a' m.orderId fee' ≠ .ok s'') ∧ (∀ perm' s'', msgOnDemand s' m.orderId perm' ≠ .ok s'') := by
  obtain ⟨o, _, ho'⟩ := fulfil_marks_authorized h
  have := fulfil_at_most_once ho' rfl
  exact ⟨this.1, this.2.1⟩

-- ------------------------------------------------------------------ the positive clause for received packets

/-- **finalize_pays_fulfiller (received packet)** — when the ICS-20 receive succeeds at finalization the
    address the packet names holds exactly `amount − bridgingFee(amount)` more than before (the fee is
    `⌊bridgingFee · amount⌋`; it is charged whenever it is positive and covered, which it is for a
    non-negative balance and a fee parameter in [0, 1]) -/
theorem finalize_pays_fulfiller_recv (s : St) (p : Packet) (s1 : St) (h : icsRecv s p true = some s1)
    (ht : p.target ≠ escrowAcct p.chan) (hb : 0 ≤ getBal s.bal p.target p.denom)
    (hfee : bridgingFeeOf s p.amount ≤ p.amount) :
    getBal s1.bal p.target p.denom = getBal s.bal p.target p.denom + p.amount - max 0 (bridgingFeeOf s p.amount) := by
  unfold icsRecv at h
  split at h
  · cases h
  · split at h
    · cases h
    · rename_i s2 hc
      cases h
      have e1 := icsCredit_pays_target hc ht
      have ef : bridgingFeeOf s2 p.amount = bridgingFeeOf s p.amount := by unfold bridgingFeeOf; rw [(coins_icsCredit hc).bank.oframe.bf]
      simp only [if_true]
      unfold chargeBridgingFee
      rw [ef]
      split
      · rename_i hle
        rw [e1, Int.max_eq_left hle]; omega
      · rename_i hpos
        have hpos' : 0 < bridgingFeeOf s p.amount := Int.not_le.mp hpos
        split
        · rename_i hlt
          rw [e1] at hlt; omega
        · rw [getBal_debit]
          simp only [and_self, if_true]
          rw [e1, Int.max_eq_right (Int.le_of_lt hpos')]

end DymVerif.C05
