/-
  Props/C13Plans — C13 over MANY plans and across chain restarts (genesis export → import).

  The property theorems over M-IRO-PLANS (Model/IroPlans): the x/iro store skeleton of
  Model/Genesis (plan section in lexical key order, by-rollapp index, `LastPlanId`) + one M-IRO world
  per rollapp.  Every statement is for every curve / Newton oracle per plan, every configuration,
  every number `base` of plans that existed before, and EVERY list of multi-plan ops — messages for
  any rollapp in any interleaving, new rollapps, and restarts (`MOp.restart` = ExportGenesis →
  InitGenesis as the Go code does it: plans re-set one by one in export order, `LastPlanId` = the
  maximum id).

  * `slot_is_single_plan_history` is the bridge: each rollapp's world after a multi-plan history is
    the state after a single-plan history of M-IRO, so EVERY theorem of Props/C13 (solvency, sold
    bounds, gating, claims, vesting) holds per plan whatever happened to the other plans and however
    often the chain was restarted.
  * the store part: a restart changes nothing; the next id is fresh (for the reachable store and for
    ANY genesis file); nothing stored is ever replaced; the plan id the holders of a rollapp know always
    resolves to that rollapp's plan, so claims stay 1:1 and are never `lost`.
  * `last_of_list_counter_overwrites`: the counterexample the theorems exclude — the same history with
    `LastPlanId` taken from the LAST exported plan (export order 1,10,2,…,9) hands out id 10 again, the
    record of the old plan 10 is replaced and its holders' claim is `lost`.
-/
import DymVerif.Props.C13
import DymVerif.Lemmas.IroPlans
namespace DymVerif.C13
open DymVerif DymVerif.Iro DymVerif.Genesis DymVerif.IroPlans

def MReach (I : Nat → Int → Int) (T : Nat → Int → Int → Option Int) (cfg : Cfg) (base : Nat) (m : MState) : Prop :=
  ∃ ops : List MOp, m = mrun I T (minit cfg base) ops

theorem mreach_tab {I T cfg base m} (h : MReach I T cfg base m) : IroInv m.tab := by
  obtain ⟨ops, rfl⟩ := h
  exact tinv_run ops _ (iroInv_run _)

theorem mreach_step {I T cfg base m} (h : MReach I T cfg base m) (o : MOp) : MReach I T cfg base (mstep I T m o).1 := by
  obtain ⟨ops, rfl⟩ := h
  exact ⟨ops ++ [o], by simp [mrun, List.foldl_append]⟩

/-! ## the bridge: per plan, a multi-plan history with restarts is a single-plan history -/

/-- **slot_is_single_plan_history**: the world of rollapp `k` after ANY multi-plan history (messages
    for other rollapps, creation of other plans, restarts) is the state of M-IRO after the messages that
    were addressed to it — in particular it is `Reach`able in the sense of Props/C13. -/
theorem slot_is_single_plan_history {I T cfg base} (ops : List MOp) (k : Nat) :
    (mrun I T (minit cfg base) ops).slot k = run (I k) (T k) (init cfg) (slotOps I T k (minit cfg base) ops) :=
  slot_run I T k ops (minit cfg base)

theorem mreach_slot {I T cfg base m} (h : MReach I T cfg base m) (k : Nat) : Reach (I k) (T k) cfg (m.slot k) := by
  obtain ⟨ops, rfl⟩ := h
  exact ⟨_, slot_is_single_plan_history ops k⟩

/-- **plans_keep_invariants**: every plan's bookkeeping and vesting invariant holds after any
    multi-plan history with restarts -/
theorem plans_keep_invariants {I T cfg base m} (h : MReach I T cfg base m) (k : Nat) :
    Inv (m.slot k) ∧ VInv (m.slot k) := reach_inv (mreach_slot h k)

/-- **other_plans_do_not_interfere**: an op that is not a message for rollapp `k` — a message for
    another rollapp (in particular the creation of another plan), a new rollapp, a restart — leaves the
    world of rollapp `k` exactly as it was (block time is the only thing shared) -/
theorem other_plans_do_not_interfere {I T} (m : MState) (o : MOp) (k : Nat) (h : slotOp m k o = none) :
    (mstep I T m o).1.slot k = m.slot k := by
  rw [mstep_slot, h]

theorem restart_touches_no_plan {I T} (m : MState) (k : Nat) : (mstep I T m .restart).1.slot k = m.slot k :=
  other_plans_do_not_interfere m .restart k rfl

theorem create_touches_no_other_plan {I T} (m : MState) (k : Nat) (op : Op) (hk : m.cur ≠ k) (hc : isCreate op = true) :
    (mstep I T m (.on op)).1.slot k = m.slot k :=
  other_plans_do_not_interfere m _ k (slotOp_other_create m k op hk hc)

/-- per-plan clauses of Props/C13 transported to every plan of a multi-plan history -/
theorem msold_bounded {I T cfg base m} (h : MReach I T cfg base m) (k : Nat) (p : Iro.Plan) (hp : (m.slot k).plan = some p) :
    p.sold ≤ p.maxSell ∧ 0 < p.maxSell ∧ p.maxSell ≤ p.alloc ∧ p.claimed ≤ p.sold :=
  sold_bounded (mreach_slot h k) p hp

theorem mmodule_holds_unclaimed {I T cfg base m} (h : MReach I T cfg base m) (k : Nat) (p : Iro.Plan)
    (hp : (m.slot k).plan = some p) (hs : p.settled = true) :
    (m.slot k).modRa = sumTo (m.slot k).cfg.n (m.slot k).iro ∧ (m.slot k).modRa = p.sold - p.claimed ∧
    (m.slot k).modIro = 0 :=
  module_holds_unclaimed (mreach_slot h k) p hp hs

theorem mvesting_bounded {I T cfg base m} (h : MReach I T cfg base m) (k : Nat) (p : Iro.Plan)
    (hp : (m.slot k).plan = some p) (hs : p.settled = true) :
    0 ≤ p.vest.claimed ∧ p.vest.claimed ≤ p.vest.amount ∧ (m.slot k).planLiq = p.vest.amount - p.vest.claimed :=
  vesting_bounded (mreach_slot h k) p hp hs

/-- solvency of every plan along a multi-plan history without exact-spend purchases FOR THAT PLAN -/
theorem msolvent_buy_sell {I T cfg base} (ops : List MOp) (k : Nat)
    (hno : ∀ o ∈ slotOps I T k (minit cfg base) ops, isBes o = false) (p : Iro.Plan)
    (hp : ((mrun I T (minit cfg base) ops).slot k).plan = some p) (hs : p.settled = false) :
    cost (I k) p.L 0 p.sold ≤ ((mrun I T (minit cfg base) ops).slot k).planLiq + ((mrun I T (minit cfg base) ops).slot k).trades := by
  rw [slot_is_single_plan_history] at hp ⊢
  exact solvent_buy_sell _ hno p hp hs

/-! ## the store: restarts, fresh ids, nothing replaced -/

/-- **restart_changes_nothing**: in every reachable state ExportGenesis → InitGenesis rebuilds exactly
    the state it exported — plan section, by-rollapp index, `LastPlanId`, and (trivially) every world -/
theorem restart_changes_nothing {I T cfg base m} (h : MReach I T cfg base m) :
    mstep I T m .restart = (m, .r .ok) := by
  show ({ m with tab := importIro (exportIro m.tab) }, MRes.r Err.ok) = (m, MRes.r Err.ok)
  rw [iro_import_export (mreach_tab h)]

/-- … and the order in which a genesis file lists the plans does not matter -/
theorem restart_any_order {I T cfg base m} (h : MReach I T cfg base m) (l : List Genesis.Plan)
    (hp : l.Perm (exportIro m.tab).plans) : importIro { params := m.tab.params, plans := l } = m.tab :=
  iro_import_perm (mreach_tab h) hp

/-- **next_plan_id_fresh_any_genesis**: whatever a genesis file lists, in whatever order, the id the
    next CreatePlan receives is larger than every imported plan's id -/
theorem next_plan_id_fresh_any_genesis (g : IroGenesis) : ∀ p ∈ g.plans, p.id < nextPlanId (importIro g) := by
  intro p hp
  have h : (importIro g).lastPlanId = maxId (g.plans.map (·.id)) := iroInitLastPlanId_eq_maxId _
  have := maxId_ge (g.plans.map (·.id)) p.id (List.mem_map.2 ⟨p, hp, rfl⟩)
  unfold nextPlanId; omega

/-- **new_plan_never_overwrites**: when a CreatePlan succeeds (after any history with restarts) the new
    plan is stored under `LastPlanId + 1`, which no stored plan uses; every plan record and every
    by-rollapp entry stored before is still there, unchanged; the new rollapp's index entry names the
    new id. -/
theorem new_plan_never_overwrites {I T cfg base m} (h : MReach I T cfg base m) (op : Op) (hc : isCreate op = true)
    (hok : (mstep I T m (.on op)).2 = .r .ok) :
    (∀ x ∈ m.tab.plans, x.2.id ≠ m.tab.lastPlanId + 1 ∧ x ∈ (mstep I T m (.on op)).1.tab.plans) ∧
    (∀ e ∈ m.tab.byRollapp, e ∈ (mstep I T m (.on op)).1.tab.byRollapp) ∧
    slotPlanId (mstep I T m (.on op)).1 m.cur = some (m.tab.lastPlanId + 1) ∧
    (mstep I T m (.on op)).1.tab.lastPlanId = m.tab.lastPlanId + 1 := by
  have hi := mreach_tab h
  have ht := isTime_of_isCreate hc
  have hkeep := mstep_keeps (I := I) (T := T) (.on op) hi
  by_cases hh : kvHas (plansByRollappKey (raKey m.cur)) m.tab.byRollapp = true
  · simp [mstep, ht, hc, hh] at hok
  · have hf : kvHas (plansByRollappKey (raKey m.cur)) m.tab.byRollapp = false := by simpa using hh
    by_cases hr : (step (I m.cur) (T m.cur) (m.slot m.cur) op).2 = .ok
    · have etab : (mstep I T m (.on op)).1.tab = iroStep m.tab (.create (raKey m.cur) m.cur) := by
        simp [mstep, ht, hc, hf, hr]
      obtain ⟨_, _, _, hnew⟩ := create_keeps hi (raKey m.cur) m.cur hf
      have hi' : IroInv (iroStep m.tab (.create (raKey m.cur) m.cur)) := iroInv_step hi _
      refine ⟨fun x hx => ⟨(next_id_fresh hi x hx).1, hkeep.1 x hx⟩, hkeep.2, ?_, ?_⟩
      · unfold slotPlanId
        rw [etab]
        exact (kvGet_eq_some_iff soBytes hi'.sr _ _).2 hnew
      · rw [etab]; simp [iroStep, hf, setPlan, nextPlanId]
    · simp [mstep, ht, hc, hf, hr] at hok

/-- **plans_never_replaced**: every plan record and index entry of a reachable state survives every
    further history (messages, other plans, restarts) -/
theorem plans_never_replaced {I T cfg base m} (h : MReach I T cfg base m) (ops : List MOp) :
    (∀ x ∈ m.tab.plans, x ∈ (mrun I T m ops).tab.plans) ∧
    (∀ e ∈ m.tab.byRollapp, e ∈ (mrun I T m ops).tab.byRollapp) := by
  induction ops generalizing m with
  | nil => exact ⟨fun _ hx => hx, fun _ hx => hx⟩
  | cons o os ih =>
    have h1 := mstep_keeps (I := I) (T := T) o (mreach_tab h)
    have h2 := ih (mreach_step h o)
    exact ⟨fun x hx => h2.1 x (h1.1 x hx), fun e he => h2.2 e (h1.2 e he)⟩

/-- **plan_always_reachable**: the plan id the holders of a rollapp know resolves to that rollapp's
    own plan, so no message is ever `lost` -/
theorem plan_always_reachable {I T cfg base m} (h : MReach I T cfg base m) (k : Nat) : routed m k = true :=
  routed_of_inv (mreach_tab h) k

theorem never_lost {I T cfg base m} (h : MReach I T cfg base m) (o : MOp) : (mstep I T m o).2 ≠ .lost := by
  cases o with
  | newra => simp [mstep]
  | sel j => simp only [mstep]; split <;> simp
  | restart => simp [mstep]
  | on op =>
    simp only [mstep]
    by_cases ht : isTime op = true
    · simp [ht]
    · by_cases hc : isCreate op = true
      · simp only [ht, hc, if_true, if_false, Bool.false_eq_true]
        split <;> simp
      · simp [ht, hc, plan_always_reachable h]

/-- **mclaim_once_1to1**: after any multi-plan history with restarts, a holder of IRO tokens of a
    settled plan claims exactly the holding in rollapp tokens, once. -/
theorem mclaim_once_1to1 {I T cfg base m} (h : MReach I T cfg base m) (p : Iro.Plan)
    (hp : (m.slot m.cur).plan = some p) (hs : p.settled = true) (a : Nat) (ha : a < (m.slot m.cur).cfg.n)
    (hb : (m.slot m.cur).iro a ≠ 0) :
    let r := mstep I T m (.on (.claim a))
    r.2 = .r .ok ∧ r.1.cur = m.cur ∧ r.1.tab = m.tab ∧
    (r.1.slot m.cur).ra a = (m.slot m.cur).ra a + (m.slot m.cur).iro a ∧ (r.1.slot m.cur).iro a = 0 ∧
    (mstep I T r.1 (.on (.claim a))).2 = .r .noTokens := by
  have hi := mreach_tab h
  have e1 := mstep_on_of_inv (I := I) (T := T) hi (.claim a) rfl rfl
  obtain ⟨c1, c2, c3, _, c5, _⟩ := claim_once_1to1 (mreach_slot h m.cur) p hp hs a ha hb
  have h' := mreach_step (I := I) (T := T) h (.on (.claim a))
  have e2 := mstep_on_of_inv (I := I) (T := T) (mreach_tab h') (.claim a) rfl rfl
  simp only []
  rw [e2, e1]
  simp only [updSlot, if_true]
  exact ⟨by rw [c1], trivial, trivial, c2, c3, by rw [c5]⟩

/-! ## non-vacuity: nine earlier plans, two rollapps (ids 10 and 11), a restart, a third rollapp (id 12) -/

def demoIs : Nat → Int → Int := fun _ => demoI
def demoTs : Nat → Int → Int → Option Int := fun _ => demoT

/-- rollapp 0: owner and trader funded, plan created, trader buys 100 tokens; rollapp 1: plan created -/
def demoTwoPlans : List MOp :=
  (demoTrading.map MOp.on) ++ [.newra, .on (.fund 0 1000000000000000000000), .on demoCreate]

/-- … restart, a third rollapp with a plan, then rollapp 0 is settled and the trader claims -/
def demoRestart : List MOp :=
  demoTwoPlans ++ [.restart, .newra, .on (.fund 0 1000000000000000000000), .on demoCreate,
                   .sel 0, .on (.settle 1000000000000000000000 true), .on (.claim 1)]

example :
    let m := mrun demoIs demoTs (minit demoCfg 9) demoTwoPlans
    (exportIro m.tab).plans.map (·.id) = [1, 10, 11, 2, 3, 4, 5, 6, 7, 8, 9] ∧
    slotPlanId m 0 = some 10 ∧ slotPlanId m 1 = some 11 ∧ m.tab.lastPlanId = 11 := by decide +kernel

example :
    let m := mrun demoIs demoTs (minit demoCfg 9) demoRestart
    slotPlanId m 2 = some 12 ∧ m.tab.lastPlanId = 12 ∧ routed m 0 = true ∧
    (m.slot 0).ra 1 = 100000000000000000000 ∧ (m.slot 0).modRa = 0 ∧
    (m.slot 1).plan.map (·.sold) = some 1000000000000000000 := by decide +kernel

example : MReach demoIs demoTs demoCfg 9 (mrun demoIs demoTs (minit demoCfg 9) demoRestart) := ⟨_, rfl⟩

/-! ## what the theorems exclude: `LastPlanId` := id of the LAST exported plan -/

/-- InitGenesis with the counter taken from the last plan of the list -/
def importIroLast (g : IroGenesis) : IroState :=
  { importIro g with lastPlanId := lastId (g.plans.map (·.id)) }

/-- the same history as `demoRestart`, but the restart uses `importIroLast`: the export lists the ids
    as 1,10,11,2,…,9, the counter becomes 9, the third rollapp's plan is stored under id 10 and REPLACES
    the plan of rollapp 0: its id now resolves to another rollapp's plan, and the trader's claim is `lost`. -/
theorem last_of_list_counter_overwrites :
    let m := mrun demoIs demoTs (minit demoCfg 9) demoTwoPlans
    let m1 : MState := { m with tab := importIroLast (exportIro m.tab) }
    let m2 := mrun demoIs demoTs m1 [.newra, .on (.fund 0 1000000000000000000000), .on demoCreate, .sel 0]
    m1.tab.lastPlanId = 9 ∧ slotPlanId m2 2 = some 10 ∧ slotPlanId m2 0 = some 10 ∧ routed m2 0 = false ∧
    (mstep demoIs demoTs m2 (.on (.claim 1))).2 = .lost := by decide +kernel

end DymVerif.C13
