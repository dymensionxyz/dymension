/-
  Props/C19Ids — demand-order ids name one and only one packet key, modulo the injectivity of SHA-256,
  which is an explicit HYPOTHESIS of the theorem (a parameter, not an axiom); and what is true about
  base64 text naming packet keys.
-/
import DymVerif.Model.KeysIds
namespace DymVerif.C19
open DymVerif DymVerif.Keys

theorem hexNib_inj (a b : Nat) (ha : a < 16) (hb : b < 16) (h : hexNib a = hexNib b) : a = b := by
  unfold hexNib at h; split at h <;> split at h <;> omega

/-- `hex.EncodeToString` is injective on byte strings -/
theorem hexLower_inj (a b : Bytes) (ha : Bytes.WF a) (hb : Bytes.WF b) (h : hexLower a = hexLower b) : a = b := by
  induction a generalizing b with
  | nil => cases b with
    | nil => rfl
    | cons y ys => simp [hexLower] at h
  | cons x xs ih =>
    cases b with
    | nil => simp [hexLower] at h
    | cons y ys =>
      have hx : x < 256 := ha x (by simp)
      have hy : y < 256 := hb y (by simp)
      simp only [hexLower, List.flatMap_cons, List.cons_append, List.nil_append, List.cons.injEq] at h
      obtain ⟨h1, h2, h3⟩ := h
      have e1 := hexNib_inj _ _ (Nat.mod_lt _ (by decide)) (Nat.mod_lt _ (by decide)) h1
      have e2 := hexNib_inj _ _ (Nat.mod_lt _ (by decide)) (Nat.mod_lt _ (by decide)) h2
      have : x = y := by omega
      subst this
      rw [ih ys (fun c hc => ha c (by simp [hc])) (fun c hc => hb c (by simp [hc])) h3]

/-- C19 "names one and only one object" for demand-order ids: IF the hash is injective (the
    collision-freedom of SHA-256, hypothesis `sha_inj`) two packet keys with the same order id are the
    same key.  The harness checks the conclusion on every generated key (collision monitor over the real
    `BuildDemandIDFromPacketKey`). -/
theorem demand_order_id_unique (sha : Bytes → Bytes)
    (sha_inj : ∀ a b, sha a = sha b → a = b) (sha_wf : ∀ a, Bytes.WF (sha a))
    (k k' : Bytes) (h : demandOrderId sha k = demandOrderId sha k') : k = k' :=
  sha_inj k k' (hexLower_inj _ _ (sha_wf k) (sha_wf k') h)

/-- the id is 64 characters when the hash is 32 bytes -/
theorem demand_order_id_length (sha : Bytes → Bytes) (k : Bytes) (hl : (sha k).length = 32) :
    (demandOrderId sha k).length = 64 := by
  have : ∀ b : Bytes, (hexLower b).length = 2 * b.length := by
    intro b; induction b with
    | nil => rfl
    | cons x xs ih => simp only [hexLower, List.flatMap_cons, List.length_append, List.length_cons, List.length_nil] at ih ⊢; omega
  rw [demandOrderId, this, hl]

-- test vector for `hexLower`
example : hexLower [0, 171, 255] = [48, 48, 97, 98, 102, 102] := by decide +kernel

/-- remark (what is true about the TEXT form of packet keys): `DecodePacketKey` uses the non-strict
    `base64.StdEncoding`, which ignores '\n' / '\r' and the unused trailing bits of the last sextet, so
    several strings decode to one key ("QQ==", "QR==" and "QQ==\n" all name the one-byte key 0x41) and
    `MsgFinalizePacketByPacketKey.ValidateBasic` accepts each of them.  The OBJECT named is still unique
    (`packet_key_roundtrip`: the canonical text decodes to its key, and decoding is a function), and the
    hub only ever hands out the canonical text. -/
theorem packet_key_text_not_unique_counterexample :
    let a : Bytes := [81, 81, 61, 61]       -- "QQ=="
    let b : Bytes := [81, 82, 61, 61]       -- "QR=="
    let c : Bytes := [81, 81, 61, 61, 10]   -- "QQ==\n"
    a ≠ b ∧ a ≠ c ∧ encodePacketKey [65] = a ∧ decodePacketKeyExact a = some [65] ∧
      decodePacketKeyExact b = some [65] ∧ decodePacketKeyExact c = some [65] := by decide +kernel

end DymVerif.C19
