/-
  Props/C17 — DymNS: one owner per name, consistent lookups, escrow fully backed.
  Property theorems only.  All statements are for every parameter value, every start time and every
  list of operations (`Op`: register / renew / take-over, transfer, set-controller, update-resolve,
  update-details, place / cancel / complete sell order, purchase, place / raise / cancel / accept buy
  order, RollApp creation, alias registration and trading, time advance, trading switches, reserved
  aliases, RollApp ownership transfer of x/rollapp, and the governance paths: chain-id migration,
  alias update, parameter update), or for every single accepted operation on any state that satisfies
  the invariant.
-/
import DymVerif.Lemmas.DymNSLit
import DymVerif.Lemmas.DymNSBoIdx
import DymVerif.Lemmas.DymNSLedger
import DymVerif.Lemmas.GenEqDymNS
namespace DymVerif.C17
open DymVerif DymVerif.DymNS

/-- every state reachable from an empty store satisfies the invariant -/
theorem reachable_inv (p : Params) (t : Nat) (ops : List Op) : Inv (run (State.start p t) ops) := by
  exact run_inv ops (start_inv p t)

/-! ## escrow_inv — the module account holds exactly the open bids plus the open offers -/

/-- **escrow_inv**: module balance = Σ highest bids of open sell orders (names and aliases) +
    Σ offers of open buy orders, in every reachable state -/
theorem escrow_inv (p : Params) (t : Nat) (ops : List Op) :
    (run (State.start p t) ops).modBal =
      sumBids (run (State.start p t) ops).nameSO + sumBids (run (State.start p t) ops).aliasSO +
        sumOffers (run (State.start p t) ops).bos :=
  (reachable_inv p t ops).esc

/-- the same as a one-step statement: no accepted or rejected operation breaks it -/
theorem escrow_inv_step (s : State) (op : Op) (h : Inv s) : (step s op).modBal = escrowed (step s op) :=
  (step_inv op h).esc

/-! ## indexes_consistent — the reverse indexes are exactly the image of the records -/

/-- **indexes_consistent** (owned-by): owned-by(a) lists n ⇔ the record of n has owner a -/
theorem indexes_consistent_owned (p : Params) (t : Nat) (ops : List Op) (a : Acct) (n : Name) :
    n ∈ (run (State.start p t) ops).ns.ownIdx.lookup a ↔
      ∃ d, getName (run (State.start p t) ops) n = some d ∧ d.owner = a :=
  (reachable_inv p t ops).idx.own a n

/-- **indexes_consistent** (configured address): the index lists n under address x ⇔ x is the value
    of one of n's address records (the owner's own address counts as the default record when the
    name has no explicit default) -/
theorem indexes_consistent_configured (p : Params) (t : Nat) (ops : List Op) (x : Addr) (n : Name) :
    n ∈ (run (State.start p t) ops).ns.cfgIdx.lookup x ↔
      ∃ d, getName (run (State.start p t) ops) n = some d ∧ x ∈ d.cfgAddrs :=
  (reachable_inv p t ops).idx.cfg x n

/-- **indexes_consistent** (fallback address) -/
theorem indexes_consistent_fallback (p : Params) (t : Nat) (ops : List Op) (b : Nat) (n : Name) :
    n ∈ (run (State.start p t) ops).ns.fbIdx.lookup b ↔
      ∃ d, getName (run (State.start p t) ops) n = some d ∧ b ∈ d.fbAddrs :=
  (reachable_inv p t ops).idx.fb b n

/-- the owned-by *query* returns exactly the live names of that owner -/
theorem owned_by_query_exact (p : Params) (t : Nat) (ops : List Op) (a : Acct) (n : Name) :
    n ∈ ownedBy (run (State.start p t) ops) a ↔
      ∃ d, getNameLive (run (State.start p t) ops) n = some d ∧ d.owner = a := by
  have h := (reachable_inv p t ops).idx.own a n
  unfold ownedBy
  simp only [List.mem_filter]
  constructor
  · rintro ⟨_, hf⟩
    cases hl : getNameLive (run (State.start p t) ops) n with
    | none => simp [hl] at hf
    | some d => exact ⟨d, rfl, by simpa [hl] using hf⟩
  · rintro ⟨d, hl, ho⟩
    refine ⟨h.mpr ⟨d, (getNameLive_some hl).1, ho⟩, by simp [hl, ho]⟩

/-- **one owner per name**: a name is never listed under two accounts -/
theorem owner_unique (p : Params) (t : Nat) (ops : List Op) (a b : Acct) (n : Name)
    (ha : n ∈ (run (State.start p t) ops).ns.ownIdx.lookup a)
    (hb : n ∈ (run (State.start p t) ops).ns.ownIdx.lookup b) : a = b := by
  obtain ⟨d, hd, rfl⟩ := (indexes_consistent_owned p t ops a n).mp ha
  obtain ⟨d', hd', rfl⟩ := (indexes_consistent_owned p t ops b n).mp hb
  rw [hd] at hd'; injection hd' with hd'; subst hd'; rfl

/-- **indexes_consistent (buy orders)**: orders-by-buyer, orders-by-name and orders-by-alias list
    exactly the open buy orders of that buyer / on that name / on that alias -/
theorem indexes_consistent_buy_orders (p : Params) (t : Nat) (ops : List Op) : BoIdxOK (run (State.start p t) ops) := by
  exact run_boIdxOK ops (start_inv p t) (start_boIdxOK p t)

/-! ## owner_unique_authorised — who can change a record -/

/-- **owner_unique_authorised**: in a reachable state, an accepted operation leaves the record of a
    name untouched or rewrites it in one of the ways of `NameChange`, each of which carries its
    authorisation: the owner (extend, renew, transfer, set-controller, accept a buy order), the
    controller and only while unexpired (address records, contact), a bid on / completion of the
    owner's own sell order while the name is unexpired, or — for somebody else's expired name — a
    registration after expiry + grace period.  A record is never deleted. -/
theorem owner_unique_authorised (p : Params) (t : Nat) (ops : List Op) (op : Op) (s' : State)
    (h : exec (run (State.start p t) ops) op = .ok s') (n : Name) (d : DymName)
    (hd : getName (run (State.start p t) ops) n = some d) :
    ∃ d', getName s' n = some d' ∧ (d' = d ∨ NameChange (run (State.start p t) ops) n d op d') :=
  name_change (reachable_inv p t ops) h hd

/-- corollary: the owner of an unexpired name changes only by the owner's transfer, the owner's
    acceptance of a buy order, or a sale through the open sell order that this same owner placed
    (`seller` is a ghost field of the model recording who placed the order); the owner of an
    expired name only by a registration after the grace period -/
theorem owner_change_authorised {s s' : State} {op : Op} (hI : Inv s) (h : exec s op = .ok s') {n : Name}
    {d d' : DymName} (hd : getName s n = some d) (hd' : getName s' n = some d') (hne : d'.owner ≠ d.owner) :
    (d.expired s.now = false ∧
        (op.actor = d.owner ∨ ∃ so, AMap.get s.nameSO n = some so ∧ so.seller = d.owner)) ∨
    (d.expired s.now = true ∧ d.expireAt + s.p.grace ≤ s.now ∧ op.actor = d'.owner) := by
  obtain ⟨d'', hd'', hc⟩ := name_change hI h hd
  rw [hd'] at hd''; injection hd'' with hd''; subst hd''
  rcases hc with rfl | hc
  · exact absurd rfl hne
  · cases hc with
    | extend dur pay c he => exact absurd rfl hne
    | renew dur pay c he => exact absurd rfl hne
    | takeOver a dur pay c hna he hg => exact Or.inr ⟨he, hg, rfl⟩
    | transfer b he hso hb => exact Or.inl ⟨he, Or.inl rfl⟩
    | setController c he => exact absurd rfl hne
    | updateResolve ch e p v cfgs he hcf => exact absurd rfl hne
    | updateDetails c cl cfgs contact he hcf => exact absurd rfl hne
    | purchase a offer so hso hsel hse he hna => exact Or.inl ⟨he, Or.inr ⟨so, hso, hsel⟩⟩
    | complete a so b hso hsel hb he ha => exact Or.inl ⟨he, Or.inr ⟨so, hso, hsel⟩⟩
    | accept pfx id m bo hg hna hn he hso hb => exact Or.inl ⟨he, Or.inl rfl⟩
    | migrate m he hnd => exact absurd rfl hne

/-- corollary: **nobody but the previous owner re-registers a name during the grace period** -/
theorem no_takeover_in_grace {s s' : State} {op : Op} (hI : Inv s) (h : exec s op = .ok s') {n : Name}
    {d d' : DymName} (hd : getName s n = some d) (hd' : getName s' n = some d') (hne : d'.owner ≠ d.owner)
    (hexp : d.expired s.now = true) : d.expireAt + s.p.grace ≤ s.now := by
  rcases owner_change_authorised hI h hd hd' hne with ⟨he, _⟩ | ⟨_, hg, _⟩
  · rw [hexp] at he; cases he
  · exact hg

/-- corollary: while the owner stays the same, the address records of an unexpired name change
    only on the controller's signature — or by the governance chain-id migration, which rewrites
    chain-ids only (`migration_changes_only_chain_ids`).  (A completed sell order always changes the
    owner: the invariant records that the highest bidder of an open order is never the owner —
    `MsgPurchaseOrder` refuses the owner's bid and the owner cannot change while the order is open.) -/
theorem address_records_by_controller {s s' : State} {op : Op} (hI : Inv s) (h : exec s op = .ok s') {n : Name}
    {d d' : DymName} (hd : getName s n = some d) (hd' : getName s' n = some d') (ho : d'.owner = d.owner)
    (hc : d'.configs ≠ d.configs) (hexp : d.expired s.now = false) :
    op.actor = d.controller ∨ ∃ m, op = .migrateChainIds m := by
  obtain ⟨d'', hd'', hch⟩ := name_change hI h hd
  rw [hd'] at hd''; injection hd'' with hd''; subst hd''
  rcases hch with rfl | hch
  · exact absurd rfl hc
  · cases hch with
    | extend dur pay c he => exact absurd rfl hc
    | renew dur pay c he => rw [hexp] at he; cases he
    | takeOver a dur pay c hna he hg => rw [hexp] at he; cases he
    | transfer b he hso hb => exact absurd ho hb
    | setController c he => exact absurd rfl hc
    | updateResolve ch e p v cfgs he hcf => exact Or.inl rfl
    | updateDetails c cl cfgs contact he hcf => exact Or.inl rfl
    | purchase a offer so hso hsel hse he hna => exact absurd ho hna
    | complete a so b hso hsel hb he ha =>
      exfalso
      simp only [cleared] at ho
      obtain ⟨d1, hd1, _, _, hbid⟩ := hI.so n so hso
      have : d1 = d := by
        have hd0 : s.ns.get n = some d := hd
        rw [hd0] at hd1; exact (Option.some.inj hd1).symm
      subst this
      exact hbid b hb ho
    | accept pfx id m bo hg hna hn he hso hb => exact absurd ho hb
    | migrate m he hnd => exact Or.inr ⟨m, rfl⟩

/-- in every reachable state the highest bidder of an open Dym-Name sell order is not the owner of
    the name, the order was placed by the owner and ends before the name does -/
theorem open_order_of_the_owner (p : Params) (t : Nat) (ops : List Op) (n : Name) (so : SellOrder)
    (h : AMap.get (run (State.start p t) ops).nameSO n = some so) :
    ∃ d, getName (run (State.start p t) ops) n = some d ∧ so.expireAt < d.expireAt ∧ so.seller = d.owner ∧
      ∀ b, so.bid = some b → b.bidder ≠ d.owner :=
  (reachable_inv p t ops).so n so h

/-! ## alias_bijection -/

/-- **alias_bijection**: alias ↦ RollApp and RollApp ↦ aliases are inverse of each other -/
theorem alias_bijection (p : Params) (t : Nat) (ops : List Op) (l : AliasId) (c : Chain) :
    AMap.get (run (State.start p t) ops).al.aliasTo l = some c ↔ l ∈ aliasesOf (run (State.start p t) ops) c :=
  (reachable_inv p t ops).ali.iff l c

/-- each alias is listed under at most one RollApp, and that one is a registered RollApp -/
theorem alias_at_most_one_rollapp (p : Params) (t : Nat) (ops : List Op) (l : AliasId) (c c' : Chain)
    (h : l ∈ aliasesOf (run (State.start p t) ops) c) (h' : l ∈ aliasesOf (run (State.start p t) ops) c') :
    c = c' ∧ isRollapp (run (State.start p t) ops) c = true := by
  have e := (alias_bijection p t ops l c).mpr h
  have e' := (alias_bijection p t ops l c').mpr h'
  rw [e] at e'; injection e' with e'
  exact ⟨e', (reachable_inv p t ops).ali.roll l c e⟩

/-! ## refund_full and sale_exact — exact balance equations of every market message -/

/-- **refund_full (outbid) / sale_exact (sell price reached)**: the buyer pays exactly the offer, the
    previous bidder is refunded in full, and if the bid completes the order the seller receives exactly
    the offer and the buyer the name with the configuration cleared -/
theorem refund_full_outbid {s s' : State} {a : Acct} {n : Name} {offer : Nat} {d : DymName} {so : SellOrder}
    (h : purchaseName s a n offer = .ok s') (hd : getName s n = some d) (hso : AMap.get s.nameSO n = some so) :
    (∀ x, balOf s' x + (if x = a then offer else 0) =
        balOf s x + refundTo so.bid x +
          (if ({ so with bid := some ⟨a, offer, 0⟩ } : SellOrder).finished s.now = true ∧ x = d.owner then offer else 0)) ∧
    (if ({ so with bid := some ⟨a, offer, 0⟩ } : SellOrder).finished s.now = true
     then getName s' n = some (cleared a d.expireAt) ∧ AMap.get s'.nameSO n = none
     else getName s' n = some d ∧ AMap.get s'.nameSO n = some { so with bid := some ⟨a, offer, 0⟩ }) := by
  cases exec_step (op := .buyName a n offer) h with
  | bid _ _ _ hd0 _ hso0 _ _ hle hfin =>
    cases hd.symm.trans hd0
    cases hso.symm.trans hso0
    rw [balOf_refundOptT] at hle
    simp only [hfin, Bool.false_eq_true, false_and, if_false]
    exact ⟨balOf_bid rfl hle, by rw [getName_bidStateN]; exact hd, by simp [bidStateN]⟩
  | bidSale _ _ _ hd0 _ hso0 _ _ hle hfin =>
    cases hd.symm.trans hd0
    cases hso.symm.trans hso0
    rw [balOf_refundOptT] at hle
    simp only [hfin, true_and, if_true]
    refine ⟨fun x => ?_, by rw [getName_completeNameSOT, if_pos rfl], by simp [completeNameSOT, fromModuleT]⟩
    have := balOf_bid (t := bidStateN s so a offer n) rfl hle x
    simp only [balOf_completeNameSOT]; omega

/-- **refund_full (cancelled offer)** -/
theorem refund_full_cancelled_offer {s s' : State} {a : Acct} {pfx : Bool} {id : Nat} (h : cancelBO s a pfx id = .ok s') :
    ∃ bo, AMap.get s.bos id = some bo ∧ bo.buyer = a ∧ AMap.get s'.bos id = none ∧
      ∀ x, balOf s' x = balOf s x + (if x = a then bo.offer else 0) := by
  cases exec_step (op := .cancelOffer a pfx id) h with
  | @cancelOffer bo _ _ hg => exact ⟨bo, hg, rfl, by simp [removeBO], balOf_paid rfl⟩

/-- **refund_full (expired name / trading disabled) and sale_exact (completion after expiry of the
    order)** -/
theorem sale_exact_complete {s s' : State} {a : Acct} {n : Name} (h : completeNameSOMsg s a n = .ok s') :
    ∃ d so b, getName s n = some d ∧ AMap.get s.nameSO n = some so ∧ so.bid = some b ∧ so.finished s.now = true ∧
      AMap.get s'.nameSO n = none ∧
      (if (!s.p.tradeName || d.expired s.now) = true
       then getName s' n = some d ∧ ∀ x, balOf s' x = balOf s x + refundTo (some b) x
       else getName s' n = some (cleared b.bidder d.expireAt) ∧
            ∀ x, balOf s' x = balOf s x + (if x = d.owner then b.price else 0)) := by
  cases exec_step (op := .completeName a n) h with
  | @completeRefund d so b _ _ hd hso hb hfin _ _ hr =>
    refine ⟨d, so, b, hd, hso, hb, hfin, by simp, ?_⟩
    simp only [hr, if_true]
    refine ⟨hd, fun x => ?_⟩
    rw [← balOf_refundOptT]; exact balOf_congr rfl x
  | @completeSale d so b _ _ hd hso hb hfin _ _ hr =>
    refine ⟨d, so, b, hd, hso, hb, hfin, by simp [completeNameSOT, fromModuleT], ?_⟩
    simp only [hr, Bool.false_eq_true, if_false]
    exact ⟨by rw [getName_completeNameSOT, if_pos rfl], balOf_completeNameSOT s n d b⟩

/-- **refund_full (pruned)**: a registration that prunes the previous record refunds the bid of
    the pruned sell order in full -/
theorem refund_full_pruned {s s' : State} {a : Acct} {n : Name} {dur pay c : Nat}
    (h : registerName s a n dur pay c = .ok s') (hp : (regPlan s a n dur c).prune = true) :
    AMap.get s'.nameSO n = none ∧
    ∀ x, balOf s' x + (if x = a then pay else 0) = balOf s x + refundTo (nameBid s n) x := by
  cases exec_step (op := .register a n dur pay c) h with
  | registerPrune _ _ _ _ _ _ _ hle =>
    refine ⟨by simp [replaceNameT, pruneNameT], fun x => ?_⟩
    rw [balOf_replaceNameT, balOf_payAndBurnT, show nameBid (payAndBurnT s a pay) n = nameBid s n from rfl]
    by_cases hxa : x = a
    · subst hxa; simp only [if_true]; omega
    · simp [hxa]
  | registerExtend _ _ _ _ _ _ _ hk => rw [hp] at hk; cases hk

/-- **deposit only the difference when raising an offer** -/
theorem deposit_exact {s s' : State} {a : Acct} {n : Name} {offer : Nat} {cont : Option (Bool × Nat)}
    (h : placeNameBO s a n offer cont = .ok s') :
    (∀ x, x ≠ a → balOf s' x = balOf s x) ∧
    (match cont with
     | none => balOf s' a + offer = balOf s a ∧
               AMap.get s'.bos (s.boCount + 1) = some ⟨false, n, 0, a, offer, 0⟩
     | some (_, id) => ∃ bo, AMap.get s.bos id = some bo ∧ bo.buyer = a ∧ bo.offer < offer ∧
               balOf s' a + (offer - bo.offer) = balOf s a ∧ AMap.get s'.bos id = some { bo with offer := offer }) := by
  cases exec_step (op := .offerName a n offer cont) h with
  | offerName _ _ _ _ _ _ _ hp =>
    obtain ⟨h1, h2⟩ := placedBO_ledger hp
    refine ⟨h1, ?_⟩
    cases cont with
    | none => exact h2
    | some c =>
      obtain ⟨bo, hg, hb, _, _, hlt, hbal, hg'⟩ := h2
      exact ⟨bo, hg, hb, hlt, hbal, hg'⟩

/-- **deposit only the difference when raising an offer on an alias**: a new offer escrows exactly
    the offer, a raise exactly `offer - previous offer`; nobody else's balance moves; the buyer is the
    owner of the destination RollApp, which differs from the alias' RollApp -/
theorem deposit_exact_alias {s s' : State} {a : Acct} {l : AliasId} {offer : Nat} {cont : Option (Bool × Nat)} {dst : Chain}
    (h : placeAliasBO s a l offer cont dst = .ok s') :
    isCreator s dst a = true ∧ AMap.get s.al.aliasTo l ≠ some dst ∧ s.p.minOffer ≤ offer ∧
    (∀ x, x ≠ a → balOf s' x = balOf s x) ∧
    (match cont with
     | none => balOf s' a + offer = balOf s a ∧
               AMap.get s'.bos (s.boCount + 1) = some ⟨true, l, dst, a, offer, 0⟩
     | some (_, id) => ∃ bo, AMap.get s.bos id = some bo ∧ bo.buyer = a ∧ bo.isAlias = true ∧ bo.asset = l ∧ bo.offer < offer ∧
               balOf s' a + (offer - bo.offer) = balOf s a ∧ AMap.get s'.bos id = some { bo with offer := offer }) := by
  cases exec_step (op := .offerAlias a l offer cont dst) h with
  | offerAlias _ _ _ _ _ h1 h2 h3 hp =>
    obtain ⟨h4, h5⟩ := placedBO_ledger hp
    refine ⟨h1, h2, h3, h4, ?_⟩
    cases cont <;> exact h5

/-- **sale_exact (accepted buy order)** -/
theorem sale_exact_accept {s s' : State} {a : Acct} {pfx : Bool} {id : Nat} {bo : BuyOrder}
    (hg : AMap.get s.bos id = some bo) (hna : bo.isAlias = false) (h : acceptBO s a pfx id bo.offer = .ok s') :
    ∃ d, getName s bo.asset = some d ∧ d.owner = a ∧ d.expired s.now = false ∧
      getName s' bo.asset = some (cleared bo.buyer d.expireAt) ∧ AMap.get s'.bos id = none ∧
      ∀ x, balOf s' x = balOf s x + (if x = a then bo.offer else 0) := by
  -- the constructors have the accepted order's own offer as the price: ours must be a variable for `cases`
  generalize hm : bo.offer = m at h
  cases exec_step (op := .acceptOffer a pfx id m) h with
  | @acceptName _ d _ _ hg' _ hl _ hso =>
    cases hg.symm.trans hg'
    obtain ⟨hd, he⟩ := getNameLive_some hl
    refine ⟨d, hd, rfl, he, by rw [getName_replaceNameT, if_pos rfl],
      by rw [replaceNameT, pruneNameT, refundOptT_eq]; exact AMap.get_del_self _ _, fun x => ?_⟩
    have : nameBid (removeBO (fromModuleT s d.owner bo.offer) id bo) bo.asset = none := by
      simp [nameBid, removeBO, fromModuleT, hso]
    rw [balOf_replaceNameT, this]
    simp only [refundTo, Nat.add_zero]
    exact balOf_paid rfl x
  | acceptAlias _ _ hg' hal => cases hg.symm.trans hg'; rw [hna] at hal; cases hal
  | counter _ _ _ _ hg' hne => cases hg.symm.trans hg'; exact absurd hm.symm hne

/-- **refund_full / sale_exact for aliases (completion)** -/
theorem sale_exact_complete_alias {s s' : State} {a : Acct} {l : AliasId} (h : completeAliasSOMsg s a l = .ok s') :
    ∃ so b, AMap.get s.aliasSO l = some so ∧ so.bid = some b ∧ so.finished s.now = true ∧ AMap.get s'.aliasSO l = none ∧
      (if (reserved s.p l || !s.p.tradeAlias) = true
       then s'.al = s.al ∧ ∀ x, balOf s' x = balOf s x + refundTo (some b) x
       else ∃ src r, AMap.get s.al.aliasTo l = some src ∧ AMap.get s.al.rollapps src = some r ∧
            AMap.get s'.al.aliasTo l = some b.dst ∧
            ∀ x, balOf s' x = balOf s x + (if x = r.owner then b.price else 0)) := by
  cases exec_step (op := .completeAlias a l) h with
  | @completeAliasRefund so b _ _ hso hb hfin hr =>
    refine ⟨so, b, hso, hb, hfin, AMap.get_del_self _ _, ?_⟩
    simp only [hr, if_true]
    refine ⟨rfl, fun x => ?_⟩
    rw [← balOf_refundOptT]; exact balOf_congr rfl x
  | @completeAliasSale so b src r _ _ hso hb hfin hr hsrc hrr =>
    refine ⟨so, b, hso, hb, hfin, AMap.get_del_self _ _, ?_⟩
    simp only [hr, Bool.false_eq_true, if_false]
    exact ⟨src, r, hsrc, hrr, AMap.get_set_self _ _ _, balOf_aliasSoldT _ _ _ _ _⟩

/-- **refund_full (outbid) / sale_exact (sell price reached) for aliases** -/
theorem refund_full_outbid_alias {s s' : State} {a : Acct} {l : AliasId} {offer : Nat} {dst : Chain} {so : SellOrder}
    (h : purchaseAlias s a l offer dst = .ok s') (hso : AMap.get s.aliasSO l = some so) :
    if ({ so with bid := some ⟨a, offer, dst⟩ } : SellOrder).finished s.now = true
    then ∃ src r, AMap.get s.al.aliasTo l = some src ∧ AMap.get s.al.rollapps src = some r ∧
          AMap.get s'.al.aliasTo l = some dst ∧ AMap.get s'.aliasSO l = none ∧
          ∀ x, balOf s' x + (if x = a then offer else 0) =
            balOf s x + refundTo so.bid x + (if x = r.owner then offer else 0)
    else s'.al = s.al ∧ AMap.get s'.aliasSO l = some { so with bid := some ⟨a, offer, dst⟩ } ∧
          ∀ x, balOf s' x + (if x = a then offer else 0) = balOf s x + refundTo so.bid x := by
  cases exec_step (op := .buyAlias a l offer dst) h with
  | bidAlias _ _ _ _ hso0 _ hle hfin =>
    cases hso.symm.trans hso0
    rw [balOf_refundOptT] at hle
    simp only [hfin, Bool.false_eq_true, if_false]
    exact ⟨bidStateA_al _ _ _ _ _ _, by simp [bidStateA], balOf_bid rfl hle⟩
  | @bidAliasSale _ src r _ _ _ _ hso0 _ hle hfin hsrc hr =>
    cases hso.symm.trans hso0
    rw [balOf_refundOptT] at hle
    simp only [hfin, if_true]
    refine ⟨src, r, hsrc, hr, AMap.get_set_self _ _ _, AMap.get_del_self _ _, fun x => ?_⟩
    have := balOf_bid (t := bidStateA s so a offer l dst) rfl hle x
    simp only [balOf_aliasSoldT]; omega

/-- **sale_exact (accepted buy order on an alias)** -/
theorem sale_exact_accept_alias {s s' : State} {a : Acct} {pfx : Bool} {id : Nat} {bo : BuyOrder}
    (hg : AMap.get s.bos id = some bo) (hal : bo.isAlias = true) (h : acceptBO s a pfx id bo.offer = .ok s') :
    ∃ src r, AMap.get s.al.aliasTo bo.asset = some src ∧ AMap.get s.al.rollapps src = some r ∧ r.owner = a ∧
      AMap.get s'.al.aliasTo bo.asset = some bo.dst ∧ AMap.get s'.bos id = none ∧
      ∀ x, balOf s' x = balOf s x + (if x = a then bo.offer else 0) := by
  generalize hm : bo.offer = m at h
  cases exec_step (op := .acceptOffer a pfx id m) h with
  | @acceptAlias _ src r _ _ hg' _ hsrc hr =>
    cases hg.symm.trans hg'
    exact ⟨src, r, hsrc, hr, rfl, AMap.get_set_self _ _ _, by simp [removeBO, fromModuleT], balOf_paid rfl⟩
  | acceptName _ _ hg' hna => cases hg.symm.trans hg'; rw [hal] at hna; cases hna
  | counter _ _ _ _ hg' hne => cases hg.symm.trans hg'; exact absurd hm.symm hne

/-! ## resolve_agree

  Full statement (reverse resolution is sound and complete w.r.t. forward resolution):
    for every reachable `s`, address `x` in the own format of working chain `wc`, and candidate
    `(path, n, h) ∈ reverse s x wc`:  `resolve s path n h = some x`;  and every stored record
    `path.n@chain -> x` of a live name is among `reverse s x chain`.
  The completeness half holds (`resolve_agree_complete`).  The soundness half does NOT hold for the
  code as it is: the fallback stage of reverse resolution lists `n@rollapp` for the account of `n`'s
  default record even when `n` has an explicit record for that RollApp (which forward resolution
  returns instead), and even when the RollApp declares no bech32 prefix (then forward resolution
  finds nothing).  Both are shown below by concrete reachable states.
-/

/-- **resolve_agree (complete half)**: every stored record of a live name is found by reverse
    resolution of its value on its chain -/
theorem resolve_agree_complete (p : Params) (t : Nat) (ops : List Op) (n : Name) (d : DymName) (c : Config)
    (hl : getNameLive (run (State.start p t) ops) n = some d) (hc : c ∈ d.configs) :
    (c.path, n, prettyChain (run (State.start p t) ops) (cfgText c.chain)) ∈
      reverse (run (State.start p t) ops) c.value (cfgText c.chain) :=
  reverse_complete (reachable_inv p t ops).idx hl hc

/-- every reachable state also keeps the (chain, path) identities of each name's records distinct and
    host-chain records in host format -/
theorem reachable_cfgOK (p : Params) (t : Nat) (ops : List Op) : CfgOK (run (State.start p t) ops) := by
  exact (run_inv_cfgOK ops (start_inv p t) (start_cfgOK p t)).2

/-- **resolve_agree_partial (sound half)**: in every reachable state whose params list no alias
    under two chain-ids, every candidate `(path, n)` of a reverse resolution of `addr` on working
    chain `wc` resolves forward — through the pretty handle reverse resolution prints — to exactly
    `addr`, *provided* that, if the fallback stage produced it (`hFb`), either the working chain is
    the host chain and `addr` is in host format, or it is a RollApp with a declared bech32 prefix,
    `addr` carries that prefix, and the name has no explicit record for that RollApp.  Of the two
    counterexamples below, `cxOverride` violates "no explicit record", `cxNoPrefix` "declared prefix". -/
theorem resolve_agree_partial (p : Params) (t : Nat) (ops : List Op)
    (hPW : ParamsWF (run (State.start p t) ops).p) (addr : Addr) (wc : Chain) (path : Path) (n : Name)
    (hm : (path, n) ∈ reverseRaw (run (State.start p t) ops) addr wc)
    (hNL : NoLitName (run (State.start p t) ops) n)
    (hFb : (revByConfig (run (State.start p t) ops) addr wc).isEmpty = true →
      (wc = 0 ∧ addr.hrp = 0) ∨
      (wc ≠ 0 ∧ rollappHrp (run (State.start p t) ops) wc ≠ 0 ∧ addr.hrp = rollappHrp (run (State.start p t) ops) wc ∧
        ∀ d, getNameLive (run (State.start p t) ops) n = some d → findConfig d wc 0 = none)) :
    resolve (run (State.start p t) ops) path n (prettyChain (run (State.start p t) ops) wc) = some addr :=
  reverseRaw_sound (reachable_inv p t ops).ali (reachable_cfgOK p t ops) hPW addr wc path n hm hNL hFb

def cxParams : Params :=
  { tradeName := true, tradeAlias := true, grace := 100, soDur := 10, minOffer := 1, bidInc := 0,
    priceExtends := 1, nameSteps := [5, 4, 3, 2, 1], aliasSteps := [5, 4, 3, 2, 1], chainAliases := [] }

/-- a1 creates RollApp 1 (bech32 prefix 1, alias 0); a0 registers name 0 and points `n0@rollapp1`
    to a1's RollApp address -/
def cxOverride : State := run (State.start cxParams 1000)
  [.fund 0 100, .fund 1 100, .createRollapp 1 1 1 0, .register 0 0 1 5 0, .updateResolve 0 0 1 false 0 (some ⟨1, 1⟩)]

/-- **resolve_agree_counterexample (explicit record ignored by the reverse fallback)**: reverse
    resolution of a0's RollApp address lists `n0@alias0`, which resolves to a1's address -/
theorem resolve_agree_counterexample_override :
    (0, 0, Handle.alias 0) ∈ reverse cxOverride ⟨1, 0⟩ 1 ∧ resolve cxOverride 0 0 (.alias 0) = some ⟨1, 1⟩ := by
  decide +kernel

/-- the same with a RollApp that declares no bech32 prefix -/
def cxNoPrefix : State := run (State.start cxParams 1000)
  [.fund 0 100, .fund 1 100, .createRollapp 1 1 0 0, .register 0 0 1 5 0]

/-- **resolve_agree_counterexample (RollApp without bech32 prefix)**: reverse resolution lists
    `n0@alias0`, which does not resolve at all -/
theorem resolve_agree_counterexample_noprefix :
    (0, 0, Handle.alias 0) ∈ reverse cxNoPrefix ⟨0, 0⟩ 1 ∧ resolve cxNoPrefix 0 0 (.alias 0) = none := by
  decide +kernel

/-! ## non-vacuity -/

/-- a0 registers n1, lists it (min 2, sell price 9); a1 bids 3, a2 outbids with 4; a1 offers 5 on n1 -/
def exMarket : State := run (State.start cxParams 1000)
  [.fund 0 100, .fund 1 100, .fund 2 100, .register 0 1 2 5 0, .sellName 0 1 2 9, .buyName 1 1 3, .buyName 2 1 4,
   .offerName 1 1 5 none]

example : exMarket.modBal = 9 ∧ escrowed exMarket = 9 ∧ balOf exMarket 1 = 95 ∧ balOf exMarket 2 = 96 := by decide +kernel
example : exMarket.ns.ownIdx.lookup 0 = [1] ∧ exMarket.ns.cfgIdx.lookup ⟨0, 0⟩ = [1] ∧ exMarket.ns.fbIdx.lookup 0 = [1] := by
  decide +kernel
/-- the outbid of a1 by a2 is an instance of `refund_full_outbid` (hypotheses satisfiable) -/
example : ∃ s s' d so, purchaseName s 2 1 4 = .ok s' ∧ getName s 1 = some d ∧ AMap.get s.nameSO 1 = some so ∧
    so.bid = some ⟨1, 3, 0⟩ :=
  ⟨run (State.start cxParams 1000) [.fund 0 100, .fund 1 100, .fund 2 100, .register 0 1 2 5 0, .sellName 0 1 2 9, .buyName 1 1 3],
   _, _, _, rfl, rfl, rfl, rfl⟩
/-- a bid at the sell price completes the sale: an instance of the `purchase` constructor -/
example : getName (step exMarket (.buyName 1 1 9)) 1 = some (cleared 1 63073000) ∧
    balOf (step exMarket (.buyName 1 1 9)) 0 = 104 ∧ balOf (step exMarket (.buyName 1 1 9)) 2 = 100 := by decide +kernel
/-- take-over: rejected one second before the end of the grace period, accepted at its end -/
example : getName (run exMarket [.advance (63072000 + 99), .register 2 1 1 4 0]) 1 = getName exMarket 1 ∧
    (getName (run exMarket [.advance (63072000 + 100), .register 2 1 1 4 0]) 1).map (·.owner) = some 2 := by decide +kernel
example : exMarket.boBuyer.lookup 1 = [1] ∧ exMarket.boName.lookup 1 = [1] ∧ (AMap.get exMarket.bos 1).map (·.offer) = some 5 := by
  decide +kernel
example : aliasesOf cxOverride 1 = [0] ∧ AMap.get cxOverride.al.aliasTo 0 = some 1 := by decide +kernel
example : resolve cxOverride 0 0 (.chain 0) = some ⟨0, 0⟩ ∧ reverse cxOverride ⟨0, 0⟩ 0 = [(0, 0, .chain 0)] := by decide +kernel

end DymVerif.C17
