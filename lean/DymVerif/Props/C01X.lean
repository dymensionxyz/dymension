/-
  Props/C01X — C01 (state updates form one gap-free chain posted only by the proposer), further clauses:
  an accepted update appends exactly one state at index n+1, for every value of the `last` flag, and leaves
  the chains of all other rollapps alone; the timestamp rule of the acceptance condition and the exact
  rejection when it is violated; the height lookup returns nothing below the first recorded height (which
  need not be 1); every op kind that is not an update / fork / finalization keeps the chain view of every rollapp.
  Theorems over M-Core for every parameter value and every operation sequence (`run p ops`).
  The chain view of a record is `XUpd.cKey r = (r.id, r.lastFin, r.revs, r.states.map sKey)`, `sKey`
  being every field of a state info except `next` (`NextProposer`, rewritten on the latest state by
  proposer rotation and forks).
-/
import DymVerif.Props.C01
import DymVerif.Lemmas.CoreXFrame
import DymVerif.Lemmas.CoreXAccept
import DymVerif.Lemmas.CoreKept
namespace DymVerif.C01X
open DymVerif DymVerif.Core DymVerif.Core.XUpd

/-- every reachable state is well formed in the sense the frame lemmas need: unique rollapp ids, gap-free
    chains, every queued index within its rollapp's states -/
theorem pre_run (p : Params) (ops : List Op) : Pre (run p ops) := (run_fin p ops).pre (run_chain p ops)

/-- **An accepted update appends exactly one state at index n+1** — for `last = false`, for the
    hand-over to a real successor (`last = true`, successor set: `AfterSetRealProposer` rewrites
    `next` of the latest state) and for the hand-over to the sentinel (`last = true`, no successor:
    the rollapp is forked to its latest height, which truncates nothing).  In every reachable state,
    if `update m` is accepted and `r` is the record of `m.ra` before, the record after has
      * states = old states ++ [the new state info], field by field except `next`;
      * one more state; the same latest finalized index;
      * the same revisions — except in the sentinel case, where exactly one revision is added,
        numbered `latest + 1` and starting at the first height after the new state. -/
theorem update_appends (p : Params) (ops : List Op) (m : UpdMsg) (s' : St) (r : Rollapp)
    (h : apply (run p ops) (.update m) = .ok s') (hg : getRa (run p ops) m.ra = some r) :
    ∃ r', getRa s' m.ra = some r' ∧
      r'.states.map sKey = (r.states ++ [newSInfo (run p ops) m (updSucc r m)]).map sKey ∧
      r'.states.length = r.states.length + 1 ∧
      r'.lastFin = r.lastFin ∧
      r'.revs = (if m.last = true ∧ r.successor = none
                 then r.revs ++ [(latestRev r + 1, m.start + m.num)] else r.revs) := by
  have e : updateState (run p ops) m = .ok s' := h
  have hk := updateState_rkeys (run_chain p ops) (run_fin p ops) hg e
  have hid := getRa_id hg
  have hga : getRa (setRa (run p ops) { r with states := r.states ++ [newSInfo (run p ops) m (updSucc r m)] }) m.ra =
      some { r with states := r.states ++ [newSInfo (run p ops) m (updSucc r m)] } :=
    LevNs.getRa_setRa_same_id hg hid
  obtain ⟨r', h1, hk1⟩ := getRa_rKey_some hk hga
  obtain ⟨r'', h2, hrev⟩ := updateState_revs (Fork.run_inv p ops) hg e
  rw [h1] at h2; injection h2 with h2; subst h2
  obtain ⟨_, k2, k3⟩ := rKey_fields hk1
  refine ⟨r', h1, k3, ?_, k2, hrev⟩
  have := map_length_of_eq k3
  rw [this]
  show (r.states ++ [_]).length = _
  simp

/-- **The appended state is the submitted one**, and the earlier states stay where they are: after an
    accepted update the state at (0-based) position n — the latest one — has the sender as creator,
    the submitted start height, number of blocks, descriptors and revision, the current hub height
    as creation height, and is not finalized; every earlier state keeps its position and every field
    except possibly `next`. -/
theorem update_new_state (p : Params) (ops : List Op) (m : UpdMsg) (s' : St) (r : Rollapp)
    (h : apply (run p ops) (.update m) = .ok s') (hg : getRa (run p ops) m.ra = some r) :
    ∃ r' st', getRa s' m.ra = some r' ∧ r'.states[r.states.length]? = some st' ∧ r'.states.getLast? = some st' ∧
      st'.creator = m.sender ∧ st'.start = m.start ∧ st'.num = m.num ∧ st'.bds = m.bds ∧ st'.accRev = m.rev ∧
      st'.creationHeight = (run p ops).h ∧ st'.finalized = false ∧ st'.finalizedAt = 0 ∧
      ∀ (i : Nat) (st : SInfo), r.states[i]? = some st → ∃ st'', r'.states[i]? = some st'' ∧ sKey st'' = sKey st := by
  obtain ⟨r', h1, hk, hlen, _, _⟩ := update_appends p ops m s' r h hg
  have hn : (r.states ++ [newSInfo (run p ops) m (updSucc r m)])[r.states.length]? =
      some (newSInfo (run p ops) m (updSucc r m)) := by simp
  obtain ⟨st', hst', hs⟩ := map_get_of_eq hk.symm hn
  have f := sKey_fields hs
  refine ⟨r', st', h1, hst', ?_, f.1, f.2.1, f.2.2.1, f.2.2.2.2.2.1, f.2.2.2.2.2.2.1, f.2.2.2.1, f.2.2.2.2.1,
    f.2.2.2.2.2.2.2, ?_⟩
  · rw [List.getLast?_eq_getElem?, hlen, Nat.add_sub_cancel]; exact hst'
  · intro i st hst
    have : (r.states ++ [newSInfo (run p ops) m (updSucc r m)])[i]? = some st := by
      rw [List.getElem?_append_left (getElem?_lt hst)]; exact hst
    exact map_get_of_eq hk.symm this

/-- **Non-interference of updates between rollapps**: an accepted update of rollapp `m.ra` (any
    `last` flag, fork to the sentinel included) leaves the chain view — latest finalized index,
    revisions, every state up to `next` — of every other rollapp unchanged, and creates or removes
    no rollapp. -/
theorem update_other_rollapps (p : Params) (ops : List Op) (m : UpdMsg) (s' : St)
    (h : apply (run p ops) (.update m) = .ok s') (id : Nat) (hne : id ≠ m.ra) :
    (getRa s' id).map cKey = (getRa (run p ops) id).map cKey := by
  have e : updateState (run p ops) m = .ok s' := h
  -- the updated rollapp exists
  obtain ⟨r, hg, _⟩ := C01.update_accept_spec _ _ _ h
  have hk := updateState_rkeys (run_chain p ops) (run_fin p ops) hg e
  have hid := getRa_id hg
  have hoth : getRa (setRa (run p ops) { r with states := r.states ++ [newSInfo (run p ops) m (updSucc r m)] }) id =
      getRa (run p ops) id :=
    getRa_setRa_ne (by show r.id ≠ id; rw [hid]; exact fun hc => hne hc.symm)
  cases h0 : getRa (run p ops) id with
  | none => rw [getRa_rKey_none hk (hoth.trans h0)]
  | some r0 =>
    obtain ⟨r', h1, hk1⟩ := getRa_rKey_some hk (hoth.trans h0)
    obtain ⟨r'', h2, hrev, _⟩ := Fork.updateState_rk (Fork.run_inv p ops) (fun hc => hne hc.symm) e r0 h0
    rw [h1] at h2; injection h2 with h2; subst h2
    rw [h1]
    simp only [Option.map_some, Option.some.injEq]
    exact cKey_of hk1 hrev

/-- **Acceptance implies the timestamp rule**: if the rollapp has no state yet, or the last block
    descriptor of its latest state carries a timestamp (`XUpd.TsRequired`), then every block
    descriptor of an accepted update carries a timestamp. -/
theorem update_accept_spec_ts (s s' : St) (m : UpdMsg) (h : apply s (.update m) = .ok s') :
    ∃ r, getRa s m.ra = some r ∧ (TsRequired r → ∀ b ∈ m.bds, b.hasTs = true) := by
  obtain ⟨r, _, _, _, _, hg, _, _, _, hpre, _⟩ := updateState_ok (show updateState s m = .ok s' from h)
  exact ⟨r, hg, updPre_ts hpre⟩

/-- the full acceptance condition: everything `C01.update_accept_spec` lists (sent by the proposer of
    that moment, current revision, starts right after the latest state, well-formed consistent
    descriptors, DRS version not obsolete, `last` only in a rotation) **and** the timestamp rule -/
theorem update_accept_spec_full (s s' : St) (m : UpdMsg) (h : apply s (.update m) = .ok s') :
    ∃ r, getRa s m.ra = some r ∧
      r.proposer = some m.sender ∧
      latestRev r = m.rev ∧
      (∀ a, r.states.getLast? = some a → m.start = a.start + a.num) ∧
      1 ≤ m.num ∧ m.bds.length = m.num ∧ 1 ≤ m.start ∧
      (∀ i b, m.bds[i]? = some b → b.height = m.start + i ∧ b.rootOk = true) ∧
      s.obsolete.contains ((m.bds.getLast?.map (·.drs)).getD 0) = false ∧
      (m.last = true → awaitingLast s r = true) ∧
      (TsRequired r → ∀ b ∈ m.bds, b.hasTs = true) := by
  obtain ⟨r, hg, h1, h2, h3, h4, h5, h6, h7, h8, h9⟩ := C01.update_accept_spec s s' m h
  obtain ⟨r2, hg2, hts⟩ := update_accept_spec_ts s s' m h
  rw [hg] at hg2; injection hg2 with hg2; subst hg2
  exact ⟨r, hg, h1, h2, h3, h4, h5, h6, h7, h8, h9, hts⟩

/-- **Rejection with exactly `noTimestamp`**, under the guard order of the handler: the message is
    well formed (`ValidateBasic` passes), the rollapp exists, the sender is its proposer, the `last`
    flag is admissible, the revision is the current one — and the timestamp rule is violated (a
    timestamp is required and some descriptor has none).  Then the answer is `Err.noTimestamp`
    (whatever the start height: the rule is checked before the expected height). -/
theorem update_rejected_no_timestamp (s : St) (m : UpdMsg) (r : Rollapp)
    (hvb : updValidateBasic m = .ok ()) (hg : getRa s m.ra = some r) (hprop : r.proposer = some m.sender)
    (hlast : m.last = true → awaitingLast s r = true) (hrev : latestRev r = m.rev)
    (hreq : TsRequired r) (hmiss : ∃ b ∈ m.bds, b.hasTs = false) :
    (step s (.update m)) = (s, some Err.noTimestamp) := by
  have : apply s (.update m) = .error .noTimestamp := updateState_noTimestamp hvb hg hprop hlast hrev hreq hmiss
  unfold step
  rw [this]

/-- **Nothing below the first recorded height**: in every reachable state, for every rollapp with
    first state `first`, every height `h < first.start` (in particular `1 … first.start − 1`) is
    looked up to `none`.  Together with `C01.lookup_total` (heights from `first.start` to the latest
    one: exactly the container) and `C01.lookup_none_beyond` (0 and heights above the latest one) this
    covers every height. -/
theorem lookup_none_below_first (p : Params) (ops : List Op) (r : Rollapp) (hr : r ∈ (run p ops).ras)
    (first : SInfo) (hf : r.states[0]? = some first) (h : Nat) (hlt : h < first.start) :
    findByHeight r h = none :=
  findByHeight_none_below (run_chain p ops r hr) hf hlt

/-- the first recorded height of a rollapp is at least 1 in every reachable state … -/
theorem first_start_pos (p : Params) (ops : List Op) (r : Rollapp) (hr : r ∈ (run p ops).ras)
    (first : SInfo) (hf : r.states[0]? = some first) : 1 ≤ first.start :=
  ((run_chain p ops r hr).wf first (List.mem_of_getElem? hf)).start_pos

/-- … and nothing more can be said: the first update of a rollapp is not checked against any expected
    height (`updPre` on a rollapp without states ignores `start`; so does
    `msgServer.UpdateState` in x/rollapp/keeper/msg_server_update_state.go: the expected-height check
    sits inside `if found`; `ValidateBasic` only asks `StartHeight ≠ 0`) -/
theorem first_update_start_unchecked (r : Rollapp) (m : UpdMsg) (x : Nat) (h0 : r.states = []) :
    updPre r { m with start := x } = updPre r m := by
  unfold updPre
  rw [h0]
  rfl

/-- `MsgCreateSequencer` (incl. the recovery from the sentinel it may trigger) keeps the chain view
    of every rollapp -/
theorem create_seq_keeps_chains (p : Params) (ops : List Op) (a : Addr) (ra bond : Nat) (d : Bool) (s' : St)
    (h : apply (run p ops) (.createSeq a ra bond d) = .ok s') (id : Nat) :
    (getRa s' id).map cKey = (getRa (run p ops) id).map cKey :=
  apply_kept (by simp only [Op.kinds]; decide) h id

/-- `MsgIncreaseBond` keeps the chain view of every rollapp -/
theorem bond_inc_keeps_chains (p : Params) (ops : List Op) (a : Addr) (amt : Nat) (d : Bool) (s' : St)
    (h : apply (run p ops) (.bondInc a amt d) = .ok s') (id : Nat) :
    (getRa s' id).map cKey = (getRa (run p ops) id).map cKey :=
  apply_kept (by simp only [Op.kinds]; decide) h id

/-- `MsgDecreaseBond` keeps the chain view of every rollapp -/
theorem bond_dec_keeps_chains (p : Params) (ops : List Op) (a : Addr) (amt : Nat) (s' : St)
    (h : apply (run p ops) (.bondDec a amt) = .ok s') (id : Nat) :
    (getRa s' id).map cKey = (getRa (run p ops) id).map cKey :=
  apply_kept (by simp only [Op.kinds]; decide) h id

/-- `MsgUnbond` (start of the notice period, or immediate unbond) keeps the chain view of every rollapp -/
theorem unbond_keeps_chains (p : Params) (ops : List Op) (a : Addr) (s' : St)
    (h : apply (run p ops) (.unbond a) = .ok s') (id : Nat) :
    (getRa s' id).map cKey = (getRa (run p ops) id).map cKey :=
  apply_kept (by simp only [Op.kinds]; decide) h id

/-- `MsgUpdateOptInStatus` (incl. the recovery from the sentinel it may trigger) keeps the chain view
    of every rollapp -/
theorem opt_in_keeps_chains (p : Params) (ops : List Op) (a : Addr) (v : Bool) (s' : St)
    (h : apply (run p ops) (.optIn a v) = .ok s') (id : Nat) :
    (getRa s' id).map cKey = (getRa (run p ops) id).map cKey :=
  apply_kept (by simp only [Op.kinds]; decide) h id

/-- the sequencer `BeginBlock` (successor choice for finished notices) keeps the chain view of every rollapp -/
theorem begin_block_keeps_chains (p : Params) (ops : List Op) (dt : Nat) (s' : St)
    (h : apply (run p ops) (.begin_ dt) = .ok s') (id : Nat) :
    (getRa s' id).map cKey = (getRa (run p ops) id).map cKey :=
  apply_kept (by simp only [Op.kinds]; decide) h id

/-- the completed genesis bridge (writes `TransferProofHeight`) keeps the chain view of every rollapp -/
theorem bridge_keeps_chains (p : Params) (ops : List Op) (ra hh : Nat) (s' : St)
    (h : apply (run p ops) (.bridge ra hh) = .ok s') (id : Nat) :
    (getRa s' id).map cKey = (getRa (run p ops) id).map cKey :=
  apply_kept (by simp only [Op.kinds]; decide) h id

/-- funding an account keeps every rollapp record as it is -/
theorem fund_keeps_rollapps (p : Params) (ops : List Op) (a : Addr) (amt : Nat) (s' : St)
    (h : apply (run p ops) (.fund a amt) = .ok s') (id : Nat) :
    getRa s' id = getRa (run p ops) id := by
  rw [apply_fund_ok h]; rfl

/-- creating a rollapp keeps every existing rollapp record as it is; the new one is fresh (no states,
    revision 0 only, nothing finalized) -/
theorem create_rollapp_keeps_rollapps (p : Params) (ops : List Op) (nid : Nat) (owner : Addr) (mb : Nat) (s' : St)
    (h : apply (run p ops) (.createRollapp nid owner mb) = .ok s') :
    getRa (run p ops) nid = none ∧ getRa s' nid = some (newRollapp nid owner mb) ∧
      ∀ id, id ≠ nid → getRa s' id = getRa (run p ops) id := by
  obtain ⟨hnone, rfl⟩ := apply_createRollapp_ok h
  exact ⟨hnone, getRa_insertSorted_self (r := newRollapp nid owner mb) (Fork.getRa_none hnone),
    fun id hne => getRa_insertSorted_ne (fun hc => hne hc.symm)⟩

/-- generic form for the revisions and the latest height, through the all-op lemma `Fork.apply_rk`:
    an accepted op that is not an update of `ra`, a fraud proposal against `ra`, a kick by a sequencer
    of `ra` or an obsolete-marking (`Fork.touches`) keeps `ra`'s revisions and latest height -/
theorem untouched_keeps_revs_and_height (p : Params) (ops : List Op) (o : Op) (s' : St) (ra : Nat)
    (h : apply (run p ops) o = .ok s') (hq : ¬ Fork.touches (run p ops) ra o)
    (r : Rollapp) (hg : getRa (run p ops) ra = some r) :
    ∃ r', getRa s' ra = some r' ∧ r'.revs = r.revs ∧ latestHeight r' = latestHeight r :=
  Fork.apply_rk (Fork.run_inv p ops) h hq r hg

/-- a rollapp with two sequencers; sequencer 1 is the proposer -/
def exBase : List Op := [.createRollapp 0 9 10, .createRollapp 1 9 10, .fund 1 100, .fund 2 100, .fund 3 100,
  .createSeq 1 0 10 true, .createSeq 2 0 10 true, .createSeq 3 1 10 true,
  .update { ra := 0, sender := 1, start := 1, num := 3, rev := 0, last := false, bds := C01.exBds 1 3 },
  .update { ra := 1, sender := 3, start := 7, num := 2, rev := 0, last := false, bds := C01.exBds 7 2 },
  .bridge 0 1]

/-- ids, latest finalized index and revisions of every rollapp -/
def revView (s : St) := s.ras.map fun r => (r.id, r.lastFin, r.revs)
/-- (start, number of blocks, creator, next proposer) of every state of every rollapp -/
def stView (s : St) := s.ras.map fun r => r.states.map fun st => (st.start, st.num, st.creator, st.next)

-- the first update of rollapp 1 starts at height 7: accepted (the first recorded height need not be 1)
example : revView (run C01.exParams exBase) = [(0, 0, [(0, 0)]), (1, 0, [(0, 0)])] := by decide +kernel
example : stView (run C01.exParams exBase) = [[(1, 3, 1, NextP.addr 1)], [(7, 2, 3, NextP.addr 3)]] := by decide +kernel
/-- **The first recorded height is not always 1**: a reachable state with a rollapp whose first state
    starts at height 7. -/
theorem first_start_not_always_one :
    ∃ (p : Params) (ops : List Op), ∃ r ∈ (run p ops).ras, ∃ first, r.states[0]? = some first ∧ first.start = 7 := by
  refine ⟨C01.exParams, exBase, ?_⟩
  have h : ((run C01.exParams exBase).ras.map fun r => r.states[0]?.map (·.start)) = [some 1, some 7] := by decide +kernel
  have hm : some 7 ∈ ((run C01.exParams exBase).ras.map fun r => r.states[0]?.map (·.start)) := by rw [h]; simp
  obtain ⟨r, hr, h7⟩ := List.mem_map.1 hm
  cases hf : r.states[0]? with
  | none => rw [hf] at h7; cases h7
  | some first =>
    rw [hf] at h7
    simp only [Option.map_some, Option.some.injEq] at h7
    exact ⟨r, hr, first, hf, h7⟩
-- heights 1..6 of that rollapp are looked up to none, 7 and 8 to index 1, 9 to none
example : ((run C01.exParams exBase).ras.map fun r => (List.range 10).map (findByHeight r)) =
    [[none, some 1, some 1, some 1, none, none, none, none, none, none],
     [none, none, none, none, none, none, none, some 1, some 1, none]] := by decide +kernel

/-- proposer 1 announces its departure, the notice period (10) elapses, sequencer 2 becomes successor -/
def exRotate : List Op := exBase ++ [.unbond 1, .begin_ 10]
def lastUpd : Op := .update { ra := 0, sender := 1, start := 4, num := 2, rev := 0, last := true, bds := C01.exBds 4 2 }
-- `last = true` with a real successor: the state is appended, `next` names the successor, revisions unchanged
example : revView (run C01.exParams (exRotate ++ [lastUpd])) = [(0, 0, [(0, 0)]), (1, 0, [(0, 0)])] := by decide +kernel
example : stView (run C01.exParams (exRotate ++ [lastUpd])) =
    [[(1, 3, 1, NextP.addr 1), (4, 2, 1, NextP.addr 2)], [(7, 2, 3, NextP.addr 3)]] := by decide +kernel
/-- the same with no successor available (sequencer 2 opted out before the notice elapsed) -/
def exToSentinel : List Op := exBase ++ [.optIn 2 false, .unbond 1, .begin_ 10]
-- `last = true`, successor = sentinel: the state is appended and kept (2 states), `next` cleared by the fork to
-- the latest height, one revision (1, 6) added; rollapp 1 untouched
example : revView (run C01.exParams (exToSentinel ++ [lastUpd])) = [(0, 0, [(0, 0), (1, 6)]), (1, 0, [(0, 0)])] := by decide +kernel
example : stView (run C01.exParams (exToSentinel ++ [lastUpd])) =
    [[(1, 3, 1, NextP.addr 1), (4, 2, 1, NextP.empty)], [(7, 2, 3, NextP.addr 3)]] := by decide +kernel
-- the timestamp rule: the latest state has timestamps, an update with one descriptor lacking it is refused
def bd (h : Nat) (ts : Bool) : BD := { height := h, hasTs := ts, drs := 1, rootOk := true }
example : (step (run C01.exParams exBase)
    (.update { ra := 0, sender := 1, start := 4, num := 2, rev := 0, last := false, bds := [bd 4 true, bd 5 false] })).2 =
    some Err.noTimestamp := by decide +kernel
-- … even with a wrong start height (the rule is checked first)
example : (step (run C01.exParams exBase)
    (.update { ra := 0, sender := 1, start := 9, num := 1, rev := 0, last := false, bds := [bd 9 false] })).2 =
    some Err.noTimestamp := by decide +kernel

end DymVerif.C01X
