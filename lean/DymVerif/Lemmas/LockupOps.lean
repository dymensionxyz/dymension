import DymVerif.Lemmas.LockupInv
/-
  Lemmas/LockupOps — the shape of a step of M-Lockup (`Did`: rejected, or one state transformer applied
  to a stored lock of the signer, or the EndBlocker's removal of the matured locks; `step_did`), and
  preservation of the invariant by `step`.
-/
namespace DymVerif.Lockup

theorem partial_facts {c : Option (Denom × Nat)} {l : Lock} (hv : coinsInvalid c = false)
    (he : exceeds c l = false) (hp : isPartial c l = true) :
    ∃ x, c = some (l.denom, x) ∧ 0 < x ∧ x < l.amount ∧ reqAmt c = x := by
  cases c with
  | none => simp [isPartial] at hp
  | some dx =>
    obtain ⟨d, x⟩ := dx
    simp only [coinsInvalid, exceeds, isPartial, reqAmt, beq_eq_false_iff_ne, ne_eq, Bool.or_eq_false_iff,
      bne_eq_false_iff_eq, decide_eq_false_iff_not, Nat.not_lt, bne_iff_ne] at *
    refine ⟨x, by rw [he.1], by omega, by omega, rfl⟩

theorem full_facts {c : Option (Denom × Nat)} {l : Lock}
    (he : exceeds c l = false) (hp : isPartial c l = false) :
    c = none ∨ c = some (l.denom, l.amount) := by
  cases c with
  | none => exact Or.inl rfl
  | some dx =>
    obtain ⟨d, x⟩ := dx
    simp only [exceeds, isPartial, Bool.or_eq_false_iff, bne_eq_false_iff_eq,
      decide_eq_false_iff_not, Nat.not_lt] at *
    right; rw [he.1, hp]

theorem sameLock_true {a d dur : Nat} {l : Lock} (h : sameLock a d dur l = true) :
    l.owner = a ∧ l.denom = d ∧ l.duration = dur ∧ l.endTime = none := by
  simp only [sameLock, Bool.and_eq_true, beq_iff_eq, Bool.not_eq_true'] at h
  exact ⟨h.1.1.1, h.1.1.2, h.1.2, isUnlocking_false.mp h.2⟩

/-! ### what a step did -/

/-- everything a step can do: the operation, and the state and answer it leaves.  A message is rejected
    (state untouched) or applies one state transformer to a stored lock of its signer; the EndBlocker
    removes exactly the matured locks. -/
inductive Did (p : Params) (s : State) : Op → State × Out → Prop
  | rejected (op : Op) (e : Err) (hop : op ≠ .endBlock) : Did p s op (s, .err e)
  | topup {a d amt dur : Nat} {t : State} {l : Lock} (hamt : 0 < amt) (hmin : p.minDur ≤ dur)
      (hcost : lockCost p d amt ≤ s.bal a p.feeDenom) (ht : toModule (chargeFee p s a) a d amt = some t)
      (hl : s.locks.find? (sameLock a d dur) = some l) : Did p s (.lock a d amt dur) (addToLock t l amt, .ok l.id)
  | created {a d amt dur : Nat} {t : State} (hamt : 0 < amt) (hmin : p.minDur ≤ dur)
      (hcost : lockCost p d amt ≤ s.bal a p.feeDenom) (ht : toModule (chargeFee p s a) a d amt = some t)
      (hl : s.locks.find? (sameLock a d dur) = none) :
      Did p s (.lock a d amt dur) (createLock t a d amt dur, .ok (s.lastId + 1))
  | split {l : Lock} {x : Nat} (hl : findLock s.locks l.id = some l) (hn : l.endTime = none) (hx0 : 0 < x)
      (hx : x < l.amount) : Did p s (.unlock l.owner l.id (some (l.denom, x))) (splitUnlock s l x, .ok (s.lastId + 1))
  | started {l : Lock} (c : Option (Denom × Nat)) (hl : findLock s.locks l.id = some l) (hn : l.endTime = none) :
      Did p s (.unlock l.owner l.id c) (startUnlock s l, .ok l.id)
  | extended {l : Lock} {dur : Nat} (hl : findLock s.locks l.id = some l) (hn : l.endTime = none)
      (hd : l.duration < dur) : Did p s (.extend l.owner l.id dur) (extendTo s l dur, .ok 0)
  | forcedPart {l : Lock} {x : Nat} {t : State} (hl : findLock s.locks l.id = some l) (ha : l.owner ∈ p.allowed)
      (hx0 : 0 < x) (hx : x < l.amount) (ht : fromModule s l.owner l.denom x = some t) :
      Did p s (.force l.owner l.id (some (l.denom, x))) (shrinkLock t l x, .ok 0)
  | forced {l : Lock} {t : State} (c : Option (Denom × Nat)) (hl : findLock s.locks l.id = some l)
      (ha : l.owner ∈ p.allowed) (ht : fromModule s l.owner l.denom l.amount = some t) :
      Did p s (.force l.owner l.id c) (removeLock t l, .ok 0)
  | tick (dt : Nat) : Did p s (.beginBlock dt) (beginBlock s dt)
  | idle (hlt : s.height < minHeightAutoWithdraw) : Did p s .endBlock (s, .ok 0)
  | matured {s' : State} (hh : minHeightAutoWithdraw ≤ s.height) (hinv : Inv s') (hnow : s'.now = s.now)
      (hlast : s'.lastId = s.lastId) (hlocks : s'.locks = s.locks.filter (fun l => !matured s.now l))
      (hbal : ∀ a d, s'.bal a d = s.bal a d +
          total (fun l => matured s.now l && (l.owner == a && l.denom == d)) s.locks ∧
        lockedOwner s'.locks a d + total (fun l => matured s.now l && (l.owner == a && l.denom == d)) s.locks =
          lockedOwner s.locks a d) : Did p s .endBlock (s', .ok 0)

theorem lockTokens_did (p : Params) (s : State) (a d amt dur : Nat) :
    Did p s (.lock a d amt dur) (lockTokens p s a d amt dur) := by
  unfold lockTokens
  by_cases h1 : dur = 0 ∨ amt = 0
  · rw [if_pos h1]; exact .rejected _ _ nofun
  rw [if_neg h1]
  by_cases h2 : dur < p.minDur
  · rw [if_pos h2]; exact .rejected _ _ nofun
  rw [if_neg h2]
  by_cases h3 : s.bal a p.feeDenom < lockCost p d amt
  · rw [if_pos h3]; exact .rejected _ _ nofun
  rw [if_neg h3]
  cases ht : toModule (chargeFee p s a) a d amt with
  | none => exact .rejected _ _ nofun
  | some t =>
    cases hl : s.locks.find? (sameLock a d dur) with
    | none => exact .created (by omega) (by omega) (by omega) ht hl
    | some l => exact .topup (by omega) (by omega) (by omega) ht hl

theorem beginUnlocking_did (p : Params) (s : State) (a id : Nat) (c : Option (Denom × Nat)) :
    Did p s (.unlock a id c) (beginUnlocking s a id c) := by
  unfold beginUnlocking
  by_cases hv : id = 0 ∨ coinsInvalid c = true
  · rw [if_pos hv]; exact .rejected _ _ nofun
  rw [if_neg hv]
  cases hl : findLock s.locks id with
  | none => exact .rejected _ _ nofun
  | some l =>
    dsimp only
    by_cases ho : l.owner ≠ a
    · rw [if_pos ho]; exact .rejected _ _ nofun
    rw [if_neg ho]
    by_cases he : exceeds c l = true
    · rw [if_pos he]; exact .rejected _ _ nofun
    rw [if_neg he]
    by_cases hu : l.isUnlocking = true
    · rw [if_pos hu]; exact .rejected _ _ nofun
    rw [if_neg hu]
    have hn := isUnlocking_false.1 (Bool.eq_false_iff.2 hu)
    obtain rfl := Decidable.not_not.1 ho
    obtain rfl := (findLock_some hl).2
    by_cases hp : isPartial c l = true
    · rw [if_pos hp]
      obtain ⟨x, rfl, hx0, hx, _⟩ := partial_facts (Bool.eq_false_iff.2 fun h => hv (Or.inr h)) (Bool.eq_false_iff.2 he) hp
      exact .split hl hn hx0 hx
    · rw [if_neg hp]; exact .started c hl hn

/-- the owner's full begin-unlock of a stored lock that is not unlocking is accepted -/
theorem beginUnlocking_full {s : State} {l : Lock} (hl : findLock s.locks l.id = some l) (hid : 0 < l.id)
    (hn : l.endTime = none) : beginUnlocking s l.owner l.id none = (startUnlock s l, .ok l.id) := by
  have h0 : ¬ (l.id = 0 ∨ coinsInvalid none = true) := by simp [coinsInvalid]; omega
  unfold beginUnlocking
  rw [if_neg h0, hl]
  simp [exceeds, isPartial, isUnlocking_false.2 hn]

theorem extendLockup_did (p : Params) (s : State) (a id dur : Nat) :
    Did p s (.extend a id dur) (extendLockup s a id dur) := by
  unfold extendLockup
  by_cases hv : id = 0 ∨ dur = 0
  · rw [if_pos hv]; exact .rejected _ _ nofun
  rw [if_neg hv]
  cases hl : findLock s.locks id with
  | none => exact .rejected _ _ nofun
  | some l =>
    dsimp only
    by_cases ho : l.owner ≠ a
    · rw [if_pos ho]; exact .rejected _ _ nofun
    rw [if_neg ho]
    by_cases hu : l.isUnlocking = true
    · rw [if_pos hu]; exact .rejected _ _ nofun
    rw [if_neg hu]
    by_cases hd : dur ≤ l.duration
    · rw [if_pos hd]; exact .rejected _ _ nofun
    rw [if_neg hd]
    obtain rfl := Decidable.not_not.1 ho
    obtain rfl := (findLock_some hl).2
    exact .extended hl (isUnlocking_false.1 (Bool.eq_false_iff.2 hu)) (Nat.lt_of_not_le hd)

theorem forceUnlock_did (p : Params) (s : State) (a id : Nat) (c : Option (Denom × Nat)) :
    Did p s (.force a id c) (forceUnlock p s a id c) := by
  unfold forceUnlock
  by_cases hv : id = 0 ∨ coinsInvalid c = true
  · rw [if_pos hv]; exact .rejected _ _ nofun
  rw [if_neg hv]
  cases hl : findLock s.locks id with
  | none => exact .rejected _ _ nofun
  | some l =>
    dsimp only
    by_cases ho : l.owner ≠ a
    · rw [if_pos ho]; exact .rejected _ _ nofun
    rw [if_neg ho]
    by_cases ha : ¬ a ∈ p.allowed
    · rw [if_pos ha]; exact .rejected _ _ nofun
    rw [if_neg ha]
    by_cases he : exceeds c l = true
    · rw [if_pos he]; exact .rejected _ _ nofun
    rw [if_neg he]
    obtain rfl := Decidable.not_not.1 ho
    obtain rfl := (findLock_some hl).2
    by_cases hp : isPartial c l = true
    · rw [if_pos hp]
      obtain ⟨x, rfl, hx0, hx, _⟩ := partial_facts (Bool.eq_false_iff.2 fun h => hv (Or.inr h)) (Bool.eq_false_iff.2 he) hp
      dsimp only [reqAmt]
      cases ht : fromModule s l.owner l.denom x with
      | none => exact .rejected _ _ nofun
      | some t => exact .forcedPart hl (Decidable.not_not.1 ha) hx0 hx ht
    · rw [if_neg hp]
      cases ht : fromModule s l.owner l.denom l.amount with
      | none => exact .rejected _ _ nofun
      | some t => exact .forced c hl (Decidable.not_not.1 ha) ht

/-! ### EndBlocker -/

/-- a matured lock of a state satisfying the invariant can always be paid out -/
theorem unlockMatured_spec {s : State} (h : Inv s) {l : Lock} (hl : l ∈ s.locks)
    (hm : matured s.now l = true) :
    ∃ t, fromModule s l.owner l.denom l.amount = some t ∧ unlockMatured s l.id = some (removeLock t l) := by
  have hle : l.amount ≤ s.modBal l.denom := by
    rw [h.custody]
    have := le_total_of_mem (fun x => x.denom == l.denom) s.locks l hl
    simpa [weight, lockedDenom] using this
  obtain ⟨t, ht⟩ := fromModule_ok l.owner l.denom l.amount hle
  refine ⟨t, ht, ?_⟩
  obtain ⟨e, he, _⟩ := matured_unlocking hm
  unfold unlockMatured
  rw [findLock_of_mem h.nodup hl]
  simp [Lock.isUnlocking, he, hm, ht]

/-- paying a stored lock out to its owner conserves every account's free + locked total -/
theorem removeLock_conserves {s t : State} (hn : (s.locks.map (·.id)).Nodup) {l : Lock} (hl : l ∈ s.locks)
    (ht : fromModule s l.owner l.denom l.amount = some t) (a d : Nat) :
    (removeLock t l).bal a d + lockedOwner (removeLock t l).locks a d = s.bal a d + lockedOwner s.locks a d := by
  obtain ⟨fr, _, hb⟩ := fromModule_some ht
  have hs := total_delLock (fun l => l.owner == a && l.denom == d) hn hl
  simp only [removeLock, lockedOwner, weight_own, fr.locks, hb] at hs ⊢
  omega

/-- the loop of `unlockFromIterator` over matured locks: it cannot fail, it removes exactly the listed locks, and it
    conserves every account's free + locked total -/
theorem withdrawAll_spec : ∀ (ids : List Nat) (s : State), Inv s → ids.Nodup →
    (∀ id ∈ ids, ∃ l ∈ s.locks, l.id = id ∧ matured s.now l = true) →
    ∃ s', withdrawAll ids s = some s' ∧ Inv s' ∧ s'.now = s.now ∧ s'.height = s.height ∧
      s'.lastId = s.lastId ∧
      s'.locks = s.locks.filter (fun l => !ids.contains l.id) ∧
      ∀ a d, s'.bal a d + lockedOwner s'.locks a d = s.bal a d + lockedOwner s.locks a d := by
  intro ids
  induction ids with
  | nil =>
    intro s h _ _
    exact ⟨s, rfl, h, rfl, rfl, rfl, (List.filter_eq_self.mpr (fun x _ => by simp)).symm, fun _ _ => rfl⟩
  | cons id rest ih =>
    intro s h hnd hall
    obtain ⟨l, hl, hid, hm⟩ := hall id (by simp)
    obtain ⟨t, ht, hu⟩ := unlockMatured_spec h hl hm
    obtain ⟨fr, h6, h7⟩ := fromModule_some ht
    have hinv1 : Inv (removeLock t l) := inv_removeLock h fr hl h6
    simp only [List.nodup_cons] at hnd
    have hall1 : ∀ id' ∈ rest, ∃ l' ∈ (removeLock t l).locks, l'.id = id' ∧ matured (removeLock t l).now l' = true := by
      intro id' hid'
      obtain ⟨l', hl', hid2, hm'⟩ := hall id' (by simp [hid'])
      refine ⟨l', ?_, hid2, ?_⟩
      · simp only [removeLock, fr.locks]
        apply mem_delLock.mpr
        refine ⟨hl', ?_⟩
        rw [hid2, hid]
        intro e
        exact hnd.1 (e ▸ hid')
      · simpa [removeLock, fr.now] using hm'
    obtain ⟨s', hw, hinv', hnow, hh, hlast, hlocks, hbal⟩ := ih (removeLock t l) hinv1 hnd.2 hall1
    refine ⟨s', ?_, hinv', ?_, ?_, ?_, ?_, fun a d => ?_⟩
    · simp only [withdrawAll]
      rw [← hid, hu]
      exact hw
    · simpa [removeLock, fr.now] using hnow
    · simpa [removeLock, fr.height] using hh
    · simpa [removeLock, fr.lastId] using hlast
    · rw [hlocks]
      simp only [removeLock, fr.locks, delLock, List.filter_filter]
      apply List.filter_congr
      intro x _
      simp only [List.contains_cons, hid]
      cases rest.contains x.id <;> cases hx : (x.id == id) <;> simp [hx, bne]
    · rw [hbal a d, removeLock_conserves h.nodup hl ht]

/-- the ids the EndBlocker collects are distinct, and a stored lock's id is among them iff the lock is matured -/
theorem maturedIds {s : State} (hn : (s.locks.map (·.id)).Nodup) :
    ((s.locks.filter (matured s.now)).map (·.id)).Nodup ∧
    ∀ l ∈ s.locks, (l.id ∈ (s.locks.filter (matured s.now)).map (·.id) ↔ matured s.now l = true) :=
  ⟨List.Nodup.sublist (List.Sublist.map _ List.filter_sublist) hn, fun l hl =>
    ⟨fun hi => by
      obtain ⟨l2, hl2, hid⟩ := List.mem_map.1 hi
      obtain ⟨h1, h2⟩ := List.mem_filter.1 hl2
      rwa [eq_of_id_eq hn h1 hl hid] at h2,
     fun hm => List.mem_map.2 ⟨l, List.mem_filter.2 ⟨hl, hm⟩, rfl⟩⟩⟩

/-- the EndBlocker from the auto-withdraw height on: exactly the matured locks go, each to its owner -/
theorem endBlock_spec {s : State} (h : Inv s) (hh : minHeightAutoWithdraw ≤ s.height) :
    ∃ s', endBlock s = (s', .ok 0) ∧ Inv s' ∧ s'.now = s.now ∧ s'.height = s.height ∧
      s'.lastId = s.lastId ∧
      s'.locks = s.locks.filter (fun l => !matured s.now l) ∧
      ∀ a d, s'.bal a d = s.bal a d +
          total (fun l => matured s.now l && (l.owner == a && l.denom == d)) s.locks ∧
        lockedOwner s'.locks a d + total (fun l => matured s.now l && (l.owner == a && l.denom == d)) s.locks =
          lockedOwner s.locks a d := by
  obtain ⟨hnd, hmat⟩ := maturedIds h.nodup
  obtain ⟨s', hw, hinv, hnow, hhe, hlast, hlocks, hcons⟩ := withdrawAll_spec _ s h hnd fun id hid => by
    obtain ⟨l, hl, rfl⟩ := List.mem_map.1 hid
    exact ⟨l, (List.mem_filter.1 hl).1, rfl, (List.mem_filter.1 hl).2⟩
  have hlocks' : s'.locks = s.locks.filter (fun l => !matured s.now l) := by
    rw [hlocks]
    exact List.filter_congr fun l hl => by
      rw [Bool.eq_iff_iff.2 (List.contains_iff_mem.trans (hmat l hl))]
  refine ⟨s', ?_, hinv, hnow, hhe, hlast, hlocks', fun a d => ?_⟩
  · rw [endBlock, if_neg (Nat.not_lt.2 hh), hw]
  · -- what is left are the owner's locks that are not matured; conservation gives the balance
    have hc := hcons a d
    have hp := total_partition (A := fun l => matured s.now l && (l.owner == a && l.denom == d))
      (B := fun l => !matured s.now l && (l.owner == a && l.denom == d))
      (C := fun l => l.owner == a && l.denom == d) (fun l => by cases hm : matured s.now l <;> simp [weight, hm]) s.locks
    rw [hlocks'] at hc ⊢
    simp only [lockedOwner, total_filter] at hc hp ⊢
    omega

theorem beginBlock_inv {s : State} (h : Inv s) (dt : Nat) : Inv (beginBlock s dt).1 := by
  constructor
  · exact h.custody
  · exact h.accum
  · exact h.nodup
  · exact h.idle
  · exact h.pos
  · intro l hl
    obtain ⟨g1, g2⟩ := h.ghost l hl
    refine ⟨g1, ?_⟩
    intro e he
    obtain ⟨t0, a1, a2, a3⟩ := g2 e he
    exact ⟨t0, a1, a2, by simp only [beginBlock]; omega⟩

/-- the EndBlocker answers `ok` or panics, never with an error -/
theorem endBlock_not_err (s : State) (e : Err) : (endBlock s).2 ≠ .err e := by
  unfold endBlock
  by_cases hlt : s.height < minHeightAutoWithdraw
  · rw [if_pos hlt]; nofun
  · rw [if_neg hlt]
    cases withdrawAll ((s.locks.filter (matured s.now)).map (·.id)) s <;> nofun

/-- **the shape of a step**: in a state satisfying the invariant every operation is one of `Did` -/
theorem step_did (p : Params) {s : State} (h : Inv s) (op : Op) : Did p s op (step p s op) := by
  cases op with
  | lock a d amt dur => exact lockTokens_did p s a d amt dur
  | unlock a id c => exact beginUnlocking_did p s a id c
  | extend a id dur => exact extendLockup_did p s a id dur
  | force a id c => exact forceUnlock_did p s a id c
  | beginBlock dt => exact .tick dt
  | endBlock =>
    show Did p s .endBlock (endBlock s)
    by_cases hh : minHeightAutoWithdraw ≤ s.height
    · obtain ⟨s', he, hinv, hnow, _, hlast, hlocks, hbal⟩ := endBlock_spec h hh
      rw [he]; exact .matured hh hinv hnow hlast hlocks hbal
    · rw [endBlock, if_pos (Nat.lt_of_not_le hh)]; exact .idle (Nat.lt_of_not_le hh)

theorem step_inv (p : Params) {s : State} (h : Inv s) (op : Op) : Inv (step p s op).1 := by
  have d := step_did p h op
  generalize step p s op = r at d ⊢
  cases d with
  | rejected => exact h
  | topup _ _ _ ht hl =>
    obtain ⟨fr, hmod⟩ := frame_charge ht
    exact inv_addToLock h fr (List.mem_of_find?_eq_some hl) _
      (by rw [(sameLock_true (List.find?_some hl)).2.1]; exact hmod)
  | created hamt _ _ ht =>
    obtain ⟨fr, hmod⟩ := frame_charge ht
    exact inv_createLock h fr _ _ _ _ hamt hmod
  | split hl _ hx0 hx => exact inv_splitUnlock h (findLock_some hl).1 _ hx0 hx
  | started _ hl => exact inv_startUnlock h (findLock_some hl).1
  | extended hl hn => exact inv_extendTo h (findLock_some hl).1 _ hn
  | forcedPart hl _ _ hx ht =>
    exact inv_shrinkLock h (fromModule_some ht).1 (findLock_some hl).1 _ hx (fromModule_some ht).2.1
  | forced _ hl _ ht =>
    exact inv_removeLock h (fromModule_some ht).1 (findLock_some hl).1 (fromModule_some ht).2.1
  | tick dt => exact beginBlock_inv h dt
  | idle => exact h
  | matured _ hinv => exact hinv

theorem run_inv (p : Params) : ∀ (ops : List Op) {s : State}, Inv s → Inv (run p s ops)
  | [], _, h => h
  | op :: ops, _, h => run_inv p ops (step_inv p h op)

end DymVerif.Lockup
