/-
  Lemmas/DymNSCfg — the (chain, path) identities of the address records of every name stay pairwise
  distinct (what `DymName.Validate` checks on every write); in a state where they are, reverse
  resolution is sound under the side conditions of `reverseRaw_sound`.
-/
import DymVerif.Lemmas.DymNSResolve
import DymVerif.Lemmas.DymNSAuth
import DymVerif.Lemmas.DymNSInvRun
namespace DymVerif.DymNS
open AMap

/-! ### upsert / remove keep the identities distinct -/

theorem sameId_iff (x : Config) (ch : Chain) (p : Path) : sameId x ch p = true ↔ cid x = (ch, p) := by
  simp [sameId, cid]

theorem mem_upsertConfig {l : List Config} {c x : Config} (h : x ∈ upsertConfig l c) : x = c ∨ x ∈ l := by
  induction l with
  | nil => simp [upsertConfig] at h; exact Or.inl h
  | cons y ys ih =>
    unfold upsertConfig at h
    split at h
    · rcases List.mem_cons.mp h with h | h
      · exact Or.inl h
      · exact Or.inr (List.mem_cons_of_mem _ h)
    · rcases List.mem_cons.mp h with h | h
      · exact Or.inr (by simp [h])
      · rcases ih h with h | h
        · exact Or.inl h
        · exact Or.inr (List.mem_cons_of_mem _ h)

theorem nodup_upsertConfig {l : List Config} (c : Config) (h : (l.map cid).Nodup) :
    ((upsertConfig l c).map cid).Nodup := by
  induction l with
  | nil => simp [upsertConfig]
  | cons y ys ih =>
    simp only [List.map_cons, List.nodup_cons] at h
    unfold upsertConfig
    split
    · rename_i hs
      have : cid y = cid c := by rw [sameId_iff] at hs; exact hs
      simp only [List.map_cons, List.nodup_cons]
      exact ⟨by rw [← this]; exact h.1, h.2⟩
    · rename_i hs
      have hne : cid y ≠ cid c := fun e => hs (by rw [sameId_iff]; exact e)
      simp only [List.map_cons, List.nodup_cons]
      refine ⟨fun hm => ?_, ih h.2⟩
      obtain ⟨x, hx, hxe⟩ := List.mem_map.mp hm
      rcases mem_upsertConfig hx with rfl | hx
      · exact hne hxe.symm
      · exact h.1 (List.mem_map.mpr ⟨x, hx, hxe⟩)

theorem removeConfig_sublist (l : List Config) (ch : Chain) (p : Path) : (removeConfig l ch p).Sublist l := by
  induction l with
  | nil => simp [removeConfig]
  | cons y ys ih =>
    unfold removeConfig
    split
    · exact List.sublist_cons_self _ _
    · exact ih.cons_cons _

theorem nodup_removeConfig {l : List Config} (ch : Chain) (p : Path) (h : (l.map cid).Nodup) :
    ((removeConfig l ch p).map cid).Nodup :=
  h.sublist ((removeConfig_sublist l ch p).map cid)

/-- a record list is well formed: pairwise distinct (chain, path) identities, and host-chain records
    carry the host bech32 prefix (checked by `UpdateResolveAddress` before every write) -/
def CfgWF (l : List Config) : Prop := (l.map cid).Nodup ∧ ∀ c ∈ l, c.chain = 0 → c.value.hrp = 0

theorem cfgWF_nil : CfgWF [] := ⟨by simp, by simp⟩

def CfgOK (s : State) : Prop := ∀ n d, getName s n = some d → CfgWF d.configs

theorem eq_of_nodup_map {α β : Type} (f : α → β) {l : List α} (h : (l.map f).Nodup) {x y : α} (hx : x ∈ l) (hy : y ∈ l)
    (e : f x = f y) : x = y := by
  induction l with
  | nil => cases hx
  | cons z zs ih =>
    simp only [List.map_cons, List.nodup_cons] at h
    rcases List.mem_cons.mp hx with hxz | hx'
    · rcases List.mem_cons.mp hy with hyz | hy'
      · rw [hxz, hyz]
      · subst hxz
        exact absurd (List.mem_map.mpr ⟨y, hy', e.symm⟩) h.1
    · rcases List.mem_cons.mp hy with hyz | hy'
      · subst hyz
        exact absurd (List.mem_map.mpr ⟨x, hx', e⟩) h.1
      · exact ih h.2 hx' hy'

theorem cfgUniq_of_nodup {d : DymName} (h : (d.configs.map cid).Nodup) : CfgUniq d := by
  intro c hc c' hc' e1 e2
  exact eq_of_nodup_map cid h hc hc' (by simp [cid, e1, e2])

theorem start_cfgOK (p : Params) (t : Nat) : CfgOK (State.start p t) :=
  fun n d hd => by rw [start_getName] at hd; cases hd

theorem exec_cfgOK {s s' : State} {op : Op} (hI : Inv s) (hC : CfgOK s) (h : exec s op = .ok s') : CfgOK s' := by
  intro n d' hd'
  cases hn : getName s n with
  | none => rw [name_created hI h hn hd']; exact cfgWF_nil
  | some d =>
    have hd0 := hC n d hn
    obtain ⟨d'', hd'', hc⟩ := name_change hI h hn
    rw [hd'] at hd''; injection hd'' with hd''; subst hd''
    rcases hc with rfl | hc
    · exact hd0
    · cases hc with
      | extend dur pay c he => exact hd0
      | renew dur pay c he => exact cfgWF_nil
      | takeOver a dur pay c hna he hg => exact cfgWF_nil
      | transfer b he hso hb => exact cfgWF_nil
      | setController c he => exact hd0
      | updateResolve ch e p v cfgs he hcf =>
        rcases hcf with ⟨x, rfl, hx⟩ | rfl
        · refine ⟨nodup_upsertConfig _ hd0.1, fun c hc h0 => ?_⟩
          rcases mem_upsertConfig hc with rfl | hc
          · exact hx h0
          · exact hd0.2 c hc h0
        · exact ⟨nodup_removeConfig _ _ hd0.1, fun c hc h0 => hd0.2 c ((removeConfig_sublist _ _ _).subset hc) h0⟩
      | updateDetails c cl cfgs contact he hcf =>
        rcases hcf with rfl | rfl
        · exact cfgWF_nil
        · exact hd0
      | purchase a offer so hso hsel hse he hna => exact cfgWF_nil
      | complete a so b hso hsel hb he ha => exact cfgWF_nil
      | accept pfx id m bo hg hna hn he hso hb => exact cfgWF_nil
      | migrate m he hnd =>
        refine ⟨hnd, fun c hc h0 => ?_⟩
        obtain ⟨c0, hc0, rfl⟩ := List.mem_map.mp hc
        have hz := (migConfig_chain_zero m c0).mp h0
        rw [migConfig_of_zero m hz]
        exact hd0.2 c0 hc0 hz

theorem run_inv_cfgOK {s : State} (ops : List Op) (hI : Inv s) (hC : CfgOK s) :
    Inv (run s ops) ∧ CfgOK (run s ops) :=
  ⟨run_inv ops hI, run_induct (Q := fun _ => True) (fun hI hC _ h => exec_cfgOK hI hC h) ops hI hC (fun _ _ => trivial)⟩

/-- **reverse resolution is sound** in a state with inverse alias maps, well-formed records and params that
    list no alias twice: a candidate `(path, n)` for `addr` on working chain `wc` resolves forward, through the
    pretty handle of `wc`, to `addr` — provided the name has no record under the literal host chain-id and, if
    the fallback stage produced the candidate (`hFb`), the working chain is the host chain and `addr` is in host
    format, or it is a RollApp with a declared prefix, `addr` carries it and the name has no explicit record there -/
theorem reverseRaw_sound {s : State} (hA : AliasOK s.al) (hC : CfgOK s) (hPW : ParamsWF s.p) (addr : Addr) (wc : Chain)
    (path : Path) (n : Name) (hm : (path, n) ∈ reverseRaw s addr wc) (hNL : NoLitName s n)
    (hFb : (revByConfig s addr wc).isEmpty = true →
      (wc = 0 ∧ addr.hrp = 0) ∨
      (wc ≠ 0 ∧ rollappHrp s wc ≠ 0 ∧ addr.hrp = rollappHrp s wc ∧ ∀ d, getNameLive s n = some d → findConfig d wc 0 = none)) :
    resolve s path n (prettyChain s wc) = some addr := by
  have hW : ∀ d, getNameLive s n = some d → CfgWF d.configs := fun d hl => hC n d (getNameLive_some hl).1
  have hU : ∀ d, getNameLive s n = some d → CfgUniq d := fun d hl => cfgUniq_of_nodup (hW d hl).1
  have hH := handle_roundtrip wc hPW hA
  unfold reverseRaw at hm
  by_cases he : (revByConfig s addr wc).isEmpty = true
  · simp only [he, Bool.not_true, Bool.false_eq_true, if_false] at hm
    rcases hFb he with ⟨rfl, hfmt⟩ | ⟨hwc, hpre, hfmt, hNo⟩
    · simp only [ne_eq, not_true_eq_false, false_and, if_false] at hm
      exact revByFallback_host_sound hU (fun d hl => (hW d hl).2) hH hfmt hm
    · split at hm
      · cases hm
      · rename_i hr
        have hR : isRollapp s wc = true := by
          cases hx : isRollapp s wc with
          | true => rfl
          | false => exact absurd ⟨hwc, by simp [hx]⟩ hr
        exact revByFallback_sound_partial hU hH hwc hR hpre hfmt hNo hm
  · have : (!(revByConfig s addr wc).isEmpty) = true := by simpa using he
    simp only [this, if_true] at hm
    exact revByConfig_sound hU hNL hH hm

end DymVerif.DymNS
