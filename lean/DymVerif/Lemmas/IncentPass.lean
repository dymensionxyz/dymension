/-
  Lemmas/IncentPass — one pass of the streamer's pointer loop over the stream cache, accounted once.
  A call of `IterateEpochPointer` is the rewards callback folded over the positions the iterator yields
  (`iterate_acc`), and what was still to visit is what the call visited followed by what is still to visit
  (`iterate_resume`, Lemmas/IncentPaging).  One step of the callback adds to the visited stream's `distributed`
  at most the record's share, exactly the share when the record names a live gauge (`rewardsCb_slot`).  So at every
  level — fold, call, loop — one statement `… ≤ … ∧ (LiveC s c → … = …)` gives both the bound that the stream
  invariant of Lemmas/IncentBound needs (every history) and the conservation behind the independence from the
  per-block limit (Lemmas/IncentExact*, live records).  What is ahead of the iterator (`pendR`, `posPend`) is tied to
  what is pending after the stored pointer (`pendId`) once, in `posPend_newIter` / `pendR_le_pendId`.
-/
import DymVerif.Lemmas.IncentStreams
import DymVerif.Lemmas.IncentPaging
import DymVerif.Lemmas.IncentShare
namespace DymVerif.Incent
open DymVerif Coins

/-! ### shares of a stream's records -/

/-- the share one visit of a record adds to the stream's distributed coins (0 when the callback skips the stream) -/
def shareOf (st : Stream) (r : Rec) (i : Nat) : Nat :=
  if st.ecEmpty || st.totalWeight == 0 then 0 else streamShare (amt st.epochCoins i) r.weight st.totalWeight

def sharesOf (st : Stream) (rs : List Rec) (i : Nat) : Nat := (rs.map (fun r => shareOf st r i)).sum

/-- all records' shares of one epoch stay within the epoch coins when the total weight is the sum of the weights -/
theorem sharesOf_all_le (st : Stream) (htw : st.totalWeight = totalWeightOf st.recs) (i : Nat) :
    sharesOf st st.recs i ≤ amt st.epochCoins i := by
  unfold sharesOf shareOf
  by_cases h : (st.ecEmpty || st.totalWeight == 0) = true
  · simp only [h, if_true]
    have : (st.recs.map (fun _ => 0)).sum = 0 := by
      apply sum_zero_of_all_zero; intro x hx; simp at hx; exact hx.2.symm ▸ rfl
    omega
  · simp only [h]
    have := streamShare_sum_le (amt st.epochCoins i) st.totalWeight (st.recs.map (·.weight)) (by rw [htw]; exact Nat.le_refl _)
    simpa [List.map_map, Function.comp_def] using this

theorem sum_sublist_le {α : Type} (f : α → Nat) {l1 l2 : List α} (h : l1.Sublist l2) : (l1.map f).sum ≤ (l2.map f).sum := by
  induction h with
  | slnil => simp
  | cons a _ ih => simp only [List.map_cons, List.sum_cons]; omega
  | cons_cons a _ ih => simp only [List.map_cons, List.sum_cons]; omega

theorem sharesOf_sublist (st : Stream) {l1 l2 : List Rec} (h : l1.Sublist l2) (i : Nat) : sharesOf st l1 i ≤ sharesOf st l2 i :=
  sum_sublist_le _ h

/-- shares only depend on `ecEmpty`, `totalWeight` and `epochCoins` of a stream -/
theorem shareOf_congr {a b : Stream} (h1 : a.ecEmpty = b.ecEmpty) (h2 : a.totalWeight = b.totalWeight) (h3 : a.epochCoins = b.epochCoins)
    (r : Rec) (i : Nat) : shareOf a r i = shareOf b r i := by
  unfold shareOf; rw [h1, h2, h3]

theorem sharesOf_congr {a b : Stream} (h1 : a.ecEmpty = b.ecEmpty) (h2 : a.totalWeight = b.totalWeight) (h3 : a.epochCoins = b.epochCoins)
    (rs : List Rec) (i : Nat) : sharesOf a rs i = sharesOf b rs i := by
  unfold sharesOf
  apply congrArg
  apply List.map_congr_left
  intro r _; exact shareOf_congr h1 h2 h3 r i

/-! ### pending shares in terms of the stored pointer (stream id, gauge id) -/

/-- the pair (sid, gid) is at or after the pointer -/
def ptrLe (p : Pointer) (sid gid : Nat) : Bool :=
  decide (p.streamId < sid) || (p.streamId == sid && decide (p.gaugeId ≤ gid))

/-- shares of the records of `st` still to be served in this epoch when the epoch pointer is `p` -/
def pendId (p : Pointer) (st : Stream) (i : Nat) : Nat := sharesOf st (st.recs.filter (fun r => ptrLe p st.id r.gauge)) i

theorem pendId_le_all (p : Pointer) (st : Stream) (i : Nat) : pendId p st i ≤ sharesOf st st.recs i :=
  sharesOf_sublist st List.filter_sublist i

theorem pendId_zero_of_gt (p : Pointer) (st : Stream) (h : st.id < p.streamId) (i : Nat) : pendId p st i = 0 := by
  unfold pendId
  have : st.recs.filter (fun r => ptrLe p st.id r.gauge) = [] := by
    apply List.filter_eq_nil_iff.2
    intro r _
    unfold ptrLe
    simp only [Bool.or_eq_true, decide_eq_true_eq, Bool.and_eq_true, beq_iff_eq, not_or, not_and]
    exact ⟨by omega, fun he => by omega⟩
  rw [this]; simp [sharesOf]

theorem pendId_all_of_lt (p : Pointer) (st : Stream) (h : p.streamId < st.id) (i : Nat) :
    pendId p st i = sharesOf st st.recs i := by
  unfold pendId
  have : st.recs.filter (fun r => ptrLe p st.id r.gauge) = st.recs := by
    apply List.filter_eq_self.2
    intro r _
    unfold ptrLe
    simp [h]
  rw [this]

theorem gids_getD (rs : List Rec) (j : Nat) (hj : j < rs.length) : (rs.map (·.gauge)).getD j 0 = rs[j].gauge := by
  simp [List.getD_eq_getElem?_getD, hj]

/-- a predicate that is false before index `b` and true from it on filters out exactly the first `b` elements -/
theorem filter_eq_drop {α : Type} (q : α → Bool) : ∀ (l : List α) (b : Nat),
    (∀ j (h : j < l.length), j < b → q l[j] = false) → (∀ j (h : j < l.length), b ≤ j → q l[j] = true) →
    l.filter q = l.drop b
  | [], _, _, _ => by simp
  | x :: xs, 0, _, h2 => by
    rw [List.drop_zero]
    exact List.filter_eq_self.2 fun a ha => by
      obtain ⟨j, hj, he⟩ := List.getElem_of_mem ha
      rw [← he]; exact h2 j hj (Nat.zero_le _)
  | x :: xs, b + 1, h1, h2 => by
    have hx : q x = false := h1 0 (Nat.zero_lt_succ _) (Nat.zero_lt_succ _)
    rw [List.filter_cons, hx, List.drop_succ_cons]
    exact filter_eq_drop q xs b (fun j h hb => h1 (j + 1) (Nat.succ_lt_succ h) (Nat.succ_lt_succ hb))
      (fun j h hb => h2 (j + 1) (Nat.succ_lt_succ h) (Nat.succ_le_succ hb))

/-- **pending after a pointer, closed form** (bisection on a strictly increasing list computes the filter): everything
    for a later stream, nothing for an earlier one, and for the stream the pointer names the records from the
    bisected gauge index on -/
theorem pendId_eq (p : Pointer) (st : Stream) (hrec : StrictInc (st.recs.map (·.gauge))) (i : Nat) :
    pendId p st i =
      if p.streamId < st.id then sharesOf st st.recs i
      else if p.streamId = st.id then sharesOf st (st.recs.drop (binSearch (st.recs.map (·.gauge)) p.gaugeId)) i
      else 0 := by
  by_cases h1 : p.streamId < st.id
  · rw [if_pos h1]; exact pendId_all_of_lt p st h1 i
  rw [if_neg h1]
  by_cases h2 : p.streamId = st.id
  · rw [if_pos h2]
    obtain ⟨_, lo, hi⟩ := binSearch_spec (st.recs.map (·.gauge)) p.gaugeId hrec
    unfold pendId
    rw [filter_eq_drop _ st.recs (binSearch (st.recs.map (·.gauge)) p.gaugeId)]
    · intro j hj hb
      have := lo j hb
      rw [gids_getD _ _ hj] at this
      unfold ptrLe
      simp only [Bool.or_eq_false_iff, decide_eq_false_iff_not, Bool.and_eq_false_iff, beq_eq_false_iff_ne]
      exact ⟨h1, Or.inr (by omega)⟩
    · intro j hj hb
      have := hi j hb (by simpa using hj)
      rw [gids_getD _ _ hj] at this
      unfold ptrLe
      simp only [Bool.or_eq_true, decide_eq_true_eq, Bool.and_eq_true, beq_iff_eq]
      exact Or.inr ⟨h2, this⟩
  · rw [if_neg h2]; exact pendId_zero_of_gt p st (by omega) i

theorem pendId_last (st : Stream) (h : st.id < maxU64) (i : Nat) : pendId Pointer.last st i = 0 :=
  pendId_zero_of_gt Pointer.last st h i

theorem pendId_first (st : Stream) (i : Nat) : pendId Pointer.first st i = sharesOf st st.recs i := by
  unfold pendId
  have : st.recs.filter (fun r => ptrLe Pointer.first st.id r.gauge) = st.recs := by
    apply List.filter_eq_self.2
    intro r _
    unfold ptrLe Pointer.first
    simp only [Bool.or_eq_true, decide_eq_true_eq, Bool.and_eq_true, beq_iff_eq]
    by_cases h : 0 < st.id
    · exact Or.inl h
    · exact Or.inr ⟨by omega, Nat.zero_le _⟩
  rw [this]

theorem pendId_static {a b : Stream} (h : a = { b with distributed := a.distributed }) (p : Pointer) (i : Nat) :
    pendId p a i = pendId p b i := by
  unfold pendId
  rw [h]
  simp only
  exact sharesOf_congr rfl rfl rfl _ i

/-! ### the stream cache as an array aligned with the iterator's data -/

def Shape (data : List SView) (c : Caches) : Prop :=
  c.streams.map Stream.view = data ∧ (c.streams.map (·.id)).Nodup

theorem find_at : ∀ (l : List Stream), (l.map (·.id)).Nodup → ∀ k (hk : k < l.length),
    l.find? (fun x => x.id == l[k].id) = some l[k] := by
  intro l
  induction l with
  | nil => intro _ k hk; simp at hk
  | cons x xs ih =>
    intro hn k hk
    have hn0 : (x.id :: xs.map (·.id)).Nodup := hn
    obtain ⟨h1, h2⟩ := List.nodup_cons.1 hn0
    cases k with
    | zero => simp
    | succ k =>
      have hk' : k < xs.length := by simpa using hk
      have hne : (x.id == xs[k].id) = false := by
        simp only [beq_eq_false_iff_ne, ne_eq]
        intro he
        exact h1 (by rw [he]; exact List.mem_map_of_mem (f := (·.id)) (List.getElem_mem hk'))
      simp only [List.getElem_cons_succ, List.find?_cons, hne]
      exact ih h2 k hk'

theorem upsert_at : ∀ (l : List Stream), (l.map (·.id)).Nodup → ∀ k (hk : k < l.length) (g : Stream), g.id = l[k].id →
    upsertStream l g = l.set k g := by
  intro l
  induction l with
  | nil => intro _ k hk; simp at hk
  | cons x xs ih =>
    intro hn k hk g hg
    have hn0 : (x.id :: xs.map (·.id)).Nodup := hn
    obtain ⟨h1, h2⟩ := List.nodup_cons.1 hn0
    unfold upsertStream
    cases k with
    | zero =>
      simp only [List.getElem_cons_zero] at hg
      rw [if_pos hg.symm]; rfl
    | succ k =>
      have hk' : k < xs.length := by simpa using hk
      simp only [List.getElem_cons_succ] at hg
      have hne : ¬ x.id = g.id := by
        intro he
        exact h1 (by rw [he, hg]; exact List.mem_map_of_mem (f := (·.id)) (List.getElem_mem hk'))
      rw [if_neg hne, ih h2 k hk' g hg]; rfl

theorem shape_set (data : List SView) (c : Caches) (hsh : Shape data c) (k : Nat) (hk : k < c.streams.length) (d' : Coins) (c' : Caches)
    (h : c'.streams = c.streams.set k { c.streams[k] with distributed := d' }) : Shape data c' := by
  obtain ⟨h1, h2⟩ := hsh
  unfold Shape
  rw [h]
  constructor
  · rw [← h1, List.map_set]
    apply List.ext_getElem
    · simp
    · intro j j1 j2
      rw [List.getElem_set]
      split
      · next he => subst he; simp [Stream.view]
      · rfl
  · rw [List.map_set]
    have : (c.streams.map (·.id)).set k (c.streams[k]).id = c.streams.map (·.id) := by
      apply List.ext_getElem
      · simp
      · intro j j1 j2
        rw [List.getElem_set]
        split
        · next he => subst he; simp
        · rfl
    show ((c.streams.map (·.id)).set k (c.streams[k]).id).Nodup
    rw [this]; exact h2

/-- relation between the cache before and after some callback steps, slot by slot -/
def Grown (c c' : Caches) : Prop :=
  c'.streams.length = c.streams.length ∧
  ∀ k (h : k < c.streams.length) (h' : k < c'.streams.length),
    c'.streams[k] = { c.streams[k] with distributed := (c'.streams[k]).distributed } ∧
    ∀ i, amt (c.streams[k]).distributed i ≤ amt (c'.streams[k]).distributed i

theorem Grown.refl (c : Caches) : Grown c c := ⟨rfl, fun _ _ _ => ⟨rfl, fun _ => Nat.le_refl _⟩⟩

theorem Grown.trans {a b c : Caches} (h1 : Grown a b) (h2 : Grown b c) : Grown a c := by
  refine ⟨h2.1.trans h1.1, ?_⟩
  intro k h h'
  have hb : k < b.streams.length := by rw [h1.1]; exact h
  obtain ⟨a1, a2⟩ := h1.2 k h hb
  obtain ⟨b1, b2⟩ := h2.2 k hb h'
  refine ⟨?_, fun i => Nat.le_trans (a2 i) (b2 i)⟩
  rw [b1, a1]

def slot (c : Caches) (k : Nat) : Stream := c.streams.getD k default
def distAt (c : Caches) (k i : Nat) : Nat := amt (slot c k).distributed i

theorem slot_eq (c : Caches) (k : Nat) (h : k < c.streams.length) : slot c k = c.streams[k] := by
  unfold slot; simp [List.getD_eq_getElem?_getD, h]

theorem slot_static {c c' : Caches} (hg : Grown c c') (k : Nat) (hk : k < c.streams.length) :
    slot c' k = { slot c k with distributed := (slot c' k).distributed } := by
  have hk' : k < c'.streams.length := by rw [hg.1]; exact hk
  rw [slot_eq c' k hk', slot_eq c k hk]
  exact (hg.2 k hk hk').1

/-- a cache whose slot `k` alone was rewritten, with more distributed coins -/
theorem grown_of_set {c c1 : Caches} {k : Nat} (hk : k < c.streams.length) {d' : Coins}
    (h : c1.streams = c.streams.set k { c.streams[k] with distributed := d' })
    (hle : ∀ i, amt (c.streams[k]).distributed i ≤ amt d' i) :
    Grown c c1 ∧ ∀ k', k' < c.streams.length → ∀ i, distAt c1 k' i = if k = k' then amt d' i else distAt c k' i := by
  have hlen : c1.streams.length = c.streams.length := by rw [h, List.length_set]
  have hget : ∀ k' (h1 : k' < c.streams.length) (h2 : k' < c1.streams.length),
      c1.streams[k'] = if k = k' then { c.streams[k] with distributed := d' } else c.streams[k'] := by
    intro k' h1 h2
    have : c1.streams[k'] = (c.streams.set k { c.streams[k] with distributed := d' })[k']'(by rw [List.length_set]; exact h1) := by
      simp only [h]
    rw [this, List.getElem_set]
  refine ⟨⟨hlen, fun k' h1 h2 => ?_⟩, fun k' h1 i => ?_⟩
  · rw [hget k' h1 h2]
    split
    · next he => subst he; exact ⟨rfl, hle⟩
    · exact ⟨rfl, fun _ => Nat.le_refl _⟩
  · unfold distAt
    rw [slot_eq c1 k' (by rw [hlen]; exact h1), slot_eq c k' h1, hget k' h1 (by rw [hlen]; exact h1)]
    split <;> rfl

theorem view_of_grown {c c' : Caches} (hg : Grown c c') : c'.streams.map Stream.view = c.streams.map Stream.view := by
  apply List.ext_getElem
  · simp [hg.1]
  · intro k h1 h2
    simp only [List.getElem_map]
    have hk : k < c.streams.length := by simpa using h2
    have hk' : k < c'.streams.length := by simpa using h1
    rw [(hg.2 k hk hk').1]
    rfl

/-- static requirements on the cached stream list (what sorting by id, `validateGauges` and the id counter give) -/
structure GoodCache (c : Caches) : Prop where
  nodup : (c.streams.map (·.id)).Nodup
  sorted : (c.streams.map (·.id)).Pairwise (· ≤ ·)
  recs : ∀ st ∈ c.streams, StrictInc (st.recs.map (·.gauge))
  bound : ∀ st ∈ c.streams, st.id < maxU64

theorem strictInc_of_sorted_nodup (l : List Nat) (h1 : l.Pairwise (· ≤ ·)) (h2 : l.Nodup) : StrictInc l := by
  apply strictInc_of_pairwise
  induction l with
  | nil => exact List.Pairwise.nil
  | cons x xs ih =>
    obtain ⟨a1, a2⟩ := List.pairwise_cons.1 h1
    obtain ⟨b1, b2⟩ := List.nodup_cons.1 h2
    refine List.pairwise_cons.2 ⟨?_, ih a2 b2⟩
    intro y hy
    have := a1 y hy
    have : x ≠ y := fun he => b1 (he ▸ hy)
    omega

theorem GoodCache.sortedData {c : Caches} (h : GoodCache c) : SortedData (c.streams.map Stream.view) := by
  have hids : (c.streams.map Stream.view).map (·.id) = c.streams.map (·.id) := by
    simp [List.map_map, Function.comp_def, Stream.view]
  refine ⟨?_, ?_, ?_⟩
  · rw [hids]; exact strictInc_of_sorted_nodup _ h.sorted h.nodup
  · intro sv hsv
    obtain ⟨st, hst, he⟩ := List.mem_map.1 hsv
    rw [← he]; exact h.recs st hst
  · intro k hk
    rw [hids]
    have hk' : k < c.streams.length := by simpa using hk
    have : (c.streams.map (·.id)).getD k 0 = (c.streams[k]).id := by simp [List.getD_eq_getElem?_getD, hk']
    rw [this]; exact h.bound _ (List.getElem_mem hk')

theorem GoodCache.of_grown {c c' : Caches} (h : GoodCache c) (hg : Grown c c') : GoodCache c' := by
  have hid : c'.streams.map (·.id) = c.streams.map (·.id) := by
    apply List.ext_getElem
    · simp [hg.1]
    · intro k h1 h2
      simp only [List.getElem_map]
      have hk : k < c.streams.length := by simpa using h2
      have hk' : k < c'.streams.length := by simpa using h1
      rw [(hg.2 k hk hk').1]
  refine ⟨by rw [hid]; exact h.nodup, by rw [hid]; exact h.sorted, ?_, ?_⟩
  · intro st hst
    obtain ⟨k, hk, he⟩ := List.getElem_of_mem hst
    have hk0 : k < c.streams.length := by rw [← hg.1]; exact hk
    have := (hg.2 k hk0 hk).1
    rw [← he, this]; exact h.recs c.streams[k] (List.getElem_mem hk0)
  · intro st hst
    obtain ⟨k, hk, he⟩ := List.getElem_of_mem hst
    have hk0 : k < c.streams.length := by rw [← hg.1]; exact hk
    have := (hg.2 k hk0 hk).1
    rw [← he, this]; exact h.bound c.streams[k] (List.getElem_mem hk0)

/-- the gauge a record names can be funded (`getActiveGaugeByID` succeeds) -/
def LiveRec (s : State) (r : Rec) : Prop := ∃ g, getGauge s r.gauge = some g ∧ g.isFinished s.now = false

/-- every record of every cached stream names a live gauge -/
def LiveC (s : State) (c : Caches) : Prop := ∀ st ∈ c.streams, ∀ r ∈ st.recs, LiveRec s r

theorem LiveC.of_grown {s : State} {c c' : Caches} (h : LiveC s c) (hg : Grown c c') : LiveC s c' := by
  intro st hst r hr
  obtain ⟨k, hk, he⟩ := List.getElem_of_mem hst
  have hk0 : k < c.streams.length := by rw [← hg.1]; exact hk
  have : st.recs = (c.streams[k]).recs := by rw [← he, (hg.2 k hk0 hk).1]
  rw [this] at hr
  exact h _ (List.getElem_mem hk0) r hr

/-! ### the rewards callback, one step and folded over positions -/

/-- one step of the rewards callback for the stream in slot `k` of a cache with distinct ids: only `distributed` of slot
    `k` may change; it grows by at most the record's share, by exactly the share when the record names a live gauge -/
theorem rewardsCb_slot (s : State) (c : Caches) (hn : (c.streams.map (·.id)).Nodup) (k : Nat) (hk : k < c.streams.length)
    (r : Rec) :
    ∃ d', (rewardsCb s c (c.streams[k]).view r).1.streams = c.streams.set k { c.streams[k] with distributed := d' } ∧
      ∀ i, amt (c.streams[k]).distributed i ≤ amt d' i ∧ amt d' i ≤ amt (c.streams[k]).distributed i + shareOf c.streams[k] r i ∧
        (LiveRec s r → amt d' i = amt (c.streams[k]).distributed i + shareOf c.streams[k] r i) := by
  have hfind : c.getStream (c.streams[k]).view.id = some c.streams[k] := find_at c.streams hn k hk
  -- nothing is written: exact when the share is 0 (no weight this epoch) or the gauge is not live
  have unchanged : (LiveRec s r → ∀ i, shareOf c.streams[k] r i = 0) →
      ∃ d', c.streams = c.streams.set k { c.streams[k] with distributed := d' } ∧
      ∀ i, amt (c.streams[k]).distributed i ≤ amt d' i ∧ amt d' i ≤ amt (c.streams[k]).distributed i + shareOf c.streams[k] r i ∧
        (LiveRec s r → amt d' i = amt (c.streams[k]).distributed i + shareOf c.streams[k] r i) := fun h0 =>
    ⟨_, (List.set_getElem_self hk).symm, fun i => ⟨Nat.le_refl _, Nat.le_add_right _ _, fun hl => by rw [h0 hl i]; rfl⟩⟩
  have zero : ∀ st, c.getStream (c.streams[k]).view.id = some st → (st.ecEmpty || st.totalWeight == 0) = true →
      ∀ i, shareOf c.streams[k] r i = 0 := by
    intro st hst h0 i
    rw [hfind] at hst; rw [← Option.some.inj hst] at h0
    unfold shareOf; rw [if_pos h0]
  rcases rewardsCb_shape s c (c.streams[k]).view r with ⟨e, hn | ⟨_, hdead⟩ | ⟨st, hst, h0⟩⟩ | ⟨st, _, hst, h0, _, _, _, e⟩ |
      ⟨st, g, gs, hst, hne, _, e⟩ <;> rw [e]
  · rw [hfind] at hn; exact nomatch hn
  · exact unchanged (fun ⟨g0, hg0, hf0⟩ => by rw [hdead g0 hg0] at hf0; exact nomatch hf0)
  · exact unchanged (fun _ => zero st hst h0)
  · exact unchanged (fun _ => zero st hst h0)
  · -- the cached stream found under the view's id is slot `k`
    obtain rfl : c.streams[k] = st := Option.some.inj (hfind.symm.trans hst)
    refine ⟨_, upsert_at c.streams hn k hk _ rfl, fun i => ?_⟩
    have : amt (gaugeRewards (c.streams[k]).epochCoins r.weight (c.streams[k]).totalWeight) i = shareOf c.streams[k] r i := by
      unfold gaugeRewards shareOf
      rw [amt_map _ (by simp [streamShare]), hne]; rfl
    rw [amt_add, this]
    exact ⟨Nat.le_add_right _ _, Nat.le_refl _, fun _ => rfl⟩

/-- shares of stream `st` (sitting at data index `k`) over a list of iterator positions -/
def sharesAt (st : Stream) (k : Nat) (vs : List (Nat × Nat)) (i : Nat) : Nat :=
  ((vs.filter (fun v => v.1 == k)).map (fun v => shareOf st (st.recs.getD v.2 default) i)).sum

theorem sharesAt_append (st : Stream) (k : Nat) (l1 l2 : List (Nat × Nat)) (i : Nat) :
    sharesAt st k (l1 ++ l2) i = sharesAt st k l1 i + sharesAt st k l2 i := by
  simp [sharesAt]

theorem sharesAt_cons (st : Stream) (k : Nat) (v : Nat × Nat) (l : List (Nat × Nat)) (i : Nat) :
    sharesAt st k (v :: l) i = (if v.1 = k then shareOf st (st.recs.getD v.2 default) i else 0) + sharesAt st k l i := by
  unfold sharesAt
  by_cases h : v.1 = k
  · simp [h]
  · have : (v.1 == k) = false := by simpa using h
    simp [this, h]

theorem sharesAt_static {a b : Stream} (h : a = { b with distributed := a.distributed }) (k : Nat) (vs : List (Nat × Nat)) (i : Nat) :
    sharesAt a k vs i = sharesAt b k vs i := by
  unfold sharesAt
  apply congrArg
  apply List.map_congr_left
  intro v _
  rw [h]
  simp only
  exact shareOf_congr rfl rfl rfl _ i

/-- the real callback folded over a list of valid positions: every slot grows by at most the shares of its positions,
    by exactly those shares when every record names a live gauge -/
theorem foldCb_acct (s : State) (data : List SView) (e : Nat) : ∀ (vs : List (Nat × Nat)) (c : Caches), Shape data c →
    (∀ v ∈ vs, validAt data e v.1 v.2 = true) →
    Shape data (foldCb data (rewardsCb s) c vs) ∧ Grown c (foldCb data (rewardsCb s) c vs) ∧
    ∀ k, k < c.streams.length → ∀ i,
      distAt (foldCb data (rewardsCb s) c vs) k i ≤ distAt c k i + sharesAt (slot c k) k vs i ∧
      (LiveC s c → distAt (foldCb data (rewardsCb s) c vs) k i = distAt c k i + sharesAt (slot c k) k vs i) := by
  intro vs
  induction vs with
  | nil =>
    intro c hsh _
    exact ⟨hsh, Grown.refl c, fun k _ i => by simp [foldCb, sharesAt]⟩
  | cons it rest ih =>
    intro c hsh hval
    obtain ⟨hlt, _, hgi⟩ := (validAt_iff data e it.1 it.2).1 (hval it List.mem_cons_self)
    have hdata := hsh.1
    subst hdata
    have hk1 : it.1 < c.streams.length := by simpa using hlt
    have hview : (c.streams.map Stream.view)[it.1]? = some (c.streams[it.1]).view := by simp [hk1]
    have hgi' : it.2 < (c.streams[it.1]).recs.length := by simpa [Stream.view] using hgi
    have hrec : (c.streams[it.1]).view.recs.getD it.2 default = (c.streams[it.1]).recs[it.2] := by
      show (c.streams[it.1]).recs.getD it.2 default = _
      simp [List.getD_eq_getElem?_getD, hgi']
    unfold foldCb
    simp only [hview]
    obtain ⟨d', hd1, hd2⟩ := rewardsCb_slot s c hsh.2 it.1 hk1 ((c.streams[it.1]).view.recs.getD it.2 default)
    obtain ⟨c1, w, hres⟩ : ∃ c1 w, rewardsCb s c (c.streams[it.1]).view ((c.streams[it.1]).view.recs.getD it.2 default) = (c1, w) := ⟨_, _, rfl⟩
    rw [hres] at hd1 ⊢
    simp only at hd1 ⊢
    have hsh1 := shape_set _ c hsh it.1 hk1 d' c1 hd1
    obtain ⟨hg1, hdist⟩ := grown_of_set hk1 hd1 (fun i => (hd2 i).1)
    obtain ⟨i1, i2, i3⟩ := ih c1 hsh1 (fun v hvm => hval v (List.mem_cons_of_mem _ hvm))
    refine ⟨i1, Grown.trans hg1 i2, ?_⟩
    intro k h i
    have hk1' : k < c1.streams.length := by rw [hg1.1]; exact h
    have hst : slot c1 k = { slot c k with distributed := (slot c1 k).distributed } := slot_static hg1 k h
    obtain ⟨j1, j2⟩ := i3 k hk1' i
    rw [sharesAt_static hst] at j1 j2
    rw [sharesAt_cons]
    -- the step at `it` rewrote slot `it.1` alone
    rw [hdist k h i] at j1 j2
    by_cases he : it.1 = k
    · subst he
      have hs0 : slot c it.1 = c.streams[it.1] := slot_eq c it.1 h
      have hshare : shareOf (slot c it.1) ((slot c it.1).recs.getD it.2 default) i =
          shareOf c.streams[it.1] ((c.streams[it.1]).view.recs.getD it.2 default) i := by rw [hs0]; rfl
      have hd : distAt c it.1 i = amt (c.streams[it.1]).distributed i := by unfold distAt; rw [hs0]
      rw [if_pos rfl] at j1 j2 ⊢
      rw [hshare, hd]
      obtain ⟨_, b2, b3⟩ := hd2 i
      refine ⟨by omega, fun hl => ?_⟩
      have := b3 (by rw [hrec]; exact hl _ (List.getElem_mem hk1) _ (List.getElem_mem hgi'))
      have := j2 (hl.of_grown hg1)
      omega
    · rw [if_neg he] at j1 j2 ⊢
      exact ⟨by omega, fun hl => by have := j2 (hl.of_grown hg1); omega⟩

/-- positions of epoch `e` belong to streams of epoch `e`: a stream of another epoch has no share in them -/
theorem sharesAt_other_epoch (data : List SView) (e : Nat) (st : Stream) (k : Nat) (vs : List (Nat × Nat))
    (hval : ∀ v ∈ vs, validAt data e v.1 v.2 = true) (hne : ∀ h : k < data.length, data[k].epochId ≠ e) (i : Nat) :
    sharesAt st k vs i = 0 := by
  unfold sharesAt
  have : vs.filter (fun v => v.1 == k) = [] := by
    apply List.filter_eq_nil_iff.2
    intro v hv hk
    have hk : v.1 = k := by simpa using hk
    obtain ⟨hlt, hok, _⟩ := (validAt_iff data e v.1 v.2).1 (hval v hv)
    subst hk
    unfold sOk at hok
    simp only [Bool.and_eq_true, beq_iff_eq] at hok
    exact hne hlt hok.2
  rw [this]; rfl

/-! ### one `IterateEpochPointer` call -/

/-- shares of slot `k` still ahead of pointer `p` in epoch `e`, read off the iterator's own `remaining` list -/
def pendR (data : List SView) (e : Nat) (p : Pointer) (st : Stream) (k i : Nat) : Nat :=
  sharesAt st k (remaining data e p) i

theorem pendR_static {a b : Stream} (h : a = { b with distributed := a.distributed }) (data : List SView) (e : Nat) (p : Pointer) (k i : Nat) :
    pendR data e p a k i = pendR data e p b k i := sharesAt_static h k _ i

theorem pendR_last (data : List SView) (e : Nat) (hs : SortedData data) (st : Stream) (k i : Nat) : pendR data e Pointer.last st k i = 0 := by
  unfold pendR remaining
  rw [visits_invalid data e _ (newIter_last data e hs)]
  simp [sharesAt]

/-- **one `IterateEpochPointer` call with the real callback, any budget, any pointer**: for every slot
    `distributed' + ahead(pointer') ≤ distributed + ahead(pointer)`, with what is ahead read off the iterator's own
    `remaining` list; equality when every record names a live gauge; slots of other epochs keep their amounts -/
theorem iterate_acct (s : State) (e : Nat) (p : Pointer) (max : Nat) (c : Caches) (hgc : GoodCache c) :
    let data := c.streams.map Stream.view
    let res := iterateEpochPointer data e p max (rewardsCb s) c
    Grown c res.2.2 ∧
    (∀ k, k < c.streams.length → ∀ i,
      distAt res.2.2 k i + pendR data e res.1 (slot c k) k i ≤ distAt c k i + pendR data e p (slot c k) k i ∧
      (LiveC s c → distAt res.2.2 k i + pendR data e res.1 (slot c k) k i = distAt c k i + pendR data e p (slot c k) k i)) ∧
    (∀ k, k < c.streams.length → (slot c k).epochId ≠ e → ∀ i, distAt res.2.2 k i = distAt c k i) := by
  intro data res
  have hsh : Shape data c := ⟨rfl, hgc.nodup⟩
  have hsd : SortedData data := hgc.sortedData
  have hacc : res.2.2 = foldCb data (rewardsCb s) c (iterVisits data e p max (rewardsCb s) c) := iterate_acc data e p max (rewardsCb s) c
  -- what was to visit = what the call visited ++ what is still to visit
  have hres := iterate_resume data e hsd p max (rewardsCb s) c
  have hval : ∀ v ∈ iterVisits data e p max (rewardsCb s) c, validAt data e v.1 v.2 = true := fun v hv =>
    (visits_sound data e _ v (by show v ∈ remaining data e p; rw [hres]; exact List.mem_append_left _ hv)).1
  obtain ⟨_, f2, f3⟩ := foldCb_acct s data e _ c hsh hval
  refine ⟨by rw [hacc]; exact f2, fun k hk i => ?_, fun k hk hne i => ?_⟩
  · have hsplit : sharesAt (slot c k) k (remaining data e p) i =
        sharesAt (slot c k) k (iterVisits data e p max (rewardsCb s) c) i + sharesAt (slot c k) k (remaining data e res.1) i := by
      rw [← sharesAt_append]
      exact congrArg (fun l => sharesAt (slot c k) k l i) hres
    unfold pendR
    rw [hacc, hsplit]
    obtain ⟨a, b⟩ := f3 k hk i
    exact ⟨by omega, fun hl => by have := b hl; omega⟩
  · have h0 := sharesAt_other_epoch data e (slot c k) k _ hval
      (fun h => by show ((c.streams.map Stream.view)[k]).epochId ≠ e; rw [List.getElem_map, ← slot_eq c k hk]; exact hne) i
    have hge : distAt c k i ≤ distAt (foldCb data (rewardsCb s) c (iterVisits data e p max (rewardsCb s) c)) k i := by
      have hk' : k < (foldCb data (rewardsCb s) c (iterVisits data e p max (rewardsCb s) c)).streams.length := by rw [f2.1]; exact hk
      unfold distAt
      rw [slot_eq c k hk, slot_eq _ k hk']
      exact (f2.2 k hk hk').2 i
    rw [hacc]
    have := (f3 k hk i).1
    omega

/-! ### from iterator positions to the stored pointer -/

/-- shares of stream `ck` (at data index `k`) still ahead of the iterator position `it` -/
def posPend (ck : Stream) (it : Nat × Nat) (k : Nat) (i : Nat) : Nat :=
  if it.1 < k then sharesOf ck ck.recs i else if it.1 = k then sharesOf ck (ck.recs.drop it.2) i else 0

theorem sharesOf_drop (ck : Stream) (g : Nat) (hg : g < ck.recs.length) (i : Nat) :
    sharesOf ck (ck.recs.drop g) i = shareOf ck ck.recs[g] i + sharesOf ck (ck.recs.drop (g + 1)) i := by
  have h := List.drop_eq_getElem_cons hg
  unfold sharesOf
  rw [h, List.map_cons, List.sum_cons]

theorem posPend_lt {ck : Stream} {it : Nat × Nat} {k : Nat} (h : it.1 < k) (i : Nat) :
    posPend ck it k i = sharesOf ck ck.recs i := by
  unfold posPend; rw [if_pos h]

theorem posPend_at (ck : Stream) (it : Nat × Nat) (i : Nat) : posPend ck it it.1 i = sharesOf ck (ck.recs.drop it.2) i := by
  unfold posPend; rw [if_neg (Nat.lt_irrefl _), if_pos rfl]

theorem posPend_gt {ck : Stream} {it : Nat × Nat} {k : Nat} (h : k < it.1) (i : Nat) : posPend ck it k i = 0 := by
  unfold posPend; rw [if_neg (by omega), if_neg (by omega)]

theorem posPend_le_all (ck : Stream) (it : Nat × Nat) (k i : Nat) : posPend ck it k i ≤ sharesOf ck ck.recs i := by
  unfold posPend
  split
  · exact Nat.le_refl _
  · split
    · exact sharesOf_sublist ck (List.drop_sublist _ _) i
    · exact Nat.zero_le _

/-- iterator positions the code produces: valid, or past the end of the list -/
def Canon (data : List SView) (e : Nat) (it : Nat × Nat) : Prop :=
  validAt data e it.1 it.2 = true ∨ data.length ≤ it.1

theorem canon_findNext (data : List SView) (e si : Nat) : Canon data e (findNextStream data e si) := by
  obtain ⟨_, f2, _, f4⟩ := findNext_prop data e si
  by_cases h : (findNextStream data e si).1 < data.length
  · left
    apply (validAt_iff data e _ _).2
    refine ⟨h, f4 h, ?_⟩
    rw [f2]; exact sOk_nonempty (f4 h)
  · right; omega

theorem canon_iterNext (data : List SView) (e : Nat) (it : Nat × Nat) : Canon data e (iterNext data e it) := by
  unfold iterNext
  split
  · next h => exact Or.inl h
  · exact canon_findNext data e it.1

theorem canon_newIter (data : List SView) (e : Nat) (p : Pointer) : Canon data e (newIter data e p) := by
  unfold newIter
  cases hd : data[binSearch (data.map (·.id)) p.streamId]? with
  | none =>
    simp only [hd]
    right
    rcases Nat.lt_or_ge (binSearch (data.map (·.id)) p.streamId) data.length with h | h
    · rw [List.getElem?_eq_getElem h] at hd; simp at hd
    · exact h
  | some sv =>
    simp only [hd]
    split
    · next h => exact Or.inl h
    · exact canon_findNext data e _

/-- a stream of epoch `e` the iterator does not accept has no records, hence no shares -/
theorem shares_zero_of_not_ok (data : List SView) (e k : Nat) (hk : k < data.length) (ck : Stream)
    (hrecs : ck.recs = data[k].recs) (hep : data[k].epochId = e) (hno : sOk e data[k] = false) (i : Nat) :
    sharesOf ck ck.recs i = 0 := by
  unfold sOk at hno
  simp only [Bool.and_eq_false_iff, Bool.not_eq_false', beq_eq_false_iff_ne, ne_eq] at hno
  rcases hno with h | h
  · rw [hrecs]
    have : data[k].recs = [] := by simpa using h
    rw [this]; simp [sharesOf]
  · exact absurd hep h

/-- after the jump from stream `si` to the next acceptable stream, a slot behind `si` has everything ahead (a skipped
    stream has no records), any other slot nothing -/
theorem posPend_findNext (data : List SView) (e si k : Nat) (ck : Stream) (hk : k < data.length)
    (hrecs : ck.recs = data[k].recs) (hep : data[k].epochId = e) (i : Nat) :
    posPend ck (findNextStream data e si) k i = if si < k then sharesOf ck ck.recs i else 0 := by
  obtain ⟨f1, f2, f3, _⟩ := findNext_prop data e si
  by_cases h : si < k
  · rw [if_pos h]
    rcases Nat.lt_trichotomy (findNextStream data e si).1 k with h1 | h1 | h1
    · exact posPend_lt h1 i
    · rw [← h1, posPend_at, f2, List.drop_zero]
    · rw [posPend_gt h1, shares_zero_of_not_ok data e k hk ck hrecs hep (f3 k h h1 hk)]
  · rw [if_neg h]; exact posPend_gt (by omega) i

/-- `Next` releases EXACTLY the share of the record just visited (streams of the iterated epoch) -/
theorem posPend_next_eq (data : List SView) (e : Nat) (it : Nat × Nat) (hv : validAt data e it.1 it.2 = true)
    (k : Nat) (ck : Stream) (hk : k < data.length) (hrecs : ck.recs = data[k].recs) (hep : data[k].epochId = e) (i : Nat) :
    posPend ck (iterNext data e it) k i +
      (if it.1 = k then shareOf ck (ck.recs.getD it.2 default) i else 0) = posPend ck it k i := by
  obtain ⟨hsi, hok, hgi⟩ := (validAt_iff data e it.1 it.2).1 hv
  have jump := posPend_findNext data e it.1 k ck hk hrecs hep i
  unfold iterNext
  rcases Nat.lt_trichotomy it.1 k with h1 | h1 | h1
  · rw [if_neg (show ¬ it.1 = k by omega), posPend_lt h1]
    split
    · exact posPend_lt (it := (it.1, it.2 + 1)) h1 i
    · rw [jump, if_pos h1]; rfl
  · subst h1
    have hg : it.2 < ck.recs.length := by rw [hrecs]; exact hgi
    have hget : ck.recs.getD it.2 default = ck.recs[it.2] := by simp [List.getD_eq_getElem?_getD, hg]
    rw [if_pos rfl, hget, posPend_at, sharesOf_drop ck it.2 hg i]
    split
    · rw [posPend_at ck (it.1, it.2 + 1)]; exact Nat.add_comm _ _
    · next hn =>
      -- validity fails at `it.2 + 1` although the stream is acceptable: `it.2` was its last record
      have hlast : ck.recs.length ≤ it.2 + 1 := by
        rcases Nat.lt_or_ge (it.2 + 1) ck.recs.length with hlt | hge
        · exact absurd ((validAt_iff data e it.1 (it.2 + 1)).2 ⟨hsi, hok, by rw [← hrecs]; exact hlt⟩) hn
        · exact hge
      rw [jump, if_neg (Nat.lt_irrefl _), List.drop_eq_nil_of_le hlast]
      exact Nat.zero_add _
  · rw [if_neg (show ¬ it.1 = k by omega), posPend_gt h1]
    split
    · exact posPend_gt (it := (it.1, it.2 + 1)) h1 i
    · rw [jump, if_neg (by omega)]

/-- the shares of slot `k` over everything the iterator still yields from a position the code produces are what
    is ahead of that position -/
theorem sharesAt_visits (data : List SView) (e : Nat) (k : Nat) (ck : Stream) (hk : k < data.length)
    (hrecs : ck.recs = data[k].recs) (hep : data[k].epochId = e) (i : Nat) (it : Nat × Nat) :
    Canon data e it → sharesAt ck k (visits data e it) i = posPend ck it k i := by
  induction it using visits.induct data e with
  | case1 it hv ih =>
    intro _
    rw [visits_valid data e it hv, sharesAt_cons, ih (canon_iterNext data e it)]
    have := posPend_next_eq data e it hv k ck hk hrecs hep i
    omega
  | case2 it hv =>
    -- an invalid position the code produces is past the end: nothing is visited and nothing is ahead
    intro hc
    rw [visits_invalid data e it (by simpa using hv), posPend_gt (by rcases hc with h1 | h1; exact absurd h1 hv; omega)]
    rfl

theorem ids_getD (data : List SView) (k : Nat) (hk : k < data.length) : (data.map (·.id)).getD k 0 = data[k].id := by
  simp [List.getD_eq_getElem?_getD, hk]

/-- the stored pointer can be resumed without loss: it is at a first gauge, or the stream it names is still in the
    list, or it is past every stream -/
def PtrOK (data : List SView) (p : Pointer) : Prop :=
  p.gaugeId = 0 ∨ p.streamId ∈ data.map (·.id) ∨ ∀ sv ∈ data, sv.id < p.streamId

/-- `PtrOK` for the pointer of epoch `e`, remembering that the stream it names belongs to that epoch (so the pointer
    stays resumable when the list is restricted to the streams of `e`, as the epoch-end flush does) -/
def PtrOKe (data : List SView) (e : Nat) (p : Pointer) : Prop :=
  p.gaugeId = 0 ∨ (∃ sv ∈ data, sv.id = p.streamId ∧ sv.epochId = e) ∨ ∀ sv ∈ data, sv.id < p.streamId

theorem PtrOKe.ok {data : List SView} {e : Nat} {p : Pointer} (h : PtrOKe data e p) : PtrOK data p := by
  rcases h with h | ⟨sv, h1, h2, _⟩ | h
  · exact Or.inl h
  · exact Or.inr (Or.inl (by rw [← h2]; exact List.mem_map_of_mem (f := (·.id)) h1))
  · exact Or.inr (Or.inr h)

theorem ptrOKe_last (data : List SView) (e : Nat) (hs : SortedData data) : PtrOKe data e Pointer.last := by
  right; right
  intro sv hsv
  obtain ⟨k, hk, he⟩ := List.getElem_of_mem hsv
  have := hs.bound k hk
  rw [ids_getD data k hk, he] at this
  exact this

/-- what `Distribute` stores: a pointer at a first gauge, or naming a stream of the list and of the epoch, or `last` -/
def StrongP (data : List SView) (e : Nat) (p : Pointer) : Prop :=
  p.gaugeId = 0 ∨ (∃ sv ∈ data, sv.id = p.streamId ∧ sv.epochId = e) ∨ p = Pointer.last

theorem StrongP.okE {data : List SView} {e : Nat} {p : Pointer} (h : StrongP data e p) (hs : SortedData data) :
    PtrOKe data e p := by
  rcases h with h | h | h
  · exact Or.inl h
  · exact Or.inr (Or.inl h)
  · rw [h]; exact ptrOKe_last data e hs

/-- a pointer `Distribute` stores is at a valid position of a stream of the epoch, or is `last` -/
theorem strongP_ptrOf (data : List SView) (e : Nat) (it : Nat × Nat) : StrongP data e (ptrOf data e it) := by
  unfold ptrOf
  by_cases hv : validAt data e it.1 it.2 = true
  · obtain ⟨hlt, hok, _⟩ := (validAt_iff data e it.1 it.2).1 hv
    simp only [hv, if_true, List.getElem?_eq_getElem hlt]
    right; left
    refine ⟨data[it.1], List.getElem_mem hlt, rfl, ?_⟩
    unfold sOk at hok
    simp only [Bool.and_eq_true, beq_iff_eq] at hok
    exact hok.2
  · rw [if_neg hv]
    exact Or.inr (Or.inr rfl)

theorem ptrOKe_ptrOf (data : List SView) (e : Nat) (hs : SortedData data) (it : Nat × Nat) : PtrOKe data e (ptrOf data e it) :=
  (strongP_ptrOf data e it).okE hs

theorem ptrOK_ptrOf (data : List SView) (e : Nat) (hs : SortedData data) (it : Nat × Nat) : PtrOK data (ptrOf data e it) :=
  (ptrOKe_ptrOf data e hs it).ok

/-- **the stored pointer, bisected, against what is pending after it**: what is ahead of `NewStreamIterator p` is at
    most what is pending after `p`, and exactly that for a resumable pointer and a stream of the epoch.  (The
    excluded case: the stream the pointer names has left the list, bisection lands on the next stream and keeps the
    saved gauge id, so that stream's gauges below it are skipped.) -/
theorem posPend_newIter (data : List SView) (e : Nat) (p : Pointer) (hs : SortedData data) (k : Nat) (hk : k < data.length)
    (st : Stream) (hid : st.id = data[k].id) (hrec : st.recs = data[k].recs) (i : Nat) :
    posPend st (newIter data e p) k i ≤ pendId p st i ∧
    (PtrOK data p → data[k].epochId = e → posPend st (newIter data e p) k i = pendId p st i) := by
  have hlenm : (data.map (·.id)).length = data.length := by simp
  have hsr : StrictInc (st.recs.map (·.gauge)) := by rw [hrec]; exact hs.recs _ (List.getElem_mem hk)
  obtain ⟨_, lo, hi⟩ := binSearch_spec (data.map (·.id)) p.streamId hs.ids
  rw [pendId_eq p st hsr i]
  unfold newIter
  generalize hbs : binSearch (data.map (·.id)) p.streamId = bs at lo hi ⊢
  dsimp only
  -- the iterator starts at the bisection index `bs` (gauge index bisected too) or, that position being invalid, at
  -- the head of the next acceptable stream
  rcases Nat.lt_trichotomy k bs with hkb | hkb | hkb
  · -- an earlier stream: its id is below the pointer's, nothing pending, nothing ahead
    have hidlt : st.id < p.streamId := by have := lo k hkb; rw [ids_getD data k hk] at this; rw [hid]; exact this
    rw [if_neg (by omega), if_neg (by omega)]
    have hgt : ∀ it : Nat × Nat, bs ≤ it.1 → posPend st it k i = 0 := fun it h => posPend_gt (by omega) i
    cases data[bs]? with
    | none => dsimp only; rw [hgt (bs, 0) (Nat.le_refl _)]; exact ⟨Nat.le_refl _, fun _ _ => rfl⟩
    | some s =>
      dsimp only
      split
      · rw [hgt (bs, _) (Nat.le_refl _)]; exact ⟨Nat.le_refl _, fun _ _ => rfl⟩
      · rw [hgt _ (by have := (findNext_prop data e bs).1; omega)]; exact ⟨Nat.le_refl _, fun _ _ => rfl⟩
  · -- the stream at the bisection index
    subst hkb
    have hge : p.streamId ≤ st.id := by
      have := hi k (Nat.le_refl _) (by rw [hlenm]; exact hk); rw [ids_getD data k hk] at this; rw [hid]; exact this
    rw [List.getElem?_eq_getElem hk]
    dsimp only
    rw [← hrec]
    -- a resumable pointer that names another stream is at a first gauge: bisection would find a stream of the list
    have hg0 : PtrOK data p → p.streamId < st.id → p.gaugeId = 0 := by
      intro hp hlt
      rcases hp with h | h | h
      · exact h
      · exfalso
        obtain ⟨sv, hsv, hsvid⟩ := List.mem_map.1 h
        obtain ⟨j, hj, hje⟩ := List.getElem_of_mem hsv
        have hjk := binSearch_found (data.map (·.id)) hs.ids j (by rw [hlenm]; exact hj)
        rw [ids_getD data j hj, hje, hsvid, hbs] at hjk
        subst hjk
        rw [hid, hje, hsvid] at hlt; omega
      · exfalso; have := h data[k] (List.getElem_mem hk); rw [hid] at hlt; omega
    -- an invalid position `(k, g)` of a stream of the epoch has nothing from `g` on
    have hinv : ∀ g, ¬ validAt data e k g = true → data[k].epochId = e → sharesOf st (st.recs.drop g) i = 0 := by
      intro g hv hep
      by_cases hok : sOk e data[k] = true
      · have hg : st.recs.length ≤ g := by
          rcases Nat.lt_or_ge g st.recs.length with hlt | hge'
          · exact absurd ((validAt_iff data e k g).2 ⟨hk, hok, by rw [← hrec]; exact hlt⟩) hv
          · exact hge'
        rw [List.drop_eq_nil_of_le hg]; rfl
      · have := shares_zero_of_not_ok data e k hk st hrec hep (by simpa using hok) i
        have := sharesOf_sublist st (List.drop_sublist g st.recs) i
        omega
    by_cases hlt : p.streamId < st.id
    · rw [if_pos hlt]
      split
      · next hv =>
        rw [posPend_at st (k, _)]
        exact ⟨sharesOf_sublist st (List.drop_sublist _ _) i, fun hp _ => by rw [hg0 hp hlt, binSearch_zero _ hsr, List.drop_zero]⟩
      · next hv =>
        rw [posPend_gt (show k < (findNextStream data e k).1 by have := (findNext_prop data e k).1; omega)]
        refine ⟨Nat.zero_le _, fun hp hep => ?_⟩
        rw [hg0 hp hlt, binSearch_zero _ hsr] at hv
        have := hinv 0 hv hep
        rw [List.drop_zero] at this
        exact this.symm
    · rw [if_neg hlt, if_pos (show p.streamId = st.id by omega)]
      split
      · rw [posPend_at st (k, _)]; exact ⟨Nat.le_refl _, fun _ _ => rfl⟩
      · next hv =>
        rw [posPend_gt (show k < (findNextStream data e k).1 by have := (findNext_prop data e k).1; omega)]
        exact ⟨Nat.zero_le _, fun _ hep => (hinv _ hv hep).symm⟩
  · -- a later stream: everything is pending; everything is ahead unless the iterator skipped it
    have hidgt : p.streamId < st.id := by
      have a := hi bs (Nat.le_refl _) (by rw [hlenm]; omega)
      have c := hs.ids bs k hkb (by rw [hlenm]; exact hk)
      rw [ids_getD data k hk] at c
      rw [hid]; omega
    rw [if_pos hidgt]
    refine ⟨posPend_le_all st _ k i, fun _ hep => ?_⟩
    rw [List.getElem?_eq_getElem (show bs < data.length by omega)]
    dsimp only
    split
    · exact posPend_lt (it := (bs, _)) hkb i
    · rw [posPend_findNext data e bs k st hk hrec hep i, if_pos hkb]

/-- **`remaining` read per stream against the id-based pending amount** (stream of the iterated epoch): what the
    iterator still yields from any pointer is at most what is pending after it; for a resumable pointer it is exactly that -/
theorem pendR_le_pendId (data : List SView) (e : Nat) (p : Pointer) (hs : SortedData data) (k : Nat) (hk : k < data.length)
    (st : Stream) (hid : st.id = data[k].id) (hrec : st.recs = data[k].recs) (hep : data[k].epochId = e) (i : Nat) :
    pendR data e p st k i ≤ pendId p st i ∧ (PtrOK data p → pendR data e p st k i = pendId p st i) := by
  unfold pendR remaining
  rw [sharesAt_visits data e k st hk hrec hep i _ (canon_newIter data e p)]
  exact ⟨(posPend_newIter data e p hs k hk st hid hrec i).1, fun hp => (posPend_newIter data e p hs k hk st hid hrec i).2 hp hep⟩

/-! ### `getD` after `set` (the epoch pointers are read with a default) -/

theorem getD_of_le {α : Type} (l : List α) (k : Nat) (d : α) (h : l.length ≤ k) : l.getD k d = d := by
  rw [List.getD_eq_getElem?_getD, List.getElem?_eq_none h]; rfl

theorem getD_set_self {α : Type} (l : List α) (k : Nat) (a d : α) :
    (l.set k a).getD k d = if k < l.length then a else d := by
  by_cases h : k < l.length
  · rw [if_pos h, List.getD_eq_getElem?_getD, List.getElem?_set_self h]; rfl
  · rw [if_neg h, getD_of_le _ _ _ (by rw [List.length_set]; omega)]

theorem getD_set_ne {α : Type} (l : List α) {k k' : Nat} (a d : α) (h : k ≠ k') : (l.set k a).getD k' d = l.getD k' d := by
  simp only [List.getD_eq_getElem?_getD, List.getElem?_set_ne h]

theorem getD_set_cases (ps : List Pointer) (e e' : Nat) (p' : Pointer) :
    ((ps.set e p').getD e' Pointer.last = p' ∧ e = e') ∨ (ps.set e p').getD e' Pointer.last = ps.getD e' Pointer.last := by
  by_cases he : e = e'
  · subst he
    rw [getD_set_self]
    split
    · exact Or.inl ⟨rfl, rfl⟩
    · exact Or.inr (getD_of_le _ _ _ (by omega)).symm
  · exact Or.inr (getD_set_ne _ _ _ he)

/-! ### one call and the loop over the epoch pointers, in terms of the stored pointers -/

/-- `pendR_le_pendId` for a slot of a good cache and the epoch of the stream in it -/
theorem pendR_slot (c : Caches) (hgc : GoodCache c) (k : Nat) (hk : k < c.streams.length) (p : Pointer) (i : Nat) :
    pendR (c.streams.map Stream.view) (slot c k).epochId p (slot c k) k i ≤ pendId p (slot c k) i ∧
    (PtrOK (c.streams.map Stream.view) p → pendR (c.streams.map Stream.view) (slot c k).epochId p (slot c k) k i = pendId p (slot c k) i) := by
  have hv : (c.streams.map Stream.view)[k]'(by simpa using hk) = (slot c k).view := by rw [slot_eq c k hk]; simp
  exact pendR_le_pendId _ _ p hgc.sortedData k (by simpa using hk) (slot c k) (by rw [hv]; rfl) (by rw [hv]; rfl) (by rw [hv]; rfl) i

/-- one call for a slot of the iterated epoch: `distributed + pending after the pointer` does not grow — what is ahead
    of the iterator built from any pointer is at most what is pending after it, and the pointer the call saves is
    resumable -/
theorem iterate_window (s : State) (e : Nat) (p : Pointer) (max : Nat) (c : Caches) (hgc : GoodCache c)
    (k : Nat) (hk : k < c.streams.length) (hep : (slot c k).epochId = e) (i : Nat) :
    distAt (iterateEpochPointer (c.streams.map Stream.view) e p max (rewardsCb s) c).2.2 k i +
        pendId (iterateEpochPointer (c.streams.map Stream.view) e p max (rewardsCb s) c).1 (slot c k) i
      ≤ distAt c k i + pendId p (slot c k) i := by
  subst hep
  have b1 := (pendR_slot c hgc k hk p i).1
  have b2 := (pendR_slot c hgc k hk (iterateEpochPointer (c.streams.map Stream.view) (slot c k).epochId p max (rewardsCb s) c).1 i).2
    (by rw [iterate_ptr]; exact ptrOK_ptrOf _ _ hgc.sortedData _)
  have := ((iterate_acct s (slot c k).epochId p max c hgc).2.1 k hk i).1
  omega

/-- the quantity the window accounting keeps from growing: distributed + pending after the stream's own pointer -/
def Qv (c : Caches) (ps : List Pointer) (k i : Nat) : Nat :=
  distAt c k i + pendId (ps.getD (slot c k).epochId Pointer.last) (slot c k) i

/-- the conserved quantity: distributed + what is still ahead of the stream's own epoch pointer -/
def QR (c : Caches) (ps : List Pointer) (k i : Nat) : Nat :=
  distAt c k i + pendR (c.streams.map Stream.view) (slot c k).epochId (ps.getD (slot c k).epochId Pointer.last) (slot c k) k i

/-- **the pointer loop of x/streamer `Distribute` (hour, day, week sharing one budget), every budget**: for every
    cached stream `Qv` does not grow, and — every record naming a live gauge — `QR` is conserved -/
theorem ptrLoop_acct (s : State) (maxOps : Nat) : ∀ (es : List Nat) (total : Nat) (c : Caches) (ps : List Pointer), GoodCache c →
    Grown c (ptrLoop s maxOps es total c ps).2.1 ∧
    ∀ k, k < c.streams.length → ∀ i,
      Qv (ptrLoop s maxOps es total c ps).2.1 (ptrLoop s maxOps es total c ps).2.2 k i ≤ Qv c ps k i ∧
      (LiveC s c → QR (ptrLoop s maxOps es total c ps).2.1 (ptrLoop s maxOps es total c ps).2.2 k i = QR c ps k i) := by
  intro es
  induction es with
  | nil => intro total c ps _; exact ⟨Grown.refl c, fun _ _ _ => ⟨Nat.le_refl _, fun _ => rfl⟩⟩
  | cons e rest ih =>
    intro total c ps hgc
    unfold ptrLoop
    by_cases hb : total ≥ maxOps
    · rw [if_pos hb]; exact ⟨Grown.refl c, fun _ _ _ => ⟨Nat.le_refl _, fun _ => rfl⟩⟩
    · rw [if_neg hb]
      simp only
      obtain ⟨g1, ga, g3⟩ := iterate_acct s e (ps.getD e Pointer.last) (maxOps - total) c hgc
      have gw := iterate_window s e (ps.getD e Pointer.last) (maxOps - total) c hgc
      obtain ⟨p', iters, c', hit⟩ : ∃ p' iters c', iterateEpochPointer (c.streams.map Stream.view) e (ps.getD e Pointer.last) (maxOps - total) (rewardsCb s) c = (p', iters, c') := ⟨_, _, _, rfl⟩
      rw [hit] at g1 ga g3 gw ⊢
      simp only at g1 ga g3 gw ⊢
      obtain ⟨h1, h2⟩ := ih (total + iters) c' (ps.set e p') (hgc.of_grown g1)
      refine ⟨Grown.trans g1 h1, fun k hk i => ?_⟩
      have hk' : k < c'.streams.length := by rw [g1.1]; exact hk
      have hst := slot_static g1 k hk
      have hep : (slot c' k).epochId = (slot c k).epochId := by rw [hst]
      obtain ⟨ihle, iheq⟩ := h2 k hk' i
      -- one pointer step
      have step : Qv c' (ps.set e p') k i ≤ Qv c ps k i ∧ (LiveC s c → QR c' (ps.set e p') k i = QR c ps k i) := by
        unfold Qv QR
        rw [hep, pendId_static hst, pendR_static hst, view_of_grown g1]
        by_cases he : (slot c k).epochId = e
        · rw [he, getD_set_self]
          by_cases hl : e < ps.length
          · rw [if_pos hl]; exact ⟨gw k hk he i, (ga k hk i).2⟩
          · -- no pointer slot for `e`: `last` is read before and after, nothing is pending after it
            rw [if_neg hl]
            have hb2 : (slot c k).id < maxU64 := by rw [slot_eq c k hk]; exact hgc.bound _ (List.getElem_mem hk)
            have a := gw k hk he i
            have b := ga k hk i
            rw [getD_of_le _ _ _ (by omega)] at a b ⊢
            rw [pendId_last _ hb2 i] at a ⊢
            rw [pendR_last _ _ hgc.sortedData] at b ⊢
            have hge : distAt c k i ≤ distAt c' k i := by
              unfold distAt
              rw [slot_eq c k hk, slot_eq c' k hk']
              exact (g1.2 k hk hk').2 i
            exact ⟨by omega, fun hl => by have := b.2 hl; omega⟩
        · rw [getD_set_ne _ _ _ (fun x => he x.symm), g3 k hk he i]
          exact ⟨Nat.le_refl _, fun _ => rfl⟩
      exact ⟨Nat.le_trans ihle step.1, fun hl => (iheq (hl.of_grown g1)).trans (step.2 hl)⟩

/-- the window accounting, every history: `distributed + pending` of a cached stream does not grow -/
theorem ptrLoop_window (s : State) (maxOps : Nat) : ∀ (es : List Nat) (total : Nat) (c : Caches) (ps : List Pointer), GoodCache c →
    Grown c (ptrLoop s maxOps es total c ps).2.1 ∧
    ∀ k, k < c.streams.length → ∀ i, Qv (ptrLoop s maxOps es total c ps).2.1 (ptrLoop s maxOps es total c ps).2.2 k i ≤ Qv c ps k i :=
  fun es total c ps hgc =>
    let ⟨a, b⟩ := ptrLoop_acct s maxOps es total c ps hgc
    ⟨a, fun k hk i => (b k hk i).1⟩

theorem upsert_view : ∀ (l : List Stream) (x : Stream) (d : Coins) (k : Nat), l.find? (·.id == k) = some x →
    (upsertStream l { x with distributed := d }).map Stream.view = l.map Stream.view := by
  intro l
  induction l with
  | nil => intro x d k h; simp at h
  | cons a rest ih =>
    intro x d k h
    have hx : x.id = k := by simpa using List.find?_some h
    unfold upsertStream
    by_cases ha : a.id = k
    · have : x = a := by
        rw [List.find?_cons_of_pos (by simpa using ha)] at h
        exact (Option.some.inj h).symm
      subst this
      rw [if_pos rfl]
      rfl
    · rw [List.find?_cons_of_neg (by simpa using ha)] at h
      rw [if_neg (by show ¬ a.id = x.id; rw [hx]; exact ha)]
      simp only [List.map_cons, List.cons.injEq, true_and]
      exact ih x d k h

theorem rewardsCb_views (s : State) (c : Caches) (v : SView) (r : Rec) :
    (rewardsCb s c v r).1.streams.map Stream.view = c.streams.map Stream.view := by
  rcases rewardsCb_shape s c v r with ⟨e, _⟩ | ⟨_, _, _, _, _, _, _, e⟩ | ⟨st, g, gs, hs, _, _, e⟩
  · rw [e]
  · rw [e]
  · rw [e]; exact upsert_view c.streams st _ v.id hs

/-- the pointer loop leaves the static part of the iterated list alone and stores only pointers `ptrOf … it`:
    a property `Q e` of all of these that the old pointers have is kept -/
theorem ptrLoop_ptrs (s : State) (maxOps : Nat) (Q : Nat → Pointer → Prop) :
    ∀ (es : List Nat) (total : Nat) (c : Caches) (ps : List Pointer),
    (∀ e it, Q e (ptrOf (c.streams.map Stream.view) e it)) → (∀ e, Q e (ps.getD e Pointer.last)) →
    (ptrLoop s maxOps es total c ps).2.1.streams.map Stream.view = c.streams.map Stream.view ∧
    ∀ e, Q e ((ptrLoop s maxOps es total c ps).2.2.getD e Pointer.last) := by
  intro es
  induction es with
  | nil => intro total c ps _ h; exact ⟨rfl, h⟩
  | cons e rest ih =>
    intro total c ps hQ h
    unfold ptrLoop
    split
    · exact ⟨rfl, h⟩
    · have hv := iterate_inv (fun a : Caches => a.streams.map Stream.view = c.streams.map Stream.view) (c.streams.map Stream.view) e
        (ps.getD e Pointer.last) (maxOps - total) (rewardsCb s) c (fun acc v r hp => (rewardsCb_views s acc v r).trans hp) rfl
      have hpt := iterate_ptr (c.streams.map Stream.view) e (ps.getD e Pointer.last) (maxOps - total) (rewardsCb s) c
      simp only
      generalize iterateEpochPointer (c.streams.map Stream.view) e (ps.getD e Pointer.last) (maxOps - total) (rewardsCb s) c = res at hv hpt
      obtain ⟨p', iters, c'⟩ := res
      simp only at hv hpt ⊢
      have hyp : ∀ e', Q e' ((ps.set e p').getD e' Pointer.last) := by
        intro e'
        rcases getD_set_cases ps e e' p' with ⟨h2, h1⟩ | h1
        · rw [h2, hpt, ← h1]; exact hQ e _
        · rw [h1]; exact h e'
      obtain ⟨i1, i2⟩ := ih (total + iters) c' (ps.set e p') (by rw [hv]; exact hQ) hyp
      exact ⟨i1.trans hv, i2⟩

/-- for a resumable pointer what is pending by ids is what the iterator still yields -/
theorem Qv_eq_QR (c : Caches) (ps : List Pointer) (hgc : GoodCache c) (k : Nat) (hk : k < c.streams.length)
    (hp : PtrOK (c.streams.map Stream.view) (ps.getD (slot c k).epochId Pointer.last)) (i : Nat) : Qv c ps k i = QR c ps k i := by
  unfold Qv QR
  rw [(pendR_slot c hgc k hk _ i).2 hp]

/-- **the pointer loop, every budget, in terms of the stored pointers**: `distributed + pending after the stream's own
    epoch pointer` does not grow; it is conserved when every record names a live gauge and that pointer is resumable
    (the pointers the loop stores are) -/
theorem ptrLoop_acct_id (s : State) (maxOps : Nat) (es : List Nat) (total : Nat) (c : Caches) (ps : List Pointer) (hgc : GoodCache c) :
    Grown c (ptrLoop s maxOps es total c ps).2.1 ∧
    ∀ k, k < c.streams.length → ∀ i,
      Qv (ptrLoop s maxOps es total c ps).2.1 (ptrLoop s maxOps es total c ps).2.2 k i ≤ Qv c ps k i ∧
      (LiveC s c → PtrOK (c.streams.map Stream.view) (ps.getD (slot c k).epochId Pointer.last) →
        Qv (ptrLoop s maxOps es total c ps).2.1 (ptrLoop s maxOps es total c ps).2.2 k i = Qv c ps k i) := by
  obtain ⟨g1, g2⟩ := ptrLoop_acct s maxOps es total c ps hgc
  refine ⟨g1, fun k hk i => ⟨(g2 k hk i).1, fun hl hp => ?_⟩⟩
  rw [Qv_eq_QR c ps hgc k hk hp i, ← (g2 k hk i).2 hl]
  apply Qv_eq_QR _ _ (hgc.of_grown g1) k (by rw [g1.1]; exact hk)
  rw [view_of_grown g1, slot_static g1 k hk]
  exact (ptrLoop_ptrs s maxOps (fun e p => e = (slot c k).epochId → PtrOK (c.streams.map Stream.view) p) es total c ps
    (fun e it _ => ptrOK_ptrOf _ e hgc.sortedData it) (fun e he => by rw [he]; exact hp)).2 _ rfl

/-! ### the cache `Distribute` starts from -/

/-- the input sorted by id -/
theorem goodCache_sortById {s : State} {l : List Stream} (hin : GoodInput s l)
    (hst : ∀ st ∈ l, StrictInc (st.recs.map (·.gauge)) ∧ st.id < maxU64) : GoodCache ⟨sortById l, [], []⟩ :=
  ⟨(sortById_good s l hin).1, sorted_sortById l, fun st hm => (hst st ((mem_sortById l st).1 hm)).1,
    fun st hm => (hst st ((mem_sortById l st).1 hm)).2⟩

/-- a value `v` of the stream cache after a pass over `l` sits at an index `k` of `l`; the stream there is stored
    under `v`'s id, is active, and differs from `v` in the distributed coins only -/
theorem pass_slot {s : State} {l : List Stream} (hin : GoodInput s l) {c : Caches} (wg : Grown ⟨l, [], []⟩ c)
    {v : Stream} (hv : v ∈ c.streams) :
    ∃ k, ∃ hk : k < l.length, slot c k = v ∧ slot ⟨l, [], []⟩ k = l[k] ∧ getS s.streams v.id = some l[k] ∧
      l[k].id ∈ s.active.ids ∧ v = { l[k] with distributed := v.distributed } := by
  obtain ⟨k, hk, hkv⟩ := List.getElem_of_mem hv
  have hk0 : k < l.length := by rw [← wg.1]; exact hk
  have hslot : slot c k = v := by rw [slot_eq c k hk]; exact hkv
  have hslot0 : slot ⟨l, [], []⟩ k = l[k] := slot_eq ⟨l, [], []⟩ k hk0
  obtain ⟨hget0, hact0⟩ := hin.2 _ (List.getElem_mem hk0)
  have hstat := slot_static wg k hk0
  rw [hslot, hslot0] at hstat
  have hidv : v.id = l[k].id := by rw [hstat]
  exact ⟨k, hk0, hslot, hslot0, by rw [hidv]; exact hget0, hact0, hstat⟩

end DymVerif.Incent
