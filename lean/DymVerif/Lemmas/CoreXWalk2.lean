/-
  Lemmas/CoreXWalk2 — the `QClosed` walk through every op: `apply_w` (the one case split over `Op` for the
  per-record invariants), block processing, and `run_w` / `run_q` for every reachable state.
-/
import DymVerif.Lemmas.CoreXWalk
namespace DymVerif.Core.XW
open DymVerif.Core.LevNs

section
variable {Q : Rollapp → Prop}

theorem abruptRemoveProposer_q (hc : QClosed Q) {s : St} {ra : Nat} (h : RaAll Q s) : RaAll Q (abruptRemoveProposer s ra) :=
  RoleClosed.abruptRemoveProposer (P := RaAll Q) (ra := ra)
    { clearProposer := fun hg h => RaAll.setRa h (hc.view (h.get hg) rfl (Or.inr rfl))
      clearSuccessor := fun hg h => RaAll.setRa h (hc.view (h.get hg) rfl (Or.inl rfl))
      unbond := fun _ h => RaAll.of_ras_eq h rfl
      optOut := fun h => RaAll.of_ras_eq h rfl
      nq := fun q h => RaAll.of_ras_eq h (removeFromNoticeQueue_ras _ q) } h

theorem abruptRemoveProposer_w (hc : QClosed Q) {s : St} {ra : Nat} (w : W Q s) : W Q (abruptRemoveProposer s ra) :=
  ⟨(abruptRemoveProposer_own w.own).1, abruptRemoveProposer_chain w.chain, abruptRemoveProposer_cl ids_closed w.ids,
    by rw [(abruptRemoveProposer_cl (hp_closed s.h s.p) (s := s) ⟨rfl, rfl⟩).1]; exact w.hpos,
    abruptRemoveProposer_q hc w.q⟩

theorem punish_ras {s s' : St} {a : Addr} {rw : Option Addr} (e : punish s a rw = .ok s') : s'.ras = s.ras := by
  obtain ⟨_, _, _, _, hs, rfl⟩ := punish_ok e
  exact (Fork.slash_money hs).ras

theorem punish_w {s s' : St} {a : Addr} {rw : Option Addr} (w : W Q s) (e : punish s a rw = .ok s') : W Q s' :=
  ⟨punish_own w.own e, punish_chain w.chain e, punish_cl ids_closed w.ids e,
    by rw [(punish_cl (hp_closed s.h s.p) ⟨rfl, rfl⟩ e).1]; exact w.hpos, RaAll.of_ras_eq w.q (punish_ras e)⟩

theorem beginBlock_q (hc : QClosed Q) {s : St} {dt : Nat} (h : RaAll Q s) : RaAll Q (beginBlock s dt) :=
  beginBlock_ind s dt (RaAll.of_ras_eq h rfl) (fun _ _ hb => RaAll.of_ras_eq hb rfl)
    (fun _ _ _ _ hb hg => RaAll.setRa hb (hc.view (hb.get hg) rfl (Or.inl rfl)))

theorem finalizeOne_q (hc : QClosed Q) {s s' : St} {fails : List (Nat × Nat)} {ra idx : Nat} (h : RaAll Q s)
    (e : finalizeOne s fails ra idx = some s') : RaAll Q s' := by
  obtain ⟨_, _, r, st, hg, hst, _, rfl⟩ := finalizeOne_ok e
  have h1 : RaAll Q { s with seqH := s.seqH.filter (fun p => !(p.1 == st.creator && st.bds.any (·.height == p.2))) } :=
    RaAll.of_ras_eq h rfl
  refine RaAll.setRa h1 (hc.view (h.get hg) ?_ (Or.inl rfl))
  show (r.id, r.revs, (r.states.set (idx - 1) { st with finalized := true, finalizedAt := s.h }).map xKey, r.evH, r.cdStart) = _
  rw [set_fin_xKey hst]
  rfl

theorem finalizeRollappStates_q (hc : QClosed Q) {s : St} {fails : List (Nat × Nat)} (h : RaAll Q s) :
    RaAll Q (finalizeRollappStates s fails) :=
  finalizeRollappStates_ind fails h (fun _ _ _ _ h e => finalizeOne_q hc h e) (fun _ _ h => RaAll.of_ras_eq h rfl)

theorem handleLivenessEvent_q (hc : QClosed Q) {s : St} {ra : Nat} (h : RaAll Q s) : RaAll Q (handleLivenessEvent s ra) := by
  unfold handleLivenessEvent
  split
  · exact h
  · rename_i r hg
    split
    · exact h
    · rename_i s1 hs1
      have h1 : RaAll Q s1 := RaAll.of_ras_eq h (slashLiveness_ras hs1)
      split
      · exact h
      · rename_i r1 hg1
        refine RaAll.setRa (s := (scheduleEvent { s1 with lev := delEvent s1.lev s1.h ra } r1).1) ?_ ?_
        · exact RaAll.of_ras_eq h1 rfl
        · exact hc.resched _ _ _ (h1.get hg1)

theorem endBlock_q (hc : QClosed Q) {s : St} {f : List (Nat × Nat)} (h : RaAll Q s) : RaAll Q (endBlock s f) := by
  unfold endBlock checkLiveness
  apply foldl_inv (RaAll Q)
  · exact finalizeRollappStates_q hc h
  · intro b e hb; exact handleLivenessEvent_q hc hb

theorem apply_hpos {s s' : St} {o : Op} (hp : 1 ≤ s.h) (e : apply s o = .ok s') : 1 ≤ s'.h := by
  cases hm : o.isMsg with
  | true => rw [(apply_msg_hp e hm).1]; exact hp
  | false =>
    cases o with
    | begin_ dt => simp only [apply] at e; injection e with e; subst e; rw [(beginBlock_frame s dt).2]; omega
    | end_ f => simp only [apply] at e; injection e with e; subst e; rw [endBlock_h]; exact hp
    | _ => cases hm

theorem apply_w (hc : QClosed Q) {s s' : St} {o : Op} (w : W Q s) (e : apply s o = .ok s') : W Q s' := by
  have hpos : 1 ≤ s'.h := apply_hpos w.hpos e
  refine ⟨apply_own w.own e, apply_chain w.chain e, apply_ids w.ids e, hpos, ?_⟩
  cases o with
  | createRollapp id owner mb =>
    obtain ⟨_, rfl⟩ := apply_createRollapp_ok e
    intro x hx
    rcases insertSorted_mem _ _ _ _ hx with h1 | h1
    · subst h1; exact hc.fresh id owner mb
    · exact w.q x h1
  | bridge ra hh =>
    obtain ⟨r, _, hg, _, _, _, _, rfl⟩ := apply_bridge_ok e
    exact RaAll.setRa w.q (hc.view (w.q.get hg) rfl (Or.inl rfl))
  | fund a amt => simp only [apply] at e; injection e with e; subst e; exact RaAll.of_ras_eq w.q rfl
  | createSeq a ra b d =>
    obtain ⟨r, s1, q1, hg, _, _, _, _, hs, _, _, h2⟩ := createSeq_ok e
    have h0 : RaAll Q (if r.launched = true then s else setRa s { r with launched := true }) ∧
        (if r.launched = true then s else setRa s { r with launched := true }).h = s.h := by
      split
      · exact ⟨w.q, rfl⟩
      · exact ⟨RaAll.setRa w.q (hc.view (w.q.get hg) rfl (Or.inl rfl)), rfl⟩
    have hsame := (Fork.sendToModule_money hs).same
    have h3 : RaAll Q (addSeq s1 q1) := RaAll.of_ras_eq h0.1 hsame.1
    have hp2 : 1 ≤ (addSeq s1 q1).h := by
      show 1 ≤ s1.h; rw [hsame.2.2.1, h0.2]; exact w.hpos
    rcases h2 with ⟨_, rfl⟩ | ⟨_, e⟩
    · exact h3
    · exact recoverFromSentinel_q hc hp2 h3 e
  | bondInc a amt d =>
    obtain ⟨_, _, _, _, _, _, hs, rfl⟩ := increaseBond_ok e
    exact RaAll.of_ras_eq w.q (Fork.sendToModule_money hs).ras
  | bondDec a amt =>
    obtain ⟨_, _, _, _, _, hs, rfl⟩ := decreaseBond_ok e
    exact RaAll.of_ras_eq w.q (Fork.tryUnbond_money hs).ras
  | unbond a =>
    obtain ⟨_, _, _, _, _, h2⟩ := unbond_ok e
    rcases h2 with ⟨_, _, _, rfl⟩ | ⟨_, _, _, hs, rfl⟩
    · exact RaAll.of_ras_eq w.q rfl
    · exact RaAll.of_ras_eq w.q (Fork.tryUnbond_money hs).ras
  | optIn a v =>
    obtain ⟨q, _, _, _, _, h2⟩ := optIn_ok e
    have h1 : RaAll Q (setSeq s { q with optedIn := v }) := RaAll.of_ras_eq w.q rfl
    rcases h2 with ⟨_, rfl⟩ | ⟨_, e⟩
    · exact h1
    · exact recoverFromSentinel_q hc (by show 1 ≤ s.h; exact w.hpos) h1 e
  | kick a =>
    obtain ⟨kicker, r, _, _, s3, _, _, _, _, _, _, _, _, h3, e'⟩ := kick_ok e
    have w3 := hardForkToLatest_w hc (abruptRemoveProposer_w hc (ra := r.id) w) h3
    exact recoverFromSentinel_q hc (s := setSeq s3 { kicker with optedIn := true }) (by show 1 ≤ s3.h; exact w3.hpos)
      (RaAll.of_ras_eq w3.q rfl) e'
  | update m => exact (updateState_w hc w e).q
  | fraud au ra hh rev p rw =>
    obtain ⟨_, _, r, s1, _, _, h5, h6⟩ := fraud_ok e
    rcases h5 with ⟨_, rfl⟩ | ⟨a, _, h5⟩
    · exact (hardFork_w hc w h6).q
    · exact (hardFork_w hc (punish_w w h5) h6).q
  | obsolete au vs =>
    exact (markObsolete_ind (P := W Q) e
      (fun _ => ⟨w.own.of_eq rfl rfl, w.chain.ras_eq rfl, w.ids, w.hpos, RaAll.of_ras_eq w.q rfl⟩)
      (fun _ _ _ wb hf => hardForkToLatest_w hc wb hf)).2.2.q
  | punish au a rw => exact RaAll.of_ras_eq w.q (punish_ras (punishProposal_ok e).2)
  | transferOwner sg ra' no =>
    obtain ⟨r, hg, _, _, _, rfl⟩ := transferOwner_ok e
    exact RaAll.setRa w.q (hc.view (w.q.get hg) rfl (Or.inl rfl))
  | setSeqParams au sp =>
    obtain ⟨_, _, _, rfl⟩ := setSeqParams_ok e
    exact RaAll.of_ras_eq w.q rfl
  | begin_ dt => simp only [apply] at e; injection e with e; subst e; exact beginBlock_q hc w.q
  | end_ f => simp only [apply] at e; injection e with e; subst e; exact endBlock_q hc w.q

end

/-- a `QClosed` per-record predicate holds for every rollapp record of every reachable state -/
theorem run_w {Q : Rollapp → Prop} (hc : QClosed Q) (p : Params) (ops : List Op) : W Q (run p ops) := by
  unfold run
  refine foldl_inv (W Q) _ _ _ ⟨run_own p [], run_chain p [], run_ids p [], Nat.le_refl 1, by intro r hr; simp [init] at hr⟩ ?_
  intro b o w
  unfold step
  split
  · rename_i s' e; exact apply_w hc w e
  · exact w

theorem run_q {Q : Rollapp → Prop} (hc : QClosed Q) (p : Params) (ops : List Op) : RaAll Q (run p ops) :=
  (run_w hc p ops).q

end DymVerif.Core.XW
