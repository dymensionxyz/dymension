/-
  Lemmas/LCNext — the third field of the agreement, the next-sequencer hash.  The property names three fields
  (state root, timestamp, next-sequencer hash); `Agrees` / `AgreeInv` (Lemmas/LCAgree) carry the first two, which
  are fixed once a descriptor and a consensus state exist.  The next sequencer of a height is not stored with the
  descriptor: `StateInfo.NextSequencerForHeight` reads it from the state info AS IT IS WHEN IT IS ASKED (creator
  below the last height, `NextProposer` at the last height — and a fork may shorten a state info), so the third
  field (`AgreesNext`, `Agrees3`: Lemmas/LCAgree) is stated at each of the three moments at which the code compares it,
  against the state info of that moment: designation (`validLoop_all_next`, Lemmas/LCDesig), a header for a posted height
  (`handleUpdate_ok_next`, here), a state update over an optimistic consensus state (`validateStateInfo_agrees_next`,
  Lemmas/LCAgree, used by the hook through `validateNew_ok`).  The two-field statements about the validators are the
  projections of these.
-/
import DymVerif.Lemmas.LCDesig
namespace DymVerif.LC
open DymVerif.Core (Addr NextP)

/-- the three-field conflict is refused: a consensus state that differs from the descriptor in any of the three
    fields does not pass `ValidateHeaderAgainstStateInfo` -/
theorem validateHeader_conflict {s : St} {ra : Nat} {st : Core.SInfo} {cs : Cons} {h : Nat} {d : Desc}
    (hd : getDesc s ra h = some d) (hconf : ¬ Agrees3 s st h cs d) : (validateHeader s ra st cs h).isSome = true := by
  cases hv : validateHeader s ra st cs h with
  | some e => rfl
  | none =>
    obtain ⟨_, d0, hd0, ha⟩ := validateHeader_none_next hv
    rw [hd] at hd0; cases hd0
    exact absurd ha hconf

/-- a header the ante handler lets through for a height some state info of the named sequencer's rollapp covers
    agrees with the descriptor of that height in all three fields (next sequencer: as that state info says now) -/
theorem handleUpdate_ok_next {s s1 : St} {c : Nat} {hd : Hdr} (h : handleUpdate s c hd = (s1, none))
    {q : Core.Seq} (hq : Core.getSeq s.core hd.propData = some q) {r : Core.Rollapp} (hr : Core.getRa s.core q.rollapp = some r)
    {i : Nat} (hi : Core.findByHeight r hd.h = some i) :
    ∃ st d, r.states[i - 1]? = some st ∧ st.contains hd.h = true ∧ getDesc s q.rollapp hd.h = some d ∧ Agrees3 s st hd.h hd.cons d := by
  rcases handleUpdate_cases s c hd with ⟨e, he⟩ | ⟨_, ⟨hn, _, _⟩ | ⟨q', r', hk, hopt⟩⟩
  · rw [he] at h; cases h
  · rw [hq] at hn; cases hn
  · cases hq.symm.trans hk.seq
    cases hr.symm.trans hk.ra
    rcases hopt with ⟨hf, _, _⟩ | ⟨i', st, hi', hst, hv, _⟩
    · rw [hi] at hf; cases hf
    · rw [hi] at hi'; cases hi'
      obtain ⟨hc, d, hd', ha⟩ := validateHeader_none_next hv
      exact ⟨st, d, hst, hc, hd', ha⟩

end DymVerif.LC
