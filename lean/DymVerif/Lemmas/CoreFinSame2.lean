/-
  Lemmas/CoreFinSame2 — message handlers and block hooks that are finalization-neutral (`FS`).
-/
import DymVerif.Lemmas.CoreFinSame
namespace DymVerif.Core

theorem FS.setSeq (s : St) (q : Seq) : FS s (setSeq s q) := FS.of_ras_eq rfl rfl rfl rfl

theorem onProposerLastBlock_fs {s s' : St} {q : Seq} (e : onProposerLastBlock s q = .ok s') : FS s s' := by
  obtain ⟨_, r, s1, hg, hs1, hx⟩ := onProposerLastBlock_ok e
  have h1 : FS s s1 := by rw [hs1]; exact FS.setRa hg rfl
  rcases hx with ⟨_, hf⟩ | ⟨a, _, rfl⟩
  · exact h1.trans (hardForkToLatest_fs hf)
  · exact h1.trans (afterSetRealProposer_fs _ _ _)

theorem seqAfterUpdate_fs {s s' : St} {m : UpdMsg} {b : Bool} (e : seqAfterUpdate s m b = .ok s') : FS s s' := by
  obtain ⟨prop, prop1, _, _, ⟨_, rfl⟩ | ⟨_, e⟩⟩ := seqAfterUpdate_ok e
  · exact FS.setSeq s _
  · exact (FS.setSeq s _).trans (onProposerLastBlock_fs e)

theorem createSeq_fs {s s' : St} {a : Addr} {ra bond : Nat} {d : Bool}
    (e : createSeq s a ra bond d = .ok s') : FS s s' := by
  obtain ⟨r, s1, q1, hg, _, _, _, _, hs, r2, _, hx⟩ := createSeq_ok e
  have h0 : FS s (if r.launched = true then s else setRa s { r with launched := true }) := by
    by_cases hl : r.launched = true
    · rw [if_pos hl]; exact FS.refl s
    · rw [if_neg hl]; exact FS.setRa hg rfl
  have hf : Frame _ (addSeq s1 q1) := (sendToModule_frame hs).trans ⟨rfl, rfl, rfl, rfl⟩
  have h1 := h0.trans hf.fs
  rcases hx with ⟨_, rfl⟩ | ⟨_, e⟩
  · exact h1
  · exact h1.trans (recoverFromSentinel_fs e)

theorem increaseBond_fs {s s' : St} {a : Addr} {amt : Nat} {d : Bool}
    (e : increaseBond s a amt d = .ok s') : FS s s' := (increaseBond_frame e).fs

theorem decreaseBond_fs {s s' : St} {a : Addr} {amt : Nat} (e : decreaseBond s a amt = .ok s') : FS s s' :=
  (decreaseBond_frame e).fs

theorem unbond_fs {s s' : St} {a : Addr} (e : unbond s a = .ok s') : FS s s' := (unbond_frame e).fs

theorem optIn_fs {s s' : St} {a : Addr} {v : Bool} (e : optIn s a v = .ok s') : FS s s' := by
  obtain ⟨q, r, _, _, _, ⟨_, rfl⟩ | ⟨_, e⟩⟩ := optIn_ok e
  · exact FS.setSeq s _
  · exact (FS.setSeq s _).trans (recoverFromSentinel_fs e)

theorem kick_fs {s s' : St} {a : Addr} (e : kick s a = .ok s') : FS s s' := by
  obtain ⟨k, r, pa, pq, s3, _, _, _, _, _, _, _, _, h3, e⟩ := kick_ok e
  exact ((abruptRemoveProposer_fs _ _).trans (hardForkToLatest_fs h3)).trans
    ((FS.setSeq s3 _).trans (recoverFromSentinel_fs e))

theorem punish_fs {s s' : St} {a : Addr} {rw : Option Addr} (e : punish s a rw = .ok s') : FS s s' :=
  (punish_frame e).fs

theorem markObsolete_fs {s s' : St} {au : Bool} {vs : List Nat} (e : markObsolete s au vs = .ok s') : FS s s' :=
  (markObsolete_ind (P := FS s) e (fun _ => FS.of_ras_eq rfl rfl rfl rfl)
    (fun _ _ _ hb hf => hb.trans (hardForkToLatest_fs hf))).2.2

/-- the part of `BeginBlock` after the height / time bump -/
theorem beginBlock_fs (s : St) (dt : Nat) : FS { s with h := s.h + 1, t := s.t + dt } (beginBlock s dt) :=
  beginBlock_ind (P := FS { s with h := s.h + 1, t := s.t + dt }) s dt (FS.refl _)
    (fun _ _ hb => hb.trans (FS.of_ras_eq rfl rfl rfl rfl)) (fun _ _ _ _ hb hg => hb.trans (FS.setRa hg rfl))

theorem handleLivenessEvent_fs (s : St) (ra : Nat) : FS s (handleLivenessEvent s ra) := by
  rcases handleLivenessEvent_cases s ra with e | ⟨r, s1, r1, _, hs, hg1, e⟩
  · rw [e]; exact FS.refl s
  · rw [e]
    have hf := slashLiveness_frame hs
    unfold scheduleEvent
    have hg1' : getRa s ra = some r1 := by unfold getRa at *; rw [← hf.ras]; exact hg1
    exact FS.setRa' (hf.trans ⟨rfl, rfl, rfl, rfl⟩) hg1' rfl

theorem checkLiveness_fs (s : St) : FS s (checkLiveness s) := by
  unfold checkLiveness
  apply FS.foldl
  intro b e
  exact handleLivenessEvent_fs b e.2

end DymVerif.Core
