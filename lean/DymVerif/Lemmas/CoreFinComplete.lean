/-
  Lemmas/CoreFinComplete — completeness of a finalization pass (every due pending state of a rollapp
  without a failing earlier index is finalized) and isolation (what happens to one rollapp's record
  depends only on the oracle restricted to that rollapp's due indices).
-/
import DymVerif.Lemmas.CoreFinInv
namespace DymVerif.Core

-- ---------------------------------------------------------------- completeness

/-- after the finalization pass at height `s.h`: a pending state whose dispute period has elapsed and
    whose rollapp has no failing pending index up to its own is finalized, at this height -/
theorem finalize_complete_core {s : St} (fails : List (Nat × Nat)) (hi : FinInv s) {r : Rollapp} (hr : r ∈ s.ras)
    {i : Nat} {st : SInfo} (hst : r.states[i]? = some st) (hnf : st.finalized = false)
    (hdue : st.creationHeight + s.p.dispute ≤ s.h)
    (hok : ∀ j, r.lastFin < j → j ≤ i + 1 → (r.id, j) ∉ fails) :
    ∃ r', getRa (finalizeRollappStates s fails) r.id = some r' ∧
      r'.states[i]? = some { st with finalized := true, finalizedAt := s.h } := by
  obtain ⟨hi', hfin⟩ := finalizeRollappStates_fin fails hi
  obtain ⟨failed', hfok, hempty⟩ := hfin (by omega)
  obtain ⟨hh, hp, _, hrel⟩ := finalizeRollappStates_rel fails hi.nodup
  obtain ⟨r', hr', hid, hlen, hst'⟩ := hrel r hr
  have hg' : getRa (finalizeRollappStates s fails) r.id = some r' := by
    rw [← hid]; exact getRa_of_mem hi'.nodup hr'
  obtain ⟨st', hst1, hc⟩ := hst' i st hst
  rcases hc with hc | ⟨_, hc⟩
  · exfalso
    subst hc
    have old := hi.ras r hr
    have new := hi'.ras r' hr'
    have hlf : r.lastFin ≤ r'.lastFin := by
      rcases Nat.eq_zero_or_pos r.lastFin with h0 | h0
      · omega
      · have hlt : r.lastFin - 1 < r.states.length := by have := old.le; omega
        have hx : r.states[r.lastFin - 1]? = some r.states[r.lastFin - 1] := List.getElem?_eq_getElem hlt
        have hfx := (old.pre _ _ hx).2 (by omega)
        obtain ⟨sx, hsx, hcx⟩ := hst' _ _ hx
        rcases hcx with hcx | ⟨hcx, _⟩
        · subst hcx
          have := (new.pre _ _ hsx).1 hfx
          omega
        · rw [hfx] at hcx; cases hcx
    have hnl : ¬ i < r'.lastFin := by
      intro hlt
      have := (new.pre i st' hst1).2 hlt
      rw [hnf] at this; cases this
    have hil : i < r'.states.length := getElem?_lt hst1
    have hmem : i + 1 ∈ flat (finalizeRollappStates s fails).queue r'.id := by
      rw [new.flat_eq]
      unfold pendingIdx
      rw [List.mem_range'_1]
      omega
    obtain ⟨e, he, hera, hei⟩ := mem_flat.1 hmem
    obtain ⟨sy, hsy, hch⟩ := new.ch e he hera (i + 1) hei
    rw [Nat.add_sub_cancel, hst1] at hsy
    injection hsy with hsy; subst hsy
    have hnotdue : dueP (s.h - s.p.dispute) failed' e = false := by
      cases hd : dueP (s.h - s.p.dispute) failed' e with
      | false => rfl
      | true =>
        have : e ∈ (finalizeRollappStates s fails).queue.filter (dueP (s.h - s.p.dispute) failed') :=
          List.mem_filter.2 ⟨he, hd⟩
        rw [hempty] at this; cases this
    unfold dueP at hnotdue
    have hdec : decide (e.ch ≤ s.h - s.p.dispute) = true := by
      rw [decide_eq_true_iff, ← hch]; omega
    rw [hdec] at hnotdue
    have hfm : e.ra ∈ failed' := by simpa using hnotdue
    have := hfok e.ra hfm r' (by rw [hera, hid]; exact hg')
    rw [hera, hid] at this
    exact hok (r'.lastFin + 1) (by omega) (by omega) this
  · exact ⟨r', hg', by rw [hst1, hc]⟩

-- ---------------------------------------------------------------- checkLiveness does not touch states / lastFin

def finPart (r : Rollapp) : List SInfo × Nat := (r.states, r.lastFin)

theorem getRa_frame {s s1 : St} (h : s1.ras = s.ras) (id : Nat) : getRa s1 id = getRa s id := getRa_of_ras_eq h id

theorem getRa_setRa_finPart (s0 : St) (r0 r1 : Rollapp) (id : Nat) (hg : getRa s0 r0.id = some r1)
    (hfp : finPart r0 = finPart r1) : (getRa (setRa s0 r0) id).map finPart = (getRa s0 id).map finPart := by
  by_cases hid : r0.id = id
  · subst hid
    rw [getRa_setRa_self hg, hg]
    simp [hfp]
  · rw [getRa_setRa_ne hid]

theorem handleLivenessEvent_finPart (s : St) (ra id : Nat) :
    (getRa (handleLivenessEvent s ra) id).map finPart = (getRa s id).map finPart := by
  unfold handleLivenessEvent
  split
  · rfl
  · split
    · rfl
    · rename_i s1 hs1
      have hf := slashLiveness_frame hs1
      split
      · rfl
      · rename_i r1 hg1
        unfold scheduleEvent
        dsimp only
        refine (getRa_setRa_finPart _ _ r1 id ?_ ?_).trans ?_
        · show getRa s1 r1.id = some r1
          rw [getRa_id hg1]; exact hg1
        · rfl
        · show (getRa s1 id).map finPart = _
          rw [getRa_frame hf.ras]

theorem checkLiveness_finPart (s : St) (id : Nat) : (getRa (checkLiveness s) id).map finPart = (getRa s id).map finPart := by
  unfold checkLiveness
  apply foldl_inv (fun b => (getRa b id).map finPart = (getRa s id).map finPart)
  · rfl
  · intro b e hb
    rw [handleLivenessEvent_finPart]; exact hb

/-- completeness at the level of `EndBlock` -/
theorem endBlock_complete {s : St} (fails : List (Nat × Nat)) (hi : FinInv s) {r : Rollapp} (hr : r ∈ s.ras)
    {i : Nat} {st : SInfo} (hst : r.states[i]? = some st) (hnf : st.finalized = false)
    (hdue : st.creationHeight + s.p.dispute ≤ s.h)
    (hok : ∀ j, r.lastFin < j → j ≤ i + 1 → (r.id, j) ∉ fails) :
    ∃ r', getRa (endBlock s fails) r.id = some r' ∧
      r'.states[i]? = some { st with finalized := true, finalizedAt := s.h } := by
  obtain ⟨r1, hg1, hs1⟩ := finalize_complete_core fails hi hr hst hnf hdue hok
  unfold endBlock
  have := checkLiveness_finPart (finalizeRollappStates s fails) r.id
  rw [hg1] at this
  cases hg2 : getRa (checkLiveness (finalizeRollappStates s fails)) r.id with
  | none => rw [hg2] at this; cases this
  | some r2 =>
    rw [hg2] at this
    simp only [Option.map_some, Option.some.injEq, finPart, Prod.mk.injEq] at this
    exact ⟨r2, rfl, by rw [this.1]; exact hs1⟩

/-- a state that gets finalized by `EndBlock` had its dispute period elapsed at this block, and the
    recorded finalization height is this block's height -/
theorem endBlock_newly {s : St} (fails : List (Nat × Nat)) (hi : FinInv s) {r r' : Rollapp} (hr : r ∈ s.ras)
    {i : Nat} {st st' : SInfo} (hst : r.states[i]? = some st) (hnf : st.finalized = false)
    (hg' : getRa (endBlock s fails) r.id = some r') (hst' : r'.states[i]? = some st') (hf : st'.finalized = true) :
    st.creationHeight + s.p.dispute ≤ s.h ∧ st' = { st with finalized := true, finalizedAt := s.h } := by
  obtain ⟨hi1, _⟩ := finalizeRollappStates_fin fails hi
  obtain ⟨hh, hp, _, hrel⟩ := finalizeRollappStates_rel fails hi.nodup
  obtain ⟨r1, hr1, hid, _, hs1⟩ := hrel r hr
  have hg1 : getRa (finalizeRollappStates s fails) r.id = some r1 := by
    rw [← hid]; exact getRa_of_mem hi1.nodup hr1
  have := checkLiveness_finPart (finalizeRollappStates s fails) r.id
  unfold endBlock at hg'
  rw [hg', hg1] at this
  simp only [Option.map_some, Option.some.injEq, finPart, Prod.mk.injEq] at this
  rw [this.1] at hst'
  obtain ⟨st1, hst1, hc⟩ := hs1 i st hst
  rw [hst1] at hst'; injection hst' with hst'; subst hst'
  rcases hc with hc | ⟨_, hc⟩
  · subst hc; rw [hnf] at hf; cases hf
  · refine ⟨?_, hc⟩
    have := (hi1.ras r1 hr1).notEarly st1 (List.mem_of_getElem? hst1) hf
    rw [hc, hp] at this
    exact this

/-- backward form: every finalized state info after `EndBlock` was either finalized before (and is
    unchanged), or was unfinalized with its dispute period elapsed and got finalized at this height -/
theorem endBlock_back {s : St} (fails : List (Nat × Nat)) (hi : FinInv s) {r' : Rollapp}
    (hg' : getRa (endBlock s fails) r'.id = some r') {i : Nat} {st' : SInfo} (hst' : r'.states[i]? = some st')
    (hf : st'.finalized = true) :
    ∃ r ∈ s.ras, r.id = r'.id ∧ ∃ st, r.states[i]? = some st ∧
      ((st.finalized = true ∧ st' = st) ∨
       (st.finalized = false ∧ st.creationHeight + s.p.dispute ≤ s.h ∧
         st' = { st with finalized := true, finalizedAt := s.h })) := by
  obtain ⟨hi1, _⟩ := finalizeRollappStates_fin fails hi
  have hrel := finalizeRollappStates_rel fails hi.nodup
  have := checkLiveness_finPart (finalizeRollappStates s fails) r'.id
  unfold endBlock at hg'
  rw [hg'] at this
  cases hg1 : getRa (finalizeRollappStates s fails) r'.id with
  | none => rw [hg1] at this; cases this
  | some r1 =>
    rw [hg1] at this
    simp only [Option.map_some, Option.some.injEq, finPart, Prod.mk.injEq] at this
    rw [this.1] at hst'
    obtain ⟨r, hr, hid, hb⟩ := hrel.back hi1.nodup (getRa_mem hg1)
    obtain ⟨st, hst, hc⟩ := hb i st' hst'
    refine ⟨r, hr, hid.trans (getRa_id hg1), st, hst, ?_⟩
    rcases hc with hc | ⟨hnf, hc⟩
    · left; subst hc; exact ⟨hf, rfl⟩
    · right
      refine ⟨hnf, ?_, hc⟩
      have := (hi1.ras r1 (getRa_mem hg1)).notEarly st' (List.mem_of_getElem? hst') hf
      rw [hc, hrel.2.1] at this
      exact this

-- ---------------------------------------------------------------- isolation

/-- `finalizePendingState` on a record -/
def recOne (ro : Option Rollapp) (inF : Bool) (idx H : Nat) : Option Rollapp :=
  if inF then none else
  match ro with
  | none => none
  | some r =>
    match r.states[idx - 1]? with
    | none => none
    | some st => if idx = 0 || st.finalized then none else some (finRec r idx st H)

theorem finalizeOne_rec_some {s s' : St} {fails : List (Nat × Nat)} {ra idx : Nat}
    (e : finalizeOne s fails ra idx = some s') :
    recOne (getRa s ra) (fails.contains (ra, idx)) idx s.h = getRa s' ra ∧ (getRa s' ra).isSome = true ∧ s'.h = s.h := by
  have h0 := (finalizeOne_ok e).2.1
  obtain ⟨r, st, s0, hg, hst, hnf, hfc, hfr, rfl⟩ := finalizeOne_some e
  have hid : (finRec r idx st s.h).id = ra := show r.id = ra from getRa_id hg
  have h1 := getRa_setRa_self (s := s0) (r := finRec r idx st s.h) (r0 := r) (by
    rw [hid, getRa_frame hfr.ras, hg])
  rw [hid] at h1
  refine ⟨?_, by rw [h1]; rfl, hfr.h⟩
  unfold recOne
  rw [hfc, hg]
  dsimp only
  rw [hst]
  dsimp only
  rw [if_neg (by simp), if_neg (by simp [h0, hnf]), h1]

theorem finalizeOne_rec_none {s : St} {fails : List (Nat × Nat)} {ra idx : Nat}
    (e : finalizeOne s fails ra idx = none) : recOne (getRa s ra) (fails.contains (ra, idx)) idx s.h = none := by
  unfold finalizeOne at e
  unfold recOne
  split at e
  · rename_i hf; rw [if_pos hf]
  · rename_i hf; rw [if_neg hf]
    split at e
    · rename_i hg; rw [hg]
    · rename_i r hg; rw [hg]; dsimp only
      split at e
      · rename_i hst; rw [hst]
      · rename_i st hst; rw [hst]; dsimp only
        split at e
        · rename_i hc; rw [if_pos hc]
        · cases e

/-- `FinalizeStates` on a record: remaining indices processed in order until the first failure -/
def recGo (f : Nat → Bool) (H : Nat) : Option Rollapp → List Nat → Option Rollapp × Bool
  | ro, [] => (ro, true)
  | ro, i :: tl =>
    match recOne ro (f i) i H with
    | some r' => recGo f H (some r') tl
    | none => (ro, false)

theorem finalizeEntry_go_rec (fails : List (Nat × Nat)) (e : QEntry) : ∀ (l : List Nat) (s : St),
    getRa (finalizeEntry.go fails e s l).1 e.ra = (recGo (fun i => fails.contains (e.ra, i)) s.h (getRa s e.ra) l).1 ∧
    (finalizeEntry.go fails e s l).2 = (recGo (fun i => fails.contains (e.ra, i)) s.h (getRa s e.ra) l).2 := by
  intro l
  induction l with
  | nil => intro s; unfold finalizeEntry.go recGo; exact ⟨rfl, rfl⟩
  | cons i tl ih =>
    intro s
    unfold finalizeEntry.go recGo
    split
    · rename_i s1 h1
      obtain ⟨t1, t2, t3⟩ := finalizeOne_rec_some h1
      cases hg1 : getRa s1 e.ra with
      | none => rw [hg1] at t2; cases t2
      | some r1 =>
        rw [hg1] at t1
        rw [t1]
        dsimp only
        have := ih s1
        rw [hg1, t3] at this
        exact this
    · rename_i h1
      rw [finalizeOne_rec_none h1]
      exact ⟨rfl, rfl⟩

theorem recGo_congr (f g : Nat → Bool) (H : Nat) : ∀ (l : List Nat) (ro : Option Rollapp), (∀ i ∈ l, f i = g i) →
    recGo f H ro l = recGo g H ro l := by
  intro l
  induction l with
  | nil => intro ro _; rfl
  | cons i tl ih =>
    intro ro h
    unfold recGo
    rw [h i (by simp)]
    split
    · exact ih _ (fun j hj => h j (by simp [hj]))
    · rfl

/-- one step of `finalizeAll` on an entry of another rollapp leaves the record, the height and the
    failed-flag of rollapp `id` alone -/
theorem finalizeAll_step_other (s : St) (fails : List (Nat × Nat)) (e : QEntry) (es : List QEntry) (failed : List Nat)
    (id : Nat) (hne : e.ra ≠ id) :
    ∃ s' failed', finalizeAll s fails (e :: es) failed = finalizeAll s' fails es failed' ∧
      getRa s' id = getRa s id ∧ s'.h = s.h ∧ failed'.contains id = failed.contains id := by
  rw [finalizeAll_cons]
  split
  · exact ⟨s, failed, rfl, rfl, rfl, rfl⟩
  · refine ⟨_, _, rfl, finalizeEntry_go_getRa_other fails e id hne _ _, (finalizeEntry_go_frame fails e _ _).2, ?_⟩
    split
    · rfl
    · rw [List.contains_cons]
      have : (id == e.ra) = false := by simpa using (Ne.symm hne)
      rw [this]; rfl

theorem finalizeAll_iso (f1 f2 : List (Nat × Nat)) (id : Nat) : ∀ (es : List QEntry) (failed1 failed2 : List Nat) (s1 s2 : St),
    getRa s1 id = getRa s2 id → s1.h = s2.h → failed1.contains id = failed2.contains id →
    (∀ e ∈ es, e.ra = id → ∀ j ∈ e.idx, f1.contains (id, j) = f2.contains (id, j)) →
    getRa (finalizeAll s1 f1 es failed1) id = getRa (finalizeAll s2 f2 es failed2) id := by
  intro es
  induction es with
  | nil => intro _ _ s1 s2 hg _ _ _; unfold finalizeAll; exact hg
  | cons e es ih =>
    intro failed1 failed2 s1 s2 hg hh hf hag
    have hag' : ∀ e' ∈ es, e'.ra = id → ∀ j ∈ e'.idx, f1.contains (id, j) = f2.contains (id, j) :=
      fun e' he' => hag e' (by simp [he'])
    by_cases hra : e.ra = id
    · rw [finalizeAll_cons, finalizeAll_cons, hra, hf]
      split
      · exact ih _ _ _ _ hg hh hf hag'
      · obtain ⟨a1, a2⟩ := finalizeEntry_go_rec f1 e e.idx s1
        obtain ⟨b1, b2⟩ := finalizeEntry_go_rec f2 e e.idx s2
        have hcg := recGo_congr (fun i => f1.contains (e.ra, i)) (fun i => f2.contains (e.ra, i)) s1.h e.idx (getRa s1 e.ra)
          (by intro j hj; rw [hra]; exact hag e (by simp) hra j hj)
        rw [hra] at a1 a2 b1 b2 hcg
        rw [hcg, hg, hh] at a1 a2
        apply ih
        · rw [a1, b1]
        · rw [(finalizeEntry_go_frame f1 e _ _).2, (finalizeEntry_go_frame f2 e _ _).2, hh]
        · rw [a2, b2]
          split
          · exact hf
          · rw [List.contains_cons, List.contains_cons]; simp
        · exact hag'
    · obtain ⟨s1', fl1', e1, g1, h1, c1⟩ := finalizeAll_step_other s1 f1 e es failed1 id hra
      obtain ⟨s2', fl2', e2, g2, h2, c2⟩ := finalizeAll_step_other s2 f2 e es failed2 id hra
      rw [e1, e2]
      exact ih _ _ _ _ (by rw [g1, g2, hg]) (by rw [h1, h2, hh]) (by rw [c1, c2, hf]) hag'

/-- the finalization pass on rollapp `id` depends only on the oracle at `id`'s due indices -/
theorem finalizeRollappStates_iso (s : St) (f1 f2 : List (Nat × Nat)) (id : Nat)
    (hag : ∀ e ∈ s.queue, e.ra = id → e.ch + s.p.dispute ≤ s.h → ∀ j ∈ e.idx, f1.contains (id, j) = f2.contains (id, j)) :
    getRa (finalizeRollappStates s f1) id = getRa (finalizeRollappStates s f2) id := by
  unfold finalizeRollappStates
  split
  · rfl
  · dsimp only
    apply finalizeAll_iso f1 f2 id _ _ _ _ _ rfl rfl rfl
    intro e he hra j hj
    obtain ⟨h1, h2⟩ := List.mem_filter.1 he
    have : e.ch ≤ s.h - s.p.dispute := by simpa using h2
    exact hag e h1 hra (by omega) j hj

theorem endBlock_iso (s : St) (f1 f2 : List (Nat × Nat)) (id : Nat)
    (hag : ∀ e ∈ s.queue, e.ra = id → e.ch + s.p.dispute ≤ s.h → ∀ j ∈ e.idx, f1.contains (id, j) = f2.contains (id, j)) :
    (getRa (endBlock s f1) id).map finPart = (getRa (endBlock s f2) id).map finPart := by
  unfold endBlock
  rw [checkLiveness_finPart, checkLiveness_finPart, finalizeRollappStates_iso s f1 f2 id hag]

end DymVerif.Core
