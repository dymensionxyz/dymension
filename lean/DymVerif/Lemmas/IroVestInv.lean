/-
  Lemmas/IroVestInv — the vesting invariant (the owner's cumulative claims never run ahead of
  `vestedBy now`, the amount `VestedAmt` makes available by a given time) and the step theorem of M-IRO:
  `exec_inv` goes once through the messages and says what each keeps — the module parameters, the
  bookkeeping invariant `Inv`, the vesting invariant `VInv`, solvency `Solv`.
-/
import DymVerif.Lemmas.IroVesting
import DymVerif.Lemmas.IroInv
import DymVerif.Lemmas.IroSolvent
namespace DymVerif.Iro
open DymVerif

/-- total released by `now` according to `VestedAmt` (claimed + claimable) -/
def vestedBy (v : Vest) (now : Int) : Int :=
  if now < v.start then 0 else if v.stop < now then v.amount
  else if v.stop = v.start then 0 else vestedTotal v now

theorem vestedBy_bounds (v : Vest) (now : Int) (ha : 0 ≤ v.amount) (hs : v.start ≤ v.stop) :
    0 ≤ vestedBy v now ∧ vestedBy v now ≤ v.amount := by
  unfold vestedBy
  split
  · omega
  · split
    · omega
    · split
      · omega
      · exact vestedTotal_bounds v now ha (by omega) (by omega) (by omega)

theorem vestedBy_mono (v : Vest) (now now' : Int) (ha : 0 ≤ v.amount) (hs : v.start ≤ v.stop) (h : now ≤ now') :
    vestedBy v now ≤ vestedBy v now' := by
  have hb := vestedBy_bounds v now' ha hs
  have hb0 := vestedBy_bounds v now ha hs
  by_cases c1 : now < v.start
  · have : vestedBy v now = 0 := by unfold vestedBy; rw [if_pos c1]
    rw [this]; exact hb.1
  · by_cases c2 : v.stop < now'
    · have : vestedBy v now' = v.amount := by unfold vestedBy; rw [if_neg (by omega), if_pos c2]
      rw [this]; exact hb0.2
    · by_cases c3 : v.stop = v.start
      · have : vestedBy v now = 0 := by unfold vestedBy; rw [if_neg c1, if_neg (by omega), if_pos c3]
        rw [this]; exact hb.1
      · have e1 : vestedBy v now = vestedTotal v now := by
          unfold vestedBy; rw [if_neg c1, if_neg (by omega), if_neg c3]
        have e2 : vestedBy v now' = vestedTotal v now' := by
          unfold vestedBy; rw [if_neg (by omega), if_neg c2, if_neg c3]
        rw [e1, e2]
        exact vestedTotal_mono v now now' ha (by omega) h (by omega)

/-- what `VestedAmt` pays out is what is released by now less what was claimed -/
theorem vestedAmt_eq_vestedBy {v : Vest} {now amt : Int} (h : vestedAmt v now = some amt) (hne : amt ≠ 0) :
    amt = vestedBy v now - v.claimed := by
  unfold vestedAmt at h
  unfold vestedBy
  simp only [] at h
  split at h
  · cases h; exact absurd rfl hne
  · split at h
    · cases h; exact absurd rfl hne
    · rename_i hn1
      rw [if_neg hn1]
      split at h
      · rename_i hn2; cases h; rw [if_pos hn2]
      · rename_i hn2
        rw [if_neg hn2]
        split at h
        · cases h
        · rename_i hn3; cases h; rw [if_neg (by omega)]

structure VInv (st : State) : Prop where
  vest : ∀ p, st.plan = some p → p.settled = true →
      0 ≤ p.vest.amount ∧ 0 ≤ p.vest.claimed ∧ p.vest.claimed ≤ vestedBy p.vest st.now ∧ p.vest.start ≤ p.vest.stop

theorem vinv_init (cfg : Cfg) : VInv (init cfg) := ⟨by intro p hp; simp [init] at hp⟩

theorem VInv.of_some {st : State} {p : Plan} (hp : st.plan = some p)
    (h : p.settled = true →
      0 ≤ p.vest.amount ∧ 0 ≤ p.vest.claimed ∧ p.vest.claimed ≤ vestedBy p.vest st.now ∧ p.vest.start ≤ p.vest.stop) :
    VInv st :=
  ⟨fun _ hq => Option.some.inj (hp.symm.trans hq) ▸ h⟩

/-- what a successful message keeps: the module parameters, the bookkeeping invariant and with it the
    vesting invariant, and solvency if an exact-spend purchase meets the Newton contract at its point -/
theorem exec_inv {I : Int → Int} {T : Int → Int → Option Int} {st st' : State} {op : Op}
    (hact : opActorsOk st.cfg.n op = true) (h : exec I T st op = .ok st') :
    st'.cfg = st.cfg ∧ (Inv st → Inv st' ∧ (VInv st → VInv st')) ∧
      (Solv I st → BesOkAt I T st op → Solv I st') := by
  by_cases hop : ∃ a, isTradeBy a op = true
  · obtain ⟨a, hop⟩ := hop
    obtain ⟨p, δ, c, l, ht, rfl, hδ, -, hc⟩ := trade_ok h hop
    obtain ⟨hp, hns, -⟩ := tradeable_ok ht
    refine ⟨rfl, fun hi => ⟨?_, fun _ => VInv.of_some rfl fun hs => by cases hns.symm.trans hs⟩,
      fun hs hB => Solv.of_some rfl fun _ => ?_⟩
    · have han := isTradeBy_actor hact hop
      obtain ⟨h1, h2, h3, h4, h5, h6⟩ := hi.pre p hp hns
      -- a sale returns at most the trader's holding, which is part of `sold - claimed`
      have hle := le_sumTo st.cfg.n st.iro hi.iro_nonneg a han
      have hnn := hi.iro_nonneg a
      refine Inv.of_some rfl (upd_nonneg hi.iro_nonneg a (by omega)) ?_ (fun _ => ?_)
        (fun hs => by cases hns.symm.trans hs)
      · obtain ⟨a1, a2, a3, a4, a5, a6, a7, a8, a9, a10⟩ := hi.all p hp
        exact ⟨a1, a2, a3, a4, a5, a6, by simp only []; omega, by simp only []; omega, a9, a10⟩
      · simp only [sumTo_upd _ _ _ _ han]
        exact ⟨by omega, by omega, by omega, h4, by omega, h6⟩
    · -- the account grows by `c`, the curve value of `sold` by less than `c + 1`, and `trades` by one
      have ih := hs.2 p hp hns
      have hc := hc hB
      simp only [Int.mul_sub] at ih hc ⊢
      unfold decP at ih hc ⊢
      omega
  · cases op with
    | create alloc m n c L en stt pd lp vd vs =>
      obtain ⟨hc, rfl⟩ := doCreate_ok h
      unfold createOk at hc
      obtain ⟨-, -, -, hl0, hl1, hvd, hvs, -, -, -, hn, -, hL, -, hm0, hm1, hfee, hcp, -⟩ := hc
      refine ⟨rfl, fun hi => ⟨?_, fun _ => VInv.of_some rfl fun hs => by cases hs⟩,
        fun hs _ => Solv.of_some rfl fun _ => ?_⟩
      · obtain ⟨hz, hmz, hpl⟩ := hi.none_ hn
        have := sumTo_zero st.cfg.n st.iro hz
        exact Inv.of_some rfl hi.iro_nonneg ⟨hm0, hm1, hl0, hl1, hvd, hvs, hfee, Int.le_refl _, Int.le_refl _, hL⟩
          (fun _ => by simp only []; exact ⟨by omega, by omega, by omega, trivial, by omega, trivial⟩)
          (fun hs => by cases hs)
      · have hb := (cost_pos_bounds hcp).2
        have h0 := hs.1 hn
        simp only []
        unfold decP at hb ⊢
        omega
    | time dt =>
      obtain ⟨hd, rfl⟩ := time_ok h
      refine ⟨rfl, fun hi => ⟨⟨hi.iro_nonneg, hi.none_, hi.all, hi.pre, hi.post⟩, fun hv => ⟨fun p hp hs => ?_⟩⟩,
        fun hs _ => hs⟩
      obtain ⟨h1, h2, h3, h4⟩ := hv.vest p hp hs
      exact ⟨h1, h2, Int.le_trans h3 (vestedBy_mono _ _ _ h1 h4 (by simp only []; omega)), h4⟩
    | fund a amt =>
      obtain ⟨-, rfl⟩ := fund_ok h
      exact ⟨rfl, fun hi => ⟨⟨hi.iro_nonneg, hi.none_, hi.all, hi.pre, hi.post⟩, fun hv => ⟨hv.vest⟩⟩, fun hs _ => hs⟩
    | buy a _ _ | bes a _ _ | sell a _ _ => exact absurd ⟨a, beq_self_eq_true a⟩ hop
    | enable a =>
      obtain ⟨p, hp, _, _, hns, rfl⟩ := doEnable_ok h
      exact ⟨rfl, fun hi => ⟨Inv.of_some rfl hi.iro_nonneg (hi.all p hp) (fun _ => hi.pre p hp hns)
        (fun hs => by cases hns.symm.trans hs), fun _ => VInv.of_some rfl fun hs => by cases hns.symm.trans hs⟩,
        fun hs _ => Solv.of_some rfl fun _ => hs.2 p hp hns⟩
    | settle rf ok =>
      rcases doSettle_ok h with ⟨hn, rfl⟩ | ⟨p, hp, hns, hra, rfl⟩
      · refine ⟨rfl, fun hi => ⟨⟨hi.iro_nonneg, hi.none_, ?_, ?_, ?_⟩, fun _ => ⟨?_⟩⟩, fun hs _ => ⟨hs.1, ?_⟩⟩ <;>
          intro q hq <;> simp [hn] at hq
      · refine ⟨rfl, fun hi => ?_, fun _ _ => Solv.of_some rfl fun hqs => by cases hqs⟩
        obtain ⟨h1, h2, h3, h4, h5, h6⟩ := hi.pre p hp hns
        refine ⟨Inv.of_some rfl hi.iro_nonneg (hi.all p hp) (fun hs => by cases hs)
          (fun _ => by simp only []; exact ⟨trivial, by omega, by omega, by omega, trivial⟩),
          fun _ => VInv.of_some rfl fun _ => ?_⟩
        -- the owner's share of what was raised is non-negative; nothing is claimed yet
        obtain ⟨_, _, l0, l1, hdur, _, _, _, _, _⟩ := hi.all p hp
        obtain ⟨b0, b1⟩ := poolTokens_bounds st.planLiq p.liqPart h5 l0 l1
        have ha : 0 ≤ st.planLiq - ((Dec.ofInt st.planLiq).mul p.liqPart).truncateInt := by omega
        simp only []
        refine ⟨ha, by omega, ?_, by omega⟩
        rw [h6]
        exact (vestedBy_bounds _ _ ha (by simp only []; omega)).1
    | claim a =>
      obtain ⟨p, hp, hset, hb, hle, rfl⟩ := doClaim_ok h
      refine ⟨rfl, fun hi => ⟨?_, fun hv => VInv.of_some rfl fun _ => hv.vest p hp hset⟩,
        fun _ _ => Solv.of_some rfl fun hqs => by cases hset.symm.trans hqs⟩
      have han : a < st.cfg.n := by simpa [opActorsOk] using hact
      obtain ⟨h1, h2, h3, h4, h5⟩ := hi.post p hp hset
      have hnn := hi.iro_nonneg a
      refine Inv.of_some rfl (upd_nonneg hi.iro_nonneg a (Int.le_refl 0)) ?_
        (fun hs => by cases hset.symm.trans hs) (fun _ => ?_)
      · obtain ⟨a1, a2, a3, a4, a5, a6, a7, a8, a9, a10⟩ := hi.all p hp
        exact ⟨a1, a2, a3, a4, a5, a6, a7, by simp only []; omega, by simp only []; omega, a10⟩
      · simp only [sumTo_upd _ _ _ _ han]
        exact ⟨h1, by omega, by omega, h4, h5⟩
    | claimv a =>
      obtain ⟨p, amt, hp, hset, _, hva, hpos, _, rfl⟩ := doClaimVested_ok h
      refine ⟨rfl, fun hi => ⟨?_, fun hv => ?_⟩, fun _ _ => Solv.of_some rfl fun hqs => by cases hset.symm.trans hqs⟩
      · obtain ⟨h1, h2, h3, h4, h5⟩ := hi.post p hp hset
        exact Inv.of_some rfl hi.iro_nonneg (hi.all p hp) (fun hs => by cases hset.symm.trans hs)
          (fun _ => by simp only []; exact ⟨h1, h2, h3, by omega, h5⟩)
      · obtain ⟨h1, h2, h3, h4⟩ := hv.vest p hp hset
        have e := vestedAmt_eq_vestedBy hva (by omega)
        refine VInv.of_some rfl fun _ => ⟨h1, ?_, ?_, h4⟩
        · simp only []; omega
        · show p.vest.claimed + amt ≤ vestedBy p.vest st.now
          omega
    | xfer a b amt =>
      obtain ⟨hamt, hle, rfl⟩ := doXfer_ok h
      refine ⟨rfl, fun hi => ⟨?_, fun hv => ⟨hv.vest⟩⟩, fun hs _ => hs⟩
      have hab : a < st.cfg.n ∧ b < st.cfg.n := by simpa [opActorsOk] using hact
      have hsum : sumTo st.cfg.n (upd (upd st.iro a (st.iro a - amt)) b (upd st.iro a (st.iro a - amt) b + amt))
          = sumTo st.cfg.n st.iro := by
        rw [sumTo_upd _ _ _ _ hab.2, sumTo_upd _ _ _ _ hab.1]; omega
      have h1 := upd_nonneg hi.iro_nonneg a (Int.sub_nonneg_of_le hle)
      refine ⟨upd_nonneg h1 b (Int.add_nonneg (h1 b) (Int.le_of_lt hamt)), ?_, hi.all, ?_, ?_⟩
      · intro hn
        have := (hi.none_ hn).1 a
        omega
      · intro q hq hs
        simp only [hsum]
        exact hi.pre q hq hs
      · intro q hq hs
        simp only [hsum]
        exact hi.post q hq hs
    | chown a b =>
      obtain ⟨_, _, rfl⟩ := doChown_ok h
      exact ⟨rfl, fun hi => ⟨⟨hi.iro_nonneg, hi.none_, hi.all, hi.pre, hi.post⟩, fun hv => ⟨hv.vest⟩⟩, fun hs _ => hs⟩

theorem step_inv (I : Int → Int) (T : Int → Int → Option Int) (st : State) (op : Op) :
    (step I T st op).1.cfg = st.cfg ∧ (Inv st → Inv (step I T st op).1 ∧ (VInv st → VInv (step I T st op).1)) ∧
      (Solv I st → ((step I T st op).2 = .ok → BesOkAt I T st op) → Solv I (step I T st op).1) := by
  rcases step_cases I T st op with h | ⟨hact, h⟩
  · rw [h]; exact ⟨rfl, fun hi => ⟨hi, id⟩, fun hs _ => hs⟩
  · obtain ⟨h1, h2, h3⟩ := exec_inv hact h
    exact ⟨h1, h2, fun hs hN => h3 hs (hN (congrArg Prod.snd (step_of_exec_ok hact h)))⟩

theorem inv_step {I : Int → Int} {T : Int → Int → Option Int} {st : State} (op : Op)
    (hi : Inv st) : Inv (step I T st op).1 := ((step_inv I T st op).2.1 hi).1

theorem inv_run {I : Int → Int} {T : Int → Int → Option Int} (ops : List Op) :
    ∀ st, Inv st → Inv (run I T st ops) := by
  induction ops with
  | nil => intro st h; exact h
  | cons o ops ih => intro st h; exact ih _ (inv_step o h)

theorem vinv_step {I : Int → Int} {T : Int → Int → Option Int} {st : State} (op : Op)
    (hi : Inv st) (hv : VInv st) : VInv (step I T st op).1 := ((step_inv I T st op).2.1 hi).2 hv

theorem solv_step_at {I : Int → Int} {T : Int → Int → Option Int} {st : State} (op : Op)
    (hs : Solv I st) (hN : (step I T st op).2 = .ok → BesOkAt I T st op) : Solv I (step I T st op).1 :=
  (step_inv I T st op).2.2 hs hN

theorem solv_run {I : Int → Int} {T : Int → Int → Option Int} (ops : List Op) :
    ∀ st, Solv I st → NewtonUpperOn I T (besPoints I T st ops) → Solv I (run I T st ops) := by
  induction ops with
  | nil => intro st h _; exact h
  | cons o ops ih => intro st h hN; exact ih _ (solv_step_at o h hN.head) hN.tail

/-- messages never change the module parameters -/
theorem step_cfg (I : Int → Int) (T : Int → Int → Option Int) (st : State) (op : Op) :
    (step I T st op).1.cfg = st.cfg := (step_inv I T st op).1

theorem run_cfg (I : Int → Int) (T : Int → Int → Option Int) (ops : List Op) :
    ∀ st, (run I T st ops).cfg = st.cfg := by
  induction ops with
  | nil => intro st; rfl
  | cons o ops ih => intro st; show (run I T (step I T st o).1 ops).cfg = _; rw [ih, step_cfg]

theorem inv_vinv_run {I : Int → Int} {T : Int → Int → Option Int} (ops : List Op) :
    ∀ st, Inv st → VInv st → Inv (run I T st ops) ∧ VInv (run I T st ops) := by
  induction ops with
  | nil => intro st h1 h2; exact ⟨h1, h2⟩
  | cons o ops ih => intro st h1 h2; exact ih _ (inv_step o h1) (vinv_step o h1 h2)

end DymVerif.Iro
