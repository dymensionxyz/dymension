/-
  Lemmas/CoreBlocks — the error channel of block processing (Model/CoreBlocks): when every notice-queue entry is
  backed by a sequencer record, `BeginBlock` and the whole block return no error and agree with the total model.
-/
import DymVerif.Model.CoreBlocks
import DymVerif.Lemmas.CoreRoles5
namespace DymVerif.Core

/-- every notice-queue entry is backed by a sequencer record ⇒ `BeginBlock` returns no error and
    does exactly what the total model does -/
theorem beginBlockE_ok (s : St) (dt : Nat) (h : ∀ t a, (t, a) ∈ s.nq → ∃ q, getSeq s a = some q) :
    beginBlockE s dt = .ok (beginBlock s dt) := by
  unfold beginBlockE
  dsimp only
  rw [if_pos]
  rw [List.all_eq_true]
  intro e he
  have hm : e ∈ s.nq := (List.mem_filter.1 he).1
  obtain ⟨q, hq⟩ := h e.1 e.2 hm
  have : getSeq { s with h := s.h + 1, t := s.t + dt } e.2 = getSeq s e.2 := rfl
  rw [this, hq]; rfl

/-- an entry without a record DOES make `BeginBlock` fail once it is due: the hypothesis above is
    needed (it is an invariant of reachable states, see `Props/C11`) -/
theorem beginBlockE_fails_without_record :
    ∃ s : St, ∃ dt, beginBlockE s dt = .error .internal := by
  refine ⟨{ (init default) with nq := [(0, 7)] }, 1, ?_⟩
  unfold beginBlockE
  rfl

theorem blockE_ok (s : St) (dt : Nat) (fails : List (Nat × Nat))
    (h : ∀ t a, (t, a) ∈ s.nq → ∃ q, getSeq s a = some q) :
    blockE s dt fails = .ok (endBlock (beginBlock s dt) fails) := by
  unfold blockE; rw [beginBlockE_ok s dt h]

end DymVerif.Core
