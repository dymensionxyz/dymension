/-
  Lemmas/CoreFinInv — the finalization invariant holds in every reachable state (`run_fin`) and every
  transition keeps all finalized states (`apply_good`, `run_evolves`).
-/
import DymVerif.Lemmas.CoreFinFork
import DymVerif.Lemmas.CoreFinUpdate
import DymVerif.Lemmas.CoreFinEnd2
namespace DymVerif.Core

-- ---------------------------------------------------------------- before / after a finalization pass

/-- same height and params; every rollapp survives with the same number of states, each of which
    is either untouched or was unfinalized and got finalized at this height -/
def FinRel (s s' : St) : Prop :=
  s'.h = s.h ∧ s'.p = s.p ∧ s'.ras.map (·.id) = s.ras.map (·.id) ∧ ∀ r ∈ s.ras, ∃ r' ∈ s'.ras, r'.id = r.id ∧ r'.states.length = r.states.length ∧
    ∀ (i : Nat) (st : SInfo), r.states[i]? = some st → ∃ st', r'.states[i]? = some st' ∧
      (st' = st ∨ (st.finalized = false ∧ st' = { st with finalized := true, finalizedAt := s.h }))

theorem FinRel.refl (s : St) : FinRel s s :=
  ⟨rfl, rfl, rfl, fun r hr => ⟨r, hr, rfl, rfl, fun _ st hst => ⟨st, hst, Or.inl rfl⟩⟩⟩

theorem FinRel.trans {a b c : St} (h1 : FinRel a b) (h2 : FinRel b c) : FinRel a c := by
  obtain ⟨a1, a2, a4, a3⟩ := h1
  obtain ⟨b1, b2, b4, b3⟩ := h2
  refine ⟨b1.trans a1, b2.trans a2, b4.trans a4, ?_⟩
  intro r hr
  obtain ⟨r1, hr1, e1, l1, f1⟩ := a3 r hr
  obtain ⟨r2, hr2, e2, l2, f2⟩ := b3 r1 hr1
  refine ⟨r2, hr2, e2.trans e1, l2.trans l1, ?_⟩
  intro i st hst
  obtain ⟨st1, hst1, c1⟩ := f1 i st hst
  obtain ⟨st2, hst2, c2⟩ := f2 i st1 hst1
  refine ⟨st2, hst2, ?_⟩
  rcases c1 with c1 | ⟨c1, c1'⟩
  · subst c1
    rcases c2 with c2 | ⟨c2, c2'⟩
    · exact Or.inl c2
    · exact Or.inr ⟨c2, by rw [c2', a1]⟩
  · rcases c2 with c2 | ⟨c2, _⟩
    · exact Or.inr ⟨c1, by rw [c2, c1']⟩
    · rw [c1'] at c2; cases c2

theorem FinRel.evolves {s s' : St} (h : FinRel s s') : Evolves s s' := by
  intro r hr
  obtain ⟨r', hr', e1, _, f1⟩ := h.2.2.2 r hr
  refine ⟨r', hr', e1, ?_⟩
  intro i st hst hf
  obtain ⟨st', hst', c⟩ := f1 i st hst
  rcases c with c | ⟨c, _⟩
  · exact ⟨st', hst', by rw [c]⟩
  · rw [hf] at c; cases c

/-- backward reading: every state info after the pass comes from the one at the same place before -/
theorem FinRel.back {s s' : St} (h : FinRel s s') (hn : IdsNodup s') {r' : Rollapp} (hr' : r' ∈ s'.ras) :
    ∃ r ∈ s.ras, r.id = r'.id ∧ ∀ (i : Nat) (st' : SInfo), r'.states[i]? = some st' → ∃ st, r.states[i]? = some st ∧
      (st' = st ∨ (st.finalized = false ∧ st' = { st with finalized := true, finalizedAt := s.h })) := by
  obtain ⟨_, _, hids, hf⟩ := h
  have : r'.id ∈ s'.ras.map (·.id) := List.mem_map.2 ⟨r', hr', rfl⟩
  rw [hids] at this
  obtain ⟨r, hr, hid⟩ := List.mem_map.1 this
  obtain ⟨r2, hr2, hid2, hlen, hst2⟩ := hf r hr
  have : r2 = r' := hn.unique hr2 hr' (hid2.trans hid)
  subst this
  refine ⟨r, hr, hid, ?_⟩
  intro i st' hst'
  have hlt : i < r.states.length := by rw [← hlen]; exact getElem?_lt hst'
  obtain ⟨st2, h1, h2⟩ := hst2 i r.states[i] (List.getElem?_eq_getElem hlt)
  rw [hst'] at h1; injection h1 with h1; subst h1
  exact ⟨_, List.getElem?_eq_getElem hlt, h2⟩

theorem finalizeOne_rel {s s' : St} {fails : List (Nat × Nat)} {ra idx : Nat} (hn : IdsNodup s)
    (e : finalizeOne s fails ra idx = some s') : FinRel s s' ∧ IdsNodup s' := by
  obtain ⟨r, st, s0, hg, hst, hnf, _, hfr, rfl⟩ := finalizeOne_some e
  refine ⟨⟨hfr.h, hfr.p, by rw [setRa_ids, hfr.ras], ?_⟩, (hn.of_ids (by rw [hfr.ras])).setRa _⟩
  intro r0 hr0
  by_cases h0 : r0.id = r.id
  · have : r0 = r := hn.unique hr0 (getRa_mem hg) h0
    subst this
    refine ⟨_, mem_setRa_self (x := r0) (by rw [hfr.ras]; exact hr0) rfl, rfl, by unfold finRec; simp, ?_⟩
    intro i sti hsti
    unfold finRec
    show ∃ st', (r0.states.set (idx - 1) _)[i]? = some st' ∧ _
    rw [List.getElem?_set]
    by_cases hi : idx - 1 = i
    · rw [if_pos hi, if_pos (getElem?_lt hst)]
      rw [← hi, hst] at hsti; injection hsti with hsti; subst hsti
      exact ⟨_, rfl, Or.inr ⟨hnf, rfl⟩⟩
    · rw [if_neg hi]; exact ⟨sti, hsti, Or.inl rfl⟩
  · exact ⟨r0, mem_setRa_of_ne (by rw [hfr.ras]; exact hr0) h0, rfl, rfl, fun _ st hst => ⟨st, hst, Or.inl rfl⟩⟩

/-- `FinRel` from a fixed state, together with the unique ids it needs, is kept by the steps of `FinalizeStates` -/
theorem FinRel.finalizeOne {s b b' : St} {fails : List (Nat × Nat)} {ra i : Nat} (hb : FinRel s b ∧ IdsNodup b)
    (h1 : finalizeOne b fails ra i = some b') : FinRel s b' ∧ IdsNodup b' :=
  ⟨hb.1.trans (finalizeOne_rel hb.2 h1).1, (finalizeOne_rel hb.2 h1).2⟩

theorem FinRel.queue {s b : St} (q : List QEntry) (hb : FinRel s b ∧ IdsNodup b) :
    FinRel s { b with queue := q } ∧ IdsNodup { b with queue := q } :=
  ⟨hb.1.trans ⟨rfl, rfl, rfl, (FinRel.refl b).2.2.2⟩, hb.2⟩

theorem finalizeAll_rel (fails : List (Nat × Nat)) (es : List QEntry) (failed : List Nat) (s : St) (hn : IdsNodup s) :
    FinRel s (finalizeAll s fails es failed) :=
  (finalizeAll_ind (P := fun b => FinRel s b ∧ IdsNodup b) fails (fun _ _ _ _ hb h1 => FinRel.finalizeOne hb h1)
    (fun _ q hb => FinRel.queue q hb) es failed s ⟨FinRel.refl s, hn⟩).1

-- ---------------------------------------------------------------- EndBlock

theorem due_filter_eq (q : List QEntry) (fh : Nat) :
    (q.filter (fun e => decide (e.ch ≤ fh))).filter (fun e => !([] : List Nat).contains e.ra) = q.filter (dueP fh []) := by
  rw [List.filter_filter]
  apply List.filter_congr
  intro x _
  unfold dueP
  simp

theorem finalizeRollappStates_fin {s : St} (fails : List (Nat × Nat)) (hi : FinInv s) :
    FinInv (finalizeRollappStates s fails) ∧
      (s.p.dispute ≤ s.h → ∃ failed', FailedOK fails (finalizeRollappStates s fails) failed' ∧
        (finalizeRollappStates s fails).queue.filter (dueP (s.h - s.p.dispute) failed') = []) := by
  unfold finalizeRollappStates
  split
  · exact ⟨hi, fun h => by omega⟩
  · dsimp only
    have := finalizeAll_fin fails (s.h - s.p.dispute) (s.queue.filter (fun e => e.ch ≤ s.h - s.p.dispute)) [] s hi
      (by omega) (due_filter_eq _ _) (by intro ra hra; cases hra)
    exact ⟨this.1, fun _ => this.2⟩

theorem finalizeRollappStates_rel {s : St} (fails : List (Nat × Nat)) (hn : IdsNodup s) :
    FinRel s (finalizeRollappStates s fails) := by
  unfold finalizeRollappStates
  split
  · exact FinRel.refl s
  · exact finalizeAll_rel fails _ _ s hn

theorem endBlock_good (s : St) (fails : List (Nat × Nat)) : Good s (endBlock s fails) := by
  unfold endBlock
  refine Good.trans (b := finalizeRollappStates s fails) ?_ (checkLiveness_fs _).good
  intro hc hi
  exact ⟨finalizeRollappStates_chain fails hc, (finalizeRollappStates_fin fails hi).1,
    (finalizeRollappStates_rel fails hi.nodup).evolves, (finalizeRollappStates_rel fails hi.nodup).2.1⟩

-- ---------------------------------------------------------------- create rollapp

theorem insertSorted_pairwise (lt : Rollapp → Rollapp → Bool) (x : Rollapp) (l : List Rollapp)
    (hp : l.Pairwise (fun a b => a.id ≠ b.id)) (hx : ∀ y ∈ l, y.id ≠ x.id) :
    (insertSorted lt x l).Pairwise (fun a b => a.id ≠ b.id) := by
  obtain ⟨l₁, l₂, e, _, hc⟩ := insertSorted_eq lt x l
  have hsub : (l₁ ++ l₂).Sublist l := by
    rcases hc with ⟨rfl, _⟩ | ⟨y, rfl, _⟩
    · exact List.Sublist.refl _
    · exact List.Sublist.append_left (List.sublist_cons_self y l₂) l₁
  rw [e, List.pairwise_middle (fun h => Ne.symm h)]
  exact List.pairwise_cons.2 ⟨fun z hz => (hx z (hsub.subset hz)).symm, hp.sublist hsub⟩

theorem mem_insertSorted_id (x : Rollapp) (l : List Rollapp) (hx : ∀ y ∈ l, y.id ≠ x.id) (r : Rollapp) (hr : r ∈ l) :
    r ∈ insertSorted (fun a b => decide (a.id < b.id)) x l := by
  rcases insertSorted_mem_of_mem (fun a b : Rollapp => decide (a.id < b.id)) x hr with h | ⟨h1, h2⟩
  · exact h
  · have := of_decide_eq_false h1
    have := of_decide_eq_false h2
    exact absurd (by omega) (hx r hr)

theorem createRollapp_good {s : St} (id : Nat) (owner : Addr) (mb : Nat) (hnew : (getRa s id).isSome = false) :
    Good s { s with ras := insertSorted (fun x y => decide (x.id < y.id)) (newRollapp id owner mb) s.ras } := by
  intro hc hi
  have hno : ∀ y ∈ s.ras, y.id ≠ id := by
    intro y hy hid
    have := getRa_of_mem hi.nodup hy
    rw [hid] at this; rw [this] at hnew; cases hnew
  have hmem : ∀ r ∈ s.ras, r ∈ insertSorted (fun x y => decide (x.id < y.id)) (newRollapp id owner mb) s.ras :=
    fun r hr => mem_insertSorted_id _ _ hno r hr
  refine ⟨?_, ⟨?_, hi.sorted, hi.ent, ?_, ?_⟩, ?_, rfl⟩
  · intro r hr
    rcases insertSorted_mem' _ _ _ _ hr with h1 | h1
    · subst h1; exact Chain.nil
    · exact hc r h1
  · exact insertSorted_pairwise _ _ _ hi.nodup hno
  · intro e he
    obtain ⟨r, hr, hid⟩ := List.mem_map.1 (hi.qra e he)
    exact List.mem_map.2 ⟨r, hmem r hr, hid⟩
  · intro r hr
    rcases insertSorted_mem' _ _ _ _ hr with h1 | h1
    · subst h1
      show RFin s.queue s.p.dispute (newRollapp id owner mb)
      unfold RFin
      have : flat s.queue (newRollapp id owner mb).id = [] := by
        apply flat_nil_of_no_ra
        intro e he hra
        obtain ⟨r, hr, hid⟩ := List.mem_map.1 (hi.qra e he)
        exact hno r hr (hid.trans hra)
      rw [this]
      refine ⟨Nat.le_refl _, rfl, ?_, ?_, ?_⟩
      · intro i st hst; simp [newRollapp] at hst
      · intro e he hra
        obtain ⟨r, hr, hid⟩ := List.mem_map.1 (hi.qra e he)
        exact absurd (hid.trans hra) (hno r hr)
      · intro st hst; simp [newRollapp] at hst
    · exact hi.ras r h1
  · intro r hr
    exact ⟨r, hmem r hr, rfl, fun i st hst _ => ⟨st, hst, rfl⟩⟩

-- ---------------------------------------------------------------- every transition

theorem fraud_full {s s' : St} {au : Bool} {ra hh rev : Nat} {p rw : Option Addr}
    (e : fraud s au ra hh rev p rw = .ok s') : Full s s' := by
  obtain ⟨_, _, r, s1, _, _, ⟨_, rfl⟩ | ⟨a, _, hp⟩, hf⟩ := fraud_ok e
  · exact hardFork_full hf
  · exact (punish_fs hp).full.trans (hardFork_full hf)

theorem FinInv.bump {s : St} (hi : FinInv s) (dt : Nat) : FinInv { s with h := s.h + 1, t := s.t + dt } :=
  ⟨hi.nodup, hi.sorted, fun e he => ⟨Nat.le_succ_of_le (hi.ent e he).1, (hi.ent e he).2⟩, hi.qra, hi.ras⟩

theorem beginBlock_full (s : St) (dt : Nat) : Full s (beginBlock s dt) := by
  refine Full.trans (b := { s with h := s.h + 1, t := s.t + dt }) ?_ (beginBlock_fs s dt).full
  intro hc hi
  exact ⟨⟨hc.ras_eq rfl, hi.bump dt, Evolves.of_ras_eq rfl, rfl⟩, Back.of_ras_eq rfl⟩

theorem createRollapp_full {s : St} (id : Nat) (owner : Addr) (mb : Nat) (hnew : (getRa s id).isSome = false) :
    Full s { s with ras := insertSorted (fun x y => decide (x.id < y.id)) (newRollapp id owner mb) s.ras } := by
  intro hc hi
  refine ⟨createRollapp_good id owner mb hnew hc hi, ?_⟩
  intro r' hr' i st' hst' _
  rcases insertSorted_mem' _ _ _ _ hr' with h1 | h1
  · subst h1; simp [newRollapp] at hst'
  · exact ⟨r', h1, rfl, st', hst', rfl⟩

/-- every accepted message and `BeginBlock`: the invariants are kept and nothing gets finalized -/
theorem apply_full {s s' : St} {o : Op} (e : apply s o = .ok s') (hne : ∀ f, o ≠ .end_ f) : Full s s' := by
  cases o with
  | createRollapp id owner mb =>
    obtain ⟨hn, rfl⟩ := apply_createRollapp_ok e
    exact createRollapp_full id owner mb (by rw [hn]; rfl)
  | bridge ra hh =>
    obtain ⟨r, _, hg, _, _, _, _, rfl⟩ := apply_bridge_ok e
    exact (FS.setRa (r' := { r with tph := hh }) hg rfl).full
  | fund a amt => rw [apply_fund_ok e]; exact FS.full (FS.of_ras_eq rfl rfl rfl rfl)
  | createSeq a ra b d => exact (createSeq_fs e).full
  | bondInc a amt d => exact (increaseBond_fs e).full
  | bondDec a amt => exact (decreaseBond_fs e).full
  | unbond a => exact (unbond_fs e).full
  | optIn a v => exact (optIn_fs e).full
  | kick a => exact (kick_fs e).full
  | update m => exact updateState_full e
  | fraud au ra hh rev p rw => exact fraud_full e
  | obsolete au vs => exact (markObsolete_fs e).full
  | punish au a rw => exact (punish_fs (punishProposal_ok e).2).full
  | transferOwner sg ra' no =>
    obtain ⟨r, hg, _, _, _, rfl⟩ := transferOwner_ok e
    exact (FS.setRa (r' := { r with owner := no }) hg rfl).full
  | setSeqParams au sp =>
    obtain ⟨_, _, _, rfl⟩ := setSeqParams_ok e
    exact FS.full (FS.of_ras_eq rfl rfl rfl rfl)
  | begin_ dt => simp only [apply] at e; cases e; exact beginBlock_full s dt
  | end_ f => exact absurd rfl (hne f)

/-- every accepted transition keeps the chain and finalization invariants and all finalized states -/
theorem apply_good {s s' : St} {o : Op} (e : apply s o = .ok s') : Good s s' := by
  cases o with
  | end_ f => simp only [apply] at e; cases e; exact endBlock_good s f
  | _ => exact (apply_full e (fun f h => by cases h)).good

/-- **no op other than `end_` finalizes anything** -/
theorem apply_back {s s' : St} {o : Op} (e : apply s o = .ok s') (hne : ∀ f, o ≠ .end_ f)
    (hc : ChainAll s) (hi : FinInv s) : Back s s' := (apply_full e hne hc hi).2

theorem step_good (s : St) (o : Op) : Good s (step s o).1 := by
  unfold step
  split
  · rename_i s' e; exact apply_good e
  · exact Good.refl s

theorem init_fin (p : Params) : FinInv (init p) := by
  refine ⟨?_, ?_, ?_, ?_, ?_⟩
  · unfold IdsNodup init; simp
  · unfold QSorted init; simp
  · intro e he; simp [init] at he
  · intro e he; simp [init] at he
  · intro r hr; simp [init] at hr

theorem run_inv (p : Params) (ops : List Op) : ChainAll (run p ops) ∧ FinInv (run p ops) ∧ (run p ops).p = p := by
  unfold run
  apply foldl_inv (fun s => ChainAll s ∧ FinInv s ∧ s.p = p)
  · exact ⟨by intro r hr; simp [init] at hr, init_fin p, rfl⟩
  · intro b o hb
    obtain ⟨h1, h2, _, h4⟩ := step_good b o hb.1 hb.2.1
    exact ⟨h1, h2, h4.trans hb.2.2⟩

/-- **the finalization invariant holds in every reachable state** -/
theorem run_fin (p : Params) (ops : List Op) : FinInv (run p ops) := (run_inv p ops).2.1

theorem run_p (p : Params) (ops : List Op) : (run p ops).p = p := (run_inv p ops).2.2

theorem run_append (p : Params) (ops more : List Op) :
    run p (ops ++ more) = more.foldl (fun s o => (step s o).1) (run p ops) := by
  unfold run; rw [List.foldl_append]

/-- finalized states of a reachable state are kept by every continuation -/
theorem run_evolves (p : Params) (ops more : List Op) : Evolves (run p ops) (run p (ops ++ more)) := by
  rw [run_append]
  have : ∀ (more : List Op) (s : St), ChainAll s → FinInv s → Evolves s (more.foldl (fun s o => (step s o).1) s) := by
    intro more
    induction more with
    | nil => intro s _ _; exact Evolves.refl s
    | cons o os ih =>
      intro s hc hi
      obtain ⟨h1, h2, h3, _⟩ := step_good s o hc hi
      exact h3.trans (ih _ h1 h2)
  exact this more _ (run_inv p ops).1 (run_inv p ops).2.1

end DymVerif.Core
