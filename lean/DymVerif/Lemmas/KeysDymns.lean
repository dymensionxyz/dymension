/-
  Lemmas/KeysDymns — the x/dymns store keys as (family prefix, component): every key is its family's
  prefix followed by its component, the family number and the component determine the key, and the
  thirteen family prefixes are pairwise incomparable.
-/
import DymVerif.Model.Keys2
import DymVerif.Lemmas.Bytes
namespace DymVerif.Keys
open DymVerif

namespace DymnsKey

/-- what follows the family prefix in the store key -/
def comp : DymnsKey → Bytes
  | .dymName n => n | .ownedBy o => o | .cfgAddr a => a | .fallback a => a | .sellOrder i _ => i
  | .countBuyOrders => [] | .buyOrder i => i | .buyer a => a | .nameToBuyOrders n => n
  | .aliasToBuyOrders a => a | .rollappToAliases r => r | .aliasToRollapp a => a

/-- the key of family number `f` (as `DymnsKey.family` counts) with component `c` -/
def ofFamily (f : Nat) (c : Bytes) : DymnsKey :=
  match f with
  | 0 => .dymName c | 1 => .ownedBy c | 2 => .cfgAddr c | 3 => .fallback c | 4 => .sellOrder c .name
  | 5 => .sellOrder c .alias | 6 => .countBuyOrders | 7 => .buyOrder c | 8 => .buyer c
  | 9 => .nameToBuyOrders c | 10 => .aliasToBuyOrders c | 11 => .rollappToAliases c | _ => .aliasToRollapp c

theorem ofFamily_family_comp (a : DymnsKey) : ofFamily a.family a.comp = a := by
  rcases a with _ | _ | _ | _ | ⟨_, _ | _⟩ | _ | _ | _ | _ | _ | _ | _ <;> rfl

theorem bytes_eq (a : DymnsKey) : a.bytes = a.familyPrefix ++ a.comp := by
  rcases a with _ | _ | _ | _ | ⟨_, _ | _⟩ | _ | _ | _ | _ | _ | _ | _ <;> rfl

theorem family_spec (a : DymnsKey) :
    a.family < 13 ∧ a.familyPrefix = (ofFamily a.family []).familyPrefix := by
  rcases a with _ | _ | _ | _ | ⟨_, _ | _⟩ | _ | _ | _ | _ | _ | _ | _ <;> exact ⟨Nat.le_of_ble_eq_true rfl, rfl⟩

/-- no family prefix is a prefix of another family's (the 13 × 13 table) -/
theorem family_eq_of_comparable (a b : DymnsKey)
    (h : isPrefix a.familyPrefix b.familyPrefix = true ∨ isPrefix b.familyPrefix a.familyPrefix = true) :
    a.family = b.family := by
  have table : ∀ i < 13, ∀ j < 13, isPrefix (ofFamily i []).familyPrefix (ofFamily j []).familyPrefix = true →
      i = j := by decide +kernel
  obtain ⟨ha, ea⟩ := a.family_spec
  obtain ⟨hb, eb⟩ := b.family_spec
  rw [ea, eb] at h
  exact h.elim (table _ ha _ hb) fun h => (table _ hb _ ha h).symm

end DymnsKey
end DymVerif.Keys
