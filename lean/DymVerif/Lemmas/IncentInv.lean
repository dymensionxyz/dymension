/-
  Lemmas/IncentInv — the gauge-side invariant of M-Incent (ids, distributed ≤ coins, the incentives
  module account covers what gauges still owe) and its preservation by every operation; who is paid.
-/
import DymVerif.Lemmas.IncentPayout
namespace DymVerif.Incent
open DymVerif Coins

/-! ### the gauge store -/

def getG (gs : List Gauge) (id : Nat) : Option Gauge := if id = 0 then none else gs[id - 1]?
theorem getGauge_eq (s : State) (id : Nat) : getGauge s id = getG s.gauges id := rfl

def IdsOK (gs : List Gauge) : Prop := ∀ k (h : k < gs.length), gs[k].id = k + 1
def Bounded (gs : List Gauge) : Prop := ∀ g ∈ gs, ∀ i, amt g.distributed i ≤ amt g.coins i
def owedG (g : Gauge) (i : Nat) : Nat := amt g.coins i - amt g.distributed i
def owed (gs : List Gauge) (i : Nat) : Nat := (gs.map (owedG · i)).sum

/-- a passed gauge value agrees with the stored gauge of its id in `distributed` and `kind` and has at least its coins
    (the streamer's cache tops the coins up) -/
def Coh (gs : List Gauge) (g : Gauge) : Prop :=
  ∃ g0, getG gs g.id = some g0 ∧ g.distributed = g0.distributed ∧ g.kind = g0.kind ∧ ∀ i, amt g0.coins i ≤ amt g.coins i

def storedCoins (gs : List Gauge) (id : Nat) (i : Nat) : Nat :=
  match getG gs id with
  | some g0 => amt g0.coins i
  | none => 0

def extra (gs : List Gauge) (g : Gauge) (i : Nat) : Nat := amt g.coins i - storedCoins gs g.id i
def extras (gs : List Gauge) (l : List Gauge) (i : Nat) : Nat := (l.map (extra gs · i)).sum

theorem getG_some {gs : List Gauge} (hid : IdsOK gs) {id : Nat} {g0 : Gauge} (h : getG gs id = some g0) :
    1 ≤ id ∧ ∃ hk : id - 1 < gs.length, gs[id - 1] = g0 ∧ g0.id = id ∧ g0 ∈ gs := by
  unfold getG at h
  by_cases h0 : id = 0
  · simp [h0] at h
  · rw [if_neg h0] at h
    obtain ⟨hk, he⟩ := List.getElem?_eq_some_iff.1 h
    refine ⟨by omega, hk, he, ?_, ?_⟩
    · rw [← he, hid _ hk]; omega
    · rw [← he]; exact List.getElem_mem hk

theorem sum_map_set {α : Type} (f : α → Nat) (l : List α) (k : Nat) (v : α) (hk : k < l.length) :
    ((l.set k v).map f).sum + f l[k] = (l.map f).sum + f v := by
  induction l generalizing k with
  | nil => simp at hk
  | cons x xs ih =>
    cases k with
    | zero => simp; omega
    | succ k =>
      have := ih k (by simpa using hk)
      simp only [List.set_cons_succ, List.map_cons, List.sum_cons, List.getElem_cons_succ]
      omega

theorem idsOK_set {gs : List Gauge} (hid : IdsOK gs) (k : Nat) (v : Gauge) (hv : v.id = k + 1) : IdsOK (gs.set k v) := by
  intro j hj
  rw [List.getElem_set]
  split
  · next h => rw [← h]; exact hv
  · exact hid j (by simpa using hj)

theorem bounded_set {gs : List Gauge} (hb : Bounded gs) (k : Nat) (v : Gauge)
    (hv : ∀ i, amt v.distributed i ≤ amt v.coins i) : Bounded (gs.set k v) := by
  intro g hg i
  rcases List.mem_or_eq_of_mem_set hg with h | h
  · exact hb g h i
  · rw [h]; exact hv i

theorem getG_set_ne (gs : List Gauge) (k : Nat) (v : Gauge) (id : Nat) (h : id ≠ k + 1) :
    getG (gs.set k v) id = getG gs id := by
  unfold getG
  by_cases h0 : id = 0
  · simp [h0]
  · simp only [h0, if_false]
    rw [List.getElem?_set_ne (by omega)]

theorem getG_set_self (gs : List Gauge) (id : Nat) (v : Gauge) (h0 : id ≠ 0) (hk : id - 1 < gs.length) :
    getG (gs.set (id - 1) v) id = some v := by
  unfold getG
  rw [if_neg h0]
  simp [hk]

theorem kinds_set (gs : List Gauge) (k : Nat) (v : Gauge) (hk : k < gs.length) (hv : v.kind = gs[k].kind) :
    (gs.set k v).map (·.kind) = gs.map (·.kind) := by
  rw [List.map_set]
  apply List.ext_getElem
  · simp
  · intro j h1 h2
    rw [List.getElem_set]
    split
    · next h => subst h; simp [hv]
    · rfl

/-- a gauge handed in stays a copy of its stored gauge when the gauge of another id is written -/
theorem Coh.set_ne {gs : List Gauge} {x : Gauge} (h : Coh gs x) {j : Nat} (hj : 1 ≤ j) (v : Gauge) (hne : x.id ≠ j) :
    Coh (gs.set (j - 1) v) x := by
  obtain ⟨x0, hx0, r⟩ := h
  exact ⟨x0, by rw [getG_set_ne _ _ _ _ (by rw [Nat.sub_add_cancel hj]; exact hne)]; exact hx0, r⟩

/-! ### the gauge loop of `Keeper.Distribute` -/

/-- what the gauge loop of `Keeper.Distribute` needs of the gauges `l` handed in: ids of the store are positions, the gauges have
    distinct ids and are copies of stored gauges -/
structure LoopInput (gs : List Gauge) (l : List Gauge) : Prop where
  ids : IdsOK gs
  nodup : (l.map (·.id)).Nodup
  coh : ∀ g ∈ l, Coh gs g

/-- no later gauge has the id of the first; the rest is a valid input again, also after the first gauge's slot has been written -/
theorem LoopInput.step {gs : List Gauge} {g : Gauge} {rest : List Gauge} (h : LoopInput gs (g :: rest)) :
    g.id ∉ rest.map (·.id) ∧ (∀ x ∈ rest, x.id ≠ g.id) ∧ LoopInput gs rest ∧
    ∀ v : Gauge, v.id = g.id → LoopInput (gs.set (g.id - 1) v) rest := by
  obtain ⟨hn1, hnd'⟩ := List.nodup_cons.1 (show (g.id :: rest.map (·.id)).Nodup from h.nodup)
  have hgnot : ∀ x ∈ rest, x.id ≠ g.id := fun x hx he => hn1 (by rw [← he]; exact List.mem_map_of_mem (f := (·.id)) hx)
  have hrest : ∀ x ∈ rest, Coh gs x := fun x hx => h.coh x (List.mem_cons_of_mem _ hx)
  obtain ⟨g0, hg0, _⟩ := h.coh g List.mem_cons_self
  have hid1 := (getG_some h.ids hg0).1
  exact ⟨hn1, hgnot, ⟨h.ids, hnd', hrest⟩, fun v hv =>
    ⟨idsOK_set h.ids _ _ (by rw [hv]; omega), hnd', fun x hx => (hrest x hx).set_ne hid1 v (hgnot x hx)⟩⟩

/-- what the gauge loop of `Keeper.Distribute` over `gs` makes of state `s` and tracker `tr`: the gauge invariant, who enters
    the tracker, and what is stored afterwards -/
structure IncLooped (s : State) (gs : List Gauge) (tr : Tracker) (s' : State) (tr' : Tracker) : Prop where
  ids : IdsOK s'.gauges
  bounded : Bounded s'.gauges
  frame : s' = { s with gauges := s'.gauges }
  kinds : s'.gauges.map (·.kind) = s.gauges.map (·.kind)
  balance : ∀ i, owed s'.gauges i + trSum tr' i ≤ owed s.gauges i + extras s.gauges gs i + trSum tr i
  owners : ∀ a, a ∈ tr'.map (·.1) → a ∈ tr.map (·.1) ∨ ∃ g ∈ gs, LegitFor s.locks s.rollapps g.kind a
  others : ∀ id, id ∉ gs.map (·.id) → getG s'.gauges id = getG s.gauges id
  stored : ∀ g ∈ gs, ∃ g', getG s'.gauges g.id = some g' ∧ ∀ i, amt g'.distributed i = amt g.distributed i + dueTotal s g i

theorem incLoop_spec (ee : Bool) : ∀ (gs : List Gauge) (s : State) (tr : Tracker) (s' : State) (tr' : Tracker),
    IdsOK s.gauges → Bounded s.gauges → (gs.map (·.id)).Nodup → (∀ g ∈ gs, Coh s.gauges g) →
    incLoop ee gs s tr = .ok (s', tr') → IncLooped s gs tr s' tr' := by
  intro gs
  induction gs with
  | nil =>
    intro s tr s' tr' hid hb _ _ h
    cases h
    exact ⟨hid, hb, rfl, rfl, fun i => by simp [extras], fun a ha => Or.inl ha, fun _ _ => rfl, fun _ hg => nomatch hg⟩
  | cons g rest ih =>
    intro s tr s' tr' hid hb hnd hcoh h
    obtain ⟨hn1, hgnot, ⟨_, hnd', hcohr⟩, hstep⟩ := LoopInput.step ⟨hid, hnd, hcoh⟩
    obtain ⟨g0, hg0, hd, hkind, hcoins⟩ := hcoh g List.mem_cons_self
    obtain ⟨hid1, hk, hget, _, hg0mem⟩ := getG_some hid hg0
    obtain ⟨t2, c, hc, h⟩ := incLoop_step h
    obtain ⟨_, c2, etot, c3⟩ := calcGauge_acct hc
    -- whoever the rest of the loop adds to the tracker, and whoever this gauge added, is legitimate
    have hown : (∀ a, a ∈ tr'.map (·.1) → a ∈ t2.map (·.1) ∨ ∃ x ∈ rest, LegitFor s.locks s.rollapps x.kind a) →
        ∀ a, a ∈ tr'.map (·.1) → a ∈ tr.map (·.1) ∨ ∃ x ∈ g :: rest, LegitFor s.locks s.rollapps x.kind a := by
      intro r6 a ha
      rcases r6 a ha with h1 | ⟨x, hx, hl⟩
      · exact (c3 a h1).imp_right fun h2 => ⟨g, List.mem_cons_self, h2⟩
      · exact Or.inr ⟨x, List.mem_cons_of_mem _ hx, hl⟩
    have hext : ∀ i, extras s.gauges (g :: rest) i = extra s.gauges g i + extras s.gauges rest i := fun _ => rfl
    rcases h with ⟨hz, h⟩ | ⟨_, h⟩
    · obtain ⟨r1, r2, r3, r4, r5, r6, o, st⟩ := ih s t2 s' tr' hid hb hnd' hcohr h
      have hz' := (isZero_iff c).1 hz
      refine ⟨r1, r2, r3, r4, fun i => ?_, hown r6, fun id hnot => o id (fun hm => hnot (List.mem_cons_of_mem _ hm)), fun x hx => ?_⟩
      · have := r5 i; have := hz' i; have := c2 i; have := hext i
        omega
      · rcases List.mem_cons.1 hx with h1 | h1
        · rw [h1]
          refine ⟨g0, by rw [o g.id hn1]; exact hg0, fun i => ?_⟩
          rw [← etot i, hz' i, ← hd]; rfl
        · exact st x h1
    · have hbg0 := hb g0 hg0mem
      have hdi : ∀ i, amt g.distributed i = amt g0.distributed i := fun i => by rw [hd]
      -- the gauge hands out at most its remainder (`dueTotal_le`), and the copy has at least the stored coins
      have hbound : ∀ i, amt (Coins.add g.distributed c) i ≤ amt g.coins i := by
        intro i
        have := etot i; have := dueTotal_le s g i; have := hbg0 i; have := hcoins i; have := hdi i
        rw [amt_add]; omega
      let g' : Gauge := { g with filled := if ee then g.filled + 1 else g.filled, distributed := Coins.add g.distributed c }
      have hs1 : setGauge s g' = { s with gauges := s.gauges.set (g.id - 1) g' } := rfl
      obtain ⟨hid', _, hcoh'⟩ := hstep g' rfl
      obtain ⟨r1, r2, r3, r4, r5, r6, o, st⟩ := ih (setGauge s g') t2 s' tr' hid' (bounded_set hb _ _ hbound) hnd' hcoh' h
      refine ⟨r1, r2, by rw [r3, hs1], ?_, fun i => ?_, hown r6, fun id hnot => ?_, fun x hx => ?_⟩
      · rw [r4]
        exact kinds_set _ _ _ hk (by show g.kind = _; rw [hget]; exact hkind)
      · have h5 := r5 i
        have hset := sum_map_set (owedG · i) s.gauges (g.id - 1) g' hk
        have hex : extras (setGauge s g').gauges rest i = extras s.gauges rest i := by
          unfold extras
          apply congrArg
          apply List.map_congr_left
          intro x hx
          unfold extra storedCoins
          rw [hs1]; simp only
          rw [getG_set_ne _ _ _ _ (by rw [Nat.sub_add_cancel hid1]; exact hgnot x hx)]
        rw [hex] at h5
        rw [show (setGauge s g').gauges = s.gauges.set (g.id - 1) g' from rfl] at h5
        rw [hget] at hset
        -- the three differences are exact: nothing is over-distributed, and the copy has at least the stored coins
        have a1 : owedG g0 i + amt g0.distributed i = amt g0.coins i := Nat.sub_add_cancel (hbg0 i)
        have a2 : owedG g' i + amt (Coins.add g.distributed c) i = amt g.coins i := Nat.sub_add_cancel (hbound i)
        have a3 : extra s.gauges g i + amt g0.coins i = amt g.coins i := by
          unfold extra storedCoins; rw [hg0]; exact Nat.sub_add_cancel (hcoins i)
        rw [amt_add] at a2
        have := c2 i; have := hdi i; have := hext i
        unfold owed at h5 ⊢
        omega
      · simp only [List.map_cons, List.mem_cons, not_or] at hnot
        rw [o id hnot.2]
        exact getG_set_ne _ _ _ _ (by rw [Nat.sub_add_cancel hid1]; exact hnot.1)
      · rcases List.mem_cons.1 hx with h1 | h1
        · rw [h1]
          refine ⟨g', ?_, fun i => ?_⟩
          · rw [o g.id hn1]
            exact getG_set_self s.gauges g.id g' (Nat.pos_iff_ne_zero.1 hid1) hk
          · rw [← etot i]; exact amt_add _ _ _
        · obtain ⟨x', a1, a2⟩ := st x h1
          exact ⟨x', a1, fun i => by rw [a2 i, dueTotal_setGauge]⟩

/-! ### paying the tracker -/

theorem payAll_spec : ∀ (tr : Tracker) (b b' : Bank), payAll tr b = some b' →
    (∀ i, amt (b'.get incAddr) i + trSum tr i = amt (b.get incAddr) i) ∧
    (∀ a, a ≠ incAddr → ∀ i, amt (b'.get a) i = amt (b.get a) i + trFor tr a i) ∧
    (∀ a, a ∈ tr.map (·.1) → blocked a = false) := by
  intro tr
  induction tr with
  | nil =>
    intro b b' h
    simp only [payAll, Option.some.injEq] at h
    subst h
    exact ⟨by simp [trSum], by simp [trFor], by simp⟩
  | cons p rest ih =>
    intro b b' h
    obtain ⟨o, c⟩ := p
    unfold payAll at h
    by_cases hbl : blocked o = true
    · simp [hbl] at h
    · rw [if_neg hbl] at h
      have hne : incAddr ≠ o := by
        intro he
        apply hbl
        rw [← he]; decide
      cases hs : b.send incAddr o c with
      | none => simp [hs] at h
      | some b1 =>
        simp only [hs] at h
        obtain ⟨s1, s2⟩ := Bank.send_some hs hne
        obtain ⟨r1, r2, r3⟩ := ih b1 b' h
        refine ⟨?_, ?_, ?_⟩
        · intro i
          have := r1 i
          have h2 := s2 incAddr i
          rw [if_pos rfl] at h2
          have := s1 i
          have : trSum ((o, c) :: rest) i = amt c i + trSum rest i := rfl
          omega
        · intro a ha i
          have h1 := r2 a ha i
          have h2 := s2 a i
          rw [if_neg ha] at h2
          unfold trFor at h1 ⊢
          by_cases hao : a = o
          · subst hao
            simp only [if_true] at h2
            simp only [List.filter_cons, beq_self_eq_true, if_true, List.map_cons, List.sum_cons]
            omega
          · rw [if_neg hao] at h2
            have : (o == a) = false := by simp; exact fun x => hao x.symm
            simp only [List.filter_cons, this]
            simp only [Bool.false_eq_true, if_false]
            omega
        · intro a ha
          simp only [List.map_cons, List.mem_cons] at ha
          rcases ha with h1 | h1
          · rw [h1]; simpa using hbl
          · exact r3 a h1

/-- what x/incentives `Keeper.Distribute` over `gs` makes of state `s`: the gauge invariant, and who is paid -/
structure IncDistributed (s : State) (gs : List Gauge) (s' : State) : Prop where
  ids : IdsOK s'.gauges
  bounded : Bounded s'.gauges
  frame : s' = { s with gauges := s'.gauges, bank := s'.bank }
  kinds : s'.gauges.map (·.kind) = s.gauges.map (·.kind)
  solvent : ∀ i, owed s'.gauges i ≤ amt (s'.bank.get incAddr) i
  mono : ∀ a, a ≠ incAddr → ∀ i, amt (s.bank.get a) i ≤ amt (s'.bank.get a) i
  legit : ∀ a, a ≠ incAddr → (∃ i, amt (s'.bank.get a) i ≠ amt (s.bank.get a) i) →
    blocked a = false ∧ ∃ g ∈ gs, LegitFor s.locks s.rollapps g.kind a

/-- x/incentives `Keeper.Distribute`: keeps the gauge invariant, pays only legitimate recipients -/
theorem incDistribute_spec (s : State) (gs : List Gauge) (ee : Bool) (s' : State)
    (hid : IdsOK s.gauges) (hb : Bounded s.gauges) (hnd : (gs.map (·.id)).Nodup) (hcoh : ∀ g ∈ gs, Coh s.gauges g)
    (hsol : ∀ i, owed s.gauges i + extras s.gauges gs i ≤ amt (s.bank.get incAddr) i)
    (h : incDistribute s gs ee = .ok s') : IncDistributed s gs s' := by
  obtain ⟨s1, tr, hl, hp, hs'⟩ := incDistribute_unfold h
  obtain ⟨r1, r2, _, r4, r5, r6⟩ := incLoop_spec ee gs s [] s1 tr hid hb hnd hcoh hl
  obtain ⟨p1, p2, p3⟩ := payAll_spec tr s.bank s'.bank hp
  have hg : s'.gauges = s1.gauges := by rw [hs']
  refine ⟨hg ▸ r1, hg ▸ r2, by rw [hs'], hg ▸ r4, ?_, ?_, ?_⟩
  · intro i
    have h5 := r5 i
    have h1 := p1 i
    have h0 := hsol i
    have hnil : trSum ([] : Tracker) i = 0 := rfl
    rw [hnil] at h5
    rw [hg]
    omega
  · intro a ha i
    have := p2 a ha i
    omega
  · intro a ha ⟨i, hi⟩
    have h2 := p2 a ha i
    have hm := trFor_pos_mem tr a i (by omega)
    refine ⟨p3 a hm, ?_⟩
    rcases r6 a hm with h3 | h3
    · simp at h3
    · exact h3


/-- `Keeper.Distribute` of x/incentives debits the incentives module account only -/
theorem incDistribute_bank_mono {s : State} {gs : List Gauge} {ee : Bool} {s' : State} (h : incDistribute s gs ee = .ok s')
    (a : Nat) (ha : a ≠ incAddr) (i : Nat) : amt (s.bank.get a) i ≤ amt (s'.bank.get a) i := by
  obtain ⟨_, tr, _, hp, _⟩ := incDistribute_unfold h
  rw [(payAll_spec tr _ _ hp).2.1 a ha i]; exact Nat.le_add_right _ _

/-! ### the streamer's gauge cache -/

theorem upsertGauge_absent (l : List Gauge) (g : Gauge) (h : ∀ x ∈ l, x.id ≠ g.id) : upsertGauge l g = l ++ [g] := by
  induction l with
  | nil => rfl
  | cons x xs ih =>
    unfold upsertGauge
    have := h x List.mem_cons_self
    rw [if_neg this, ih (fun y hy => h y (List.mem_cons_of_mem _ hy))]
    rfl

/-- the caches' `upsert` (`up`, with its equation on a non-empty list) on a list with distinct keys that holds an entry `x` with
    the key of `g`: keys stay, `g` replaces `x`, sums change by `f g - f x` -/
theorem upsert_present {α : Type} (key : α → Nat) (up : List α → α → List α)
    (hcons : ∀ x xs g, up (x :: xs) g = if key x = key g then g :: xs else x :: up xs g) (f : α → Nat) :
    ∀ (l : List α) (g x : α), (l.map key).Nodup → x ∈ l → key x = key g →
    (up l g).map key = l.map key ∧
    (∀ y ∈ up l g, y = g ∨ (y ∈ l ∧ key y ≠ key g)) ∧
    ((up l g).map f).sum + f x = (l.map f).sum + f g := by
  intro l
  induction l with
  | nil => intro g x _ hx; simp at hx
  | cons a as ih =>
    intro g x hnd hx hid
    obtain ⟨hna, hnd'⟩ := List.nodup_cons.1 (show (key a :: as.map key).Nodup from hnd)
    rw [hcons]
    by_cases ha : key a = key g
    · rw [if_pos ha]
      have hxa : x = a := by
        rcases List.mem_cons.1 hx with h | h
        · exact h
        · exfalso; apply hna; rw [ha, ← hid]; exact List.mem_map_of_mem h
      subst hxa
      refine ⟨by simp [ha], ?_, by simp only [List.map_cons, List.sum_cons]; omega⟩
      intro y hy
      rcases List.mem_cons.1 hy with h | h
      · exact Or.inl h
      · exact Or.inr ⟨List.mem_cons_of_mem _ h, fun he => hna (by rw [ha, ← he]; exact List.mem_map_of_mem h)⟩
    · rw [if_neg ha]
      have hxas : x ∈ as := by
        rcases List.mem_cons.1 hx with h | h
        · exfalso; rw [h] at hid; exact ha hid
        · exact h
      obtain ⟨i1, i2, i3⟩ := ih g x hnd' hxas hid
      refine ⟨by simp only [List.map_cons, i1], ?_, by simp only [List.map_cons, List.sum_cons]; omega⟩
      intro y hy
      rcases List.mem_cons.1 hy with h | h
      · right; rw [h]; exact ⟨List.mem_cons_self, ha⟩
      · rcases i2 y h with h2 | ⟨h2, h3⟩
        · exact Or.inl h2
        · exact Or.inr ⟨List.mem_cons_of_mem _ h2, h3⟩

theorem upsertGauge_present (f : Gauge → Nat) : ∀ (l : List Gauge) (g x : Gauge), (l.map (·.id)).Nodup → x ∈ l → x.id = g.id →
    (upsertGauge l g).map (·.id) = l.map (·.id) ∧
    (∀ y ∈ upsertGauge l g, y = g ∨ (y ∈ l ∧ y.id ≠ g.id)) ∧
    ((upsertGauge l g).map f).sum + f x = (l.map f).sum + f g :=
  upsert_present (·.id) upsertGauge (fun _ _ _ => rfl) f

theorem cacheGet_some {c : Caches} {id : Nat} {g : Gauge} (h : c.getGauge id = some g) : g ∈ c.gauges ∧ g.id = id := by
  unfold Caches.getGauge at h
  exact ⟨List.mem_of_find?_eq_some h, by simpa using List.find?_some h⟩

theorem cacheGet_none {c : Caches} {id : Nat} (h : c.getGauge id = none) : ∀ x ∈ c.gauges, x.id ≠ id := by
  unfold Caches.getGauge at h
  intro x hx
  have := List.find?_eq_none.1 h x hx
  simpa using this

/-- cache invariant: cached gauges are copies of stored ones whose extra coins add up to what the
    streamer is about to transfer -/
def CI (gs : List Gauge) (c : Caches) : Prop :=
  (c.gauges.map (·.id)).Nodup ∧ (∀ g ∈ c.gauges, Coh gs g) ∧ ∀ i, extras gs c.gauges i = amt c.distributed i

theorem CI_insert (gs : List Gauge) (hid : IdsOK gs) (c : Caches) (h : CI gs c) (id : Nat) (g : Gauge)
    (hg : getG gs id = some g) (habs : ∀ x ∈ c.gauges, x.id ≠ id) :
    CI gs { c with gauges := upsertGauge c.gauges g } := by
  obtain ⟨_, _, _, hgid, _⟩ := getG_some hid hg
  obtain ⟨h1, h2, h3⟩ := h
  have habs' : ∀ x ∈ c.gauges, x.id ≠ g.id := by rw [hgid]; exact habs
  unfold CI
  simp only
  rw [upsertGauge_absent _ _ habs']
  refine ⟨?_, ?_, ?_⟩
  · rw [List.map_append, List.nodup_append]
    refine ⟨h1, by simp, ?_⟩
    intro a ha b hb
    simp at hb
    subst hb
    obtain ⟨x, hx, hxe⟩ := List.mem_map.1 ha
    intro he
    exact habs' x hx (by rw [hxe, he])
  · intro x hx
    rcases List.mem_append.1 hx with h | h
    · exact h2 x h
    · simp at h; subst h
      exact ⟨x, by rw [hgid]; exact hg, rfl, rfl, fun i => Nat.le_refl _⟩
  · intro i
    have : extra gs g i = 0 := by
      unfold extra storedCoins
      rw [hgid, hg]; simp
    unfold extras at *
    rw [List.map_append, List.sum_append, h3 i]
    simp [this]

theorem CI_bump (gs : List Gauge) (c : Caches) (h : CI gs c) (g : Gauge) (hg : g ∈ c.gauges) (rw_ : Coins) (ss : List Stream) :
    CI gs { streams := ss, gauges := upsertGauge c.gauges { g with coins := Coins.add g.coins rw_ },
            distributed := Coins.add c.distributed rw_ } := by
  obtain ⟨h1, h2, h3⟩ := h
  unfold CI
  simp only
  refine ⟨?_, ?_, ?_⟩
  · have := (upsertGauge_present (fun _ => 0) c.gauges { g with coins := Coins.add g.coins rw_ } g h1 hg rfl).1
    rw [this]; exact h1
  · intro y hy
    rcases (upsertGauge_present (fun _ => 0) c.gauges { g with coins := Coins.add g.coins rw_ } g h1 hg rfl).2.1 y hy with h | ⟨h, _⟩
    · subst h
      obtain ⟨g0, a, b, cc, d⟩ := h2 g hg
      exact ⟨g0, a, b, cc, fun i => by simp only [amt_add]; have := d i; omega⟩
    · exact h2 y h
  · intro i
    have hs := (upsertGauge_present (extra gs · i) c.gauges { g with coins := Coins.add g.coins rw_ } g h1 hg rfl).2.2
    obtain ⟨g0, a, b, cc, d⟩ := h2 g hg
    have e1 : extra gs { g with coins := Coins.add g.coins rw_ } i = extra gs g i + amt rw_ i := by
      unfold extra storedCoins
      simp only [a, amt_add]
      have := d i; omega
    unfold extras at *
    rw [amt_add, ← h3 i]
    omega

theorem rewardsCb_CI (s : State) (hid : IdsOK s.gauges) (c : Caches) (v : SView) (r : Rec) (h : CI s.gauges c) :
    CI s.gauges (rewardsCb s c v r).1 := by
  rcases rewardsCb_shape s c v r with ⟨e, _⟩ | ⟨_, g, _, _, hg, hsg, _, e⟩ | ⟨_, g, gs, _, _, hgs, e⟩ <;> rw [e]
  · exact h
  · exact CI_insert s.gauges hid c h r.gauge g hsg (cacheGet_none hg)
  · rcases hgs with ⟨hg, hgs⟩ | ⟨hg, hsg, _, hgs⟩ <;> rw [hgs]
    · exact CI_bump _ c h g (cacheGet_some hg).1 _ _
    · have hins := CI_insert s.gauges hid c h r.gauge g hsg (cacheGet_none hg)
      obtain ⟨_, _, _, hgid, _⟩ := getG_some hid hsg
      have hmem : g ∈ upsertGauge c.gauges g := by
        rw [upsertGauge_absent _ _ (by rw [hgid]; exact cacheGet_none hg)]; simp
      exact CI_bump _ _ hins g hmem _ _

/-- a property of iterator position and callback state that every callback step at a valid position carries on
    holds when `Paginate` returns -/
theorem paginate_ind {σ : Type} (data : List SView) (e : Nat) (cb : σ → SView → Rec → σ × Nat) (max : Nat)
    (P : Nat × Nat → σ → Prop)
    (hstep : ∀ it acc sv, validAt data e it.1 it.2 = true → data[it.1]? = some sv → P it acc →
      P (iterNext data e it) (cb acc sv (sv.recs.getD it.2 default)).1) :
    ∀ fuel it total acc, P it acc →
      P (paginate data e cb max fuel it total acc).1 (paginate data e cb max fuel it total acc).2.2 := by
  intro fuel
  induction fuel with
  | zero => intro it total acc h; exact h
  | succ n ih =>
    intro it total acc h
    unfold paginate
    by_cases hc : (decide (total < max) && validAt data e it.1 it.2) = true
    · rw [if_pos hc]
      cases hd : data[it.1]? with
      | none => exact h
      | some sv => exact ih _ _ _ (hstep it acc sv (by simp at hc; exact hc.2) hd h)
    · rw [if_neg hc]; exact h

theorem iterate_inv {σ : Type} (P : σ → Prop) (data : List SView) (e : Nat) (p : Pointer) (max : Nat)
    (cb : σ → SView → Rec → σ × Nat) (acc : σ) (hcb : ∀ acc s r, P acc → P (cb acc s r).1) (h : P acc) :
    P (iterateEpochPointer data e p max cb acc).2.2 := by
  unfold iterateEpochPointer
  exact paginate_ind data e cb max (fun _ a => P a) (fun _ a sv _ _ ha => hcb a sv _ ha) _ _ _ _ h

/-- a property of the caches kept by the rewards callback is kept by the loop over the epoch pointers -/
theorem ptrLoop_inv (P : Caches → Prop) (s : State) (hcb : ∀ c v r, P c → P (rewardsCb s c v r).1) (maxOps : Nat) :
    ∀ (es : List Nat) (total : Nat) (c : Caches) (ps : List Pointer), P c → P (ptrLoop s maxOps es total c ps).2.1 := by
  intro es
  induction es with
  | nil => intro total c ps h; exact h
  | cons e rest ih =>
    intro total c ps h
    unfold ptrLoop
    by_cases hb : total ≥ maxOps
    · rw [if_pos hb]; exact h
    · rw [if_neg hb]; exact ih _ _ _ (iterate_inv P _ e _ _ (rewardsCb s) c hcb h)

theorem ptrLoop_CI (s : State) (hid : IdsOK s.gauges) (maxOps : Nat) :
    ∀ (es : List Nat) (total : Nat) (c : Caches) (ps : List Pointer), CI s.gauges c →
      CI s.gauges (ptrLoop s maxOps es total c ps).2.1 :=
  ptrLoop_inv _ s (rewardsCb_CI s hid) maxOps

theorem strPass_CI (s : State) (es : List Nat) (streams : List Stream) (maxOps : Nat) (hid : IdsOK s.gauges) :
    CI s.gauges (strPass s es streams maxOps).2.1 :=
  ptrLoop_CI s hid maxOps _ 0 _ s.ptrs ⟨List.nodup_nil, fun _ h => absurd h List.not_mem_nil, fun _ => rfl⟩

/-- the transfer streamer → incentives of one pass (skipped when the pass distributed nothing) -/
theorem strTransfer {bk b : Bank} {d : Coins}
    (h : b = bk ∧ d.isZero = true ∨ bk.send streamerAddr incAddr d = some b) :
    (∀ i, amt d i ≤ amt (bk.get streamerAddr) i) ∧
    ∀ a i, amt (b.get a) i =
      if a = streamerAddr then amt (bk.get streamerAddr) i - amt d i
      else if a = incAddr then amt (bk.get incAddr) i + amt d i
      else amt (bk.get a) i := by
  rcases h with ⟨hb, hz⟩ | h
  · subst hb
    have h0 := (isZero_iff d).1 hz
    refine ⟨fun i => by rw [h0 i]; exact Nat.zero_le _, fun a i => ?_⟩
    rw [h0 i]
    by_cases h1 : a = streamerAddr
    · rw [if_pos h1, h1]; rfl
    · rw [if_neg h1]
      by_cases h2 : a = incAddr
      · rw [if_pos h2, h2]; rfl
      · rw [if_neg h2]
  · exact Bank.send_some h (by decide)


/-! ### the invariant and the payment relation -/

/-- gauge-side invariant: ids are positions, nothing over-distributed, the module account covers the rest -/
structure GInv (s : State) : Prop where
  ids : IdsOK s.gauges
  bounded : Bounded s.gauges
  solvent : ∀ i, owed s.gauges i ≤ amt (s.bank.get incAddr) i

/-- `a` may be paid by some gauge of the state -/
def LegitAddr (s : State) (a : Nat) : Prop := ∃ k ∈ s.gauges.map (·.kind), LegitFor s.locks s.rollapps k a

/-- what a block may do to the accounts other than the two module accounts -/
structure Pay (s s' : State) : Prop where
  kinds : s'.gauges.map (·.kind) = s.gauges.map (·.kind)
  locks : s'.locks = s.locks
  rollapps : s'.rollapps = s.rollapps
  mono : ∀ a, a ≠ streamerAddr → a ≠ incAddr → ∀ i, amt (s.bank.get a) i ≤ amt (s'.bank.get a) i
  legit : ∀ a, a ≠ streamerAddr → a ≠ incAddr → (∃ i, amt (s'.bank.get a) i ≠ amt (s.bank.get a) i) →
    blocked a = false ∧ LegitAddr s a

theorem Pay.refl (s : State) : Pay s s :=
  ⟨rfl, rfl, rfl, fun _ _ _ _ => Nat.le_refl _, fun _ _ _ ⟨_, h⟩ => absurd rfl h⟩

theorem LegitAddr_congr {s s' : State} (hk : s'.gauges.map (·.kind) = s.gauges.map (·.kind)) (hl : s'.locks = s.locks)
    (hr : s'.rollapps = s.rollapps) (a : Nat) (h : LegitAddr s' a) : LegitAddr s a := by
  unfold LegitAddr at *
  rw [hk, hl, hr] at h
  exact h

theorem Pay.trans {s s1 s2 : State} (h1 : Pay s s1) (h2 : Pay s1 s2) : Pay s s2 := by
  refine ⟨h2.kinds.trans h1.kinds, h2.locks.trans h1.locks, h2.rollapps.trans h1.rollapps, ?_, ?_⟩
  · intro a ha hb i
    exact Nat.le_trans (h1.mono a ha hb i) (h2.mono a ha hb i)
  · intro a ha hb ⟨i, hi⟩
    by_cases hc : amt (s1.bank.get a) i = amt (s.bank.get a) i
    · have := h2.legit a ha hb ⟨i, by rw [hc]; exact hi⟩
      exact ⟨this.1, LegitAddr_congr h1.kinds h1.locks h1.rollapps a this.2⟩
    · exact h1.legit a ha hb ⟨i, hc⟩

/-- the parts of the state the stream bookkeeping never touches -/
def Same (s s' : State) : Prop :=
  s'.gauges = s.gauges ∧ s'.bank = s.bank ∧ s'.locks = s.locks ∧ s'.rollapps = s.rollapps

theorem Same.refl (s : State) : Same s s := ⟨rfl, rfl, rfl, rfl⟩
theorem Same.trans {a b c : State} (h1 : Same a b) (h2 : Same b c) : Same a c :=
  ⟨h2.1.trans h1.1, h2.2.1.trans h1.2.1, h2.2.2.1.trans h1.2.2.1, h2.2.2.2.trans h1.2.2.2⟩

theorem Same.ginv {s s' : State} (h : Same s s') (g : GInv s) : GInv s' := by
  obtain ⟨a, b, _, _⟩ := h
  exact ⟨by rw [a]; exact g.ids, by rw [a]; exact g.bounded, by rw [a, b]; exact g.solvent⟩

theorem Same.pay {s s' : State} (h : Same s s') : Pay s s' := by
  obtain ⟨a, b, c, d⟩ := h
  refine ⟨by rw [a], c, d, ?_, ?_⟩
  · intro x _ _ i; rw [b]; exact Nat.le_refl _
  · intro x _ _ ⟨i, hi⟩; rw [b] at hi; exact absurd rfl hi

theorem saveStreams_same (ee : Bool) (l : List Stream) (s s' : State) (h : saveStreams ee l s = .ok s') : Same s s' := by
  rw [saveStreams_frame ee l h]; exact ⟨rfl, rfl, rfl, rfl⟩

/-- x/streamer `Keeper.Distribute` keeps the gauge invariant and pays only legitimate recipients -/
theorem strDistribute_spec (s : State) (es : List Nat) (streams : List Stream) (maxOps : Nat) (ee : Bool) (s' : State)
    (hg : GInv s) (h : strDistribute s es streams maxOps ee = .ok s') : GInv s' ∧ Pay s s' := by
  obtain ⟨b, s2, hb, hinc, hsave⟩ := strDistribute_unfold h
  obtain ⟨ci1, ci2, ci3⟩ := strPass_CI s es streams maxOps hg.ids
  obtain ⟨_, hbk⟩ := strTransfer hb
  have hb2 : ∀ a, a ≠ streamerAddr → a ≠ incAddr → ∀ i, amt (b.get a) i = amt (s.bank.get a) i :=
    fun a h1 h2 i => by rw [hbk a i, if_neg h1, if_neg h2]
  obtain ⟨r1, r2, r3, r4, r5, r6, r7⟩ := incDistribute_spec { s with ptrs := (strPass s es streams maxOps).2.2, bank := b } _ ee s2
    hg.ids hg.bounded ci1 ci2
    (by
      intro i
      show _ ≤ amt (b.get incAddr) i
      rw [ci3 i, hbk incAddr i, if_neg (by decide), if_pos rfl]
      exact Nat.add_le_add_right (hg.solvent i) _) hinc
  have hsame := saveStreams_same ee _ _ _ hsave
  refine ⟨hsame.ginv ⟨r1, r2, r5⟩, Pay.trans ⟨r4, by rw [r3], by rw [r3], ?_, ?_⟩ hsame.pay⟩
  · intro a ha hb i
    rw [← hb2 a ha hb i]; exact r6 a hb i
  · intro a ha hb ⟨i, hi⟩
    obtain ⟨q1, g, hgm, hl⟩ := r7 a hb ⟨i, by rw [← hb2 a ha hb i] at hi; exact hi⟩
    obtain ⟨g0, a1, _, a3, _⟩ := ci2 g hgm
    obtain ⟨_, _, _, _, hmem⟩ := getG_some hg.ids a1
    exact ⟨q1, g0.kind, List.mem_map_of_mem (f := (·.kind)) hmem, by rw [← a3]; exact hl⟩


/-! ### gauges picked from the store, and the epoch hooks -/

theorem streamerAfterEpochEnd_spec (s : State) (e : Nat) (s' : State) (hg : GInv s)
    (h : streamerAfterEpochEnd s e = .ok s') : GInv s' ∧ Pay s s' := by
  rcases streamerAfterEpochEnd_unfold h with h | ⟨s1, hd, h⟩ <;> rw [h]
  · exact ⟨hg, Pay.refl _⟩
  · obtain ⟨a, b⟩ := strDistribute_spec _ _ _ _ _ _ hg hd
    have hs : Same s1 { s1 with ptrs := s1.ptrs.set e Pointer.first } := ⟨rfl, rfl, rfl, rfl⟩
    exact ⟨hs.ginv a, Pay.trans b hs.pay⟩

theorem streamerBeforeEpochStart_same (s : State) (e : Nat) (s' : State)
    (h : streamerBeforeEpochStart s e = .ok s') : Same s s' := by
  obtain ⟨s1, ha, h⟩ := streamerBeforeEpochStart_unfold h
  rw [(startStreams_frame _ h).1, activateDue_frame _ ha]; exact ⟨rfl, rfl, rfl, rfl⟩

theorem idsOK_nodup (gs : List Gauge) (h : IdsOK gs) : (gs.map (·.id)).Nodup := by
  have : gs.map (·.id) = List.range' 1 gs.length := by
    apply List.ext_getElem
    · simp
    · intro k h1 h2
      simp only [List.getElem_map, List.getElem_range']
      rw [h k (by simpa using h1)]; omega
  rw [this]
  exact List.nodup_range' (step := 1)

theorem getG_of_mem {gs : List Gauge} (hid : IdsOK gs) {g : Gauge} (hg : g ∈ gs) : getG gs g.id = some g := by
  obtain ⟨k, hk, he⟩ := List.getElem_of_mem hg
  have := hid k hk
  rw [he] at this
  unfold getG
  rw [this]
  simp [he, hk]

theorem extra_self {gs : List Gauge} (hid : IdsOK gs) {g : Gauge} (hg : g ∈ gs) (i : Nat) : extra gs g i = 0 := by
  unfold extra storedCoins
  rw [getG_of_mem hid hg]; simp

/-- a stored gauge is written back with the same kind, nothing over-distributed, and whatever more it is owed
    paid into the module account: the gauge invariant is kept and nobody else's balance moves -/
theorem GInv.setGauge {s : State} (hg : GInv s) {gid : Nat} {g0 v : Gauge} (h0 : getG s.gauges gid = some g0)
    (hvid : v.id = gid) (hvk : v.kind = g0.kind) (b : Bank)
    (hv : ∀ i, amt v.distributed i ≤ amt v.coins i)
    (hsol : ∀ i, owedG v i + amt (s.bank.get incAddr) i ≤ owedG g0 i + amt (b.get incAddr) i) :
    GInv (setGauge { s with bank := b } v) ∧
      (setGauge { s with bank := b } v).gauges.map (·.kind) = s.gauges.map (·.kind) := by
  obtain ⟨h1, hk, hget, _, _⟩ := getG_some hg.ids h0
  subst hvid
  show GInv { s with bank := b, gauges := s.gauges.set (v.id - 1) v } ∧ (s.gauges.set (v.id - 1) v).map (·.kind) = _
  refine ⟨⟨idsOK_set hg.ids _ _ (Nat.sub_add_cancel h1).symm, bounded_set hg.bounded _ _ hv, fun i => ?_⟩,
    kinds_set _ _ _ hk (by rw [hget]; exact hvk)⟩
  have hset := sum_map_set (owedG · i) s.gauges (v.id - 1) v hk
  rw [hget] at hset
  have := hg.solvent i
  have := hsol i
  show owed (s.gauges.set (v.id - 1) v) i ≤ amt (b.get incAddr) i
  unfold owed at *
  omega

theorem checkFinished_spec : ∀ (l : List Gauge) (s : State), GInv s → GInv (checkFinished l s) ∧ Pay s (checkFinished l s) := by
  intro l
  induction l with
  | nil => intro s h; exact ⟨h, Pay.refl _⟩
  | cons g rest ih =>
    intro s h
    unfold checkFinished
    split
    · cases hc : getGauge s g.id with
      | none => exact ih s h
      | some cur =>
        dsimp only
        obtain ⟨_, _, _, hcid, hmem⟩ := getG_some h.ids hc
        obtain ⟨g1, hkinds⟩ := h.setGauge (v := { cur with status := .finished }) hc hcid rfl s.bank (h.bounded cur hmem)
          (fun i => Nat.le_refl _)
        obtain ⟨a, b⟩ := ih _ g1
        exact ⟨a, Pay.trans ⟨hkinds, rfl, rfl, fun _ _ _ _ => Nat.le_refl _, fun _ _ _ ⟨_, hh⟩ => absurd rfl hh⟩ b⟩
    · exact ih s h

/-- marking gauges active changes nothing the gauge invariant or the payment relation reads -/
theorem GInv.activated {s : State} (hg : GInv s) {f : Gauge → Gauge} (hf : ∀ g, f g = g ∨ f g = { g with status := .active }) :
    GInv { s with gauges := s.gauges.map f } ∧ Pay s { s with gauges := s.gauges.map f } := by
  have hfp : ∀ g, (f g).id = g.id ∧ (f g).coins = g.coins ∧ (f g).distributed = g.distributed ∧ (f g).kind = g.kind := by
    intro g; rcases hf g with e | e <;> rw [e] <;> exact ⟨rfl, rfl, rfl, rfl⟩
  refine ⟨⟨?_, ?_, ?_⟩, ?_, rfl, rfl, fun _ _ _ _ => Nat.le_refl _, fun _ _ _ ⟨_, hh⟩ => absurd rfl hh⟩
  · intro k hk
    simp only [List.getElem_map]
    rw [(hfp _).1]; exact hg.ids k (by simpa using hk)
  · intro g hgm i
    obtain ⟨g0, hg0, he⟩ := List.mem_map.1 hgm
    rw [← he, (hfp g0).2.1, (hfp g0).2.2.1]; exact hg.bounded g0 hg0 i
  · intro i
    have : owed (s.gauges.map f) i = owed s.gauges i := by
      unfold owed
      rw [List.map_map]
      exact congrArg List.sum (List.map_congr_left (fun g _ => by simp only [Function.comp, owedG, (hfp g).2.1, (hfp g).2.2.1]))
    show owed (s.gauges.map f) i ≤ _
    rw [this]; exact hg.solvent i
  · show (s.gauges.map f).map (·.kind) = _
    rw [List.map_map]
    exact List.map_congr_left (fun g _ => (hfp g).2.2.2)

/-- stored gauges picked by a filter are a valid input of `Keeper.Distribute`, with nothing extra to cover -/
theorem activeGauges_input {gs : List Gauge} (hid : IdsOK gs) (p : Gauge → Bool) :
    ((gs.filter p).map (·.id)).Nodup ∧ (∀ g ∈ gs.filter p, Coh gs g) ∧ ∀ i, extras gs (gs.filter p) i = 0 := by
  have hsub : ∀ g ∈ gs.filter p, g ∈ gs := fun g hgm => (List.mem_filter.1 hgm).1
  refine ⟨(idsOK_nodup _ hid).sublist ((List.filter_sublist).map _),
    fun g hgm => ⟨g, getG_of_mem hid (hsub g hgm), rfl, rfl, fun _ => Nat.le_refl _⟩, fun i => ?_⟩
  apply sum_zero_of_all_zero
  intro x hx
  obtain ⟨g, hgm, he⟩ := List.mem_map.1 hx
  rw [← he]; exact extra_self hid (hsub g hgm) i

theorem incAfterEpochEnd_spec (s : State) (e : Nat) (s' : State) (hg : GInv s)
    (h : incAfterEpochEnd s e = .ok s') : GInv s' ∧ Pay s s' := by
  rcases incAfterEpochEnd_unfold h with h | ⟨f, s2, hf, hd, h⟩
  · rw [h]; exact ⟨hg, Pay.refl _⟩
  · obtain ⟨g1, p1⟩ := hg.activated hf
    obtain ⟨i1, i2, i3⟩ := activeGauges_input g1.ids (·.status == .active)
    obtain ⟨r1, r2, r3, r4, r5, r6, r7⟩ := incDistribute_spec _ _ true s2 g1.ids g1.bounded i1 i2
      (fun i => by rw [i3 i]; exact g1.solvent i) hd
    have p2 : Pay { s with gauges := s.gauges.map f } s2 := by
      refine ⟨r4, by rw [r3], by rw [r3], fun a _ hb i => r6 a hb i, ?_⟩
      intro a _ hb hx
      obtain ⟨q1, g, hgm, hl⟩ := r7 a hb hx
      exact ⟨q1, g.kind, List.mem_map_of_mem (f := (·.kind)) (List.mem_filter.1 hgm).1, hl⟩
    obtain ⟨a, b⟩ := checkFinished_spec ((s.gauges.map f).filter (·.status == .active)) s2 ⟨r1, r2, r5⟩
    rw [h]
    exact ⟨a, Pay.trans p1 (Pay.trans p2 b)⟩


/-! ### blocks and messages -/

theorem applyHook_spec (f : State → Res) (s : State) (hg : GInv s)
    (hf : ∀ s', f s = .ok s' → GInv s' ∧ Pay s s') : GInv (applyHook f s) ∧ Pay s (applyHook f s) :=
  applyHook_ind (P := fun x => GInv x ∧ Pay s x) ⟨hg, Pay.refl _⟩ hf

theorem epochTick_spec (s : State) (e : Nat) (hg : GInv s) : GInv (epochTick s e) ∧ Pay s (epochTick s e) := by
  refine epochTick_ind (fun x => GInv x ∧ Pay s x) e ?_ ?_ ?_ ?_ s ⟨hg, Pay.refl _⟩
  · intro x eps ⟨a, b⟩
    have hs : Same x { x with epochs := eps } := ⟨rfl, rfl, rfl, rfl⟩
    exact ⟨hs.ginv a, Pay.trans b hs.pay⟩
  · intro x hx
    exact applyHook_rel (I := GInv) (R := Pay) Pay.trans (f := fun y => streamerBeforeEpochStart y e) hx (fun s' g h => let sm := streamerBeforeEpochStart_same _ _ _ h; ⟨sm.ginv g, sm.pay⟩)
  · intro x hx
    exact applyHook_rel (I := GInv) (R := Pay) Pay.trans (f := fun y => streamerAfterEpochEnd y e) hx (fun s' g h => streamerAfterEpochEnd_spec _ _ _ g h)
  · intro x hx
    exact applyHook_rel (I := GInv) (R := Pay) Pay.trans (f := fun y => incAfterEpochEnd y e) hx (fun s' g h => incAfterEpochEnd_spec _ _ _ g h)

theorem beginBlock_spec (s : State) (dt : Nat) (hg : GInv s) : GInv (beginBlock s dt) ∧ Pay s (beginBlock s dt) := by
  refine beginBlock_ind (fun x => GInv x ∧ Pay s x) ?_ ?_ s dt ⟨hg, Pay.refl _⟩
  · intro x t ⟨a, b⟩
    have hs : Same x { x with now := t } := ⟨rfl, rfl, rfl, rfl⟩
    exact ⟨hs.ginv a, Pay.trans b hs.pay⟩
  · intro x e ⟨a, b⟩
    have := epochTick_spec x e a
    exact ⟨this.1, Pay.trans b this.2⟩

/-- the incentives module account does not sign messages -/
def Op.wf : Op → Prop
  | .createGauge o _ _ _ _ _ _ _ => o ≠ incAddr
  | .addToGauge o _ _ => o ≠ incAddr
  | _ => True

instance (op : Op) : Decidable op.wf := by
  cases op <;> (unfold Op.wf; infer_instance)

theorem owed_append (gs : List Gauge) (g : Gauge) (i : Nat) : owed (gs ++ [g]) i = owed gs i + owedG g i := by
  simp [owed]

theorem GInv_append (s : State) (hg : GInv s) (g : Gauge) (b : Bank) (hid : g.id = s.gauges.length + 1) (hd : g.distributed = [])
    (hb : ∀ i, amt (b.get incAddr) i = amt (s.bank.get incAddr) i + amt g.coins i) :
    GInv { s with bank := b, gauges := s.gauges ++ [g] } := by
  refine ⟨?_, ?_, ?_⟩
  · intro k hk
    simp only [List.length_append, List.length_singleton] at hk
    simp only
    by_cases h : k < s.gauges.length
    · rw [List.getElem_append_left h]; exact hg.ids k h
    · have : k = s.gauges.length := by omega
      subst this
      simp [hid]
  · intro x hx i
    rcases List.mem_append.1 hx with h | h
    · exact hg.bounded x h i
    · simp at h; subst h; rw [hd]; simp
  · intro i
    simp only
    rw [owed_append, hb i]
    have := hg.solvent i
    unfold owedG; rw [hd]; simp only [amt_nil]; omega

theorem createStream_same (s : State) (sp : Bool) (c : Coins) (rs : List Rec) (st e n : Nat) : Same s (createStream s sp c rs st e n).2 := by
  rcases createStream_shape s sp c rs st e n with h | ⟨_, _, _, _, _, h⟩ <;> rw [h]
  · exact Same.refl _
  · exact ⟨rfl, rfl, rfl, rfl⟩

theorem moveToFinished_same (s : State) (b : Bool) (st : Stream) (s' : State) (h : moveToFinished s b st = some s') : Same s s' := by
  obtain ⟨_, _, _, _, h⟩ := moveToFinished_shape h
  rw [h]; cases b <;> exact ⟨rfl, rfl, rfl, rfl⟩

theorem terminateStream_same (s : State) (id : Nat) : Same s (terminateStream s id).2 := by
  rcases terminateStream_shape s id with h | ⟨_, _, _, h⟩
  · rw [h]; exact Same.refl _
  · exact moveToFinished_same _ _ _ _ h

theorem replaceDistr_same (s : State) (id : Nat) (rs : List Rec) : Same s (replaceDistr s id rs).2 := by
  rcases replaceDistr_shape s id rs with h | ⟨_, _, _, h⟩ <;> rw [h]
  · exact Same.refl _
  · exact ⟨rfl, rfl, rfl, rfl⟩

theorem updateDistr_same (s : State) (id : Nat) (rs : List Rec) : Same s (updateDistr s id rs).2 := by
  rcases updateDistr_shape s id rs with h | ⟨_, _, _, h⟩ <;> rw [h]
  · exact Same.refl _
  · exact ⟨rfl, rfl, rfl, rfl⟩

/-- `CreateAssetGauge` by any account other than the incentives module account keeps the gauge invariant -/
theorem createGauge_ginv (s : State) (hg : GInv s) (o : Nat) (hw : o ≠ incAddr) (p : Bool) (d du : Nat) (hs : Bool) (c : Coins)
    (st n : Nat) : GInv (createGauge s o p d du hs c st n).2 := by
  rcases createGauge_shape s o p d du hs c st n with h | ⟨b, hsend, h⟩ <;> rw [h]
  · exact hg
  · refine GInv_append s hg _ b rfl rfl (fun i => ?_)
    rw [(Bank.send_some hsend hw).2 incAddr i, if_neg (fun x => hw x.symm), if_pos rfl]

/-- `CreatePoolGauge`: the streamer module account creates the gauges -/
theorem poolGaugesLoop_ginv (denom : Nat) (hs : Bool) : ∀ (ds : List Nat) (s : State), GInv s → GInv (poolGaugesLoop denom hs ds s).2 :=
  poolGaugesLoop_ind GInv denom hs (fun s d hg => createGauge_ginv s hg streamerAddr (by decide) true denom d hs [] s.now 1)

/-- `MsgAddToGauge` by any account other than the incentives module account keeps the gauge invariant -/
theorem addToGauge_ginv (s : State) (hg : GInv s) (o : Nat) (hw : o ≠ incAddr) (gid : Nat) (c : Coins) :
    GInv (addToGauge s o gid c).2 := by
  rcases addToGauge_shape s o gid c with h | ⟨g, b, hgg, hsend, h⟩ <;> rw [h]
  · exact hg
  · obtain ⟨_, _, _, hgid, hmem⟩ := getG_some hg.ids hgg
    refine (hg.setGauge (v := { g with coins := Coins.add g.coins c }) hgg hgid rfl b ?_ ?_).1
    · intro i
      show amt g.distributed i ≤ amt (Coins.add g.coins c) i
      rw [amt_add]; have := hg.bounded g hmem i; omega
    · intro i
      have hb := (Bank.send_some hsend hw).2 incAddr i
      rw [if_neg (fun x => hw x.symm), if_pos rfl] at hb
      have := hg.bounded g hmem i
      show amt (Coins.add g.coins c) i - amt g.distributed i + _ ≤ amt g.coins i - amt g.distributed i + _
      rw [amt_add, hb]
      omega

theorem step_ginv (s : State) (op : Op) (hg : GInv s) (hw : op.wf) : GInv (step s op).2 := by
  have frame : ∀ s' : State, Same s s' → GInv s' := fun _ h => h.ginv hg
  unfold step
  by_cases hh : s.halted = true
  · rw [if_pos hh]; exact hg
  rw [if_neg hh]
  cases op with
  | begin dt => exact (beginBlock_spec s dt hg).1
  | end_ =>
    dsimp only
    cases h : streamerEndBlock s with
    | ok s' => exact (strDistribute_spec _ _ _ _ _ _ hg h).1
    | error e => exact frame _ ⟨rfl, rfl, rfl, rfl⟩
  | setMaxIter n => exact frame _ ⟨rfl, rfl, rfl, rfl⟩
  | fund a c =>
    refine ⟨hg.ids, hg.bounded, fun i => ?_⟩
    have := hg.solvent i
    show owed s.gauges i ≤ amt ((s.bank.credit a c).get incAddr) i
    rw [Bank.get_credit]
    by_cases hh : incAddr = a
    · rw [if_pos hh, ← hh]; omega
    · rw [if_neg hh]; omega
  | locks ls => exact ⟨hg.ids, hg.bounded, hg.solvent⟩
  | rollapp r o l => exact ⟨hg.ids, hg.bounded, hg.solvent⟩
  | rollappGauge r =>
    rcases createRollappGauge_shape s r with h | h <;> dsimp only <;> rw [h]
    · exact hg
    · exact GInv_append s hg _ s.bank rfl rfl (fun i => rfl)
  | createGauge o p d du hs c st n => exact createGauge_ginv s hg o hw p d du hs c st n
  | addToGauge o gid c => exact addToGauge_ginv s hg o hw gid c
  | createStream sp c rs st e n => exact frame _ (createStream_same s sp c rs st e n)
  | terminateStream id => exact frame _ (terminateStream_same s id)
  | replaceDistr id rs => exact frame _ (replaceDistr_same s id rs)
  | updateDistr id rs => exact frame _ (updateDistr_same s id rs)
  | distribution rs => exact frame _ ⟨rfl, rfl, rfl, rfl⟩
  | poolGauges d hs => exact poolGaugesLoop_ginv d hs lockableDurations s hg

theorem run_ginv : ∀ (ops : List Op) (s : State), GInv s → (∀ op ∈ ops, op.wf) → GInv (run s ops) := by
  intro ops
  induction ops with
  | nil => intro s h _; exact h
  | cons op rest ih =>
    intro s h hw
    unfold run
    exact ih _ (step_ginv s op h (hw op List.mem_cons_self)) (fun o ho => hw o (List.mem_cons_of_mem _ ho))

theorem init_ginv (now mi : Nat) : GInv (init now mi) :=
  ⟨by intro k hk; simp [init] at hk, by intro g hg; simp [init] at hg, by intro i; simp [init, owed]⟩

/-- a block (begin or end) pays only legitimate, non-blocked recipients and debits nobody -/
theorem step_pay (s : State) (op : Op) (hg : GInv s) (hop : (∃ dt, op = .begin dt) ∨ op = .end_) : Pay s (step s op).2 := by
  unfold step
  split
  · exact Pay.refl _
  · rcases hop with ⟨dt, h⟩ | h
    · subst h; exact (beginBlock_spec s dt hg).2
    · subst h
      simp only
      cases h : streamerEndBlock s with
      | ok s' => exact (strDistribute_spec _ _ _ _ _ _ hg h).2
      | error e => exact (Same.pay (s := s) (s' := { s with halted := true }) ⟨rfl, rfl, rfl, rfl⟩)

end DymVerif.Incent
