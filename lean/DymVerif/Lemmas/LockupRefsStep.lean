import DymVerif.Lemmas.LockupRefsSim
/-
  Lemmas/LockupRefsStep — every MESSAGE of the reference-level machine (Model/LockupRefs) does what
  the message of M-Lockup does, keeps the reference store the image of the lock table, raises no
  reference fault, and creates no lock owned by a blocked recipient (`Good`).
-/
namespace DymVerif.Lockup
open DymVerif.Genesis

/-- the result `r` of a reference-level operation against the result `b` of M-Lockup's operation -/
structure Good (B : Actor → Bool) (r : RState × ROut) (b : State × Out) : Prop where
  state : r.1.s = b.1
  out : r.2 = .out b.2
  refs : RefsOk r.1.s.locks r.1.refs
  owners : ∀ l ∈ r.1.s.locks, B l.owner = false

theorem good_same {B : Actor → Bool} {rs : RState} (h : RInv B rs) (o : Out) :
    Good B (rs, .out o) (rs.s, o) := ⟨rfl, rfl, h.refs, h.owners⟩

/-- both machines refuse on the same guard, with the same error -/
theorem good_guard {B : Actor → Bool} {rs : RState} (h : RInv B rs) {c : Prop} [Decidable c] {e : Err}
    {x : RState × ROut} {y : State × Out} (hn : ¬ c → Good B x y) :
    Good B (if c then (rs, .out (.err e)) else x) (if c then (rs.s, .err e) else y) := by
  by_cases hc : c
  · rw [if_pos hc, if_pos hc]; exact good_same h _
  · rw [if_neg hc, if_neg hc]; exact hn hc

/-! ### MsgLockTokens -/

theorem lockTokensR_good {B : Actor → Bool} {rs : RState} (h : RInv B rs) (p : Params) (a d amt dur : Nat)
    (ha : B a = false) : Good B (lockTokensR p rs a d amt dur) (lockTokens p rs.s a d amt dur) := by
  unfold lockTokensR lockTokens
  refine good_guard h fun _ => good_guard h fun _ => good_guard h fun _ => ?_
  cases ht : toModule (chargeFee p rs.s a) a d amt with
  | none => exact good_same h _
  | some s2 =>
    obtain ⟨fr, _⟩ := frame_charge ht
    simp only [sameLock_lookup h]
    have hhead : rs.s.locks.find? (sameLock a d dur) = (rs.s.locks.filter (sameLock a d dur)).head? :=
      List.head?_filter.symm
    cases hfl : rs.s.locks.filter (sameLock a d dur) with
    | nil =>
      rw [hfl] at hhead
      simp only [List.head?_nil] at hhead
      simp only [hhead]
      have hfresh : ∀ l ∈ rs.s.locks, l.id ≠ (⟨rs.s.lastId + 1, a, dur, none, d, amt, none⟩ : Lock).id := by
        intro l hl; have := (h.inv.idle l hl).2; simp only; omega
      obtain ⟨r', hr', hok⟩ := refsOk_create h.refs hfresh
      simp only [hr']
      refine ⟨rfl, rfl, ?_, ?_⟩
      · simpa [createLock, fr.locks, fr.lastId] using hok
      · simp only [createLock, fr.locks, fr.lastId]
        exact forall_append h.owners ha
    | cons l rest =>
      rw [hfl] at hhead
      simp only [List.head?_cons] at hhead
      simp only [hhead]
      have hl : l ∈ rs.s.locks := (List.mem_filter.1 (hfl ▸ List.mem_cons_self : l ∈ rs.s.locks.filter _)).1
      refine ⟨rfl, rfl, ?_, ?_⟩
      · simp only [addToLock, fr.locks]
        exact refsOk_setLock_same h.refs h.inv.nodup hl ⟨rfl, rfl, rfl, rfl, rfl⟩
      · simp only [addToLock, fr.locks]
        exact forall_setLock h.owners (h.owners l hl)

/-! ### MsgBeginUnlocking -/

theorem beginUnlockingR_good {B : Actor → Bool} {rs : RState} (h : RInv B rs) (a id : Nat) (c : Option (Denom × Nat)) :
    Good B (beginUnlockingR rs a id c) (beginUnlocking rs.s a id c) := by
  unfold beginUnlockingR beginUnlocking
  refine good_guard h fun _ => ?_
  cases hf : findLock rs.s.locks id with
  | none => exact good_same h _
  | some l =>
    obtain ⟨hl, _⟩ := findLock_some hf
    dsimp only
    refine good_guard h fun _ => good_guard h fun _ => good_guard h fun hu => ?_
    have hu : l.isUnlocking = false := Bool.eq_false_iff.2 hu
    have hfresh : ∀ x ∈ rs.s.locks, x.id ≠ rs.s.lastId + 1 := by
      intro x hx; have := (h.inv.idle x hx).2; omega
    by_cases h4 : isPartial c l = true
    · simp only [if_pos h4]
      -- the rest keeps its references; the split lock gets the eight references of an unlocking lock
      have hrest : RefsOk (setLock rs.s.locks { l with amount := l.amount - reqAmt c }) rs.refs :=
        refsOk_setLock_same h.refs h.inv.nodup hl ⟨rfl, rfl, rfl, rfl, rfl⟩
      have hfresh' : ∀ x ∈ setLock rs.s.locks { l with amount := l.amount - reqAmt c },
          x.id ≠ ({ splitOf rs.s l (reqAmt c) with
                    endTime := some (rs.s.now + (splitOf rs.s l (reqAmt c)).duration) } : Lock).id := by
        intro x hx
        obtain ⟨o, ho, hid⟩ := mem_setLock_old hx
        rw [← hid]; exact hfresh o ho
      obtain ⟨r', hr', hok⟩ := refsOk_add_fresh hrest
        (n' := ⟨rs.s.lastId + 1, l.owner, l.duration, some (rs.s.now + l.duration), l.denom, reqAmt c, some rs.s.now⟩)
        (d := splitOf rs.s l (reqAmt c)) (queueOf false) hfresh' rfl ⟨rfl, rfl, rfl, rfl, rfl⟩
      simp only [beginUnlockRefs, hr']
      refine ⟨rfl, rfl, hok, ?_⟩
      simp only [splitUnlock]
      exact forall_append (forall_setLock h.owners (h.owners l hl)) (h.owners l hl)
    · simp only [h4]
      have hq : queueOf false = queueOf l.isUnlocking := by rw [hu]
      obtain ⟨r', hr', hok⟩ := refsOk_move h.refs h.inv.nodup hl
        (n := { l with endTime := some (rs.s.now + l.duration) })
        (n' := { l with endTime := some (rs.s.now + l.duration), startedAt := some rs.s.now })
        rfl ⟨rfl, rfl, rfl, rfl, rfl⟩
      rw [← hq] at hr'
      simp only [beginUnlockRefs, hr', Bool.false_eq_true, if_false]
      refine ⟨rfl, rfl, hok, ?_⟩
      simp only [startUnlock]
      exact forall_setLock h.owners (h.owners l hl)

/-! ### MsgExtendLockup -/

theorem extendLockupR_good {B : Actor → Bool} {rs : RState} (h : RInv B rs) (a id dur : Nat) :
    Good B (extendLockupR rs a id dur) (extendLockup rs.s a id dur) := by
  unfold extendLockupR extendLockup
  refine good_guard h fun _ => ?_
  cases hf : findLock rs.s.locks id with
  | none => exact good_same h _
  | some l =>
    obtain ⟨hl, _⟩ := findLock_some hf
    dsimp only
    refine good_guard h fun _ => good_guard h fun hu => good_guard h fun _ => ?_
    have hu : l.isUnlocking = false := Bool.eq_false_iff.2 hu
    have hq : queueOf false = queueOf l.isUnlocking := by rw [hu]
    obtain ⟨r', hr', hok⟩ := refsOk_move h.refs h.inv.nodup hl
      (n := { l with duration := dur }) (n' := { l with duration := dur }) rfl ⟨rfl, rfl, rfl, rfl, rfl⟩
    rw [← hq] at hr'
    simp only [hr']
    refine ⟨rfl, rfl, hok, ?_⟩
    simp only [extendTo]
    exact forall_setLock h.owners (h.owners l hl)

/-! ### MsgForceUnlock -/

/-- `ForceUnlock` of a stored lock on the references: whatever its state, all its references go -/
theorem forceRefs_stored {locks : List Lock} {refs : Refs} (h : RefsOk locks refs)
    (hn : (locks.map (·.id)).Nodup) {l : Lock} (hl : l ∈ locks) (now : Nat) :
    ∃ r', forceRefs refs now l = some r' ∧ RefsOk (delLock locks l.id) r' := by
  unfold forceRefs
  cases hu : l.isUnlocking with
  | true =>
    refine ⟨_, rfl, ?_⟩
    have := refsOk_remove h hn hl
    rwa [hu] at this
  | false =>
    simp only [Bool.false_eq_true, if_false]
    have hq : queueOf false = queueOf l.isUnlocking := by rw [hu]
    obtain ⟨r1, hr1, hok1⟩ := refsOk_move h hn hl
      (n := { l with endTime := some (now + l.duration) })
      (n' := { l with endTime := some (now + l.duration) }) rfl ⟨rfl, rfl, rfl, rfl, rfl⟩
    rw [← hq] at hr1
    simp only [beginUnlockRefs, hr1]
    refine ⟨_, rfl, ?_⟩
    have hmem : ({ l with endTime := some (now + l.duration) } : Lock) ∈
        setLock locks { l with endTime := some (now + l.duration) } := mem_setLock_new hl rfl
    have := refsOk_remove hok1 (setLock_nodup hn _) hmem
    rw [delLock_setLock rfl] at this
    exact this

/-- `ForceUnlock` of the split lock of a partial force-unlock (stored without references, never in
    the table of the model): the reference store ends as it began -/
theorem forceRefs_split {locks : List Lock} {refs : Refs} (h : RefsOk locks refs)
    (hs : IdSorted locks) {sp : Lock} (hfresh : ∀ l ∈ locks, l.id < sp.id) (now : Nat) :
    ∃ r', forceRefs refs now sp = some r' ∧ RefsOk locks r' := by
  have hne : ∀ l ∈ locks, l.id ≠ sp.id := fun l hl => Nat.ne_of_lt (hfresh l hl)
  unfold forceRefs
  cases hu : sp.isUnlocking with
  | true => exact ⟨_, rfl, refsOk_delete_absent h _ hne⟩
  | false =>
    simp only [Bool.false_eq_true, if_false]
    obtain ⟨r1, hr1, hok1⟩ := refsOk_add_fresh h
      (n := { sp with endTime := some (now + sp.duration) })
      (n' := { sp with endTime := some (now + sp.duration) }) (d := sp) (queueOf false) hne rfl
      ⟨rfl, rfl, rfl, rfl, rfl⟩
    simp only [beginUnlockRefs, hr1]
    refine ⟨_, rfl, ?_⟩
    have hnd : ((locks ++ [({ sp with endTime := some (now + sp.duration) } : Lock)]).map (·.id)).Nodup :=
      (idSorted_append_fresh hs ({ sp with endTime := some (now + sp.duration) } : Lock) hfresh).nodup
    have := refsOk_remove hok1 hnd (List.mem_append_right _ List.mem_cons_self)
    rw [delLock_append_fresh (n := ({ sp with endTime := some (now + sp.duration) } : Lock)) hne] at this
    exact this

theorem forceUnlockR_good {B : Actor → Bool} {rs : RState} (h : RInv B rs) (p : Params) (a id : Nat)
    (c : Option (Denom × Nat)) :
    Good B (forceUnlockR B p rs a id c) (forceUnlock p rs.s a id c) := by
  unfold forceUnlockR forceUnlock
  refine good_guard h fun _ => ?_
  cases hf : findLock rs.s.locks id with
  | none => exact good_same h _
  | some l =>
    obtain ⟨hl, _⟩ := findLock_some hf
    dsimp only
    refine good_guard h fun _ => good_guard h fun _ => good_guard h fun _ => ?_
    simp only [h.owners l hl, Bool.false_eq_true, if_false]
    by_cases h5 : isPartial c l = true
    · simp only [if_pos h5]
      cases hm : fromModule rs.s l.owner l.denom (reqAmt c) with
      | none => exact good_same h _
      | some s1 =>
        have hlk := (fromModule_some hm).1.locks
        have hfresh : ∀ x ∈ rs.s.locks, x.id < (splitOf rs.s l (reqAmt c)).id := by
          intro x hx; have := (h.inv.idle x hx).2; simp only [splitOf]; omega
        obtain ⟨r', hr', hok⟩ := forceRefs_split h.refs h.sorted hfresh rs.s.now
        simp only [hr']
        refine ⟨rfl, rfl, ?_, ?_⟩
        · simp only [shrinkLock, hlk]
          exact refsOk_setLock_same hok h.inv.nodup hl ⟨rfl, rfl, rfl, rfl, rfl⟩
        · simp only [shrinkLock, hlk]
          exact forall_setLock h.owners (h.owners l hl)
    · simp only [h5]
      cases hm : fromModule rs.s l.owner l.denom l.amount with
      | none => exact good_same h _
      | some s1 =>
        have hlk := (fromModule_some hm).1.locks
        obtain ⟨r', hr', hok⟩ := forceRefs_stored h.refs h.inv.nodup hl rs.s.now
        simp only [hr', Bool.false_eq_true, if_false]
        refine ⟨rfl, rfl, ?_, ?_⟩
        · simpa [removeLock, hlk] using hok
        · simp only [removeLock, hlk]
          exact forall_delLock _ h.owners

end DymVerif.Lockup
