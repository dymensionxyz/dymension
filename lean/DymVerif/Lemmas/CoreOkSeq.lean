/-
  Lemmas/CoreOkSeq — what an accepted x/sequencer message did: for each handler of the bond / opt-in /
  kick / punish group, the guards that held and the state it returned, read off the definition once.
-/
import DymVerif.Lemmas.CoreBasic
namespace DymVerif.Core

theorem sendToModule_ok {s s1 : St} {q q1 : Seq} {amt : Nat} (e : sendToModule s q amt = .ok (s1, q1)) :
    amt ≤ getBal s.bal q.addr ∧
    s1 = { s with bal := setBal s.bal q.addr (getBal s.bal q.addr - amt), modBal := s.modBal + amt } ∧
    q1 = { q with tokens := q.tokens + amt } := by
  unfold sendToModule at e
  by_cases h : getBal s.bal q.addr < amt
  · rw [if_pos h] at e; cases e
  · rw [if_neg h] at e; cases e; exact ⟨Nat.le_of_not_lt h, rfl, rfl⟩

theorem sendFromModule_ok {s s1 : St} {q q1 : Seq} {amt : Nat} {to : Addr}
    (e : sendFromModule s q amt to = .ok (s1, q1)) :
    amt ≤ q.tokens ∧ blockedAddr to = false ∧ amt ≤ s.modBal ∧
    s1 = { s with bal := setBal s.bal to (getBal s.bal to + amt), modBal := s.modBal - amt } ∧
    q1 = { q with tokens := q.tokens - amt } := by
  unfold sendFromModule at e
  by_cases h1 : q.tokens < amt
  · rw [if_pos h1] at e; cases e
  rw [if_neg h1] at e
  cases h2 : blockedAddr to
  · rw [h2] at e
    by_cases h3 : s.modBal < amt
    · rw [if_neg Bool.false_ne_true, if_pos h3] at e; cases e
    · rw [if_neg Bool.false_ne_true, if_neg h3] at e; cases e
      exact ⟨Nat.le_of_not_lt h1, rfl, Nat.le_of_not_lt h3, rfl, rfl⟩
  · rw [h2, if_pos rfl] at e; cases e

theorem burn_ok {s s1 : St} {q q1 : Seq} {amt : Nat} (e : burn s q amt = .ok (s1, q1)) :
    amt ≤ q.tokens ∧ amt ≤ s.modBal ∧
    s1 = { s with modBal := s.modBal - amt, burned := s.burned + amt } ∧
    q1 = { q with tokens := q.tokens - amt } := by
  unfold burn at e
  by_cases h1 : q.tokens < amt
  · rw [if_pos h1] at e; cases e
  by_cases h3 : s.modBal < amt
  · rw [if_neg h1, if_pos h3] at e; cases e
  · rw [if_neg h1, if_neg h3] at e; cases e
    exact ⟨Nat.le_of_not_lt h1, Nat.le_of_not_lt h3, rfl, rfl⟩

/-- the reward part of a slash, in the units of the bond -/
def slashReward (mul : Dec) (amt : Nat) : Nat := ((mul.mulInt amt).truncateInt).toNat

/-- a slash is an optional payment of the reward to the rewardee followed by a burn of the rest -/
theorem slash_ok {s s1 : St} {q q1 : Seq} {amt : Nat} {mul : Dec} {rw : Option Addr}
    (e : slash s q amt mul rw = .ok (s1, q1)) :
    ∃ s0 q0, ((slashReward mul amt = 0 ∧ s0 = s ∧ q0 = q) ∨
        (slashReward mul amt ≠ 0 ∧ ∃ to, rw = some to ∧ sendFromModule s q (slashReward mul amt) to = .ok (s0, q0))) ∧
      burn s0 q0 (amt - slashReward mul amt) = .ok (s1, q1) := by
  unfold slash at e
  dsimp only at e
  by_cases h0 : slashReward mul amt = 0
  · rw [show ((mul.mulInt amt).truncateInt).toNat = slashReward mul amt from rfl, if_pos h0] at e
    exact ⟨s, q, Or.inl ⟨h0, rfl, rfl⟩, e⟩
  · rw [show ((mul.mulInt amt).truncateInt).toNat = slashReward mul amt from rfl, if_neg h0] at e
    cases rw with
    | none => cases e
    | some to =>
      dsimp only at e
      cases hs : sendFromModule s q (slashReward mul amt) to with
      | error _ => rw [hs] at e; cases e
      | ok x =>
        obtain ⟨s0, q0⟩ := x
        rw [hs] at e
        exact ⟨s0, q0, Or.inr ⟨h0, to, rfl, hs⟩, e⟩

/-- a slash with multiplier 0 pays no reward: it is a burn, whoever is named as rewardee -/
theorem slash_zero_mul (s : St) (q : Seq) (amt : Nat) (rw : Option Addr) : slash s q amt ⟨0⟩ rw = burn s q amt := by
  unfold slash
  have h0 : ((Dec.mulInt ⟨0⟩ (amt : Int)).truncateInt).toNat = 0 := by
    unfold Dec.mulInt Dec.truncateInt chopTrunc decP; simp
  simp only [h0]
  rfl

/-- a successful `TryUnbond`: the sequencer holds no role and has no unfinalized height; the amount is the
    whole bond or leaves at least the rollapp's minimum; the record returned is unbonded when nothing is left -/
theorem tryUnbond_ok {s s1 : St} {q q1 : Seq} {amt : Nat} (e : tryUnbond s q amt = .ok (s1, q1)) :
    isProposer s q = false ∧ isSuccessor s q = false ∧ s.seqH.any (·.1 == q.addr) = false ∧
    ∃ r q0, getRa s q.rollapp = some r ∧ (amt = q.tokens ∨ amt + r.minBond ≤ q.tokens) ∧
      sendFromModule s q amt q.addr = .ok (s1, q0) ∧
      q1 = if q0.tokens = 0 then { q0 with bonded := false } else q0 := by
  unfold tryUnbond at e
  cases hp : isProposer s q
  case true => rw [hp] at e; cases e
  cases hs : isSuccessor s q
  case true => rw [hp, hs] at e; cases e
  cases hh : s.seqH.any (·.1 == q.addr)
  case true => rw [hp, hs, hh] at e; cases e
  rw [hp, hs, hh] at e
  cases hg : getRa s q.rollapp with
  | none => rw [hg] at e; cases e
  | some r =>
    rw [hg] at e
    dsimp only at e
    by_cases hc : ((amt != q.tokens) && decide ((q.tokens : Int) - r.minBond < amt)) = true
    · rw [if_pos hc] at e; simp at e
    · rw [if_neg hc] at e
      cases hsf : sendFromModule s q amt q.addr with
      | error _ => rw [hsf] at e; simp at e
      | ok x =>
        obtain ⟨s0, q0⟩ := x
        rw [hsf] at e
        simp only [Bool.false_or, Bool.false_eq_true, if_false, Except.ok.injEq, Prod.mk.injEq] at e
        refine ⟨rfl, rfl, rfl, r, q0, rfl, ?_, by rw [e.1], e.2.symm⟩
        by_cases ha : amt = q.tokens
        · exact Or.inl ha
        · right
          have : ¬ ((q.tokens : Int) - r.minBond < amt) := by
            intro hlt; exact hc (by simp [ha, hlt])
          omega

-- ---------------------------------------------------------------- what the money movers touch

namespace Fork

/-- only bank balances, the module balance and the burned total differ -/
def BalOnly (s s1 : St) : Prop := ∃ b m u, s1 = { s with bal := b, modBal := m, burned := u }

/-- what `sendToModule`, `sendFromModule`, `burn`, `slash` and `tryUnbond` may change: money in the state,
    `tokens` and `bonded` of the record they are given -/
def MoneyOnly (s s1 : St) (q q1 : Seq) : Prop := BalOnly s s1 ∧ ∃ t bd, q1 = { q with tokens := t, bonded := bd }

theorem BalOnly.trans {a b c : St} (x : BalOnly a b) (y : BalOnly b c) : BalOnly a c := by
  obtain ⟨_, _, _, rfl⟩ := x
  obtain ⟨_, _, _, rfl⟩ := y
  exact ⟨_, _, _, rfl⟩

theorem sendToModule_money {s s1 : St} {q q1 : Seq} {amt : Nat} (e : sendToModule s q amt = .ok (s1, q1)) :
    MoneyOnly s s1 q q1 := by
  obtain ⟨_, rfl, rfl⟩ := sendToModule_ok e
  exact ⟨⟨_, _, _, rfl⟩, _, _, rfl⟩

theorem sendFromModule_money {s s1 : St} {q q1 : Seq} {amt : Nat} {to : Addr}
    (e : sendFromModule s q amt to = .ok (s1, q1)) : MoneyOnly s s1 q q1 := by
  obtain ⟨_, _, _, rfl, rfl⟩ := sendFromModule_ok e
  exact ⟨⟨_, _, _, rfl⟩, _, _, rfl⟩

theorem burn_money {s s1 : St} {q q1 : Seq} {amt : Nat} (e : burn s q amt = .ok (s1, q1)) : MoneyOnly s s1 q q1 := by
  obtain ⟨_, _, rfl, rfl⟩ := burn_ok e
  exact ⟨⟨_, _, _, rfl⟩, _, _, rfl⟩

/-- a slash pays a reward `x` out of the bond and burns the rest of `amt` -/
theorem slash_tokens {s s1 : St} {q q1 : Seq} {amt : Nat} {mul : Dec} {rw : Option Addr}
    (e : slash s q amt mul rw = .ok (s1, q1)) :
    BalOnly s s1 ∧ ∃ x, q1 = { q with tokens := q.tokens - x - (amt - x) } := by
  obtain ⟨s0, q0, h0, hb⟩ := slash_ok e
  obtain ⟨_, _, rfl, rfl⟩ := burn_ok hb
  rcases h0 with ⟨hz, rfl, rfl⟩ | ⟨_, to, _, hs⟩
  · exact ⟨⟨_, _, _, rfl⟩, 0, by rw [hz]; rfl⟩
  · obtain ⟨_, _, _, rfl, rfl⟩ := sendFromModule_ok hs
    exact ⟨⟨_, _, _, rfl⟩, _, rfl⟩

theorem slash_money {s s1 : St} {q q1 : Seq} {amt : Nat} {mul : Dec} {rw : Option Addr}
    (e : slash s q amt mul rw = .ok (s1, q1)) : MoneyOnly s s1 q q1 := by
  obtain ⟨h, x, rfl⟩ := slash_tokens e
  exact ⟨h, _, _, rfl⟩

theorem tryUnbond_money {s s1 : St} {q q1 : Seq} {amt : Nat} (e : tryUnbond s q amt = .ok (s1, q1)) :
    MoneyOnly s s1 q q1 := by
  obtain ⟨_, _, _, r, q0, _, _, hs, rfl⟩ := tryUnbond_ok e
  obtain ⟨_, _, _, rfl, rfl⟩ := sendFromModule_ok hs
  refine ⟨⟨_, _, _, rfl⟩, ?_⟩
  split
  · exact ⟨_, _, rfl⟩
  · exact ⟨_, _, rfl⟩

end Fork

/-- the record `MsgCreateSequencer` starts from -/
def newSeq (a : Addr) (ra : Nat) : Seq :=
  { addr := a, rollapp := ra, bonded := true, optedIn := true, tokens := 0, dishonor := 0, notice := none }

/-- the state with one more sequencer record -/
def addSeq (s : St) (q : Seq) : St := { s with seqs := insertSorted (fun x y => decide (x.addr < y.addr)) q s.seqs }

theorem createSeq_ok {s s' : St} {a : Addr} {ra bond : Nat} {d : Bool} (e : createSeq s a ra bond d = .ok s') :
    ∃ r s1 q1, getRa s ra = some r ∧ getSeq s a = none ∧ bond ≠ 0 ∧ d = true ∧ r.minBond ≤ bond ∧
      sendToModule (if r.launched then s else setRa s { r with launched := true }) (newSeq a ra) bond = .ok (s1, q1) ∧
      ∃ r2, getRa (addSeq s1 q1) ra = some r2 ∧
        ((r2.proposer ≠ none ∧ s' = addSeq s1 q1) ∨
         (r2.proposer = none ∧ recoverFromSentinel (addSeq s1 q1) ra = .ok s')) := by
  unfold createSeq at e
  cases hg : getRa s ra with
  | none => rw [hg] at e; cases e
  | some r =>
    rw [hg] at e
    dsimp only at e
    cases hq : getSeq s a with
    | some _ => rw [hq] at e; simp at e
    | none =>
      rw [hq] at e
      by_cases hb : bond = 0
      · rw [if_neg (by simp), if_pos hb] at e; cases e
      rw [if_neg (by simp), if_neg hb] at e
      cases d with
      | false => simp at e
      | true =>
        by_cases hm : bond < r.minBond
        · rw [if_neg (by simp), if_pos hm] at e; cases e
        rw [if_neg (by simp), if_neg hm] at e
        cases hs : sendToModule (if r.launched then s else setRa s { r with launched := true }) (newSeq a ra) bond with
        | error _ => unfold newSeq at hs; rw [hs] at e; cases e
        | ok x =>
          obtain ⟨s1, q1⟩ := x
          unfold newSeq at hs; rw [hs] at e
          dsimp only at e
          refine ⟨r, s1, q1, rfl, rfl, hb, rfl, Nat.le_of_not_lt hm, hs, ?_⟩
          cases hg2 : getRa (addSeq s1 q1) ra with
          | none => unfold addSeq at hg2; rw [hg2] at e; cases e
          | some r2 =>
            unfold addSeq at hg2; rw [hg2] at e
            dsimp only at e
            refine ⟨r2, rfl, ?_⟩
            cases hp : r2.proposer with
            | none => rw [hp] at e; exact Or.inr ⟨rfl, e⟩
            | some p =>
              rw [hp] at e
              simp only [Option.isNone_some, Bool.false_eq_true, if_false, Except.ok.injEq] at e
              exact Or.inl ⟨by simp, e.symm⟩

theorem increaseBond_ok {s s' : St} {a : Addr} {amt : Nat} {d : Bool} (e : increaseBond s a amt d = .ok s') :
    ∃ q s1 q1, getSeq s a = some q ∧ amt ≠ 0 ∧ d = true ∧ sendToModule s q amt = .ok (s1, q1) ∧ s' = setSeq s1 q1 := by
  unfold increaseBond at e
  cases hg : getSeq s a with
  | none => rw [hg] at e; cases e
  | some q =>
    rw [hg] at e
    dsimp only at e
    by_cases hb : amt = 0
    · rw [if_pos hb] at e; cases e
    rw [if_neg hb] at e
    cases d with
    | false => simp at e
    | true =>
      rw [if_neg (by simp)] at e
      cases hs : sendToModule s q amt with
      | error _ => rw [hs] at e; cases e
      | ok x =>
        obtain ⟨s1, q1⟩ := x
        rw [hs] at e
        cases e
        exact ⟨q, s1, q1, rfl, hb, rfl, hs, rfl⟩

theorem decreaseBond_ok {s s' : St} {a : Addr} {amt : Nat} (e : decreaseBond s a amt = .ok s') :
    ∃ q s1 q1, getSeq s a = some q ∧ amt ≠ 0 ∧ tryUnbond s q amt = .ok (s1, q1) ∧ s' = setSeq s1 q1 := by
  unfold decreaseBond at e
  cases hg : getSeq s a with
  | none => rw [hg] at e; cases e
  | some q =>
    rw [hg] at e
    dsimp only at e
    by_cases hb : amt = 0
    · rw [if_pos hb] at e; cases e
    rw [if_neg hb] at e
    cases hs : tryUnbond s q amt with
    | error _ => rw [hs] at e; cases e
    | ok x =>
      obtain ⟨s1, q1⟩ := x
      rw [hs] at e
      cases e
      exact ⟨q, s1, q1, rfl, hb, hs, rfl⟩

/-- the record of a proposer that announced its departure at time `T` -/
def noticed (q : Seq) (T : Nat) : Seq := { q with optedIn := false, notice := some T }

/-- an accepted `MsgUnbond`: no rotation is waiting for this sequencer's last block; a proposer starts its
    notice period (nothing is paid), anybody else is opted out and withdraws the whole bond -/
theorem unbond_ok {s s' : St} {a : Addr} (e : unbond s a = .ok s') :
    ∃ q r, getSeq s a = some q ∧ getRa s q.rollapp = some r ∧
      (awaitingLast s r = false ∨ (isProposer s q = false ∧ isSuccessor s q = false)) ∧
      ((isProposer s q = true ∧ forkLatestAllowed r = true ∧ noticeInProgress q s.t = false ∧
          s' = setSeq { s with nq := insertSorted ltPair (s.t + s.sqp.noticePeriod, a) s.nq }
                 (noticed q (s.t + s.sqp.noticePeriod))) ∨
       (isProposer s q = false ∧ ∃ s1 q1, tryUnbond s { q with optedIn := false } q.tokens = .ok (s1, q1) ∧
          s' = setSeq s1 q1)) := by
  unfold unbond at e
  cases hg : getSeq s a with
  | none => rw [hg] at e; cases e
  | some q =>
    rw [hg] at e
    dsimp only at e
    cases hr : getRa s q.rollapp with
    | none => rw [hr] at e; cases e
    | some r =>
      rw [hr] at e
      dsimp only at e
      refine ⟨q, r, rfl, hr, ?_⟩
      by_cases hrot : (awaitingLast s r && (isProposer s q || isSuccessor s q)) = true
      · rw [if_pos hrot] at e; cases e
      rw [if_neg hrot] at e
      refine ⟨?_, ?_⟩
      · cases h1 : awaitingLast s r
        · exact Or.inl rfl
        · right
          cases h2 : isProposer s q <;> cases h3 : isSuccessor s q <;> simp [h1, h2, h3] at hrot ⊢
      · cases hp : isProposer s q
        · right
          rw [hp, if_neg Bool.false_ne_true] at e
          cases hs : tryUnbond s { q with optedIn := false } q.tokens with
          | error _ => rw [hs] at e; cases e
          | ok x =>
            obtain ⟨s1, q1⟩ := x
            rw [hs] at e
            cases e
            exact ⟨rfl, s1, q1, rfl, rfl⟩
        · left
          rw [hp, if_pos rfl] at e
          cases hf : forkLatestAllowed r
          · rw [hf] at e; simp at e
          cases hn : noticeInProgress q s.t
          · rw [hf, hn] at e
            simp only [Bool.not_true, Bool.false_eq_true, if_false, Except.ok.injEq] at e
            exact ⟨rfl, rfl, rfl, e.symm⟩
          · rw [hf, hn] at e; simp at e

/-- a proposer whose `MsgUnbond` is accepted has not started a notice before: no rotation is waiting
    (its notice has not elapsed) and none is in progress -/
theorem unbond_fresh {s : St} {a : Addr} {q : Seq} {r : Rollapp} (hg : getSeq s a = some q)
    (hgr : getRa s q.rollapp = some r)
    (hrot : awaitingLast s r = false ∨ (isProposer s q = false ∧ isSuccessor s q = false))
    (hisp : isProposer s q = true) (hnip : noticeInProgress q s.t = false) :
    r.proposer = some a ∧ q.notice = none := by
  have hpr : r.proposer = some a := by
    unfold isProposer at hisp; rw [hgr] at hisp; rw [← getSeq_addr hg]; simpa using hisp
  refine ⟨hpr, ?_⟩
  have haw : awaitingLast s r = false := by
    rcases hrot with h1 | h1
    · exact h1
    · rw [hisp] at h1; cases h1.1
  unfold awaitingLast at haw
  rw [hpr] at haw
  simp only [hg] at haw
  unfold noticeElapsed at haw
  unfold noticeInProgress at hnip
  cases hn : q.notice with
  | none => rfl
  | some t =>
    rw [hn] at haw hnip
    simp at haw hnip
    omega

theorem optIn_ok {s s' : St} {a : Addr} {v : Bool} (e : optIn s a v = .ok s') :
    ∃ q r, getSeq s a = some q ∧ q.notice = none ∧ getRa (setSeq s { q with optedIn := v }) q.rollapp = some r ∧
      ((r.proposer ≠ none ∧ s' = setSeq s { q with optedIn := v }) ∨
       (r.proposer = none ∧ recoverFromSentinel (setSeq s { q with optedIn := v }) q.rollapp = .ok s')) := by
  unfold optIn at e
  cases hg : getSeq s a with
  | none => rw [hg] at e; cases e
  | some q =>
    rw [hg] at e
    dsimp only at e
    cases hn : q.notice.isSome
    case true => rw [hn] at e; cases e
    rw [hn, if_neg Bool.false_ne_true] at e
    cases hr : getRa (setSeq s { q with optedIn := v }) q.rollapp with
    | none => rw [hr] at e; cases e
    | some r =>
      rw [hr] at e
      dsimp only at e
      refine ⟨q, r, rfl, ?_, hr, ?_⟩
      · cases h : q.notice with
        | none => rfl
        | some _ => rw [h] at hn; cases hn
      cases hp : r.proposer with
      | none => rw [hp] at e; exact Or.inr ⟨rfl, e⟩
      | some p =>
        rw [hp] at e
        simp only [Option.isNone_some, Bool.false_eq_true, if_false, Except.ok.injEq] at e
        exact Or.inl ⟨by simp, e.symm⟩

/-- an accepted `MsgKickProposer`: a bonded, opted-in sequencer of the rollapp, not the proposer itself, the
    proposer's dishonor at or above the threshold; the proposer is removed, the rollapp forked to its latest
    height, the kicker's record (as read at the start) written back, a new proposer chosen -/
theorem kick_ok {s s' : St} {a : Addr} (e : kick s a = .ok s') :
    ∃ k r pa pq s3, getSeq s a = some k ∧ k.bonded = true ∧ k.optedIn = true ∧ getRa s k.rollapp = some r ∧
      r.proposer = some pa ∧ getSeq s pa = some pq ∧ a ≠ pa ∧ s.sqp.kickThr ≤ pq.dishonor ∧
      hardForkToLatest (abruptRemoveProposer s r.id) r.id = .ok s3 ∧
      recoverFromSentinel (setSeq s3 { k with optedIn := true }) r.id = .ok s' := by
  unfold kick at e
  cases hg : getSeq s a with
  | none => rw [hg] at e; cases e
  | some k =>
    rw [hg] at e
    dsimp only at e
    by_cases hpot : (!(k.bonded && k.optedIn)) = true
    · rw [if_pos hpot] at e; cases e
    rw [if_neg hpot] at e
    have hb : k.bonded = true ∧ k.optedIn = true := by
      cases h1 : k.bonded <;> cases h2 : k.optedIn <;> simp [h1, h2] at hpot ⊢
    cases hr : getRa s k.rollapp with
    | none => rw [hr] at e; cases e
    | some r =>
      rw [hr] at e
      dsimp only at e
      cases hp : r.proposer with
      | none => rw [hp] at e; cases e
      | some pa =>
        rw [hp] at e
        dsimp only at e
        cases hq : getSeq s pa with
        | none => rw [hq] at e; cases e
        | some pq =>
          rw [hq] at e
          dsimp only at e
          by_cases hne : a = pa
          · rw [if_pos hne] at e; cases e
          rw [if_neg hne] at e
          by_cases ht : s.sqp.kickThr ≤ pq.dishonor
          · rw [if_neg (by simp [ht])] at e
            cases h3 : hardForkToLatest (abruptRemoveProposer s r.id) r.id with
            | error _ => rw [h3] at e; cases e
            | ok s3 =>
              rw [h3] at e
              exact ⟨k, r, pa, pq, s3, rfl, hb.1, hb.2, hr, hp, hq, hne, ht, h3, e⟩
          · rw [if_pos (by simp [ht])] at e; cases e

/-- the reward multiplier of `PunishSequencer`: one half when a rewardee is named -/
def punishMul (rw : Option Addr) : Dec := match rw with | some _ => ⟨500000000000000000⟩ | none => ⟨0⟩

theorem punish_ok {s s' : St} {a : Addr} {rw : Option Addr} (e : punish s a rw = .ok s') :
    ∃ q s1 q1, getSeq s a = some q ∧ slash s q q.tokens (punishMul rw) rw = .ok (s1, q1) ∧ s' = setSeq s1 q1 := by
  unfold punish at e
  cases hg : getSeq s a with
  | none => rw [hg] at e; cases e
  | some q =>
    rw [hg] at e
    cases rw with
    | none =>
      dsimp only at e
      cases hs : slash s q q.tokens ⟨0⟩ none with
      | error _ => rw [hs] at e; cases e
      | ok x => obtain ⟨s1, q1⟩ := x; rw [hs] at e; cases e; exact ⟨q, s1, q1, rfl, hs, rfl⟩
    | some to =>
      dsimp only at e
      cases hs : slash s q q.tokens ⟨500000000000000000⟩ (some to) with
      | error _ => rw [hs] at e; cases e
      | ok x => obtain ⟨s1, q1⟩ := x; rw [hs] at e; cases e; exact ⟨q, s1, q1, rfl, hs, rfl⟩

/-- the amount a liveness slash takes from a bond -/
def livenessAmt (sp : SeqParams) (tokens : Nat) : Nat :=
  min tokens (max sp.lsAbs ((sp.lsMul.mulInt tokens).truncateInt).toNat)

/-- `SlashLiveness` does nothing under the sentinel (or a proposer without record); else it slashes the
    proposer without rewardee and raises its dishonor -/
theorem slashLiveness_ok {s s' : St} {r : Rollapp} (e : slashLiveness s r = .ok s') :
    ((r.proposer = none ∨ ∃ a, r.proposer = some a ∧ getSeq s a = none) ∧ s' = s) ∨
    ∃ a q s1 q1, r.proposer = some a ∧ getSeq s a = some q ∧
      slash s q (livenessAmt s.sqp q.tokens) ⟨0⟩ none = .ok (s1, q1) ∧
      s' = setSeq s1 { q1 with dishonor := q1.dishonor + s1.sqp.dishonorL } := by
  unfold slashLiveness at e
  cases hp : r.proposer with
  | none => rw [hp] at e; cases e; exact Or.inl ⟨Or.inl rfl, rfl⟩
  | some a =>
    rw [hp] at e
    dsimp only at e
    cases hg : getSeq s a with
    | none => rw [hg] at e; cases e; exact Or.inl ⟨Or.inr ⟨a, rfl, hg⟩, rfl⟩
    | some q =>
      rw [hg] at e
      dsimp only at e
      right
      cases hs : slash s q (livenessAmt s.sqp q.tokens) ⟨0⟩ none with
      | error _ => unfold livenessAmt at hs; rw [hs] at e; cases e
      | ok x =>
        obtain ⟨s1, q1⟩ := x
        unfold livenessAmt at hs; rw [hs] at e
        cases e
        exact ⟨a, q, s1, q1, rfl, hg, hs, rfl⟩

end DymVerif.Core
