/-
  Lemmas/SponsShares — endorsement shares: `TotalShares` of a rollapp's endorsement is the sum over
  the votes of their power on the rollapp gauge (`ShareInv`), kept by vote / revoke / staking hooks;
  the snapshot taken at an epoch end then covers everybody's power.
-/
import DymVerif.Lemmas.SponsFrame
namespace DymVerif.Spons

/-- total shares of rollapp `r` in an endorsement list (endorsements have distinct rollapps) -/
def totalOf (es : List Endorsement) (r : Nat) : Int :=
  match es.find? (·.r == r) with
  | some e => e.total
  | none => 0

theorem totalOf_addShares (es : List Endorsement) (r r' : Nat) (p : Int) (h : (es.find? (·.r == r)).isSome) :
    totalOf (addShares es r' p) r = totalOf es r + (if r' = r then p else 0) := by
  unfold totalOf
  rw [find_addShares]
  cases hf : es.find? (·.r == r) with
  | none => rw [hf] at h; cases h
  | some e =>
    have her : e.r = r := by have := List.find?_some hf; simpa using this
    simp only [Option.map]
    by_cases hr : r' = r
    · subst hr; simp [her]
    · have : ¬ e.r = r' := by rw [her]; exact fun e => hr e.symm
      simp [this, hr]

theorem find_addShares_isSome (es : List Endorsement) (r r' : Nat) (p : Int) :
    ((addShares es r' p).find? (·.r == r)).isSome = (es.find? (·.r == r)).isSome := by
  rw [find_addShares]; cases es.find? (·.r == r) <;> rfl

/-- if exactly the gauge `gid` is rollapp `r`'s gauge, the update adds to `r`'s total the update's power on `gid` -/
theorem totalOf_updateShares (gs : List Gauge) (es : List Endorsement) (us : List GP) (r gid : Nat)
    (hg : ∀ g, raOf gs g = some r ↔ g = gid) (h : (es.find? (·.r == r)).isSome) :
    totalOf (updateShares gs es us) r = totalOf es r + gget us gid
    ∧ ((updateShares gs es us).find? (·.r == r)).isSome := by
  induction us generalizing es with
  | nil => exact ⟨(Int.add_zero _).symm, h⟩
  | cons u us ih =>
    rw [updateShares_cons]
    cases hra : raOf gs u.1 with
    | none =>
      have hu : u.1 ≠ gid := fun e => by rw [(hg u.1).mpr e] at hra; cases hra
      rw [gget_cons_ne u.2 us hu]
      exact ih es h
    | some r' =>
      have := ih (addShares es r' u.2) ((find_addShares_isSome es r r' u.2).trans h)
      refine ⟨?_, this.2⟩
      rw [this.1, totalOf_addShares es r r' u.2 h]
      by_cases hr : r' = r
      · rw [if_pos hr, gget_cons_eq u.2 us ((hg u.1).mp (hr ▸ hra)), Int.add_assoc]
      · rw [if_neg hr, Int.add_zero, gget_cons_ne u.2 us (fun e => hr (Option.some.inj (hra.symm.trans ((hg u.1).mpr e))))]

/-- the gauge table names exactly one rollapp gauge, `gid`, for rollapp `r`, whose endorsement exists -/
structure RaGauge (s : State) (r gid : Nat) : Prop where
  only : ∀ g, raOf s.gauges g = some r ↔ g = gid
  endo : (s.endorsements.find? (·.r == r)).isSome

/-- **ShareInv**: total shares of `r` = Σ over the votes of their power on `r`'s rollapp gauge -/
def ShareInv (s : State) (r gid : Nat) : Prop :=
  totalOf s.endorsements r = vsum (fun v => v.pow gid) s.votes

theorem Merged.total {s s' : State} {u : Dist} (h : Merged s s' u) {r gid : Nat} (hg : RaGauge s r gid) :
    totalOf s'.endorsements r = totalOf s.endorsements r + gget u.gauges gid ∧ RaGauge s' r gid := by
  have := totalOf_updateShares s.gauges s.endorsements u.gauges r gid hg.only hg.endo
  rw [h.endo]
  exact ⟨this.1, ⟨h.gauges ▸ hg.only, h.endo ▸ this.2⟩⟩

/-! the shares under the two moves; `WF` travels along: a `Drop` splits the sum over the votes, which needs distinct voters -/

theorem Drop.share {s s' : State} {a r gid : Nat} {v : Vote} (h : Drop s s' a v)
    (g : WF s ∧ ShareInv s r gid ∧ RaGauge s r gid) : WF s' ∧ ShareInv s' r gid ∧ RaGauge s' r gid := by
  have := h.toMerged.total g.2.2
  refine ⟨h.wf g.1, ?_, this.2⟩
  unfold ShareInv
  rw [this.1, h.votes, g.2.1, vsum_aerase _ g.1.keys h.had, gget_toDist_negate]; omega

theorem Put.share {s s' : State} {a r gid : Nat} {nv : Vote} (h : Put s s' a nv) (w : WeightsOK nv.weights)
    (g : WF s ∧ ShareInv s r gid ∧ RaGauge s r gid) : WF s' ∧ ShareInv s' r gid ∧ RaGauge s' r gid := by
  have := h.toMerged.total g.2.2
  refine ⟨h.wf w g.1, ?_, this.2⟩
  unfold ShareInv
  rw [this.1, h.votes, g.2.1, gget_toDist]
  show _ = nv.pow gid + vsum (fun v => v.pow gid) (aerase a s.votes)
  rw [aerase_of_none h.fresh]; exact Int.add_comm ..

theorem usum_nil_eq (gid : Nat) (l : List (Nat × Vote)) : usum [] gid l = vsum (fun v => v.gaugePower gid) l := by
  induction l with
  | nil => rfl
  | cons x xs ih => simp [usum, vsum, ih]

theorem vsum_congr {f g : Vote → Int} {l : List (Nat × Vote)} (h : ∀ x ∈ l, f x.2 = g x.2) : vsum f l = vsum g l := by
  induction l with
  | nil => rfl
  | cons x xs ih => simp only [vsum]; rw [h x (by simp), ih (fun y hy => h y (by simp [hy]))]

/-- at the end of a distribution epoch the snapshot of `r` becomes its total — by `ShareInv` the power on
    its rollapp gauge of all voters, none of whom is blacklisted any more -/
theorem epochEnd_cover {s : State} {r : Nat} {e : Endorsement} (wf : WF s) (he : s.endorsement? r = some e)
    (hs : ShareInv s r e.gaugeId) :
    (s.epochEnd true).endorsement? r = some { e with epoch := e.total } ∧ (s.epochEnd true).votes = s.votes ∧
    usum (s.epochEnd true).blacklist e.gaugeId (s.epochEnd true).votes = e.total := by
  refine ⟨by rw [epochEnd_true_endorsement?, he]; rfl, ?_⟩
  obtain ⟨f, _, e'⟩ := epochEnd_true s
  have he0 : s.endorsements.find? (·.r == r) = some e := he
  rw [e']
  refine ⟨rfl, ?_⟩
  show usum [] e.gaugeId s.votes = e.total
  rw [usum_nil_eq, vsum_congr (g := fun v => v.pow e.gaugeId)
    (fun x hx => gaugePowerW_eq_wpow (wf.votes x hx).nodup e.gaugeId), ← hs]
  unfold totalOf; rw [he0]

/-! ### ops that keep the gauge kinds, the totals and the votes -/

/-- if the lookups keep (id, kind) of the gauges and the totals of the endorsements and the votes stay,
    so do the rollapp gauge and the exact shares -/
theorem share_of_frame {s s' : State} (h : FrameK gkey0 Endorsement.total s s' ∧ s'.votes = s.votes) {r gid : Nat}
    (hg : RaGauge s r gid) (hs : ShareInv s r gid) : ShareInv s' r gid ∧ RaGauge s' r gid := by
  have ht : ∀ t : State, totalOf t.endorsements r = ((t.endorsement? r).map Endorsement.total).getD 0 := fun t => by
    unfold totalOf State.endorsement?
    cases t.endorsements.find? (fun e : Endorsement => e.r == r) <;> rfl
  refine ⟨?_, ⟨fun g => by rw [raOf_of_gk0 h.1.gk]; exact hg.only g, (endo_isSome_of_ek h.1.ek r).trans hg.endo⟩⟩
  unfold ShareInv
  rw [ht, h.1.ek, ← ht, h.2]; exact hs

/-! ### world building ops: appended gauges / endorsements -/

theorem raOf_append (gs : List Gauge) (ng : Gauge) (g : Nat) :
    raOf (gs ++ [ng]) g =
      match gs.find? (·.id == g) with
      | some _ => raOf gs g
      | none => if ng.id = g then kindRa ng.kind else none := by
  rw [raOf_eq_kindRa, raOf_eq_kindRa, List.find?_append]
  cases hf : gs.find? (·.id == g) with
  | some x => simp
  | none =>
    simp only [Option.none_or, List.find?_cons, List.find?_nil]
    by_cases hid : ng.id = g
    · simp [hid]
    · have : (ng.id == g) = false := by simpa using hid
      simp [this, hid]

theorem find_append_endo (es : List Endorsement) (ne : Endorsement) (r : Nat) :
    (es ++ [ne]).find? (·.r == r) =
      match es.find? (·.r == r) with
      | some e => some e
      | none => if ne.r = r then some ne else none := by
  rw [List.find?_append]
  cases hf : es.find? (·.r == r) with
  | some x => simp
  | none =>
    simp only [Option.none_or, List.find?_cons, List.find?_nil]
    by_cases hid : ne.r = r
    · simp [hid]
    · have : (ne.r == r) = false := by simpa using hid
      simp [this, hid]

/-- appending a gauge that is not `r`'s rollapp gauge keeps "`gid` is the one rollapp gauge of `r`" -/
theorem raOf_append_other {gs : List Gauge} {ng : Gauge} {r gid : Nat} (hk : kindRa ng.kind ≠ some r)
    (only : ∀ g, raOf gs g = some r ↔ g = gid) (g : Nat) : raOf (gs ++ [ng]) g = some r ↔ g = gid := by
  rw [raOf_append]
  cases hf : gs.find? (·.id == g) with
  | some x => exact only g
  | none =>
    have hra : raOf gs g = none := by rw [raOf_eq_kindRa, hf]; rfl
    show (if ng.id = g then kindRa ng.kind else none) = some r ↔ g = gid
    refine ⟨fun h1 => ?_, fun h1 => ?_⟩
    · split at h1
      · exact absurd h1 hk
      · cases h1
    · rw [(only g).mpr h1] at hra; cases hra

/-- appending the endorsement of a rollapp that has none yet -/
theorem find_append_fresh (es : List Endorsement) (ne : Endorsement) (hf : es.find? (·.r == ne.r) = none) (r : Nat) :
    (es ++ [ne]).find? (·.r == r) = if r = ne.r then some ne else es.find? (·.r == r) := by
  rw [find_append_endo]
  by_cases hr : r = ne.r
  · rw [hr, hf, if_pos rfl]
  · rw [if_neg hr]
    cases es.find? (·.r == r) with
    | some x => rfl
    | none => exact if_neg (Ne.symm hr)

/-- appending a gauge that is no rollapp gauge changes no gauge's rollapp -/
theorem raOf_append_none {gs : List Gauge} {ng : Gauge} (hk : kindRa ng.kind = none) (g : Nat) :
    raOf (gs ++ [ng]) g = raOf gs g := by
  rw [raOf_append]
  cases hf : gs.find? (·.id == g) with
  | some x => rfl
  | none =>
    show (if ng.id = g then kindRa ng.kind else none) = _
    rw [hk, ite_self, raOf_eq_kindRa, hf]; rfl

theorem addGauge_ra {s s1 : State} {g : Gauge} (h : s.addGauge g = .ok s1) :
    (∀ gid, raOf s1.gauges gid = raOf s.gauges gid) ∧ s1.endorsements = s.endorsements ∧ s1.votes = s.votes := by
  obtain ⟨⟨inc, rfl⟩, hnr, _⟩ := addGauge_ok h
  refine ⟨raOf_append_none ?_, rfl, rfl⟩
  show kindRa g.kind = none
  cases hk : g.kind with
  | rollapp r => exact absurd hk (hnr r)
  | asset => rfl
  | endorsement r => rfl

theorem addGauge_share {s s1 : State} {g : Gauge} {r gid : Nat} (h : s.addGauge g = .ok s1)
    (hg : RaGauge s r gid) (hs : ShareInv s r gid) : ShareInv s1 r gid ∧ RaGauge s1 r gid := by
  obtain ⟨hra, he, hv⟩ := addGauge_ra h
  refine ⟨?_, ⟨fun g => by rw [hra]; exact hg.only g, he ▸ hg.endo⟩⟩
  unfold ShareInv; rw [he, hv]; exact hs

/-- a new rollapp `r'` leaves the rollapp gauge and the shares of every OTHER rollapp as they are -/
theorem addRollapp_share {s s1 : State} {r' r gid : Nat} (h : s.addRollapp r' = .ok s1)
    (hg : RaGauge s r gid) (hs : ShareInv s r gid) : ShareInv s1 r gid ∧ RaGauge s1 r gid := by
  obtain ⟨hnone, rfl⟩ := addRollapp_ok h
  have hne : r' ≠ r := fun e => by
    have := hg.endo
    rw [← e, show s.endorsements.find? (·.r == r') = none from hnone] at this; cases this
  have hfind := (find_append_fresh s.endorsements ⟨r', s.lastGauge + 1, 0, 0⟩ hnone r).trans (if_neg (Ne.symm hne))
  have ht : totalOf (s.endorsements ++ [⟨r', s.lastGauge + 1, 0, 0⟩]) r = totalOf s.endorsements r := by
    unfold totalOf; rw [hfind]
  exact ⟨ht.trans hs, ⟨raOf_append_other (fun e => hne (Option.some.inj e)) hg.only, hfind ▸ hg.endo⟩⟩

/-! ### steps -/

theorem step_share {s : State} {op : Op} {r gid : Nat} (wf : WF s) (hg : RaGauge s r gid) (hs : ShareInv s r gid) :
    ShareInv (step s op).1 r gid ∧ RaGauge (step s op).1 r gid := by
  have mv := moves_ind (P := fun s => WF s ∧ ShareInv s r gid ∧ RaGauge s r gid) Drop.share Put.share
  refine step_cases (P := fun s' => ShareInv s' r gid ∧ RaGauge s' r gid) s op ⟨hs, hg⟩ ?_
  cases op with
  | vote a ws => exact fun s1 h => (mv.1 h (validWeights_ok (vote_ok h).1) ⟨wf.weightsOK, wf, hs, hg⟩).2.2
  | revoke a => exact fun v hv => ((Drop.revokeVote hv).share ⟨wf, hs, hg⟩).2
  | claim a g =>
    intro s1 p h
    have f := claim_frame Endorsement.total h
    exact share_of_frame ⟨f.1.coarse_g, f.2⟩ hg hs
  | staking a hs' fin =>
    intro s1 h
    have := (mv.2 h ⟨wf.weightsOK, wf, hs, hg⟩).2.2
    exact ⟨this.1, ⟨this.2.only, this.2.endo⟩⟩
  | slash fin => exact ⟨hs, ⟨hg.only, hg.endo⟩⟩
  | epochEnd d => exact share_of_frame (epochEnd_frame0 _ (fun _ _ => rfl) s d) hg hs
  | fund g amt =>
    intro s1 h
    have f := fund_frame Endorsement.total h
    exact share_of_frame ⟨f.1.coarse_g, f.2⟩ hg hs
  | addGauge g => exact fun s1 h => addGauge_share h hg hs
  | addRollapp r' => exact fun s1 h => addRollapp_share h hg hs
  | setParams ma mv =>
    intro s1 h
    obtain ⟨rfl, _⟩ := setParams_ok h
    exact ⟨hs, ⟨hg.only, hg.endo⟩⟩

/-- along every history; the distribution is not involved -/
theorem run_share {s : State} {r gid : Nat} (ops : List Op) (wf : WF s) (hg : RaGauge s r gid) (hs : ShareInv s r gid) :
    ShareInv (run s ops) r gid ∧ RaGauge (run s ops) r gid := by
  induction ops generalizing s with
  | nil => exact ⟨hs, hg⟩
  | cons op ops ih => exact ih (step_wf wf) (step_share wf hg hs).2 (step_share wf hg hs).1

end DymVerif.Spons
