/-
  Lemmas/KeysAddr2 — `parseAddr (format …) = …` for both spellings of the last separator.
-/
import DymVerif.Lemmas.KeysAddr
namespace DymVerif.Keys
open DymVerif

theorem parseChunks_ok (bech : Bytes → Bool) (parts : List Bytes) (name h : Bytes)
    (hp : ∀ p ∈ parts, validDymName p = true) (hn : validDymName name = true)
    (hh : (validChainIdFormat h || validAlias h) = true) :
    parseChunks bech (parts ++ [name, h]) = some (joinDot parts, name, h) := by
  have hrev : (parts ++ [name, h]).reverse = h :: name :: parts.reverse := by simp
  have hall : parts.all validDymName = true := by simpa [List.all_eq_true] using hp
  unfold parseChunks
  rw [hrev]
  simp only [List.reverse_reverse, hall, hh, hn, Bool.not_true, Bool.false_eq_true, if_false, if_true]
  cases parts with
  | nil => simp [joinDot]
  | cons p ps => simp

theorem seps_count (n : Nat) (last : Nat) (hl : last = 46 ∨ last = 64) :
    ¬ (List.replicate n 46 ++ [last]).count 64 > 1 := by
  rcases hl with rfl | rfl <;> simp [List.count_replicate]

theorem seps_last (n : Nat) (last : Nat) (hl : last = 46 ∨ last = 64) :
    ((List.replicate n 46 ++ [last]).contains 64 && (List.replicate n 46 ++ [last]).getLast? != some 64) = false := by
  rcases hl with rfl | rfl
  · simp [List.mem_replicate]
  · simp

theorem parseAddr_glue (bech : Bytes → Bool) (parts : List Bytes) (name h : Bytes) (last : Nat)
    (hl : last = 46 ∨ last = 64)
    (hp : ∀ p ∈ parts, validDymName p = true) (hn : validDymName name = true)
    (hh : (validChainIdFormat h || validAlias h) = true) :
    parseAddr bech (glueDots parts (name ++ last :: h)) = some (joinDot parts, name, h) := by
  have hpc : ∀ p ∈ parts, Clean p := fun p hp' => validDymName_clean (hp p hp')
  have hnc := validDymName_clean hn
  have hhc := handle_clean hh
  have hsep : isSepC last = true := by rcases hl with rfl | rfl <;> decide
  have htext := glued_textC parts name h last hl hpc hnc hhc
  have hchunks := chunks_clean parts name h hpc hnc hhc
  have hempty : (parts ++ [name, h]).any (·.isEmpty) = false :=
    List.any_eq_false.2 fun f hf => by simp [clean_not_empty (hchunks f hf)]
  have htrim := clean_any_trim hchunks
  unfold parseAddr
  simp only [trimSpace_id (fun c hc => textC_not_space (htext c hc)), asciiLower_id htext,
    splitSeps_glueDots parts name h last hpc hnc hhc hsep, hempty, htrim, seps_last _ _ hl,
    Bool.false_eq_true, if_false, if_neg (seps_count _ _ hl)]
  exact parseChunks_ok bech parts name h hp hn hh

end DymVerif.Keys
