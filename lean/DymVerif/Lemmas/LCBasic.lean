/-
  Lemmas/LCBasic — lookup / update lemmas for M-LC, and what the handlers and hooks of x/lightclient do to the state,
  case by case (the two phases of a message: Lemmas/LCPhase).  Core Lean only.
-/
import DymVerif.Model.LC
namespace DymVerif.LC
open DymVerif.Core (Addr NextP)

/-- one guard of an operation written as a chain of `if … then refuse else …` -/
theorem ite_eq_cases {α : Type} {c : Prop} [Decidable c] {a b x : α} (h : (if c then a else b) = x) :
    (c ∧ a = x) ∨ (¬ c ∧ b = x) := by
  split at h
  · exact Or.inl ⟨‹_›, h⟩
  · exact Or.inr ⟨‹_›, h⟩

theorem lookup_append_left {l l' : List (Nat × Nat)} {k v : Nat} (h : lookup l k = some v) : lookup (l ++ l') k = some v := by
  unfold lookup at h ⊢
  cases hf : l.find? (fun x => x.1 == k) with
  | none => simp [hf] at h
  | some x => rw [List.find?_append, hf]; simpa [hf] using h

theorem lookup_append_single {l : List (Nat × Nat)} {k k' v' : Nat} (h : lookup l k = none) :
    lookup (l ++ [(k', v')]) k = if k' = k then some v' else none := by
  unfold lookup at h ⊢
  cases hf : l.find? (fun x => x.1 == k) with
  | some x => simp [hf] at h
  | none =>
    rw [List.find?_append, hf]
    by_cases hk : k' = k
    · simp [hk]
    · simp [hk]

theorem checkList_full : ∀ (g e : List Nat), checkList g e = .ok → g.length = e.length → g = e
  | [], [], _, _ => rfl
  | [], _ :: _, _, h => by simp at h
  | _ :: _, [], _, h => by simp at h
  | a :: as, b :: bs, h, hl => by
    unfold checkList at h
    split at h
    · rename_i hab
      have : a = b := by simpa using hab
      subst this
      rw [checkList_full as bs h (by simpa using hl)]
    · simp at h

theorem bad_else {c : Prop} [Decidable c] {x : PRes} (h : (if c then PRes.bad else x) = .ok) : ¬ c ∧ x = .ok := by
  split at h
  · cases h
  · exact ⟨‹_›, h⟩

/-- a hit in a list with one more pair at the end is an old hit, or the new pair where there was none -/
theorem lookup_append_single_some {l : List (Nat × Nat)} {k k' v v' : Nat} (h : lookup (l ++ [(k', v')]) k = some v) :
    lookup l k = some v ∨ (lookup l k = none ∧ k' = k ∧ v' = v) := by
  cases ho : lookup l k with
  | some x => rw [lookup_append_left ho] at h; exact Or.inl h
  | none =>
    rw [lookup_append_single ho] at h
    split at h
    · cases h; exact Or.inr ⟨rfl, ‹_›, rfl⟩
    · cases h

theorem lookup_isSome_append {l l' : List (Nat × Nat)} {k : Nat} (h : (lookup l k).isSome) : lookup (l ++ l') k = lookup l k := by
  cases hv : lookup l k with
  | none => simp [hv] at h
  | some v => exact lookup_append_left hv

theorem getClient_id {s : St} {c : Nat} {cl : Client} (h : getClient s c = some cl) : cl.id = c := by
  unfold getClient at h
  simpa using List.find?_some h

theorem getClient_mem {s : St} {c : Nat} {cl : Client} (h : getClient s c = some cl) : cl ∈ s.clients := by
  unfold getClient at h
  exact List.mem_of_find?_eq_some h

theorem getClient_setClient (s : St) (cl : Client) (c : Nat) :
    getClient (setClient s cl) c = (getClient s c).map (fun x => if x.id == cl.id then cl else x) := by
  unfold getClient setClient
  simp only
  rw [List.find?_map]
  have hcomp : ((fun z : Client => z.id == c) ∘ fun y : Client => if (y.id == cl.id) = true then cl else y) = fun z : Client => z.id == c := by
    funext y
    simp only [Function.comp]
    by_cases hy : (y.id == cl.id) = true
    · simp only [hy, if_true]
      have : y.id = cl.id := by simpa using hy
      rw [this]
    · simp [hy]
  rw [hcomp]

theorem getClient_setClient_self {s : St} {cl old : Client} (h : getClient s cl.id = some old) : getClient (setClient s cl) cl.id = some cl := by
  rw [getClient_setClient, h]
  simp [getClient_id h]

theorem getClient_setClient_ne {s : St} {cl : Client} {c : Nat} (h : c ≠ cl.id) : getClient (setClient s cl) c = getClient s c := by
  rw [getClient_setClient]
  cases hg : getClient s c with
  | none => rfl
  | some x =>
    have : ¬ x.id = cl.id := by rw [getClient_id hg]; exact h
    simp [this]

theorem mem_setClient {s : St} {cl x : Client} (h : x ∈ (setClient s cl).clients) : x = cl ∨ x ∈ s.clients := by
  unfold setClient at h
  simp only [List.mem_map] at h
  obtain ⟨z, hz, rfl⟩ := h
  by_cases c : z.id == cl.id
  · simp [c]
  · simp [c, hz]

theorem getClient_append (s : St) (n : Client) (c : Nat) (s' : St) (e : s'.clients = s.clients ++ [n]) :
    getClient s' c = (getClient s c).or (if n.id = c then some n else none) := by
  unfold getClient
  rw [e, List.find?_append]
  cases s.clients.find? (fun x => x.id == c) with
  | some x => rfl
  | none =>
    by_cases hc : n.id = c
    · simp [hc]
    · simp [hc]

theorem getCons_mem {cl : Client} {h : Nat} {cs : Cons} (hg : getCons cl h = some cs) : (h, cs) ∈ cl.cons := by
  unfold getCons at hg
  cases hf : cl.cons.find? (fun x => x.1 == h) with
  | none => simp [hf] at hg
  | some x =>
    have hk : x.1 = h := by simpa using List.find?_some hf
    have hv : x.2 = cs := by simpa [hf] using hg
    have := List.mem_of_find?_eq_some hf
    rw [← hk, ← hv]; exact this

theorem getCons_insCons (l : List (Nat × Cons)) (h : Nat) (c : Cons) (h' : Nat) :
    ((insCons h c l).find? (·.1 == h')).map (·.2) = if h' = h then some c else (l.find? (·.1 == h')).map (·.2) := by
  induction l with
  | nil =>
    by_cases e : h' = h
    · simp [insCons, e]
    · have : (h == h') = false := by simp [Ne.symm e]
      simp [insCons, e, this]
  | cons x xs ih =>
    unfold insCons
    by_cases h1 : h < x.1
    · simp only [h1, if_true, List.find?_cons]
      by_cases e : h' = h
      · simp [e]
      · have : (h == h') = false := by simp [Ne.symm e]
        simp [e, this]
    · simp only [h1, if_false]
      by_cases h2 : (h == x.1) = true
      · simp only [h2, if_true, List.find?_cons]
        have hx : x.1 = h := by simpa using Eq.symm (by simpa using h2 : h = x.1)
        by_cases e : h' = h
        · simp [e]
        · have e1 : (h == h') = false := by simp [Ne.symm e]
          have e2 : (x.1 == h') = false := by simp [hx, Ne.symm e]
          simp [e, e1, e2]
      · have hx : ¬ x.1 = h := fun e => h2 (by simp [e])
        have h2' : (h == x.1) = false := by simpa using h2
        simp only [h2', Bool.false_eq_true, if_false, List.find?_cons]
        cases e3 : (x.1 == h') with
        | true =>
          have hxh : x.1 = h' := by simpa using e3
          have e : ¬ h' = h := fun e => hx (hxh.trans e)
          simp [e]
        | false => exact ih

theorem getCons_ins (cl : Client) (h : Nat) (c : Cons) (l : Nat) (f : Bool) (h' : Nat) :
    getCons { cl with cons := insCons h c cl.cons, latest := l, frozen := f } h' = if h' = h then some c else getCons cl h' := by
  unfold getCons
  exact getCons_insCons cl.cons h c h'

theorem mem_insCons {l : List (Nat × Cons)} {h : Nat} {c : Cons} {x : Nat × Cons} (hx : x ∈ insCons h c l) : x = (h, c) ∨ x ∈ l := by
  induction l with
  | nil => simpa [insCons] using hx
  | cons y ys ih =>
    unfold insCons at hx
    split at hx
    · exact List.mem_cons.1 hx
    · split at hx
      · exact (List.mem_cons.1 hx).imp_right (List.mem_cons_of_mem _)
      · rcases List.mem_cons.1 hx with h1 | h1
        · exact Or.inr (h1 ▸ List.mem_cons_self)
        · exact (ih h1).imp_right (List.mem_cons_of_mem _)

/-- a hit in a list filtered by a test that does not tell elements with that key apart is a hit in the list -/
theorem find_filter_some {α : Type} {l : List α} {key p : α → Bool} {x : α}
    (hp : ∀ a, key a = true → p a = p x) (h : (l.filter p).find? key = some x) : l.find? key = some x := by
  have hx : p x = true := (List.mem_filter.1 (List.mem_of_find?_eq_some h)).2
  induction l with
  | nil => exact h
  | cons y ys ih =>
    rw [List.find?_cons]
    cases hy : key y with
    | true =>
      rw [List.filter_cons_of_pos ((hp y hy).trans hx), List.find?_cons, hy] at h
      exact h
    | false =>
      refine ih ?_
      by_cases hpy : p y = true
      · rw [List.filter_cons_of_pos hpy, List.find?_cons, hy] at h; exact h
      · rw [List.filter_cons_of_neg hpy] at h; exact h

theorem getCons_filter_sub (cl : Client) (lv h : Nat) (l : Nat) (f : Bool) (cs : Cons)
    (hg : getCons { cl with cons := cl.cons.filter (·.1 ≤ lv), latest := l, frozen := f } h = some cs) : getCons cl h = some cs := by
  unfold getCons at hg ⊢
  obtain ⟨x, hx, rfl⟩ := Option.map_eq_some_iff.1 hg
  have hk := List.find?_some hx
  rw [find_filter_some (fun a ha => by rw [eq_of_beq ha, eq_of_beq hk]) hx]
  rfl

theorem getDesc_mem {s : St} {r h : Nat} {d : Desc} (hg : getDesc s r h = some d) : d ∈ s.descs ∧ d.ra = r ∧ d.h = h := by
  unfold getDesc at hg
  have hk := List.find?_some hg
  simp only [Bool.and_eq_true, beq_iff_eq] at hk
  exact ⟨List.mem_of_find?_eq_some hg, hk.1, hk.2⟩

theorem getDesc_append (s : St) (l : List Desc) (ra h : Nat) :
    getDesc { s with descs := s.descs ++ l } ra h = (getDesc s ra h).or (l.find? (fun d => d.ra == ra && d.h == h)) := by
  unfold getDesc
  exact List.find?_append

theorem getDesc_filter {s s' : St} {ra lv : Nat} (e : s'.descs = s.descs.filter (fun d => !(d.ra == ra && lv < d.h)))
    (r h : Nat) (d : Desc) (hg : getDesc s' r h = some d) : getDesc s r h = some d := by
  unfold getDesc at hg ⊢
  rw [e] at hg
  have hk := List.find?_some hg
  simp only [Bool.and_eq_true, beq_iff_eq] at hk
  refine find_filter_some (fun a ha => ?_) hg
  simp only [Bool.and_eq_true, beq_iff_eq] at ha
  rw [ha.1, ha.2, hk.1, hk.2]

@[simp] theorem saveSigner_clients (s : St) (c h : Nat) (a : Addr) : (saveSigner s c h a).clients = s.clients := rfl
@[simp] theorem saveSigner_descs (s : St) (c h : Nat) (a : Addr) : (saveSigner s c h a).descs = s.descs := rfl
@[simp] theorem saveSigner_r2c (s : St) (c h : Nat) (a : Addr) : (saveSigner s c h a).r2c = s.r2c := rfl
@[simp] theorem saveSigner_c2r (s : St) (c h : Nat) (a : Addr) : (saveSigner s c h a).c2r = s.c2r := rfl
@[simp] theorem saveSigner_chanOf (s : St) (c h : Nat) (a : Addr) : (saveSigner s c h a).chanOf = s.chanOf := rfl
@[simp] theorem saveSigner_chans (s : St) (c h : Nat) (a : Addr) : (saveSigner s c h a).chans = s.chans := rfl
@[simp] theorem saveSigner_core (s : St) (c h : Nat) (a : Addr) : (saveSigner s c h a).core = s.core := rfl
@[simp] theorem pruneWhere_clients (s : St) (c : Nat) (p : Nat → Bool) : (pruneWhere s c p).clients = s.clients := rfl
@[simp] theorem pruneWhere_descs (s : St) (c : Nat) (p : Nat → Bool) : (pruneWhere s c p).descs = s.descs := rfl
@[simp] theorem pruneWhere_r2c (s : St) (c : Nat) (p : Nat → Bool) : (pruneWhere s c p).r2c = s.r2c := rfl
@[simp] theorem pruneWhere_c2r (s : St) (c : Nat) (p : Nat → Bool) : (pruneWhere s c p).c2r = s.c2r := rfl
@[simp] theorem pruneWhere_chanOf (s : St) (c : Nat) (p : Nat → Bool) : (pruneWhere s c p).chanOf = s.chanOf := rfl
@[simp] theorem pruneWhere_chans (s : St) (c : Nat) (p : Nat → Bool) : (pruneWhere s c p).chans = s.chans := rfl
@[simp] theorem pruneWhere_core (s : St) (c : Nat) (p : Nat → Bool) : (pruneWhere s c p).core = s.core := rfl
@[simp] theorem setClient_descs (s : St) (cl : Client) : (setClient s cl).descs = s.descs := rfl
@[simp] theorem setClient_r2c (s : St) (cl : Client) : (setClient s cl).r2c = s.r2c := rfl
@[simp] theorem setClient_c2r (s : St) (cl : Client) : (setClient s cl).c2r = s.c2r := rfl
@[simp] theorem setClient_chanOf (s : St) (cl : Client) : (setClient s cl).chanOf = s.chanOf := rfl
@[simp] theorem setClient_chans (s : St) (cl : Client) : (setClient s cl).chans = s.chans := rfl
@[simp] theorem setClient_core (s : St) (cl : Client) : (setClient s cl).core = s.core := rfl

theorem saveSigner_sub (s : St) (c h : Nat) (a : Addr) (t : Addr × Nat × Nat) (ht : t ∈ s.signerSet) : t ∈ (saveSigner s c h a).signerSet := by
  unfold saveSigner
  dsimp only
  split
  · exact ht
  · exact List.mem_append_left _ ht

/-- what every op preserves holds along a run -/
theorem run_preserves {P : St → Prop} (hstep : ∀ s op, P s → P (step s op).1) : ∀ (ops : List Op) (s : St), P s → P (run s ops)
  | [], _, h => h
  | op :: ops, s, h => run_preserves hstep ops _ (hstep s op h)

theorem getClient_congr {s s' : St} (e : s'.clients = s.clients) (c : Nat) : getClient s' c = getClient s c := by
  unfold getClient; rw [e]

theorem getDesc_congr {s s' : St} (e : s'.descs = s.descs) (r h : Nat) : getDesc s' r h = getDesc s r h := by
  unfold getDesc; rw [e]

/-- what `HandleMsgUpdateClient` has checked about a header whose proposer is the registered sequencer `q` of
    rollapp `r`: equal proposer fields, a sequencer of the client's rollapp and alone in the validator set if the
    client is canonical, bonded, at the rollapp's latest revision -/
structure HdrChecked (s : St) (c : Nat) (hd : Hdr) (q : Core.Seq) (r : Core.Rollapp) : Prop where
  seq : Core.getSeq s.core hd.propData = some q
  native : foreignSeq s c q = false
  sole : (lookup s.c2r c).isSome = true → hd.sole = true
  bonded : q.bonded = true
  ra : Core.getRa s.core q.rollapp = some r
  rev : hd.rev = Core.latestRev r

/-- `HandleMsgUpdateClient`: a refusal leaves the state alone.  A header that passes has equal proposer fields and names
    an unregistered proposer on a client that is not canonical, or a checked sequencer; it is then either optimistic
    (no state info covers its height, no descriptor exists: the signer is recorded) or validated against the state info
    covering it. -/
theorem handleUpdate_cases (s : St) (c : Nat) (hd : Hdr) :
    (∃ e, handleUpdate s c hd = (s, some e)) ∨
    (hd.propSig = hd.propData ∧
      ((Core.getSeq s.core hd.propData = none ∧ lookup s.c2r c = none ∧ handleUpdate s c hd = (s, none)) ∨
       ∃ q r, HdrChecked s c hd q r ∧
         ((Core.findByHeight r hd.h = none ∧ getDesc s q.rollapp hd.h = none ∧
             handleUpdate s c hd = (saveSigner s c hd.h q.addr, none)) ∨
          ∃ i st, Core.findByHeight r hd.h = some i ∧ r.states[i - 1]? = some st ∧
             validateHeader s q.rollapp st hd.cons hd.h = none ∧ handleUpdate s c hd = (s, none)))) := by
  generalize hx : handleUpdate s c hd = x
  unfold handleUpdate at hx
  dsimp only at hx
  rcases ite_eq_cases hx with ⟨-, rfl⟩ | ⟨h1, hx⟩
  · exact Or.inl ⟨_, rfl⟩
  have h1' : hd.propSig = hd.propData := by simpa using h1
  cases hq : Core.getSeq s.core hd.propData with
  | none =>
    rw [hq] at hx; dsimp only at hx
    cases hc : lookup s.c2r c with
    | some r => rw [hc] at hx; exact Or.inl ⟨_, hx.symm⟩
    | none => rw [hc] at hx; exact Or.inr ⟨h1', Or.inl ⟨rfl, rfl, hx.symm⟩⟩
  | some q =>
    rw [hq] at hx; dsimp only at hx
    rcases ite_eq_cases hx with ⟨-, rfl⟩ | ⟨h2, hx⟩
    · exact Or.inl ⟨_, rfl⟩
    rcases ite_eq_cases hx with ⟨-, rfl⟩ | ⟨h3, hx⟩
    · exact Or.inl ⟨_, rfl⟩
    rcases ite_eq_cases hx with ⟨-, rfl⟩ | ⟨h4, hx⟩
    · exact Or.inl ⟨_, rfl⟩
    cases hr : Core.getRa s.core q.rollapp with
    | none => rw [hr] at hx; exact Or.inl ⟨_, hx.symm⟩
    | some r =>
      rw [hr] at hx; dsimp only at hx
      rcases ite_eq_cases hx with ⟨-, rfl⟩ | ⟨h5, hx⟩
      · exact Or.inl ⟨_, rfl⟩
      suffices hs : (∃ e, x = (s, some e)) ∨
          (Core.findByHeight r hd.h = none ∧ getDesc s q.rollapp hd.h = none ∧ x = (saveSigner s c hd.h q.addr, none)) ∨
          ∃ i st, Core.findByHeight r hd.h = some i ∧ r.states[i - 1]? = some st ∧
             validateHeader s q.rollapp st hd.cons hd.h = none ∧ x = (s, none) from
        hs.imp_right fun h => ⟨h1', Or.inr ⟨q, r, ⟨hq, by simpa using h2, by simpa using h3, by simpa using h4, hr, by simpa using h5⟩, h⟩⟩
      cases hf : Core.findByHeight r hd.h with
      | none =>
        rw [hf] at hx; dsimp only at hx
        cases hg : getDesc s q.rollapp hd.h with
        | some d => rw [hg] at hx; exact Or.inl ⟨_, hx.symm⟩
        | none => rw [hg] at hx; exact Or.inr (Or.inl ⟨rfl, rfl, hx.symm⟩)
      | some i =>
        rw [hf] at hx; dsimp only at hx
        cases hst : r.states[i - 1]? with
        | none => rw [hst] at hx; exact Or.inl ⟨_, hx.symm⟩
        | some st =>
          rw [hst] at hx; dsimp only at hx
          cases hv : validateHeader s q.rollapp st hd.cons hd.h with
          | some e => rw [hv] at hx; exact Or.inl ⟨_, hx.symm⟩
          | none => rw [hv] at hx; exact Or.inr (Or.inr ⟨i, st, rfl, hst, hv, hx.symm⟩)

theorem handleUpdate_fst {s s1 : St} {c : Nat} {hd : Hdr} {oe : Option LErr} (h : handleUpdate s c hd = (s1, oe)) :
    s1 = s ∨ ∃ a, s1 = saveSigner s c hd.h a := by
  rcases handleUpdate_cases s c hd with ⟨_, e⟩ | ⟨_, ⟨_, _, e⟩ | ⟨q, _, _, ⟨_, _, e⟩ | ⟨_, _, _, _, _, e⟩⟩⟩
  · rw [e] at h; cases h; exact Or.inl rfl
  · rw [e] at h; cases h; exact Or.inl rfl
  · rw [e] at h; cases h; exact Or.inr ⟨q.addr, rfl⟩       -- optimistic header: the signer is recorded
  · rw [e] at h; cases h; exact Or.inl rfl

/-- the parts of the state the agreement is about -/
structure Frame (s s' : St) : Prop where
  descs : s'.descs = s.descs
  r2c : s'.r2c = s.r2c
  c2r : s'.c2r = s.c2r
  core : s'.core = s.core

theorem Frame.refl (s : St) : Frame s s := ⟨rfl, rfl, rfl, rfl⟩

theorem Frame.trans {a b c : St} (h1 : Frame a b) (h2 : Frame b c) : Frame a c :=
  ⟨h2.descs.trans h1.descs, h2.r2c.trans h1.r2c, h2.c2r.trans h1.c2r, h2.core.trans h1.core⟩

theorem handleUpdate_frame {s s1 : St} {c : Nat} {hd : Hdr} {oe : Option LErr} (h : handleUpdate s c hd = (s1, oe)) :
    Frame s s1 ∧ s1.clients = s.clients := by
  rcases handleUpdate_fst h with rfl | ⟨a, rfl⟩ <;> exact ⟨⟨rfl, rfl, rfl, rfl⟩, rfl⟩

theorem ibcApply_cases (cl : Client) (hd : Hdr) :
    ibcApply cl hd = cl ∨ ibcApply cl hd = { cl with frozen := true } ∨
    ibcApply cl hd = { cl with cons := insCons hd.h hd.cons cl.cons, latest := max cl.latest hd.h } := by
  generalize hx : ibcApply cl hd = x
  unfold ibcApply at hx
  cases hg : getCons cl hd.h with
  | some old =>
    rw [hg] at hx; dsimp only at hx
    rcases ite_eq_cases hx with ⟨-, rfl⟩ | ⟨-, rfl⟩
    · exact Or.inl rfl
    · exact Or.inr (Or.inl rfl)
  | none =>
    rw [hg] at hx; dsimp only at hx
    rcases ite_eq_cases hx with ⟨-, rfl⟩ | ⟨-, hx⟩
    · exact Or.inr (Or.inl rfl)
    rcases ite_eq_cases hx with ⟨-, rfl⟩ | ⟨-, rfl⟩
    · exact Or.inr (Or.inl rfl)
    · exact Or.inr (Or.inr rfl)

theorem ibcApply_id (cl : Client) (hd : Hdr) : (ibcApply cl hd).id = cl.id := by
  rcases ibcApply_cases cl hd with e | e | e <;> rw [e]

theorem ibcApply_chain (cl : Client) (hd : Hdr) : (ibcApply cl hd).chain = cl.chain := by
  rcases ibcApply_cases cl hd with e | e | e <;> rw [e]

theorem chanAck_fst (s : St) (ch : Nat) (w : ChanRoute) (ibc : Bool) :
    ∃ co cs, (chanAck s ch w ibc).1 = { s with chanOf := co, chans := cs } ∧
      (co = s.chanOf ∨ ∃ c r, w = .ack ∧ s.chans.find? (·.id == ch) = some c ∧ lookup s.c2r c.client = some r ∧
        co = s.chanOf ++ [(r, ch)]) := by
  generalize hx : chanAck s ch w ibc = x
  unfold chanAck at hx
  cases hf : s.chans.find? (·.id == ch) with
  | none => rw [hf] at hx; cases w <;> subst hx <;> exact ⟨_, _, rfl, Or.inl rfl⟩
  | some c =>
    rw [hf] at hx
    cases w <;> dsimp only at hx
    case ack =>
      cases hl : lookup s.c2r c.client with
      | none =>
        rw [hl] at hx; dsimp only at hx
        rcases ite_eq_cases hx with ⟨-, rfl⟩ | ⟨-, rfl⟩ <;> exact ⟨_, _, rfl, Or.inl rfl⟩
      | some r =>
        rw [hl] at hx; dsimp only at hx
        rcases ite_eq_cases hx with ⟨-, rfl⟩ | ⟨-, hx⟩
        · exact ⟨_, _, rfl, Or.inl rfl⟩
        rcases ite_eq_cases hx with ⟨-, rfl⟩ | ⟨-, rfl⟩ <;> exact ⟨_, _, rfl, Or.inr ⟨c, r, rfl, rfl, hl, rfl⟩⟩
    all_goals rcases ite_eq_cases hx with ⟨-, rfl⟩ | ⟨-, rfl⟩ <;> exact ⟨_, _, rfl, Or.inl rfl⟩

theorem chanInit_fst (s : St) (c : Nat) : ∃ cs, (chanInit s c).1 = { s with chans := cs } := by
  unfold chanInit
  cases getClient s c with
  | none => exact ⟨_, rfl⟩
  | some cl => dsimp only; split <;> exact ⟨_, rfl⟩

/-- `RollbackCanonicalClient`: refused (nothing changes), or the canonical client loses its consensus states above
    `lv` and is frozen, the descriptors of the rollapp above `lv` go, and the signer records above `lv - 1` are pruned -/
theorem rollback_cases (s : St) (ra lv : Nat) :
    (∃ e, rollback s ra lv = (s, some e)) ∨
    ∃ c cl l, lookup s.r2c ra = some c ∧ getClient s c = some cl ∧ (cl.cons.filter (·.1 ≤ lv)).getLast? = some l ∧
      rollback s ra lv =
        (pruneAbove { setClient s { cl with cons := cl.cons.filter (·.1 ≤ lv), latest := l.1, frozen := true } with
            descs := s.descs.filter (fun d => !(d.ra == ra && lv < d.h)) } c (lv - 1), none) := by
  generalize hx : rollback s ra lv = x
  unfold rollback at hx
  cases hl : lookup s.r2c ra with
  | none => rw [hl] at hx; exact Or.inl ⟨_, hx.symm⟩
  | some c =>
    rw [hl] at hx; dsimp only at hx
    cases hcl : getClient s c with
    | none => rw [hcl] at hx; exact Or.inl ⟨_, hx.symm⟩
    | some cl =>
      rw [hcl] at hx; dsimp only at hx
      unfold rollbackClient at hx
      cases hg : (cl.cons.filter (·.1 ≤ lv)).getLast? with
      | none => rw [hg] at hx; exact Or.inl ⟨_, hx.symm⟩
      | some l => rw [hg] at hx; exact Or.inr ⟨c, cl, l, rfl, hcl, hg, hx.symm⟩

/-- `ResolveHardFork`: refused (nothing changes), or the client's latest height is below the first height of the new
    revision and the client gets, unfrozen, a consensus state for that height: root and timestamp of its descriptor,
    next validators the sequencer the state info names for the block after it -/
theorem resolveFork_cases (s : St) (ra : Nat) (st : Core.SInfo) (cl : Client) :
    (∃ e, resolveFork s ra st cl = (s, some e)) ∨
    (cl.latest < st.start ∧ ∃ d q, getDesc s ra st.start = some d ∧ nextSeqFor s.core st st.start = some q ∧
      resolveFork s ra st cl =
        (setClient s { cl with cons := insCons st.start ⟨d.root, d.ts.getD 0, valHash q⟩ cl.cons, latest := st.start, frozen := false }, none)) := by
  generalize hx : resolveFork s ra st cl = x
  unfold resolveFork at hx
  rcases ite_eq_cases hx with ⟨-, rfl⟩ | ⟨hlt, hx⟩
  · exact .inl ⟨_, rfl⟩
  cases hd : getDesc s ra st.start with
  | none => rw [hd] at hx; exact .inl ⟨_, hx.symm⟩
  | some d =>
    rw [hd] at hx; dsimp only at hx
    cases hq : nextSeqFor s.core st st.start with
    | none => rw [hq] at hx; exact .inl ⟨_, hx.symm⟩
    | some q => rw [hq] at hx; exact .inr ⟨by omega, d, q, rfl, rfl, hx.symm⟩

/-- the ordinary path of `AfterUpdateState`: refused (nothing changes), or the new state info validated without error
    against the client's consensus states and the signer records up to its last height are pruned -/
theorem validateNew_cases (s : St) (ra : Nat) (st : Core.SInfo) (c : Nat) (cl : Client) :
    (∃ e, validateNew s ra st c cl = (s, some e)) ∨
    ∃ b, validateStateInfo s cl ra st = (b, none) ∧ validateNew s ra st c cl = (pruneBelow s c (st.last + 1), none) := by
  unfold validateNew
  cases validateStateInfo s cl ra st with | mk b oe =>
  cases oe with
  | some e => exact .inl ⟨e, rfl⟩
  | none => exact .inr ⟨b, rfl, rfl⟩

/-- the `AfterUpdateState` hook: nothing to do (the rollapp has no canonical client), refused (nothing changes), or one of
    the two paths ran on the canonical client -/
theorem afterUpdate_hook (s : St) (ra rev : Nat) (st : Core.SInfo) :
    (afterUpdate s ra rev st = (s, none) ∧ lookup s.r2c ra = none) ∨ (∃ e, afterUpdate s ra rev st = (s, some e)) ∨
    ∃ c cl, lookup s.r2c ra = some c ∧ getClient s c = some cl ∧
      ((cl.latest < st.start ∧ ∃ d q, getDesc s ra st.start = some d ∧ nextSeqFor s.core st st.start = some q ∧
          afterUpdate s ra rev st =
            (setClient s { cl with cons := insCons st.start ⟨d.root, d.ts.getD 0, valHash q⟩ cl.cons, latest := st.start, frozen := false }, none)) ∨
       ∃ b, validateStateInfo s cl ra st = (b, none) ∧ afterUpdate s ra rev st = (pruneBelow s c (st.last + 1), none)) := by
  generalize hx : afterUpdate s ra rev st = x
  unfold afterUpdate at hx
  cases hl : lookup s.r2c ra with
  | none => rw [hl] at hx; exact .inl ⟨hx.symm, rfl⟩
  | some c =>
    rw [hl] at hx; dsimp only at hx
    cases hcl : getClient s c with
    | none => rw [hcl] at hx; exact .inr (.inl ⟨_, hx.symm⟩)
    | some cl =>
      cases hr : Core.getRa s.core ra with
      | none => rw [hcl, hr] at hx; exact .inr (.inl ⟨_, hx.symm⟩)
      | some r =>
        rw [hcl, hr] at hx; dsimp only at hx
        rcases ite_eq_cases hx with ⟨-, rfl⟩ | ⟨-, rfl⟩
        · exact .inr ((resolveFork_cases s ra st cl).imp_right fun h => ⟨c, cl, rfl, hcl, .inl h⟩)
        · exact .inr ((validateNew_cases s ra st c cl).imp_right fun h => ⟨c, cl, rfl, hcl, .inr h⟩)

/-- the descriptors of an accepted update are appended; every other Core op leaves the state alone -/
theorem withDescs_cases {s1 s2 : St} {o : Core.Op} {ds : List (Nat × Option Nat)} (h : withDescs s1 o ds = some s2) :
    ((∀ m, o ≠ .update m) ∧ s2 = s1) ∨
    ∃ m, o = .update m ∧ s1.descs.any (fun d => d.ra == m.ra && m.start ≤ d.h) = false ∧ s2 = addDescs s1 m.ra m.start ds := by
  unfold withDescs at h
  split at h
  · rename_i m
    rcases ite_eq_cases h with ⟨-, h⟩ | ⟨hany, h⟩
    · cases h
    · cases h
      exact Or.inr ⟨m, rfl, by simpa using hany, rfl⟩
  · rename_i hno
    cases h
    exact Or.inl ⟨fun m e => hno m e, rfl⟩

end DymVerif.LC
