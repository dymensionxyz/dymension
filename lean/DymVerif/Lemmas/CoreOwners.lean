/-
  Lemmas/CoreOwners — `OwnersNotBlocked`: in every reachable state of M-Core no rollapp is owned by an
  address the bank refuses as a recipient (`blockedAddr`, the module accounts of the app's blocked list),
  provided the creators of rollapps are not such addresses (a module account signs no message).
  The owner field is written by `createRollapp` (the signer) and by `transferOwner` only — which refuses
  a blocked new owner; every other write rewrites rollapp records with
  `{ r with … }` updates that keep the owner: `RaClosed.apply` of Lemmas/CoreWalk at `owClosed`.
-/
import DymVerif.Lemmas.CoreChainInv2
namespace DymVerif.Core

/-- the owner of the rollapp record can be paid by the bank -/
def OwQ (r : Rollapp) : Prop := blockedAddr r.owner = false

/-- **OwnersNotBlocked** -/
abbrev OwnersNotBlocked (s : St) : Prop := RaAll OwQ s

theorem OwQ.of_owner {r r' : Rollapp} (h : OwQ r) (e : r'.owner = r.owner) : OwQ r' := by
  unfold OwQ at *; rw [e]; exact h

namespace Owners

theorem owClosed : RaClosed OwQ where
  fields h _ e := h.of_owner e
  next _ h := h
  append _ _ _ h _ _ := h
  fork h _ := h
  fin _ _ _ h _ := h
  owner _ _ hnb := hnb

/-- the creator named by a `createRollapp` op is not a blocked (module) account — module accounts have
    no key and sign no message; every other op is unconstrained -/
def creatorOk : Op → Prop
  | .createRollapp _ owner _ => blockedAddr owner = false
  | _ => True

theorem apply_ow {s s' : St} {o : Op} (h : OwnersNotBlocked s) (ho : creatorOk o) (e : apply s o = .ok s') :
    OwnersNotBlocked s' :=
  owClosed.apply h e (fun _ _ _ ho' => by subst ho'; exact ho)

/-- **OwnersNotBlocked in every reachable state**: whatever the op sequence — transfers of ownership
    included — as long as rollapps are created by non-module accounts. -/
theorem run_owners (p : Params) (ops : List Op) (hc : ∀ o ∈ ops, creatorOk o) :
    OwnersNotBlocked (run p ops) :=
  run_of_apply (by intro r hr; simp [init] at hr) (fun ho h e => apply_ow h (hc _ ho) e)

end Owners
end DymVerif.Core
