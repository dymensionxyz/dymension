/-
  Lemmas/PacketsFork — what delayedack's `OnHardFork` (M-Packets `onHardFork`) does to the packet
  store, the receipts, the commitments and the demand orders, as closed forms of the fold.
-/
import DymVerif.Lemmas.PacketsOnceOps
namespace DymVerif.Packets
open DymVerif DymVerif.Keys

/-- the packets the hook reverts: those whose key lies in the fork range -/
def forkVictims (s : St) (rid : Bytes) (lv : Nat) : List Packet := s.packets.filter (fun p => forkRange rid lv (pkey p))

theorem onHardFork_eq (s : St) (rid : Bytes) (lv : Nat) : onHardFork s rid lv = (forkVictims s rid lv).foldl revertPacket s := rfl

/-- a fold each of whose steps filters one component of the state: the component is filtered by all of them -/
theorem foldl_filter {σ α β : Type} {f : σ → α → σ} {F : σ → List β} {g : α → β → Bool}
    (hf : ∀ s a, F (f s a) = (F s).filter (g a)) :
    ∀ (l : List α) (s : σ), F (l.foldl f s) = (F s).filter (fun x => l.all (fun a => g a x))
  | [], s => (List.filter_eq_self.mpr (fun _ _ => rfl)).symm
  | a :: rest, s => by
    rw [List.foldl_cons, foldl_filter hf rest, hf, List.filter_filter]
    exact List.filter_congr (fun x _ => Bool.and_comm _ _)

theorem foldl_revert_packets (l : List Packet) (s : St) :
    (l.foldl revertPacket s).packets = s.packets.filter (fun q => l.all (fun p => pkey q != pkey p)) :=
  foldl_filter revertPacket_packets l s

theorem revertPacket_receipts (s : St) (p : Packet) :
    (revertPacket s p).receipts = s.receipts.filter (fun x => !(p.ptype == .onRecv) || x != (p.chan, p.seq)) := by
  unfold revertPacket
  cases hr : p.ptype == .onRecv
  · rw [revertIbc_sent s hr, deletePacket_eq]
    exact (List.filter_eq_self.mpr (fun _ _ => rfl)).symm
  · rw [revertIbc_recv s hr, deletePacket_eq]; rfl

theorem foldl_revert_receipts (l : List Packet) (s : St) :
    (l.foldl revertPacket s).receipts =
      s.receipts.filter (fun x => l.all (fun p => !(p.ptype == .onRecv) || x != (p.chan, p.seq))) :=
  foldl_filter revertPacket_receipts l s

/-- the hook only adds commitments and restored-commitment records -/
theorem revertPacket_mono (s : St) (p : Packet) :
    (∀ x ∈ s.commits, x ∈ (revertPacket s p).commits) ∧ (∀ x ∈ s.restored, x ∈ (revertPacket s p).restored) := by
  unfold revertPacket
  cases hr : p.ptype == .onRecv
  · rw [revertIbc_sent s hr, deletePacket_eq]
    refine ⟨fun x hx => ?_, fun x hx => List.mem_append_left _ hx⟩
    show x ∈ if s.commits.contains (p.chan, p.seq) then s.commits else s.commits ++ [(p.chan, p.seq)]
    split
    · exact hx
    · exact List.mem_append_left _ hx
  · rw [revertIbc_recv s hr, deletePacket_eq]
    exact ⟨fun _ hx => hx, fun _ hx => hx⟩

theorem revertPacket_restores (s : St) (p : Packet) (hr : (p.ptype == .onRecv) = false) :
    (p.chan, p.seq) ∈ (revertPacket s p).commits ∧ ((p.chan, p.seq), (restoreTarget p).target) ∈ (revertPacket s p).restored := by
  unfold revertPacket
  rw [revertIbc_sent s hr, deletePacket_eq]
  refine ⟨?_, List.mem_append_right _ (List.mem_singleton.mpr rfl)⟩
  show (p.chan, p.seq) ∈ if s.commits.contains (p.chan, p.seq) then s.commits else s.commits ++ [(p.chan, p.seq)]
  split
  · rename_i h; exact List.contains_iff_mem.mp h
  · exact List.mem_append_right _ (List.mem_singleton.mpr rfl)

theorem foldl_revert_mono : ∀ (l : List Packet) (s : St),
    (∀ x ∈ s.commits, x ∈ (l.foldl revertPacket s).commits) ∧ (∀ x ∈ s.restored, x ∈ (l.foldl revertPacket s).restored)
  | [], _ => ⟨fun _ hx => hx, fun _ hx => hx⟩
  | p :: rest, s =>
    ⟨fun x hx => (foldl_revert_mono rest _).1 x ((revertPacket_mono s p).1 x hx),
     fun x hx => (foldl_revert_mono rest _).2 x ((revertPacket_mono s p).2 x hx)⟩

theorem foldl_revert_restores : ∀ (l : List Packet) (s : St) (p : Packet), p ∈ l → (p.ptype == .onRecv) = false →
    (p.chan, p.seq) ∈ (l.foldl revertPacket s).commits ∧ ((p.chan, p.seq), (restoreTarget p).target) ∈ (l.foldl revertPacket s).restored
  | [], _, _, hp, _ => by cases hp
  | q :: rest, s, p, hp, hr => by
    rw [List.foldl_cons]
    rcases List.mem_cons.mp hp with rfl | hp'
    · obtain ⟨h1, h2⟩ := revertPacket_restores s p hr
      exact ⟨(foldl_revert_mono rest _).1 _ h1, (foldl_revert_mono rest _).2 _ h2⟩
    · exact foldl_revert_restores rest _ p hp' hr

/-- the orders of the packet, pending or finalized, go with it -/
theorem revertPacket_orders (s : St) (p : Packet) :
    (revertPacket s p).orders = s.orders.filter (fun o => o.id != pendKeyOf p) := by
  have e : (revertPacket s p).orders = (s.orders.filter (fun o => !(o.status == .pending && o.id == pendKeyOf p))).filter
      (fun o => !(o.status == .finalized && o.id == pendKeyOf p)) := by
    unfold revertPacket
    cases hr : p.ptype == .onRecv
    · rw [revertIbc_sent s hr, deletePacket_eq]
    · rw [revertIbc_recv s hr, deletePacket_eq]
  rw [e, List.filter_filter]
  refine List.filter_congr fun o _ => ?_
  show (!(o.status == .finalized && o.id == pendKeyOf p) && !(o.status == .pending && o.id == pendKeyOf p)) =
    !(o.id == pendKeyOf p)
  cases o.status <;> cases (o.id == pendKeyOf p) <;> rfl

theorem foldl_revert_orders (l : List Packet) (s : St) :
    (l.foldl revertPacket s).orders = s.orders.filter (fun o => l.all (fun p => o.id != pendKeyOf p)) :=
  foldl_filter revertPacket_orders l s

end DymVerif.Packets
