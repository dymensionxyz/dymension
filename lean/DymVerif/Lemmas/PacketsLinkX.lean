/-
  Lemmas/PacketsLinkX — the strengthened order/packet link of M-Packets, for all operation sequences:
  every PENDING demand order tracks a stored pending packet whose key is the order's id AND the
  order's ghost fields are the packet's: `amount`, `withBf` (received packet), the recipient is the
  packet's original transfer target, and the order is fulfilled iff the packet has been redirected.
  With it two freezes: a fulfilled pending order is only kept as it is or removed (`FulStep`: a pending
  order is written only on an id on which no fulfilled pending order sat), and a redirected pending packet
  likewise (`PktStep`: a pending packet is written only under a key that held no packet, or one that had
  not been redirected).  Link and freezes are carried together through a `Tr` (`xstep_tr`), from which
  `invAll_step` follows.

  Finalized orders are left out on purpose: a finalized packet's key can only be shown collision free
  with an extra invariant (finalized ⇒ logged) that `Inv04` does not carry.  Key collisions between a
  freshly recorded packet and a stored one are excluded with `IdxInv` and `BoundedOp`, as in Props/C04's
  by-address theorem.
-/
import DymVerif.Lemmas.PacketsStep
namespace DymVerif.Packets
open DymVerif DymVerif.Keys

/-- the order `o` tracks the pending packet `p` and its ghost fields are `p`'s -/
structure LinkP (p : Packet) (o : Order) : Prop where
  key : pkey p = o.trackingKey
  pend : p.status = .pending
  id : pkey p = o.id
  amount : o.amount = p.amount
  withBf : o.withBf = (p.ptype == .onRecv)
  recipient : o.recipient = p.orig.getD p.target
  fulfiller : o.fulfiller.isSome ↔ p.orig.isSome
  nofwd : p.fwd = none      -- a packet the packet-forward middleware sent never has an order

def OrderLinkedX (pk : List Packet) (o : Order) : Prop := ∃ p ∈ pk, LinkP p o

def InvX (s : St) : Prop := ∀ o ∈ s.orders, o.status = .pending → OrderLinkedX s.packets o

theorem invX_congr {s s' : St} (ho : s'.orders = s.orders) (hp : s'.packets = s.packets) (h : InvX s) : InvX s' := by
  unfold InvX at *; rw [ho, hp]; exact h

theorem invX_oframe {s s' : St} (f : OFrame s s') (h : InvX s) : InvX s' := invX_congr f.orders f.packets h

theorem invX_setOrder {s : St} (h : InvX s) (o : Order) (hl : o.status = .pending → OrderLinkedX s.packets o) :
    InvX (setOrder s o) := by
  intro q hq hs
  rcases mem_setOrder.mp hq with rfl | ⟨hq', _⟩
  · exact hl hs
  · exact h q hq' hs

theorem invX_setPacket {s : St} (h : InvX s) (p : Packet)
    (hcol : ∀ o ∈ s.orders, o.status = .pending → ∀ q ∈ s.packets, LinkP q o → pkey q = pkey p → LinkP p o) :
    InvX (setPacket s p) := by
  intro o ho hs
  have ho' : o ∈ s.orders := ho
  obtain ⟨q, hq, hl⟩ := h o ho' hs
  by_cases hk : pkey q = pkey p
  · exact ⟨p, mem_setPacket.mpr (Or.inl rfl), hcol o ho' hs q hq hl hk⟩
  · exact ⟨q, mem_setPacket.mpr (Or.inr ⟨hq, hk⟩), hl⟩

theorem invX_setPacket_fresh {s : St} (h : InvX s) (p : Packet) (a : Addr) (k : Bytes)
    (fresh : ∀ q ∈ s.packets, pkey q ≠ pkey p) : InvX (setPacket (addByAddr s a k) p) :=
  invX_setPacket (s := addByAddr s a k) h p (fun _ _ _ q hq _ hk => absurd hk (fresh q hq))

/-- `DeleteRollappPacket` + `AfterPacketDeleted` -/
theorem invX_deletePacket {s : St} (p : Packet) (h : InvX s) : InvX (deletePacket s p) := by
  unfold deletePacket
  intro o ho hs
  obtain ⟨ho1, _⟩ := mem_delOrder.mp ho
  obtain ⟨ho2, hp⟩ := mem_delOrder.mp ho1
  have ho3 : o ∈ s.orders := ho2
  obtain ⟨q, hq, hl⟩ := h o ho3 hs
  refine ⟨q, ?_, hl⟩
  show q ∈ (delPacket s (pkey p)).packets
  refine mem_delPacket.mpr ⟨hq, ?_⟩
  intro hk
  obtain ⟨_, e2⟩ := pkey_eq_parts hk
  apply hp
  refine ⟨hs, ?_⟩
  rw [← hl.id, ← pendKeyOf_of_pending hl.pend, e2]

theorem invX_revertPacket {s : St} (p : Packet) (h : InvX s) : InvX (revertPacket s p) := by
  unfold revertPacket
  apply invX_deletePacket
  unfold revertIbc
  split <;> exact h

/-- a new pending packet is stored and gets its demand order: whatever order sat on the key is replaced -/
theorem invX_record_order {s : St} (h : InvX s) (p : Packet) (hs : p.status = .pending) (ho : p.orig = none)
    (hfw : p.fwd = none) (a : Addr) (k : Bytes) (s1 : St) (price fee : Int) :
    InvX (setOrder (setPacket (addByAddr s a k) p) (newOrder s1 p price fee p.target)) := by
  intro o hmem hst
  rcases mem_setOrder.mp hmem with rfl | ⟨hq', hne⟩
  · refine ⟨p, mem_setPacket.mpr (Or.inl rfl), ⟨rfl, hs, rfl, rfl, rfl, ?_, ?_, hfw⟩⟩
    · show p.target = p.orig.getD p.target
      rw [ho]; rfl
    · show (none : Option Addr).isSome ↔ p.orig.isSome
      rw [ho]
  · have hq'' : o ∈ s.orders := hq'
    obtain ⟨q, hq, hl⟩ := h o hq'' hst
    refine ⟨q, mem_setPacket.mpr (Or.inr ⟨hq, ?_⟩), hl⟩
    intro hk
    exact hne ⟨hst, (hl.id.symm.trans hk : o.id = pkey p)⟩

/-- finalization: the packet's pending key goes, its order (if any) turns FINALIZED; the other pending
    orders keep their packets -/
theorem invX_updateAfterFinalization {s s' : St} {p : Packet} (h : InvX s) (hu : updateAfterFinalization s p = .ok s') :
    InvX s' := by
  obtain ⟨_, rfl⟩ := updateAfterFinalization_ok hu
  intro o ho hso
  rcases mem_afterPacketStatusUpdated ho with ⟨ho1, hne⟩ | ⟨_, _, rfl⟩
  · rw [(flipWrites_fields _ _ _ _).1] at ho1
    obtain ⟨q, hq, hl⟩ := h o ho1 hso
    refine ⟨q, ?_, hl⟩
    rw [(frame_afterPacketStatusUpdated _ _ _ _).packets]
    refine mem_setPacket.mpr (Or.inr ⟨mem_delPacket.mpr ⟨hq, fun e => hne ⟨hso, hl.id.symm.trans e⟩⟩, fun e => ?_⟩)
    have := (pkey_eq_parts e).1
    rw [hl.pend] at this
    cases this
  · cases hso

/-- the packet under the tracking key of a pending order is the one the order is linked to -/
theorem linkP_of_tracked {s : St} (h : InvX s) (hk : KeysNodup s.packets) {o : Order} (ho : o ∈ s.orders)
    (hs : o.status = .pending) {p : Packet} (hp : getPacket s o.trackingKey = some p) : LinkP p o := by
  obtain ⟨hpm, hpk⟩ := getPacket_some hp
  obtain ⟨p0, hp0, hl0⟩ := h o ho hs
  exact keysNodup_eq hk hpm hp0 (hl0.key.trans hpk.symm) ▸ hl0

theorem LinkP.orig_none {p : Packet} {o : Order} (hl : LinkP p o) (hf : o.fulfiller = none) : p.orig = none := by
  have := hl.fulfiller
  rw [hf] at this
  cases hh : p.orig with
  | none => rfl
  | some x => rw [hh] at this; simp at this

/-- `SetOrderFulfilled` + `AfterDemandOrderFulfilled` of an unfulfilled pending order: the order gets
    its fulfiller, the packet is redirected and remembers the original target -/
theorem invX_setOrderFulfilled {s s' : St} {o : Order} {f : Addr} {c : Option Addr} (h : InvX s) (hk : KeysNodup s.packets)
    (ho : o ∈ s.orders) (hs : o.status = .pending) (hf : o.fulfiller = none)
    (hu : setOrderFulfilled s o f c = .ok s') : InvX s' := by
  unfold setOrderFulfilled at hu
  obtain ⟨p, hp, _, rfl⟩ := updateTransferAddress_ok hu
  have hpm : p ∈ s.packets := (getPacket_some hp).1
  have hl : LinkP p o := linkP_of_tracked h hk ho hs hp
  intro q hq hqs
  have hq' : q ∈ (setOrder s { o with fulfiller := some f }).orders := hq
  rcases mem_setOrder.mp hq' with rfl | ⟨hq1, hne⟩
  · refine ⟨retarget p (c.getD f), mem_setPacket.mpr (Or.inl rfl),
      ⟨hl.key, hl.pend, hl.id, hl.amount, hl.withBf, ?_, ?_, hl.nofwd⟩⟩
    · show o.recipient = (some p.target).getD (c.getD f)
      rw [hl.recipient, hl.orig_none hf]; rfl
    · show (some f).isSome ↔ (some p.target).isSome
      simp
  · obtain ⟨r, hr, hlr⟩ := h q hq1 hqs
    refine ⟨r, mem_setPacket.mpr (Or.inr ⟨hr, ?_⟩), hlr⟩
    intro hkr
    have : r = p := keysNodup_eq hk hpm hr hkr
    subst this
    exact hne ⟨hqs.trans hs.symm, hlr.id.symm.trans hl.id⟩

/-- the three invariants the strengthened link rests on, together -/
structure InvAll (s : St) : Prop where
  i4 : Inv04 s
  i5 : Inv05 s
  idx : IdxInv s
  x : InvX s

-- ------------------------------------------------------------------ a fulfilled pending order is frozen

/-- every pending order of `s'` is an order of `s`, or sits on an id that carried no fulfilled pending
    order in `s` -/
def FulStep (s s' : St) : Prop :=
  ∀ o' ∈ s'.orders, o'.status = .pending →
    o' ∈ s.orders ∨ (∀ o ∈ s.orders, o.status = .pending → o.id = o'.id → o.fulfiller = none)

theorem FulStep.of_eq {s s' : St} (h : s'.orders = s.orders) : FulStep s s' := fun _ ho' _ => Or.inl (h ▸ ho')

theorem FulStep.of_sub {s s' : St} (h : ∀ o ∈ s'.orders, o.status = .pending → o ∈ s.orders) : FulStep s s' :=
  fun o ho hs => Or.inl (h o ho hs)

theorem FulStep.congr {s0 s s' s1 : St} (hl : s.orders = s0.orders) (hr : s1.orders = s'.orders) (f : FulStep s s') :
    FulStep s0 s1 := by
  unfold FulStep at *
  rw [hr, ← hl]; exact f

theorem fulStep_record_order {s : St} (h : InvX s) (p : Packet) (fresh : ∀ q ∈ s.packets, pkey q ≠ pkey p)
    (a : Addr) (k : Bytes) (s1 : St) (price fee : Int) (r : Addr) :
    FulStep s (setOrder (setPacket (addByAddr s a k) p) (newOrder s1 p price fee r)) := by
  intro o' ho' _
  rcases mem_setOrder.mp ho' with rfl | ⟨h1, _⟩
  · right
    intro o ho hs hid
    obtain ⟨q, hq, hl⟩ := h o ho hs
    exact absurd (hl.id.trans hid) (fresh q hq)
  · exact Or.inl h1

theorem fulStep_setOrderFulfilled {s s' : St} {o : Order} {f : Addr} {c : Option Addr} (hn : OrdersNodup s.orders)
    (ho : o ∈ s.orders) (hs : o.status = .pending) (hf : o.fulfiller = none)
    (hu : setOrderFulfilled s o f c = .ok s') : FulStep s s' := by
  unfold setOrderFulfilled at hu
  obtain ⟨p, _, _, rfl⟩ := updateTransferAddress_ok hu
  intro o' ho' _
  have ho'' : o' ∈ (setOrder s { o with fulfiller := some f }).orders := ho'
  rcases mem_setOrder.mp ho'' with rfl | ⟨h1, _⟩
  · right
    intro o2 ho2 hs2 hid
    have : o2 = o := ordersNodup_eq hn ho2 ho (hs2.trans hs.symm) hid
    rw [this]; exact hf
  · exact Or.inl h1

-- ------------------------------------------------------------------ a redirected pending packet is frozen

def PktStep (s s' : St) : Prop :=
  ∀ p' ∈ s'.packets, p'.status = .pending →
    p' ∈ s.packets ∨ (∀ p ∈ s.packets, pkey p = pkey p' → p.orig = none)

theorem PktStep.of_eq {s s' : St} (h : s'.packets = s.packets) : PktStep s s' := fun _ hp' _ => Or.inl (h ▸ hp')

theorem PktStep.of_sub {s s' : St} (h : ∀ p ∈ s'.packets, p.status = .pending → p ∈ s.packets) : PktStep s s' :=
  fun p hp hs => Or.inl (h p hp hs)

theorem PktStep.congr {s0 s s' s1 : St} (hl : s.packets = s0.packets) (hr : s1.packets = s'.packets) (f : PktStep s s') :
    PktStep s0 s1 := by
  unfold PktStep at *
  rw [hr, ← hl]; exact f

theorem pktStep_setPacket_fresh {s : St} (p : Packet) (a : Addr) (k : Bytes) (fresh : ∀ q ∈ s.packets, pkey q ≠ pkey p) :
    PktStep s (setPacket (addByAddr s a k) p) := by
  intro p' hp' _
  rcases mem_setPacket.mp hp' with rfl | ⟨h1, _⟩
  · exact Or.inr (fun q hq hk => absurd hk (fresh q hq))
  · exact Or.inl h1

theorem pktStep_setOrderFulfilled {s s' : St} {o : Order} {f : Addr} {c : Option Addr} (h : InvX s) (hk : KeysNodup s.packets)
    (ho : o ∈ s.orders) (hs : o.status = .pending) (hf : o.fulfiller = none)
    (hu : setOrderFulfilled s o f c = .ok s') : PktStep s s' := by
  unfold setOrderFulfilled at hu
  obtain ⟨p, hp, _, rfl⟩ := updateTransferAddress_ok hu
  have hpm : p ∈ s.packets := (getPacket_some hp).1
  have horig : p.orig = none := (linkP_of_tracked h hk ho hs hp).orig_none hf
  intro p' hp' _
  rcases mem_setPacket.mp hp' with rfl | ⟨h1, _⟩
  · right
    intro q hq hkq
    have : q = p := keysNodup_eq hk hpm hq hkq
    rw [this]; exact horig
  · exact Or.inl h1

-- ------------------------------------------------------------------ link and both freezes through one step

def Frozen (s s' : St) : Prop := FulStep s s' ∧ PktStep s s'

theorem Frozen.of_eq {s s' : St} (ho : s'.orders = s.orders) (hp : s'.packets = s.packets) : Frozen s s' :=
  ⟨FulStep.of_eq ho, PktStep.of_eq hp⟩

theorem Frozen.congr {s0 s s' s1 : St} (ol : s.orders = s0.orders) (pl : s.packets = s0.packets)
    (or' : s1.orders = s'.orders) (pr : s1.packets = s'.packets) (f : Frozen s s') : Frozen s0 s1 :=
  ⟨f.1.congr ol or', f.2.congr pl pr⟩

/-- orders and packets only go -/
def Shrinks (s t : St) : Prop := (∀ o ∈ t.orders, o ∈ s.orders) ∧ (∀ q ∈ t.packets, q ∈ s.packets)

theorem Shrinks.frozen {s t : St} (h : Shrinks s t) : Frozen s t :=
  ⟨FulStep.of_sub fun o ho _ => h.1 o ho, PktStep.of_sub fun q hq _ => h.2 q hq⟩

theorem shrinks_deletePacket {s t : St} (h : Shrinks s t) (p : Packet) : Shrinks s (deletePacket t p) := by
  rw [deletePacket_eq]
  exact ⟨fun o ho => h.1 o (List.mem_filter.mp (List.mem_filter.mp ho).1).1, fun q hq => h.2 q (List.mem_filter.mp hq).1⟩

theorem shrinks_revertPacket {s t : St} (h : Shrinks s t) (p : Packet) : Shrinks s (revertPacket t p) := by
  unfold revertPacket
  refine shrinks_deletePacket ?_ p
  unfold revertIbc
  split <;> exact h

/-- what one step leaves: the strengthened link, and fulfilled orders / redirected packets frozen -/
def XStep (s s' : St) : Prop := InvX s' ∧ Frozen s s'

theorem XStep.of_eq {s s' : St} (h : InvX s) (ho : s'.orders = s.orders) (hp : s'.packets = s.packets) : XStep s s' :=
  ⟨invX_congr ho hp h, Frozen.of_eq ho hp⟩

theorem XStep.congr {s0 s s' s1 : St} (ol : s.orders = s0.orders) (pl : s.packets = s0.packets)
    (or' : s1.orders = s'.orders) (pr : s1.packets = s'.packets) (f : XStep s s') : XStep s0 s1 :=
  ⟨invX_congr or' pr f.1, f.2.congr ol pl or' pr⟩

theorem xstep_finalizePacket {s s' : St} {k : Bytes} (h : InvX s) (hf : finalizePacket s k = .ok s') : XStep s s' := by
  obtain ⟨sA, p, f, hu⟩ := finalizePacket_steps hf
  have hx := invX_updateAfterFinalization (invX_oframe f h) hu
  obtain ⟨_, rfl⟩ := updateAfterFinalization_ok hu
  refine ⟨hx, FulStep.of_sub fun o ho hs => ?_, PktStep.of_sub fun q hq hs => ?_⟩
  · rcases mem_afterPacketStatusUpdated ho with ⟨ho1, _⟩ | ⟨_, _, rfl⟩
    · rw [(flipWrites_fields _ _ _ _).1, f.orders] at ho1
      exact ho1
    · cases hs
  · rw [(frame_afterPacketStatusUpdated _ _ _ _).packets] at hq
    rcases mem_setPacket.mp hq with rfl | ⟨h1, _⟩
    · cases hs
    · exact f.packets ▸ (mem_delPacket.mp h1).1

theorem xstep_fulfils {s s' : St} (h : InvX s) (hk : KeysNodup s.packets) (hn : OrdersNodup s.orders) {id o f c} (hf : FulfilsBy id o f c s s') :
    XStep s s' := by
  obtain ⟨b, a, l, g, s1, ho, -, hu, hs'⟩ := hf
  obtain ⟨hm, hs, hfn⟩ := outstanding_pending ho
  have h1 : XStep s s1 :=
    ⟨invX_setOrderFulfilled (s := { s with bal := b, accts := a, lps := l, grants := g }) h hk hm hs hfn hu,
     fulStep_setOrderFulfilled (s := { s with bal := b, accts := a, lps := l, grants := g }) hn hm hs hfn hu,
     pktStep_setOrderFulfilled (s := { s with bal := b, accts := a, lps := l, grants := g }) h hk hm hs hfn hu⟩
  rcases hs' with rfl | ⟨lp, -, rfl⟩
  · exact h1
  · exact XStep.congr (s := s) (s' := s1) rfl rfl rfl rfl h1

theorem xstep_tr {op : Op} {s s' : St} (t : Tr op s s') (hb : BoundedOp op) (h : InvAll s) : XStep s s' := by
  have hn : OrdersNodup s.orders := h.i5.okeys
  have hk : KeysNodup s.packets := InvF.keys h.i4
  induction t with
  | quiet q => exact XStep.of_eq h.x q.orders q.i.packets
  | @send s1 c b ac k snt _ ih => exact XStep.congr (s := s) (s' := s1) rfl rfl rfl rfl ih
  | consumed u hd q =>
    obtain ⟨fi, fo, -, -⟩ := dframe_consume s u
    exact XStep.of_eq h.x (q.orders.trans fo.orders) (q.i.packets.trans fi.packets)
  | release u e b ac k hd he hu =>
    obtain ⟨fi, fo, -, -⟩ := dframe_consume s u
    exact XStep.of_eq h.x fo.orders fi.packets
  | @record s2 u p hd hs hu ho hP hs' =>
    have fo := (dframe_consume s u).2.1
    have h0 : InvX (consume s u) := invX_congr fo.orders fo.packets h.x
    obtain ⟨-, -, fresh⟩ := record_fresh h.i4 h.idx hd hs hu (hP hb)
    refine XStep.congr (s := consume s u) (s' := s2) fo.orders fo.packets rfl rfl ?_
    rcases hs' with rfl | ⟨sx, price, fee, hfw, -, rfl⟩
    · exact ⟨invX_setPacket_fresh h0 _ _ _ fresh, FulStep.of_eq rfl, pktStep_setPacket_fresh _ _ _ fresh⟩
    · exact ⟨invX_record_order h0 p hs ho hfw _ _ sx price fee, fulStep_record_order h0 p fresh _ _ sx price fee _,
        PktStep.congr (s := consume s u) rfl rfl (pktStep_setPacket_fresh _ _ _ fresh)⟩
  | finalize k _ hf => exact xstep_finalizePacket h.x hf
  | fulfil _ _ _ _ hf => exact xstep_fulfils h.x hk hn hf
  | reprice id o p price fee ho hp hpr =>
    obtain ⟨hm, hs, hf⟩ := outstanding_pending ho
    have hl := linkP_of_tracked h.x hk hm hs hp
    refine ⟨invX_setOrder h.x _ fun _ => ⟨p, (getPacket_some hp).1, hl.key, hl.pend, hl.id, rfl, rfl, hl.recipient, hl.fulfiller, hl.nofwd⟩,
      fun o' ho' _ => ?_, PktStep.of_eq rfl⟩
    rcases mem_setOrder.mp ho' with rfl | ⟨h1, _⟩
    · right
      intro o2 ho2 hs2 hid
      rw [ordersNodup_eq hn ho2 hm (hs2.trans hs.symm) hid]; exact hf
    · exact Or.inl h1
  | epoch =>
    exact ⟨foldl_preserves (fun _ p => invX_deletePacket p) _ h.x,
      (foldl_preserves (P := Shrinks s) (fun _ p ht => shrinks_deletePacket ht p) _ ⟨fun _ ho => ho, fun _ hq => hq⟩).frozen⟩
  | fork r rid lv _ =>
    exact ⟨foldl_preserves (fun _ p => invX_revertPacket p) _ (show InvX (setRa s r) from h.x),
      (foldl_preserves (P := Shrinks s) (fun _ p ht => shrinks_revertPacket ht p) _ (b := setRa s r)
        ⟨fun _ ho => ho, fun _ hq => hq⟩).frozen⟩

theorem xstep_step {s : St} (o : Op) (hb : BoundedOp o) (h : InvAll s) : XStep s (step s o).1 := xstep_tr (step_tr s o) hb h

theorem invAll_step {s : St} (o : Op) (hb : BoundedOp o) (h : InvAll s) : InvAll (step s o).1 :=
  ⟨inv_step o h.i4, inv05_step o h.i5, idx_step o hb h.i4 h.idx, (xstep_step o hb h).1⟩

theorem invAll_run : ∀ (ops : List Op) {s : St}, (∀ o ∈ ops, BoundedOp o) → InvAll s → InvAll (run s ops)
  | [], _, _, h => h
  | o :: rest, s, hp, h => by
    show InvAll (run (step s o).1 rest)
    exact invAll_run rest (fun o' ho' => hp o' (List.mem_cons_of_mem _ ho')) (invAll_step o (hp o List.mem_cons_self) h)

/-- a fulfilled pending order that is still pending (under its id) after a step is unchanged -/
theorem fulfilled_frozen_step {s : St} (op : Op) (hb : BoundedOp op) (h : InvAll s) {o o' : Order}
    (ho : o ∈ s.orders) (hs : o.status = .pending) (hf : o.fulfiller.isSome = true)
    (ho' : o' ∈ (step s op).1.orders) (hs' : o'.status = .pending) (hid : o'.id = o.id) : o' = o := by
  rcases (xstep_step op hb h).2.1 o' ho' hs' with h1 | h2
  · exact ordersNodup_eq h.i5.okeys h1 ho (hs'.trans hs.symm) hid
  · have := h2 o ho hs hid.symm
    rw [this] at hf; cases hf

/-- a redirected pending packet that is still pending (under its key) after a step is unchanged -/
theorem redirected_frozen_step {s : St} (op : Op) (hb : BoundedOp op) (h : InvAll s) {p p' : Packet}
    (hp : p ∈ s.packets) (ho : p.orig.isSome = true)
    (hp' : p' ∈ (step s op).1.packets) (hs' : p'.status = .pending) (hk : pkey p' = pkey p) : p' = p := by
  rcases (xstep_step op hb h).2.2 p' hp' hs' with h1 | h2
  · exact keysNodup_eq (InvF.keys h.i4) hp h1 hk
  · have := h2 p hp hk.symm
    rw [this] at ho; cases ho

end DymVerif.Packets
