/-
  Lemmas/CoreXWalk — a walk through the handlers of M-Core for PER-RECORD invariants that relate the
  proposer slot, the liveness clock, the revisions and the recorded states of ONE rollapp record
  (`QClosed Q`).  Unlike `LClosed` (Lemmas/CoreLevWalk.lean), whose `set_same` primitive allows any
  change of the proposer, the primitives here follow the record through the composite steps of the
  model: "set a real proposer" is `setRa` + `afterSetRealProposer` (the record violates e.g.
  "a real proposer has an event" in between), and a hard fork is the clock reset + the sequencer
  hook that removes the proposer.

  Side invariants threaded through the intermediate states (`W`): `OwnN` (the proposer has a
  sequencer record — without it `abruptRemoveProposer` keeps the proposer of a forked rollapp),
  `ChainAll`, unique rollapp ids, positive hub height; each is carried by its own per-handler lemmas
  (`hardFork_own`, `hardFork_chain`, `hardFork_cl ids_closed`, …).
-/
import DymVerif.Lemmas.CoreLevOwn
import DymVerif.Lemmas.CoreLevUpdate
import DymVerif.Lemmas.CoreForkQuiet
namespace DymVerif.Core.XW
open DymVerif.Core.LevNs

/-- the fields of a state info a `QClosed` invariant may read (not: `finalized`, `next`, `finalizedAt`) -/
def xKey (st : SInfo) : Addr × Nat × Nat × Nat × List BD × Nat :=
  (st.creator, st.start, st.num, st.creationHeight, st.bds, st.accRev)

/-- the fields of a rollapp record a `QClosed` invariant may read besides the proposer
    (not: owner, minBond, launched, lastFin, tph, successor) -/
def xv (r : Rollapp) : Nat × List (Nat × Nat) × List (Addr × Nat × Nat × Nat × List BD × Nat) × Nat × Nat :=
  (r.id, r.revs, r.states.map xKey, r.evH, r.cdStart)

/-- closure of a per-record predicate under the ways M-Core rewrites a rollapp record -/
structure QClosed (Q : Rollapp → Prop) : Prop where
  /-- a freshly created rollapp -/
  fresh : ∀ id o mb, Q (newRollapp id o mb)
  /-- any rewrite that keeps `xv` and either keeps the proposer or clears it -/
  view : ∀ {r r' : Rollapp}, Q r → xv r' = xv r → (r'.proposer = r.proposer ∨ r'.proposer = none) → Q r'
  /-- `IndicateLiveness` at hub height `h ≥ 1` (whatever the proposer then is: covers
      `setProposer (some a)` + `afterSetRealProposer`) -/
  clock : ∀ {r r' : Rollapp} (N I h : Nat), Q r → 1 ≤ h → r'.id = r.id → r'.revs = r.revs →
    r'.states.map xKey = r.states.map xKey → r'.cdStart = h → r'.evH = nextSlashHeight N I h h → Q r'
  /-- a fired liveness event is rescheduled -/
  resched : ∀ {r : Rollapp} (N I h : Nat), Q r → Q { r with evH := nextSlashHeight N I h r.cdStart }
  /-- an accepted update appends its state info -/
  append : ∀ {r : Rollapp} (s : St) (m : UpdMsg) (n : NextP), Q r → Chain r.states →
    updValidateBasic m = .ok () → updPre r m = .ok () → latestRev r = m.rev →
    Q { r with states := r.states ++ [newSInfo s m n] }
  /-- a hard fork (at hub height `h ≥ 1`): states reverted, revision bumped, clock reset, proposer and
      successor cleared -/
  fork : ∀ {r : Rollapp} (n keep h : Nat) (kst : SInfo), Q r → Chain r.states → revertPlan r n = .ok (keep, kst) → 1 ≤ h →
    Q { r with states := r.states.take (keep - 1) ++ [kst], revs := r.revs ++ [(latestRev r + 1, kst.last + 1)],
               evH := 0, cdStart := h, proposer := none, successor := none }

/-- the walk's state: side invariants + the per-record invariant for every rollapp -/
structure W (Q : Rollapp → Prop) (s : St) : Prop where
  own : OwnN s
  chain : ChainAll s
  ids : IdsNodup s
  hpos : 1 ≤ s.h
  q : RaAll Q s

theorem setRa_setRa_ras (s : St) (r1 r2 : Rollapp) (hid : r1.id = r2.id) :
    (setRa (setRa s r1) r2).ras = (setRa s r2).ras := by
  unfold setRa
  dsimp only
  rw [List.map_map]
  apply List.map_congr_left
  intro x _
  show (if ((if (x.id == r1.id) = true then r1 else x).id == r2.id) = true then r2 else (if (x.id == r1.id) = true then r1 else x)) =
    (if (x.id == r2.id) = true then r2 else x)
  by_cases h : (x.id == r1.id) = true
  · have h2 : (x.id == r2.id) = true := by rw [← hid]; exact h
    have h3 : (r1.id == r2.id) = true := by simp [hid]
    simp only [h, h2, h3, if_true]
  · simp only [h, Bool.false_eq_true, if_false]

theorem setLastNext_xKey (l : List SInfo) (n : NextP) : (setLastNext l n).map xKey = l.map xKey := by
  unfold setLastNext
  split
  · rfl
  · rename_i x rest e
    have : l = (x :: rest).reverse := by rw [← e, List.reverse_reverse]
    rw [this]; simp [xKey]

theorem set_fin_xKey {l : List SInfo} {i : Nat} {st : SInfo} (h : l[i]? = some st) (b : Bool) (f : Nat) :
    (l.set i { st with finalized := b, finalizedAt := f }).map xKey = l.map xKey := by
  apply List.ext_getElem?
  intro j
  rw [List.getElem?_map, List.getElem?_map, List.getElem?_set]
  by_cases hj : i = j
  · subst hj
    have hlt : i < l.length := by
      rcases Nat.lt_or_ge i l.length with h1 | h1
      · exact h1
      · rw [List.getElem?_eq_none h1] at h; cases h
    simp only [if_true, hlt, h, Option.map_some]
    rfl
  · simp only [hj, if_false]

theorem RaAll.of_getRa {Q : Rollapp → Prop} {s : St} (hn : IdsNodup s) (h : ∀ id x, getRa s id = some x → Q x) : RaAll Q s :=
  fun x hx => h x.id x (hn.getRa_of_mem hx)

theorem ids_setRa {s : St} {id : Nat} {r r' : Rollapp} (h : IdsNodup s) (_hg : getRa s id = some r) (_hid : r'.id = r.id) :
    IdsNodup (setRa s r') := by
  unfold IdsNodup; rw [setRa_ids]; exact h

/-- `setRa` of a record that differs from the stored one only outside `xv`-minus-clock (typically: a
    new proposer), followed by the rollapp hook `AfterSetRealProposer` -/
theorem afterSetReal_q {Q : Rollapp → Prop} (hc : QClosed Q) {s : St} {ra : Nat} {a : Addr} {r r1 : Rollapp}
    (hp : 1 ≤ s.h) (h : RaAll Q s) (hg : getRa s ra = some r) (hid : r1.id = r.id) (hrev : r1.revs = r.revs)
    (hst : r1.states = r.states) : RaAll Q (afterSetRealProposer (setRa s r1) ra a) := by
  have hid' : r1.id = ra := hid.trans (getRa_id hg)
  have hg1 : getRa (setRa s r1) ra = some r1 := getRa_setRa_same_id hg hid'
  have sp := indicateLiveness_spec hg1
  unfold afterSetRealProposer
  rw [hg1]; dsimp only
  rw [sp.1]; dsimp only
  have hq1 : Q { r1 with evH := nextSlashHeight s.p.lsBlocks s.p.lsInterval s.h s.h, cdStart := s.h } :=
    hc.clock s.p.lsBlocks s.p.lsInterval s.h (h.get hg) hp hid hrev (by show r1.states.map xKey = _; rw [hst]) rfl rfl
  apply RaAll.setRa
  · refine RaAll.of_ras_eq (RaAll.setRa h hq1) ?_
    exact (indicateLiveness_ras (setRa s r1) r1).trans (setRa_setRa_ras s r1 _ rfl)
  · exact hc.clock s.p.lsBlocks s.p.lsInterval s.h (h.get hg) hp hid hrev
      (by show (setLastNext r1.states (NextP.addr a)).map xKey = _; rw [setLastNext_xKey, hst]) rfl rfl

theorem recoverFromSentinel_q {Q : Rollapp → Prop} (hc : QClosed Q) {s s' : St} {ra : Nat} (hp : 1 ≤ s.h) (h : RaAll Q s)
    (e : recoverFromSentinel s ra = .ok s') : RaAll Q s' := by
  obtain ⟨r, a, hg, _, _, rfl⟩ := recoverFromSentinel_ok e
  exact afterSetReal_q hc hp h hg rfl rfl rfl

theorem indicateLiveness_q {Q : Rollapp → Prop} (hc : QClosed Q) {s : St} {id : Nat} {r : Rollapp} (hp : 1 ≤ s.h) (h : RaAll Q s)
    (hg : getRa s id = some r) : RaAll Q (indicateLiveness s r) :=
  RaAll.of_ras_eq (RaAll.setRa h (hc.clock (r' := { r with evH := nextSlashHeight s.p.lsBlocks s.p.lsInterval s.h s.h, cdStart := s.h })
    s.p.lsBlocks s.p.lsInterval s.h (h.get hg) hp rfl rfl rfl rfl rfl)) (indicateLiveness_ras s r)

theorem hardFork_w {Q : Rollapp → Prop} (hc : QClosed Q) {s s' : St} {ra lv : Nat} (w : W Q s)
    (e : hardFork s ra lv = .ok s') : W Q s' := by
  have hids : IdsNodup s' := hardFork_cl ids_closed w.ids e
  have hh : s'.h = s.h := (hardFork_cl (hp_closed s.h s.p) ⟨rfl, rfl⟩ e).1
  refine ⟨(hardFork_own w.own e).1, hardFork_chain w.chain e, hids, by rw [hh]; exact w.hpos, ?_⟩
  obtain ⟨r, keep, kst, hg, _, _, _, hplan, _⟩ := hardFork_ok e
  obtain ⟨p', h1, h2⟩ := Fork.hardFork_getRa_same hg hplan e
  have hp' : p' = none := by
    rcases h2 with h2 | ⟨_, a, h3, h4⟩
    · exact h2
    · exfalso
      obtain ⟨q, hq, _⟩ := w.own.own ra r a hg (Or.inl h3)
      rw [h4] at hq; cases hq
  subst hp'
  refine RaAll.of_getRa hids ?_
  intro id x hx
  by_cases hid : id = ra
  · subst hid
    rw [h1] at hx; injection hx with hx; subst hx
    exact hc.fork _ keep s.h kst (w.q.get hg) (w.chain.get hg) hplan w.hpos
  · rw [Fork.hardFork_getRa_other e hid] at hx
    exact w.q.get hx

theorem hardForkToLatest_w {Q : Rollapp → Prop} (hc : QClosed Q) {s s' : St} {ra : Nat} (w : W Q s)
    (e : hardForkToLatest s ra = .ok s') : W Q s' := by
  obtain ⟨_, _, _, _, hf⟩ := hardForkToLatest_ok e
  exact hardFork_w hc w hf

theorem onProposerLastBlock_w {Q : Rollapp → Prop} (hc : QClosed Q) {s s' : St} {q : Seq} (w : W Q s)
    (e : onProposerLastBlock s q = .ok s') : W Q s' := by
  have hids : IdsNodup s' := onProposerLastBlock_cl ids_closed w.ids e
  have hh : s'.h = s.h := (onProposerLastBlock_cl (hp_closed s.h s.p) ⟨rfl, rfl⟩ e).1
  refine ⟨onProposerLastBlock_own w.own e, onProposerLastBlock_chain w.chain e, hids, by rw [hh]; exact w.hpos, ?_⟩
  obtain ⟨_, r, _, hg, rfl, h2⟩ := onProposerLastBlock_ok e
  rcases h2 with ⟨hsucc, hf⟩ | ⟨a, _, rfl⟩
  · -- no successor: fork to the sentinel
    have w1 : W Q (setRa s { r with successor := none, proposer := r.successor }) := by
      refine ⟨?_, RaAll.setRa w.chain ((w.chain.get hg).of_states rfl), ids_setRa w.ids hg rfl, w.hpos, ?_⟩
      · refine w.own.setRa_ps hg (by rfl) ?_
        intro b hb
        rcases hb with hb | hb
        · exact w.own.own _ r b hg (Or.inr hb)
        · cases hb
      · exact RaAll.setRa w.q (hc.view (w.q.get hg) rfl (Or.inr hsucc))
    exact (hardForkToLatest_w hc w1 hf).q
  · have hg' : getRa s r.id = some r := by rw [getRa_id hg]; exact hg
    exact afterSetReal_q hc w.hpos w.q hg' rfl rfl rfl

theorem seqAfterUpdate_w {Q : Rollapp → Prop} (hc : QClosed Q) {s s' : St} {m : UpdMsg} {b : Bool} (w : W Q s)
    (e : seqAfterUpdate s m b = .ok s') : W Q s' := by
  obtain ⟨prop, _, hg, rfl, h2⟩ := seqAfterUpdate_ok e
  have w1 : W Q (setSeq s { prop with dishonor := prop.dishonor - min s.sqp.dishonorSU prop.dishonor }) :=
    ⟨w.own.setSeq (q' := { prop with dishonor := prop.dishonor - min s.sqp.dishonorSU prop.dishonor }) (q0 := prop)
        (by show getSeq s prop.addr = some prop; rw [getSeq_addr hg]; exact hg) rfl,
      w.chain.ras_eq rfl, w.ids, w.hpos, RaAll.of_ras_eq w.q rfl⟩
  rcases h2 with ⟨_, rfl⟩ | ⟨_, e⟩
  · exact w1
  · exact onProposerLastBlock_w hc w1 e

theorem updateState_w {Q : Rollapp → Prop} (hc : QClosed Q) {s s' : St} {m : UpdMsg} (w : W Q s)
    (e : updateState s m = .ok s') : W Q s' := by
  have hids : IdsNodup s' := updateState_cl ids_closed w.ids e
  have hh : s'.h = s.h := (updateState_cl (hp_closed s.h s.p) ⟨rfl, rfl⟩ e).1
  refine ⟨updateState_own w.own e, updateState_chain w.chain e, hids, by rw [hh]; exact w.hpos, ?_⟩
  obtain ⟨r, s3, _, r4, hvb, hg, _, _, hrev, hpre, _, h3, rfl, hg4, rfl⟩ := updateState_ok e
  have wnew : W Q (setRa s { r with states := r.states ++ [newSInfo s m (updSucc r m)] }) := by
    refine ⟨w.own.setRa_same hg rfl rfl rfl, ?_, ids_setRa w.ids hg rfl, w.hpos, ?_⟩
    · exact RaAll.setRa w.chain (chain_append_update (w.chain.get hg) hvb hpre s _)
    · exact RaAll.setRa w.q (hc.append s m _ (w.q.get hg) (w.chain.get hg) hvb hpre hrev)
  have w3 := seqAfterUpdate_w hc wnew h3
  exact indicateLiveness_q hc (by show 1 ≤ s3.h; exact w3.hpos) (RaAll.of_ras_eq w3.q rfl) hg4

end DymVerif.Core.XW
