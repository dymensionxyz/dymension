/-
  Lemmas/IroSolvent — the solvency invariant of an unsettled plan and the per-trade potential of a
  trader (round trips), for every curve oracle `I`.

  The Newton contract is POINTWISE (`NewtonUpperAt I T L sold net`): the step lemmas (`exec_inv` in
  Lemmas/IroVestInv for `Solv`, `trade_potential_at`) and the run lemma (`run_potential_at`) ask for it
  only at the exact-spend purchase the step actually EXECUTES (`besPoint`), a history only at its
  executed purchases (`besPoints`).  The global contract `NewtonUpper` (every sold, every net spend — which the real
  Newton iteration does not meet on dust inputs) implies every pointwise one; the lemmas under the
  global contract follow from them (`besOkAt_of_global`, `NewtonUpperOn.of_global`).
-/
import DymVerif.Lemmas.IroSteps
namespace DymVerif.Iro
open DymVerif

/-- Newton contract, upper half, in exact (unfloored) terms: the tokens the code grants for a net
    spend cost at most that spend.  A hypothesis about the oracle `T`; monitored at run time. -/
def NewtonUpper (I : Int → Int) (T : Int → Int → Option Int) (L : Nat) : Prop :=
  ∀ sold net t, tokensForExactIn T L sold net = some t →
    pow10 L * (I (sold + t) - I sold) ≤ decP * net

/-- rational-free solvency: `10^L·(I sold − I 0) < 10^18·(balance + trades + 1)` -/
def Solv (I : Int → Int) (st : State) : Prop :=
  (st.plan = none → 0 ≤ st.planLiq) ∧
  ∀ p, st.plan = some p → p.settled = false →
    pow10 p.L * (I p.sold - I 0) < decP * (st.planLiq + st.trades + 1)

theorem newtonUpperAtB_iff (I : Int → Int) (T : Int → Int → Option Int) (L : Nat) (sold net : Int) :
    newtonUpperAtB I T L sold net = true ↔ NewtonUpperAt I T L sold net := by
  unfold newtonUpperAtB NewtonUpperAt
  cases h : tokensForExactIn T L sold net with
  | none => simp
  | some t => simp

theorem NewtonUpper.at {I : Int → Int} {T : Int → Int → Option Int} {L : Nat} (h : NewtonUpper I T L)
    (sold net : Int) : NewtonUpperAt I T L sold net := fun t ht => h sold net t ht

/-- the contract at every point of a list — the BLAME SET of a history is `besPoints` -/
def NewtonUpperOn (I : Int → Int) (T : Int → Int → Option Int) (pts : List (Nat × Int × Int)) : Prop :=
  ∀ pt ∈ pts, NewtonUpperAt I T pt.1 pt.2.1 pt.2.2

/-- no point to blame: the contract holds on the whole list -/
theorem NewtonUpperOn.of_no_blame {I : Int → Int} {T : Int → Int → Option Int} {pts : List (Nat × Int × Int)}
    (h : ¬ ∃ pt ∈ pts, ¬ NewtonUpperAt I T pt.1 pt.2.1 pt.2.2) : NewtonUpperOn I T pts :=
  fun pt hpt => Classical.byContradiction fun hn => h ⟨pt, hpt, hn⟩

theorem NewtonUpperOn.head {I : Int → Int} {T : Int → Int → Option Int} {st : State} {o : Op} {os : List Op}
    (h : NewtonUpperOn I T (besPoints I T st (o :: os))) : (step I T st o).2 = .ok → BesOkAt I T st o := by
  intro hok pt hpt
  apply h
  simp only [besPoints, hok, if_true, List.mem_append]
  exact Or.inl (by simp [hpt])

theorem NewtonUpperOn.tail {I : Int → Int} {T : Int → Int → Option Int} {st : State} {o : Op} {os : List Op}
    (h : NewtonUpperOn I T (besPoints I T st (o :: os))) : NewtonUpperOn I T (besPoints I T (step I T st o).1 os) := by
  intro pt hpt
  apply h
  simp only [besPoints, List.mem_append]
  exact Or.inr hpt

/-- the global contract covers every history -/
theorem NewtonUpper.on {I : Int → Int} {T : Int → Int → Option Int} (st : State) (ops : List Op)
    (h : ∀ pt ∈ besPoints I T st ops, NewtonUpper I T pt.1) : NewtonUpperOn I T (besPoints I T st ops) :=
  fun pt hpt => (h pt hpt).at _ _

theorem Solv.of_some {I : Int → Int} {st : State} {p : Plan} (hp : st.plan = some p)
    (h : p.settled = false → pow10 p.L * (I p.sold - I 0) < decP * (st.planLiq + st.trades + 1)) : Solv I st :=
  ⟨fun hn => (nomatch hp.symm.trans hn), fun _ hq => Option.some.inj (hp.symm.trans hq) ▸ h⟩

theorem besOkAt_of_global {I : Int → Int} {T : Int → Int → Option Int} {st : State} {p : Plan}
    (hp : st.plan = some p) (op : Op) (hN : isBes op = true → NewtonUpper I T p.L) : BesOkAt I T st op := by
  intro pt hpt
  cases op with
  | bes a sp mt =>
    simp only [besPoint, hp] at hpt
    split at hpt
    · cases hpt
      exact (hN rfl).at _ _
    · cases hpt
  | _ => simp [besPoint] at hpt

/-! ### round trips: a trader's potential `10^18·liq a + 10^L·I(sold)` strictly decreases at each of its trades -/

def potential (I : Int → Int) (L : Nat) (st : State) (a : Nat) (sold : Int) : Int :=
  decP * st.liq a + pow10 L * I sold

/-- a trade keeps the plan and its liquidity decimals; if it is executed (an exact-spend purchase meeting the
    contract at its point) the trader's potential strictly decreases -/
theorem trade_potential_at {I : Int → Int} {T : Int → Int → Option Int} {st : State} {a : Nat} (op : Op)
    (hop : isTradeBy a op = true) {p : Plan} (hp : st.plan = some p) :
    ∃ p', (step I T st op).1.plan = some p' ∧ p'.L = p.L ∧
      ((step I T st op).1 = st ∨ (((step I T st op).2 = .ok → BesOkAt I T st op) →
        potential I p.L (step I T st op).1 a p'.sold < potential I p.L st a p.sold)) := by
  rcases step_cases I T st op with h | ⟨hact, h⟩
  · exact ⟨p, by rw [h]; exact hp, rfl, Or.inl h⟩
  · generalize (step I T st op).1 = st' at h
    -- the trader pays more than `c`, and the curve value of `sold` grows by less than `c + 1`
    obtain ⟨q, δ, c, l, ht, rfl, -, hl, hc⟩ := trade_ok h hop
    obtain ⟨hq, -, -⟩ := tradeable_ok ht
    cases hp.symm.trans hq
    refine ⟨_, rfl, rfl, Or.inr fun hN => ?_⟩
    have hc := hc (hN (congrArg Prod.snd (step_of_exec_ok hact h)))
    simp only [potential, Int.mul_sub] at hc ⊢
    unfold decP at hc ⊢
    omega

theorem trade_keeps_L {I : Int → Int} {T : Int → Int → Option Int} {st : State} {a : Nat} (op : Op)
    (hop : isTradeBy a op = true) {p : Plan} (hp : st.plan = some p) :
    ∃ p', (step I T st op).1.plan = some p' ∧ p'.L = p.L :=
  let ⟨p', h1, h2, _⟩ := trade_potential_at (I := I) (T := T) op hop hp
  ⟨p', h1, h2⟩

theorem run_cons (I : Int → Int) (T : Int → Int → Option Int) (st : State) (o : Op) (ops : List Op) :
    run I T st (o :: ops) = run I T (step I T st o).1 ops := rfl

/-- trades of one trader, the contract demanded only at the exact-spend purchases the run executes -/
theorem run_potential_at {I : Int → Int} {T : Int → Int → Option Int} {a : Nat} (ops : List Op) :
    ∀ (st : State) (p : Plan), st.plan = some p →
      (∀ o ∈ ops, isTradeBy a o = true) → NewtonUpperOn I T (besPoints I T st ops) →
      run I T st ops = st ∨
      ∃ p', (run I T st ops).plan = some p' ∧ p'.L = p.L ∧
        potential I p.L (run I T st ops) a p'.sold < potential I p.L st a p.sold := by
  induction ops with
  | nil => intro st p _ _ _; exact Or.inl rfl
  | cons o ops ih =>
    intro st p hp hops hN
    rw [run_cons]
    have ho := hops o (by simp)
    have hops' : ∀ o' ∈ ops, isTradeBy a o' = true := fun o' h => hops o' (by simp [h])
    obtain ⟨p1, hp1, hL1, h1 | hlt1⟩ := trade_potential_at (I := I) (T := T) o ho hp
    · have hN' := hN.tail
      rw [h1] at hN' ⊢
      exact ih st p hp hops' hN'
    · have hlt1 := hlt1 hN.head
      rcases ih _ p1 hp1 hops' hN.tail with h2 | ⟨p2, hp2, hL2, hlt2⟩
      · rw [h2]; exact Or.inr ⟨p1, hp1, hL1, hlt1⟩
      · refine Or.inr ⟨p2, hp2, by rw [hL2, hL1], ?_⟩
        rw [hL1] at hlt2
        exact Int.lt_trans hlt2 hlt1

/-- along the trades of one trader the global contract for the plan's liquidity decimals covers every
    executed purchase -/
theorem NewtonUpperOn.of_global {I : Int → Int} {T : Int → Int → Option Int} {a : Nat} (ops : List Op) :
    ∀ (st : State) (p : Plan), st.plan = some p →
      (∀ o ∈ ops, isTradeBy a o = true) → (∀ o ∈ ops, isBes o = true → NewtonUpper I T p.L) →
      NewtonUpperOn I T (besPoints I T st ops) := by
  induction ops with
  | nil => intro _ _ _ _ _ pt hpt; cases hpt
  | cons o os ih =>
    intro st p hp hops hN pt hpt
    simp only [besPoints, List.mem_append] at hpt
    rcases hpt with hpt | hpt
    · split at hpt
      · exact besOkAt_of_global hp o (hN o (by simp)) pt (by simpa using hpt)
      · cases hpt
    · obtain ⟨p', hp', hL⟩ := trade_keeps_L (I := I) (T := T) o (hops o (by simp)) hp
      exact ih _ p' hp' (fun o' h => hops o' (by simp [h])) (fun o' h => hL ▸ hN o' (by simp [h])) pt hpt

end DymVerif.Iro
