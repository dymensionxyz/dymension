/-
  Lemmas/SponsFrame — what an op leaves alone.  `FrameK kg ke s s'`: the op created no gauge and no
  endorsement, and the lookups `gauge? / endorsement?` return entries with the same key (`kg` / `ke`).
  With the fine keys (id, kind, EpochRewards) / (rollapp, rollapp gauge, EpochShares) this holds for
  every op except the creation ops and the end of a distribution epoch; with the coarse keys
  (id, kind) / (rollapp, rollapp gauge) for the end of a distribution epoch too.  First: the rollapp a
  gauge id belongs to (`raOf`) and the share update one entry at a time, which the frames speak about.
-/
import DymVerif.Lemmas.SponsClaim
namespace DymVerif.Spons

/-! ### rollapp gauges, share updates -/

/-- the rollapp a gauge id belongs to, if it is a rollapp gauge -/
def raOf (gs : List Gauge) (gid : Nat) : Option Nat :=
  match gs.find? (·.id == gid) with
  | some g => (match g.kind with | .rollapp r => some r | _ => none)
  | none => none

theorem updateShares_cons (gs : List Gauge) (es : List Endorsement) (u : GP) (us : List GP) :
    updateShares gs es (u :: us) =
      updateShares gs (match raOf gs u.1 with | some r => addShares es r u.2 | none => es) us := by
  unfold raOf
  rw [updateShares]
  split
  · rename_i g hg
    simp only [hg]
    split <;> rename_i hk <;> simp [hk]
  · rename_i hg; simp [hg]

/-- the rollapp a gauge kind belongs to -/
def kindRa : GKind → Option Nat
  | .rollapp r => some r
  | _ => none

theorem raOf_eq_kindRa (gs : List Gauge) (g : Nat) :
    raOf gs g = (gs.find? (·.id == g)).bind (fun x => kindRa x.kind) := by
  unfold raOf
  cases gs.find? (·.id == g) with
  | none => rfl
  | some x => simp only [Option.bind]; cases x.kind <;> rfl

theorem find_addShares (es : List Endorsement) (r r' : Nat) (p : Int) :
    (addShares es r' p).find? (·.r == r) =
      (es.find? (·.r == r)).map (fun e => if e.r = r' then { e with total := e.total + p } else e) :=
  find_map_key (key := Endorsement.r) (fun x => by split <;> rfl) es r

/-! ### frames -/

def gkey (g : Gauge) : Nat × GKind × Option Int := (g.id, g.kind, g.epochRewards)
def ekey (e : Endorsement) : Nat × Nat × Int := (e.r, e.gaugeId, e.epoch)
def gkey0 (g : Gauge) : Nat × GKind := (g.id, g.kind)
def ekey0 (e : Endorsement) : Nat × Nat := (e.r, e.gaugeId)

structure FrameK {α β : Type} (kg : Gauge → α) (ke : Endorsement → β) (s s' : State) : Prop where
  ids : s'.gauges.map (·.id) = s.gauges.map (·.id)
  gk : ∀ gid, (s'.gauge? gid).map kg = (s.gauge? gid).map kg
  ek : ∀ r, (s'.endorsement? r).map ke = (s.endorsement? r).map ke
  last : s'.lastGauge = s.lastGauge

abbrev Frame := FrameK gkey ekey
abbrev Frame0 := FrameK gkey0 ekey0

theorem FrameK.refl {α β : Type} (kg : Gauge → α) (ke : Endorsement → β) (s : State) : FrameK kg ke s s :=
  ⟨rfl, fun _ => rfl, fun _ => rfl, rfl⟩

theorem FrameK.trans {α β : Type} {kg : Gauge → α} {ke : Endorsement → β} {a b c : State}
    (h1 : FrameK kg ke a b) (h2 : FrameK kg ke b c) : FrameK kg ke a c :=
  ⟨h2.ids.trans h1.ids, fun g => (h2.gk g).trans (h1.gk g), fun r => (h2.ek r).trans (h1.ek r),
   h2.last.trans h1.last⟩

/-- forgetting EpochRewards in the gauge key -/
theorem FrameK.coarse_g {β : Type} {ke : Endorsement → β} {s s' : State} (h : FrameK gkey ke s s') :
    FrameK gkey0 ke s s' := by
  refine ⟨h.ids, fun g => ?_, h.ek, h.last⟩
  have := congrArg (Option.map fun k : Nat × GKind × Option Int => (k.1, k.2.1)) (h.gk g)
  rw [Option.map_map, Option.map_map] at this; exact this

theorem Frame.coarse {s s' : State} (h : Frame s s') : Frame0 s s' := by
  refine ⟨h.ids, h.coarse_g.gk, fun r => ?_, h.last⟩
  have := congrArg (Option.map fun k : Nat × Nat × Int => (k.1, k.2.1)) (h.ek r)
  rw [Option.map_map, Option.map_map] at this; exact this

/-! ### endorsement keys under share updates -/

theorem find_updateShares_ekey (gs : List Gauge) (es : List Endorsement) (us : List GP) (r : Nat) :
    ((updateShares gs es us).find? (·.r == r)).map ekey = (es.find? (·.r == r)).map ekey := by
  induction us generalizing es with
  | nil => rfl
  | cons u us ih =>
    rw [updateShares_cons]
    cases raOf gs u.1 with
    | none => exact ih es
    | some r' =>
      simp only; rw [ih, find_addShares]
      cases es.find? (·.r == r) with
      | none => rfl
      | some e => simp only [Option.map]; split <;> rfl

/-- share updates change totals only: same gauge table, same keys of the endorsements -/
theorem Merged.frame {s s' : State} {u : Dist} (h : Merged s s' u) : Frame s s' :=
  ⟨by rw [h.gauges], fun g => by unfold State.gauge?; rw [h.gauges],
    fun r => by unfold State.endorsement?; rw [h.endo]; exact find_updateShares_ekey .., h.last⟩

theorem applyUpdate_frame (s : State) (u : Dist) : Frame s (s.applyUpdate u) := (Merged.applyUpdate s u).frame

/-! ### gauge keys under `updGauge` -/

theorem map_id_updGauge (gs : List Gauge) (g2 : Gauge) : (updGauge gs g2).map (·.id) = gs.map (·.id) := by
  unfold updGauge
  rw [List.map_map]
  apply List.map_congr_left
  intro x _
  show (if x.id = g2.id then g2 else x).id = x.id
  split
  · rename_i h; exact h.symm
  · rfl

/-- replacing the stored gauge `g` (found under its id) by `g2` with the same key keeps every lookup's key -/
theorem find_updGauge_key {α : Type} (kg : Gauge → α) {gs : List Gauge} {g g2 : Gauge} {gid' : Nat}
    (hg : gs.find? (·.id == gid') = some g) (hid : g2.id = g.id) (hk : kg g2 = kg g) (gid : Nat) :
    ((updGauge gs g2).find? (·.id == gid)).map kg = (gs.find? (·.id == gid)).map kg := by
  rw [find_updGauge]
  cases hf : gs.find? (·.id == gid) with
  | none => rfl
  | some x =>
    simp only [Option.map]
    by_cases hx : x.id = g2.id
    · have h1 : x.id = gid := by have := List.find?_some hf; simpa using this
      have h2 : g.id = gid' := by have := List.find?_some hg; simpa using this
      have : gid' = gid := h2.symm.trans (hid.symm.trans (hx.symm.trans h1))
      subst this
      rw [hf] at hg; cases hg
      simp [hx, hk]
    · simp [hx]

/-- a claim and a funding rewrite one gauge's accounting: every endorsement and the votes stay -/
theorem claim_frame {β : Type} (ke : Endorsement → β) {s s1 : State} {a gid : Nat} {p : Int}
    (h : s.claim a gid = .ok (s1, p)) : FrameK gkey ke s s1 ∧ s1.votes = s.votes := by
  rcases claim_eq h with rfl | ⟨g, hg, rfl⟩
  · exact ⟨⟨rfl, fun _ => rfl, fun _ => rfl, rfl⟩, rfl⟩
  · exact ⟨⟨map_id_updGauge _ _,
      fun gid => find_updGauge_key gkey (g2 := { g with distributed := g.distributed + p }) hg rfl rfl gid,
      fun _ => rfl, rfl⟩, rfl⟩

theorem fund_frame {β : Type} (ke : Endorsement → β) {s s1 : State} {g : Nat} {amt : Int}
    (h : s.fund g amt = .ok s1) : FrameK gkey ke s s1 ∧ s1.votes = s.votes := by
  obtain ⟨g0, hg, rfl⟩ := fund_ok h
  exact ⟨⟨map_id_updGauge _ _,
    fun gid => find_updGauge_key gkey (g2 := { g0 with coins := g0.coins + amt }) hg rfl rfl gid,
    fun _ => rfl, rfl⟩, rfl⟩

/-! ### the end of a distribution epoch keeps the coarse keys -/

theorem map_id_map {f : Gauge → Gauge} (hid : ∀ x, (f x).id = x.id) (gs : List Gauge) :
    (gs.map f).map (·.id) = gs.map (·.id) := by
  rw [List.map_map]; apply List.map_congr_left; intro x _; exact hid x

theorem find_map_key0 {f : Gauge → Gauge} (hid : ∀ x, (f x).id = x.id) (hk : ∀ x, (f x).kind = x.kind)
    (gs : List Gauge) (gid : Nat) :
    ((gs.map f).find? (·.id == gid)).map gkey0 = (gs.find? (·.id == gid)).map gkey0 := by
  rw [find_map_key (key := Gauge.id) hid]
  cases gs.find? (·.id == gid) with
  | none => rfl
  | some x => simp [Option.map, gkey0, hid, hk]

theorem epochEnd_true_endorsement? (s : State) (r : Nat) :
    (s.epochEnd true).endorsement? r = (s.endorsement? r).map (fun e => { e with epoch := e.total }) := by
  obtain ⟨f, _, e⟩ := epochEnd_true s
  rw [e]
  exact find_map_key (key := Endorsement.r) (f := fun e => { e with epoch := e.total }) (fun _ => rfl) s.endorsements r

/-- the end of an epoch keeps every endorsement key that does not look at the snapshot, and the votes -/
theorem epochEnd_frame0 {β : Type} (ke : Endorsement → β) (hke : ∀ (e : Endorsement) (t : Int), ke { e with epoch := t } = ke e)
    (s : State) (d : Bool) : FrameK gkey0 ke s (s.epochEnd d) ∧ (s.epochEnd d).votes = s.votes := by
  cases d
  · exact ⟨FrameK.refl _ _ _, rfl⟩
  · obtain ⟨f, hf, e⟩ := epochEnd_true s
    have hek := epochEnd_true_endorsement? s
    rw [e] at hek ⊢
    refine ⟨⟨map_id_map (fun x => (hf x).1) _, fun gid => find_map_key0 (fun x => (hf x).1) (fun x => (hf x).2) _ _,
      fun r => ?_, rfl⟩, rfl⟩
    rw [hek r]
    cases s.endorsement? r with
    | none => rfl
    | some x => exact congrArg some (hke x _)

/-! ### steps -/

def isAdd : Op → Bool
  | .addGauge _ => true
  | .addRollapp _ => true
  | _ => false

/-- every op other than a creation op and the end of a distribution epoch keeps the fine keys -/
theorem step_frame {s : State} {op : Op} (ha : isAdd op = false) (he : isEpochEnd op = false) :
    Frame s (step s op).1 := by
  have mv := moves_ind (W := fun _ => True) (P := Frame s) (fun h f => f.trans h.toMerged.frame)
    (fun h _ f => f.trans h.toMerged.frame)
  have h0 : VotesAll (fun _ => True) s ∧ Frame s s := ⟨fun _ _ => trivial, FrameK.refl _ _ _⟩
  refine step_cases (P := Frame s) s op h0.2 ?_
  cases op with
  | vote a ws => exact fun s1 h => (mv.1 h trivial h0).2
  | revoke a => exact fun v hv => (Drop.revokeVote hv).toMerged.frame
  | claim a g => exact fun s1 p h => (claim_frame ekey h).1
  | staking a hs fin =>
    intro s1 h
    have := (mv.2 h h0).2
    exact ⟨this.ids, this.gk, this.ek, this.last⟩
  | slash fin => exact ⟨rfl, fun _ => rfl, fun _ => rfl, rfl⟩
  | epochEnd d =>
    cases d
    · exact FrameK.refl _ _ _
    · cases he
  | fund g amt => exact fun s1 h => (fund_frame ekey h).1
  | addGauge g => cases ha
  | addRollapp r => cases ha
  | setParams ma mv =>
    intro s1 h
    obtain ⟨rfl, _⟩ := setParams_ok h
    exact ⟨rfl, fun _ => rfl, fun _ => rfl, rfl⟩

/-- every op other than a creation op keeps the coarse keys -/
theorem step_frame0 {s : State} {op : Op} (ha : isAdd op = false) : Frame0 s (step s op).1 := by
  by_cases he : isEpochEnd op = true
  · cases op with
    | epochEnd d =>
      cases d
      · cases he
      · exact (epochEnd_frame0 ekey0 (fun _ _ => rfl) s true).1
    | _ => cases he
  · exact (step_frame ha (by simpa using he)).coarse

/-! ### what the keys determine -/

theorem raOf_of_gk0 {s s' : State} (h : ∀ gid, (s'.gauge? gid).map gkey0 = (s.gauge? gid).map gkey0) (gid : Nat) :
    raOf s'.gauges gid = raOf s.gauges gid := by
  have key : ∀ t : State, raOf t.gauges gid = ((t.gauge? gid).map gkey0).bind (fun k => kindRa k.2) := fun t => by
    rw [raOf_eq_kindRa]; unfold State.gauge?
    cases t.gauges.find? (fun x : Gauge => x.id == gid) <;> rfl
  rw [key, key, h gid]

theorem endo_isSome_of_ek {β : Type} {ke : Endorsement → β} {s s' : State}
    (h : ∀ r, (s'.endorsement? r).map ke = (s.endorsement? r).map ke) (r : Nat) :
    (s'.endorsement? r).isSome = (s.endorsement? r).isSome := by
  have := congrArg Option.isSome (h r)
  simpa using this

/-- what a lookup found before, a lookup with the same key finds an entry with that key -/
theorem some_of_map_eq {α β : Type} {k : α → β} {o o' : Option α} {x : α} (h : o'.map k = o.map k)
    (ho : o = some x) : ∃ x', o' = some x' ∧ k x' = k x := by
  subst ho
  cases o' with
  | none => cases h
  | some x' => exact ⟨x', rfl, Option.some.inj h⟩

theorem GaugeIs_of_frame {s s' : State} (h : Frame s s') {gid r : Nat} {R : Int} (hG : GaugeIs s gid r R) :
    GaugeIs s' gid r R := by
  obtain ⟨g, hg, hk, hr⟩ := hG
  obtain ⟨x, hx, e⟩ := some_of_map_eq (h.gk gid) hg
  simp only [gkey, Prod.mk.injEq] at e
  exact ⟨x, hx, e.2.1.trans hk, e.2.2.trans hr⟩

theorem EndoIs_of_frame {s s' : State} (h : Frame s s') {r rg : Nat} {S : Int} (hE : EndoIs s r rg S) :
    EndoIs s' r rg S := by
  obtain ⟨e, he, hg, hs⟩ := hE
  obtain ⟨x, hx, e'⟩ := some_of_map_eq (h.ek r) he
  simp only [ekey, Prod.mk.injEq] at e'
  exact ⟨x, hx, e'.2.1.trans hg, e'.2.2.trans hs⟩

end DymVerif.Spons
