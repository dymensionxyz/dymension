/-
  Lemmas/CoreXFork — helper lemmas for Props/C03X:
  * the finalization invariant (`FinInv`, C02) gives the `FinPrefix` hypothesis of the fork theorems;
  * the exact frame of `punish` (the step that precedes the fork inside a fraud proposal): it writes
    the punished sequencer's `tokens` (to 0), bank balances, the module balance and the burned total;
    no rollapp record, queue entry, liability, liveness event, notice-queue entry, clock or x/rollapp
    parameter changes (`NoMoneyEq`), and no other field of any sequencer record.
-/
import DymVerif.Lemmas.CoreForkQuiet
import DymVerif.Lemmas.CoreForkFin
import DymVerif.Lemmas.CoreFinInv
import DymVerif.Lemmas.CoreCustody4
namespace DymVerif.Core.XFork
open DymVerif.Core.Fork

/-- the per-rollapp finalization invariant says "finalized ⇔ index below `lastFin`", hence the
    finalized states form a prefix -/
theorem finPrefix_of_finInv {s : St} (hi : FinInv s) {r : Rollapp} (hr : r ∈ s.ras) : FinPrefix r.states := by
  intro i j a b hij ha hb hbf
  have h := hi.ras r hr
  have hj := (h.pre j b hb).1 hbf
  exact (h.pre i a ha).2 (by omega)

/-- clock, x/rollapp parameters, rollapp records, queue, liabilities, liveness events, obsolete list and notice
    queue are the same -/
structure NoMoneyEq (s s1 : St) : Prop where
  h : s1.h = s.h
  t : s1.t = s.t
  p : s1.p = s.p
  ras : s1.ras = s.ras
  queue : s1.queue = s.queue
  seqH : s1.seqH = s.seqH
  lev : s1.lev = s.lev
  obsolete : s1.obsolete = s.obsolete
  nq : s1.nq = s.nq

theorem NoMoneyEq.refl (s : St) : NoMoneyEq s s := ⟨rfl, rfl, rfl, rfl, rfl, rfl, rfl, rfl, rfl⟩

theorem BalOnly.noMoney {s s1 : St} (h : BalOnly s s1) : NoMoneyEq s s1 := by
  obtain ⟨_, _, _, rfl⟩ := h
  exact ⟨rfl, rfl, rfl, rfl, rfl, rfl, rfl, rfl, rfl⟩

/-- **the exact effect of `punish` outside money**: the punished record keeps every field except
    `tokens`, which becomes 0; every other record and everything that is not a sequencer record or money
    is literally the same -/
theorem punish_exact {s s' : St} {a : Addr} {rw : Option Addr} (e : punish s a rw = .ok s') :
    NoMoneyEq s s' ∧
    (∃ q, getSeq s a = some q ∧ getSeq s' a = some { q with tokens := 0 }) ∧
    (∀ b, b ≠ a → getSeq s' b = getSeq s b) := by
  obtain ⟨q, s1, q1, hg, hs, rfl⟩ := punish_ok e
  obtain ⟨hb, x, rfl⟩ := slash_tokens hs
  -- the reward `x` and the burnt rest use up the whole bond
  rw [show q.tokens - x - (q.tokens - x) = 0 from Nat.sub_self _]
  have x1 := BalOnly.noMoney hb
  obtain ⟨_, _, _, rfl⟩ := hb
  have hqa : q.addr = a := getSeq_addr hg
  refine ⟨⟨x1.h, x1.t, x1.p, x1.ras, x1.queue, x1.seqH, x1.lev, x1.obsolete, x1.nq⟩, ⟨q, hg, ?_⟩, ?_⟩
  · exact hqa ▸ getSeq_setSeq_self (q := { q with tokens := 0 }) (q0 := q) (hqa.symm ▸ hg)
  · intro b hb
    exact getSeq_setSeq_other (q := { q with tokens := 0 }) (hqa ▸ Ne.symm hb)

/-- the finalization invariant does not read money or sequencer records -/
theorem NoMoneyEq.finInv {s s1 : St} (nm : NoMoneyEq s s1) (hf : FinInv s) : FinInv s1 :=
  ⟨by unfold IdsNodup; rw [nm.ras]; exact hf.nodup, by rw [nm.queue]; exact hf.sorted,
   by rw [nm.queue, nm.h]; exact hf.ent, by rw [nm.queue, nm.ras]; exact hf.qra,
   by intro r hr; rw [nm.ras] at hr; rw [nm.queue, nm.p]; exact hf.ras r hr⟩

theorem punish_ras {s s' : St} {a : Addr} {rw : Option Addr} (e : punish s a rw = .ok s') : s'.ras = s.ras :=
  (punish_exact e).1.ras

/-- `punish` preserves the three fork invariants -/
theorem punish_inv {s s' : St} {a : Addr} {rw : Option Addr} (hi : Inv s) (e : punish s a rw = .ok s') : Inv s' :=
  ⟨punish_chain hi.chain e, punish_cust hi.cust e, (punish_good e).J hi.j⟩

/-- the state the fork of a fraud proposal starts from: the input state, punished or not -/
theorem fraud_mid {s s' : St} {au : Bool} {ra h rev : Nat} {pun rw : Option Addr}
    (e : fraud s au ra h rev pun rw = .ok s') :
    au = true ∧ h ≠ 0 ∧ ∃ r s1, getRa s ra = some r ∧ revForHeight r h = rev ∧
      (match pun with | some a => punish s a rw = .ok s1 | none => s1 = s) ∧
      NoMoneyEq s s1 ∧ getRa s1 ra = some r ∧ hardFork s1 ra (h - 1) = .ok s' := by
  obtain ⟨h1, h2, r, s1, h3, h4, h5, h6⟩ := fraud_ok_elim e
  refine ⟨h1, h2, r, s1, h3, h4, h5, ?_⟩
  cases pun with
  | none =>
    have : s1 = s := h5
    subst this
    exact ⟨NoMoneyEq.refl _, h3, h6⟩
  | some a =>
    have hx := (punish_exact (show punish s a rw = .ok s1 from h5)).1
    exact ⟨hx, by rw [getRa_congr hx.ras]; exact h3, h6⟩

end DymVerif.Core.XFork
