/-
  Lemmas/SponsMin — the minimum voting power under MsgUpdateParams.  `MinInv` (recorded power ≥ the
  CURRENT minimum) is kept by every op except a RAISE of MinVotingPower (`step_min`, `NoRaiseMin`):
  `SetParams` does not revisit the stored votes.  What is true in ALL histories: a vote's recorded
  power is at least the minimum that was in force when the vote last changed (`GMinInv`, with the
  ghost map `ghostRun`).
-/
import DymVerif.Lemmas.SponsRun
namespace DymVerif.Spons

/-- every voter's vote is either left as it was or, if present afterwards, at least the minimum in
    force after the op -/
def Touch (s s' : State) : Prop :=
  ∀ b, s'.vote? b = s.vote? b ∨ ∀ v', s'.vote? b = some v' → s'.minVP ≤ v'.vp

theorem Touch.refl (s : State) : Touch s s := fun _ => Or.inl rfl

theorem Touch.trans {a b c : State} (h1 : Touch a b) (h2 : Touch b c) (hm : c.minVP = b.minVP) : Touch a c := by
  intro x
  rcases h2 x with e2 | g2
  · rcases h1 x with e1 | g1
    · exact Or.inl (e2.trans e1)
    · refine Or.inr (fun v' hv' => ?_)
      rw [hm]; exact g1 v' (e2 ▸ hv')
  · exact Or.inr g2

theorem Touch.of_same {s s' : State} (h : s'.votes = s.votes) : Touch s s' := by
  intro b; left; unfold State.vote?; rw [h]

theorem Drop.touch {s s' : State} {a : Nat} {v : Vote} (h : Drop s s' a v) : Touch s s' := by
  intro b
  unfold State.vote?; rw [h.votes]
  by_cases hb : b = a
  · subst hb; right; intro v' hv'; rw [alookup_aerase_self] at hv'; cases hv'
  · left; exact alookup_aerase_ne hb _

/-- the stored vote meets the minimum in force afterwards; nobody else is touched -/
theorem Put.touch {s s' : State} {a : Nat} {nv : Vote} (h : Put s s' a nv) : Touch s s' := by
  intro b
  unfold State.vote?; rw [h.votes]
  by_cases hb : b = a
  · subst hb
    refine .inr (fun v' hv' => ?_)
    rw [alookup_aset_self] at hv'
    cases hv'; exact h.minVP ▸ h.low
  · exact .inl (alookup_aset_ne hb _ _)

theorem step_touch (s : State) (op : Op) : Touch s (step s op).1 :=
  (step_core_ind (W := fun _ => True) (P := Touch s) op (fun _ _ => trivial) (Touch.refl s) (fun _ _ _ _ _ => trivial)
    (fun c t => t.trans (Touch.of_same c.votes) c.minVP) (fun h t => t.trans h.touch h.minVP)
    (fun h _ t => t.trans h.touch h.minVP) (fun _ _ _ _ _ => .inl rfl)).2

/-! ### the ghost map: minimum in force when a vote last changed -/

def ghostStep (s s' : State) (m : Nat → Int) : Nat → Int :=
  fun b => if s'.vote? b = s.vote? b then m b else s'.minVP

def ghostRun (s : State) (m : Nat → Int) : List Op → (Nat → Int)
  | [] => m
  | op :: ops => ghostRun (step s op).1 (ghostStep s (step s op).1 m) ops

/-- recorded power ≥ the minimum in force when the vote last changed -/
def GMinInv (s : State) (m : Nat → Int) : Prop := ∀ a v, s.vote? a = some v → m a ≤ v.vp

theorem step_gmin {s : State} {op : Op} {m : Nat → Int} (h : GMinInv s m) :
    GMinInv (step s op).1 (ghostStep s (step s op).1 m) := by
  intro a v hv
  unfold ghostStep
  split
  · rename_i he
    exact h a v (he ▸ hv)
  · rename_i hne
    rcases step_touch s op a with e | g
    · exact absurd e hne
    · exact g v hv

theorem run_gmin {s : State} {m : Nat → Int} (ops : List Op) (h : GMinInv s m) :
    GMinInv (run s ops) (ghostRun s m ops) := by
  induction ops generalizing s m with
  | nil => exact h
  | cons op ops ih => exact ih (step_gmin h)

/-! ### histories that never raise MinVotingPower -/

def RunNoRaiseMin : State → List Op → Prop
  | _, [] => True
  | s, op :: ops => NoRaiseMin s op ∧ RunNoRaiseMin (step s op).1 ops

theorem run_min {s : State} (ops : List Op) (hm : MinInv s) (hr : RunNoRaiseMin s ops) : MinInv (run s ops) := by
  induction ops generalizing s with
  | nil => exact hm
  | cons op ops ih => exact ih (step_min hm hr.1) hr.2

end DymVerif.Spons
