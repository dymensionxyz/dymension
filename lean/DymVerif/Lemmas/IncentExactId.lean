/-
  Lemmas/IncentExactId — from the iterator's own `remaining` list (`pendR`) to the stored
  pointer (stream id, gauge id): for a stream of the pointer's epoch
      pendR data e p st k = pendId p st        (`pendR_eq_pendId`, the equality half of `pendR_le_pendId`, Lemmas/IncentPass)
  PROVIDED the pointer is `PtrOK`: it is at a first gauge (gauge id 0), or the stream it names is still in the
  iterated list, or it is past every stream (the `last` pointer).  The excluded case is exactly the recorded finding
  C15/paging_independent/pointer-stream-terminated: when the named stream has left the list `NewStreamIterator`
  bisects to the NEXT stream but keeps the saved gauge id, so that stream's gauges below it are skipped.
-/
import DymVerif.Lemmas.IncentExact
namespace DymVerif.Incent
open DymVerif Coins

theorem ptrOK_first (data : List SView) : PtrOK data Pointer.first := Or.inl rfl

/-- **`remaining` read per stream is the id-based pending amount** (resumable pointer, stream of the iterated epoch) -/
theorem pendR_eq_pendId (data : List SView) (e : Nat) (p : Pointer) (hs : SortedData data) (hp : PtrOK data p) (k : Nat) (hk : k < data.length)
    (st : Stream) (hid : st.id = data[k].id) (hrec : st.recs = data[k].recs) (hep : data[k].epochId = e) (i : Nat) :
    pendR data e p st k i = pendId p st i :=
  (pendR_le_pendId data e p hs k hk st hid hrec hep i).2 hp

end DymVerif.Incent
