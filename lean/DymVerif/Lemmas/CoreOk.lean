/-
  Lemmas/CoreOk — what an accepted call of a rollapp-side handler of M-Core went through: one inversion
  lemma per handler (`f … = .ok s'` yields the guards that held and `s'` as a term over the
  sub-handlers) and induction rules for the folds of block processing, for invariant proofs to start
  from.  (x/sequencer messages: Lemmas/CoreOkSeq.)
-/
import DymVerif.Lemmas.CoreOkSeq
namespace DymVerif.Core

-- ---------------------------------------------------------------- proposer rotation

theorem recoverFromSentinel_ok {s s' : St} {ra : Nat} (e : recoverFromSentinel s ra = .ok s') :
    ∃ r a, getRa s ra = some r ∧ r.proposer = none ∧ choose s ra = some a ∧
      s' = afterSetRealProposer (setRa s { r with proposer := some a }) ra a := by
  unfold recoverFromSentinel at e
  cases hg : getRa s ra with
  | none => rw [hg] at e; cases e
  | some r =>
    rw [hg] at e
    dsimp only at e
    cases hp : r.proposer with
    | some _ => rw [hp] at e; cases e
    | none =>
      rw [hp] at e
      cases hc : choose s ra with
      | none => rw [hc] at e; cases e
      | some a => rw [hc] at e; cases e; exact ⟨r, a, rfl, hp, rfl, rfl⟩

/-- `abruptRemoveProposer` does nothing if the rollapp is unknown, under the sentinel, or for a proposer
    without record; else the proposer leaves the notice queue, is unbonded, and the slot is cleared -/
theorem abruptRemoveProposer_cases' (s : St) (ra : Nat) :
    (abruptRemoveProposer s ra = s ∧ (getRa s ra = none ∨ ∃ r, getRa s ra = some r ∧
        (r.proposer = none ∨ ∃ a, r.proposer = some a ∧ getSeq s a = none))) ∨
    ∃ r a q, getRa s ra = some r ∧ r.proposer = some a ∧ getSeq s a = some q ∧
      abruptRemoveProposer s ra = setProposer (setSeq (removeFromNoticeQueue s q) { q with bonded := false }) ra none := by
  unfold abruptRemoveProposer
  cases hg : getRa s ra with
  | none => exact Or.inl ⟨rfl, Or.inl rfl⟩
  | some r =>
    dsimp only
    cases hp : r.proposer with
    | none => exact Or.inl ⟨rfl, Or.inr ⟨r, rfl, Or.inl hp⟩⟩
    | some a =>
      dsimp only
      cases hq : getSeq s a with
      | none => exact Or.inl ⟨rfl, Or.inr ⟨r, rfl, Or.inr ⟨a, hp, hq⟩⟩⟩
      | some q => exact Or.inr ⟨r, a, q, rfl, hp, hq, rfl⟩

theorem abruptRemoveProposer_cases (s : St) (ra : Nat) :
    abruptRemoveProposer s ra = s ∨ ∃ r a q, getRa s ra = some r ∧ r.proposer = some a ∧ getSeq s a = some q ∧
      abruptRemoveProposer s ra = setProposer (setSeq (removeFromNoticeQueue s q) { q with bonded := false }) ra none :=
  (abruptRemoveProposer_cases' s ra).imp And.left id

-- ---------------------------------------------------------------- hard fork

/-- the state right after `RevertPendingStates` / `UpdateLastStateInfo` / `ResetLivenessClock`, before
    the sequencer hook runs -/
def afterRevert (s : St) (ra keep : Nat) (r : Rollapp) (kst : SInfo) : St :=
  setRa
    (resetClock { s with queue := removeIdxAbove s.queue ra keep,
                         seqH := pruneSeqHeights s.seqH (kst.creator :: (r.states.drop keep).map (·.creator)) kst.last }
      (forkedRollapp r keep kst)).1
    (resetClock { s with queue := removeIdxAbove s.queue ra keep,
                         seqH := pruneSeqHeights s.seqH (kst.creator :: (r.states.drop keep).map (·.creator)) kst.last }
      (forkedRollapp r keep kst)).2

theorem Fork.afterRevert_getRa_same {s : St} {ra keep : Nat} {r : Rollapp} {kst : SInfo} (hg : getRa s ra = some r) :
    getRa (afterRevert s ra keep r kst) ra = some { forkedRollapp r keep kst with evH := 0, cdStart := s.h } := by
  have hid := getRa_id hg
  subst hid
  unfold afterRevert resetClock
  exact getRa_setRa_self (r0 := r) (show getRa _ r.id = some r from hg)

theorem Fork.afterRevert_getSeq (s : St) (ra keep : Nat) (r : Rollapp) (kst : SInfo) (a : Addr) :
    getSeq (afterRevert s ra keep r kst) a = getSeq s a := getSeq_congr rfl a

theorem hardFork_ok {s s' : St} {ra lv : Nat} (e : hardFork s ra lv = .ok s') :
    ∃ r keep kst, getRa s ra = some r ∧ 0 < r.tph ∧ r.tph ≤ lv ∧ (lv + 1) % 2 ^ 64 ≠ 0 ∧
      revertPlan r ((lv + 1) % 2 ^ 64) = .ok (keep, kst) ∧ s' = seqOnHardFork (afterRevert s ra keep r kst) ra := by
  unfold hardFork at e
  cases hg : getRa s ra with
  | none => rw [hg] at e; cases e
  | some r =>
    rw [hg] at e
    dsimp only at e
    by_cases ht : (!(decide (0 < r.tph) && decide (r.tph ≤ lv))) = true
    · rw [if_pos ht] at e; cases e
    rw [if_neg ht] at e
    by_cases hn : (lv + 1) % 2 ^ 64 = 0
    · rw [if_pos hn] at e; cases e
    rw [if_neg hn] at e
    cases hp : revertPlan r ((lv + 1) % 2 ^ 64) with
    | error _ => rw [hp] at e; cases e
    | ok x =>
      obtain ⟨keep, kst⟩ := x
      rw [hp] at e
      cases e
      have ht : ¬ r.tph = 0 ∧ r.tph ≤ lv := by simpa using ht
      exact ⟨r, keep, kst, rfl, Nat.pos_of_ne_zero ht.1, ht.2, hn, hp, rfl⟩

theorem hardForkToLatest_ok {s s' : St} {ra : Nat} (e : hardForkToLatest s ra = .ok s') :
    ∃ r h, getRa s ra = some r ∧ latestHeight r = some h ∧ hardFork s ra h = .ok s' := by
  unfold hardForkToLatest at e
  cases hg : getRa s ra with
  | none => rw [hg] at e; cases e
  | some r =>
    rw [hg] at e
    dsimp only at e
    cases hl : latestHeight r with
    | none => rw [hl] at e; cases e
    | some h => rw [hl] at e; exact ⟨r, h, rfl, hl, e⟩

-- ---------------------------------------------------------------- state update

/-- the proposer's last block: the successor takes over; without one the rollapp is forked to its latest
    height under the sentinel -/
theorem onProposerLastBlock_ok {s s' : St} {q : Seq} (e : onProposerLastBlock s q = .ok s') :
    noticeElapsed q s.t = true ∧ ∃ r s1, getRa s q.rollapp = some r ∧
      s1 = setRa s { r with successor := none, proposer := r.successor } ∧
      ((r.successor = none ∧ hardForkToLatest s1 r.id = .ok s') ∨
       (∃ a, r.successor = some a ∧ s' = afterSetRealProposer s1 r.id a)) := by
  unfold onProposerLastBlock at e
  cases hn : noticeElapsed q s.t
  case false => rw [hn] at e; cases e
  rw [hn, if_neg (by simp)] at e
  cases hg : getRa s q.rollapp with
  | none => rw [hg] at e; cases e
  | some r =>
    rw [hg] at e
    dsimp only at e
    refine ⟨rfl, r, _, rfl, rfl, ?_⟩
    cases hs : r.successor with
    | none => rw [hs] at e; exact Or.inl ⟨rfl, e⟩
    | some a => rw [hs] at e; cases e; exact Or.inr ⟨a, rfl, rfl⟩

/-- sequencer hook after an accepted update: the proposer's dishonor is reduced; on its last block the
    hand-over runs -/
theorem seqAfterUpdate_ok {s s' : St} {m : UpdMsg} {b : Bool} (e : seqAfterUpdate s m b = .ok s') :
    ∃ prop prop1, getSeq s m.sender = some prop ∧
      prop1 = { prop with dishonor := prop.dishonor - min s.sqp.dishonorSU prop.dishonor } ∧
      ((b = false ∧ s' = setSeq s prop1) ∨ (b = true ∧ onProposerLastBlock (setSeq s prop1) prop1 = .ok s')) := by
  unfold seqAfterUpdate at e
  cases hg : getSeq s m.sender with
  | none => rw [hg] at e; cases e
  | some prop =>
    rw [hg] at e
    dsimp only at e
    refine ⟨prop, _, rfl, rfl, ?_⟩
    cases b with
    | false => rw [if_neg (by simp)] at e; cases e; exact Or.inl ⟨rfl, rfl⟩
    | true => rw [if_pos rfl] at e; exact Or.inr ⟨rfl, e⟩

/-- an accepted `MsgUpdateState`: the guards, then the new state info is appended (`s3` is the state after
    the sequencer hook), the index queued and the heights saved (`s4`), liveness indicated -/
theorem updateState_ok {s s' : St} {m : UpdMsg} (e : updateState s m = .ok s') :
    ∃ r s3 s4 r4, updValidateBasic m = .ok () ∧ getRa s m.ra = some r ∧ r.proposer = some m.sender ∧
      (m.last = true → awaitingLast s r = true) ∧ latestRev r = m.rev ∧ updPre r m = .ok () ∧
      s.obsolete.contains ((m.bds.getLast?.map (·.drs)).getD 0) = false ∧
      seqAfterUpdate (setRa s { r with states := r.states ++ [newSInfo s m (updSucc r m)] }) m
        (updSucc r m != NextP.addr m.sender) = .ok s3 ∧
      s4 = { s3 with queue := queueAppend s3.queue s3.h m.ra (r.states.length + 1),
                     seqH := addSeqHeights s3.seqH m.sender m.bds } ∧
      getRa s4 m.ra = some r4 ∧ s' = indicateLiveness s4 r4 := by
  unfold updateState at e
  cases hv : updValidateBasic m with
  | error _ => rw [hv] at e; cases e
  | ok u =>
    rw [hv] at e
    dsimp only at e
    cases hg : getRa s m.ra with
    | none => rw [hg] at e; cases e
    | some r =>
      rw [hg] at e
      dsimp only at e
      by_cases h1 : (r.proposer != some m.sender) = true
      · rw [if_pos h1] at e; cases e
      rw [if_neg h1] at e
      by_cases h2 : (m.last && !awaitingLast s r) = true
      · rw [if_pos h2] at e; cases e
      rw [if_neg h2] at e
      by_cases h3 : (latestRev r != m.rev) = true
      · rw [if_pos h3] at e; cases e
      rw [if_neg h3] at e
      cases hpre : updPre r m with
      | error _ => rw [hpre] at e; cases e
      | ok u2 =>
        rw [hpre] at e
        dsimp only at e
        cases ho : s.obsolete.contains ((m.bds.getLast?.map (·.drs)).getD 0)
        case true => rw [ho] at e; cases e
        rw [ho, if_neg (by simp)] at e
        cases h3' : seqAfterUpdate (setRa s { r with states := r.states ++ [newSInfo s m (updSucc r m)] }) m
            (updSucc r m != NextP.addr m.sender) with
        | error _ => rw [h3'] at e; cases e
        | ok s3 =>
          rw [h3'] at e
          dsimp only at e
          cases hg4 : getRa { s3 with queue := queueAppend s3.queue s3.h m.ra (r.states.length + 1),
                                      seqH := addSeqHeights s3.seqH m.sender m.bds } m.ra with
          | none => rw [hg4] at e; cases e
          | some r4 =>
            rw [hg4] at e
            cases e
            refine ⟨r, s3, _, r4, rfl, rfl, by simpa using h1, ?_, by simpa using h3, hpre, rfl, h3', rfl, hg4, rfl⟩
            intro hl
            cases ha : awaitingLast s r
            · rw [hl, ha] at h2; exact absurd rfl h2
            · rfl

/-- an accepted fraud proposal: from the authority, for a positive height of the named revision; the
    optional punishment, then the fork to the height before -/
theorem fraud_ok {s s' : St} {au : Bool} {ra h rev : Nat} {pun rw : Option Addr}
    (e : fraud s au ra h rev pun rw = .ok s') :
    au = true ∧ h ≠ 0 ∧ ∃ r s1, getRa s ra = some r ∧ revForHeight r h = rev ∧
      ((pun = none ∧ s1 = s) ∨ (∃ a, pun = some a ∧ punish s a rw = .ok s1)) ∧
      hardFork s1 ra (h - 1) = .ok s' := by
  unfold fraud at e
  cases au with
  | false => cases e
  | true =>
    rw [if_neg (by simp)] at e
    by_cases h0 : h = 0
    · rw [if_pos h0] at e; cases e
    rw [if_neg h0] at e
    cases hg : getRa s ra with
    | none => rw [hg] at e; cases e
    | some r =>
      rw [hg] at e
      dsimp only at e
      by_cases hr : revForHeight r h ≠ rev
      · rw [if_pos hr] at e; cases e
      rw [if_neg hr] at e
      refine ⟨rfl, h0, r, ?_⟩
      cases pun with
      | none => exact ⟨s, rfl, Decidable.of_not_not hr, Or.inl ⟨rfl, rfl⟩, e⟩
      | some a =>
        dsimp only at e
        cases hp : punish s a rw with
        | error _ => rw [hp] at e; cases e
        | ok s1 => rw [hp] at e; exact ⟨s1, rfl, Decidable.of_not_not hr, Or.inr ⟨a, rfl, hp⟩, e⟩

/-- an accepted `MsgMarkObsoleteRollapps` is, after the versions are recorded, a sequence of successful
    forks to the latest height -/
theorem markObsolete_ind' {P : St → Prop} {s s' : St} {au : Bool} {vs : List Nat}
    (e : markObsolete s au vs = .ok s')
    (h0 : P { s with obsolete := vs.foldl (fun acc v => if acc.contains v then acc else acc ++ [v]) s.obsolete })
    (hf : ∀ b id b', P b → hardForkToLatest b id = .ok b' → P b') : au = true ∧ vs ≠ [] ∧ P s' := by
  unfold markObsolete at e
  cases vs with
  | nil => cases e
  | cons v vs =>
    cases au with
    | false => cases e
    | true =>
      rw [if_neg (by simp), if_neg (by simp)] at e
      cases e
      refine ⟨rfl, by simp, ?_⟩
      refine List.foldlRecOn _ _ h0 ?_
      intro b hb r0 _
      dsimp only
      cases hg : getRa b r0.id with
      | none => exact hb
      | some r =>
        dsimp only
        cases hl : r.states.getLast? with
        | none => exact hb
        | some l =>
          dsimp only
          by_cases hc : (v :: vs).contains ((l.bds.getLast?.map (·.drs)).getD 0) = true
          · rw [if_pos hc]
            cases hh : hardForkToLatest b r.id with
            | error _ => exact hb
            | ok b' => exact hf b r.id b' hb hh
          · rw [if_neg hc]; exact hb

theorem markObsolete_ind {P : St → Prop} {s s' : St} {au : Bool} {vs : List Nat}
    (e : markObsolete s au vs = .ok s') (h0 : ∀ o, P { s with obsolete := o })
    (hf : ∀ b id b', P b → hardForkToLatest b id = .ok b' → P b') : au = true ∧ vs ≠ [] ∧ P s' :=
  markObsolete_ind' e (h0 _) hf

-- ---------------------------------------------------------------- block processing

/-- `BeginBlock` after the height / time bump: each due entry leaves the notice queue, then the successor
    of its sequencer's rollapp is chosen -/
theorem beginBlock_ind'' {P : St → Prop} (s : St) (dt : Nat) (h0 : P { s with h := s.h + 1, t := s.t + dt })
    (hnq : ∀ b e, e ∈ s.nq → e.1 ≤ s.t + dt → P b →
      P { b with nq := b.nq.filter (fun x => !(x.1 == e.1 && x.2 == e.2)) })
    (hsucc : ∀ b e q r, e ∈ s.nq → e.1 ≤ s.t + dt → P b → getSeq b e.2 = some q → getRa b q.rollapp = some r →
      P (setRa b { r with successor := choose b q.rollapp })) : P (beginBlock s dt) := by
  unfold beginBlock
  dsimp only
  refine List.foldlRecOn _ _ h0 ?_
  intro b hb e he
  obtain ⟨he1, he2⟩ := List.mem_filter.1 he
  have he2 : e.1 ≤ s.t + dt := of_decide_eq_true he2
  have hb1 := hnq b e he1 he2 hb
  cases hq : getSeq { b with nq := b.nq.filter (fun x => !(x.1 == e.1 && x.2 == e.2)) } e.2 with
  | none => exact hb1
  | some q =>
    dsimp only
    cases hg : getRa { b with nq := b.nq.filter (fun x => !(x.1 == e.1 && x.2 == e.2)) } q.rollapp with
    | none => exact hb1
    | some r => exact hsucc _ e q r he1 he2 hb1 hq hg

theorem beginBlock_ind' {P : St → Prop} (s : St) (dt : Nat) (h0 : P { s with h := s.h + 1, t := s.t + dt })
    (hnq : ∀ b nq, P b → P { b with nq := nq })
    (hsucc : ∀ b id r, P b → getRa b id = some r → P (setRa b { r with successor := choose b id })) :
    P (beginBlock s dt) :=
  beginBlock_ind'' s dt h0 (fun b _ _ _ hb => hnq b _ hb) (fun b _ q r _ _ hb _ hg => hsucc b q.rollapp r hb hg)

theorem beginBlock_ind {P : St → Prop} (s : St) (dt : Nat) (h0 : P { s with h := s.h + 1, t := s.t + dt })
    (hnq : ∀ b nq, P b → P { b with nq := nq })
    (hsucc : ∀ b id r a, P b → getRa b id = some r → P (setRa b { r with successor := a })) :
    P (beginBlock s dt) :=
  beginBlock_ind' s dt h0 hnq (fun b id r => hsucc b id r _)

/-- begin block moves the clocks and drops exactly the due entries from the notice queue (each step of the loop
    removes its entry and touches neither clock) -/
theorem beginBlock_nq (s : St) (dt : Nat) :
    (beginBlock s dt).t = s.t + dt ∧ (beginBlock s dt).h = s.h + 1 ∧
      ∀ x ∈ (beginBlock s dt).nq, x ∈ s.nq ∧ s.t + dt < x.1 := by
  have key : ∀ (F : St → Nat × Addr → St),
      (∀ acc e, (F acc e).nq = acc.nq.filter (fun x => !(x.1 == e.1 && x.2 == e.2)) ∧ (F acc e).t = acc.t ∧
        (F acc e).h = acc.h) →
      ∀ (l : List (Nat × Addr)) (acc : St), (l.foldl F acc).t = acc.t ∧ (l.foldl F acc).h = acc.h ∧
        ∀ x ∈ (l.foldl F acc).nq, x ∈ acc.nq ∧ x ∉ l := by
    intro F hF l
    induction l with
    | nil => intro acc; exact ⟨rfl, rfl, fun x hx => ⟨hx, by simp⟩⟩
    | cons e es ih =>
      intro acc
      simp only [List.foldl_cons]
      obtain ⟨h1, h2, h3⟩ := ih (F acc e)
      obtain ⟨g1, g2, g3⟩ := hF acc e
      refine ⟨h1.trans g2, h2.trans g3, fun x hx => ?_⟩
      have := h3 x hx
      rw [g1, List.mem_filter] at this
      refine ⟨this.1.1, fun hc => ?_⟩
      rcases List.mem_cons.1 hc with hc | hc
      · subst hc; simp at this
      · exact this.2 hc
  unfold beginBlock
  dsimp only
  refine (fun hk => ⟨hk.1, hk.2.1, fun x hx => ?_⟩)
    (key _ ?_ (s.nq.filter (fun e => decide (e.1 ≤ s.t + dt))) { s with h := s.h + 1, t := s.t + dt })
  · intro acc e
    split
    · exact ⟨rfl, rfl, rfl⟩
    · split <;> exact ⟨rfl, rfl, rfl⟩
  · obtain ⟨m1, m2⟩ := hk.2.2 x hx
    refine ⟨m1, Nat.lt_of_not_le (fun hc => m2 (List.mem_filter.2 ⟨m1, ?_⟩))⟩
    simpa using hc

theorem finalizeOne_ok {s s' : St} {fails : List (Nat × Nat)} {ra idx : Nat} (e : finalizeOne s fails ra idx = some s') :
    fails.contains (ra, idx) = false ∧ idx ≠ 0 ∧ ∃ r st, getRa s ra = some r ∧ r.states[idx - 1]? = some st ∧
      st.finalized = false ∧
      s' = setRa { s with seqH := s.seqH.filter (fun p => !(p.1 == st.creator && st.bds.any (·.height == p.2))) }
        { r with states := r.states.set (idx - 1) { st with finalized := true, finalizedAt := s.h }, lastFin := idx } := by
  unfold finalizeOne at e
  cases hf : fails.contains (ra, idx)
  case true => rw [hf] at e; cases e
  rw [hf, if_neg (by simp)] at e
  cases hg : getRa s ra with
  | none => rw [hg] at e; cases e
  | some r =>
    rw [hg] at e
    dsimp only at e
    cases hst : r.states[idx - 1]? with
    | none => rw [hst] at e; cases e
    | some st =>
      rw [hst] at e
      dsimp only at e
      by_cases hc : (decide (idx = 0) || st.finalized) = true
      · rw [if_pos hc] at e; cases e
      rw [if_neg hc] at e
      cases e
      have hc : idx ≠ 0 ∧ st.finalized = false := by simpa using hc
      exact ⟨rfl, hc.1, r, st, rfl, hst, hc.2, rfl⟩

/-- `FinalizeStates` on one queue entry is a sequence of successful `finalizeOne` calls and a queue rewrite -/
theorem finalizeEntry_go_ind {P : St → Prop} (fails : List (Nat × Nat))
    (hone : ∀ b ra i b', P b → finalizeOne b fails ra i = some b' → P b')
    (hq : ∀ b q, P b → P { b with queue := q }) (e : QEntry) (l : List Nat) :
    ∀ b, P b → P (finalizeEntry.go fails e b l).1 := by
  induction l with
  | nil => intro b hb; unfold finalizeEntry.go; exact hq _ _ hb
  | cons i rest ih =>
    intro b hb
    unfold finalizeEntry.go
    cases h1 : finalizeOne b fails e.ra i with
    | none => exact hq _ _ hb
    | some b' => exact ih b' (hone _ _ _ _ hb h1)

theorem finalizeAll_ind {P : St → Prop} (fails : List (Nat × Nat))
    (hone : ∀ b ra i b', P b → finalizeOne b fails ra i = some b' → P b')
    (hq : ∀ b q, P b → P { b with queue := q }) (es : List QEntry) :
    ∀ failed b, P b → P (finalizeAll b fails es failed) := by
  induction es with
  | nil => intro failed b hb; unfold finalizeAll; exact hb
  | cons e es ih =>
    intro failed b hb
    unfold finalizeAll
    by_cases hc : failed.contains e.ra = true
    · rw [if_pos hc]; exact ih _ _ hb
    · rw [if_neg hc]; exact ih _ _ (finalizeEntry_go_ind fails hone hq e e.idx b hb)

theorem finalizeRollappStates_ind {P : St → Prop} {s : St} (fails : List (Nat × Nat)) (h0 : P s)
    (hone : ∀ b ra i b', P b → finalizeOne b fails ra i = some b' → P b')
    (hq : ∀ b q, P b → P { b with queue := q }) : P (finalizeRollappStates s fails) := by
  unfold finalizeRollappStates
  by_cases hd : s.h < s.p.dispute
  · rw [if_pos hd]; exact h0
  · rw [if_neg hd]; exact finalizeAll_ind fails hone hq _ _ _ h0

/-- a liveness event either changes nothing or slashes the proposer and reschedules the event -/
theorem handleLivenessEvent_cases (s : St) (ra : Nat) :
    handleLivenessEvent s ra = s ∨ ∃ r s1 r1, getRa s ra = some r ∧ slashLiveness s r = .ok s1 ∧
      getRa s1 ra = some r1 ∧
      handleLivenessEvent s ra = setRa (scheduleEvent { s1 with lev := delEvent s1.lev s1.h ra } r1).1
        (scheduleEvent { s1 with lev := delEvent s1.lev s1.h ra } r1).2 := by
  unfold handleLivenessEvent
  cases hg : getRa s ra with
  | none => exact Or.inl rfl
  | some r =>
    dsimp only
    cases hs : slashLiveness s r with
    | error _ => exact Or.inl rfl
    | ok s1 =>
      dsimp only
      cases hg1 : getRa s1 ra with
      | none => exact Or.inl rfl
      | some r1 => exact Or.inr ⟨r, s1, r1, rfl, hs, hg1, rfl⟩

theorem endBlock_ind {P : St → Prop} {s : St} (fails : List (Nat × Nat)) (h0 : P s)
    (hone : ∀ b ra i b', P b → finalizeOne b fails ra i = some b' → P b')
    (hq : ∀ b q, P b → P { b with queue := q })
    (hlev : ∀ b ra, P b → P (handleLivenessEvent b ra)) : P (endBlock s fails) := by
  unfold endBlock checkLiveness
  exact List.foldlRecOn _ _ (finalizeRollappStates_ind fails h0 hone hq) (fun b hb e _ => hlev b e.2 hb)

end DymVerif.Core
