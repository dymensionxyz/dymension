/-
  Lemmas/LCCoveredEnd — M-Core: the end-block (finalization of pending states, liveness events) keeps every
  covered height of every rollapp covered (`CK`): finalization only sets the `finalized` flag of a state info.
-/
import DymVerif.Lemmas.LCCovered
import DymVerif.Lemmas.CoreForkQuiet
namespace DymVerif.Core.Fork

/-- every covered height stays covered -/
def CK (s s' : St) : Prop := ∀ ra h, LC.Cov s ra h → LC.Cov s' ra h

theorem CK.refl (s : St) : CK s s := fun _ _ h => h
theorem CK.trans {s1 s2 s3 : St} (a : CK s1 s2) (b : CK s2 s3) : CK s1 s3 := fun ra h x => b ra h (a ra h x)
theorem CK.of_getRa {s s' : St} (e : ∀ ra, getRa s' ra = getRa s ra) : CK s s' := by
  intro ra h ⟨r, st, hg, rest⟩
  exact ⟨r, st, (e ra).trans hg, rest⟩

theorem finalizeOne_ck {s s' : St} {fails : List (Nat × Nat)} {ra' idx : Nat}
    (e : finalizeOne s fails ra' idx = some s') : CK s s' := by
  obtain ⟨_, _, r, st, hg, hst, _, rfl⟩ := finalizeOne_ok e
  have hid := getRa_id hg
  intro ra h ⟨r0, st0, hg0, hst0, h1, h2⟩
  by_cases hx : ra = r.id
  · -- finalization only sets the flag of the state info at `idx - 1`
    subst hx
    rw [hid, hg] at hg0; injection hg0 with hg0; subst hg0
    have hget := getRa_setRa_same (s := { s with seqH := _ })
      (r := { r with states := r.states.set (idx - 1) { st with finalized := true, finalizedAt := s.h }, lastFin := idx }) (hid ▸ hg)
    obtain ⟨i, hi⟩ := List.mem_iff_getElem?.1 hst0
    have hlt := getElem?_lt hst
    by_cases hii : idx - 1 = i
    · subst hii
      rw [hst] at hi; injection hi with hi; subst hi
      exact ⟨_, { st with finalized := true, finalizedAt := s.h }, hget,
        List.mem_iff_getElem?.2 ⟨idx - 1, by simp [List.getElem?_set, hlt]⟩, h1, h2⟩
    · exact ⟨_, st0, hget, List.mem_iff_getElem?.2 ⟨i, by rw [List.getElem?_set, if_neg hii]; exact hi⟩, h1, h2⟩
  · refine ⟨r0, st0, Eq.trans ?_ hg0, hst0, h1, h2⟩
    exact getRa_setRa_other hx

theorem finalizeEntry_go_ck (fails : List (Nat × Nat)) (e : QEntry) (l : List Nat) (s : St) :
    CK s (finalizeEntry.go fails e s l).1 := by
  induction l generalizing s with
  | nil => unfold finalizeEntry.go; exact CK.of_getRa (fun _ => rfl)
  | cons i rest ih =>
    unfold finalizeEntry.go
    split
    · rename_i s1 h1; exact (finalizeOne_ck h1).trans (ih s1)
    · exact CK.of_getRa (fun _ => rfl)

theorem finalizeAll_ck (fails : List (Nat × Nat)) (es : List QEntry) (failed : List Nat) (s : St) :
    CK s (finalizeAll s fails es failed) := by
  induction es generalizing s failed with
  | nil => unfold finalizeAll; exact CK.refl s
  | cons e es ih =>
    unfold finalizeAll
    split
    · exact ih _ _
    · have h1 := finalizeEntry_go_ck fails e e.idx s
      unfold finalizeEntry
      exact h1.trans (ih _ _)

end DymVerif.Core.Fork
