/-
  Lemmas/LCAgree — consensus states of a canonical client agree (state root, timestamp) with the
  descriptors of its rollapp: what the validators establish, and preservation by rollback, fork resolution and
  the hook of a state update (the remaining ops are in Lemmas/LCGood).
-/
import DymVerif.Lemmas.LCInv
namespace DymVerif.LC
open DymVerif.Core (Addr NextP)

def Agrees (cs : Cons) (d : Desc) : Prop := cs.root = d.root ∧ ∀ t, d.ts = some t → cs.ts = t

/-- the consensus state names, as next validator set, the sequencer the state info `st` gives for the block after `h` -/
def AgreesNext (core : Core.St) (st : Core.SInfo) (h : Nat) (cs : Cons) : Prop :=
  ∃ q, nextSeqFor core st h = some q ∧ cs.nextVal = valHash q

/-- all three fields -/
def Agrees3 (s : St) (st : Core.SInfo) (h : Nat) (cs : Cons) (d : Desc) : Prop :=
  Agrees cs d ∧ AgreesNext s.core st h cs

/-- every consensus state of a canonical client at a height with a descriptor agrees with it -/
def AgreeInv (s : St) : Prop :=
  ∀ r c cl h cs d, lookup s.r2c r = some c → getClient s c = some cl → getCons cl h = some cs →
    getDesc s r h = some d → Agrees cs d

/-- consensus states are kept in ascending height order -/
def SortedCons (l : List (Nat × Cons)) : Prop := l.Pairwise (fun a b => a.1 < b.1)

/-- sorted consensus states, all at or below the client's latest height -/
structure ClientOk (cl : Client) : Prop where
  sorted : SortedCons cl.cons
  le : ∀ x ∈ cl.cons, x.1 ≤ cl.latest

def ClientsOk (s : St) : Prop := ∀ cl ∈ s.clients, ClientOk cl

theorem sorted_insCons {l : List (Nat × Cons)} (hs : SortedCons l) (h : Nat) (c : Cons) : SortedCons (insCons h c l) := by
  induction l with
  | nil => simp [insCons, SortedCons]
  | cons x xs ih =>
    unfold SortedCons at hs ⊢
    rw [List.pairwise_cons] at hs
    unfold insCons
    by_cases h1 : h < x.1
    · simp only [h1, if_true]
      rw [List.pairwise_cons]
      refine ⟨?_, List.pairwise_cons.2 hs⟩
      intro y hy
      simp only [List.mem_cons] at hy
      rcases hy with rfl | hy
      · exact h1
      · exact Nat.lt_trans h1 (hs.1 y hy)
    · simp only [h1, if_false]
      by_cases h2 : (h == x.1) = true
      · simp only [h2, if_true]
        have hx : h = x.1 := by simpa using h2
        rw [List.pairwise_cons]
        refine ⟨?_, hs.2⟩
        intro y hy
        show h < y.1
        rw [hx]; exact hs.1 y hy
      · have h2' : (h == x.1) = false := by simpa using h2
        simp only [h2', Bool.false_eq_true, if_false]
        rw [List.pairwise_cons]
        refine ⟨?_, ih hs.2⟩
        intro y hy
        rcases mem_insCons hy with rfl | hy
        · show x.1 < h
          have : ¬ h = x.1 := by simpa using h2
          omega
        · exact hs.1 y hy

theorem sorted_last_max : ∀ {l : List (Nat × Cons)} {m : Nat × Cons}, SortedCons l → l.getLast? = some m → ∀ x ∈ l, x.1 ≤ m.1
  | [], _, _, h => by simp at h
  | [a], m, _, h => by
    simp only [List.getLast?_singleton, Option.some.injEq] at h
    subst h
    intro x hx
    simp only [List.mem_singleton] at hx
    subst hx; exact Nat.le_refl _
  | a :: b :: rest, m, hs, h => by
    unfold SortedCons at hs
    rw [List.pairwise_cons] at hs
    have h' : (b :: rest).getLast? = some m := by simpa [List.getLast?_cons_cons] using h
    have ih := sorted_last_max (l := b :: rest) hs.2 h'
    intro x hx
    simp only [List.mem_cons] at hx
    rcases hx with rfl | hx
    · have hm : m ∈ b :: rest := List.mem_of_getLast? h'
      exact Nat.le_of_lt (hs.1 m hm)
    · exact ih x (by simpa using hx)

theorem clientOk_ibcApply {cl : Client} (h : ClientOk cl) (hd : Hdr) : ClientOk (ibcApply cl hd) := by
  rcases ibcApply_cases cl hd with e | e | e <;> rw [e]
  · exact h
  · exact ⟨h.sorted, h.le⟩
  · refine ⟨sorted_insCons h.sorted _ _, fun x hx => ?_⟩
    rcases mem_insCons hx with rfl | hx
    · exact Nat.le_max_right _ _
    · exact Nat.le_trans (h.le x hx) (Nat.le_max_left _ _)

theorem clientOk_resolve {cl : Client} (h : ClientOk cl) (ht : Nat) (c : Cons) (hlt : cl.latest < ht) :
    ClientOk { cl with cons := insCons ht c cl.cons, latest := ht, frozen := false } := by
  refine ⟨sorted_insCons h.sorted _ _, ?_⟩
  intro x hx
  rcases mem_insCons hx with rfl | hx
  · exact Nat.le_refl _
  · exact Nat.le_of_lt (Nat.lt_of_le_of_lt (h.le x hx) hlt)

theorem ClientsOk.setClient {s : St} {cl : Client} (h : ClientsOk s) (hc : ClientOk cl) : ClientsOk (setClient s cl) := by
  intro x hx
  rcases mem_setClient hx with rfl | hm
  · exact hc
  · exact h x hm

theorem ClientsOk.of_eq {s s' : St} (h : ClientsOk s) (e : s'.clients = s.clients) : ClientsOk s' := by
  intro x hx; rw [e] at hx; exact h x hx

/-- `CheckCompatibility` passing: all three fields -/
theorem compat_none {cs : Cons} {root : Nat} {ts : Option Nat} {q : Addr} (h : compat cs root ts q = none) :
    (cs.root = root ∧ ∀ t, ts = some t → cs.ts = t) ∧ cs.nextVal = valHash q := by
  unfold compat at h
  rcases ite_eq_cases h with ⟨-, h⟩ | ⟨h1, h⟩
  · cases h
  rcases ite_eq_cases h with ⟨-, h⟩ | ⟨h2, h⟩
  · cases h
  rcases ite_eq_cases h with ⟨-, h⟩ | ⟨h3, -⟩
  · cases h
  refine ⟨⟨by simpa using h1, fun t ht => ?_⟩, by simpa using h3⟩
  subst ht
  simpa using h2

/-- `ValidateHeaderAgainstStateInfo` passing: the height is inside the state info, its descriptor exists, the state
    info names a next sequencer, and `CheckCompatibility` passes -/
theorem validateHeader_ok {s : St} {ra : Nat} {st : Core.SInfo} {cs : Cons} {h : Nat} (hv : validateHeader s ra st cs h = none) :
    st.contains h = true ∧ ∃ d q, getDesc s ra h = some d ∧ nextSeqFor s.core st h = some q ∧ compat cs d.root d.ts q = none := by
  unfold validateHeader at hv
  split at hv
  · exact absurd hv (by simp)
  · rename_i hc
    refine ⟨by simpa using hc, ?_⟩
    cases hd : getDesc s ra h with
    | none => simp [hd] at hv
    | some d =>
      simp only [hd] at hv
      cases hq : nextSeqFor s.core st h with
      | none => simp [hq] at hv
      | some q =>
        simp only [hq] at hv
        exact ⟨d, q, rfl, rfl, hv⟩

/-- `ValidateHeaderAgainstStateInfo` passing means: the height is inside the state info, its descriptor exists and
    all three fields agree -/
theorem validateHeader_none_next {s : St} {ra : Nat} {st : Core.SInfo} {cs : Cons} {h : Nat} (hv : validateHeader s ra st cs h = none) :
    st.contains h = true ∧ ∃ d, getDesc s ra h = some d ∧ Agrees3 s st h cs d := by
  obtain ⟨hc, d, q, hd, hq, hcp⟩ := validateHeader_ok hv
  exact ⟨hc, d, hd, (compat_none hcp).1, q, hq, (compat_none hcp).2⟩

theorem validateHeader_none {s : St} {ra : Nat} {st : Core.SInfo} {cs : Cons} {h : Nat} (hv : validateHeader s ra st cs h = none) :
    ∃ d, getDesc s ra h = some d ∧ Agrees cs d :=
  (validateHeader_none_next hv).2.imp fun _ h => ⟨h.1, h.2.1⟩

theorem validateRange_none {s : St} {cl : Client} {ra : Nat} {st : Core.SInfo} :
    ∀ (hs : List Nat) (m b : Bool), validateRange s cl ra st hs m = (b, none) →
      ∀ h ∈ hs, ∀ cs, getCons cl h = some cs → validateHeader s ra st cs h = none
  | [], _, _, _ => fun _ hh => absurd hh (by simp)
  | x :: xs, m, b, hv => by
    unfold validateRange at hv
    intro h hh cs hcs
    cases hx : getCons cl x with
    | none =>
      simp only [hx] at hv
      simp only [List.mem_cons] at hh
      rcases hh with rfl | hh
      · rw [hx] at hcs; exact absurd hcs (by simp)
      · exact validateRange_none xs m b hv h hh cs hcs
    | some c0 =>
      simp only [hx] at hv
      cases hvh : validateHeader s ra st c0 x with
      | some e => simp [hvh] at hv
      | none =>
        simp only [hvh] at hv
        simp only [List.mem_cons] at hh
        rcases hh with rfl | hh
        · rw [hx] at hcs; cases hcs; exact hvh
        · exact validateRange_none xs true b hv h hh cs hcs

theorem validateRange_true {s : St} {cl : Client} {ra : Nat} {st : Core.SInfo} :
    ∀ (hs : List Nat) (m : Bool), validateRange s cl ra st hs m = (true, none) → m = true ∨ ∃ h ∈ hs, (getCons cl h).isSome
  | [], m, h => by simp only [validateRange, Prod.mk.injEq, and_true] at h; exact Or.inl h
  | x :: xs, m, h => by
    unfold validateRange at h
    cases hx : getCons cl x with
    | none =>
      simp only [hx] at h
      rcases validateRange_true xs m h with a | ⟨y, hy, hyc⟩
      · exact Or.inl a
      · exact Or.inr ⟨y, List.mem_cons_of_mem _ hy, hyc⟩
    | some c0 => exact Or.inr ⟨x, by simp, by simp [hx]⟩

theorem mem_heightsOf {st : Core.SInfo} {h : Nat} (h1 : st.start ≤ h) (h2 : h ≤ st.last) : h ∈ heightsOf st := by
  unfold heightsOf
  simp only [List.mem_map, List.mem_range]
  exact ⟨h - st.start, by omega, by omega⟩

theorem validateStateInfo_agrees_next {s : St} {cl : Client} {ra : Nat} {st : Core.SInfo} {m : Bool}
    (h : validateStateInfo s cl ra st = (m, none)) {ht : Nat} {cs : Cons} (h1 : st.start ≤ ht) (h2 : ht ≤ st.last)
    (hc : getCons cl ht = some cs) : ∃ d, getDesc s ra ht = some d ∧ Agrees3 s st ht cs d := by
  unfold validateStateInfo at h
  exact (validateHeader_none_next (validateRange_none _ _ _ h ht (mem_heightsOf h1 h2) cs hc)).2

theorem validateStateInfo_agrees {s : St} {cl : Client} {ra : Nat} {st : Core.SInfo} {m : Bool}
    (h : validateStateInfo s cl ra st = (m, none)) {ht : Nat} {cs : Cons} (h1 : st.start ≤ ht) (h2 : ht ≤ st.last)
    (hc : getCons cl ht = some cs) : ∃ d, getDesc s ra ht = some d ∧ Agrees cs d :=
  (validateStateInfo_agrees_next h h1 h2 hc).imp fun _ h => ⟨h.1, h.2.1⟩

theorem getCons_ibcApply {cl : Client} {hd : Hdr} {h : Nat} {cs : Cons} (hg : getCons (ibcApply cl hd) h = some cs) :
    getCons cl h = some cs ∨ (h = hd.h ∧ cs = hd.cons) := by
  rcases ibcApply_cases cl hd with e | e | e <;> rw [e] at hg
  · exact Or.inl hg
  · exact Or.inl hg
  · rw [getCons_ins] at hg
    split at hg
    · rename_i e; cases hg; exact Or.inr ⟨e, rfl⟩
    · exact Or.inl hg

/-- what a successful `HandleMsgUpdateClient` on a canonical client has checked -/
theorem handleUpdate_ok {s s1 : St} {c : Nat} {hd : Hdr} (h : handleUpdate s c hd = (s1, none)) :
    ∀ r, lookup s.c2r c = some r →
      ∃ q, Core.getSeq s.core hd.propData = some q ∧ hd.propSig = hd.propData ∧ q.bonded = true ∧ q.rollapp = r ∧ hd.sole = true ∧
        (∃ ra, Core.getRa s.core r = some ra ∧ hd.rev = Core.latestRev ra) ∧
        (∀ d, getDesc s r hd.h = some d → Agrees hd.cons d) := by
  intro r hr
  rcases handleUpdate_cases s c hd with ⟨e, he⟩ | ⟨hp, ⟨_, hn, _⟩ | ⟨q, ra, hk, hopt⟩⟩
  · rw [he] at h; cases h
  · rw [hr] at hn; cases hn
  · have hqr : q.rollapp = r := by
      have := hk.native
      unfold foreignSeq at this
      simpa [hr] using this
    subst hqr
    refine ⟨q, hk.seq, hp, hk.bonded, rfl, hk.sole (by rw [hr]; rfl), ⟨ra, hk.ra, hk.rev⟩, fun d hd' => ?_⟩
    rcases hopt with ⟨_, hnd, _⟩ | ⟨i, st, _, _, hv, _⟩
    · rw [hd'] at hnd; cases hnd
    · obtain ⟨d0, hd0, ha⟩ := validateHeader_none hv
      rw [hd'] at hd0; cases hd0
      exact ha

/-- agreement up to an exemption: pairs at exempt (rollapp, height) positions need not agree (yet) -/
def AgreeEx (E : Nat → Nat → Prop) (s : St) : Prop :=
  ∀ r c cl h cs d, lookup s.r2c r = some c → getClient s c = some cl → getCons cl h = some cs →
    getDesc s r h = some d → E r h ∨ Agrees cs d

theorem AgreeInv.toEx {s : St} (h : AgreeInv s) (E : Nat → Nat → Prop) : AgreeEx E s :=
  fun r c cl ht cs d a b e f => Or.inr (h r c cl ht cs d a b e f)

theorem AgreeEx.toInv {s : St} (h : AgreeEx (fun _ _ => False) s) : AgreeInv s :=
  fun r c cl ht cs d a b e f => (h r c cl ht cs d a b e f).elim False.elim id

theorem AgreeEx.of_eq {E : Nat → Nat → Prop} {s s' : St} (h : AgreeEx E s) (e1 : s'.clients = s.clients) (e2 : s'.descs = s.descs)
    (e3 : s'.r2c = s.r2c) : AgreeEx E s' := by
  intro r c cl ht cs d a b e f
  rw [e3] at a
  rw [getClient_congr e1] at b
  rw [getDesc_congr e2] at f
  exact h r c cl ht cs d a b e f

/-- rewriting a client: agreement survives if the new consensus states agree wherever the client is canonical -/
theorem AgreeEx.setClient {E : Nat → Nat → Prop} {s : St} (h : AgreeEx E s) (new : Client)
    (hag : ∀ r, lookup s.r2c r = some new.id → ∀ ht cs d, getCons new ht = some cs → getDesc s r ht = some d → E r ht ∨ Agrees cs d) :
    AgreeEx E (setClient s new) := by
  intro r c0 cl0 ht cs d a b g f
  by_cases hcc : c0 = new.id
  · subst hcc
    rw [getClient_setClient] at b
    cases hx : getClient s new.id with
    | none => rw [hx] at b; cases b
    | some x =>
      rw [hx] at b
      simp only [Option.map_some, getClient_id hx, beq_self_eq_true, if_true, Option.some.injEq] at b
      subst b
      exact hag r a ht cs d g f
  · rw [getClient_setClient_ne hcc] at b
    exact h r c0 cl0 ht cs d a b g f

/-- a rollback keeps agreement and client well-formedness -/
theorem rollback_props {E : Nat → Nat → Prop} (s : St) (ra lv : Nat) :
    (AgreeEx E s → AgreeEx E (rollback s ra lv).1) ∧ (ClientsOk s → ClientsOk (rollback s ra lv).1) := by
  rcases rollback_cases s ra lv with ⟨_, e⟩ | ⟨c, cl, l, _, hcl, hl, e⟩ <;> rw [e]
  · exact ⟨id, id⟩
  · refine ⟨fun h => ?_, fun h => ?_⟩
    · -- fewer consensus states in the client, fewer descriptors in the table
      obtain rfl := getClient_id hcl
      have h1 := h.setClient { cl with cons := cl.cons.filter (·.1 ≤ lv), latest := l.1, frozen := true }
        (fun r a ht cs d g f => h r _ cl ht cs d a hcl (getCons_filter_sub cl lv ht l.1 true cs g) f)
      intro r c0 cl0 ht cs d a b g f
      exact h1 r c0 cl0 ht cs d a b g (getDesc_filter (s := s) rfl r ht d f)
    · have hs : SortedCons (cl.cons.filter (·.1 ≤ lv)) := List.Pairwise.filter _ (h cl (getClient_mem hcl)).sorted
      exact ClientsOk.of_eq (ClientsOk.setClient h ⟨hs, sorted_last_max hs hl⟩) rfl

theorem applyForks_props {E : Nat → Nat → Prop} (l : List (Nat × Nat)) (s : St) (h1 : AgreeEx E s) (h2 : ClientsOk s) :
    AgreeEx E (applyForks s l).1 ∧ ClientsOk (applyForks s l).1 := by
  have h := applyForks_rel (P := fun s s' => (AgreeEx E s → AgreeEx E s') ∧ (ClientsOk s → ClientsOk s'))
    (fun _ => ⟨id, id⟩) (fun ⟨a1, a2⟩ ⟨b1, b2⟩ => ⟨b1 ∘ a1, b2 ∘ a2⟩) rollback_props l s
  exact ⟨h.1 h1, h.2 h2⟩

/-- the positions of the `n` descriptors of update `m` -/
def IsNew (m : Core.UpdMsg) (n : Nat) (r h : Nat) : Prop := r = m.ra ∧ m.start ≤ h ∧ h < m.start + n

theorem mem_zipIdx_desc {ds : List (Nat × Option Nat)} {ra start : Nat} {d : Desc}
    (hd : d ∈ ds.zipIdx.map (fun (x : (Nat × Option Nat) × Nat) => ({ ra := ra, h := start + x.2, root := x.1.1, ts := x.1.2 } : Desc))) :
    d.ra = ra ∧ start ≤ d.h ∧ d.h < start + ds.length := by
  simp only [List.mem_map] at hd
  obtain ⟨⟨a, i⟩, hx, rfl⟩ := hd
  obtain ⟨_, h2, _⟩ := List.mem_zipIdx hx
  refine ⟨rfl, ?_, ?_⟩
  · show start ≤ start + i
    omega
  · show start + i < start + ds.length
    omega

/-- with the descriptors of an update in the table, agreement holds except at their positions -/
theorem withDescs_update {s1 s2 : St} {m : Core.UpdMsg} {ds : List (Nat × Option Nat)} (h : withDescs s1 (.update m) ds = some s2)
    (ha : AgreeInv s1) :
    AgreeEx (IsNew m ds.length) s2 ∧ s2.clients = s1.clients ∧ s2.r2c = s1.r2c ∧ s2.c2r = s1.c2r ∧ s2.core = s1.core := by
  rcases withDescs_cases h with ⟨hno, _⟩ | ⟨m', hm, _, rfl⟩
  · exact absurd rfl (hno m)
  · cases hm
    refine ⟨fun r c cl ht cs d a b g f => ?_, rfl, rfl, rfl, rfl⟩
    unfold addDescs at f
    rw [getDesc_append] at f
    cases ho : getDesc s1 r ht with
    | some d0 =>
      rw [ho] at f; cases f
      exact Or.inr (ha r c cl ht cs d a b g ho)
    | none =>
      rw [ho] at f
      have hk := List.find?_some f
      simp only [Bool.and_eq_true, beq_iff_eq] at hk
      obtain ⟨e1, e2, e3⟩ := mem_zipIdx_desc (List.mem_of_find?_eq_some f)
      exact Or.inl ⟨hk.1 ▸ e1, hk.2 ▸ e2, hk.2 ▸ e3⟩

theorem resolveFork_ok {s s4 : St} {ra : Nat} {st : Core.SInfo} {cl : Client} (h : resolveFork s ra st cl = (s4, none)) :
    cl.latest < st.start ∧ ∃ d q, getDesc s ra st.start = some d ∧ nextSeqFor s.core st st.start = some q ∧
      s4 = setClient s { cl with cons := insCons st.start ⟨d.root, d.ts.getD 0, valHash q⟩ cl.cons, latest := st.start, frozen := false } := by
  rcases resolveFork_cases s ra st cl with ⟨_, e⟩ | ⟨hlt, d, q, hd, hq, e⟩ <;> rw [e] at h <;> cases h
  exact ⟨hlt, d, q, hd, hq, rfl⟩

theorem validateNew_ok {s s4 : St} {ra : Nat} {st : Core.SInfo} {c : Nat} {cl : Client} (h : validateNew s ra st c cl = (s4, none)) :
    s4 = pruneBelow s c (st.last + 1) ∧ ∃ b, validateStateInfo s cl ra st = (b, none) := by
  rcases validateNew_cases s ra st c cl with ⟨_, e⟩ | ⟨b, hv, e⟩ <;> rw [e] at h <;> cases h
  exact ⟨rfl, b, hv⟩

/-- the x/lightclient hook after an accepted update re-establishes full agreement: `st` is the state info just stored,
    which spans the new descriptors -/
theorem afterUpdate_agree {s3 s4 : St} {m : Core.UpdMsg} {n : Nat} {st : Core.SInfo}
    (hm : MapsInv s3) (hc : ClientsOk s3) (ha : AgreeEx (IsNew m n) s3)
    (hst : st.start = m.start) (hn : st.last + 1 - st.start = n)
    (h : afterUpdate s3 m.ra m.rev st = (s4, none)) : AgreeInv s4 ∧ ClientsOk s4 := by
  rcases afterUpdate_hook s3 m.ra m.rev st with ⟨e, hl⟩ | ⟨_, e⟩ | ⟨c, cl, hl, hcl, ⟨hlt, d0, q0, hd0, _, e⟩ | ⟨b0, hv, e⟩⟩ <;>
    rw [e] at h <;> cases h
  · -- no canonical client: the exemption exempts nothing
    refine ⟨fun r c cl ht cs d a b g f => ?_, hc⟩
    rcases ha r c cl ht cs d a b g f with ⟨e, _⟩ | h2
    · subst e; rw [hl] at a; cases a
    · exact h2
  · -- ResolveHardFork
    refine ⟨?_, hc.setClient (clientOk_resolve (hc cl (getClient_mem hcl)) _ _ hlt)⟩
    -- the canonical client of any rollapp other than `m.ra` is another client
    have huniq : ∀ r, lookup s3.r2c r = some c → r = m.ra := fun r a => by
      have h2 := hm.r2c_c2r m.ra c hl
      rw [hm.r2c_c2r r c a] at h2; simpa using h2
    have hid := getClient_id hcl
    -- no consensus state of the client reaches the new heights yet
    have hold : AgreeInv s3 := by
      intro r c0 cl0 ht cs d a b g f
      rcases ha r c0 cl0 ht cs d a b g f with ⟨e, e2, _⟩ | h2
      · exfalso
        subst e
        rw [hl] at a; cases a
        rw [hcl] at b; cases b
        have := (hc _ (getClient_mem hcl)).le _ (getCons_mem g)
        simp only at this
        omega
      · exact h2
    refine ((hold.toEx _).setClient { cl with cons := insCons st.start ⟨d0.root, d0.ts.getD 0, valHash q0⟩ cl.cons, latest := st.start, frozen := false } ?_).toInv
    intro r a ht cs d g f
    replace a : lookup s3.r2c r = some c := hid ▸ a
    rw [getCons_ins] at g
    split at g
    · rename_i e
      subst e
      cases g
      obtain rfl := huniq r a
      rw [hd0] at f; cases f
      exact Or.inr ⟨rfl, fun t ht' => by simp [ht']⟩
    · exact Or.inr (hold r c cl ht cs d a hcl g f)
  · -- validate against optimistic headers: the exempt positions are the heights of `st`
    refine ⟨fun r c0 cl0 ht cs d a b g f => ?_, hc.of_eq rfl⟩
    rcases ha r c0 cl0 ht cs d a b g f with ⟨e, hge, hlt⟩ | h2
    · subst e
      have a' : lookup s3.r2c m.ra = some c0 := a
      rw [hl] at a'; cases a'
      have b' : getClient s3 c = some cl0 := b
      rw [hcl] at b'; cases b'
      obtain ⟨d', hd', hag⟩ := validateStateInfo_agrees hv (ht := ht) (by omega) (by omega) g
      rw [show getDesc s3 m.ra ht = some d from f] at hd'; cases hd'
      exact hag
    · exact h2

end DymVerif.LC
