/-
  Lemmas/CoreForkSpec — post-state of an accepted fork, component by component, and the entry points
  (fraud proposal, kick, obsolete marking) reduced to `hardFork`.
-/
import DymVerif.Lemmas.CoreForkPlan
import DymVerif.Lemmas.CoreQueue
namespace DymVerif.Core.Fork

/-- the forked rollapp's record after the whole fork, field by field -/
theorem hardFork_getRa_same {s s' : St} {ra lv keep : Nat} {r : Rollapp} {kst : SInfo} (hg : getRa s ra = some r)
    (hplan : revertPlan r ((lv + 1) % 2 ^ 64) = .ok (keep, kst)) (e : hardFork s ra lv = .ok s') :
    ∃ p', getRa s' ra = some { r with states := r.states.take (keep - 1) ++ [kst],
                                       revs := r.revs ++ [(latestRev r + 1, kst.last + 1)],
                                       evH := 0, cdStart := s.h, proposer := p', successor := none } ∧
      (p' = none ∨ (p' = r.proposer ∧ ∃ a, r.proposer = some a ∧ getSeq s a = none)) := by
  have hs := hardFork_ok_eq hg hplan e
  subst hs
  obtain ⟨p', h1, h2⟩ := seqOnHardFork_getRa_same (afterRevert_getRa_same (keep := keep) (kst := kst) hg)
  refine ⟨p', h1, ?_⟩
  rcases h2 with h2 | ⟨h2, a, h3, h4⟩
  · exact Or.inl h2
  · exact Or.inr ⟨h2, a, h3, by rw [afterRevert_getSeq] at h4; exact h4⟩

theorem hardFork_getRa_other {s s' : St} {ra lv id : Nat} (e : hardFork s ra lv = .ok s') (hne : id ≠ ra) :
    getRa s' id = getRa s id := by
  obtain ⟨r, keep, kst, hg, _, _, _, _, hs⟩ := hardFork_ok e
  subst hs
  rw [seqOnHardFork_getRa_other hne, afterRevert_getRa_other hg hne]

/-- what the revert left of the finalization queue, the liabilities and the liveness events -/
theorem hardFork_pruned {s s' : St} {ra lv keep : Nat} {r : Rollapp} {kst : SInfo} (hg : getRa s ra = some r)
    (hplan : revertPlan r ((lv + 1) % 2 ^ 64) = .ok (keep, kst)) (e : hardFork s ra lv = .ok s') :
    s'.queue = removeIdxAbove s.queue ra keep ∧
    s'.seqH = pruneSeqHeights s.seqH (kst.creator :: (r.states.drop keep).map (·.creator)) kst.last ∧
    s'.lev = delEvent s.lev r.evH ra := by
  rw [hardFork_ok_eq hg hplan e]
  have h := seqOnHardFork_rest (afterRevert s ra keep r kst) ra
  exact ⟨h.queue, h.seqH, by rw [h.lev, ← getRa_id hg]; rfl⟩

theorem hardFork_getSeq {s s' : St} {ra lv : Nat} {r : Rollapp} (hg : getRa s ra = some r)
    (e : hardFork s ra lv = .ok s') (a : Addr) :
    getSeq s' a = (getSeq s a).map (fun q => { q with optedIn := if q.rollapp == ra then false else q.optedIn,
                                                      bonded := if r.proposer = some a then false else q.bonded }) := by
  obtain ⟨r1, keep, kst, hg1, _, _, _, hplan, hs⟩ := hardFork_ok e
  cases hg.symm.trans hg1
  subst hs
  have := seqOnHardFork_getSeq (afterRevert_getRa_same (keep := keep) (kst := kst) hg) a
  rw [afterRevert_getSeq] at this
  exact this

/-- the states before the kept one are untouched -/
theorem forked_getElem?_lt {l : List SInfo} {keep i : Nat} (kst : SInfo) (h : i + 1 < keep) (hk : keep ≤ l.length) :
    (l.take (keep - 1) ++ [kst])[i]? = l[i]? := by
  rw [List.getElem?_append_left (by rw [List.length_take]; omega), List.getElem?_take_of_lt (by omega)]

/-- the kept state sits at its old position -/
theorem forked_getElem?_keep {l : List SInfo} {keep : Nat} (kst : SInfo) (h : 1 ≤ keep) (hk : keep ≤ l.length) :
    (l.take (keep - 1) ++ [kst])[keep - 1]? = some kst := by
  rw [List.getElem?_append_right (by rw [List.length_take]; omega), List.length_take, Nat.min_eq_left (by omega),
    Nat.sub_self]
  rfl

theorem mem_pruneSeqHeights (sh : List (Addr × Nat)) (cs : List Addr) (h : Nat) (p : Addr × Nat) :
    p ∈ pruneSeqHeights sh cs h ↔ p ∈ sh ∧ (p.1 ∈ cs → p.2 ≤ h) := by
  unfold pruneSeqHeights
  rw [List.mem_filter]
  constructor
  · rintro ⟨h1, h2⟩
    refine ⟨h1, fun hc => ?_⟩
    have hcc : cs.contains p.1 = true := by simpa using hc
    rw [hcc] at h2
    simp at h2
    exact h2
  · rintro ⟨h1, h2⟩
    refine ⟨h1, ?_⟩
    by_cases hc : p.1 ∈ cs
    · have := h2 hc
      have hlt : decide (h < p.2) = false := by simp; omega
      rw [hlt]; simp
    · have hcc : cs.contains p.1 = false := by simpa using hc
      rw [hcc]; rfl

theorem filter_removeIdxAbove_other (q : List QEntry) (ra keep ra' : Nat) (hne : ra' ≠ ra) :
    (removeIdxAbove q ra keep).filter (·.ra == ra') = q.filter (·.ra == ra') := by
  induction q with
  | nil => rfl
  | cons x xs ih =>
    rw [removeIdxAbove_cons]
    by_cases hx : (x.ra == ra) = true
    · have hxr : x.ra = ra := by simpa using hx
      have hx' : (x.ra == ra') = false := by simp [hxr, Ne.symm hne]
      rw [if_pos hx]
      split
      · rw [ih, List.filter_cons, hx']; rfl
      · rw [List.filter_cons, List.filter_cons]
        simp only [hx', Bool.false_eq_true, if_false]
        exact ih
    · rw [if_neg hx, List.filter_cons, List.filter_cons, ih]

theorem latestRev_append (r : Rollapp) (x : Nat × Nat) (r' : Rollapp) (h : r'.revs = r.revs ++ [x]) :
    latestRev r' = x.1 := by
  unfold latestRev; rw [h]; simp

theorem revForHeight_append (r r' : Rollapp) (x : Nat × Nat) (h : r'.revs = r.revs ++ [x]) (y : Nat) :
    revForHeight r' y = if x.2 ≤ y then x.1 else revForHeight r y := by
  unfold revForHeight
  rw [h, List.reverse_append]
  simp only [List.reverse_cons, List.reverse_nil, List.nil_append, List.cons_append, List.find?_cons]
  by_cases hx : x.2 ≤ y
  · simp [hx]
  · simp [hx]

theorem _root_.DymVerif.Core.SInfo.WF.bd_range {st : SInfo} (hw : st.WF) {b : BD} (hb : b ∈ st.bds) :
    st.start ≤ b.height ∧ b.height ≤ st.last := by
  obtain ⟨i, hi, rfl⟩ := List.mem_iff_getElem.1 hb
  have := hw.bds_seq i st.bds[i] (by simp [hi])
  rw [hw.last_eq, this]
  have := hw.bds_len
  omega

theorem _root_.DymVerif.Core.SInfo.WF.bd_take {st : SInfo} (hw : st.WF) {b : BD} (hb : b ∈ st.bds) (m : Nat) (hm : b.height < st.start + m) :
    b ∈ st.bds.take m := by
  obtain ⟨i, hi, rfl⟩ := List.mem_iff_getElem.1 hb
  have := hw.bds_seq i st.bds[i] (by simp [hi])
  have him : i < m := by omega
  apply List.mem_iff_getElem.2
  refine ⟨i, by rw [List.length_take]; omega, ?_⟩
  simp

theorem updateState_ok_elim {s s' : St} {m : UpdMsg} (e : updateState s m = .ok s') :
    ∃ r, getRa s m.ra = some r ∧ r.proposer = some m.sender ∧ latestRev r = m.rev ∧
      (∀ a, r.states.getLast? = some a → m.start = a.start + a.num) := by
  obtain ⟨r, _, _, _, _, hg, hp, _, hrev, hpre, _⟩ := updateState_ok e
  exact ⟨r, hg, hp, hrev, updPre_start hpre⟩

theorem fraud_ok_elim {s s' : St} {au : Bool} {ra h rev : Nat} {pun rw : Option Addr}
    (e : fraud s au ra h rev pun rw = .ok s') :
    au = true ∧ h ≠ 0 ∧ ∃ r s1, getRa s ra = some r ∧ revForHeight r h = rev ∧
      (match pun with | some a => punish s a rw = .ok s1 | none => s1 = s) ∧ hardFork s1 ra (h - 1) = .ok s' := by
  obtain ⟨h1, h2, r, s1, h3, h4, h5, h6⟩ := fraud_ok e
  refine ⟨h1, h2, r, s1, h3, h4, ?_, h6⟩
  rcases h5 with ⟨rfl, rfl⟩ | ⟨a, rfl, hp⟩
  · rfl
  · exact hp

theorem punish_getRa {s s' : St} {a : Addr} {rw : Option Addr} (e : punish s a rw = .ok s') (id : Nat) :
    getRa s' id = getRa s id := by
  obtain ⟨q, s1, q1, _, hs, rfl⟩ := punish_ok e
  obtain ⟨⟨_, _, _, rfl⟩, _⟩ := slash_money hs
  rfl

theorem punish_seqH_queue {s s' : St} {a : Addr} {rw : Option Addr} (e : punish s a rw = .ok s') :
    s'.seqH = s.seqH ∧ s'.queue = s.queue := by
  obtain ⟨q, s1, q1, _, hs, rfl⟩ := punish_ok e
  obtain ⟨⟨_, _, _, rfl⟩, _⟩ := slash_money hs
  exact ⟨rfl, rfl⟩

theorem kick_ok_elim {s s' : St} {a : Addr} (e : kick s a = .ok s') :
    ∃ kicker r pa s3, getSeq s a = some kicker ∧ getRa s kicker.rollapp = some r ∧ r.proposer = some pa ∧ a ≠ pa ∧
      hardForkToLatest (abruptRemoveProposer s r.id) r.id = .ok s3 ∧
      recoverFromSentinel (setSeq s3 { kicker with optedIn := true }) r.id = .ok s' := by
  obtain ⟨k, r, pa, _, s3, hk, _, _, hg, hpa, _, hne, _, h3, e'⟩ := kick_ok e
  exact ⟨k, r, pa, s3, hk, hg, hpa, hne, h3, e'⟩

/-- a sequence of accepted forks-to-latest, one per affected rollapp -/
inductive ForkSeq : St → St → Prop
  | refl (s : St) : ForkSeq s s
  | step {a b c : St} (ra : Nat) : ForkSeq a b → hardForkToLatest b ra = .ok c → ForkSeq a c

/-- obsolete marking: the obsolete list is extended, then a sequence of accepted forks-to-latest runs
    (refused ones are dropped) -/
theorem markObsolete_ok_elim {s s' : St} {au : Bool} {vs : List Nat} (e : markObsolete s au vs = .ok s') :
    au = true ∧ vs ≠ [] ∧
      ForkSeq { s with obsolete := vs.foldl (fun acc v => if acc.contains v then acc else acc ++ [v]) s.obsolete } s' :=
  markObsolete_ind' (P := ForkSeq _) e (ForkSeq.refl _) (fun _ id _ hb h => ForkSeq.step id hb h)

end DymVerif.Core.Fork
