/-
  Lemmas/CoreRolesSlots — the two role slots of a rollapp, proposer and successor, as one pair (`slots`; `propOf` and
  `succOf` are its components), and what every function of M-Core does to the pair of every rollapp.  Three shapes recur
  below the operations: nothing moved; `Vacated ra` (a fork: both slots of `ra` emptied, whoever was proposer unbonded),
  read off the exact post-state of a fork in CoreForkSpec; `Filled ra` (the empty proposer slot of `ra` filled by the
  proposer choice).  `apply_slots` says of every operation and every rollapp which `SlotStep` it was.
-/
import DymVerif.Lemmas.CoreRolesMono
import DymVerif.Lemmas.CoreForkSpec
namespace DymVerif.Core.Roles

/-- the proposer slot of rollapp `id`: `none` = no such rollapp, `some none` = empty slot (sentinel) -/
def propOf (s : St) (id : Nat) : Option (Option Addr) := (getRa s id).map (·.proposer)

/-- the successor slot of rollapp `id` -/
def succOf (s : St) (id : Nat) : Option (Option Addr) := (getRa s id).map (·.successor)

/-- every successor slot is the same or has been cleared -/
def SClr (s s' : St) : Prop := ∀ id, succOf s' id = succOf s id ∨ succOf s' id = some none

def Unbonded (s : St) (a : Addr) : Prop := ∃ q, getSeq s a = some q ∧ q.bonded = false

theorem Unbonded.marked {s : St} {a : Addr} (h : Unbonded s a) : Marked s a := by
  obtain ⟨q, hq, hb⟩ := h; exact ⟨q, hq, Or.inr hb⟩

theorem Mono.unbonded {s s' : St} (m : Mono s s') {a : Addr} (h : Unbonded s a) : Unbonded s' a := by
  obtain ⟨q, hq, hb⟩ := h
  obtain ⟨q', hq', _, _, b⟩ := m a q hq
  exact ⟨q', hq', b hb⟩

theorem propOf_get {s : St} {id : Nat} {r : Rollapp} (hg : getRa s id = some r) : propOf s id = some r.proposer := by
  unfold propOf; rw [hg]; rfl

theorem succOf_get {s : St} {id : Nat} {r : Rollapp} (hg : getRa s id = some r) : succOf s id = some r.successor := by
  unfold succOf; rw [hg]; rfl

-- ---------------------------------------------------------------- the pair

/-- the two role slots of rollapp `id`, proposer and successor (`none`: no such rollapp) -/
def slots (s : St) (id : Nat) : Option (Option Addr × Option Addr) :=
  (getRa s id).map fun r => (r.proposer, r.successor)

theorem propOf_slots (s : St) (id : Nat) : propOf s id = (slots s id).map (·.1) := by
  unfold propOf slots; rw [Option.map_map]; rfl

theorem succOf_slots (s : St) (id : Nat) : succOf s id = (slots s id).map (·.2) := by
  unfold succOf slots; rw [Option.map_map]; rfl

theorem slots_get {s : St} {id : Nat} {r : Rollapp} (hg : getRa s id = some r) :
    slots s id = some (r.proposer, r.successor) := by unfold slots; rw [hg]; rfl

theorem slots_setRa {s : St} {id0 : Nat} {r r0 : Rollapp} (hg : getRa s id0 = some r0) (hid : r.id = r0.id) (id : Nat) :
    slots (setRa s r) id = if id = r.id then some (r.proposer, r.successor) else slots s id :=
  getRa_setRa_map _ hg hid id

theorem slots_of_ras {s s' : St} (e : s'.ras = s.ras) (id : Nat) : slots s' id = slots s id := by
  unfold slots; rw [getRa_congr e]

theorem Frame.slots {s s' : St} (f : Frame s s') (id : Nat) : slots s' id = slots s id := by
  have := congrArg (Option.map (fun k : Nat × Option Addr × Option Addr => k.2)) (f.ra_map id)
  simpa [Roles.slots, Option.map_map, Function.comp_def, rkey] using this

/-- a rewrite of a rollapp record that keeps both slots -/
theorem slots_setRa_same {s : St} {id0 : Nat} {r r0 : Rollapp} (hg : getRa s id0 = some r0) (hid : r.id = r0.id)
    (hp : r.proposer = r0.proposer) (hs : r.successor = r0.successor) (id : Nat) : slots (setRa s r) id = slots s id := by
  rw [slots_setRa hg hid]
  split
  · rename_i hc
    rw [slots_get (show getRa s id = some r0 by rw [hc, hid, getRa_id hg]; exact hg), hp, hs]
  · rfl

/-- both slots of every rollapp other than `ra` are as they were -/
def SlotsFix (ra : Nat) (s s' : St) : Prop := ∀ id, id ≠ ra → slots s' id = slots s id

theorem indicateLiveness_slots {s : St} {id0 : Nat} {r : Rollapp} (hg : getRa s id0 = some r) (id : Nat) :
    slots (indicateLiveness s r) id = slots s id := by
  unfold indicateLiveness resetClock scheduleEvent
  dsimp only
  exact (slots_setRa_same (r0 := r) (by exact hg) (by rfl) (by rfl) (by rfl) id).trans (slots_of_ras (s := s) (by rfl) id)

theorem afterSetRealProposer_slots (s : St) (ra : Nat) (a : Addr) (id : Nat) :
    slots (afterSetRealProposer s ra a) id = slots s id := by
  unfold afterSetRealProposer
  split
  · rfl
  · rename_i r hg
    split
    · exact indicateLiveness_slots hg id
    · rename_i r1 hg1
      exact (slots_setRa_same (r0 := r1) hg1 (by rfl) (by rfl) (by rfl) id).trans (indicateLiveness_slots hg id)

-- ---------------------------------------------------------------- an empty proposer slot is filled

/-- the empty proposer slot of `ra` has been filled by the proposer choice (which found a candidate), its successor slot
    is untouched; the slots of every other rollapp are as they were -/
structure Filled (ra : Nat) (s s' : St) : Prop where
  fix : SlotsFix ra s s'
  slot : ∃ x, slots s ra = some (none, x) ∧ slots s' ra = some (choose s' ra, x)
  found : (choose s' ra).isSome = true

theorem recoverFromSentinel_slots {s s' : St} {ra : Nat} (e : recoverFromSentinel s ra = .ok s') : Filled ra s s' := by
  have hseqs := (recoverFromSentinel_seqs e).1
  obtain ⟨r, a, hg, hpn, hch, rfl⟩ := recoverFromSentinel_ok e
  have hid := getRa_id hg
  have hs : ∀ id, slots (afterSetRealProposer (setRa s { r with proposer := some a }) ra a) id =
      if id = r.id then some (some a, r.successor) else slots s id := fun id =>
    (afterSetRealProposer_slots _ ra a id).trans (slots_setRa (r0 := r) hg (by rfl) id)
  have hc : choose (afterSetRealProposer (setRa s { r with proposer := some a }) ra a) ra = some a := by
    rw [choose_congr hseqs]; exact hch
  refine ⟨fun id hne => by rw [hs, if_neg (by rw [hid]; exact hne)], ⟨r.successor, by rw [slots_get hg, hpn], ?_⟩, by rw [hc]; rfl⟩
  rw [hs, if_pos hid.symm, hc]

/-- filling the empty slot of `ra` after steps that left all slots alone -/
theorem Filled.after {ra : Nat} {s s1 s' : St} (f : ∀ id, slots s1 id = slots s id) (rp : Filled ra s1 s') : Filled ra s s' :=
  ⟨fun id hne => (rp.fix id hne).trans (f id), by rw [← f ra]; exact rp.slot, rp.found⟩

-- ---------------------------------------------------------------- the fork vacates both slots

/-- rollapp `ra` lost its proposer and its successor, the proposer it had is unbonded; the slots of every other rollapp
    are as they were -/
structure Vacated (ra : Nat) (s s' : St) : Prop where
  fix : SlotsFix ra s s'
  empty : slots s' ra = some (none, none)
  unbonded : ∀ a, propOf s ra = some (some a) → Unbonded s' a

/-- the fork, read off its exact post-state (CoreForkSpec): under the invariant the proposer has a record, so the slot is
    really cleared and that record unbonded -/
theorem hardFork_vacates {s s' : St} {ra lv : Nat} (h : RolesCore s) (e : hardFork s ra lv = .ok s') : Vacated ra s s' := by
  obtain ⟨r, keep, kst, hg, _, _, _, hplan, _⟩ := hardFork_ok e
  obtain ⟨p', hr', hp'⟩ := Fork.hardFork_getRa_same hg hplan e
  have hrec : ∀ a, r.proposer = some a → ∃ q, getSeq s a = some q := fun a ha =>
    (h.prop r (getRa_mem hg) a ha).imp fun _ hq => hq.1
  have hp'' : p' = none := by
    rcases hp' with hn | ⟨_, a, ha, hn⟩
    · exact hn
    · obtain ⟨q, hq⟩ := hrec a ha; rw [hn] at hq; cases hq
  subst hp''
  refine ⟨fun id hne => by unfold slots; rw [Fork.hardFork_getRa_other e hne], slots_get hr', fun a ha => ?_⟩
  rw [propOf_get hg] at ha
  have ha := Option.some.inj ha
  obtain ⟨q, hq⟩ := hrec a ha
  exact ⟨_, by rw [Fork.hardFork_getSeq hg e a, hq]; rfl, by simp [ha]⟩

theorem hardForkToLatest_vacates {s s' : St} {ra : Nat} (h : RolesCore s) (e : hardForkToLatest s ra = .ok s') :
    Vacated ra s s' := by
  obtain ⟨_, _, _, _, e'⟩ := hardForkToLatest_ok e
  exact hardFork_vacates h e'

/-- the removal of a proposer on its own (the first step of a kick): it is unbonded, no other rollapp is touched -/
theorem abruptRemoveProposer_slots {s : St} {ra : Nat} {r : Rollapp} (h : RolesCore s) (hg : getRa s ra = some r) :
    SlotsFix ra s (abruptRemoveProposer s ra) ∧ ∀ a, r.proposer = some a → Unbonded (abruptRemoveProposer s ra) a := by
  refine ⟨fun id hne => ?_, fun a ha => ?_⟩
  · rcases abruptRemoveProposer_cases s ra with e | ⟨_, _, q, _, _, _, e⟩ <;> rw [e]
    rcases setProposer_cases (setSeq (removeFromNoticeQueue s q) { q with bonded := false }) ra none with
      ⟨_, e2⟩ | ⟨r2, hg2, e2⟩ <;> rw [e2]
    · exact slots_of_ras (removeFromNoticeQueue_ras s q) id
    · rw [slots_setRa (r := { r2 with proposer := none }) hg2 rfl, if_neg (by show id ≠ r2.id; rw [getRa_id hg2]; exact hne)]
      exact slots_of_ras (removeFromNoticeQueue_ras s q) id
  · obtain ⟨q, hq, _⟩ := h.prop r (getRa_mem hg) a ha
    exact ⟨_, by rw [Fork.abruptRemoveProposer_getSeq hg a, hq]; rfl, by simp [ha]⟩

/-- an accepted kick: the proposer of the kicker's rollapp is unbonded, the successor slot cleared, the proposer slot
    filled by the choice over the post-state; every other rollapp's slots are as they were -/
theorem kick_slots {s s' : St} {a : Addr} (h : Roles s) (e : kick s a = .ok s') :
    ∃ k r pa pq, getSeq s a = some k ∧ k.bonded = true ∧ k.optedIn = true ∧ getRa s k.rollapp = some r ∧
      r.proposer = some pa ∧ a ≠ pa ∧ getSeq s pa = some pq ∧ s.sqp.kickThr ≤ pq.dishonor ∧
      SlotsFix k.rollapp s s' ∧ slots s' k.rollapp = some (choose s' k.rollapp, none) ∧
      (choose s' k.rollapp).isSome = true ∧ Unbonded s' pa := by
  obtain ⟨k, r, pa, pq, s3, hgk, hkb, hko, hgr, hpa, hpq, hne, hthr, h3, hr⟩ := kick_ok e
  have hid : r.id = k.rollapp := getRa_id hgr
  rw [hid] at h3 hr
  obtain ⟨f2, u2⟩ := abruptRemoveProposer_slots h.core hgr
  have v3 := hardForkToLatest_vacates (abruptRemoveProposer_core h.core) h3
  obtain ⟨f5, ⟨x, hx, hs5⟩, hfound⟩ := recoverFromSentinel_slots hr
  have e4 : ∀ id, slots (setSeq s3 { k with optedIn := true }) id = slots s3 id := slots_of_ras rfl
  rw [e4, v3.empty] at hx
  cases hx
  refine ⟨k, r, pa, pq, hgk, hkb, hko, hgr, hpa, hne, hpq, hthr, ?_, hs5, hfound, ?_⟩
  · intro id hne'; rw [f5 id hne', e4, v3.fix id hne', f2 id hne']
  · -- unbonded by the removal; the fork only flips flags, the kicker's write is to another record
    obtain ⟨q3, hq3, hb3⟩ := (hardForkToLatest_flags h3).mono.unbonded (u2 pa hpa)
    refine ⟨q3, ?_, hb3⟩
    rw [getSeq_congr (recoverFromSentinel_seqs hr).1,
      getSeq_setSeq_other (show ({ k with optedIn := true } : Seq).addr ≠ pa by show k.addr ≠ pa; rw [getSeq_addr hgk]; exact hne)]
    exact hq3

theorem fraud_vacates {s s' : St} {au : Bool} {ra hh rev : Nat} {p rw : Option Addr} (h : Roles s)
    (e : fraud s au ra hh rev p rw = .ok s') : Vacated ra s s' := by
  obtain ⟨_, _, r, s1, _, _, hp, hf⟩ := fraud_ok e
  have hfr := fraud_punish_frame h.core.uniq hp
  have v := hardFork_vacates (h.core.frame hfr) hf
  exact ⟨fun id hne => (v.fix id hne).trans (hfr.slots id), v.empty,
    fun a ha => v.unbonded a (by rw [propOf_slots, hfr.slots, ← propOf_slots]; exact ha)⟩

/-- marking DRS versions obsolete, as one loop invariant over its forks: the roles invariant (each fork needs it of the
    state the earlier ones left), and every rollapp keeps both slots or has been vacated -/
theorem markObsolete_slots {s s' : St} {au : Bool} {vs : List Nat} (h : Roles s) (e : markObsolete s au vs = .ok s') :
    Roles s' ∧ ∀ id, slots s' id = slots s id ∨
      (slots s' id = some (none, none) ∧ ∀ a, propOf s id = some (some a) → Unbonded s' a) := by
  refine (markObsolete_ind (P := fun acc => Roles acc ∧ ∀ id, slots acc id = slots s id ∨
      (slots acc id = some (none, none) ∧ ∀ a, propOf s id = some (some a) → Unbonded acc a))
    e (fun _ => ⟨h.frame (Frame.of_eq rfl rfl rfl rfl rfl), fun id => Or.inl rfl⟩) ?_).2.2
  intro b rid b' hb hf
  refine ⟨hardForkToLatest_roles hb.1.core (hb.1.sp.ex _) hf, fun id => ?_⟩
  have v := hardForkToLatest_vacates hb.1.core hf
  have keep : ∀ a, Unbonded b a → Unbonded b' a := fun a => (hardForkToLatest_flags hf).mono.unbonded
  by_cases hc : id = rid
  · subst hc
    refine Or.inr ⟨v.empty, fun a ha => ?_⟩
    rcases hb.2 id with h1 | h1
    · exact v.unbonded a (by rw [propOf_slots, h1, ← propOf_slots]; exact ha)
    · exact keep a (h1.2 a ha)
  · rw [v.fix id hc]
    exact (hb.2 id).imp (fun h1 => h1) (fun h1 => ⟨h1.1, fun a ha => keep a (h1.2 a ha)⟩)

-- ---------------------------------------------------------------- rotation and state updates

theorem onProposerLastBlock_slots {s s' : St} {prop : Seq} {r0 : Rollapp} (h : Roles s)
    (hq : getSeq s prop.addr = some prop) (hr0 : r0 ∈ s.ras) (hp0 : r0.proposer = some prop.addr)
    (e : onProposerLastBlock s prop = .ok s') :
    SlotsFix r0.id s s' ∧ slots s' r0.id = some (r0.successor, none) ∧ noticeElapsed prop s.t = true := by
  have hg0 := getRa_of_proposer h hq hr0 hp0
  obtain ⟨hel, r, s1, hg, rfl, hc⟩ := onProposerLastBlock_ok e
  rw [hg0] at hg; injection hg with hg; subst hg
  have hps : ∀ id, slots (setRa s { r0 with successor := none, proposer := r0.successor }) id =
      if id = r0.id then some (r0.successor, none) else slots s id := slots_setRa (r0 := r0) hg0 (by rfl)
  rcases hc with ⟨hsn, e'⟩ | ⟨a, _, rfl⟩
  · -- no successor: the rollapp is forked
    have v := hardForkToLatest_vacates (rotate_core h hq hr0 hp0 hel) e'
    exact ⟨fun id hne => by rw [v.fix id hne, hps id, if_neg hne], by rw [v.empty, hsn], hel⟩
  · exact ⟨fun id hne => by rw [afterSetRealProposer_slots, hps id, if_neg hne],
      by rw [afterSetRealProposer_slots, hps r0.id, if_pos rfl], hel⟩

theorem seqAfterUpdate_slots {s s' : St} {m : UpdMsg} {b : Bool} {r0 : Rollapp} (h : Roles s)
    (hr0 : r0 ∈ s.ras) (hp0 : r0.proposer = some m.sender) (e : seqAfterUpdate s m b = .ok s') :
    (b = false → ∀ id, slots s' id = slots s id) ∧
    (b = true → SlotsFix r0.id s s' ∧ slots s' r0.id = some (r0.successor, none) ∧
      ∃ q, getSeq s m.sender = some q ∧ noticeElapsed q s.t = true) := by
  obtain ⟨prop, prop1, hg, rfl, hc⟩ := seqAfterUpdate_ok e
  have hpa : prop.addr = m.sender := getSeq_addr hg
  have f1 : Frame s (setSeq s { prop with dishonor := prop.dishonor - min s.sqp.dishonorSU prop.dishonor }) :=
    Frame.of_setSeq (q0 := prop) h.core.uniq hg (by rfl) (by rfl) (by rfl) (by rfl) (by rfl)
  rcases hc with ⟨hb, rfl⟩ | ⟨hb, e'⟩
  · exact ⟨fun _ => slots_of_ras rfl, fun hc => (by rw [hb] at hc; cases hc)⟩
  · refine ⟨fun hc => (by rw [hb] at hc; cases hc), fun _ => ?_⟩
    have sp := onProposerLastBlock_slots (r0 := r0) (h.frame f1) (getSeq_setSeq_same' (q0 := prop) hg (by rfl)) hr0
      (by rw [hp0]; exact congrArg some hpa.symm) e'
    exact ⟨fun id hne => (sp.1 id hne).trans (slots_of_ras rfl id), sp.2.1, prop, hg, sp.2.2⟩

/-- an accepted update leaves all slots alone, unless it is the proposer's last: then the successor takes over -/
theorem updateState_slots {s s' : St} {m : UpdMsg} (h : Roles s) (e : updateState s m = .ok s') :
    ∃ r, getRa s m.ra = some r ∧ r.proposer = some m.sender ∧
      ((∀ id, slots s' id = slots s id) ∨
       (m.last = true ∧ SlotsFix m.ra s s' ∧ slots s' m.ra = some (r.successor, none) ∧
         ∃ q, getSeq s m.sender = some q ∧ noticeElapsed q s.t = true)) := by
  obtain ⟨r, s3, s4, r4, _, hg, hpr, _, _, _, _, h3, rfl, hg4, rfl⟩ := updateState_ok e
  refine ⟨r, hg, hpr, ?_⟩
  have hid := getRa_id hg
  have f1 : Frame s (setRa s { r with states := r.states ++ [newSInfo s m (updSucc r m)] }) :=
    Frame.of_setRa (r0 := r) h.core.uniq hg (by rfl) (by rfl) (by rfl)
  have sp := seqAfterUpdate_slots (h.frame f1) (getRa_mem (getRa_setRa_same' (r0 := r) hg (by rfl))) hpr h3
  have f4 : ∀ id, slots (indicateLiveness { s3 with queue := queueAppend s3.queue s3.h m.ra (r.states.length + 1), seqH := addSeqHeights s3.seqH m.sender m.bds } r4) id = slots s3 id := fun id =>
    (indicateLiveness_slots hg4 id).trans (slots_of_ras (s := s3) (by rfl) id)
  cases hb : (updSucc r m != NextP.addr m.sender) with
  | false => exact Or.inl fun id => by rw [f4, sp.1 hb, f1.slots]
  | true =>
    obtain ⟨p1, p2, q, hq, hel⟩ := sp.2 hb
    have hlast : m.last = true := by
      cases hl : m.last with
      | true => rfl
      | false => unfold updSucc at hb; simp [hl] at hb
    refine Or.inr ⟨hlast, fun id hne => ?_, ?_, q, hq, hel⟩
    · rw [f4, p1 id (by show id ≠ r.id; rw [hid]; exact hne), f1.slots]
    · rw [f4, ← hid]; exact p2

-- ---------------------------------------------------------------- sequencer creation, opt-in, begin block

theorem createSeq_slots {s s' : St} {a : Addr} {ra bond : Nat} {d : Bool} (e : createSeq s a ra bond d = .ok s') :
    (∀ id, slots s' id = slots s id) ∨ Filled ra s s' := by
  obtain ⟨r, s1, q1, hg, _, _, _, _, hs, r2, _, hfin⟩ := createSeq_ok e
  have f2 : ∀ id, slots (addSeq s1 q1) id = slots s id := fun id => by
    refine (slots_of_ras (s' := addSeq s1 q1) (show (addSeq s1 q1).ras = _ from (sendToModule_same hs).1.ras) id).trans ?_
    split
    · rfl
    · exact slots_setRa_same (r0 := r) hg (by rfl) (by rfl) (by rfl) id
  rcases hfin with ⟨_, rfl⟩ | ⟨_, hr⟩
  · exact Or.inl f2
  · exact Or.inr ((recoverFromSentinel_slots hr).after f2)

theorem optIn_slots {s s' : St} {a : Addr} {v : Bool} (e : optIn s a v = .ok s') :
    ∃ q, getSeq s a = some q ∧ ((∀ id, slots s' id = slots s id) ∨ Filled q.rollapp s s') := by
  obtain ⟨q, r, hg, _, _, hc⟩ := optIn_ok e
  refine ⟨q, hg, ?_⟩
  rcases hc with ⟨_, rfl⟩ | ⟨_, hr⟩
  · exact Or.inl (slots_of_ras rfl)
  · exact Or.inr ((recoverFromSentinel_slots hr).after (s1 := setSeq s { q with optedIn := v }) (slots_of_ras rfl))

/-- begin block leaves every proposer; a successor slot is as it was or — for the rollapp of a sequencer whose
    notice-queue entry is due — the proposer choice -/
theorem beginBlock_slots (s : St) (dt : Nat) (id : Nat) :
    slots (beginBlock s dt) id = slots s id ∨
    ∃ t a q p x, (t, a) ∈ s.nq ∧ t ≤ s.t + dt ∧ getSeq s a = some q ∧ q.rollapp = id ∧ slots s id = some (p, x) ∧
      slots (beginBlock s dt) id = some (p, choose (beginBlock s dt) id) := by
  rw [choose_congr (beginBlock_seqs s dt).1]
  refine (beginBlock_ind'' (P := fun b => b.seqs = s.seqs ∧ (slots b id = slots s id ∨
      ∃ t a q p x, (t, a) ∈ s.nq ∧ t ≤ s.t + dt ∧ getSeq s a = some q ∧ q.rollapp = id ∧ slots s id = some (p, x) ∧
        slots b id = some (p, choose s id)))
    s dt ⟨rfl, Or.inl rfl⟩ (fun _ _ _ _ hb => hb) ?_).2
  intro b e q r he hle ⟨hseq, hb⟩ hq hr
  refine ⟨hseq, ?_⟩
  have hid : r.id = q.rollapp := getRa_id hr
  rw [slots_setRa (r := { r with successor := choose b q.rollapp }) hr rfl id]
  by_cases hc : id = r.id
  · rw [if_pos hc]
    have hsl : slots b id = some (r.proposer, r.successor) := by rw [hc]; exact slots_get (getRa_self hr)
    -- the proposer slot is still what it was at the start
    obtain ⟨x, hx⟩ : ∃ x, slots s id = some (r.proposer, x) := by
      rcases hb with h1 | ⟨_, _, _, p, x, _, _, _, _, h5, h6⟩
      · exact ⟨_, h1 ▸ hsl⟩
      · obtain ⟨rfl, _⟩ := Prod.mk.inj (Option.some.inj (hsl.symm.trans h6)); exact ⟨x, h5⟩
    refine Or.inr ⟨e.1, e.2, q, r.proposer, x, he, hle, by rw [← getSeq_congr hseq]; exact hq, by rw [hc, hid], hx, ?_⟩
    show some (r.proposer, choose b q.rollapp) = _
    rw [hc, hid, choose_congr hseq]
  · rw [if_neg hc]; exact hb

-- ---------------------------------------------------------------- every operation

/-- What one accepted operation `o` did to the two role slots of rollapp `id`.  The constructors are the callers of
    `SetProposer` / `SetSuccessor` in x/sequencer.  `created`: a rollapp stored by `MsgCreateRollapp` has neither key yet
    (the model's record starts with both slots empty).  `rotated`: `OnProposerLastBlock` under the proposer's last
    `MsgUpdateState`, sent after its notice elapsed — the successor becomes proposer (if there was none the rollapp is
    forked, with the same outcome `(none, none)`).  `kicked`: `TryKickProposer` — the proposer is removed and unbonded,
    the rollapp forked, the slot refilled by the proposer choice.  `forked`: `HardFork` under a fraud proposal or
    `MsgMarkObsoleteRollapps` — the hook `OnHardFork` empties both slots and unbonds whoever was proposer.  `filled`:
    `RecoverFromSentinel` after `MsgCreateSequencer` / `MsgUpdateOptInStatus` fills an empty proposer slot.  `chosen`:
    `ChooseSuccessorForFinishedNotices` in the sequencer `BeginBlock` sets the successor for a due notice.  `same`: every
    other case. -/
inductive SlotStep (s s' : St) (o : Op) (id : Nat) : Prop
  | same (eq : slots s' id = slots s id)
  | created (was : slots s id = none) (now : slots s' id = some (none, none))
  | rotated {m : UpdMsg} {q : Seq} {r : Rollapp} (now : slots s' id = some (r.successor, none))
      (hr : getRa s id = some r) (prop : r.proposer = some m.sender) (hq : getSeq s m.sender = some q)
      (elapsed : noticeElapsed q s.t = true) (op : o = .update m) (ra : m.ra = id) (last : m.last = true)
  | kicked {a : Addr} {k : Seq} {r : Rollapp} {pa : Addr} {pq : Seq} (now : slots s' id = some (choose s' id, none))
      (hr : getRa s id = some r) (prop : r.proposer = some pa) (unbonded : Unbonded s' pa)
      (found : (choose s' id).isSome = true) (op : o = .kick a) (hk : getSeq s a = some k) (bonded : k.bonded = true)
      (optedIn : k.optedIn = true) (ra : k.rollapp = id) (ne : a ≠ pa) (hq : getSeq s pa = some pq)
      (thr : s.sqp.kickThr ≤ pq.dishonor)
  | forked (now : slots s' id = some (none, none)) (unbonded : ∀ a, propOf s id = some (some a) → Unbonded s' a)
      (op : (∃ au hh rev pun rw, o = .fraud au id hh rev pun rw) ∨ (∃ au vs, o = .obsolete au vs))
  | filled (fill : Filled id s s')
      (op : (∃ a b d, o = .createSeq a id b d) ∨ (∃ a v q, o = .optIn a v ∧ getSeq s a = some q ∧ q.rollapp = id))
  | chosen {dt t : Nat} {a : Addr} {q : Seq} {p x : Option Addr} (was : slots s id = some (p, x))
      (now : slots s' id = some (p, choose s' id)) (op : o = .begin_ dt) (due : (t, a) ∈ s.nq) (le : t ≤ s.t + dt)
      (hq : getSeq s a = some q) (ra : q.rollapp = id)

theorem apply_slots {s s' : St} {o : Op} (h : Roles s) (e : apply s o = .ok s') (id : Nat) : SlotStep s s' o id := by
  cases o with
  | createRollapp id' owner mb =>
    obtain ⟨hnone, rfl⟩ := apply_createRollapp_ok e
    by_cases hc : id' = id
    · subst hc
      have hs := getRa_insertSorted_self (s := s) (r := newRollapp id' owner mb) (getRa_none hnone)
      exact .created (by unfold slots; rw [hnone]; rfl) (slots_get hs)
    · exact .same (by unfold slots; rw [getRa_insertSorted_ne (r := newRollapp id' owner mb) (by exact hc)])
  | bridge ra hh =>
    obtain ⟨r1, lh, hg1, _, _, _, _, rfl⟩ := apply_bridge_ok e
    exact .same (slots_setRa_same (r0 := r1) hg1 (by rfl) (by rfl) (by rfl) id)
  | fund a' amt => cases e; exact .same (slots_of_ras rfl id)
  | createSeq a' ra b d =>
    rcases createSeq_slots e with ps | pf
    · exact .same (ps id)
    · by_cases hc : id = ra
      · subst hc; exact .filled pf (Or.inl ⟨a', b, d, rfl⟩)
      · exact .same (pf.fix id hc)
  | bondInc a' amt d => exact .same (slots_of_ras (Core.increaseBond_frame e).ras id)
  | bondDec a' amt => exact .same (slots_of_ras (decreaseBond_frame e).ras id)
  | unbond a' => exact .same (slots_of_ras (unbond_frame e).ras id)
  | optIn a' v =>
    obtain ⟨q, hq, ps | pf⟩ := optIn_slots e
    · exact .same (ps id)
    · by_cases hc : id = q.rollapp
      · subst hc; exact .filled pf (Or.inr ⟨a', v, q, rfl, hq, rfl⟩)
      · exact .same (pf.fix id hc)
  | kick a' =>
    obtain ⟨k, r1, pa, pq, hk1, hkb, hko, hk2, hk3, hk4, hk5, hk6, pf, pc, pi, hub⟩ := kick_slots h e
    by_cases hc : id = k.rollapp
    · subst hc; exact .kicked pc hk2 hk3 hub pi rfl hk1 hkb hko rfl hk4 hk5 hk6
    · exact .same (pf id hc)
  | update m =>
    obtain ⟨r1, hr1, hp1, ps | ⟨hl, pf, pc, q, hq, hel⟩⟩ := updateState_slots h e
    · exact .same (ps id)
    · by_cases hc : id = m.ra
      · subst hc; exact .rotated pc hr1 hp1 hq hel rfl rfl hl
      · exact .same (pf id hc)
  | fraud au ra hh rev p rw =>
    have v := fraud_vacates h e
    by_cases hc : id = ra
    · subst hc; exact .forked v.empty v.unbonded (Or.inl ⟨au, hh, rev, p, rw, rfl⟩)
    · exact .same (v.fix id hc)
  | obsolete au vs =>
    rcases (markObsolete_slots h e).2 id with h1 | h1
    · exact .same h1
    · exact .forked h1.1 h1.2 (Or.inr ⟨au, vs, rfl⟩)
  | punish au a' rw => exact .same (slots_of_ras (Core.punish_frame (punishProposal_ok e).2).ras id)
  | transferOwner sg ra' no =>
    obtain ⟨r1, hg1, _, _, _, rfl⟩ := transferOwner_ok e
    exact .same (slots_setRa_same (r0 := r1) hg1 (by rfl) (by rfl) (by rfl) id)
  | setSeqParams au sp => obtain ⟨_, _, _, rfl⟩ := setSeqParams_ok e; exact .same (slots_of_ras rfl id)
  | begin_ dt =>
    cases e
    obtain h1 | ⟨t, a, q, p, x, h1, h2, h3, h4, h5, h6⟩ := beginBlock_slots s dt id
    · exact .same h1
    · exact .chosen h5 h6 rfl h1 h2 h3 h4
  | end_ f => cases e; exact .same ((endBlock_frame h.core.uniq).slots id)

end DymVerif.Core.Roles
