/-
  Lemmas/CoreLevOps — lookup of a record written back under the id it was found by, the chain after an appended update; and what `Fork.MoneyOnly`, the footprint of the money movers of M-Core (`sendToModule`,
  `sendFromModule`, `burn`, `slash`, `tryUnbond`), leaves alone: rollapp records, sequencer list, sequencer
  parameters; address and rollapp of the record.
-/
import DymVerif.Lemmas.CoreCustody4
import DymVerif.Lemmas.CoreForkInv3
import DymVerif.Lemmas.CoreProposer
namespace DymVerif.Core.Fork

theorem MoneyOnly.ras {s s1 : St} {q q1 : Seq} (h : MoneyOnly s s1 q q1) : s1.ras = s.ras := by
  obtain ⟨⟨_, _, _, rfl⟩, _⟩ := h; rfl

theorem MoneyOnly.seqs {s s1 : St} {q q1 : Seq} (h : MoneyOnly s s1 q q1) : s1.seqs = s.seqs := by
  obtain ⟨⟨_, _, _, rfl⟩, _⟩ := h; rfl

theorem MoneyOnly.sqp {s s1 : St} {q q1 : Seq} (h : MoneyOnly s s1 q q1) : s1.sqp = s.sqp := by
  obtain ⟨⟨_, _, _, rfl⟩, _⟩ := h; rfl

theorem MoneyOnly.addr {s s1 : St} {q q1 : Seq} (h : MoneyOnly s s1 q q1) : q1.addr = q.addr := by
  obtain ⟨_, _, _, rfl⟩ := h; rfl

theorem MoneyOnly.rollapp {s s1 : St} {q q1 : Seq} (h : MoneyOnly s s1 q q1) : q1.rollapp = q.rollapp := by
  obtain ⟨_, _, _, rfl⟩ := h; rfl

end DymVerif.Core.Fork

namespace DymVerif.Core.LevNs

theorem getRa_setRa_same_id {s : St} {id : Nat} {r r' : Rollapp} (hg : getRa s id = some r) (hid : r'.id = id) :
    getRa (setRa s r') id = some r' := by
  subst hid; exact getRa_setRa_self hg

/-- the chain of a rollapp stays gap-free when the state info of an accepted update is appended -/
theorem chain_append_update {r : Rollapp} {m : UpdMsg} (hc : Chain r.states) (hvb : updValidateBasic m = .ok ())
    (hpre : updPre r m = .ok ()) (s : St) (n : NextP) : Chain (r.states ++ [newSInfo s m n]) :=
  hc.append (updValidateBasic_wf hvb s n) (fun a ha => updPre_start hpre a ha)

end DymVerif.Core.LevNs
