/-
  Lemmas/CoreLevOwn — proposer and successor of every rollapp are sequencers *of that rollapp*, in
  every reachable state.  Consequence: an address proposes for at most one rollapp (`Uniq`), so a
  liveness event of another rollapp never touches the bond of this rollapp's proposer.
-/
import DymVerif.Lemmas.CoreLevFrame
namespace DymVerif.Core.LevNs

/-- proposer and successor of every rollapp have a sequencer record naming that rollapp -/
def Own (s : St) : Prop :=
  ∀ id r a, getRa s id = some r → (r.proposer = some a ∨ r.successor = some a) →
    ∃ q, getSeq s a = some q ∧ q.rollapp = id

structure OwnN (s : St) : Prop where
  nodup : AddrNodup s.seqs
  own : Own s

/-- sequencer records persist and keep their rollapp -/
def RolMono (s s' : St) : Prop :=
  ∀ a q, getSeq s a = some q → ∃ q', getSeq s' a = some q' ∧ q'.rollapp = q.rollapp

theorem RolMono.refl (s : St) : RolMono s s := fun _ q h => ⟨q, h, rfl⟩

theorem RolMono.trans {a b c : St} (h1 : RolMono a b) (h2 : RolMono b c) : RolMono a c := by
  intro x q h
  obtain ⟨q1, g1, r1⟩ := h1 x q h
  obtain ⟨q2, g2, r2⟩ := h2 x q1 g1
  exact ⟨q2, g2, r2.trans r1⟩

theorem RolMono.of_seqs {s s' : St} (e : s'.seqs = s.seqs) : RolMono s s' := by
  intro a q h; exact ⟨q, by rw [getSeq_congr e]; exact h, rfl⟩

theorem RolMono.setSeq {s : St} {q0 q' : Seq} (hg : getSeq s q'.addr = some q0) (hr : q'.rollapp = q0.rollapp) :
    RolMono s (setSeq s q') := by
  intro a q h
  by_cases ha : q'.addr = a
  · subst ha; rw [hg] at h; injection h with h; subst h; exact ⟨q', getSeq_setSeq_self hg, hr⟩
  · exact ⟨q, by rw [getSeq_setSeq_other ha]; exact h, rfl⟩

theorem RolMono.map {s : St} (f : Seq → Seq) (hf : ∀ x, (f x).addr = x.addr) (hr : ∀ x, (f x).rollapp = x.rollapp) :
    RolMono s { s with seqs := s.seqs.map f } := by
  intro a q h
  unfold getSeq at h ⊢
  dsimp only
  rw [find_map_addr _ f hf, h]
  exact ⟨f q, rfl, hr q⟩

theorem choose_own {s : St} (hn : AddrNodup s.seqs) {ra : Nat} {a : Addr} (h : choose s ra = some a) :
    ∃ q, getSeq s a = some q ∧ q.rollapp = ra := by
  obtain ⟨q, hq, ha, hr⟩ := Fork.choose_mem h
  exact ⟨q, by rw [← ha]; exact Fork.getSeq_of_mem_nodup hn hq, hr⟩

theorem Own.setRa {s : St} {id : Nat} {r r' : Rollapp} (h : Own s) (hg : getRa s id = some r) (hid : r'.id = r.id)
    (hps : ∀ a, (r'.proposer = some a ∨ r'.successor = some a) → ∃ q, getSeq s a = some q ∧ q.rollapp = id) :
    Own (setRa s r') := by
  have hid' : r'.id = id := hid.trans (getRa_id hg)
  intro id' x a hgx hpx
  by_cases hc : id' = id
  · subst hc
    rw [getRa_setRa_same_id hg hid'] at hgx
    injection hgx with hgx; subst hgx
    exact hps a hpx
  · rw [getRa_setRa_ne (by rw [hid']; exact fun e => hc e.symm)] at hgx
    exact h id' x a hgx hpx

theorem OwnN.of_eq {s s' : St} (h : OwnN s) (e1 : s'.ras = s.ras) (e2 : s'.seqs = s.seqs) : OwnN s' := by
  refine ⟨e2 ▸ h.nodup, ?_⟩
  intro id r a hg hp
  rw [getRa_of_ras_eq e1] at hg
  rw [getSeq_congr e2]
  exact h.own id r a hg hp

theorem OwnN.setRa_ps {s : St} {id : Nat} {r r' : Rollapp} (h : OwnN s) (hg : getRa s id = some r) (hid : r'.id = r.id)
    (hps : ∀ a, (r'.proposer = some a ∨ r'.successor = some a) → ∃ q, getSeq s a = some q ∧ q.rollapp = id) :
    OwnN (setRa s r') := ⟨h.nodup, h.own.setRa hg hid hps⟩

theorem OwnN.setRa_same {s : St} {id : Nat} {r r' : Rollapp} (h : OwnN s) (hg : getRa s id = some r) (hid : r'.id = r.id)
    (hp : r'.proposer = r.proposer) (hs : r'.successor = r.successor) : OwnN (setRa s r') :=
  h.setRa_ps hg hid (fun a ha => h.own id r a hg (by rw [← hp, ← hs]; exact ha))

/-- sequencer records change but persist with their rollapp; rollapp records unchanged -/
theorem OwnN.mono {s s' : St} (h : OwnN s) (hn : AddrNodup s'.seqs) (e1 : s'.ras = s.ras) (hm : RolMono s s') : OwnN s' := by
  refine ⟨hn, ?_⟩
  intro id r a hg hp
  rw [getRa_of_ras_eq e1] at hg
  obtain ⟨q, hq, hr⟩ := h.own id r a hg hp
  obtain ⟨q', hq', hr'⟩ := hm a q hq
  exact ⟨q', hq', hr'.trans hr⟩

theorem OwnN.setSeq {s : St} {q0 q' : Seq} (h : OwnN s) (hg : getSeq s q'.addr = some q0) (hr : q'.rollapp = q0.rollapp) :
    OwnN (setSeq s q') :=
  h.mono (h.nodup.of_addrs_eq (addrs_replace s.seqs q')) rfl (RolMono.setSeq hg hr)

/-- a record that went through the money movers is written back -/
theorem OwnN.setSeq_money {s s1 : St} {q0 q q1 : Seq} (h : OwnN s) (hg : getSeq s q.addr = some q0)
    (hr : q.rollapp = q0.rollapp) (hm : Fork.MoneyOnly s s1 q q1) : OwnN (Core.setSeq s1 q1) :=
  (h.of_eq hm.ras hm.seqs).setSeq (q0 := q0) (by rw [getSeq_congr hm.seqs, hm.addr]; exact hg) (hm.rollapp.trans hr)

theorem indicateLiveness_own {s : St} {id : Nat} {r : Rollapp} (h : OwnN s) (hg : getRa s id = some r) :
    OwnN (indicateLiveness s r) :=
  (h.setRa_same (r' := { r with evH := nextSlashHeight s.p.lsBlocks s.p.lsInterval s.h s.h, cdStart := s.h })
    hg rfl rfl rfl).of_eq (indicateLiveness_ras s r) rfl

theorem afterSetRealProposer_own {s : St} {ra : Nat} {a : Addr} (h : OwnN s) : OwnN (afterSetRealProposer s ra a) := by
  unfold afterSetRealProposer
  split
  · exact h
  · rename_i r hg
    have h1 := indicateLiveness_own h hg
    split
    · exact h1
    · rename_i r1 hg1
      exact h1.setRa_same hg1 rfl rfl rfl

theorem recoverFromSentinel_own {s s' : St} {ra : Nat} (h : OwnN s) (e : recoverFromSentinel s ra = .ok s') : OwnN s' := by
  obtain ⟨r, a, hg, _, hch, rfl⟩ := recoverFromSentinel_ok e
  apply afterSetRealProposer_own
  refine h.setRa_ps hg (by rfl) ?_
  intro b hb
  rcases hb with hb | hb
  · have : a = b := by injection hb
    subst this
    exact choose_own h.nodup hch
  · exact h.own ra r b hg (Or.inr hb)

theorem optOutAll_own {s : St} {ra : Nat} (h : OwnN s) : OwnN (optOutAll s ra) ∧ RolMono s (optOutAll s ra) := by
  have ha : ∀ x : Seq, (if x.rollapp == ra then { x with optedIn := false } else x).addr = x.addr := by
    intro x; split <;> rfl
  have hr : ∀ x : Seq, (if x.rollapp == ra then { x with optedIn := false } else x).rollapp = x.rollapp := by
    intro x; split <;> rfl
  have hm : RolMono s (optOutAll s ra) := by unfold optOutAll; exact RolMono.map _ ha hr
  refine ⟨h.mono ?_ rfl hm, hm⟩
  apply h.nodup.of_addrs_eq
  unfold optOutAll
  dsimp only
  rw [List.map_map]; apply List.map_congr_left; intro x _; exact ha x

/-- `OwnN`, together with "records persist with their rollapp since `s0`", survives what
    `abruptRemoveProposer` and the fork hook write: they only clear role slots -/
theorem own_role (s0 : St) (ra : Nat) : RoleClosed (fun x => OwnN x ∧ RolMono s0 x) ra where
  clearProposer := fun {_ r} hg h =>
    ⟨h.1.setRa_ps hg rfl (fun a ha => ha.elim (fun hp => nomatch hp) (fun hs => h.1.own ra r a hg (Or.inr hs))), h.2⟩
  clearSuccessor := fun {_ r} hg h =>
    ⟨h.1.setRa_ps hg rfl (fun a ha => ha.elim (fun hp => h.1.own ra r a hg (Or.inl hp)) (fun hs => nomatch hs)), h.2⟩
  unbond := fun {_ q} hq h =>
    ⟨h.1.setSeq (q' := { q with bonded := false }) hq rfl, h.2.trans (RolMono.setSeq (q' := { q with bonded := false }) hq rfl)⟩
  optOut := fun h => ⟨(optOutAll_own h.1).1, h.2.trans (optOutAll_own h.1).2⟩
  nq := fun q h => ⟨h.1.of_eq (removeFromNoticeQueue_ras _ q) (removeFromNoticeQueue_seqs _ q).1,
    h.2.trans (RolMono.of_seqs (removeFromNoticeQueue_seqs _ q).1)⟩

theorem abruptRemoveProposer_own {s : St} {ra : Nat} (h : OwnN s) :
    OwnN (abruptRemoveProposer s ra) ∧ RolMono s (abruptRemoveProposer s ra) :=
  (own_role s ra).abruptRemoveProposer ⟨h, RolMono.refl s⟩

theorem seqOnHardFork_own {s : St} {ra : Nat} (h : OwnN s) : OwnN (seqOnHardFork s ra) ∧ RolMono s (seqOnHardFork s ra) :=
  (own_role s ra).seqOnHardFork ⟨h, RolMono.refl s⟩

theorem hardFork_own {s s' : St} {ra lv : Nat} (h : OwnN s) (e : hardFork s ra lv = .ok s') : OwnN s' ∧ RolMono s s' := by
  obtain ⟨r, keep, kst, hg, _, _, _, _, rfl⟩ := hardFork_ok e
  have h2 : OwnN (afterRevert s ra keep r kst) :=
    (h.setRa_same (r' := { forkedRollapp r keep kst with evH := 0, cdStart := s.h }) hg rfl rfl rfl).of_eq rfl rfl
  have h3 := seqOnHardFork_own (ra := ra) h2
  exact ⟨h3.1, (RolMono.of_seqs (s' := afterRevert s ra keep r kst) rfl).trans h3.2⟩

theorem hardForkToLatest_own {s s' : St} {ra : Nat} (h : OwnN s) (e : hardForkToLatest s ra = .ok s') :
    OwnN s' ∧ RolMono s s' := by
  obtain ⟨_, _, _, _, hf⟩ := hardForkToLatest_ok e
  exact hardFork_own h hf

theorem onProposerLastBlock_own {s s' : St} {q : Seq} (h : OwnN s) (e : onProposerLastBlock s q = .ok s') : OwnN s' := by
  obtain ⟨_, r, _, hg, rfl, h2⟩ := onProposerLastBlock_ok e
  have h1 : OwnN (setRa s { r with successor := none, proposer := r.successor }) := by
    refine h.setRa_ps hg (by rfl) ?_
    intro b hb
    rcases hb with hb | hb
    · exact h.own _ r b hg (Or.inr hb)
    · cases hb
  rcases h2 with ⟨_, hf⟩ | ⟨a, _, rfl⟩
  · exact (hardForkToLatest_own h1 hf).1
  · exact afterSetRealProposer_own h1

theorem seqAfterUpdate_own {s s' : St} {m : UpdMsg} {b : Bool} (h : OwnN s) (e : seqAfterUpdate s m b = .ok s') : OwnN s' := by
  obtain ⟨prop, _, hg, rfl, h2⟩ := seqAfterUpdate_ok e
  have h1 : OwnN (setSeq s { prop with dishonor := prop.dishonor - min s.sqp.dishonorSU prop.dishonor }) :=
    h.setSeq (q' := { prop with dishonor := prop.dishonor - min s.sqp.dishonorSU prop.dishonor }) (q0 := prop)
      (by show getSeq s prop.addr = some prop; rw [getSeq_addr hg]; exact hg) rfl
  rcases h2 with ⟨_, rfl⟩ | ⟨_, e⟩
  · exact h1
  · exact onProposerLastBlock_own h1 e

theorem updateState_own {s s' : St} {m : UpdMsg} (h : OwnN s) (e : updateState s m = .ok s') : OwnN s' := by
  obtain ⟨r, s3, _, r4, _, hg, _, _, _, _, _, h3, rfl, hg4, rfl⟩ := updateState_ok e
  have hnew : OwnN (setRa s { r with states := r.states ++ [newSInfo s m (updSucc r m)] }) :=
    h.setRa_same hg rfl rfl rfl
  exact indicateLiveness_own ((seqAfterUpdate_own hnew h3).of_eq rfl rfl) hg4

theorem rolMono_insert {s : St} {q1 : Seq} (hfresh : getSeq s q1.addr = none) :
    RolMono s { s with seqs := insertSorted (fun x y => decide (x.addr < y.addr)) q1 s.seqs } := by
  have hne := getSeq_none hfresh
  intro a q h
  refine ⟨q, ?_, rfl⟩
  have hqa : q.addr = a := getSeq_addr h
  have hx : q1.addr ≠ a := by
    intro hc
    exact hne q (getSeq_mem h) (hqa.trans hc.symm)
  rw [getSeq_insertSorted_ne hx]; exact h

theorem punish_own {s s' : St} {a : Addr} {rw : Option Addr} (h : OwnN s) (e : punish s a rw = .ok s') : OwnN s' := by
  obtain ⟨q, _, _, hq, hs, rfl⟩ := punish_ok e
  exact h.setSeq_money (by rw [getSeq_addr hq]; exact hq) rfl (Fork.slash_money hs)

theorem beginBlock_own {s : St} {dt : Nat} (h : OwnN s) : OwnN (beginBlock s dt) := by
  unfold beginBlock
  dsimp only
  apply foldl_inv OwnN
  · exact h.of_eq rfl rfl
  · intro b e hb
    have hb1 : OwnN { b with nq := b.nq.filter (fun x => !(x.1 == e.1 && x.2 == e.2)) } := hb.of_eq rfl rfl
    split
    · exact hb1
    · rename_i q hq
      split
      · exact hb1
      · rename_i r hg
        refine hb1.setRa_ps hg (by rfl) ?_
        intro c hc
        rcases hc with hc | hc
        · exact hb1.own _ r c hg (Or.inl hc)
        · exact choose_own hb1.nodup hc

theorem finalizeOne_own {s s' : St} {fails : List (Nat × Nat)} {ra idx : Nat} (h : OwnN s)
    (e : finalizeOne s fails ra idx = some s') : OwnN s' := by
  obtain ⟨_, _, r, st, hg, _, _, rfl⟩ := finalizeOne_ok e
  have h1 : OwnN { s with seqH := s.seqH.filter (fun p => !(p.1 == st.creator && st.bds.any (·.height == p.2))) } :=
    h.of_eq rfl rfl
  exact h1.setRa_same hg rfl rfl rfl

theorem slashLiveness_own {s s1 : St} {r : Rollapp} (h : OwnN s) (e : slashLiveness s r = .ok s1) : OwnN s1 := by
  rcases slashLiveness_ok e with ⟨_, rfl⟩ | ⟨a, q, s2, q2, _, hq, hs, rfl⟩
  · exact h
  · have hm := Fork.slash_money hs
    exact (h.of_eq hm.ras hm.seqs).setSeq (q' := { q2 with dishonor := q2.dishonor + s2.sqp.dishonorL }) (q0 := q)
      (by show getSeq s2 q2.addr = some q; rw [getSeq_congr hm.seqs, hm.addr, getSeq_addr hq]; exact hq) hm.rollapp

theorem handleLivenessEvent_own {s : St} {ra : Nat} (h : OwnN s) : OwnN (handleLivenessEvent s ra) := by
  rcases handleLivenessEvent_shape s ra with hE | ⟨r, s1, hg, hs, hE⟩
  · rw [hE]; exact h
  · have h1 := slashLiveness_own h hs
    have hg1 : getRa s1 ra = some r := by rw [getRa_of_ras_eq (slashLiveness_same hs).1]; exact hg
    rw [hE]
    generalize nextSlashHeight s1.p.lsBlocks s1.p.lsInterval s1.h r.cdStart = n
    have key : ∀ X : St, X.ras = s1.ras → X.seqs = s1.seqs → OwnN (setRa X { r with evH := n }) := by
      intro X e1 e2
      exact (h1.of_eq e1 e2).setRa_same (r := r) (by rw [getRa_of_ras_eq e1]; exact hg1) rfl rfl rfl
    exact key _ rfl rfl

theorem endBlock_own {s : St} {f : List (Nat × Nat)} (h : OwnN s) : OwnN (endBlock s f) := by
  unfold endBlock checkLiveness
  apply foldl_inv OwnN
  · exact finalizeRollappStates_ind f h (fun _ _ _ _ h e => finalizeOne_own h e) (fun _ _ h => h.of_eq rfl rfl)
  · intro b e hb; exact handleLivenessEvent_own hb

theorem apply_own {s s' : St} {o : Op} (h : OwnN s) (e : apply s o = .ok s') : OwnN s' := by
  cases o with
  | createRollapp id owner mb =>
    obtain ⟨hnone, rfl⟩ := apply_createRollapp_ok e
    have hfresh := Fork.getRa_none hnone
    refine ⟨h.nodup, ?_⟩
    intro id' r a hg hp
    by_cases hc : (newRollapp id owner mb).id = id'
    · exfalso
      have hm := getRa_mem hg
      have hid := getRa_id hg
      rcases insertSorted_mem' _ _ _ _ hm with h1 | h1
      · subst h1; rcases hp with hp | hp <;> cases hp
      · exact hfresh r h1 (hid.trans hc.symm)
    · rw [getRa_insertSorted_ne hc] at hg
      exact h.own id' r a hg hp
  | bridge ra hh =>
    obtain ⟨r, _, hg, _, _, _, _, rfl⟩ := apply_bridge_ok e
    exact h.setRa_same hg rfl rfl rfl
  | fund a amt => simp only [apply] at e; injection e with e; subst e; exact h.of_eq rfl rfl
  | createSeq a ra b d =>
    obtain ⟨r, s1, q1, hg, hnone, _, _, _, hs, _, _, h2⟩ := createSeq_ok e
    have h0 : OwnN (if r.launched = true then s else setRa s { r with launched := true }) := by
      split
      · exact h
      · exact h.setRa_same hg rfl rfl rfl
    have hs0 : (if r.launched = true then s else setRa s { r with launched := true }).seqs = s.seqs := by
      split <;> rfl
    have hm := Fork.sendToModule_money hs
    have h1 : OwnN s1 := h0.of_eq hm.ras hm.seqs
    have hfresh1 : getSeq s1 q1.addr = none := by
      rw [getSeq_congr (hm.seqs.trans hs0), hm.addr]; exact hnone
    have h3 : OwnN (addSeq s1 q1) :=
      h1.mono (nodup_insert s1.seqs q1 h1.nodup (getSeq_none hfresh1)) rfl (rolMono_insert hfresh1)
    rcases h2 with ⟨_, rfl⟩ | ⟨_, e⟩
    · exact h3
    · exact recoverFromSentinel_own h3 e
  | bondInc a amt d =>
    obtain ⟨q, _, _, hq, _, _, hs, rfl⟩ := increaseBond_ok e
    exact h.setSeq_money (by rw [getSeq_addr hq]; exact hq) rfl (Fork.sendToModule_money hs)
  | bondDec a amt =>
    obtain ⟨q, _, _, hq, _, hs, rfl⟩ := decreaseBond_ok e
    exact h.setSeq_money (by rw [getSeq_addr hq]; exact hq) rfl (Fork.tryUnbond_money hs)
  | unbond a =>
    obtain ⟨q, _, hq, _, _, h2⟩ := unbond_ok e
    have hqq : getSeq s q.addr = some q := by rw [getSeq_addr hq]; exact hq
    rcases h2 with ⟨_, _, _, rfl⟩ | ⟨_, _, _, hs, rfl⟩
    · exact OwnN.setSeq (s := { s with nq := _ }) (q' := { q with optedIn := false, notice := some (s.t + s.sqp.noticePeriod) })
        (q0 := q) (h.of_eq rfl rfl) hqq rfl
    · exact h.setSeq_money (q := { q with optedIn := false }) hqq rfl (Fork.tryUnbond_money hs)
  | optIn a v =>
    obtain ⟨q, _, hq, _, _, h2⟩ := optIn_ok e
    have h1 : OwnN (setSeq s { q with optedIn := v }) :=
      h.setSeq (q' := { q with optedIn := v }) (q0 := q) (by show getSeq s q.addr = some q; rw [getSeq_addr hq]; exact hq) rfl
    rcases h2 with ⟨_, rfl⟩ | ⟨_, e⟩
    · exact h1
    · exact recoverFromSentinel_own h1 e
  | kick a =>
    obtain ⟨kicker, r, _, _, s3, hgk, _, _, _, _, _, _, _, h3, e⟩ := kick_ok e
    have c2 := abruptRemoveProposer_own (ra := r.id) h
    have c3 := hardForkToLatest_own c2.1 h3
    obtain ⟨q3, hq3, hr3⟩ := (c2.2.trans c3.2) a kicker hgk
    have c4 : OwnN (setSeq s3 { kicker with optedIn := true }) :=
      c3.1.setSeq (q' := { kicker with optedIn := true }) (q0 := q3)
        (by show getSeq s3 kicker.addr = some q3; rw [getSeq_addr hgk]; exact hq3) hr3.symm
    exact recoverFromSentinel_own c4 e
  | update m => exact updateState_own h e
  | fraud au ra hh rev p rw =>
    obtain ⟨_, _, _, s1, _, _, h5, h6⟩ := fraud_ok e
    refine (hardFork_own ?_ h6).1
    rcases h5 with ⟨_, rfl⟩ | ⟨a, _, h5⟩
    · exact h
    · exact punish_own h h5
  | obsolete au vs =>
    exact (markObsolete_ind e (fun _ => h.of_eq rfl rfl) (fun _ _ _ hb hf => (hardForkToLatest_own hb hf).1)).2.2
  | punish au a rw => exact punish_own h (punishProposal_ok e).2
  | transferOwner sg ra' no =>
    obtain ⟨r, hg, _, _, _, rfl⟩ := transferOwner_ok e
    exact h.setRa_same hg rfl rfl rfl
  | setSeqParams au sp =>
    obtain ⟨_, hnp, _, rfl⟩ := setSeqParams_ok e
    exact h.of_eq rfl rfl
  | begin_ dt => simp only [apply] at e; injection e with e; subst e; exact beginBlock_own h
  | end_ f => simp only [apply] at e; injection e with e; subst e; exact endBlock_own h

theorem run_own (p : Params) (ops : List Op) : OwnN (run p ops) := by
  unfold run
  apply foldl_inv OwnN
  · exact ⟨List.Pairwise.nil, by intro id r a hg; simp [getRa, init] at hg⟩
  · intro b o hb
    unfold step
    split
    · rename_i s' e; exact apply_own hb e
    · exact hb

/-- in a state satisfying `Own`, the proposer of a rollapp proposes for no other rollapp -/
theorem OwnN.uniq {s : St} (h : OwnN s) {ra : Nat} {r : Rollapp} {a : Addr} (hg : getRa s ra = some r)
    (hp : r.proposer = some a) : Uniq s a ra := by
  intro id r' hg' hp'
  obtain ⟨q, hq, hr⟩ := h.own ra r a hg (Or.inl hp)
  obtain ⟨q', hq', hr'⟩ := h.own id r' a hg' (Or.inl hp')
  rw [hq] at hq'; injection hq' with hq'; subst hq'
  exact hr'.symm.trans hr

theorem run_uniq (p : Params) (ops : List Op) {ra : Nat} {r : Rollapp} {a : Addr}
    (hg : getRa (run p ops) ra = some r) (hp : r.proposer = some a) : Uniq (run p ops) a ra :=
  (run_own p ops).uniq hg hp

end DymVerif.Core.LevNs
