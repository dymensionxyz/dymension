/-
  Lemmas/GenEqCore — tie 1 for M-Core (Model/Core.lean: x/rollapp + x/sequencer; properties C01 C02 C03
  C06 C07 C08 C11 C18).  `Gen/Core.lean` is regenerated from /repo's working tree by translate/core.go
  on every check; this file holds what the model was written against:

  * translations (`…_eq`): the comparisons, guard chains, arithmetic and field updates of the Go code
    that are simple enough to translate (Gen.Core.*) are EQUAL to the expressions the model uses — the
    model function is restated with the translated Go condition in place of its own and proved equal.
    Integers are `Nat` on both sides (the model's `% 2^64` wrap is handled under the explicit
    no-overflow hypothesis that `ValidateBasic` establishes); the zero `time.Time` is `0` and a block
    time `t` is `t + 1` (`encT`); `Sequencer.Status` is the protobuf enum value;
  * operand lists (`…_src_eq`): which Go expression every parameter of a translation stands for;
  * listings (`…_skeleton`): for every Go function the model mirrors step by step, the normalised
    statement listing (signature; every if / else / for / range / switch header, every call with its
    arguments, every assignment, every return with its error sentinel; logging, events, telemetry and
    error message texts removed; indentation = nesting).  A dropped guard, a reordered effect, a new
    early return, a changed operand, a statement moved into a branch: the lemma of that function fails.
-/
import DymVerif.Gen.Core
import DymVerif.Model.Core
import DymVerif.Lemmas.GenEqArith
namespace DymVerif.GenEq.Core
open DymVerif DymVerif.Core

/-! ### constants -/

theorem defaultDisputePeriodInBlocks_eq : Gen.Core.defaultDisputePeriodInBlocks = 3 := rfl
theorem minDisputePeriodInBlocks_eq : Gen.Core.minDisputePeriodInBlocks = 1 := rfl
theorem defaultLivenessSlashBlocks_eq : Gen.Core.defaultLivenessSlashBlocks = 7200 := rfl
theorem defaultLivenessSlashInterval_eq : Gen.Core.defaultLivenessSlashInterval = 600 := rfl
theorem defaultDishonorStateUpdate_eq : Gen.Core.defaultDishonorStateUpdate = 1 := rfl
theorem defaultDishonorLiveness_eq : Gen.Core.defaultDishonorLiveness = 300 := rfl
theorem defaultDishonorKickThreshold_eq : Gen.Core.defaultDishonorKickThreshold = 900 := rfl
theorem statusUnbonded_eq : Gen.Core.statusUnbonded = 0 := rfl
theorem statusBonded_eq : Gen.Core.statusBonded = 2 := rfl

/-! ### encodings used by the statements below -/

/-- the model's `Seq.bonded` as `Sequencer.Status` -/
def encStatus (b : Bool) : Nat := if b then Gen.Core.statusBonded else Gen.Core.statusUnbonded
/-- the model's `Seq.notice` as `Sequencer.NoticePeriodTime` (zero time = 0, block time t = t + 1) -/
def encNotice : Option Nat → Nat
  | none => 0
  | some t => t + 1
/-- a block time -/
def encT (t : Nat) : Nat := t + 1

/-- error class of the `MsgUpdateState` sentinels (as the correspondence run classifies them) -/
def updErr (s : String) : Err :=
  if s = "ErrInvalidNumBlocks" then .badBlocks
  else if s = "ErrWrongBlockHeight" then .wrongHeight
  else if s = "ErrInvalidBlockSequence" then .badSequence
  else if s = "ErrInvalidStateRoot" then .badRoot
  else if s = "ErrInvalidBlockDescriptorTimestamp" then .noTimestamp
  else .internal

/-- `if decide p then a else b` is `if p then a else b` (same decidability instance) -/
theorem ite_dec {α : Sort _} (p : Prop) [Decidable p] (a b : α) :
    (if decide p = true then a else b) = if p then a else b := by
  by_cases h : p <;> simp [h]

/-- Go writes `a == b` / `a != b` with the message's value first, the model with the stored one first -/
theorem decide_eq_comm {α} [DecidableEq α] [BEq α] [LawfulBEq α] (a b : α) :
    decide (a = b) = (b == a) := by
  rw [Bool.eq_iff_iff, decide_eq_true_eq, beq_iff_eq, eq_comm]

theorem decide_ne_comm {α} [DecidableEq α] [BEq α] [LawfulBEq α] (a b : α) :
    decide (a ≠ b) = (b != a) := by
  rw [Bool.eq_iff_iff, decide_eq_true_eq, bne_iff_ne, ne_comm]

/-! ### x/rollapp/types: state info -/

/-- `StateInfo.GetLatestHeight` = `SInfo.last` -/
theorem getLatestHeight_eq (s : SInfo) : Gen.Core.getLatestHeight s.start s.num = s.last := by
  simp [Gen.Core.getLatestHeight, SInfo.last]

/-- `StateInfo.ContainsHeight` = `SInfo.contains` -/
theorem containsHeight_eq (s : SInfo) (h : Nat) : Gen.Core.containsHeight s.start h s.num = s.contains h := by
  unfold Gen.Core.containsHeight SInfo.contains
  rw [getLatestHeight_eq]

/-- `StateInfo.NextSequencerForHeight`: the creator except at the last height (the shape `LC.nextSeqFor` uses) -/
theorem nextSequencerForHeight_eq (s : SInfo) (h : Nat) :
    Gen.Core.nextSequencerForHeight h s.start s.num (NextP.addr s.creator) s.next
      = if h != s.last then NextP.addr s.creator else s.next := by
  unfold Gen.Core.nextSequencerForHeight
  rw [getLatestHeight_eq]
  by_cases e : h = s.last <;> simp [e]

/-! ### `MsgUpdateState.ValidateBasic` -/

/-- the ordered checks before the loop are the model's, with the model's error classes -/
theorem updValidateBasic_eq (m : UpdMsg) :
    updValidateBasic m =
      match Gen.Core.updateStateValidateBasic false m.num m.start m.bds.length with
      | some e => .error (updErr e)
      | none => validateBDs m.start 0 m.bds := by
  unfold updValidateBasic Gen.Core.updateStateValidateBasic
  by_cases h1 : m.num = 0
  · simp [h1, updErr]
  · by_cases h2 : m.num > 2 ^ 64 - 1 - m.start
    · have h2' : m.num > 18446744073709551615 - m.start := by simpa using h2
      simp [h1, h2, updErr]
    · have h2' : ¬ m.num > 18446744073709551615 - m.start := by simpa using h2
      by_cases h3 : m.bds.length = m.num
      · by_cases h4 : m.start = 0
        · have h5 : ¬ 18446744073709551615 < m.num := by simpa [h4] using h2'
          simp [h1, h3, h4, h5, updErr]
        · simp [h1, h2, h3, h4]
      · simp [h1, h2, h3, updErr]

/-- one iteration of the loop: the Go operands do not wrap (`start + i < 2^64`, which the checks
    before the loop establish for every index below `NumBlocks`) -/
theorem validateBDs_step (start i len : Nat) (b : BD) (bs : List BD)
    (hno : start + i < 2 ^ 64) (hl : len = 32 ↔ b.rootOk = true) :
    validateBDs start i (b :: bs) =
      match Gen.Core.updateStateValidateBD b.height start i len with
      | some e => .error (updErr e)
      | none => validateBDs start (i + 1) bs := by
  unfold Gen.Core.updateStateValidateBD
  rw [validateBDs, Nat.mod_eq_of_lt hno]
  by_cases h1 : b.height = start + i
  · by_cases h2 : b.rootOk = true
    · have : len = 32 := hl.mpr h2
      simp [h1, h2, this]
    · have : ¬ len = 32 := fun e => h2 (hl.mp e)
      simp [h1, h2, this, updErr]
  · simp [h1, updErr]

example : validateBDs 5 0 [⟨5, true, 0, true⟩] = .ok () := by rfl
example : validateBDs 5 0 [⟨6, true, 0, true⟩] = .error .badSequence := by rfl

theorem updateStateValidateBD_header_eq :
    Gen.Core.updateStateValidateBD_header = "for bdIndex := uint64(0); bdIndex < msg.NumBlocks; bdIndex += 1" := rfl

/-- `BlockDescriptor.Validate`: a zero timestamp is the only failure (`BD.hasTs`) -/
theorem blockDescriptorValidate_eq (b : BD) :
    Gen.Core.blockDescriptorValidate (if b.hasTs then 1 else 0) =
      if b.hasTs then none else some "ErrInvalidBlockDescriptorTimestamp" := by
  unfold Gen.Core.blockDescriptorValidate
  cases b.hasTs <;> simp

/-- `MsgMarkObsoleteRollapps.ValidateBasic`: an empty version list is refused (`markObsolete`) -/
theorem markObsoleteValidateBasic_eq (vs : List Nat) :
    (Gen.Core.markObsoleteValidateBasic false vs.length).isSome = vs.isEmpty := by
  unfold Gen.Core.markObsoleteValidateBasic
  cases vs <;> simp

/-! ### `msgServer.UpdateState` -/

/-- revision check of `updateState` -/
theorem updWrongRevision_eq (r : Rollapp) (m : UpdMsg) :
    Gen.Core.updWrongRevision (latestRev r) m.rev = (latestRev r != m.rev) := by
  unfold Gen.Core.updWrongRevision
  by_cases e : latestRev r = m.rev <;> simp [e]

theorem updExpectedStartHeight_eq (l : SInfo) : Gen.Core.updExpectedStartHeight l.start l.num = l.start + l.num := rfl

/-- `updPre` with the translated start-height comparison -/
theorem updPre_eq (r : Rollapp) (m : UpdMsg) :
    updPre r m =
      match r.states.getLast? with
      | some l =>
        if ((l.bds.getLast?.map (·.hasTs)).getD false) && !(m.bds.all (·.hasTs)) then .error .noTimestamp
        else if Gen.Core.updWrongHeight l.start l.num m.start then .error .wrongHeight
        else .ok ()
      | none => if !(m.bds.all (·.hasTs)) then .error .noTimestamp else .ok () := by
  unfold updPre Gen.Core.updWrongHeight
  cases r.states.getLast? with
  | none => rfl
  | some l => simp only [ite_dec]

/-- the new state index is the successor of the latest one (`r.states.length + 1` in `updateState`) -/
theorem updNewIndex_eq (r : Rollapp) : Gen.Core.updNewIndex r.states.length = r.states.length + 1 := rfl

/-- `AfterUpdateState`: "last block" = the recorded next proposer differs from the creator -/
theorem afterUpdateIsLast_eq (r : Rollapp) (m : UpdMsg) :
    Gen.Core.afterUpdateIsLast (NextP.addr m.sender) (updSucc r m) = (updSucc r m != NextP.addr m.sender) :=
  decide_ne_comm _ _

/-- `BeforeUpdateState` guards of `updateState` -/
theorem beforeUpdateNotProposer_eq (r : Rollapp) (m : UpdMsg) :
    Gen.Core.beforeUpdateNotProposer (some m.sender) r.proposer = (r.proposer != some m.sender) :=
  decide_ne_comm _ _

theorem beforeUpdateBadLast_eq (s : St) (r : Rollapp) (m : UpdMsg) :
    Gen.Core.beforeUpdateBadLast m.last (awaitingLast s r) = (m.last && !awaitingLast s r) := rfl

/-! ### hard fork -/

/-- `ForkAllowed` is the guard of `hardFork` -/
theorem forkAllowed_eq (r : Rollapp) (lastValid : Nat) :
    Gen.Core.forkAllowed r.tph lastValid = (0 < r.tph && r.tph ≤ lastValid) := rfl

/-- `hardFork` restated with the translated guard and revert height (no wrap: `lastValid + 1 < 2^64`) -/
theorem hardFork_eq (s : St) (ra lastValid : Nat) (hno : lastValid + 1 < 2 ^ 64) :
    hardFork s ra lastValid =
      match getRa s ra with
      | none => .error .unknownRollapp
      | some r =>
        if !Gen.Core.forkAllowed r.tph lastValid then .error .forkNotAllowed else
        match revertPlan r (Gen.Core.hardForkRevertHeight lastValid) with
        | .error e => .error e
        | .ok (keep, kst) =>
          let creators := kst.creator :: (r.states.drop keep).map (·.creator)
          let s1 := { s with queue := removeIdxAbove s.queue ra keep, seqH := pruneSeqHeights s.seqH creators kst.last }
          let x := resetClock s1 (forkedRollapp r keep kst)
          .ok (seqOnHardFork (setRa x.1 x.2) ra) := by
  have h0 : ¬ lastValid + 1 = 0 := by omega
  unfold hardFork
  cases getRa s ra with
  | none => rfl
  | some r =>
    simp only [Nat.mod_eq_of_lt hno, if_neg h0]
    rfl

example : (3 : Nat) + 1 < 2 ^ 64 := by decide

/-- the new revision starts right after the kept state (`forkedRollapp`) -/
theorem hardForkNewRevisionHeight_eq (kst : SInfo) : Gen.Core.hardForkNewRevisionHeight kst.last = kst.last + 1 := rfl

/-- a fraud proposal at height `h` forks to `h - 1` (`fraud`) -/
theorem fraudLastValidHeight_eq (h : Nat) : Gen.Core.fraudLastValidHeight h = h - 1 := rfl

/-- `RevertPendingStates` + `UpdateLastStateInfo`: the model's decision with the translated conditions
    (below the start: internal error; at the start: keep the previous state; inside: truncate) -/
theorem revertPlan_eq (r : Rollapp) (newRevH : Nat) :
    revertPlan r newRevH =
      (let found : M Nat :=
        match findByHeight r newRevH with
        | some i =>
          match r.states[i - 1]? with
          | some st => if st.finalized then .error .finalizedHeight else .ok i
          | none => .error .internal
        | none => if r.states.isEmpty then .error .noState else .ok r.states.length
      match found with
      | .error e => .error e
      | .ok i =>
        match r.states[i - 1]? with
        | none => .error .internal
        | some st =>
          bif Gen.Core.ulsiBelowStart newRevH st.start then .error .internal else
          bif Gen.Core.ulsiAtStart st.start newRevH then
            match (if i ≤ 1 then none else r.states[i - 2]?) with
            | none => .error .noState
            | some prev => .ok (i - 1, { prev with next := NextP.empty })
          else bif Gen.Core.ulsiTruncate st.start st.num newRevH then
            .ok (i, { st with num := newRevH - st.start, bds := st.bds.take (newRevH - st.start), next := NextP.empty })
          else .ok (i, { st with next := NextP.empty })) := by
  unfold revertPlan
  simp only [Gen.Core.ulsiBelowStart, Gen.Core.ulsiAtStart, Gen.Core.ulsiTruncate, getLatestHeight_eq, cond_eq_ite, ite_dec, ge_iff_le]
  rfl

/-- the finalization-queue pruning keeps the indices `≤ keep` -/
theorem removeIdxAbove_eq (q : List QEntry) (ra keep : Nat) :
    removeIdxAbove q ra keep =
      (q.map (fun e => if e.ra == ra then { e with idx := e.idx.filter (fun i => Gen.Core.pruneKeepIndex i keep) } else e)).filter
        (fun e => !(e.ra == ra && e.idx.isEmpty)) := rfl

/-- `Rollapp.GetRevisionForHeight`: the newest revision whose start height is `≤ h` -/
theorem revForHeight_eq (r : Rollapp) (h : Nat) :
    revForHeight r h =
      match (r.revs.reverse.find? (fun x => Gen.Core.revisionForHeightCond x.2 h)) with
      | some x => x.1
      | none => 0 := rfl

/-- one step of the binary search of `FindStateInfoByHeight` -/
theorem findByHeightAux_step (states : List SInfo) (h fuel lo hi : Nat) :
    findByHeightAux states h (fuel + 1) lo hi =
      if lo ≤ hi then
        match states[Gen.Core.fsbhMid lo hi - 1]? with
        | none => none
        | some st =>
          bif Gen.Core.containsHeight st.start h st.num then some (Gen.Core.fsbhMid lo hi)
          else bif Gen.Core.fsbhGoLeft h st.start then findByHeightAux states h fuel lo (Gen.Core.fsbhMid lo hi - 1)
          else findByHeightAux states h fuel (Gen.Core.fsbhMid lo hi + 1) hi
      else none := by
  rw [findByHeightAux]
  simp only [Gen.Core.fsbhMid, Gen.Core.fsbhGoLeft, containsHeight_eq, cond_eq_ite, ite_dec]
  rfl

/-- the guards of `FindStateInfoByHeight` -/
theorem findByHeight_eq (r : Rollapp) (h : Nat) :
    findByHeight r h =
      if Gen.Core.fsbhZero h then none else
      match r.states.getLast? with
      | none => none
      | some l => if Gen.Core.fsbhBeyond true h l.last then none
                  else findByHeightAux r.states h (r.states.length + 1) 1 r.states.length := by
  unfold findByHeight
  delta Gen.Core.fsbhZero Gen.Core.fsbhBeyond
  simp only [ite_dec, Bool.not_true, Bool.false_or, gt_iff_lt]
  rfl

/-! ### finalization -/

/-- `FinalizeRollappStates`: nothing before the dispute period has passed; then every queue entry
    created at or before `height - disputePeriod` -/
theorem finalizeRollappStates_eq (s : St) (fails : List (Nat × Nat)) :
    finalizeRollappStates s fails =
      if Gen.Core.finalizeTooEarly s.h s.p.dispute then s else
      finalizeAll s fails (s.queue.filter (fun e => e.ch ≤ Gen.Core.finalizationHeight s.h s.p.dispute)) [] := by
  unfold finalizeRollappStates
  delta Gen.Core.finalizeTooEarly Gen.Core.finalizationHeight
  simp only [ite_dec]

/-! ### liveness -/

/-- `ResetLivenessClock`: the event height is cleared, the countdown restarts at the current height -/
theorem resetClock_eq (s : St) (r : Rollapp) :
    resetClock s r =
      ({ s with lev := delEvent s.lev r.evH r.id },
       { r with evH := Gen.Core.resetClockEventHeight, cdStart := Gen.Core.resetClockCountdownStart s.h }) := rfl

/-- `ScheduleLivenessEvent`: `NextSlashHeight(params.LivenessSlashBlocks, params.LivenessSlashInterval,
    ctx.BlockHeight(), ra.LivenessCountdownStartHeight)` — the argument order is the model's -/
theorem scheduleEvent_eq (s : St) (r : Rollapp) :
    scheduleEvent s r =
      ({ s with lev := insertSorted ltPair (Gen.Core.scheduleNextH s.p.lsBlocks s.p.lsInterval s.h r.cdStart, r.id) s.lev },
       { r with evH := Gen.Core.scheduleNextH s.p.lsBlocks s.p.lsInterval s.h r.cdStart }) := by
  unfold scheduleEvent Gen.Core.scheduleNextH
  rw [GenEq.nextSlashHeight_eq]

/-! ### x/sequencer/types: predicates -/

theorem seqBonded_eq (b : Bool) : Gen.Core.seqBonded (encStatus b) = b := by
  cases b <;> rfl

theorem seqIsPotentialProposer_eq (q : Seq) :
    Gen.Core.seqIsPotentialProposer (encStatus q.bonded) q.optedIn = (q.bonded && q.optedIn) := by
  unfold Gen.Core.seqIsPotentialProposer
  rw [seqBonded_eq]

/-- the sentinel is the model's `none` proposer -/
theorem seqSentinel_eq (p : Option Addr) : Gen.Core.seqSentinel p none = p.isNone := by
  cases p <;> simp [Gen.Core.seqSentinel]

theorem seqNoticeStarted_eq (q : Seq) : Gen.Core.seqNoticeStarted (encNotice q.notice) = q.notice.isSome := by
  cases h : q.notice <;> simp [Gen.Core.seqNoticeStarted, encNotice]

/-- `NoticeElapsed(now)`: started ∧ ¬ now.Before(noticePeriodTime) = the model's `t ≤ now` -/
theorem seqNoticeElapsed_eq (q : Seq) (now : Nat) :
    Gen.Core.seqNoticeElapsed (encNotice q.notice) (encT now) = noticeElapsed q now := by
  unfold Gen.Core.seqNoticeElapsed Gen.Core.seqNoticeStarted noticeElapsed encT
  cases q.notice with
  | none => rfl
  | some t =>
    simp [encNotice]
    simp only [← Nat.not_le, decide_not]

/-- `NoticeInProgress(now)`: started ∧ ¬ elapsed = the model's `now < t` -/
theorem seqNoticeInProgress_eq (q : Seq) (now : Nat) :
    Gen.Core.seqNoticeInProgress (encNotice q.notice) (encT now) = noticeInProgress q now := by
  unfold Gen.Core.seqNoticeInProgress
  rw [seqNoticeElapsed_eq]
  unfold Gen.Core.seqNoticeStarted noticeElapsed noticeInProgress
  cases q.notice with
  | none => rfl
  | some t =>
    simp [encNotice]
    simp only [← Nat.not_lt, decide_not]

/-- `StartNoticePeriod`: the notice ends at block time + `NoticePeriod` (`unbond`) -/
theorem noticePeriodEnd_eq (s : St) :
    Gen.Core.noticePeriodEnd (encT s.t) s.sqp.noticePeriod = encNotice (some (s.t + s.sqp.noticePeriod)) := by
  simp [Gen.Core.noticePeriodEnd, encT, encNotice]; omega

/-! ### x/sequencer/keeper: bonds -/

theorem isProposer_eq (s : St) (q : Seq) (r : Rollapp) (h : getRa s q.rollapp = some r) :
    Gen.Core.isProposer (some q.addr) r.proposer = isProposer s q := by
  unfold isProposer
  rw [h]
  exact decide_eq_comm _ _

theorem isSuccessor_eq (s : St) (q : Seq) (r : Rollapp) (h : getRa s q.rollapp = some r) :
    Gen.Core.isSuccessor (some q.addr) r.successor = isSuccessor s q := by
  unfold isSuccessor
  rw [h]
  exact decide_eq_comm _ _

example : ∃ (s : St) (q : Seq) (r : Rollapp), getRa s q.rollapp = some r :=
  ⟨{ (default : St) with ras := [default] }, default, default, by rfl⟩

/-- `TryUnbond` with the translated conditions: role check, the min-bond check of a partial unbond
    (`isPartial := !amt.IsEqual(bond)`, `maxReduction := bond - minBond` possibly negative,
    refused when `maxReduction < amt`), unbonded when no tokens are left -/
theorem tryUnbond_eq (s : St) (q : Seq) (amt : Nat) :
    tryUnbond s q amt =
      if Gen.Core.tryUnbondIsRole (isProposer s q) (isSuccessor s q) then .error .proposerOrSuccessor else
      if s.seqH.any (·.1 == q.addr) then .error .unbondNotAllowed else
      match getRa s q.rollapp with
      | none => .error .panic
      | some r =>
        if Gen.Core.tryUnbondRefused amt q.tokens r.minBond then .error .unbondNotAllowed else
        match sendFromModule s q amt q.addr with
        | .error e => .error e
        | .ok (s1, q1) => .ok (s1, if Gen.Core.tryUnbondBecomesUnbonded q1.tokens then { q1 with bonded := false } else q1) := by
  unfold tryUnbond
  delta Gen.Core.tryUnbondIsRole Gen.Core.tryUnbondRefused Gen.Core.tryUnbondBecomesUnbonded
  simp only [ite_dec]
  rfl

/-- `sufficientBond` (CreateSequencer): denom first, then `bond < minBond` -/
theorem sufficientBond_eq (denomOk : Bool) (bond minBond : Nat) :
    Gen.Core.sufficientBond (!denomOk) minBond bond =
      if !denomOk then some "err" else if bond < minBond then some "types.ErrInsufficientBond" else none := by
  delta Gen.Core.sufficientBond
  simp only [ite_dec]

theorem unbondRotationGuard_eq (s : St) (q : Seq) (r : Rollapp) :
    Gen.Core.unbondRotationGuard (awaitingLast s r) (isProposer s q) (isSuccessor s q) =
      (awaitingLast s r && (isProposer s q || isSuccessor s q)) := rfl

/-! ### x/sequencer/keeper: kick, slash, dishonor -/

/-- `Kickable`: a real proposer whose dishonor reached the threshold (`kick`) -/
theorem kickable_eq (thr d : Nat) (pa : Addr) : Gen.Core.kickable thr (some pa) none d = decide (thr ≤ d) := by
  simp [Gen.Core.kickable, Gen.Core.seqSentinel]

theorem kickable_sentinel (thr d : Nat) : Gen.Core.kickable thr (none : Option Addr) none d = false := by
  simp [Gen.Core.kickable, Gen.Core.seqSentinel]

theorem kickNotPotential_eq (q : Seq) :
    Gen.Core.kickNotPotential (encStatus q.bonded) q.optedIn = !(q.bonded && q.optedIn) := by
  unfold Gen.Core.kickNotPotential
  rw [seqIsPotentialProposer_eq]

theorem kickSelf_eq (a pa : Addr) : Gen.Core.kickSelf a pa = decide (a = pa) := rfl

/-- the liveness slash amount: min(tokens, max(abs, tokens · mul truncated)) -/
theorem livenessSlashAmt_eq (p : Params) (q : Seq) :
    Gen.Core.livenessSlashAmt q.tokens p.lsAbs p.lsMul =
      min q.tokens (max p.lsAbs ((p.lsMul.mulInt q.tokens).truncateInt).toNat) := rfl

theorem livenessDishonor_eq (p : Params) (d : Nat) : Gen.Core.livenessDishonor p.dishonorL d = d + p.dishonorL := rfl

/-- `SlashLiveness` with the translated amount and dishonor update -/
theorem slashLiveness_eq (s : St) (r : Rollapp) :
    slashLiveness s r =
      match r.proposer with
      | none => .ok s
      | some a =>
        match getSeq s a with
        | none => .ok s
        | some q =>
          match slash s q (Gen.Core.livenessSlashAmt q.tokens s.sqp.lsAbs s.sqp.lsMul) ⟨0⟩ none with
          | .error e => .error e
          | .ok (s1, q1) => .ok (setSeq s1 { q1 with dishonor := Gen.Core.livenessDishonor s1.sqp.dishonorL q1.dishonor }) := rfl

/-- `livenessHonor`: the dishonor decreases by min(DishonorStateUpdate, dishonor) (`seqAfterUpdate`) -/
theorem livenessHonor_eq (p : Params) (d : Nat) : Gen.Core.livenessHonor p.dishonorSU d = d - min p.dishonorSU d := rfl

theorem seqAfterUpdate_eq (s : St) (m : UpdMsg) (isLast : Bool) :
    seqAfterUpdate s m isLast =
      match getSeq s m.sender with
      | none => .error .internal
      | some prop =>
        let prop1 := { prop with dishonor := Gen.Core.livenessHonor s.sqp.dishonorSU prop.dishonor }
        if isLast then onProposerLastBlock (setSeq s prop1) prop1 else .ok (setSeq s prop1) := rfl

/-- `slash`: the reward is the truncated product, the remainder is burned -/
theorem slash_eq (s : St) (q : Seq) (amt : Nat) (rewardMul : Dec) (rewardee : Option Addr) :
    slash s q amt rewardMul rewardee =
      (let r1 : M (St × Seq) :=
        if Gen.Core.slashReward rewardMul amt = 0 then .ok (s, q) else
          match rewardee with
          | some to => sendFromModule s q (Gen.Core.slashReward rewardMul amt) to
          | none => .error .panic
      match r1 with
      | .error e => .error e
      | .ok (s1, q1) => burn s1 q1 (Gen.Core.slashRemainder amt rewardMul)) := rfl

/-- `PunishSequencer`: half of the slashed bond goes to the rewardee when there is one -/
theorem punishRewardMul_eq : Gen.Core.punishRewardMul = (⟨500000000000000000⟩ : Dec) := rfl


theorem noticePeriodEnd_raw (s : St) : Gen.Core.noticePeriodEnd s.t s.sqp.noticePeriod = s.t + s.sqp.noticePeriod := rfl

/-- `ForkLatestAllowed` = `ForkAllowed` at the latest height -/
theorem forkLatestAllowed_eq (r : Rollapp) :
    forkLatestAllowed r =
      match latestHeight r with
      | none => false
      | some lh => Gen.Core.forkAllowed r.tph lh := rfl

/-- `punish` with the translated reward multiplier -/
theorem punish_eq (s : St) (a : Addr) (rewardee : Option Addr) :
    punish s a rewardee =
      match getSeq s a with
      | none => .error .unknownSeq
      | some q =>
        let mul : Dec := match rewardee with | some _ => Gen.Core.punishRewardMul | none => ⟨0⟩
        match slash s q q.tokens mul rewardee with
        | .error e => .error e
        | .ok (s1, q1) => .ok (setSeq s1 q1) := rfl

/-- `fraud` forks to the height before the fraud height -/
theorem fraud_eq (s : St) (authOk : Bool) (ra h rev : Nat) (pun rewardee : Option Addr) :
    fraud s authOk ra h rev pun rewardee =
      if !authOk then .error .unauthorized else
      if h = 0 then .error .invalid else
      match getRa s ra with
      | none => .error .unknownRollapp
      | some r =>
        if revForHeight r h ≠ rev then .error .wrongRevision else
        let s1m : M St := match pun with
          | some a => punish s a rewardee
          | none => .ok s
        match s1m with
        | .error e => .error e
        | .ok s1 => hardFork s1 ra (Gen.Core.fraudLastValidHeight h) := rfl

/-! ### operand lists -/
theorem getLatestHeight_src_eq : Gen.Core.getLatestHeight_src =
  ["startHeight := s.StartHeight",
   "numBlocks := s.NumBlocks"] := rfl

theorem containsHeight_src_eq : Gen.Core.containsHeight_src =
  ["startHeight := s.StartHeight",
   "height := height",
   "numBlocks := s.NumBlocks"] := rfl

theorem nextSequencerForHeight_src_eq : Gen.Core.nextSequencerForHeight_src =
  ["height := height",
   "startHeight := s.StartHeight",
   "numBlocks := s.NumBlocks",
   "sequencer := s.Sequencer",
   "nextProposer := s.NextProposer"] := rfl

theorem updateStateValidateBasic_src_eq : Gen.Core.updateStateValidateBasic_src =
  ["errAccAddressFromBech32 := sdk.AccAddressFromBech32(msg.Creator) fails",
   "numBlocks := msg.NumBlocks",
   "startHeight := msg.StartHeight",
   "lenBDsBD := len(msg.BDs.BD)"] := rfl

theorem updateStateValidateBD_src_eq : Gen.Core.updateStateValidateBD_src =
  ["bDsBDAtHeight := msg.BDs.BD[bdIndex].Height",
   "startHeight := msg.StartHeight",
   "bdIndex := bdIndex",
   "lenBDsBDAtStateRoot := len(msg.BDs.BD[bdIndex].StateRoot)"] := rfl

theorem blockDescriptorValidate_src_eq : Gen.Core.blockDescriptorValidate_src =
  ["timestamp := bd.Timestamp"] := rfl

theorem markObsoleteValidateBasic_src_eq : Gen.Core.markObsoleteValidateBasic_src =
  ["errAccAddressFromBech32 := sdk.AccAddressFromBech32(m.Authority) fails",
   "lenDrsVersions := len(m.DrsVersions)"] := rfl

theorem revisionForHeightCond_src_eq : Gen.Core.revisionForHeightCond_src =
  ["revisionsAtStartHeight := r.Revisions[i].StartHeight",
   "h := h"] := rfl

theorem updWrongRevision_src_eq : Gen.Core.updWrongRevision_src =
  ["rollappLatestRevisionNumber := rollapp.LatestRevision().Number",
   "msgRollappRevision := msg.RollappRevision"] := rfl

theorem updExpectedStartHeight_src_eq : Gen.Core.updExpectedStartHeight_src =
  ["stateInfoStartHeight := stateInfo.StartHeight",
   "stateInfoNumBlocks := stateInfo.NumBlocks"] := rfl

theorem updWrongHeight_src_eq : Gen.Core.updWrongHeight_src =
  ["stateInfoStartHeight := stateInfo.StartHeight",
   "stateInfoNumBlocks := stateInfo.NumBlocks",
   "msgStartHeight := msg.StartHeight"] := rfl

theorem updNewIndex_src_eq : Gen.Core.updNewIndex_src =
  ["latestStateInfoIndexIndex := latestStateInfoIndex.Index"] := rfl

theorem forkAllowed_src_eq : Gen.Core.forkAllowed_src =
  ["raGenesisStateTransferProofHeight := ra.GenesisState.TransferProofHeight",
   "lastValidHeight := lastValidHeight"] := rfl

theorem hardForkNewRevisionHeight_src_eq : Gen.Core.hardForkNewRevisionHeight_src =
  ["lastValidHeight := lastValidHeight"] := rfl

theorem hardForkRevertHeight_src_eq : Gen.Core.hardForkRevertHeight_src =
  ["lastValidHeight := lastValidHeight"] := rfl

theorem fraudLastValidHeight_src_eq : Gen.Core.fraudLastValidHeight_src =
  ["msgFraudHeight := msg.FraudHeight"] := rfl

theorem ulsiBelowStart_src_eq : Gen.Core.ulsiBelowStart_src =
  ["fraudHeight := fraudHeight",
   "stateInfoStartHeight := stateInfo.StartHeight"] := rfl

theorem ulsiAtStart_src_eq : Gen.Core.ulsiAtStart_src =
  ["stateInfoStartHeight := stateInfo.StartHeight",
   "fraudHeight := fraudHeight"] := rfl

theorem ulsiTruncate_src_eq : Gen.Core.ulsiTruncate_src =
  ["stateInfoStartHeight := stateInfo.StartHeight",
   "stateInfoNumBlocks := stateInfo.NumBlocks",
   "fraudHeight := fraudHeight"] := rfl

theorem pruneKeepIndex_src_eq : Gen.Core.pruneKeepIndex_src =
  ["stateInfoIndexIndex := stateInfoIndex.Index",
   "lastStateIdxToKeep := lastStateIdxToKeep"] := rfl

theorem fsbhZero_src_eq : Gen.Core.fsbhZero_src =
  ["height := height"] := rfl

theorem fsbhBeyond_src_eq : Gen.Core.fsbhBeyond_src =
  ["found := found",
   "height := height",
   "ssGetLatestHeight := ss.GetLatestHeight()"] := rfl

theorem fsbhMid_src_eq : Gen.Core.fsbhMid_src =
  ["startInfoIndex := startInfoIndex",
   "endInfoIndex := endInfoIndex"] := rfl

theorem fsbhGoLeft_src_eq : Gen.Core.fsbhGoLeft_src =
  ["height := height",
   "stateGetStartHeight := state.GetStartHeight()"] := rfl

theorem finalizeTooEarly_src_eq : Gen.Core.finalizeTooEarly_src =
  ["blockHeight := ctx.BlockHeight()",
   "disputePeriodInBlocks := k.DisputePeriodInBlocks(ctx)"] := rfl

theorem finalizationHeight_src_eq : Gen.Core.finalizationHeight_src =
  ["blockHeight := ctx.BlockHeight()",
   "disputePeriodInBlocks := k.DisputePeriodInBlocks(ctx)"] := rfl

theorem resetClockEventHeight_src_eq : Gen.Core.resetClockEventHeight_src =
  [] := rfl

theorem resetClockCountdownStart_src_eq : Gen.Core.resetClockCountdownStart_src =
  ["blockHeight := ctx.BlockHeight()"] := rfl

theorem scheduleNextH_src_eq : Gen.Core.scheduleNextH_src =
  ["paramsLivenessSlashBlocks := params.LivenessSlashBlocks",
   "paramsLivenessSlashInterval := params.LivenessSlashInterval",
   "blockHeight := ctx.BlockHeight()",
   "raLivenessCountdownStartHeight := ra.LivenessCountdownStartHeight"] := rfl

theorem seqSentinel_src_eq : Gen.Core.seqSentinel_src =
  ["address := seq.Address",
   "sentinelSeqAddr := SentinelSeqAddr"] := rfl

theorem seqBonded_src_eq : Gen.Core.seqBonded_src =
  ["status := seq.Status"] := rfl

theorem seqIsPotentialProposer_src_eq : Gen.Core.seqIsPotentialProposer_src =
  ["status := seq.Status",
   "optedIn := seq.OptedIn"] := rfl

theorem seqNoticeStarted_src_eq : Gen.Core.seqNoticeStarted_src =
  ["noticePeriodTime := seq.NoticePeriodTime"] := rfl

theorem seqNoticeElapsed_src_eq : Gen.Core.seqNoticeElapsed_src =
  ["noticePeriodTime := seq.NoticePeriodTime",
   "now := now"] := rfl

theorem seqNoticeInProgress_src_eq : Gen.Core.seqNoticeInProgress_src =
  ["noticePeriodTime := seq.NoticePeriodTime",
   "now := now"] := rfl

theorem tryUnbondIsRole_src_eq : Gen.Core.tryUnbondIsRole_src =
  ["isProposer := k.IsProposer(ctx, *seq)",
   "isSuccessor := k.IsSuccessor(ctx, *seq)"] := rfl

theorem tryUnbondRefused_src_eq : Gen.Core.tryUnbondRefused_src =
  ["amt := amt",
   "seqTokensCoin := seq.TokensCoin()",
   "rollappKeeperMinBond := k.rollappKeeper.MinBond(ctx, seq.RollappId)"] := rfl

theorem tryUnbondBecomesUnbonded_src_eq : Gen.Core.tryUnbondBecomesUnbonded_src =
  ["seqTokens := seq.Tokens"] := rfl

theorem validBondDenom_src_eq : Gen.Core.validBondDenom_src =
  ["cDenom := c.Denom",
   "commontypesDYMCoinDenom := commontypes.DYMCoin.Denom"] := rfl

theorem sufficientBond_src_eq : Gen.Core.sufficientBond_src =
  ["errValidBondDenom := validBondDenom(c) fails",
   "rollappKeeperMinBond := k.rollappKeeper.MinBond(ctx, rollapp)",
   "c := c"] := rfl

theorem kickable_src_eq : Gen.Core.kickable_src =
  ["getParamsDishonorKickThreshold := k.GetParams(ctx).DishonorKickThreshold",
   "proposerAddress := proposer.Address",
   "sentinelSeqAddr := SentinelSeqAddr",
   "proposerDishonor := proposer.Dishonor"] := rfl

theorem livenessSlashAmt_src_eq : Gen.Core.livenessSlashAmt_src =
  ["seqTokensCoin := seq.TokensCoin()",
   "getParamsLivenessSlashMinAbsolute := k.GetParams(ctx).LivenessSlashMinAbsolute",
   "getParamsLivenessSlashMinMultiplier := k.GetParams(ctx).LivenessSlashMinMultiplier"] := rfl

theorem livenessHonor_src_eq : Gen.Core.livenessHonor_src =
  ["getParamsDishonorStateUpdate := k.GetParams(ctx).DishonorStateUpdate",
   "seqDishonor := seq.Dishonor"] := rfl

theorem livenessDishonor_src_eq : Gen.Core.livenessDishonor_src =
  ["getParamsDishonorLiveness := k.GetParams(ctx).DishonorLiveness",
   "seqDishonor := seq.Dishonor"] := rfl

theorem slashReward_src_eq : Gen.Core.slashReward_src =
  ["rewardMul := rewardMul",
   "amt := amt"] := rfl

theorem slashRemainder_src_eq : Gen.Core.slashRemainder_src =
  ["amt := amt",
   "rewardMul := rewardMul"] := rfl

theorem punishRewardMul_src_eq : Gen.Core.punishRewardMul_src =
  [] := rfl

theorem noticePeriodEnd_src_eq : Gen.Core.noticePeriodEnd_src =
  ["blockTime := ctx.BlockTime()",
   "getParamsNoticePeriod := k.GetParams(ctx).NoticePeriod"] := rfl

theorem kickNotPotential_src_eq : Gen.Core.kickNotPotential_src =
  ["kickerStatus := kicker.Status",
   "kickerOptedIn := kicker.OptedIn"] := rfl

theorem kickSelf_src_eq : Gen.Core.kickSelf_src =
  ["kickerAddress := kicker.Address",
   "proposerAddress := proposer.Address"] := rfl

theorem unbondRotationGuard_src_eq : Gen.Core.unbondRotationGuard_src =
  ["awaitingLastProposerBlock := k.AwaitingLastProposerBlock(ctx, seq.RollappId)",
   "isProposer := k.IsProposer(ctx, seq)",
   "isSuccessor := k.IsSuccessor(ctx, seq)"] := rfl

theorem isProposer_src_eq : Gen.Core.isProposer_src =
  ["seqAddress := seq.Address",
   "getProposerAddress := k.GetProposer(ctx, seq.RollappId).Address"] := rfl

theorem isSuccessor_src_eq : Gen.Core.isSuccessor_src =
  ["seqAddress := seq.Address",
   "getSuccessorAddress := k.GetSuccessor(ctx, seq.RollappId).Address"] := rfl

theorem beforeUpdateNotProposer_src_eq : Gen.Core.beforeUpdateNotProposer_src =
  ["seqAddr := seqAddr",
   "proposerAddress := proposer.Address"] := rfl

theorem beforeUpdateBadLast_src_eq : Gen.Core.beforeUpdateBadLast_src =
  ["lastStateUpdateBySequencer := lastStateUpdateBySequencer",
   "awaitingLastProposerBlock := hook.k.AwaitingLastProposerBlock(ctx, rollappId)"] := rfl

theorem afterUpdateIsLast_src_eq : Gen.Core.afterUpdateIsLast_src =
  ["stateInfoSequencer := stateInfo.Sequencer",
   "stateInfoNextProposer := stateInfo.NextProposer"] := rfl

/-! ### listings -/

/-- ``DefaultDisputePeriodInBlocks` -/
def defaultDisputePeriodInBlocks : Nat := 3

/-- `MinDisputePeriodInBlocks` -/
def minDisputePeriodInBlocks : Nat := 1

/-- `DefaultLivenessSlashBlocks` -/
def defaultLivenessSlashBlocks : Nat := 7200

/-- `DefaultLivenessSlashInterval` -/
def defaultLivenessSlashInterval : Nat := 600

/-- `DefaultDishonorStateUpdate` -/
def defaultDishonorStateUpdate : Nat := 1

/-- `DefaultDishonorLiveness` -/
def defaultDishonorLiveness : Nat := 300

/-- `DefaultDishonorKickThreshold` -/
def defaultDishonorKickThreshold : Nat := 900

/-- `Unbonded` -/
def statusUnbonded : Nat := 0

/-- `Bonded` -/
def statusBonded : Nat := 2

/-- translated from `StateInfo.GetLatestHeight` -/
def getLatestHeight (startHeight : Nat) (numBlocks : Nat) : Nat :=
  (if decide ((startHeight + numBlocks) > 0) then ((startHeight + numBlocks) - 1) else 0)
def getLatestHeight_src : List String :=
  ["startHeight := s.StartHeight",
   "numBlocks := s.NumBlocks"]

/-- translated from `StateInfo.ContainsHeight` -/
def containsHeight (startHeight : Nat) (height : Nat) (numBlocks : Nat) : Bool :=
  (decide (startHeight ≤ height) && decide (height ≤ (getLatestHeight startHeight numBlocks)))
def containsHeight_src : List String :=
  ["startHeight := s.StartHeight",
   "height := height",
   "numBlocks := s.NumBlocks"]

/-- translated from `StateInfo.NextSequencerForHeight` -/
def nextSequencerForHeight {α : Type} [DecidableEq α] (height : Nat) (startHeight : Nat) (numBlocks : Nat) (sequencer : α) (nextProposer : α) : α :=
  (if decide (height ≠ (getLatestHeight startHeight numBlocks)) then sequencer else nextProposer)
def nextSequencerForHeight_src : List String :=
  ["height := height",
   "startHeight := s.StartHeight",
   "numBlocks := s.NumBlocks",
   "sequencer := s.Sequencer",
   "nextProposer := s.NextProposer"]

/-- guard chain of `MsgUpdateState.ValidateBasic`: the error sentinel of the first failing check -/
def updateStateValidateBasic (errAccAddressFromBech32 : Bool) (numBlocks : Nat) (startHeight : Nat) (lenBDsBD : Nat) : Option String :=
  if errAccAddressFromBech32 then some "ErrInvalidAddress" else
  if decide (numBlocks = 0) then some "ErrInvalidNumBlocks" else
  if decide (numBlocks > (18446744073709551615 - startHeight)) then some "ErrInvalidNumBlocks" else
  if decide (lenBDsBD ≠ numBlocks) then some "ErrInvalidNumBlocks" else
  if decide (startHeight = 0) then some "ErrWrongBlockHeight" else
  none
def updateStateValidateBasic_src : List String :=
  ["errAccAddressFromBech32 := sdk.AccAddressFromBech32(msg.Creator) fails",
   "numBlocks := msg.NumBlocks",
   "startHeight := msg.StartHeight",
   "lenBDsBD := len(msg.BDs.BD)"]

/-- guard chain of the loop body of `MsgUpdateState.ValidateBasic` -/
def updateStateValidateBD (bDsBDAtHeight : Nat) (startHeight : Nat) (bdIndex : Nat) (lenBDsBDAtStateRoot : Nat) : Option String :=
  if decide (bDsBDAtHeight ≠ (startHeight + bdIndex)) then some "ErrInvalidBlockSequence" else
  if decide (lenBDsBDAtStateRoot ≠ 32) then some "ErrInvalidStateRoot" else
  none
def updateStateValidateBD_src : List String :=
  ["bDsBDAtHeight := msg.BDs.BD[bdIndex].Height",
   "startHeight := msg.StartHeight",
   "bdIndex := bdIndex",
   "lenBDsBDAtStateRoot := len(msg.BDs.BD[bdIndex].StateRoot)"]

def updateStateValidateBD_header : String := "for bdIndex := uint64(0); bdIndex < msg.NumBlocks; bdIndex += 1"

/-- guard chain of `BlockDescriptor.Validate`: the error sentinel of the first failing check -/
def blockDescriptorValidate (timestamp : Nat) : Option String :=
  if decide (timestamp = 0) then some "ErrInvalidBlockDescriptorTimestamp" else
  none
def blockDescriptorValidate_src : List String :=
  ["timestamp := bd.Timestamp"]

/-- guard chain of `MsgMarkObsoleteRollapps.ValidateBasic`: the error sentinel of the first failing check -/
def markObsoleteValidateBasic (errAccAddressFromBech32 : Bool) (lenDrsVersions : Nat) : Option String :=
  if errAccAddressFromBech32 then some "errors.Join(gerrc.ErrInvalidArgument, err)" else
  if decide (lenDrsVersions = 0) then some "gerrc.ErrInvalidArgument" else
  none
def markObsoleteValidateBasic_src : List String :=
  ["errAccAddressFromBech32 := sdk.AccAddressFromBech32(m.Authority) fails",
   "lenDrsVersions := len(m.DrsVersions)"]

/-- `Rollapp.GetRevisionForHeight`: condition of `if` #0: `r.Revisions[i].StartHeight <= h` -/
def revisionForHeightCond (revisionsAtStartHeight : Nat) (h : Nat) : Bool :=
  decide (revisionsAtStartHeight ≤ h)
def revisionForHeightCond_src : List String :=
  ["revisionsAtStartHeight := r.Revisions[i].StartHeight",
   "h := h"]

/-- `msgServer.UpdateState`: condition of `if` #2: `rollapp.LatestRevision().Number != msg.RollappRevision` -/
def updWrongRevision {α : Type} [DecidableEq α] (rollappLatestRevisionNumber : α) (msgRollappRevision : α) : Bool :=
  decide (rollappLatestRevisionNumber ≠ msgRollappRevision)
def updWrongRevision_src : List String :=
  ["rollappLatestRevisionNumber := rollapp.LatestRevision().Number",
   "msgRollappRevision := msg.RollappRevision"]

/-- `msgServer.UpdateState`: `expectedStartHeight := stateInfo.StartHeight + stateInfo.NumBlocks` -/
def updExpectedStartHeight (stateInfoStartHeight : Nat) (stateInfoNumBlocks : Nat) : Nat :=
  (stateInfoStartHeight + stateInfoNumBlocks)
def updExpectedStartHeight_src : List String :=
  ["stateInfoStartHeight := stateInfo.StartHeight",
   "stateInfoNumBlocks := stateInfo.NumBlocks"]

/-- `msgServer.UpdateState`: condition of `if` #7: `expectedStartHeight != msg.StartHeight` -/
def updWrongHeight (stateInfoStartHeight : Nat) (stateInfoNumBlocks : Nat) (msgStartHeight : Nat) : Bool :=
  decide ((stateInfoStartHeight + stateInfoNumBlocks) ≠ msgStartHeight)
def updWrongHeight_src : List String :=
  ["stateInfoStartHeight := stateInfo.StartHeight",
   "stateInfoNumBlocks := stateInfo.NumBlocks",
   "msgStartHeight := msg.StartHeight"]

/-- `msgServer.UpdateState`: `newIndex = lastIndex + 1` -/
def updNewIndex (latestStateInfoIndexIndex : Nat) : Nat :=
  (latestStateInfoIndexIndex + 1)
def updNewIndex_src : List String :=
  ["latestStateInfoIndexIndex := latestStateInfoIndex.Index"]

/-- translated from `Keeper.ForkAllowed` -/
def forkAllowed (raGenesisStateTransferProofHeight : Nat) (lastValidHeight : Nat) : Bool :=
  (decide (0 < raGenesisStateTransferProofHeight) && decide (raGenesisStateTransferProofHeight ≤ lastValidHeight))
def forkAllowed_src : List String :=
  ["raGenesisStateTransferProofHeight := ra.GenesisState.TransferProofHeight",
   "lastValidHeight := lastValidHeight"]

/-- `Keeper.HardFork`: `newRevisionHeight := lastValidHeight + 1` -/
def hardForkNewRevisionHeight (lastValidHeight : Nat) : Nat :=
  (lastValidHeight + 1)
def hardForkNewRevisionHeight_src : List String :=
  ["lastValidHeight := lastValidHeight"]

/-- `Keeper.HardFork`: argument 2 of `k.RevertPendingStates(ctx, rollappID, lastValidHeight+1)` -/
def hardForkRevertHeight (lastValidHeight : Nat) : Nat :=
  (lastValidHeight + 1)
def hardForkRevertHeight_src : List String :=
  ["lastValidHeight := lastValidHeight"]

/-- `Keeper.SubmitRollappFraud`: argument 2 of `k.HardFork(ctx, msg.RollappId, msg.FraudHeight-1)` -/
def fraudLastValidHeight (msgFraudHeight : Nat) : Nat :=
  (msgFraudHeight - 1)
def fraudLastValidHeight_src : List String :=
  ["msgFraudHeight := msg.FraudHeight"]

/-- `Keeper.UpdateLastStateInfo`: condition of `if` #0: `fraudHeight < stateInfo.StartHeight` -/
def ulsiBelowStart (fraudHeight : Nat) (stateInfoStartHeight : Nat) : Bool :=
  decide (fraudHeight < stateInfoStartHeight)
def ulsiBelowStart_src : List String :=
  ["fraudHeight := fraudHeight",
   "stateInfoStartHeight := stateInfo.StartHeight"]

/-- `Keeper.UpdateLastStateInfo`: condition of `if` #1: `stateInfo.StartHeight == fraudHeight` -/
def ulsiAtStart {α : Type} [DecidableEq α] (stateInfoStartHeight : α) (fraudHeight : α) : Bool :=
  decide (stateInfoStartHeight = fraudHeight)
def ulsiAtStart_src : List String :=
  ["stateInfoStartHeight := stateInfo.StartHeight",
   "fraudHeight := fraudHeight"]

/-- `Keeper.UpdateLastStateInfo`: condition of `if` #3: `stateInfo.GetLatestHeight() >= fraudHeight` -/
def ulsiTruncate (stateInfoStartHeight : Nat) (stateInfoNumBlocks : Nat) (fraudHeight : Nat) : Bool :=
  decide ((getLatestHeight stateInfoStartHeight stateInfoNumBlocks) ≥ fraudHeight)
def ulsiTruncate_src : List String :=
  ["stateInfoStartHeight := stateInfo.StartHeight",
   "stateInfoNumBlocks := stateInfo.NumBlocks",
   "fraudHeight := fraudHeight"]

/-- `Keeper.pruneFinalizationsAbove`: condition of `if` #1: `stateInfoIndex.Index <= lastStateIdxToKeep` -/
def pruneKeepIndex (stateInfoIndexIndex : Nat) (lastStateIdxToKeep : Nat) : Bool :=
  decide (stateInfoIndexIndex ≤ lastStateIdxToKeep)
def pruneKeepIndex_src : List String :=
  ["stateInfoIndexIndex := stateInfoIndex.Index",
   "lastStateIdxToKeep := lastStateIdxToKeep"]

/-- `Keeper.FindStateInfoByHeight`: condition of `if` #0: `height == 0` -/
def fsbhZero (height : Nat) : Bool :=
  decide (height = 0)
def fsbhZero_src : List String :=
  ["height := height"]

/-- `Keeper.FindStateInfoByHeight`: condition of `if` #2: `!found || height > ss.GetLatestHeight()` -/
def fsbhBeyond (found : Bool) (height : Nat) (ssGetLatestHeight : Nat) : Bool :=
  ((!found) || decide (height > ssGetLatestHeight))
def fsbhBeyond_src : List String :=
  ["found := found",
   "height := height",
   "ssGetLatestHeight := ss.GetLatestHeight()"]

/-- `Keeper.FindStateInfoByHeight`: `midIndex := startInfoIndex + (endInfoIndex-startInfoIndex)/2` -/
def fsbhMid (startInfoIndex : Nat) (endInfoIndex : Nat) : Nat :=
  (startInfoIndex + ((endInfoIndex - startInfoIndex) / 2))
def fsbhMid_src : List String :=
  ["startInfoIndex := startInfoIndex",
   "endInfoIndex := endInfoIndex"]

/-- `Keeper.FindStateInfoByHeight`: condition of `if` #5: `height < state.GetStartHeight()` -/
def fsbhGoLeft (height : Nat) (stateGetStartHeight : Nat) : Bool :=
  decide (height < stateGetStartHeight)
def fsbhGoLeft_src : List String :=
  ["height := height",
   "stateGetStartHeight := state.GetStartHeight()"]

/-- `Keeper.FinalizeRollappStates`: condition of `if` #0: `uint64(ctx.BlockHeight()) < k.DisputePeriodInBlocks(ctx)` -/
def finalizeTooEarly (blockHeight : Nat) (disputePeriodInBlocks : Nat) : Bool :=
  decide (blockHeight < disputePeriodInBlocks)
def finalizeTooEarly_src : List String :=
  ["blockHeight := ctx.BlockHeight()",
   "disputePeriodInBlocks := k.DisputePeriodInBlocks(ctx)"]

/-- `Keeper.FinalizeRollappStates`: `finalizationHeight := uint64(ctx.BlockHeight() - int64(k.DisputePeriodInBlocks(ctx)))` -/
def finalizationHeight (blockHeight : Nat) (disputePeriodInBlocks : Nat) : Nat :=
  (blockHeight - disputePeriodInBlocks)
def finalizationHeight_src : List String :=
  ["blockHeight := ctx.BlockHeight()",
   "disputePeriodInBlocks := k.DisputePeriodInBlocks(ctx)"]

/-- `Keeper.ResetLivenessClock`: `ra.LivenessEventHeight = 0` -/
def resetClockEventHeight : Nat :=
  0
def resetClockEventHeight_src : List String :=
  []

/-- `Keeper.ResetLivenessClock`: `ra.LivenessCountdownStartHeight = ctx.BlockHeight()` -/
def resetClockCountdownStart {α : Type} [DecidableEq α] (blockHeight : α) : α :=
  blockHeight
def resetClockCountdownStart_src : List String :=
  ["blockHeight := ctx.BlockHeight()"]

/-- `Keeper.ScheduleLivenessEvent`: `nextH := NextSlashHeight( params.LivenessSlashBlocks, params.LivenessSlashInterval, ctx.BlockHeight(), ra.LivenessCountdownStartHeight, )` -/
def scheduleNextH (paramsLivenessSlashBlocks : Nat) (paramsLivenessSlashInterval : Nat) (blockHeight : Nat) (raLivenessCountdownStartHeight : Nat) : Nat :=
  (Gen.Arith.nextSlashHeight paramsLivenessSlashBlocks paramsLivenessSlashInterval blockHeight raLivenessCountdownStartHeight)
def scheduleNextH_src : List String :=
  ["paramsLivenessSlashBlocks := params.LivenessSlashBlocks",
   "paramsLivenessSlashInterval := params.LivenessSlashInterval",
   "blockHeight := ctx.BlockHeight()",
   "raLivenessCountdownStartHeight := ra.LivenessCountdownStartHeight"]

/-- translated from `Sequencer.Sentinel` -/
def seqSentinel {α : Type} [DecidableEq α] (address : α) (sentinelSeqAddr : α) : Bool :=
  decide (address = sentinelSeqAddr)
def seqSentinel_src : List String :=
  ["address := seq.Address",
   "sentinelSeqAddr := SentinelSeqAddr"]

/-- translated from `Sequencer.Bonded` -/
def seqBonded (status : Nat) : Bool :=
  decide (status = 2)
def seqBonded_src : List String :=
  ["status := seq.Status"]

/-- translated from `Sequencer.IsPotentialProposer` -/
def seqIsPotentialProposer (status : Nat) (optedIn : Bool) : Bool :=
  ((seqBonded status) && optedIn)
def seqIsPotentialProposer_src : List String :=
  ["status := seq.Status",
   "optedIn := seq.OptedIn"]

/-- translated from `Sequencer.NoticeStarted` -/
def seqNoticeStarted (noticePeriodTime : Nat) : Bool :=
  decide (noticePeriodTime ≠ 0)
def seqNoticeStarted_src : List String :=
  ["noticePeriodTime := seq.NoticePeriodTime"]

/-- translated from `Sequencer.NoticeElapsed` -/
def seqNoticeElapsed (noticePeriodTime : Nat) (now : Nat) : Bool :=
  ((seqNoticeStarted noticePeriodTime) && (!decide (now < noticePeriodTime)))
def seqNoticeElapsed_src : List String :=
  ["noticePeriodTime := seq.NoticePeriodTime",
   "now := now"]

/-- translated from `Sequencer.NoticeInProgress` -/
def seqNoticeInProgress (noticePeriodTime : Nat) (now : Nat) : Bool :=
  ((seqNoticeStarted noticePeriodTime) && (!(seqNoticeElapsed noticePeriodTime now)))
def seqNoticeInProgress_src : List String :=
  ["noticePeriodTime := seq.NoticePeriodTime",
   "now := now"]

/-- `Keeper.TryUnbond`: condition of `if` #0: `k.IsProposer(ctx, *seq) || k.IsSuccessor(ctx, *seq)` -/
def tryUnbondIsRole (isProposer : Bool) (isSuccessor : Bool) : Bool :=
  (isProposer || isSuccessor)
def tryUnbondIsRole_src : List String :=
  ["isProposer := k.IsProposer(ctx, *seq)",
   "isSuccessor := k.IsSuccessor(ctx, *seq)"]

/-- `Keeper.TryUnbond`: condition of `if` #2: `isPartial && maxReduction.IsLT(amt)` -/
def tryUnbondRefused (amt : Nat) (seqTokensCoin : Nat) (rollappKeeperMinBond : Nat) : Bool :=
  ((!decide (amt = seqTokensCoin)) && decide (((Int.ofNat seqTokensCoin) - (Int.ofNat rollappKeeperMinBond)) < (Int.ofNat amt)))
def tryUnbondRefused_src : List String :=
  ["amt := amt",
   "seqTokensCoin := seq.TokensCoin()",
   "rollappKeeperMinBond := k.rollappKeeper.MinBond(ctx, seq.RollappId)"]

/-- `Keeper.TryUnbond`: condition of `if` #4: `seq.Tokens.IsZero()` -/
def tryUnbondBecomesUnbonded (seqTokens : Nat) : Bool :=
  decide (seqTokens = 0)
def tryUnbondBecomesUnbonded_src : List String :=
  ["seqTokens := seq.Tokens"]

/-- guard chain of `validBondDenom`: the error sentinel of the first failing check -/
def validBondDenom {α : Type} [DecidableEq α] (cDenom : α) (commontypesDYMCoinDenom : α) : Option String :=
  if decide (cDenom ≠ commontypesDYMCoinDenom) then some "types.ErrInvalidDenom" else
  none
def validBondDenom_src : List String :=
  ["cDenom := c.Denom",
   "commontypesDYMCoinDenom := commontypes.DYMCoin.Denom"]

/-- guard chain of `Keeper.sufficientBond`: the error sentinel of the first failing check -/
def sufficientBond (errValidBondDenom : Bool) (rollappKeeperMinBond : Nat) (c : Nat) : Option String :=
  if errValidBondDenom then some "err" else
  if decide (c < rollappKeeperMinBond) then some "types.ErrInsufficientBond" else
  none
def sufficientBond_src : List String :=
  ["errValidBondDenom := validBondDenom(c) fails",
   "rollappKeeperMinBond := k.rollappKeeper.MinBond(ctx, rollapp)",
   "c := c"]

/-- translated from `Keeper.Kickable` -/
def kickable {α : Type} [DecidableEq α] (getParamsDishonorKickThreshold : Nat) (proposerAddress : α) (sentinelSeqAddr : α) (proposerDishonor : Nat) : Bool :=
  ((!(seqSentinel proposerAddress sentinelSeqAddr)) && decide (getParamsDishonorKickThreshold ≤ proposerDishonor))
def kickable_src : List String :=
  ["getParamsDishonorKickThreshold := k.GetParams(ctx).DishonorKickThreshold",
   "proposerAddress := proposer.Address",
   "sentinelSeqAddr := SentinelSeqAddr",
   "proposerDishonor := proposer.Dishonor"]

/-- `Keeper.livenessSlash`: `amt := ucoin.SimpleMin(tokens, ucoin.SimpleMax(abs, tokensMul[0]))` -/
def livenessSlashAmt (seqTokensCoin : Nat) (getParamsLivenessSlashMinAbsolute : Nat) (getParamsLivenessSlashMinMultiplier : Dec) : Nat :=
  (min seqTokensCoin (max getParamsLivenessSlashMinAbsolute (((getParamsLivenessSlashMinMultiplier.mulInt seqTokensCoin).truncateInt).toNat)))
def livenessSlashAmt_src : List String :=
  ["seqTokensCoin := seq.TokensCoin()",
   "getParamsLivenessSlashMinAbsolute := k.GetParams(ctx).LivenessSlashMinAbsolute",
   "getParamsLivenessSlashMinMultiplier := k.GetParams(ctx).LivenessSlashMinMultiplier"]

/-- translated from `Keeper.livenessHonor`: the final value of `seq.Dishonor` -/
def livenessHonor (getParamsDishonorStateUpdate : Nat) (seqDishonor : Nat) : Nat :=
  (seqDishonor - (min getParamsDishonorStateUpdate seqDishonor))
def livenessHonor_src : List String :=
  ["getParamsDishonorStateUpdate := k.GetParams(ctx).DishonorStateUpdate",
   "seqDishonor := seq.Dishonor"]

/-- translated from `Keeper.livenessDishonor`: the final value of `seq.Dishonor` -/
def livenessDishonor (getParamsDishonorLiveness : Nat) (seqDishonor : Nat) : Nat :=
  (seqDishonor + getParamsDishonorLiveness)
def livenessDishonor_src : List String :=
  ["getParamsDishonorLiveness := k.GetParams(ctx).DishonorLiveness",
   "seqDishonor := seq.Dishonor"]

/-- `Keeper.slash`: `rewardCoin := ucoin.MulDec(rewardMul, amt)[0]` -/
def slashReward (rewardMul : Dec) (amt : Nat) : Nat :=
  ((rewardMul.mulInt amt).truncateInt).toNat
def slashReward_src : List String :=
  ["rewardMul := rewardMul",
   "amt := amt"]

/-- `Keeper.slash`: `remainder := amt.Sub(rewardCoin)` -/
def slashRemainder (amt : Nat) (rewardMul : Dec) : Nat :=
  (amt - ((rewardMul.mulInt amt).truncateInt).toNat)
def slashRemainder_src : List String :=
  ["amt := amt",
   "rewardMul := rewardMul"]

/-- `Keeper.PunishSequencer`: `rewardMul = math.LegacyMustNewDecFromStr("0.5")` -/
def punishRewardMul : Dec :=
  (⟨500000000000000000⟩ : Dec)
def punishRewardMul_src : List String :=
  []

/-- `Keeper.StartNoticePeriod`: `prop.NoticePeriodTime = ctx.BlockTime().Add(k.GetParams(ctx).NoticePeriod)` -/
def noticePeriodEnd (blockTime : Nat) (getParamsNoticePeriod : Nat) : Nat :=
  (blockTime + getParamsNoticePeriod)
def noticePeriodEnd_src : List String :=
  ["blockTime := ctx.BlockTime()",
   "getParamsNoticePeriod := k.GetParams(ctx).NoticePeriod"]

/-- `Keeper.TryKickProposer`: condition of `if` #0: `!kicker.IsPotentialProposer()` -/
def kickNotPotential (kickerStatus : Nat) (kickerOptedIn : Bool) : Bool :=
  (!(seqIsPotentialProposer kickerStatus kickerOptedIn))
def kickNotPotential_src : List String :=
  ["kickerStatus := kicker.Status",
   "kickerOptedIn := kicker.OptedIn"]

/-- `Keeper.TryKickProposer`: condition of `if` #1: `kicker.Address == proposer.Address` -/
def kickSelf {α : Type} [DecidableEq α] (kickerAddress : α) (proposerAddress : α) : Bool :=
  decide (kickerAddress = proposerAddress)
def kickSelf_src : List String :=
  ["kickerAddress := kicker.Address",
   "proposerAddress := proposer.Address"]

/-- `msgServer.Unbond`: condition of `if` #1: `k.AwaitingLastProposerBlock(ctx, seq.RollappId) && (k.IsProposer(ctx, seq) || k.IsSuccessor(ctx, seq))` -/
def unbondRotationGuard (awaitingLastProposerBlock : Bool) (isProposer : Bool) (isSuccessor : Bool) : Bool :=
  (awaitingLastProposerBlock && (isProposer || isSuccessor))
def unbondRotationGuard_src : List String :=
  ["awaitingLastProposerBlock := k.AwaitingLastProposerBlock(ctx, seq.RollappId)",
   "isProposer := k.IsProposer(ctx, seq)",
   "isSuccessor := k.IsSuccessor(ctx, seq)"]

/-- translated from `Keeper.IsProposer` -/
def isProposer {α : Type} [DecidableEq α] (seqAddress : α) (getProposerAddress : α) : Bool :=
  decide (seqAddress = getProposerAddress)
def isProposer_src : List String :=
  ["seqAddress := seq.Address",
   "getProposerAddress := k.GetProposer(ctx, seq.RollappId).Address"]

/-- translated from `Keeper.IsSuccessor` -/
def isSuccessor {α : Type} [DecidableEq α] (seqAddress : α) (getSuccessorAddress : α) : Bool :=
  decide (seqAddress = getSuccessorAddress)
def isSuccessor_src : List String :=
  ["seqAddress := seq.Address",
   "getSuccessorAddress := k.GetSuccessor(ctx, seq.RollappId).Address"]

/-- `rollappHook.BeforeUpdateState`: condition of `if` #0: `seqAddr != proposer.Address` -/
def beforeUpdateNotProposer {α : Type} [DecidableEq α] (seqAddr : α) (proposerAddress : α) : Bool :=
  decide (seqAddr ≠ proposerAddress)
def beforeUpdateNotProposer_src : List String :=
  ["seqAddr := seqAddr",
   "proposerAddress := proposer.Address"]

/-- `rollappHook.BeforeUpdateState`: condition of `if` #1: `lastStateUpdateBySequencer && !hook.k.AwaitingLastProposerBlock(ctx, rollappId)` -/
def beforeUpdateBadLast (lastStateUpdateBySequencer : Bool) (awaitingLastProposerBlock : Bool) : Bool :=
  (lastStateUpdateBySequencer && (!awaitingLastProposerBlock))
def beforeUpdateBadLast_src : List String :=
  ["lastStateUpdateBySequencer := lastStateUpdateBySequencer",
   "awaitingLastProposerBlock := hook.k.AwaitingLastProposerBlock(ctx, rollappId)"]

/-- `rollappHook.AfterUpdateState`: argument 2 of `hook.k.afterStateUpdate(ctx, proposer, stateInfo.Sequencer != stateInfo.NextProposer)` -/
def afterUpdateIsLast {α : Type} [DecidableEq α] (stateInfoSequencer : α) (stateInfoNextProposer : α) : Bool :=
  decide (stateInfoSequencer ≠ stateInfoNextProposer)
def afterUpdateIsLast_src : List String :=
  ["stateInfoSequencer := stateInfo.Sequencer",
   "stateInfoNextProposer := stateInfo.NextProposer"]

/-! ### listings -/

/-- msgServer.UpdateState` as mirrored by the model -/
theorem updateState_skeleton : Gen.Core.L.updateState =
  ["func (k msgServer) UpdateState(goCtx context.Context, msg *types.MsgUpdateState) (*types.MsgUpdateStateResponse, error)",
   "  rollapp, isFound := k.GetRollapp(ctx, msg.RollappId)",
   "  if !isFound",
   "    return nil, types.ErrUnknownRollappID",
   "  err := k.hooks.BeforeUpdateState(ctx, msg.Creator, msg.RollappId, msg.Last)",
   "  if err != nil",
   "    return nil, err",
   "  if rollapp.LatestRevision().Number != msg.RollappRevision",
   "    return nil, types.ErrWrongRollappRevision",
   "  var newIndex, lastIndex uint64",
   "  latestStateInfoIndex, found := k.GetLatestStateInfoIndex(ctx, msg.RollappId)",
   "  if found",
   "    stateInfo, found := k.GetStateInfo(ctx, msg.RollappId, latestStateInfoIndex.Index)",
   "    if !found",
   "      return nil, types.ErrLogic",
   "    lastBD := stateInfo.GetLatestBlockDescriptor()",
   "    if !lastBD.Timestamp.IsZero()",
   "      err := msg.BDs.Validate()",
   "      if err != nil",
   "        return nil, err",
   "    expectedStartHeight := stateInfo.StartHeight + stateInfo.NumBlocks",
   "    if expectedStartHeight != msg.StartHeight",
   "      return nil, types.ErrWrongBlockHeight",
   "    lastIndex = latestStateInfoIndex.Index",
   "  else",
   "    err := msg.BDs.Validate()",
   "    if err != nil",
   "      return nil, err",
   "  newIndex = lastIndex + 1",
   "  successor := k.SequencerK.GetProposer(ctx, msg.RollappId)",
   "  if msg.Last",
   "    successor = k.SequencerK.GetSuccessor(ctx, msg.RollappId)",
   "  creationHeight := uint64(ctx.BlockHeight())",
   "  blockTime := ctx.BlockTime()",
   "  stateInfo := types.NewStateInfo(msg.RollappId, newIndex, msg.Creator, msg.StartHeight, msg.NumBlocks, msg.DAPath, creationHeight, msg.BDs, blockTime, successor.Address)",
   "  if k.IsStateUpdateObsolete(ctx, stateInfo)",
   "    return nil, gerrc.ErrFailedPrecondition",
   "  k.SetLatestStateInfoIndex(ctx, types.StateInfoIndex{RollappId: msg.RollappId, Index: newIndex})",
   "  k.SetStateInfo(ctx, *stateInfo)",
   "  err = k.hooks.AfterUpdateState(ctx, &types.StateInfoMeta{StateInfo: *stateInfo, Revision: msg.RollappRevision, Rollapp: msg.RollappId})",
   "  if err != nil",
   "    return nil, err",
   "  stateInfoIndex := stateInfo.GetIndex()",
   "  newFinalizationQueue := []types.StateInfoIndex{stateInfoIndex}",
   "  finalizationQueue, found := k.GetFinalizationQueue(ctx, creationHeight, msg.RollappId)",
   "  if found",
   "    newFinalizationQueue = append(finalizationQueue.FinalizationQueue, newFinalizationQueue...)",
   "  err = k.SetFinalizationQueue(ctx, types.BlockHeightToFinalizationQueue{CreationHeight: creationHeight, FinalizationQueue: newFinalizationQueue, RollappId: msg.RollappId})",
   "  if err != nil",
   "    return nil, err",
   "  for _, bd := range msg.BDs.BD",
   "    err := k.SaveSequencerHeight(ctx, stateInfo.Sequencer, bd.Height)",
   "    if err != nil",
   "      return nil, err",
   "  rollapp = k.MustGetRollapp(ctx, msg.RollappId)",
   "  k.IndicateLiveness(ctx, &rollapp)",
   "  k.SetRollapp(ctx, rollapp)",
   "  return &types.MsgUpdateStateResponse{}, nil"] := rfl

/-- `msgServer.IsStateUpdateObsolete` as mirrored by the model -/
theorem isStateUpdateObsolete_skeleton : Gen.Core.L.isStateUpdateObsolete =
  ["func (k msgServer) IsStateUpdateObsolete(ctx sdk.Context, stateInfo *types.StateInfo) bool",
   "  return k.IsDRSVersionObsolete(ctx, stateInfo.GetLatestBlockDescriptor().DrsVersion)"] := rfl

/-- `Keeper.IsDRSVersionObsolete` as mirrored by the model -/
theorem isDRSVersionObsolete_skeleton : Gen.Core.L.isDRSVersionObsolete =
  ["func (k Keeper) IsDRSVersionObsolete(ctx sdk.Context, version uint32) bool",
   "  ok, err := k.obsoleteDRSVersions.Has(ctx, version)",
   "  if err != nil",
   "    panic()",
   "  return ok"] := rfl

/-- `Keeper.HardFork` as mirrored by the model -/
theorem hardFork_skeleton : Gen.Core.L.hardFork =
  ["func (k Keeper) HardFork(ctx sdk.Context, rollappID string, lastValidHeight uint64) error",
   "  rollapp, found := k.GetRollapp(ctx, rollappID)",
   "  if !found",
   "    return gerrc.ErrNotFound",
   "  if !k.ForkAllowed(ctx, rollappID, lastValidHeight)",
   "    return gerrc.ErrFailedPrecondition",
   "  lastValidHeight, err := k.RevertPendingStates(ctx, rollappID, lastValidHeight+1)",
   "  if err != nil",
   "    return err",
   "  newRevisionHeight := lastValidHeight + 1",
   "  rollapp.BumpRevision(newRevisionHeight)",
   "  k.ResetLivenessClock(ctx, &rollapp)",
   "  k.SetRollapp(ctx, rollapp)",
   "  err = k.hooks.OnHardFork(ctx, rollappID, lastValidHeight)",
   "  if err != nil",
   "    return err",
   "  return nil"] := rfl

/-- `Keeper.RevertPendingStates` as mirrored by the model -/
theorem revertPendingStates_skeleton : Gen.Core.L.revertPendingStates =
  ["func (k Keeper) RevertPendingStates(ctx sdk.Context, rollappID string, newRevisionHeight uint64) (uint64, error)",
   "  stateInfo, err := k.FindStateInfoByHeight(ctx, rollappID, newRevisionHeight)",
   "  if err == nil",
   "    if stateInfo.Status == common.Status_FINALIZED",
   "      return 0, types.ErrDisputeAlreadyFinalized",
   "  else",
   "    if errorsmod.IsOf(err, gerrc.ErrNotFound)",
   "      s, ok := k.GetLatestStateInfo(ctx, rollappID)",
   "      if !ok",
   "        return 0, gerrc.ErrFailedPrecondition",
   "      stateInfo = &s",
   "    else",
   "      return 0, err",
   "  stateInfo, err = k.UpdateLastStateInfo(ctx, stateInfo, newRevisionHeight)",
   "  if err != nil",
   "    return 0, err",
   "  lastStateIdxToKeep := stateInfo.StateInfoIndex.Index",
   "  revertedStatesCount := 0",
   "  uniqueProposers := make(map[string]struct{})",
   "  lastIdx, _ := k.GetLatestStateInfoIndex(ctx, rollappID)",
   "  for i := lastStateIdxToKeep + 1; i <= lastIdx.Index; i++",
   "    uniqueProposers[k.MustGetStateInfo(ctx, rollappID, i).Sequencer] = struct{}{}",
   "    k.RemoveStateInfo(ctx, rollappID, i)",
   "    revertedStatesCount++",
   "  k.SetLatestStateInfoIndex(ctx, types.StateInfoIndex{RollappId: rollappID, Index: lastStateIdxToKeep})",
   "  err = k.pruneFinalizationsAbove(ctx, rollappID, lastStateIdxToKeep)",
   "  if err != nil",
   "    return 0, fmt.Errorf(err)",
   "  lastStateInfo := k.MustGetStateInfo(ctx, rollappID, lastStateIdxToKeep)",
   "  uniqueProposers[lastStateInfo.Sequencer] = struct{}{}",
   "  err = k.PruneSequencerHeights(ctx, mapKeysToSlice(uniqueProposers), lastStateInfo.GetLatestHeight())",
   "  if err != nil",
   "    return 0, err",
   "  return lastStateInfo.GetLatestHeight(), nil"] := rfl

/-- `Keeper.UpdateLastStateInfo` as mirrored by the model -/
theorem updateLastStateInfo_skeleton : Gen.Core.L.updateLastStateInfo =
  ["func (k Keeper) UpdateLastStateInfo(ctx sdk.Context, stateInfo *types.StateInfo, fraudHeight uint64) (*types.StateInfo, error)",
   "  if fraudHeight < stateInfo.StartHeight",
   "    return nil, gerrc.ErrInternal",
   "  if stateInfo.StartHeight == fraudHeight",
   "    var ok bool",
   "    *stateInfo, ok = k.GetStateInfo(ctx, stateInfo.StateInfoIndex.RollappId, stateInfo.StateInfoIndex.Index-1)",
   "    if !ok",
   "      return nil, gerrc.ErrFailedPrecondition",
   "  else",
   "    if stateInfo.GetLatestHeight() >= fraudHeight",
   "      truncatedBDs := stateInfo.BDs.BD[:fraudHeight-stateInfo.StartHeight]",
   "      stateInfo.NumBlocks = uint64(len(truncatedBDs))",
   "      stateInfo.BDs.BD = truncatedBDs",
   "  stateInfo.NextProposer = \"\"",
   "  k.SetStateInfo(ctx, *stateInfo)",
   "  return stateInfo, nil"] := rfl

/-- `Keeper.HardForkToLatest` as mirrored by the model -/
theorem hardForkToLatest_skeleton : Gen.Core.L.hardForkToLatest =
  ["func (k Keeper) HardForkToLatest(ctx sdk.Context, rollappID string) error",
   "  lastBatch, ok := k.GetLatestStateInfo(ctx, rollappID)",
   "  if !ok",
   "    return gerrc.ErrFailedPrecondition",
   "  return k.HardFork(ctx, rollappID, lastBatch.GetLatestHeight())"] := rfl

/-- `mapKeysToSlice` as mirrored by the model -/
theorem mapKeysToSlice_skeleton : Gen.Core.L.mapKeysToSlice =
  ["func mapKeysToSlice(m map[string]struct{}) []string",
   "  keys := make([]string, 0, len(m))",
   "  for k := range m",
   "    keys = append(keys, k)",
   "  sort.Strings(keys)",
   "  return keys"] := rfl

/-- `Keeper.pruneFinalizationsAbove` as mirrored by the model -/
theorem pruneFinalizationsAbove_skeleton : Gen.Core.L.pruneFinalizationsAbove =
  ["func (k Keeper) pruneFinalizationsAbove(ctx sdk.Context, rollappID string, lastStateIdxToKeep uint64) error",
   "  queuePerHeight, err := k.GetFinalizationQueueByRollapp(ctx, rollappID)",
   "  if err != nil",
   "    return err",
   "  for _, q := range queuePerHeight",
   "    leftPendingStates := []types.StateInfoIndex{}",
   "    for _, stateInfoIndex := range q.FinalizationQueue",
   "      if stateInfoIndex.Index <= lastStateIdxToKeep",
   "        leftPendingStates = append(leftPendingStates, stateInfoIndex)",
   "        continue",
   "    if len(leftPendingStates) == 0",
   "      err := k.RemoveFinalizationQueue(ctx, q.CreationHeight, rollappID)",
   "      if err != nil",
   "        return err",
   "    else",
   "      err := k.SetFinalizationQueue(ctx, types.BlockHeightToFinalizationQueue{RollappId: rollappID, CreationHeight: q.CreationHeight, FinalizationQueue: leftPendingStates})",
   "      if err != nil",
   "        return err",
   "  return nil"] := rfl

/-- `Keeper.ForkLatestAllowed` as mirrored by the model -/
theorem forkLatestAllowed_skeleton : Gen.Core.L.forkLatestAllowed =
  ["func (k Keeper) ForkLatestAllowed(ctx sdk.Context, rollapp string) bool",
   "  lastHeight, ok := k.GetLatestHeight(ctx, rollapp)",
   "  if !ok",
   "    return false",
   "  return k.ForkAllowed(ctx, rollapp, lastHeight)"] := rfl

/-- `Keeper.ForkAllowed` as mirrored by the model -/
theorem forkAllowedL_skeleton : Gen.Core.L.forkAllowedL =
  ["func (k Keeper) ForkAllowed(ctx sdk.Context, rollapp string, lastValidHeight uint64) bool",
   "  ra := k.MustGetRollapp(ctx, rollapp)",
   "  return 0 < ra.GenesisState.TransferProofHeight && ra.GenesisState.TransferProofHeight <= lastValidHeight"] := rfl

/-- `Keeper.FindStateInfoByHeight` as mirrored by the model -/
theorem findStateInfoByHeight_skeleton : Gen.Core.L.findStateInfoByHeight =
  ["func (k Keeper) FindStateInfoByHeight(ctx sdk.Context, rollappId string, height uint64) (*types.StateInfo, error)",
   "  if height == 0",
   "    return nil, types.ErrInvalidHeight",
   "  _, found := k.GetRollapp(ctx, rollappId)",
   "  if !found",
   "    return nil, types.ErrUnknownRollappID",
   "  ss, found := k.GetLatestStateInfo(ctx, rollappId)",
   "  if !found || height > ss.GetLatestHeight()",
   "    return nil, gerrc.ErrNotFound",
   "  startInfoIndex := uint64(1)",
   "  endInfoIndex := ss.StateInfoIndex.Index",
   "  for startInfoIndex <= endInfoIndex",
   "    midIndex := startInfoIndex + (endInfoIndex-startInfoIndex)/2",
   "    state, ok := k.GetStateInfo(ctx, rollappId, midIndex)",
   "    if !ok",
   "      return nil, types.ErrStateNotExists",
   "    if state.ContainsHeight(height)",
   "      return &state, nil",
   "    if height < state.GetStartHeight()",
   "      endInfoIndex = midIndex - 1",
   "    else",
   "      startInfoIndex = midIndex + 1",
   "  return nil, gerrc.ErrNotFound"] := rfl

/-- `Keeper.GetLatestStateInfo` as mirrored by the model -/
theorem getLatestStateInfo_skeleton : Gen.Core.L.getLatestStateInfo =
  ["func (k Keeper) GetLatestStateInfo(ctx sdk.Context, rollappId string) (types.StateInfo, bool)",
   "  ix, ok := k.GetLatestStateInfoIndex(ctx, rollappId)",
   "  if !ok",
   "    return types.StateInfo{}, false",
   "  return k.GetStateInfo(ctx, rollappId, ix.GetIndex())"] := rfl

/-- `Keeper.GetLatestHeight` as mirrored by the model -/
theorem getLatestHeightK_skeleton : Gen.Core.L.getLatestHeightK =
  ["func (k Keeper) GetLatestHeight(ctx sdk.Context, rollappId string) (uint64, bool)",
   "  info, ok := k.GetLatestStateInfo(ctx, rollappId)",
   "  if !ok",
   "    return 0, false",
   "  return info.GetLatestHeight(), true"] := rfl

/-- `Keeper.MustGetStateInfo` as mirrored by the model -/
theorem mustGetStateInfo_skeleton : Gen.Core.L.mustGetStateInfo =
  ["func (k Keeper) MustGetStateInfo(ctx sdk.Context, rollappId string, index uint64) (val types.StateInfo)",
   "  val, found := k.GetStateInfo(ctx, rollappId, index)",
   "  if !found",
   "    panic()",
   "  return"] := rfl

/-- `Keeper.CheckLiveness` as mirrored by the model -/
theorem checkLiveness_skeleton : Gen.Core.L.checkLiveness =
  ["func (k Keeper) CheckLiveness(ctx sdk.Context)",
   "  h := ctx.BlockHeight()",
   "  events := k.GetLivenessEvents(ctx, &h)",
   "  for _, e := range events",
   "    err := osmoutils.ApplyFuncIfNoError(ctx, func#1)",
   "      func#1 (ctx sdk.Context) error",
   "        return k.HandleLivenessEvent(ctx, e)",
   "    if err != nil"] := rfl

/-- `Keeper.HandleLivenessEvent` as mirrored by the model -/
theorem handleLivenessEvent_skeleton : Gen.Core.L.handleLivenessEvent =
  ["func (k Keeper) HandleLivenessEvent(ctx sdk.Context, e types.LivenessEvent) error",
   "  err := k.SequencerK.SlashLiveness(ctx, e.RollappId)",
   "  if err != nil",
   "    return err",
   "  ra := k.MustGetRollapp(ctx, e.RollappId)",
   "  k.DelLivenessEvents(ctx, e.HubHeight, e.RollappId)",
   "  k.ScheduleLivenessEvent(ctx, &ra)",
   "  k.SetRollapp(ctx, ra)",
   "  return nil"] := rfl

/-- `Keeper.IndicateLiveness` as mirrored by the model -/
theorem indicateLiveness_skeleton : Gen.Core.L.indicateLiveness =
  ["func (k Keeper) IndicateLiveness(ctx sdk.Context, ra *types.Rollapp)",
   "  k.ResetLivenessClock(ctx, ra)",
   "  k.ScheduleLivenessEvent(ctx, ra)"] := rfl

/-- `Keeper.ResetLivenessClock` as mirrored by the model -/
theorem resetLivenessClock_skeleton : Gen.Core.L.resetLivenessClock =
  ["func (k Keeper) ResetLivenessClock(ctx sdk.Context, ra *types.Rollapp)",
   "  k.DelLivenessEvents(ctx, ra.LivenessEventHeight, ra.RollappId)",
   "  ra.LivenessEventHeight = 0",
   "  ra.LivenessCountdownStartHeight = ctx.BlockHeight()"] := rfl

/-- `Keeper.ScheduleLivenessEvent` as mirrored by the model -/
theorem scheduleLivenessEvent_skeleton : Gen.Core.L.scheduleLivenessEvent =
  ["func (k Keeper) ScheduleLivenessEvent(ctx sdk.Context, ra *types.Rollapp)",
   "  params := k.GetParams(ctx)",
   "  nextH := NextSlashHeight(params.LivenessSlashBlocks, params.LivenessSlashInterval, ctx.BlockHeight(), ra.LivenessCountdownStartHeight)",
   "  ra.LivenessEventHeight = nextH",
   "  k.PutLivenessEvent(ctx, types.LivenessEvent{RollappId: ra.RollappId, HubHeight: nextH})"] := rfl

/-- `Keeper.GetLivenessEvents` as mirrored by the model -/
theorem getLivenessEvents_skeleton : Gen.Core.L.getLivenessEvents =
  ["func (k Keeper) GetLivenessEvents(ctx sdk.Context, height *int64) []types.LivenessEvent",
   "  store := ctx.KVStore(k.storeKey)",
   "  key := types.LivenessEventQueueKeyPrefix",
   "  if height != nil",
   "    key = types.LivenessEventQueueIterHeightKey(*height)",
   "  iterator := storetypes.KVStorePrefixIterator(store, key)",
   "  defer iterator.Close()",
   "  ret := []types.LivenessEvent{}",
   "  for ; iterator.Valid(); iterator.Next()",
   "    e := types.LivenessEventQueueKeyToEvent(iterator.Key())",
   "    if height != nil && *height < e.HubHeight",
   "      break",
   "    ret = append(ret, e)",
   "  return ret"] := rfl

/-- `Keeper.PutLivenessEvent` as mirrored by the model -/
theorem putLivenessEvent_skeleton : Gen.Core.L.putLivenessEvent =
  ["func (k Keeper) PutLivenessEvent(ctx sdk.Context, e types.LivenessEvent)",
   "  store := ctx.KVStore(k.storeKey)",
   "  key := types.LivenessEventQueueKey(e)",
   "  store.Set(key, []byte{})"] := rfl

/-- `Keeper.DelLivenessEvents` as mirrored by the model -/
theorem delLivenessEvents_skeleton : Gen.Core.L.delLivenessEvents =
  ["func (k Keeper) DelLivenessEvents(ctx sdk.Context, height int64, rollappID string)",
   "  store := ctx.KVStore(k.storeKey)",
   "  key := types.LivenessEventQueueKey(types.LivenessEvent{RollappId: rollappID, HubHeight: height})",
   "  store.Delete(key)"] := rfl

/-- `Keeper.CanUnbond` as mirrored by the model -/
theorem canUnbond_skeleton : Gen.Core.L.canUnbond =
  ["func (k Keeper) CanUnbond(ctx sdk.Context, seq sequencertypes.Sequencer) error",
   "  rng := collections.NewPrefixedPairRange[string, uint64](seq.Address)",
   "  return k.seqToUnfinalizedHeight.Walk(ctx, rng, func#1)",
   "    func#1 (key collections.Pair[string, uint64]) (stop bool, err error)",
   "      return true, sequencertypes.ErrUnbondNotAllowed"] := rfl

/-- `Keeper.PruneSequencerHeights` as mirrored by the model -/
theorem pruneSequencerHeights_skeleton : Gen.Core.L.pruneSequencerHeights =
  ["func (k Keeper) PruneSequencerHeights(ctx sdk.Context, sequencers []string, h uint64) error",
   "  for _, seqAddr := range sequencers",
   "    rng := collections.NewPrefixedPairRange[string, uint64](seqAddr).StartExclusive(h)",
   "    err := k.seqToUnfinalizedHeight.Clear(ctx, rng)",
   "    if err != nil",
   "      return err",
   "  return nil"] := rfl

/-- `Keeper.SaveSequencerHeight` as mirrored by the model -/
theorem saveSequencerHeight_skeleton : Gen.Core.L.saveSequencerHeight =
  ["func (k Keeper) SaveSequencerHeight(ctx sdk.Context, seqAddr string, height uint64) error",
   "  return k.seqToUnfinalizedHeight.Set(ctx, collections.Join(seqAddr, height))"] := rfl

/-- `Keeper.DelSequencerHeight` as mirrored by the model -/
theorem delSequencerHeight_skeleton : Gen.Core.L.delSequencerHeight =
  ["func (k Keeper) DelSequencerHeight(ctx sdk.Context, seqAddr string, height uint64) error",
   "  return k.seqToUnfinalizedHeight.Remove(ctx, collections.Join(seqAddr, height))"] := rfl

/-- `Keeper.FinalizeRollappStates` as mirrored by the model -/
theorem finalizeRollappStates_skeleton : Gen.Core.L.finalizeRollappStates =
  ["func (k Keeper) FinalizeRollappStates(ctx sdk.Context)",
   "  if uint64(ctx.BlockHeight()) < k.DisputePeriodInBlocks(ctx)",
   "    return",
   "  finalizationHeight := uint64(ctx.BlockHeight() - int64(k.DisputePeriodInBlocks(ctx)))",
   "  queue, err := k.GetFinalizationQueueUntilHeightInclusive(ctx, finalizationHeight)",
   "  if err != nil",
   "    return",
   "  k.FinalizeAllPending(ctx, queue)"] := rfl

/-- `Keeper.FinalizeAllPending` as mirrored by the model -/
theorem finalizeAllPending_skeleton : Gen.Core.L.finalizeAllPending =
  ["func (k Keeper) FinalizeAllPending(ctx sdk.Context, pendingQueues []types.BlockHeightToFinalizationQueue)",
   "  failedRollapps := make(map[string]struct{})",
   "  for _, queue := range pendingQueues",
   "    _, failed := failedRollapps[queue.RollappId]",
   "    if failed",
   "      continue",
   "    finalized := k.FinalizeStates(ctx, queue)",
   "    if !finalized",
   "      failedRollapps[queue.RollappId] = struct{}{}"] := rfl

/-- `Keeper.FinalizeStates` as mirrored by the model -/
theorem finalizeStates_skeleton : Gen.Core.L.finalizeStates =
  ["func (k Keeper) FinalizeStates(ctx sdk.Context, queue types.BlockHeightToFinalizationQueue) bool",
   "  for i, stateInfoIndex := range queue.FinalizationQueue",
   "    err := osmoutils.ApplyFuncIfNoError(ctx, func#1)",
   "      func#1 (ctx sdk.Context) error",
   "        return k.finalizePending(ctx, stateInfoIndex)",
   "    if err != nil",
   "      queue.FinalizationQueue = slices.Delete(queue.FinalizationQueue, 0, i)",
   "      k.MustSetFinalizationQueue(ctx, queue)",
   "      return false",
   "  k.MustRemoveFinalizationQueue(ctx, queue.CreationHeight, queue.RollappId)",
   "  return true"] := rfl

/-- `Keeper.finalizePendingState` as mirrored by the model -/
theorem finalizePendingState_skeleton : Gen.Core.L.finalizePendingState =
  ["func (k *Keeper) finalizePendingState(ctx sdk.Context, stateInfoIndex types.StateInfoIndex) error",
   "  stateInfo := k.MustGetStateInfo(ctx, stateInfoIndex.RollappId, stateInfoIndex.Index)",
   "  if stateInfo.Status != common.Status_PENDING",
   "    panic()",
   "  stateInfo.Finalize()",
   "  k.SetStateInfo(ctx, stateInfo)",
   "  k.SetLatestFinalizedStateIndex(ctx, stateInfoIndex)",
   "  for _, bd := range stateInfo.BDs.BD",
   "    err := k.DelSequencerHeight(ctx, stateInfo.Sequencer, bd.Height)",
   "    if err != nil",
   "      return err",
   "  err := k.GetHooks().AfterStateFinalized(ctx, stateInfoIndex.RollappId, &stateInfo)",
   "  if err != nil",
   "    return fmt.Errorf(err)",
   "  return nil"] := rfl

/-- `Keeper.SetFinalizationQueue` as mirrored by the model -/
theorem setFinalizationQueue_skeleton : Gen.Core.L.setFinalizationQueue =
  ["func (k Keeper) SetFinalizationQueue(ctx sdk.Context, queue types.BlockHeightToFinalizationQueue) error",
   "  return k.finalizationQueue.Set(ctx, collections.Join(queue.CreationHeight, queue.RollappId), queue)"] := rfl

/-- `Keeper.GetFinalizationQueue` as mirrored by the model -/
theorem getFinalizationQueue_skeleton : Gen.Core.L.getFinalizationQueue =
  ["func (k Keeper) GetFinalizationQueue(ctx sdk.Context, height uint64, rollappID string) (types.BlockHeightToFinalizationQueue, bool)",
   "  queue, err := k.finalizationQueue.Get(ctx, collections.Join(height, rollappID))",
   "  if err != nil && !errors.Is(err, collections.ErrNotFound)",
   "    panic(err)",
   "  found := err == nil",
   "  return queue, found"] := rfl

/-- `Keeper.RemoveFinalizationQueue` as mirrored by the model -/
theorem removeFinalizationQueue_skeleton : Gen.Core.L.removeFinalizationQueue =
  ["func (k Keeper) RemoveFinalizationQueue(ctx sdk.Context, height uint64, rollappID string) error",
   "  return k.finalizationQueue.Remove(ctx, collections.Join(height, rollappID))"] := rfl

/-- `Keeper.GetFinalizationQueueUntilHeightInclusive` as mirrored by the model -/
theorem getFinalizationQueueUntilHeightInclusive_skeleton : Gen.Core.L.getFinalizationQueueUntilHeightInclusive =
  ["func (k Keeper) GetFinalizationQueueUntilHeightInclusive(ctx sdk.Context, height uint64) ([]types.BlockHeightToFinalizationQueue, error)",
   "  rng := collections.NewPrefixUntilPairRange[uint64, string](height)",
   "  iter, err := k.finalizationQueue.Iterate(ctx, rng)",
   "  if err != nil",
   "    return nil, err",
   "  defer iter.Close()",
   "  return iter.Values()"] := rfl

/-- `Keeper.GetFinalizationQueueByRollapp` as mirrored by the model -/
theorem getFinalizationQueueByRollapp_skeleton : Gen.Core.L.getFinalizationQueueByRollapp =
  ["func (k Keeper) GetFinalizationQueueByRollapp(ctx sdk.Context, rollapp string) ([]types.BlockHeightToFinalizationQueue, error)",
   "  iter, err := k.finalizationQueue.Indexes.RollappIDReverseLookup.MatchExact(ctx, rollapp)",
   "  if err != nil",
   "    return nil, err",
   "  defer iter.Close()",
   "  var res []types.BlockHeightToFinalizationQueue",
   "  for ; iter.Valid(); iter.Next()",
   "    key, err := iter.PrimaryKey()",
   "    if err != nil",
   "      return nil, err",
   "    queue, err := k.finalizationQueue.Get(ctx, key)",
   "    if err != nil",
   "      return nil, err",
   "    res = append(res, queue)",
   "  return res, nil"] := rfl

/-- `Keeper.SubmitRollappFraud` as mirrored by the model -/
theorem submitRollappFraud_skeleton : Gen.Core.L.submitRollappFraud =
  ["func (k Keeper) SubmitRollappFraud(goCtx context.Context, msg *types.MsgRollappFraudProposal) (*types.MsgRollappFraudProposalResponse, error)",
   "  if msg.Authority != k.authority",
   "    err := gerrc.ErrUnauthenticated",
   "    return nil, err",
   "  err := msg.ValidateBasic()",
   "  if err != nil",
   "    err = gerrc.ErrInvalidArgument",
   "    return nil, err",
   "  rollapp, found := k.GetRollapp(ctx, msg.RollappId)",
   "  if !found",
   "    err := gerrc.ErrNotFound",
   "    return nil, err",
   "  if rollapp.GetRevisionForHeight(msg.FraudHeight).Number != msg.FraudRevision",
   "    err := gerrc.ErrFailedPrecondition",
   "    return nil, err",
   "  if msg.PunishSequencerAddress != \"\"",
   "    err := k.SequencerK.PunishSequencer(ctx, msg.PunishSequencerAddress, msg.MustRewardee())",
   "    if err != nil",
   "      return nil, err",
   "  err := k.HardFork(ctx, msg.RollappId, msg.FraudHeight-1)",
   "  if err != nil",
   "    return nil, err",
   "  return &types.MsgRollappFraudProposalResponse{}, nil"] := rfl

/-- `msgServer.MarkObsoleteRollapps` as mirrored by the model -/
theorem msgMarkObsoleteRollapps_skeleton : Gen.Core.L.msgMarkObsoleteRollapps =
  ["func (k msgServer) MarkObsoleteRollapps(goCtx context.Context, msg *types.MsgMarkObsoleteRollapps) (*types.MsgMarkObsoleteRollappsResponse, error)",
   "  err := msg.ValidateBasic()",
   "  if err != nil",
   "    return nil, err",
   "  if msg.Authority != k.authority",
   "    return nil, gerrc.ErrInvalidArgument",
   "  obsoleteNum, err := k.Keeper.MarkObsoleteRollapps(ctx, msg.DrsVersions)",
   "  if err != nil",
   "    return nil, fmt.Errorf(err)",
   "  return &types.MsgMarkObsoleteRollappsResponse{}, nil"] := rfl

/-- `Keeper.MarkObsoleteRollapps` as mirrored by the model -/
theorem markObsoleteRollapps_skeleton : Gen.Core.L.markObsoleteRollapps =
  ["func (k Keeper) MarkObsoleteRollapps(ctx sdk.Context, drsVersions []uint32) (int, error)",
   "  obsoleteVersions := make(map[uint32]struct{})",
   "  for _, v := range drsVersions",
   "    obsoleteVersions[v] = struct{}{}",
   "    err := k.SetObsoleteDRSVersion(ctx, v)",
   "    if err != nil",
   "      return 0, fmt.Errorf(err)",
   "  var obsoleteNum int",
   "  for _, rollapp := range k.GetAllRollapps(ctx)",
   "    info, found := k.GetLatestStateInfo(ctx, rollapp.RollappId)",
   "    if !found",
   "      continue",
   "    bd := info.BDs.BD[len(info.BDs.BD)-1]",
   "    _, obsolete := obsoleteVersions[bd.DrsVersion]",
   "    if obsolete",
   "      err := osmoutils.ApplyFuncIfNoError(ctx, func#1)",
   "        func#1 (ctx sdk.Context) error",
   "          return k.HardForkToLatest(ctx, rollapp.RollappId)",
   "      if err != nil",
   "      obsoleteNum++",
   "  return obsoleteNum, nil"] := rfl

/-- `msgServer.TransferOwnership` as mirrored by the model -/
theorem transferOwnership_skeleton : Gen.Core.L.transferOwnership =
  ["func (k msgServer) TransferOwnership(goCtx context.Context, msg *types.MsgTransferOwnership) (*types.MsgTransferOwnershipResponse, error)",
   "  err := msg.ValidateBasic()",
   "  if err != nil",
   "    return nil, types.ErrInvalidRequest",
   "  rollapp, ok := k.GetRollapp(ctx, msg.RollappId)",
   "  if !ok",
   "    return nil, types.ErrUnknownRollappID",
   "  if rollapp.Owner != msg.CurrentOwner",
   "    return nil, types.ErrUnauthorizedSigner",
   "  if rollapp.Owner == msg.NewOwner",
   "    return nil, types.ErrSameOwner",
   "  bk, ok := k.bankKeeper.(interface{BlockedAddr(sdk.AccAddress) bool})",
   "  if ok",
   "    newOwner, err := sdk.AccAddressFromBech32(msg.NewOwner)",
   "    if err != nil || bk.BlockedAddr(newOwner)",
   "      return nil, types.ErrInvalidRequest",
   "  rollapp.Owner = msg.NewOwner",
   "  k.SetRollapp(ctx, rollapp)",
   "  return &types.MsgTransferOwnershipResponse{}, nil"] := rfl

/-- `SequencerHooks.AfterSetRealProposer` as mirrored by the model -/
theorem afterSetRealProposer_skeleton : Gen.Core.L.afterSetRealProposer =
  ["func (h SequencerHooks) AfterSetRealProposer(ctx sdk.Context, rollapp string, newSeq sequencertypes.Sequencer) error",
   "  ra := h.Keeper.MustGetRollapp(ctx, rollapp)",
   "  h.Keeper.IndicateLiveness(ctx, &ra)",
   "  h.Keeper.SetRollapp(ctx, ra)",
   "  sInfo, ok := h.Keeper.GetLatestStateInfo(ctx, rollapp)",
   "  if !ok",
   "    return nil",
   "  sInfo.NextProposer = newSeq.Address",
   "  h.Keeper.SetStateInfo(ctx, sInfo)",
   "  return nil"] := rfl

/-- `SequencerHooks.AfterKickProposer` as mirrored by the model -/
theorem afterKickProposer_skeleton : Gen.Core.L.afterKickProposer =
  ["func (h SequencerHooks) AfterKickProposer(ctx sdk.Context, kicked sequencertypes.Sequencer) error",
   "  err := h.Keeper.HardForkToLatest(ctx, kicked.RollappId)",
   "  if err != nil",
   "    return err",
   "  return nil"] := rfl

/-- `Keeper.SetRollappAsLaunched` as mirrored by the model -/
theorem setRollappAsLaunched_skeleton : Gen.Core.L.setRollappAsLaunched =
  ["func (k Keeper) SetRollappAsLaunched(ctx sdk.Context, rollapp *types.Rollapp) error",
   "  if !rollapp.AllImmutableFieldsAreSet()",
   "    return gerrc.ErrFailedPrecondition",
   "  rollapp.GenesisInfo.Sealed = true",
   "  rollapp.Launched = true",
   "  k.SetRollapp(ctx, *rollapp)",
   "  return nil"] := rfl

/-- `Keeper.MinBond` as mirrored by the model -/
theorem minBond_skeleton : Gen.Core.L.minBond =
  ["func (k *Keeper) MinBond(ctx sdk.Context, rollappID string) sdk.Coin",
   "  ra := k.MustGetRollapp(ctx, rollappID)",
   "  return ra.MinSequencerBond[0]"] := rfl

/-- `AppModule.EndBlock` as mirrored by the model -/
theorem rollappEndBlock_skeleton : Gen.Core.L.rollappEndBlock =
  ["func (am AppModule) EndBlock(goCtx context.Context) error",
   "  am.keeper.FinalizeRollappStates(ctx)",
   "  am.keeper.CheckLiveness(ctx)",
   "  return nil"] := rfl

/-- `NewStateInfo` as mirrored by the model -/
theorem newStateInfo_skeleton : Gen.Core.L.newStateInfo =
  ["func NewStateInfo(rollappId string, newIndex uint64, creator string, startHeight uint64, numBlocks uint64, daPath string, height uint64, BDs BlockDescriptors, createdAt time.Time, nextProposer string) *StateInfo",
   "  stateInfoIndex := StateInfoIndex{RollappId: rollappId, Index: newIndex}",
   "  status := common.Status_PENDING",
   "  return &StateInfo{StateInfoIndex: stateInfoIndex, Sequencer: creator, StartHeight: startHeight, NumBlocks: numBlocks, DAPath: daPath, CreationHeight: height, Status: status, BDs: BDs, CreatedAt: createdAt, NextProposer: nextProposer}"] := rfl

/-- `StateInfo.Finalize` as mirrored by the model -/
theorem stateInfoFinalize_skeleton : Gen.Core.L.stateInfoFinalize =
  ["func (s *StateInfo) Finalize()",
   "  s.Status = common.Status_FINALIZED"] := rfl

/-- `StateInfo.GetLatestHeight` as mirrored by the model -/
theorem stateInfoGetLatestHeight_skeleton : Gen.Core.L.stateInfoGetLatestHeight =
  ["func (s *StateInfo) GetLatestHeight() uint64",
   "  if s.StartHeight+s.NumBlocks > 0",
   "    return s.StartHeight + s.NumBlocks - 1",
   "  return 0"] := rfl

/-- `StateInfo.ContainsHeight` as mirrored by the model -/
theorem stateInfoContainsHeight_skeleton : Gen.Core.L.stateInfoContainsHeight =
  ["func (s *StateInfo) ContainsHeight(height uint64) bool",
   "  return s.StartHeight <= height && height <= s.GetLatestHeight()"] := rfl

/-- `StateInfo.GetLatestBlockDescriptor` as mirrored by the model -/
theorem stateInfoGetLatestBlockDescriptor_skeleton : Gen.Core.L.stateInfoGetLatestBlockDescriptor =
  ["func (s *StateInfo) GetLatestBlockDescriptor() BlockDescriptor",
   "  return s.BDs.BD[len(s.BDs.BD)-1]"] := rfl

/-- `StateInfo.NextSequencerForHeight` as mirrored by the model -/
theorem stateInfoNextSequencerForHeight_skeleton : Gen.Core.L.stateInfoNextSequencerForHeight =
  ["func (s *StateInfo) NextSequencerForHeight(height uint64) string",
   "  if height != s.GetLatestHeight()",
   "    return s.Sequencer",
   "  return s.NextProposer"] := rfl

/-- `MsgUpdateState.ValidateBasic` as mirrored by the model -/
theorem msgUpdateStateValidateBasic_skeleton : Gen.Core.L.msgUpdateStateValidateBasic =
  ["func (msg *MsgUpdateState) ValidateBasic() error",
   "  _, err := sdk.AccAddressFromBech32(msg.Creator)",
   "  if err != nil",
   "    return ErrInvalidAddress",
   "  if msg.NumBlocks == uint64(0)",
   "    return ErrInvalidNumBlocks",
   "  if msg.NumBlocks > math.MaxUint64-msg.StartHeight",
   "    return ErrInvalidNumBlocks",
   "  if len(msg.BDs.BD) != int(msg.NumBlocks)",
   "    return ErrInvalidNumBlocks",
   "  if msg.StartHeight == 0",
   "    return ErrWrongBlockHeight",
   "  for bdIndex := uint64(0); bdIndex < msg.NumBlocks; bdIndex += 1",
   "    if msg.BDs.BD[bdIndex].Height != msg.StartHeight+bdIndex",
   "      return ErrInvalidBlockSequence",
   "    if len(msg.BDs.BD[bdIndex].StateRoot) != 32",
   "      return ErrInvalidStateRoot",
   "  return nil"] := rfl

/-- `BlockDescriptors.Validate` as mirrored by the model -/
theorem blockDescriptorsValidate_skeleton : Gen.Core.L.blockDescriptorsValidate =
  ["func (bds BlockDescriptors) Validate() error",
   "  for _, bd := range bds.BD",
   "    err := bd.Validate()",
   "    if err != nil",
   "      return err",
   "  return nil"] := rfl

/-- `BlockDescriptor.Validate` as mirrored by the model -/
theorem blockDescriptorValidateL_skeleton : Gen.Core.L.blockDescriptorValidateL =
  ["func (bd BlockDescriptor) Validate() error",
   "  if bd.Timestamp.IsZero()",
   "    return ErrInvalidBlockDescriptorTimestamp",
   "  return nil"] := rfl

/-- `Rollapp.LatestRevision` as mirrored by the model -/
theorem rollappLatestRevision_skeleton : Gen.Core.L.rollappLatestRevision =
  ["func (r Rollapp) LatestRevision() Revision",
   "  if len(r.Revisions) == 0",
   "    return Revision{}",
   "  return r.Revisions[len(r.Revisions)-1]"] := rfl

/-- `Rollapp.GetRevisionForHeight` as mirrored by the model -/
theorem rollappGetRevisionForHeight_skeleton : Gen.Core.L.rollappGetRevisionForHeight =
  ["func (r Rollapp) GetRevisionForHeight(h uint64) Revision",
   "  for i := len(r.Revisions) - 1; i >= 0; i--",
   "    if r.Revisions[i].StartHeight <= h",
   "      return r.Revisions[i]",
   "  return Revision{}"] := rfl

/-- `Rollapp.BumpRevision` as mirrored by the model -/
theorem rollappBumpRevision_skeleton : Gen.Core.L.rollappBumpRevision =
  ["func (r *Rollapp) BumpRevision(nextRevisionStartHeight uint64)",
   "  r.Revisions = append(r.Revisions, Revision{Number: r.LatestRevision().Number + 1, StartHeight: nextRevisionStartHeight})"] := rfl

/-- `MsgRollappFraudProposal.ValidateBasic` as mirrored by the model -/
theorem fraudProposalValidateBasic_skeleton : Gen.Core.L.fraudProposalValidateBasic =
  ["func (m *MsgRollappFraudProposal) ValidateBasic() error",
   "  _, err := sdk.AccAddressFromBech32(m.Authority)",
   "  if err != nil",
   "    return errors.Join(gerrc.ErrInvalidArgument, err)",
   "  if m.Rewardee != \"\"",
   "    _, err := sdk.AccAddressFromBech32(m.Rewardee)",
   "    if err != nil",
   "      return errors.Join(gerrc.ErrInvalidArgument, err)",
   "  return nil"] := rfl

/-- `MsgRollappFraudProposal.MustRewardee` as mirrored by the model -/
theorem fraudProposalMustRewardee_skeleton : Gen.Core.L.fraudProposalMustRewardee =
  ["func (m *MsgRollappFraudProposal) MustRewardee() *sdk.AccAddress",
   "  if m.Rewardee == \"\"",
   "    return nil",
   "  rewardee, _ := sdk.AccAddressFromBech32(m.Rewardee)",
   "  return &rewardee"] := rfl

/-- `MsgMarkObsoleteRollapps.ValidateBasic` as mirrored by the model -/
theorem markObsoleteValidateBasicL_skeleton : Gen.Core.L.markObsoleteValidateBasicL =
  ["func (m MsgMarkObsoleteRollapps) ValidateBasic() error",
   "  _, err := sdk.AccAddressFromBech32(m.Authority)",
   "  if err != nil",
   "    return errors.Join(gerrc.ErrInvalidArgument, err)",
   "  if len(m.DrsVersions) == 0",
   "    return gerrc.ErrInvalidArgument",
   "  return nil"] := rfl

/-- `Keeper.TryUnbond` as mirrored by the model -/
theorem tryUnbond_skeleton : Gen.Core.L.tryUnbond =
  ["func (k Keeper) TryUnbond(ctx sdk.Context, seq *types.Sequencer, amt sdk.Coin) error",
   "  if k.IsProposer(ctx, *seq) || k.IsSuccessor(ctx, *seq)",
   "    return types.ErrUnbondProposerOrSuccessor",
   "  for _, c := range k.unbondBlockers",
   "    err := c.CanUnbond(ctx, *seq)",
   "    if err != nil",
   "      return err",
   "  bond := seq.TokensCoin()",
   "  minBond := k.rollappKeeper.MinBond(ctx, seq.RollappId)",
   "  maxReduction, _ := bond.SafeSub(minBond)",
   "  isPartial := !amt.IsEqual(bond)",
   "  if isPartial && maxReduction.IsLT(amt)",
   "    return types.ErrUnbondNotAllowed",
   "  err := k.refund(ctx, seq, amt)",
   "  if err != nil",
   "    return err",
   "  if seq.Tokens.IsZero()",
   "    k.unbond(ctx, seq)",
   "  return nil"] := rfl

/-- `Keeper.unbond` as mirrored by the model -/
theorem unbondInternal_skeleton : Gen.Core.L.unbondInternal =
  ["func (k Keeper) unbond(ctx sdk.Context, seq *types.Sequencer)",
   "  seq.Status = types.Unbonded"] := rfl

/-- `validBondDenom` as mirrored by the model -/
theorem validBondDenomL_skeleton : Gen.Core.L.validBondDenomL =
  ["func validBondDenom(c sdk.Coin) error",
   "  if c.Denom != commontypes.DYMCoin.Denom",
   "    return types.ErrInvalidDenom",
   "  return nil"] := rfl

/-- `Keeper.sufficientBond` as mirrored by the model -/
theorem sufficientBondL_skeleton : Gen.Core.L.sufficientBondL =
  ["func (k Keeper) sufficientBond(ctx sdk.Context, rollapp string, c sdk.Coin) error",
   "  err := validBondDenom(c)",
   "  if err != nil",
   "    return err",
   "  minBond := k.rollappKeeper.MinBond(ctx, rollapp)",
   "  if c.IsLT(minBond)",
   "    return types.ErrInsufficientBond",
   "  return nil"] := rfl

/-- `Keeper.Kickable` as mirrored by the model -/
theorem kickableL_skeleton : Gen.Core.L.kickableL =
  ["func (k Keeper) Kickable(ctx sdk.Context, proposer types.Sequencer) bool",
   "  kickThreshold := k.GetParams(ctx).DishonorKickThreshold",
   "  return !proposer.Sentinel() && kickThreshold <= proposer.Dishonor"] := rfl

/-- `Keeper.burn` as mirrored by the model -/
theorem burn_skeleton : Gen.Core.L.burn =
  ["func (k Keeper) burn(ctx sdk.Context, seq *types.Sequencer, amt sdk.Coin) error",
   "  seq.SetTokensCoin(seq.TokensCoin().Sub(amt))",
   "  return k.bankKeeper.BurnCoins(ctx, types.ModuleName, sdk.NewCoins(amt))"] := rfl

/-- `Keeper.refund` as mirrored by the model -/
theorem refund_skeleton : Gen.Core.L.refund =
  ["func (k Keeper) refund(ctx sdk.Context, seq *types.Sequencer, amt sdk.Coin) error",
   "  return k.sendFromModule(ctx, seq, amt, seq.AccAddr())"] := rfl

/-- `Keeper.sendFromModule` as mirrored by the model -/
theorem sendFromModule_skeleton : Gen.Core.L.sendFromModule =
  ["func (k Keeper) sendFromModule(ctx sdk.Context, seq *types.Sequencer, amt sdk.Coin, recipient sdk.AccAddress) error",
   "  seq.SetTokensCoin(seq.TokensCoin().Sub(amt))",
   "  return k.bankKeeper.SendCoinsFromModuleToAccount(ctx, types.ModuleName, recipient, sdk.NewCoins(amt))"] := rfl

/-- `Keeper.sendToModule` as mirrored by the model -/
theorem sendToModule_skeleton : Gen.Core.L.sendToModule =
  ["func (k Keeper) sendToModule(ctx sdk.Context, seq *types.Sequencer, amt sdk.Coin) error",
   "  seq.SetTokensCoin(seq.TokensCoin().Add(amt))",
   "  return k.bankKeeper.SendCoinsFromAccountToModule(ctx, seq.AccAddr(), types.ModuleName, sdk.NewCoins(amt))"] := rfl

/-- `Keeper.TryKickProposer` as mirrored by the model -/
theorem tryKickProposer_skeleton : Gen.Core.L.tryKickProposer =
  ["func (k Keeper) TryKickProposer(ctx sdk.Context, kicker types.Sequencer) error",
   "  if !kicker.IsPotentialProposer()",
   "    return gerrc.ErrFailedPrecondition",
   "  ra := kicker.RollappId",
   "  proposer := k.GetProposer(ctx, ra)",
   "  if kicker.Address == proposer.Address",
   "    return gerrc.ErrFailedPrecondition",
   "  if !k.Kickable(ctx, proposer)",
   "    return gerrc.ErrFailedPrecondition",
   "  k.abruptRemoveProposer(ctx, ra)",
   "  err := k.hooks.AfterKickProposer(ctx, proposer)",
   "  if err != nil",
   "    return err",
   "  err := kicker.SetOptedIn(ctx, true)",
   "  if err != nil",
   "    return err",
   "  k.SetSequencer(ctx, kicker)",
   "  err := k.RecoverFromSentinel(ctx, ra)",
   "  if err != nil",
   "    return err",
   "  return nil"] := rfl

/-- `Keeper.SlashLiveness` as mirrored by the model -/
theorem slashLiveness_skeleton : Gen.Core.L.slashLiveness =
  ["func (k Keeper) SlashLiveness(ctx sdk.Context, rollappID string) error",
   "  seq := k.GetProposer(ctx, rollappID)",
   "  if seq.Sentinel()",
   "    return nil",
   "  err := k.livenessSlash(ctx, &seq)",
   "  if err != nil",
   "    return err",
   "  k.livenessDishonor(ctx, &seq)",
   "  k.SetSequencer(ctx, seq)",
   "  return nil"] := rfl

/-- `Keeper.livenessSlash` as mirrored by the model -/
theorem livenessSlash_skeleton : Gen.Core.L.livenessSlash =
  ["func (k Keeper) livenessSlash(ctx sdk.Context, seq *types.Sequencer) error",
   "  mul := k.GetParams(ctx).LivenessSlashMinMultiplier",
   "  abs := k.GetParams(ctx).LivenessSlashMinAbsolute",
   "  tokens := seq.TokensCoin()",
   "  tokensMul := ucoin.MulDec(mul, tokens)",
   "  amt := ucoin.SimpleMin(tokens, ucoin.SimpleMax(abs, tokensMul[0]))",
   "  return k.slash(ctx, seq, amt, math.LegacyZeroDec(), nil)"] := rfl

/-- `Keeper.livenessHonor` as mirrored by the model -/
theorem livenessHonorL_skeleton : Gen.Core.L.livenessHonorL =
  ["func (k Keeper) livenessHonor(ctx sdk.Context, seq *types.Sequencer)",
   "  reward := k.GetParams(ctx).DishonorStateUpdate",
   "  reward = min(reward, seq.Dishonor)",
   "  seq.Dishonor -= reward"] := rfl

/-- `Keeper.livenessDishonor` as mirrored by the model -/
theorem livenessDishonorL_skeleton : Gen.Core.L.livenessDishonorL =
  ["func (k Keeper) livenessDishonor(ctx sdk.Context, seq *types.Sequencer)",
   "  penalty := k.GetParams(ctx).DishonorLiveness",
   "  seq.Dishonor += penalty"] := rfl

/-- `Keeper.PunishSequencer` as mirrored by the model -/
theorem punishSequencer_skeleton : Gen.Core.L.punishSequencer =
  ["func (k Keeper) PunishSequencer(ctx sdk.Context, seqAddr string, rewardee *sdk.AccAddress) error",
   "  var rewardMul = math.LegacyZeroDec()",
   "  var addr = []byte(nil)",
   "  seq, err := k.RealSequencer(ctx, seqAddr)",
   "  if err != nil",
   "    return err",
   "  if rewardee != nil",
   "    rewardMul = math.LegacyMustNewDecFromStr(\"0.5\")",
   "    addr = *rewardee",
   "  err = k.slash(ctx, &seq, seq.TokensCoin(), rewardMul, addr)",
   "  if err != nil",
   "    return err",
   "  k.SetSequencer(ctx, seq)",
   "  return nil"] := rfl

/-- `NewSequencerProposalHandler` (the legacy gov route of x/sequencer): the only content type it serves
    is the punish proposal — `Core.Op.punish` -/
theorem newSequencerProposalHandler_skeleton : Gen.Core.L.newSequencerProposalHandler =
  ["func NewSequencerProposalHandler(k keeper.Keeper) govtypes.Handler",
   "  return func#1",
   "    func#1 (ctx sdk.Context, content govtypes.Content) error",
   "      switch c := content.(type)",
   "        case *types.PunishSequencerProposal",
   "          return HandlePunishSequencerProposal(ctx, k, c)",
   "        default",
   "          return types.ErrUnknownRequest"] := rfl

/-- `HandlePunishSequencerProposal` as mirrored by `Core.punishProposal`: `PunishSequencer` and nothing
    else (no fork, no role change) -/
theorem handlePunishSequencerProposal_skeleton : Gen.Core.L.handlePunishSequencerProposal =
  ["func HandlePunishSequencerProposal(ctx sdk.Context, k keeper.Keeper, p *types.PunishSequencerProposal) error",
   "  err := k.PunishSequencer(ctx, p.PunishSequencerAddress, p.MustRewardee())",
   "  if err != nil",
   "    return err",
   "  return nil"] := rfl

/-- x/sequencer `msgServer.UpdateParams` as mirrored by `Core.setSeqParams` -/
theorem msgUpdateSeqParams_skeleton : Gen.Core.L.msgUpdateSeqParams =
  ["func (k msgServer) UpdateParams(goCtx context.Context, msg *types.MsgUpdateParams) (*types.MsgUpdateParamsResponse, error)",
   "  if k.authority != msg.Authority",
   "    return nil, sdkerrors.ErrInvalidRequest",
   "  err := k.ValidateParams(ctx, msg.Params)",
   "  if err != nil",
   "    return nil, err",
   "  k.SetParams(ctx, msg.Params)",
   "  return &types.MsgUpdateParamsResponse{}, nil"] := rfl

/-- `Keeper.ValidateParams`: the kick threshold must not be 0 -/
theorem validateSeqParams_skeleton : Gen.Core.L.validateSeqParams =
  ["func (k Keeper) ValidateParams(_ sdk.Context, params types.Params) error",
   "  if params.DishonorKickThreshold == 0",
   "    return gerrc.ErrOutOfRange",
   "  return nil"] := rfl

/-- `Keeper.SetParams`: the whole set is replaced -/
theorem setSeqParamsK_skeleton : Gen.Core.L.setSeqParamsK =
  ["func (k Keeper) SetParams(ctx sdk.Context, params types.Params)",
   "  store := ctx.KVStore(k.storeKey)",
   "  bz := k.cdc.MustMarshal(&params)",
   "  store.Set(types.ParamsKey, bz)"] := rfl

/-- x/sequencer `Params.ValidateBasic` (run by `MsgUpdateParams.ValidateBasic`) -/
theorem seqParamsValidateBasic_skeleton : Gen.Core.L.seqParamsValidateBasic =
  ["func (p Params) ValidateBasic() error",
   "  err := validateTime(p.NoticePeriod)",
   "  if err != nil",
   "    return err",
   "  err := validateLivenessSlashMultiplier(p.LivenessSlashMinMultiplier)",
   "  if err != nil",
   "    return err",
   "  err := uparam.ValidateCoin(p.LivenessSlashMinAbsolute)",
   "  if err != nil",
   "    return err",
   "  err := uparam.ValidateUint64(p.DishonorKickThreshold)",
   "  if err != nil",
   "    return err",
   "  err := uparam.ValidateUint64(p.DishonorLiveness)",
   "  if err != nil",
   "    return err",
   "  err := uparam.ValidateUint64(p.DishonorKickThreshold)",
   "  if err != nil",
   "    return err",
   "  return nil"] := rfl

/-- `validateTime`: the notice period must be positive -/
theorem seqParamsValidateTime_skeleton : Gen.Core.L.seqParamsValidateTime =
  ["func validateTime(i interface{}) error",
   "  v, ok := i.(time.Duration)",
   "  if !ok",
   "    return fmt.Errorf(i)",
   "  if v <= 0",
   "    return fmt.Errorf(v)",
   "  return nil"] := rfl

/-- `validateLivenessSlashMultiplier`: within [0, 1] -/
theorem seqParamsValidateMultiplier_skeleton : Gen.Core.L.seqParamsValidateMultiplier =
  ["func validateLivenessSlashMultiplier(i interface{}) error",
   "  return uparam.ValidateZeroToOneDec(i)"] := rfl

/-- `PunishSequencerProposal.ProposalRoute` -/
theorem punishProposalRoute_skeleton : Gen.Core.L.punishProposalRoute =
  ["func (csp *PunishSequencerProposal) ProposalRoute() string",
   "  return RouterKey"] := rfl

/-- `PunishSequencerProposal.ValidateBasic` (only the v1beta1 submission path calls it; x/gov's
    `ExecLegacyContent` does not: a proposal without a rewardee is executable) -/
theorem punishProposalValidateBasic_skeleton : Gen.Core.L.punishProposalValidateBasic =
  ["func (csp *PunishSequencerProposal) ValidateBasic() error",
   "  err := govtypes.ValidateAbstract(csp)",
   "  if err != nil",
   "    return err",
   "  if len(csp.PunishSequencerAddress) == 0",
   "    return fmt.Errorf()",
   "  if len(csp.Rewardee) == 0",
   "    return fmt.Errorf()",
   "  return nil"] := rfl

/-- `PunishSequencerProposal.MustRewardee` as mirrored by the model (`rewardee : Option Addr`) -/
theorem punishProposalMustRewardee_skeleton : Gen.Core.L.punishProposalMustRewardee =
  ["func (csp PunishSequencerProposal) MustRewardee() *sdk.AccAddress",
   "  if csp.Rewardee == \"\"",
   "    return nil",
   "  rewardee, _ := sdk.AccAddressFromBech32(csp.Rewardee)",
   "  return &rewardee"] := rfl

/-- `Keeper.slash` as mirrored by the model -/
theorem slash_skeleton : Gen.Core.L.slash =
  ["func (k Keeper) slash(ctx sdk.Context, seq *types.Sequencer, amt sdk.Coin, rewardMul math.LegacyDec, rewardee sdk.AccAddress) error",
   "  rewardCoin := ucoin.MulDec(rewardMul, amt)[0]",
   "  if !rewardCoin.IsZero()",
   "    err := k.sendFromModule(ctx, seq, rewardCoin, rewardee)",
   "    if err != nil",
   "      return err",
   "  remainder := amt.Sub(rewardCoin)",
   "  err := k.burn(ctx, seq, remainder)",
   "  return err"] := rfl

/-- `Keeper.StartNoticePeriod` as mirrored by the model -/
theorem startNoticePeriod_skeleton : Gen.Core.L.startNoticePeriod =
  ["func (k Keeper) StartNoticePeriod(ctx sdk.Context, prop *types.Sequencer)",
   "  prop.NoticePeriodTime = ctx.BlockTime().Add(k.GetParams(ctx).NoticePeriod)",
   "  k.AddToNoticeQueue(ctx, *prop)"] := rfl

/-- `Keeper.NoticeElapsedProposers` as mirrored by the model -/
theorem noticeElapsedProposers_skeleton : Gen.Core.L.noticeElapsedProposers =
  ["func (k Keeper) NoticeElapsedProposers(ctx sdk.Context, endTime time.Time) ([]types.Sequencer, error)",
   "  return k.NoticeQueue(ctx, &endTime)"] := rfl

/-- `Keeper.ChooseSuccessorForFinishedNotices` as mirrored by the model -/
theorem chooseSuccessorForFinishedNotices_skeleton : Gen.Core.L.chooseSuccessorForFinishedNotices =
  ["func (k Keeper) ChooseSuccessorForFinishedNotices(ctx sdk.Context, now time.Time) error",
   "  seqs, err := k.NoticeElapsedProposers(ctx, now)",
   "  if err != nil",
   "    return err",
   "  for _, seq := range seqs",
   "    k.removeFromNoticeQueue(ctx, seq)",
   "    err := k.setSuccessorForRotatingRollapp(ctx, seq.RollappId)",
   "    if err != nil",
   "      return err",
   "    successor := k.GetSuccessor(ctx, seq.RollappId)",
   "  return nil"] := rfl

/-- `Keeper.RotationInProgress` as mirrored by the model -/
theorem rotationInProgress_skeleton : Gen.Core.L.rotationInProgress =
  ["func (k Keeper) RotationInProgress(ctx sdk.Context, rollapp string) bool",
   "  prop := k.GetProposer(ctx, rollapp)",
   "  return prop.NoticeInProgress(ctx.BlockTime()) || k.AwaitingLastProposerBlock(ctx, rollapp)"] := rfl

/-- `Keeper.AwaitingLastProposerBlock` as mirrored by the model -/
theorem awaitingLastProposerBlock_skeleton : Gen.Core.L.awaitingLastProposerBlock =
  ["func (k Keeper) AwaitingLastProposerBlock(ctx sdk.Context, rollapp string) bool",
   "  proposer := k.GetProposer(ctx, rollapp)",
   "  return proposer.NoticeElapsed(ctx.BlockTime())"] := rfl

/-- `Keeper.OnProposerLastBlock` as mirrored by the model -/
theorem onProposerLastBlock_skeleton : Gen.Core.L.onProposerLastBlock =
  ["func (k Keeper) OnProposerLastBlock(ctx sdk.Context, proposer types.Sequencer) error",
   "  allowLastBlock := proposer.NoticeElapsed(ctx.BlockTime())",
   "  if !allowLastBlock",
   "    return gerrc.ErrFault",
   "  rollapp := proposer.RollappId",
   "  successor := k.GetSuccessor(ctx, rollapp)",
   "  k.SetSuccessor(ctx, rollapp, types.SentinelSeqAddr)",
   "  k.SetProposer(ctx, rollapp, successor.Address)",
   "  if successor.Sentinel()",
   "    err := k.rollappKeeper.HardForkToLatest(ctx, rollapp)",
   "    if err != nil",
   "      return err",
   "  else",
   "    err := k.hooks.AfterSetRealProposer(ctx, rollapp, successor)",
   "    if err != nil",
   "      return err",
   "  return nil"] := rfl

/-- `Keeper.setSuccessorForRotatingRollapp` as mirrored by the model -/
theorem setSuccessorForRotatingRollapp_skeleton : Gen.Core.L.setSuccessorForRotatingRollapp =
  ["func (k Keeper) setSuccessorForRotatingRollapp(ctx sdk.Context, rollapp string) error",
   "  seqs := k.RollappPotentialProposers(ctx, rollapp)",
   "  successor, err := ProposerChoiceAlgo(seqs)",
   "  if err != nil",
   "    return err",
   "  k.SetSuccessor(ctx, rollapp, successor.Address)",
   "  return nil"] := rfl

/-- `ProposerChoiceAlgo` as mirrored by the model -/
theorem proposerChoiceAlgo_skeleton : Gen.Core.L.proposerChoiceAlgo =
  ["func ProposerChoiceAlgo(seqs []types.Sequencer) (types.Sequencer, error)",
   "  if len(seqs) == 0",
   "    return types.Sequencer{}, gerrc.ErrInternal",
   "  slices.SortStableFunc(seqs, func#1)",
   "    func#1 (a, b types.Sequencer) int",
   "      ca := a.TokensCoin()",
   "      cb := b.TokensCoin()",
   "      if ca.IsEqual(cb)",
   "        return 0",
   "      if ca.IsLT(cb)",
   "        return 1",
   "      return -1",
   "  return seqs[0], nil"] := rfl

/-- `Keeper.afterStateUpdate` as mirrored by the model -/
theorem afterStateUpdate_skeleton : Gen.Core.L.afterStateUpdate =
  ["func (k Keeper) afterStateUpdate(ctx sdk.Context, prop types.Sequencer, last bool) error",
   "  k.livenessHonor(ctx, &prop)",
   "  k.SetSequencer(ctx, prop)",
   "  if last",
   "    return k.OnProposerLastBlock(ctx, prop)",
   "  return nil"] := rfl

/-- `Keeper.abruptRemoveProposer` as mirrored by the model -/
theorem abruptRemoveProposer_skeleton : Gen.Core.L.abruptRemoveProposer =
  ["func (k Keeper) abruptRemoveProposer(ctx sdk.Context, rollapp string)",
   "  proposer := k.GetProposer(ctx, rollapp)",
   "  if proposer.Sentinel()",
   "    return",
   "  k.removeFromNoticeQueue(ctx, proposer)",
   "  k.unbond(ctx, &proposer)",
   "  k.SetSequencer(ctx, proposer)",
   "  k.SetProposer(ctx, rollapp, types.SentinelSeqAddr)"] := rfl

/-- `Keeper.optOutAllSequencers` as mirrored by the model -/
theorem optOutAllSequencers_skeleton : Gen.Core.L.optOutAllSequencers =
  ["func (k Keeper) optOutAllSequencers(ctx sdk.Context, rollapp string) error",
   "  seqs := k.RollappSequencers(ctx, rollapp)",
   "  for _, seq := range seqs",
   "    err := seq.SetOptedIn(ctx, false)",
   "    if err != nil",
   "      return err",
   "    k.SetSequencer(ctx, seq)",
   "  return nil"] := rfl

/-- `Keeper.RollappPotentialProposers` as mirrored by the model -/
theorem rollappPotentialProposers_skeleton : Gen.Core.L.rollappPotentialProposers =
  ["func (k Keeper) RollappPotentialProposers(ctx sdk.Context, rollappId string) []types.Sequencer",
   "  seqs := k.RollappBondedSequencers(ctx, rollappId)",
   "  seqs = slices.DeleteFunc(seqs, func#1)",
   "    func#1 (seq types.Sequencer) bool",
   "      return !seq.IsPotentialProposer()",
   "  return append(seqs, k.SentinelSequencer(ctx))"] := rfl

/-- `Keeper.RecoverFromSentinel` as mirrored by the model -/
theorem recoverFromSentinel_skeleton : Gen.Core.L.recoverFromSentinel =
  ["func (k Keeper) RecoverFromSentinel(ctx sdk.Context, rollapp string) error",
   "  proposer := k.GetProposer(ctx, rollapp)",
   "  if !proposer.Sentinel()",
   "    return gerrc.ErrFailedPrecondition",
   "  successor, err := ProposerChoiceAlgo(k.RollappPotentialProposers(ctx, rollapp))",
   "  if err != nil",
   "    return err",
   "  if successor.Sentinel()",
   "    return gerrc.ErrFailedPrecondition",
   "  k.SetProposer(ctx, rollapp, successor.Address)",
   "  err = k.hooks.AfterSetRealProposer(ctx, rollapp, successor)",
   "  if err != nil",
   "    return err",
   "  return nil"] := rfl

/-- `Keeper.IsProposer` as mirrored by the model -/
theorem isProposerL_skeleton : Gen.Core.L.isProposerL =
  ["func (k Keeper) IsProposer(ctx sdk.Context, seq types.Sequencer) bool",
   "  return seq.Address == k.GetProposer(ctx, seq.RollappId).Address"] := rfl

/-- `Keeper.IsSuccessor` as mirrored by the model -/
theorem isSuccessorL_skeleton : Gen.Core.L.isSuccessorL =
  ["func (k Keeper) IsSuccessor(ctx sdk.Context, seq types.Sequencer) bool",
   "  return seq.Address == k.GetSuccessor(ctx, seq.RollappId).Address"] := rfl

/-- `rollappHook.BeforeUpdateState` as mirrored by the model -/
theorem hookBeforeUpdateState_skeleton : Gen.Core.L.hookBeforeUpdateState =
  ["func (hook rollappHook) BeforeUpdateState(ctx sdk.Context, seqAddr, rollappId string, lastStateUpdateBySequencer bool) error",
   "  proposer := hook.k.GetProposer(ctx, rollappId)",
   "  if seqAddr != proposer.Address",
   "    return types.ErrNotProposer",
   "  if lastStateUpdateBySequencer && !hook.k.AwaitingLastProposerBlock(ctx, rollappId)",
   "    return gerrc.ErrInvalidArgument",
   "  return nil"] := rfl

/-- `rollappHook.AfterUpdateState` as mirrored by the model -/
theorem hookAfterUpdateState_skeleton : Gen.Core.L.hookAfterUpdateState =
  ["func (hook rollappHook) AfterUpdateState(ctx sdk.Context, stateInfo *rollapptypes.StateInfoMeta) error",
   "  proposer := hook.k.GetProposer(ctx, stateInfo.Rollapp)",
   "  return hook.k.afterStateUpdate(ctx, proposer, stateInfo.Sequencer != stateInfo.NextProposer)"] := rfl

/-- `rollappHook.OnHardFork` as mirrored by the model -/
theorem hookOnHardFork_skeleton : Gen.Core.L.hookOnHardFork =
  ["func (hook rollappHook) OnHardFork(ctx sdk.Context, rollappID string, _ uint64) error",
   "  err := hook.k.optOutAllSequencers(ctx, rollappID)",
   "  if err != nil",
   "    return err",
   "  hook.k.abruptRemoveProposer(ctx, rollappID)",
   "  hook.k.SetSuccessor(ctx, rollappID, types.SentinelSeqAddr)",
   "  return nil"] := rfl

/-- `msgServer.IncreaseBond` as mirrored by the model -/
theorem msgIncreaseBond_skeleton : Gen.Core.L.msgIncreaseBond =
  ["func (k msgServer) IncreaseBond(goCtx context.Context, msg *types.MsgIncreaseBond) (*types.MsgIncreaseBondResponse, error)",
   "  seq, err := k.RealSequencer(ctx, msg.GetCreator())",
   "  if err != nil",
   "    return nil, err",
   "  err := validBondDenom(msg.AddAmount)",
   "  if err != nil",
   "    return nil, err",
   "  err := k.sendToModule(ctx, &seq, msg.AddAmount)",
   "  if err != nil",
   "    return nil, err",
   "  k.SetSequencer(ctx, seq)",
   "  return &types.MsgIncreaseBondResponse{}, <noise>"] := rfl

/-- `msgServer.DecreaseBond` as mirrored by the model -/
theorem msgDecreaseBond_skeleton : Gen.Core.L.msgDecreaseBond =
  ["func (k msgServer) DecreaseBond(goCtx context.Context, msg *types.MsgDecreaseBond) (*types.MsgDecreaseBondResponse, error)",
   "  seq, err := k.RealSequencer(ctx, msg.GetCreator())",
   "  if err != nil",
   "    return nil, err",
   "  err := k.TryUnbond(ctx, &seq, msg.GetDecreaseAmount())",
   "  if err != nil",
   "    return nil, err",
   "  k.SetSequencer(ctx, seq)",
   "  return &types.MsgDecreaseBondResponse{}, nil"] := rfl

/-- `msgServer.Unbond` as mirrored by the model -/
theorem msgUnbond_skeleton : Gen.Core.L.msgUnbond =
  ["func (k msgServer) Unbond(goCtx context.Context, msg *types.MsgUnbond) (*types.MsgUnbondResponse, error)",
   "  seq, err := k.RealSequencer(ctx, msg.Creator)",
   "  if err != nil",
   "    return nil, err",
   "  if k.AwaitingLastProposerBlock(ctx, seq.RollappId) && (k.IsProposer(ctx, seq) || k.IsSuccessor(ctx, seq))",
   "    return nil, gerrc.ErrFailedPrecondition",
   "  err := seq.SetOptedIn(ctx, false)",
   "  if err != nil",
   "    return nil, err",
   "  if k.IsProposer(ctx, seq)",
   "    if !k.rollappKeeper.ForkLatestAllowed(ctx, seq.RollappId)",
   "      return nil, gerrc.ErrFailedPrecondition",
   "    if seq.NoticeInProgress(ctx.BlockTime())",
   "      return nil, gerrc.ErrFailedPrecondition",
   "    k.StartNoticePeriod(ctx, &seq)",
   "    k.SetSequencer(ctx, seq)",
   "    return &types.MsgUnbondResponse{CompletionTime: &types.MsgUnbondResponse_NoticePeriodCompletionTime{NoticePeriodCompletionTime: &seq.NoticePeriodTime}}, nil",
   "  err = k.TryUnbond(ctx, &seq, seq.TokensCoin())",
   "  if err != nil",
   "    return nil, err",
   "  k.SetSequencer(ctx, seq)",
   "  return &types.MsgUnbondResponse{}, nil"] := rfl

/-- `msgServer.CreateSequencer` as mirrored by the model -/
theorem msgCreateSequencer_skeleton : Gen.Core.L.msgCreateSequencer =
  ["func (k msgServer) CreateSequencer(goCtx context.Context, msg *types.MsgCreateSequencer) (*types.MsgCreateSequencerResponse, error)",
   "  rollapp, found := k.rollappKeeper.GetRollapp(ctx, msg.RollappId)",
   "  if !found",
   "    return nil, rollapptypes.ErrRollappNotFound",
   "  _, err := k.RealSequencer(ctx, msg.Creator)",
   "  if err == nil",
   "    return nil, types.ErrSequencerAlreadyExists",
   "  pkAddr, err := types.PubKeyAddr(msg.DymintPubKey)",
   "  if err != nil",
   "    return nil, err",
   "  _, err := k.SequencerByDymintAddr(ctx, pkAddr)",
   "  if err == nil",
   "    return nil, gerrc.ErrAlreadyExists",
   "  err := k.sufficientBond(ctx, msg.RollappId, msg.Bond)",
   "  if err != nil",
   "    return nil, err",
   "  err := msg.VMSpecificValidate(rollapp.VmType)",
   "  if err != nil",
   "    return nil, err",
   "  if !rollapp.Launched",
   "    isInitialSeq := slices.Contains(strings.Split(rollapp.InitialSequencer, \",\"), msg.Creator)",
   "    anyAllowed := rollapp.InitialSequencer == \"*\"",
   "    if !anyAllowed && !isInitialSeq",
   "      return nil, types.ErrNotInitialSequencer",
   "    if rollapp.PreLaunchTime != nil && rollapp.PreLaunchTime.After(ctx.BlockTime())",
   "      return nil, types.ErrBeforePreLaunchTime",
   "    err := k.rollappKeeper.SetRollappAsLaunched(ctx, &rollapp)",
   "    if err != nil",
   "      return nil, err",
   "  seq := k.NewSequencer(ctx, msg.RollappId)",
   "  rewardAddr := msg.RewardAddr",
   "  if msg.RewardAddr == \"\"",
   "    rewardAddr = msg.Creator",
   "  seq.RewardAddr = rewardAddr",
   "  seq.DymintPubKey = msg.DymintPubKey",
   "  seq.Address = msg.Creator",
   "  seq.Status = types.Bonded",
   "  seq.Metadata = msg.Metadata",
   "  seq.OptedIn = true",
   "  seq.SetWhitelistedRelayers(msg.WhitelistedRelayers)",
   "  err := k.sendToModule(ctx, seq, msg.Bond)",
   "  if err != nil",
   "    return nil, err",
   "  k.SetSequencer(ctx, *seq)",
   "  err := k.SetSequencerByDymintAddr(ctx, pkAddr, seq.Address)",
   "  if err != nil",
   "    return nil, err",
   "  proposer := k.GetProposer(ctx, msg.RollappId)",
   "  if proposer.Sentinel()",
   "    err := k.RecoverFromSentinel(ctx, msg.RollappId)",
   "    if err != nil",
   "      return nil, err",
   "  return &types.MsgCreateSequencerResponse{}, nil"] := rfl

/-- `msgServer.KickProposer` as mirrored by the model -/
theorem msgKickProposer_skeleton : Gen.Core.L.msgKickProposer =
  ["func (k msgServer) KickProposer(goCtx context.Context, msg *types.MsgKickProposer) (*types.MsgKickProposerResponse, error)",
   "  kicker, err := k.RealSequencer(ctx, msg.GetCreator())",
   "  if err != nil",
   "    return nil, err",
   "  err := k.Keeper.TryKickProposer(ctx, kicker)",
   "  if err != nil",
   "    return nil, err",
   "  return &types.MsgKickProposerResponse{}, nil"] := rfl

/-- `msgServer.UpdateOptInStatus` as mirrored by the model -/
theorem msgUpdateOptInStatus_skeleton : Gen.Core.L.msgUpdateOptInStatus =
  ["func (k msgServer) UpdateOptInStatus(goCtx context.Context, msg *types.MsgUpdateOptInStatus) (*types.MsgUpdateOptInStatus, error)",
   "  seq, err := k.RealSequencer(ctx, msg.Creator)",
   "  if err != nil",
   "    return nil, err",
   "  if seq.NoticeStarted()",
   "    return nil, gerrc.ErrFailedPrecondition",
   "  err := seq.SetOptedIn(ctx, msg.OptedIn)",
   "  if err != nil",
   "    return nil, err",
   "  k.SetSequencer(ctx, seq)",
   "  proposer := k.GetProposer(ctx, seq.RollappId)",
   "  if proposer.Sentinel()",
   "    err := k.RecoverFromSentinel(ctx, seq.RollappId)",
   "    if err != nil",
   "      return nil, err",
   "  return &types.MsgUpdateOptInStatus{}, nil"] := rfl

/-- `Keeper.SetSequencer` as mirrored by the model -/
theorem setSequencer_skeleton : Gen.Core.L.setSequencer =
  ["func (k Keeper) SetSequencer(ctx sdk.Context, seq types.Sequencer)",
   "  store := ctx.KVStore(k.storeKey)",
   "  b := k.cdc.MustMarshal(&seq)",
   "  store.Set(types.SequencerKey(seq.Address), b)",
   "  for _, status := range types.AllStatus",
   "    oldKey := types.SequencerByRollappByStatusKey(seq.RollappId, seq.Address, status)",
   "    ctx.KVStore(k.storeKey).Delete(oldKey)",
   "  seqByRollappKey := types.SequencerByRollappByStatusKey(seq.RollappId, seq.Address, seq.Status)",
   "  store.Set(seqByRollappKey, b)"] := rfl

/-- `Keeper.SetProposer` as mirrored by the model -/
theorem setProposer_skeleton : Gen.Core.L.setProposer =
  ["func (k Keeper) SetProposer(ctx sdk.Context, rollapp, seqAddr string)",
   "  store := ctx.KVStore(k.storeKey)",
   "  addressBytes := []byte(seqAddr)",
   "  activeKey := types.ProposerByRollappKey(rollapp)",
   "  store.Set(activeKey, addressBytes)"] := rfl

/-- `Keeper.SetSuccessor` as mirrored by the model -/
theorem setSuccessor_skeleton : Gen.Core.L.setSuccessor =
  ["func (k Keeper) SetSuccessor(ctx sdk.Context, rollapp, seqAddr string)",
   "  store := ctx.KVStore(k.storeKey)",
   "  addressBytes := []byte(seqAddr)",
   "  nextProposerKey := types.SuccessorByRollappKey(rollapp)",
   "  store.Set(nextProposerKey, addressBytes)"] := rfl

/-- `Keeper.AddToNoticeQueue` as mirrored by the model -/
theorem addToNoticeQueue_skeleton : Gen.Core.L.addToNoticeQueue =
  ["func (k Keeper) AddToNoticeQueue(ctx sdk.Context, seq types.Sequencer)",
   "  store := ctx.KVStore(k.storeKey)",
   "  noticePeriodKey := types.NoticeQueueBySeqTimeKey(seq.Address, seq.NoticePeriodTime)",
   "  store.Set(noticePeriodKey, []byte(seq.Address))"] := rfl

/-- `Keeper.removeFromNoticeQueue` as mirrored by the model -/
theorem removeFromNoticeQueue_skeleton : Gen.Core.L.removeFromNoticeQueue =
  ["func (k Keeper) removeFromNoticeQueue(ctx sdk.Context, seq types.Sequencer)",
   "  store := ctx.KVStore(k.storeKey)",
   "  noticePeriodKey := types.NoticeQueueBySeqTimeKey(seq.Address, seq.NoticePeriodTime)",
   "  store.Delete(noticePeriodKey)"] := rfl

/-- `Keeper.RollappSequencers` as mirrored by the model -/
theorem rollappSequencers_skeleton : Gen.Core.L.rollappSequencers =
  ["func (k Keeper) RollappSequencers(ctx sdk.Context, rollappId string) []types.Sequencer",
   "  return k.prefixSequencers(ctx, types.SequencersByRollappKey(rollappId))"] := rfl

/-- `Keeper.RollappBondedSequencers` as mirrored by the model -/
theorem rollappBondedSequencers_skeleton : Gen.Core.L.rollappBondedSequencers =
  ["func (k Keeper) RollappBondedSequencers(ctx sdk.Context, rollappId string) []types.Sequencer",
   "  return k.RollappSequencersByStatus(ctx, rollappId, types.Bonded)"] := rfl

/-- `Keeper.GetSequencer` as mirrored by the model -/
theorem getSequencer_skeleton : Gen.Core.L.getSequencer =
  ["func (k Keeper) GetSequencer(ctx sdk.Context, addr string) types.Sequencer",
   "  seq, err := k.RealSequencer(ctx, addr)",
   "  if err != nil",
   "    return k.SentinelSequencer(ctx)",
   "  return seq"] := rfl

/-- `Keeper.RealSequencer` as mirrored by the model -/
theorem realSequencer_skeleton : Gen.Core.L.realSequencer =
  ["func (k Keeper) RealSequencer(ctx sdk.Context, addr string) (types.Sequencer, error)",
   "  store := ctx.KVStore(k.storeKey)",
   "  b := store.Get(types.SequencerKey(addr))",
   "  if b == nil",
   "    return types.Sequencer{}, types.ErrSequencerNotFound",
   "  ret := types.Sequencer{}",
   "  k.cdc.MustUnmarshal(b, &ret)",
   "  return ret, nil"] := rfl

/-- `Keeper.GetProposer` as mirrored by the model -/
theorem getProposer_skeleton : Gen.Core.L.getProposer =
  ["func (k Keeper) GetProposer(ctx sdk.Context, rollapp string) types.Sequencer",
   "  store := ctx.KVStore(k.storeKey)",
   "  bz := store.Get(types.ProposerByRollappKey(rollapp))",
   "  if bz == nil",
   "    return k.SentinelSequencer(ctx)",
   "  return k.GetSequencer(ctx, string(bz))"] := rfl

/-- `Keeper.GetSuccessor` as mirrored by the model -/
theorem getSuccessor_skeleton : Gen.Core.L.getSuccessor =
  ["func (k Keeper) GetSuccessor(ctx sdk.Context, rollapp string) types.Sequencer",
   "  store := ctx.KVStore(k.storeKey)",
   "  bz := store.Get(types.SuccessorByRollappKey(rollapp))",
   "  if bz == nil",
   "    return k.SentinelSequencer(ctx)",
   "  return k.GetSequencer(ctx, string(bz))"] := rfl

/-- `Keeper.NoticeQueue` as mirrored by the model -/
theorem noticeQueue_skeleton : Gen.Core.L.noticeQueue =
  ["func (k Keeper) NoticeQueue(ctx sdk.Context, endTime *time.Time) ([]types.Sequencer, error)",
   "  ret := []types.Sequencer{}",
   "  store := ctx.KVStore(k.storeKey)",
   "  prefix := types.NoticePeriodQueueKey",
   "  if endTime != nil",
   "    prefix = types.NoticeQueueByTimeKey(*endTime)",
   "  iterator := store.Iterator(types.NoticePeriodQueueKey, storetypes.PrefixEndBytes(prefix))",
   "  defer iterator.Close()",
   "  for ; iterator.Valid(); iterator.Next()",
   "    addr := string(iterator.Value())",
   "    seq, err := k.RealSequencer(ctx, string(iterator.Value()))",
   "    if err != nil",
   "      return nil, gerrc.ErrInternal",
   "    ret = append(ret, seq)",
   "  return ret, nil"] := rfl

/-- `Keeper.SentinelSequencer` as mirrored by the model -/
theorem sentinelSequencer_skeleton : Gen.Core.L.sentinelSequencer =
  ["func (k Keeper) SentinelSequencer(ctx sdk.Context) types.Sequencer",
   "  s := k.NewSequencer(ctx, \"\")",
   "  s.Status = types.Bonded",
   "  s.Address = types.SentinelSeqAddr",
   "  s.OptedIn = true",
   "  return *s"] := rfl

/-- `Keeper.NewSequencer` as mirrored by the model -/
theorem newSequencer_skeleton : Gen.Core.L.newSequencer =
  ["func (k Keeper) NewSequencer(ctx sdk.Context, rollapp string) *types.Sequencer",
   "  return &types.Sequencer{RollappId: rollapp, Tokens: sdk.Coins{sdk.NewCoin(commontypes.DYMCoin.Denom, math.NewInt(0))}}"] := rfl

/-- `AppModule.BeginBlock` as mirrored by the model -/
theorem sequencerBeginBlock_skeleton : Gen.Core.L.sequencerBeginBlock =
  ["func (am AppModule) BeginBlock(goCtx context.Context) error",
   "  err := am.keeper.ChooseSuccessorForFinishedNotices(ctx, ctx.BlockTime())",
   "  if err != nil",
   "    return err",
   "  return nil"] := rfl

/-- `Sequencer.SetOptedIn` as mirrored by the model -/
theorem seqSetOptedIn_skeleton : Gen.Core.L.seqSetOptedIn =
  ["func (seq *Sequencer) SetOptedIn(ctx sdk.Context, x bool) error",
   "  seq.OptedIn = x",
   "  return nil"] := rfl

/-- `Sequencer.Sentinel` as mirrored by the model -/
theorem seqSentinelL_skeleton : Gen.Core.L.seqSentinelL =
  ["func (seq Sequencer) Sentinel() bool",
   "  return seq.Address == SentinelSeqAddr"] := rfl

/-- `Sequencer.Bonded` as mirrored by the model -/
theorem seqBondedL_skeleton : Gen.Core.L.seqBondedL =
  ["func (seq Sequencer) Bonded() bool",
   "  return seq.Status == Bonded"] := rfl

/-- `Sequencer.IsPotentialProposer` as mirrored by the model -/
theorem seqIsPotentialProposerL_skeleton : Gen.Core.L.seqIsPotentialProposerL =
  ["func (seq Sequencer) IsPotentialProposer() bool",
   "  return seq.Bonded() && seq.OptedIn"] := rfl

/-- `Sequencer.TokensCoin` as mirrored by the model -/
theorem seqTokensCoin_skeleton : Gen.Core.L.seqTokensCoin =
  ["func (seq Sequencer) TokensCoin() sdk.Coin",
   "  return seq.Tokens[0]"] := rfl

/-- `Sequencer.SetTokensCoin` as mirrored by the model -/
theorem seqSetTokensCoin_skeleton : Gen.Core.L.seqSetTokensCoin =
  ["func (seq Sequencer) SetTokensCoin(c sdk.Coin)",
   "  seq.Tokens[0] = c"] := rfl

/-- `Sequencer.NoticeInProgress` as mirrored by the model -/
theorem seqNoticeInProgressL_skeleton : Gen.Core.L.seqNoticeInProgressL =
  ["func (seq Sequencer) NoticeInProgress(now time.Time) bool",
   "  return seq.NoticeStarted() && !seq.NoticeElapsed(now)"] := rfl

/-- `Sequencer.NoticeElapsed` as mirrored by the model -/
theorem seqNoticeElapsedL_skeleton : Gen.Core.L.seqNoticeElapsedL =
  ["func (seq Sequencer) NoticeElapsed(now time.Time) bool",
   "  return seq.NoticeStarted() && !now.Before(seq.NoticePeriodTime)"] := rfl

/-- `Sequencer.NoticeStarted` as mirrored by the model -/
theorem seqNoticeStartedL_skeleton : Gen.Core.L.seqNoticeStartedL =
  ["func (seq Sequencer) NoticeStarted() bool",
   "  return seq.NoticePeriodTime != time.Time{}"] := rfl

/-- `MsgCreateSequencer.ValidateBasic` as mirrored by the model -/
theorem msgCreateSequencerValidateBasic_skeleton : Gen.Core.L.msgCreateSequencerValidateBasic =
  ["func (msg *MsgCreateSequencer) ValidateBasic() error",
   "  _, err := sdk.AccAddressFromBech32(msg.Creator)",
   "  if err != nil",
   "    return ErrInvalidAddr",
   "  if msg.DymintPubKey == nil",
   "    return ErrInvalidPubKey",
   "  _, err = codectypes.NewAnyWithValue(msg.DymintPubKey)",
   "  if err != nil",
   "    return ErrInvalidPubKey",
   "  pk, ok := msg.DymintPubKey.GetCachedValue().(cryptotypes.PubKey)",
   "  if !ok",
   "    return errorsmod.WithType(ErrInvalidPubKey, pk)",
   "  _, err = edwards.ParsePubKey(edwards.Edwards(), pk.Bytes())",
   "  if err != nil",
   "    return ErrInvalidPubKey",
   "  err = msg.Metadata.Validate()",
   "  if err != nil",
   "    return ErrInvalidMetadata",
   "  if !msg.Bond.IsValid() || msg.Bond.IsZero()",
   "    return ErrInvalidCoins",
   "  if msg.RewardAddr != \"\"",
   "    _, err = sdk.AccAddressFromBech32(msg.RewardAddr)",
   "    if err != nil",
   "      return errors.Join(gerrc.ErrInvalidArgument, err)",
   "  err = ValidateWhitelistedRelayers(msg.WhitelistedRelayers)",
   "  if err != nil",
   "    return errors.Join(gerrc.ErrInvalidArgument, err)",
   "  return nil"] := rfl

/-- `MsgIncreaseBond.ValidateBasic` as mirrored by the model -/
theorem msgIncreaseBondValidateBasic_skeleton : Gen.Core.L.msgIncreaseBondValidateBasic =
  ["func (msg *MsgIncreaseBond) ValidateBasic() error",
   "  _, err := sdk.AccAddressFromBech32(msg.Creator)",
   "  if err != nil",
   "    return ErrInvalidAddr",
   "  if !(msg.AddAmount.IsValid() && msg.AddAmount.IsPositive())",
   "    return ErrInvalidCoins",
   "  return nil"] := rfl

/-- `MsgDecreaseBond.ValidateBasic` as mirrored by the model -/
theorem msgDecreaseBondValidateBasic_skeleton : Gen.Core.L.msgDecreaseBondValidateBasic =
  ["func (msg *MsgDecreaseBond) ValidateBasic() error",
   "  _, err := sdk.AccAddressFromBech32(msg.Creator)",
   "  if err != nil",
   "    return ErrInvalidAddr",
   "  if !(msg.DecreaseAmount.IsValid() && msg.DecreaseAmount.IsPositive())",
   "    return ErrInvalidCoins",
   "  return nil"] := rfl

end DymVerif.GenEq.Core
