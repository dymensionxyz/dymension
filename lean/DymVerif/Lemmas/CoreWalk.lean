/-
  Lemmas/CoreWalk — invariants of the form "every rollapp record satisfies `Q`" (`RaAll Q`), for any `Q` closed
  under the ways a write rewrites a record (`RaClosed Q`): a change of other fields, `NextProposer` of the latest
  state, an appended state, a fork, a finalized state, a new owner the bank accepts.  Each elementary write other
  than the creation of a rollapp keeps `RaAll Q` (`RaClosed.write`), hence so does every accepted op
  (`RaClosed.apply`); the record a new rollapp starts from is left to the caller.
-/
import DymVerif.Lemmas.CoreWrite
namespace DymVerif.Core

structure RaClosed (Q : Rollapp → Prop) : Prop where
  fields : ∀ {r r' : Rollapp}, Q r → r'.states = r.states → r'.owner = r.owner → Q r'
  next : ∀ {r : Rollapp} (n : NextP), Q r → Q { r with states := setLastNext r.states n }
  append : ∀ {r : Rollapp} (s : St) (m : UpdMsg) (n : NextP), Q r → updValidateBasic m = .ok () → updPre r m = .ok () →
    Q { r with states := r.states ++ [newSInfo s m n] }
  fork : ∀ {r : Rollapp} {n keep : Nat} {kst : SInfo}, Q r → revertPlan r n = .ok (keep, kst) → Q (forkedRollapp r keep kst)
  fin : ∀ {r : Rollapp} {st : SInfo} (i h lf : Nat), Q r → r.states[i]? = some st →
    Q { r with states := r.states.set i { st with finalized := true, finalizedAt := h }, lastFin := lf }
  owner : ∀ {r : Rollapp} (no : Addr), Q r → blockedAddr no = false → Q { r with owner := no }

namespace RaClosed
variable {Q : Rollapp → Prop} (hc : RaClosed Q)
include hc

/-- writing back a record read from the state with other fields changed -/
theorem setRa {s : St} {id : Nat} {r r' : Rollapp} (h : RaAll Q s) (hg : getRa s id = some r)
    (e1 : r'.states = r.states) (e2 : r'.owner = r.owner) : RaAll Q (setRa s r') :=
  h.setRa (hc.fields (h.get hg) e1 e2)

theorem indicateLiveness {s : St} {r : Rollapp} (h : RaAll Q s) (hr : Q r) : RaAll Q (indicateLiveness s r) := by
  unfold Core.indicateLiveness resetClock scheduleEvent
  exact RaAll.setRa (h.of_ras_eq rfl) (hc.fields hr rfl rfl)

/-- the role writers of x/sequencer only make field rewrites of rollapp records -/
theorem role (ra : Nat) : RoleClosed (RaAll Q) ra where
  clearProposer hg h := hc.setRa h hg rfl rfl
  clearSuccessor hg h := hc.setRa h hg rfl rfl
  unbond _ h := h.of_ras_eq rfl
  optOut h := h.of_ras_eq rfl
  nq q h := h.of_ras_eq (removeFromNoticeQueue_ras _ q)

theorem write {k : Kind} {b b' : St} (w : Write k b b') (hk : k ≠ .ra .newRa) (h : RaAll Q b) : RaAll Q b' := by
  cases w with
  | sq w => exact h.of_ras_eq w.raSide.ras
  | aux w => exact h.of_ras_eq w.same.1
  | abrupt ra => exact (hc.role ra).abruptRemoveProposer h
  | ra w =>
    cases w with
    | newRa => exact absurd rfl hk
    | launch hg | bridge _ _ hg | vacate hg | succ hg => exact hc.setRa h hg rfl rfl
    | owner no hg hnb => exact h.setRa (hc.owner no (h.get hg) hnb)
    | recover a hg | rotate a hg =>
      refine hc.indicateLiveness (h.setRa ?_) ?_ <;> exact hc.fields (hc.next (.addr a) (h.get hg)) rfl rfl
    | append m hg hvb _ _ hpre => exact h.setRa (hc.append b m _ (h.get hg) hvb hpre)
    | indicate hg => exact hc.indicateLiveness h (h.get hg)
    | revert ra lv keep kst hg _ _ hplan =>
      unfold afterRevert resetClock
      exact RaAll.setRa (h.of_ras_eq rfl) (hc.fields (hc.fork (h.get hg) hplan) rfl rfl)
    | resched ra hg => unfold scheduleEvent; exact RaAll.setRa (h.of_ras_eq rfl) (hc.fields (h.get hg) rfl rfl)
    | fin fails ra i e =>
      obtain ⟨_, _, r, st, hg, hst, _, rfl⟩ := finalizeOne_ok e
      exact RaAll.setRa (h.of_ras_eq rfl) (hc.fin _ _ _ (h.get hg) hst)
    | clearSucc ra => exact (hc.role ra).setSuccessor h

theorem writes {ks : List Kind} (hk : Kind.ra .newRa ∉ ks) {s s' : St} (w : Writes ks s s') (h : RaAll Q s) : RaAll Q s' :=
  w.inv (fun hk' w hb => hc.write w (fun e => hk (e ▸ hk')) hb) h

/-- every accepted transition; only `createRollapp` has a `newRa` write in its footprint -/
theorem apply {s s' : St} {o : Op} (h : RaAll Q s) (e : apply s o = .ok s')
    (hnew : ∀ id ow mb, o = .createRollapp id ow mb → Q (newRollapp id ow mb)) : RaAll Q s' := by
  by_cases hn : Kind.ra .newRa ∈ o.kinds
  · obtain ⟨id, ow, mb, rfl⟩ := Op.newRa_kinds hn
    obtain ⟨_, rfl⟩ := apply_createRollapp_ok e
    exact h.insert (hnew id ow mb rfl)
  · exact hc.writes hn (apply_writes e) h

theorem handleLivenessEvent {s : St} {ra : Nat} (h : RaAll Q s) : RaAll Q (handleLivenessEvent s ra) :=
  hc.writes (by decide) (handleLivenessEvent_writes s ra) h

end RaClosed
end DymVerif.Core
