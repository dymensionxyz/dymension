/-
  Lemmas/PacketsIndex — the pending-by-address index of M-Packets is exact in every history: it lists
  every pending packet under its current beneficiary (the fulfiller / LP after a fulfilment) and
  nothing else.

  The proof needs that a newly recorded packet never lands on a key already in the store; this is
  where C19's injectivity of the packet key enters (rollapp and channel ids without '/', uint64
  heights and sequences), together with the channel table being well formed (one canonical channel
  per rollapp).  Here: the invariant `IdxInv` and what each write does to it — the cases of `idx_tr`
  (Lemmas/PacketsStep), which carries it through every operation.
-/
import DymVerif.Lemmas.PacketsOnceOps
import DymVerif.Props.C19
namespace DymVerif.Packets
open DymVerif DymVerif.Keys

def raIds (s : St) : List Bytes := s.ras.map (·.id)

theorem chanRollapp_ids {s s' : St} (h1 : s'.chans = s.chans) (h2 : raIds s' = raIds s) (c : Nat) :
    chanRollapp s' c = chanRollapp s c := by
  unfold chanRollapp
  rw [h1]
  cases s.chans[c]? with
  | none => rfl
  | some ch =>
    simp only
    cases ch.rollapp with
    | none => rfl
    | some r =>
      simp only
      have e : (s'.ras[r]?).map (·.id) = (s.ras[r]?).map (·.id) := by
        have := congrArg (fun l => l[r]?) h2
        simpa [raIds, List.getElem?_map] using this
      cases h3 : s'.ras[r]? with
      | none =>
        cases h4 : s.ras[r]? with
        | none => rfl
        | some y => rw [h3, h4] at e; cases e
      | some x =>
        cases h4 : s.ras[r]? with
        | none => rw [h3, h4] at e; cases e
        | some y =>
          rw [h3, h4] at e
          have : x.id = y.id := by simpa using e
          simp only [this]

theorem raIds_setRa (s : St) (r : Rollapp) : raIds (setRa s r) = raIds s := by
  unfold raIds setRa
  simp only [List.map_map]
  apply List.map_congr_left
  intro x _
  simp only [Function.comp]
  split
  · rename_i h; simpa using (by simpa using h : x.id = r.id).symm
  · rfl

/-- the channel table is well formed -/
structure CfgOk (s : St) : Prop where
  raSep : ∀ id ∈ raIds s, sep ∉ id
  chSep : ∀ c ∈ s.chans, sep ∉ c.cpId ∧ sep ∉ c.hubId
  canon : ∀ i j rid, chanRollapp s i = .ok (some rid) → chanRollapp s j = .ok (some rid) → i = j
  raNe : ∀ id ∈ raIds s, id ≠ []
  chNe : ∀ c ∈ s.chans, c.cpId ≠ [] ∧ c.hubId ≠ []

theorem CfgOk.congr {s s' : St} (h1 : s'.chans = s.chans) (h2 : raIds s' = raIds s) (h : CfgOk s) : CfgOk s' where
  raSep := by rw [h2]; exact h.raSep
  chSep := by rw [h1]; exact h.chSep
  canon := by
    intro i j rid hi hj
    rw [chanRollapp_ids h1 h2] at hi hj
    exact h.canon i j rid hi hj
  raNe := by rw [h2]; exact h.raNe
  chNe := by rw [h1]; exact h.chNe

/-- a stored packet agrees with the channel table, has uint64 height and sequence, and one of the three
    real packet types (the middleware records ON_RECV / ON_ACK / ON_TIMEOUT only; C18's delayedack
    genesis model needs it: `InitGenesis` indexes no packet of the UNDEFINED type) -/
def PktOk (s : St) (q : Packet) : Prop :=
  chanRollapp s q.chan = .ok (some q.rollappId) ∧
  q.srcChan = (if q.ptype == .onRecv then cpIdOf s q.chan else hubIdOf s q.chan) ∧
  q.proofHeight < 2 ^ 64 ∧ q.seq < 2 ^ 64 ∧ q.ptype ≠ .undefined

theorem PktOk.congr {s s' : St} (h1 : s'.chans = s.chans) (h2 : raIds s' = raIds s) {q : Packet} (h : PktOk s q) : PktOk s' q := by
  unfold PktOk at *
  rw [chanRollapp_ids h1 h2]
  unfold cpIdOf hubIdOf at *
  rw [h1]; exact h

theorem chanRollapp_some {s : St} {c : Nat} {rid : Bytes} (h : chanRollapp s c = .ok (some rid)) :
    rid ∈ raIds s ∧ ∃ ch, s.chans[c]? = some ch := by
  unfold chanRollapp at h
  cases hc : s.chans[c]? with
  | none => rw [hc] at h; cases h
  | some ch =>
    rw [hc] at h
    simp only at h
    cases hr : ch.rollapp with
    | none => rw [hr] at h; cases h
    | some r =>
      rw [hr] at h
      simp only at h
      cases hx : s.ras[r]? with
      | none => rw [hx] at h; cases h
      | some ra =>
        rw [hx] at h
        simp only at h
        split at h
        · cases h
          exact ⟨List.mem_map.mpr ⟨ra, List.mem_of_getElem? hx, rfl⟩, ch, rfl⟩
        · cases h

/-- the separators are absent from the ids a well-formed packet carries -/
theorem PktOk.noSep {s : St} {q : Packet} (hc : CfgOk s) (h : PktOk s q) : sep ∉ q.rollappId ∧ sep ∉ q.srcChan := by
  obtain ⟨h1, h2, _, _⟩ := h
  obtain ⟨hm, ch, hch⟩ := chanRollapp_some h1
  refine ⟨hc.raSep _ hm, ?_⟩
  rw [h2]
  have hmem := List.mem_of_getElem? hch
  unfold cpIdOf hubIdOf
  rw [hch]
  split
  · exact (hc.chSep ch hmem).1
  · exact (hc.chSep ch hmem).2

/-- the ids a well-formed packet carries are not empty (what `MsgFinalizePacket.ValidateBasic` asks for) -/
theorem PktOk.nonEmpty {s : St} {q : Packet} (hc : CfgOk s) (h : PktOk s q) : q.rollappId ≠ [] ∧ q.srcChan ≠ [] := by
  obtain ⟨h1, h2, _, _⟩ := h
  obtain ⟨hm, ch, hch⟩ := chanRollapp_some h1
  refine ⟨hc.raNe _ hm, ?_⟩
  rw [h2]
  have hmem := List.mem_of_getElem? hch
  unfold cpIdOf hubIdOf
  rw [hch]
  split
  · exact (hc.chNe ch hmem).1
  · exact (hc.chNe ch hmem).2

/-- two well-formed packets under the same key have the same identity -/
theorem key_determines_uid {s : St} {p q : Packet} (hc : CfgOk s) (hp : PktOk s p) (hq : PktOk s q) (h : pkey q = pkey p) :
    q.uid = p.uid ∧ q.status = p.status := by
  obtain ⟨sp1, sp2⟩ := hp.noSep hc
  obtain ⟨sq1, sq2⟩ := hq.noSep hc
  unfold pkey at h
  obtain ⟨e1, e2, _, e4, _, e6⟩ := C19.packet_key_injective _ _ _ _ _ _ _ _ _ _ _ _ sq1 sp1 sq2 sp2 hq.2.2.1 hp.2.2.1 hq.2.2.2.1 hp.2.2.2.1 h
  have hchan : q.chan = p.chan := hc.canon _ _ p.rollappId (e2 ▸ hq.1) hp.1
  exact ⟨by unfold Packet.uid; rw [e4, hchan, e6], e1⟩

-- ------------------------------------------------------------------ the index invariant

structure IdxInv (s : St) : Prop where
  cfg : CfgOk s
  pk : ∀ q ∈ s.packets, PktOk s q
  fwd : ∀ p ∈ s.packets, p.status = .pending → (p.target, pkey p) ∈ s.byAddr
  bwd : ∀ e ∈ s.byAddr, ∃ p ∈ s.packets, pkey p = e.2 ∧ p.status = .pending ∧ p.target = e.1

/-- packets, index, channel table and rollapp ids agree -/
structure IFrame (s s' : St) : Prop where
  packets : s'.packets = s.packets
  byAddr : s'.byAddr = s.byAddr
  chans : s'.chans = s.chans
  ids : raIds s' = raIds s

theorem IFrame.refl (s : St) : IFrame s s := ⟨rfl, rfl, rfl, rfl⟩
theorem IFrame.trans {a b c : St} (h1 : IFrame a b) (h2 : IFrame b c) : IFrame a c :=
  ⟨h2.packets.trans h1.packets, h2.byAddr.trans h1.byAddr, h2.chans.trans h1.chans, h2.ids.trans h1.ids⟩
theorem IFrame.ofD {s s' : St} (f : DFrame s s') : IFrame s s' := ⟨f.packets, f.byAddr, f.chans, by unfold raIds; rw [f.ras]⟩

theorem IdxInv.of_frame {s s' : St} (f : IFrame s s') (h : IdxInv s) : IdxInv s' where
  cfg := h.cfg.congr f.chans f.ids
  pk := by rw [f.packets]; exact fun q hq => (h.pk q hq).congr f.chans f.ids
  fwd := by rw [f.packets, f.byAddr]; exact h.fwd
  bwd := by rw [f.packets, f.byAddr]; exact h.bwd

/-- recording a new pending packet under a key not yet in the store -/
theorem IdxInv.record {s : St} (h : IdxInv s) (p : Packet) (hs : p.status = .pending) (hp : PktOk s p)
    (fresh : ∀ q ∈ s.packets, pkey q ≠ pkey p) :
    IdxInv (setPacket (addByAddr s p.target (pkey p)) p) where
  cfg := CfgOk.congr (s := s) rfl rfl h.cfg
  pk := by
    intro q hq
    rcases mem_setPacket.mp hq with rfl | ⟨hq', _⟩
    · exact PktOk.congr (s := s) rfl rfl hp
    · exact PktOk.congr (s := s) rfl rfl (h.pk q hq')
  fwd := by
    intro q hq hqs
    show (q.target, pkey q) ∈ (addByAddr s p.target (pkey p)).byAddr
    rcases mem_setPacket.mp hq with rfl | ⟨hq', _⟩
    · exact mem_addByAddr.mpr (Or.inl rfl)
    · exact mem_addByAddr.mpr (Or.inr (h.fwd q hq' hqs))
  bwd := by
    intro e he
    have he' : e ∈ (addByAddr s p.target (pkey p)).byAddr := he
    rcases mem_addByAddr.mp he' with rfl | he''
    · exact ⟨p, mem_setPacket.mpr (Or.inl rfl), rfl, hs, rfl⟩
    · obtain ⟨q, hq, h1, h2, h3⟩ := h.bwd e he''
      exact ⟨q, mem_setPacket.mpr (Or.inr ⟨hq, fresh q hq⟩), h1, h2, h3⟩

/-- deleting a stored packet together with its own index entry -/
theorem IdxInv.delete {s : St} (h : IdxInv s) (hk : KeysNodup s.packets) (p : Packet) (hp : p ∈ s.packets) :
    IdxInv (delByAddr (delPacket s (pkey p)) p.target (pkey p)) where
  cfg := CfgOk.congr (s := s) rfl rfl h.cfg
  pk := fun q hq => PktOk.congr (s := s) rfl rfl (h.pk q (mem_delPacket.mp hq).1)
  fwd := by
    intro q hq hqs
    obtain ⟨hq1, hq2⟩ := mem_delPacket.mp hq
    refine mem_delByAddr.mpr ⟨h.fwd q hq1 hqs, ?_⟩
    intro e
    exact hq2 (congrArg Prod.snd e)
  bwd := by
    intro e he
    obtain ⟨he1, he2⟩ := mem_delByAddr.mp he
    obtain ⟨q, hq, h1, h2, h3⟩ := h.bwd e he1
    refine ⟨q, mem_delPacket.mpr ⟨hq, ?_⟩, h1, h2, h3⟩
    intro hqp
    have : q = p := keysNodup_eq hk hp hq hqp
    subst this
    exact he2 (Prod.ext h3.symm h1.symm)

theorem idx_deletePacket {s : St} (h : IdxInv s) (hk : KeysNodup s.packets) (p : Packet) (hp : p ∈ s.packets) :
    IdxInv (deletePacket s p) := by
  unfold deletePacket
  exact IdxInv.of_frame (IFrame.ofD ((frame_delOrder _ _ _).trans (frame_delOrder _ _ _))) (h.delete hk p hp)

/-- delayedack's epoch hook -/
theorem idx_epochCleanup {s : St} (h4 : Inv04 s) (h : IdxInv s) : IdxInv (epochCleanup s) :=
  (foldl_victims (P := fun s => Inv04 s ∧ IdxInv s) (Q := fun _ => True) deletePacket_packets
    (fun _ p h hp _ => ⟨inv_deletePacket p h.1, idx_deletePacket h.2 (InvF.keys h.1) p hp⟩) _ ⟨h4, h⟩
    (fun _ hp => ⟨(List.mem_filter.mp hp).1, trivial⟩) (List.Pairwise.filter _ (InvF.keys h4))).2

theorem iframe_revertIbc (s : St) (p : Packet) : IFrame s (revertIbc s p) := by
  unfold revertIbc; split <;> exact ⟨rfl, rfl, rfl, rfl⟩

theorem idx_revertPacket {s : St} (h : IdxInv s) (hk : KeysNodup s.packets) (p : Packet) (hp : p ∈ s.packets) :
    IdxInv (revertPacket s p) := by
  unfold revertPacket
  have f := iframe_revertIbc s p
  exact idx_deletePacket (IdxInv.of_frame f h) (by rw [f.packets]; exact hk) p (by rw [f.packets]; exact hp)

/-- delayedack's hard-fork hook -/
theorem idx_onHardFork {s : St} (rid : Bytes) (lv : Nat) (h4 : Inv04 s) (h : IdxInv s) : IdxInv (onHardFork s rid lv) :=
  (foldl_victims (P := fun s => Inv04 s ∧ IdxInv s) revertPacket_packets
    (fun _ p h hp hs => ⟨inv_revertPacket h.1 hp hs, idx_revertPacket h.2 (InvF.keys h.1) p hp⟩) _ ⟨h4, h⟩
    (fun p hp => ⟨(List.mem_filter.mp hp).1, forkRange_pending (List.mem_filter.mp hp).2⟩)
    (List.Pairwise.filter _ (InvF.keys h4))).2

/-- storing the finalized version of a packet -/
theorem IdxInv.setFinalized {s : St} (h : IdxInv s) (p : Packet) (hs : p.status = .finalized) (hp : PktOk s p) :
    IdxInv (setPacket s p) where
  cfg := CfgOk.congr (s := s) rfl rfl h.cfg
  pk := by
    intro q hq
    rcases mem_setPacket.mp hq with rfl | ⟨hq', _⟩
    · exact PktOk.congr (s := s) rfl rfl hp
    · exact PktOk.congr (s := s) rfl rfl (h.pk q hq')
  fwd := by
    intro q hq hqs
    rcases mem_setPacket.mp hq with rfl | ⟨hq', _⟩
    · rw [hs] at hqs; cases hqs
    · exact h.fwd q hq' hqs
  bwd := by
    intro e he
    obtain ⟨q, hq, h1, h2, h3⟩ := h.bwd e he
    refine ⟨q, mem_setPacket.mpr (Or.inr ⟨hq, ?_⟩), h1, h2, h3⟩
    intro hk
    have := (pkey_eq_parts hk).1
    rw [h2, hs] at this
    cases this

theorem PktOk.of_fields {s : St} {p q : Packet} (h : PktOk s p) (h1 : q.chan = p.chan) (h2 : q.rollappId = p.rollappId)
    (h3 : q.srcChan = p.srcChan) (h4 : q.ptype = p.ptype) (h5 : q.proofHeight = p.proofHeight) (h6 : q.seq = p.seq) : PktOk s q := by
  unfold PktOk at *
  rw [h1, h2, h3, h4, h5, h6]; exact h

-- ------------------------------------------------------------------ operations

/-- `UpdateRollappPacketTransferAddress`: the packet and its index entry move to the new beneficiary -/
theorem idx_updateTransferAddress {s s' : St} {k : Bytes} {a : Addr} (h : IdxInv s) (hk : KeysNodup s.packets)
    (hu : updateTransferAddress s k a = .ok s') : IdxInv s' := by
  obtain ⟨p, hp, hst, e⟩ := updateTransferAddress_ok hu
  obtain ⟨hmem, rfl⟩ := getPacket_some hp
  have hc : s'.chans = s.chans := by rw [e, setPacket_chans, addByAddr_chans, delByAddr_chans]
  have hr : raIds s' = raIds s := by unfold raIds; rw [e, setPacket_ras, addByAddr_ras, delByAddr_ras]
  subst e
  refine ⟨h.cfg.congr hc hr, ?_, ?_, ?_⟩
  · intro q hq
    rcases mem_setPacket.mp hq with rfl | ⟨hq', _⟩
    · exact (PktOk.of_fields (h.pk p hmem) rfl rfl rfl rfl rfl rfl).congr hc hr
    · exact (h.pk q hq').congr hc hr
  · intro q hq hqs
    show (q.target, pkey q) ∈ (addByAddr (delByAddr s p.target (pkey p)) a (pkey (retarget p a))).byAddr
    rcases mem_setPacket.mp hq with rfl | ⟨hq', hne⟩
    · exact mem_addByAddr.mpr (Or.inl rfl)
    · refine mem_addByAddr.mpr (Or.inr (mem_delByAddr.mpr ⟨h.fwd q hq' hqs, ?_⟩))
      intro e
      exact hne (congrArg Prod.snd e)
  · intro e he
    have he' : e ∈ (addByAddr (delByAddr s p.target (pkey p)) a (pkey (retarget p a))).byAddr := he
    rcases mem_addByAddr.mp he' with rfl | he''
    · exact ⟨retarget p a, mem_setPacket.mpr (Or.inl rfl), rfl, hst, rfl⟩
    · obtain ⟨he1, he2⟩ := mem_delByAddr.mp he''
      obtain ⟨q, hq, h1, h2, h3⟩ := h.bwd e he1
      refine ⟨q, mem_setPacket.mpr (Or.inr ⟨hq, ?_⟩), h1, h2, h3⟩
      intro hqp
      have : q = p := keysNodup_eq hk hmem hq hqp
      subst this
      exact he2 (Prod.ext h3.symm h1.symm)

theorem idx_fulfils {s s' : St} (h4 : Inv04 s) (h : IdxInv s) {id o f c} (hf : FulfilsBy id o f c s s') : IdxInv s' := by
  obtain ⟨b, a, l, g, s1, -, -, hu, hs'⟩ := hf
  unfold setOrderFulfilled at hu
  have h0 : IdxInv (setOrder { s with bal := b, accts := a, lps := l, grants := g } { o with fulfiller := some f }) :=
    IdxInv.of_frame (s := s) ⟨rfl, rfl, rfl, rfl⟩ h
  have h1 := idx_updateTransferAddress h0 (InvF.keys h4) hu
  rcases hs' with rfl | ⟨lp, -, rfl⟩
  · exact h1
  · exact IdxInv.of_frame (IFrame.ofD (frame_setLp s1 lp)) h1

theorem idx_finalizePacket {s s' : St} {k : Bytes} (h4 : Inv04 s) (h : IdxInv s) (hf : finalizePacket s k = .ok s') : IdxInv s' := by
  obtain ⟨p, os, hp, -, -, rfl⟩ := finalizePacket_state hf
  have hmem := (getPacket_some hp).1
  have f := IFrame.ofD (frame_releaseEffect s p)
  -- the packet and its index entry go, its finalized version is stored; the rest is the callback's frame
  have hS := (h.delete (InvF.keys h4) p hmem).setFinalized (flipped (finalizedRecord p (releaseEffect s p).2)) rfl
    (PktOk.congr (s := s) rfl rfl (PktOk.of_fields (h.pk p hmem) rfl rfl rfl rfl rfl rfl))
  refine IdxInv.of_frame ?_ hS
  exact ⟨rfl, rfl, f.chans, f.ids⟩

/-- a well-formed pending packet whose identity is not pending yet lands on a free key -/
theorem IdxInv.fresh {s : St} (h : IdxInv s) {p : Packet} (hP : PktOk s p) (hs : p.status = .pending)
    (hnp : ¬ pendL s.packets p.uid) : ∀ q ∈ s.packets, pkey q ≠ pkey p := by
  intro q hq hk
  obtain ⟨hu, hst⟩ := key_determines_uid h.cfg hP (h.pk q hq) hk
  exact hnp ⟨q, hq, hst.trans hs, hu⟩

/-- the packet `OnRecvPacket` records on a rollapp channel is well formed -/
theorem pktOk_mkRecvPacket {s0 : St} {c seq ph : Nat} {rid : Bytes} (d : RecvData) (tgt : Addr)
    (hra : chanRollapp s0 c = .ok (some rid)) (hph : ph < 2 ^ 64) (hseq : seq < 2 ^ 64) :
    PktOk s0 (mkRecvPacket s0 c seq ph rid d tgt) :=
  ⟨hra, rfl, hph, hseq, PType.noConfusion⟩

/-- the packet `OnAcknowledgementPacket` / `OnTimeoutPacket` records on a rollapp channel is well formed -/
theorem pktOk_mkSentPacket {s0 : St} {x : Sent} {ph : Nat} {rid : Bytes} (t e : Bool)
    (hra : chanRollapp s0 x.chan = .ok (some rid)) (hph : ph < 2 ^ 64) (hseq : x.seq < 2 ^ 64) :
    PktOk s0 (mkSentPacket s0 x (sentType t) ph rid e) :=
  ⟨hra, by simp [mkSentPacket, sentType_ne_recv], hph, hseq, by cases t <;> simp [mkSentPacket, sentType]⟩

/-- packet operations carry uint64 proof heights and sequences -/
def BoundedOp : Op → Prop
  | .recv _ seq ph _ => ph < 2 ^ 64 ∧ seq < 2 ^ 64
  | .ack _ seq ph _ => ph < 2 ^ 64 ∧ seq < 2 ^ 64
  | .timeout _ seq ph => ph < 2 ^ 64 ∧ seq < 2 ^ 64
  | _ => True

theorem idx_setRa {s : St} (r : Rollapp) (h : IdxInv s) : IdxInv (setRa s r) :=
  IdxInv.of_frame (s := s) (s' := setRa s r) ⟨rfl, rfl, rfl, raIds_setRa s r⟩ h

end DymVerif.Packets
