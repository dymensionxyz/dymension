/-
  Lemmas/LCDesig — `validClient` looks at every state info that can contain a consensus state of the
  candidate: with the lowest consensus-state height taken numerically and the state infos forming a
  gap-free chain (C01, `Core.Chain`), the early exit of its loop skips nothing.  Second half: the rollapp side of
  M-LC stays such a chain (`CoreChain`), because only Core ops touch it (`coreOp_core`, `step_descs_core`).
-/
import DymVerif.Lemmas.LCAgree
import DymVerif.Lemmas.CoreChainInv2
import DymVerif.Lemmas.CoreSearch
namespace DymVerif.LC
open DymVerif.Core (Addr NextP)

theorem foldl_min_le (xs : List (Nat × Cons)) (b : Nat) :
    xs.foldl (fun best y => min best y.1) b ≤ b ∧ ∀ y ∈ xs, xs.foldl (fun best y => min best y.1) b ≤ y.1 := by
  induction xs generalizing b with
  | nil => exact ⟨Nat.le_refl _, fun _ h => absurd h (by simp)⟩
  | cons x xs ih =>
    simp only [List.foldl_cons]
    obtain ⟨h1, h2⟩ := ih (min b x.1)
    refine ⟨Nat.le_trans h1 (Nat.min_le_left _ _), ?_⟩
    intro y hy
    simp only [List.mem_cons] at hy
    rcases hy with rfl | hy
    · exact Nat.le_trans h1 (Nat.min_le_right _ _)
    · exact h2 y hy

theorem firstConsHeight_le {cl : Client} {x : Nat × Cons} (hx : x ∈ cl.cons) : firstConsHeight cl ≤ x.1 := by
  unfold firstConsHeight
  cases hc : cl.cons with
  | nil => rw [hc] at hx; simp at hx
  | cons a as =>
    simp only
    rw [hc] at hx
    simp only [List.mem_cons] at hx
    obtain ⟨h1, h2⟩ := foldl_min_le as a.1
    rcases hx with rfl | hx
    · exact h1
    · exact h2 x hx

theorem chain_pairwise_rev {l : List Core.SInfo} (h : Core.Chain l) :
    l.reverse.Pairwise (fun a b => b.start + b.num ≤ a.start) := by
  rw [List.pairwise_reverse, List.pairwise_iff_getElem]
  intro i j hi hj hij
  exact h.mono' i j l[i] l[j] hij (by simp [hi]) (by simp [hj])

/-- the loop of `validClient` over state infos ordered from the latest down (each ends before the one before it
    starts): every state info that reaches above `base` was validated, and a match was found in one of them -/
theorem validLoop_spec (s : St) (cl : Client) (ra base : Nat) :
    ∀ (l : List Core.SInfo) (m b : Bool), l.Pairwise (fun a b => b.start + b.num ≤ a.start) →
      validLoop s cl ra base l m = (b, none) →
      (∀ st ∈ l, base < st.start + st.num → ∃ m1, validateStateInfo s cl ra st = (m1, none)) ∧
      (b = true → m = true ∨ ∃ st ∈ l, validateStateInfo s cl ra st = (true, none))
  | [], m, b, _, h => by
    cases h
    exact ⟨fun _ hh => absurd hh List.not_mem_nil, Or.inl⟩
  | st :: rest, m, b, hp, h => by
    rw [List.pairwise_cons] at hp
    unfold validLoop at h
    cases hv : validateStateInfo s cl ra st with | mk m1 oe =>
    rw [hv] at h
    cases oe with
    | some e => cases h
    | none =>
      dsimp only at h
      have hm : (m || m1) = true → m = true ∨ ∃ x ∈ st :: rest, validateStateInfo s cl ra x = (true, none) := fun hb => by
        cases m with
        | true => exact .inl rfl
        | false => exact .inr ⟨st, List.mem_cons_self, by rw [hv, show m1 = true from hb]⟩
      rcases ite_eq_cases h with ⟨hlt, h⟩ | ⟨-, h⟩
      · -- the loop stops here: by the ordering everything further down ends at or below `st.start`, so below `base`
        cases h
        refine ⟨fun x hx hb => ?_, hm⟩
        rcases List.mem_cons.1 hx with rfl | hx
        · exact ⟨m1, hv⟩
        · have := hp.1 x hx; omega
      · obtain ⟨ih1, ih2⟩ := validLoop_spec s cl ra base rest (m || m1) b hp.2 h
        refine ⟨fun x hx hb => ?_, fun hb => ?_⟩
        · rcases List.mem_cons.1 hx with rfl | hx
          · exact ⟨m1, hv⟩
          · exact ih1 x hx hb
        · rcases ih2 hb with h1 | ⟨x, hx, hxv⟩
          · exact hm h1
          · exact .inr ⟨x, List.mem_cons_of_mem _ hx, hxv⟩

/-- an accepted designation has validated every state info that contains a consensus state of the client: below the
    lowest consensus state there is none, and the loop stops only below it -/
theorem validLoop_validated {s : St} {cl : Client} {ra : Nat} {states : List Core.SInfo} {b : Bool} (hch : Core.Chain states)
    (h : validLoop s cl ra (firstConsHeight cl) states.reverse false = (b, none)) :
    ∀ st ∈ states, ∀ ht cs, st.start ≤ ht → ht ≤ st.last → getCons cl ht = some cs →
      ∃ m1, validateStateInfo s cl ra st = (m1, none) := by
  intro st hst ht cs h1 h2 hc
  refine (validLoop_spec s cl ra _ _ _ _ (chain_pairwise_rev hch) h).1 st (List.mem_reverse.2 hst) ?_
  have hbase : firstConsHeight cl ≤ ht := firstConsHeight_le (getCons_mem hc)
  have hw := hch.wf st hst
  have := Core.last_of_WF hw
  have := hw.num_pos
  omega

/-- an accepted designation found a consensus state of the client inside a state info of the rollapp -/
theorem validLoop_overlap {s : St} {cl : Client} {ra : Nat} {states : List Core.SInfo} (hch : Core.Chain states)
    (h : validLoop s cl ra (firstConsHeight cl) states.reverse false = (true, none)) :
    ∃ st ∈ states, ∃ ht ∈ heightsOf st, (getCons cl ht).isSome := by
  rcases (validLoop_spec s cl ra _ _ _ _ (chain_pairwise_rev hch) h).2 rfl with hf | ⟨st, hst, hsv⟩
  · cases hf
  · refine ⟨st, List.mem_reverse.1 hst, ?_⟩
    unfold validateStateInfo at hsv
    exact (validateRange_true _ _ hsv).resolve_left nofun

/-- an accepted designation has compared all three fields of *every* consensus state of the client that lies inside
    a state info of the rollapp -/
theorem validLoop_all_next {s : St} {cl : Client} {ra : Nat} {states : List Core.SInfo} {b : Bool} (hch : Core.Chain states)
    (h : validLoop s cl ra (firstConsHeight cl) states.reverse false = (b, none)) :
    ∀ st ∈ states, ∀ ht cs, st.start ≤ ht → ht ≤ st.last → getCons cl ht = some cs →
      ∃ d, getDesc s ra ht = some d ∧ Agrees3 s st ht cs d := by
  intro st hst ht cs h1 h2 hc
  obtain ⟨m1, hm1⟩ := validLoop_validated hch h st hst ht cs h1 h2 hc
  exact validateStateInfo_agrees_next hm1 h1 h2 hc

theorem validLoop_all {s : St} {cl : Client} {ra : Nat} {states : List Core.SInfo} {b : Bool} (hch : Core.Chain states)
    (h : validLoop s cl ra (firstConsHeight cl) states.reverse false = (b, none)) :
    ∀ st ∈ states, ∀ ht cs, st.start ≤ ht → ht ≤ st.last → getCons cl ht = some cs →
      ∃ d, getDesc s ra ht = some d ∧ Agrees cs d :=
  fun st hst ht cs h1 h2 hc => (validLoop_all_next hch h st hst ht cs h1 h2 hc).imp fun _ h => ⟨h.1, h.2.1⟩

/-- the rollapp side of every state is a gap-free chain -/
def CoreChain (s : St) : Prop := Core.ChainAll s.core

theorem CoreChain.of_eq {s s' : St} (h : CoreChain s) (e : s'.core = s.core) : CoreChain s' := by
  unfold CoreChain; rw [e]; exact h

theorem step_coreChain {s : St} (h : CoreChain s) (op : Op) : CoreChain (step s op).1 := by
  cases op with
  | core o ds =>
    rcases coreOp_core s o ds with e | e
    · exact h.of_eq e
    · unfold CoreChain; show Core.ChainAll (coreOp s o ds).1.core; rw [e]; exact Core.step_chain h
  | _ => exact h.of_eq (step_descs_core s _ (by intro _ _ e; cases e)).2

theorem run_coreChain (ops : List Op) (s : St) (h : CoreChain s) : CoreChain (run s ops) :=
  run_preserves (P := CoreChain) (fun _ op h => step_coreChain h op) ops s h

theorem init_coreChain (p : Core.Params) : CoreChain (init p) := by
  intro r hr
  simp [init, Core.init] at hr

end DymVerif.LC
