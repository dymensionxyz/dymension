import DymVerif.Lemmas.LockupOps
/-
  Lemmas/LockupFate — what one step can do to one existing lock (`lock_fate`), and to one account's
  free balance and locked total of a denom (`owner_moves`).
-/
namespace DymVerif.Lockup

/-- everything a single step can do to a lock `l` that exists before the step -/
inductive Fate (p : Params) (s : State) (op : Op) (s' : State) (l : Lock) : Prop
  | same : l ∈ s'.locks → Fate p s op s' l
  | topup (amt : Nat) : op = .lock l.owner l.denom amt l.duration → l.endTime = none →
      { l with amount := l.amount + amt } ∈ s'.locks → Fate p s op s' l
  | started (c : Option (Denom × Nat)) : op = .unlock l.owner l.id c → l.endTime = none →
      { l with endTime := some (s.now + l.duration), startedAt := some s.now } ∈ s'.locks → Fate p s op s' l
  | split (x : Nat) : op = .unlock l.owner l.id (some (l.denom, x)) → l.endTime = none → 0 < x → x < l.amount →
      { l with amount := l.amount - x } ∈ s'.locks →
      (⟨s.lastId + 1, l.owner, l.duration, some (s.now + l.duration), l.denom, x, some s.now⟩ : Lock) ∈ s'.locks →
      Fate p s op s' l
  | extended (dur : Nat) : op = .extend l.owner l.id dur → l.endTime = none → l.duration < dur →
      { l with duration := dur } ∈ s'.locks → Fate p s op s' l
  | forcedPart (x : Nat) : op = .force l.owner l.id (some (l.denom, x)) → l.owner ∈ p.allowed → 0 < x →
      x < l.amount → { l with amount := l.amount - x } ∈ s'.locks → Fate p s op s' l
  | forced (c : Option (Denom × Nat)) : op = .force l.owner l.id c → l.owner ∈ p.allowed →
      (∀ l' ∈ s'.locks, l'.id ≠ l.id) → Fate p s op s' l
  | matured : op = .endBlock → minHeightAutoWithdraw ≤ s.height → matured s.now l = true →
      (∀ l' ∈ s'.locks, l'.id ≠ l.id) → Fate p s op s' l

theorem lock_fate (p : Params) {s : State} (h : Inv s) (op : Op) {l : Lock} (hl : l ∈ s.locks) :
    Fate p s op (step p s op).1 l := by
  have d := step_did p h op
  generalize step p s op = r at d ⊢
  cases d with
  | rejected => exact .same hl
  | @topup a d amt dur t lt _ _ _ ht hlt =>
    obtain ⟨fr, _⟩ := frame_charge ht
    obtain ⟨h1, h2, h3, h4⟩ := sameLock_true (List.find?_some hlt)
    rcases eq_or_mem_setLock h.nodup hl (List.mem_of_find?_eq_some hlt) { lt with amount := lt.amount + amt } rfl
      with rfl | hm
    · refine .topup amt (by rw [h1, h2, h3]) h4 ?_
      simp only [addToLock, fr.locks]
      exact mem_setLock_new hl rfl
    · refine .same ?_
      simp only [addToLock, fr.locks]
      exact hm
  | created _ _ _ ht =>
    obtain ⟨fr, _⟩ := frame_charge ht
    refine .same ?_
    simp only [createLock, fr.locks]
    exact List.mem_append_left _ hl
  | @split lt x hlt hn hx0 hx =>
    rcases eq_or_mem_setLock h.nodup hl (findLock_some hlt).1 { lt with amount := lt.amount - x } rfl with rfl | hm
    · exact .split x rfl hn hx0 hx (List.mem_append_left _ (mem_setLock_new hl rfl))
        (List.mem_append_right _ List.mem_cons_self)
    · exact .same (List.mem_append_left _ hm)
  | @started lt c hlt hn =>
    rcases eq_or_mem_setLock h.nodup hl (findLock_some hlt).1
      { lt with endTime := some (s.now + lt.duration), startedAt := some s.now } rfl with rfl | hm
    · exact .started c rfl hn (mem_setLock_new hl rfl)
    · exact .same hm
  | @extended lt dur hlt hn hd =>
    rcases eq_or_mem_setLock h.nodup hl (findLock_some hlt).1 { lt with duration := dur } rfl with rfl | hm
    · exact .extended dur rfl hn hd (mem_setLock_new hl rfl)
    · exact .same hm
  | @forcedPart lt x t hlt ha hx0 hx ht =>
    have h1 := (fromModule_some ht).1.locks
    rcases eq_or_mem_setLock h.nodup hl (findLock_some hlt).1 { lt with amount := lt.amount - x } rfl with rfl | hm
    · refine .forcedPart x rfl ha hx0 hx ?_
      simp only [shrinkLock, h1]
      exact mem_setLock_new hl rfl
    · refine .same ?_
      simp only [shrinkLock, h1]
      exact hm
  | @forced lt t c hlt ha ht =>
    have h1 := (fromModule_some ht).1.locks
    by_cases hid : l.id = lt.id
    · obtain rfl := eq_of_id_eq h.nodup hl (findLock_some hlt).1 hid
      refine .forced c rfl ha fun l' hl' => ?_
      simp only [removeLock, h1] at hl'
      exact (mem_delLock.mp hl').2
    · refine .same ?_
      simp only [removeLock, h1]
      exact mem_delLock.mpr ⟨hl, hid⟩
  | tick => exact .same hl
  | idle => exact .same hl
  | @matured s' hh _ _ _ hlocks =>
    cases hm : matured s.now l
    · exact .same (hlocks ▸ List.mem_filter.mpr ⟨hl, by simp [hm]⟩)
    · refine .matured rfl hh hm fun l' hl' hid => ?_
      have hl' : l' ∈ s'.locks := hl'
      rw [hlocks, List.mem_filter] at hl'
      rw [eq_of_id_eq h.nodup hl'.1 hl hid, hm] at hl'
      exact absurd hl'.2 (by simp)

/-- what a step can change about a lock that survives it (same id): its amount at will, but owner and
    denom never, and duration, end time and start of unlocking only by its owner's begin-unlock (the clock
    starts now) or, while not unlocking, by its owner's extension -/
theorem lock_succ (p : Params) {s : State} (h : Inv s) (op : Op) {l l' : Lock} (hl : l ∈ s.locks)
    (hl' : l' ∈ (step p s op).1.locks) (hid : l'.id = l.id) :
    l'.owner = l.owner ∧ l'.denom = l.denom ∧
    ((l'.duration = l.duration ∧ l'.endTime = l.endTime ∧ l'.startedAt = l.startedAt) ∨
     (∃ c, op = .unlock l.owner l.id c ∧ l.endTime = none ∧ l'.duration = l.duration ∧
        l'.endTime = some (s.now + l.duration) ∧ l'.startedAt = some s.now) ∨
     (op = .extend l.owner l.id l'.duration ∧ l.endTime = none ∧ l.duration < l'.duration ∧
        l'.startedAt = l.startedAt)) := by
  have huniq : ∀ x ∈ (step p s op).1.locks, x.id = l.id → l' = x :=
    fun x hx hxid => eq_of_id_eq (step_inv p h op).nodup hl' hx (by rw [hxid, hid])
  cases lock_fate p h op hl with
  | same hm => obtain rfl := huniq _ hm rfl; exact ⟨rfl, rfl, Or.inl ⟨rfl, rfl, rfl⟩⟩
  | topup amt _ _ hm => obtain rfl := huniq _ hm rfl; exact ⟨rfl, rfl, Or.inl ⟨rfl, rfl, rfl⟩⟩
  | started c hop hn hm => obtain rfl := huniq _ hm rfl; exact ⟨rfl, rfl, Or.inr (Or.inl ⟨c, hop, hn, rfl, rfl, rfl⟩)⟩
  | split x _ _ _ _ hm => obtain rfl := huniq _ hm rfl; exact ⟨rfl, rfl, Or.inl ⟨rfl, rfl, rfl⟩⟩
  | extended dur hop hn hd hm => obtain rfl := huniq _ hm rfl; exact ⟨rfl, rfl, Or.inr (Or.inr ⟨hop, hn, hd, rfl⟩)⟩
  | forcedPart x _ _ _ _ hm => obtain rfl := huniq _ hm rfl; exact ⟨rfl, rfl, Or.inl ⟨rfl, rfl, rfl⟩⟩
  | forced c _ _ hgone => exact absurd hid (hgone l' hl')
  | matured _ _ _ hgone => exact absurd hid (hgone l' hl')

/-! ### an owner's free + locked total -/

/-- a top-up of `amt` raises the owner's locked total of the lock's denom by `amt` -/
theorem lockedOwner_topup {ls : List Lock} (hn : (ls.map (·.id)).Nodup) {lt : Lock} (hl : lt ∈ ls) {a d : Nat}
    (ho : lt.owner = a) (hd : lt.denom = d) (amt a' d' : Nat) :
    lockedOwner (setLock ls { lt with amount := lt.amount + amt }) a' d' =
      lockedOwner ls a' d' + (if a' = a ∧ d' = d then amt else 0) := by
  subst ho hd
  have hs := total_setLock (fun l => l.owner == a' && l.denom == d') hn hl
    (n := { lt with amount := lt.amount + amt }) rfl
  simp only [weight_own, ite_add_zero] at hs
  unfold lockedOwner
  omega

/-- what an operation answered with `o` moves from the free balance of `(a', d')` into its locks, and the fee it burns
    there: both are read off the message -/
def lockedIn (p : Params) (op : Op) (o : Out) (a' d' : Nat) : Nat × Nat :=
  match op, o with
  | .lock a d amt _, .ok _ => (if a' = a ∧ d' = d then amt else 0, if a' = a ∧ d' = p.feeDenom then p.fee else 0)
  | _, _ => (0, 0)

theorem lockedIn_err (p : Params) (op : Op) (e : Err) (a' d' : Nat) : lockedIn p op (.err e) a' d' = (0, 0) := by
  cases op <;> rfl

/-- a fee is burned on an account only by its own accepted `lock`, in the fee denom -/
theorem lockedIn_fee {p : Params} {op : Op} {o : Out} {a' d' : Nat} (h : (lockedIn p op o a' d').2 ≠ 0) :
    ∃ d0 amt dur id, op = .lock a' d0 amt dur ∧ o = .ok id ∧ d' = p.feeDenom ∧ (lockedIn p op o a' d').2 = p.fee := by
  cases op <;> cases o <;> first | exact absurd rfl h | skip
  rename_i a d amt dur id
  have hc : a' = a ∧ d' = p.feeDenom := Classical.byContradiction fun hn => h (if_neg hn)
  exact ⟨d, amt, dur, id, by rw [hc.1], rfl, hc.2, if_pos hc⟩

/-- an accepted `lock`: the bank's two moves (fee, then deposit) on one account -/
theorem lock_bal {p : Params} {s t : State} {a d amt : Nat} (ht : toModule (chargeFee p s a) a d amt = some t)
    (hcost : lockCost p d amt ≤ s.bal a p.feeDenom) (a' d' : Nat) :
    t.bal a' d' + (if a' = a ∧ d' = d then amt else 0) + (if a' = a ∧ d' = p.feeDenom then p.fee else 0) =
      s.bal a' d' := by
  have hb := (toModule_some ht).2.2 a' d'
  have hfee : p.fee ≤ lockCost p d amt := by unfold lockCost; omega
  simp only [chargeFee, updBal] at hb
  by_cases h2 : a' = a ∧ d' = p.feeDenom
  · rw [if_pos h2] at hb ⊢
    rw [h2.1, h2.2] at hb ⊢
    omega
  · rw [if_neg h2] at hb ⊢
    omega

/-- **one step, one account, one denom**: `inn` coins go from the free balance into locks and a fee is burned
    (`lockedIn`), `out` coins come back — and coins come back only at an EndBlocker or by the account's own
    force-unlock while it is on the allow-list -/
theorem owner_moves (p : Params) {s : State} (h : Inv s) (op : Op) (a' d' : Nat) :
    ∃ out, (step p s op).1.bal a' d' + (lockedIn p op (step p s op).2 a' d').1 + (lockedIn p op (step p s op).2 a' d').2
        = s.bal a' d' + out ∧
      lockedOwner (step p s op).1.locks a' d' + out = lockedOwner s.locks a' d' + (lockedIn p op (step p s op).2 a' d').1 ∧
      (out ≠ 0 → op = .endBlock ∨ ∃ id c, op = .force a' id c ∧ a' ∈ p.allowed) := by
  have hstep := step_did p h op
  generalize step p s op = r at hstep ⊢
  have hset := fun {lt : Lock} (hlt : lt ∈ s.locks) (n : Lock) (hid : n.id = lt.id) =>
    total_setLock (fun l => l.owner == a' && l.denom == d') h.nodup hlt (n := n) hid
  cases hstep with
  | rejected op e => rw [lockedIn_err]; exact ⟨0, rfl, rfl, fun h => absurd rfl h⟩
  | @topup a d amt dur t lt _ _ hcost ht hlt =>
    obtain ⟨o1, o2, _, _⟩ := sameLock_true (List.find?_some hlt)
    have hs := lockedOwner_topup h.nodup (List.mem_of_find?_eq_some hlt) o1 o2 amt a' d'
    refine ⟨0, lock_bal ht hcost a' d', ?_, fun h => absurd rfl h⟩
    simp only [addToLock, (toModule_some ht).1.locks, chargeFee, lockedIn]
    omega
  | @created a d amt dur t _ _ hcost ht =>
    refine ⟨0, lock_bal ht hcost a' d', ?_, fun h => absurd rfl h⟩
    simp only [createLock, lockedOwner, (toModule_some ht).1.locks, chargeFee, total_append, total_single, weight_own,
      lockedIn]
    omega
  | @split lt x hlt _ _ hx =>
    have hs := hset (findLock_some hlt).1 { lt with amount := lt.amount - x } rfl
    refine ⟨0, rfl, ?_, fun h => absurd rfl h⟩
    simp only [splitUnlock, lockedOwner, total_append, total_single, weight_own, lockedIn] at hs ⊢
    rw [ite_sub_zero _ (Nat.le_of_lt hx)] at hs
    omega
  | @started lt c hlt =>
    have hs := hset (findLock_some hlt).1
      { lt with endTime := some (s.now + lt.duration), startedAt := some s.now } rfl
    refine ⟨0, rfl, ?_, fun h => absurd rfl h⟩
    simp only [startUnlock, lockedOwner, weight_own, lockedIn] at hs ⊢
    omega
  | @extended lt dur hlt =>
    have hs := hset (findLock_some hlt).1 { lt with duration := dur } rfl
    refine ⟨0, rfl, ?_, fun h => absurd rfl h⟩
    simp only [extendTo, lockedOwner, weight_own, lockedIn] at hs ⊢
    omega
  | @forcedPart lt x t hlt ha _ hx ht =>
    obtain ⟨fr, _, hb⟩ := fromModule_some ht
    have hs := hset (findLock_some hlt).1 { lt with amount := lt.amount - x } rfl
    refine ⟨if a' = lt.owner ∧ d' = lt.denom then x else 0, ?_, ?_, fun hne => ?_⟩
    · simp only [shrinkLock, lockedIn, hb]; omega
    · simp only [shrinkLock, lockedOwner, weight_own, fr.locks, lockedIn] at hs ⊢
      rw [ite_sub_zero _ (Nat.le_of_lt hx)] at hs
      omega
    · have e : a' = lt.owner := Classical.byContradiction fun hn => hne (if_neg fun e => hn e.1)
      exact Or.inr ⟨lt.id, _, by rw [e], e ▸ ha⟩
  | @forced lt t c hlt ha ht =>
    obtain ⟨fr, _, hb⟩ := fromModule_some ht
    have hs := total_delLock (fun l => l.owner == a' && l.denom == d') h.nodup (findLock_some hlt).1
    refine ⟨if a' = lt.owner ∧ d' = lt.denom then lt.amount else 0, ?_, ?_, fun hne => ?_⟩
    · simp only [removeLock, lockedIn, hb]; omega
    · simp only [removeLock, lockedOwner, weight_own, fr.locks, lockedIn] at hs ⊢
      omega
    · have e : a' = lt.owner := Classical.byContradiction fun hn => hne (if_neg fun e => hn e.1)
      exact Or.inr ⟨lt.id, _, by rw [e], e ▸ ha⟩
  | tick => exact ⟨0, rfl, rfl, fun h => absurd rfl h⟩
  | idle => exact ⟨0, rfl, rfl, fun h => absurd rfl h⟩
  | matured _ _ _ _ _ hbal => exact ⟨_, (hbal a' d').1, (hbal a' d').2, fun _ => Or.inl rfl⟩

/-! ### where a lock of the next state comes from -/

/-- a lock of the next state continues an existing lock (same id), or has the next fresh id and was
    made by its owner's own `lock` deposit or split off an own lock by the owner's partial `unlock` -/
theorem lock_origin (p : Params) {s : State} (h : Inv s) (op : Op) {l' : Lock}
    (hl' : l' ∈ (step p s op).1.locks) :
    (∃ l ∈ s.locks, l.id = l'.id) ∨
    (l'.id = s.lastId + 1 ∧
      ((∃ amt, op = .lock l'.owner l'.denom amt l'.duration ∧ l'.endTime = none ∧ l'.startedAt = none ∧
          l'.amount = amt ∧ (step p s op).2 = .ok l'.id) ∨
       (∃ id x, op = .unlock l'.owner id (some (l'.denom, x)) ∧ l'.endTime = some (s.now + l'.duration) ∧
          l'.startedAt = some s.now ∧ l'.amount = x ∧
          ∃ l ∈ s.locks, l.id = id ∧ l.owner = l'.owner ∧ l.denom = l'.denom ∧ l.duration = l'.duration ∧
            x < l.amount))) := by
  have d := step_did p h op
  generalize step p s op = r at d hl' ⊢
  have old : ∀ {ls : List Lock} {n : Lock}, l' ∈ setLock ls n → ls = s.locks → ∃ l ∈ s.locks, l.id = l'.id :=
    fun hm e => e ▸ mem_setLock_old hm
  cases d with
  | rejected | tick | idle => exact Or.inl ⟨l', hl', rfl⟩
  | topup _ _ _ ht =>
    simp only [addToLock] at hl'
    exact Or.inl (old hl' (frame_charge ht).1.locks)
  | @created a d amt dur t _ _ _ ht =>
    obtain ⟨fr, _⟩ := frame_charge ht
    simp only [createLock, fr.locks, fr.lastId, List.mem_append, List.mem_singleton] at hl'
    rcases hl' with hm | rfl
    · exact Or.inl ⟨l', hm, rfl⟩
    · exact Or.inr ⟨rfl, Or.inl ⟨amt, rfl, rfl, rfl, rfl, rfl⟩⟩
  | @split lt x hlt _ _ hx =>
    simp only [splitUnlock, List.mem_append, List.mem_singleton] at hl'
    rcases hl' with hm | rfl
    · exact Or.inl (old hm rfl)
    · exact Or.inr ⟨rfl, Or.inr ⟨lt.id, x, rfl, rfl, rfl, rfl, lt, (findLock_some hlt).1, rfl, rfl, rfl, rfl, hx⟩⟩
  | started => exact Or.inl (old hl' rfl)
  | extended => exact Or.inl (old hl' rfl)
  | forcedPart _ _ _ _ ht =>
    simp only [shrinkLock] at hl'
    exact Or.inl (old hl' (fromModule_some ht).1.locks)
  | forced _ _ _ ht =>
    simp only [removeLock, (fromModule_some ht).1.locks] at hl'
    exact Or.inl ⟨l', (mem_delLock.mp hl').1, rfl⟩
  | @matured s' _ _ _ _ hlocks =>
    have hl' : l' ∈ s'.locks := hl'
    rw [hlocks] at hl'
    exact Or.inl ⟨l', (List.mem_filter.mp hl').1, rfl⟩

/-- the id counter never goes back -/
theorem lastId_mono (p : Params) {s : State} (h : Inv s) (op : Op) : s.lastId ≤ (step p s op).1.lastId := by
  have d := step_did p h op
  generalize step p s op = r at d ⊢
  cases d with
  | rejected | started | extended | tick | idle => exact Nat.le_refl _
  | topup _ _ _ ht => exact Nat.le_of_eq (frame_charge ht).1.lastId.symm
  | created _ _ _ ht => exact (frame_charge ht).1.lastId ▸ Nat.le_succ _
  | split => exact Nat.le_succ _
  | forcedPart _ _ _ _ ht => exact (fromModule_some ht).1.lastId ▸ Nat.le_succ _
  | forced _ _ _ ht => exact Nat.le_of_eq (fromModule_some ht).1.lastId.symm
  | matured _ _ _ hlast => exact Nat.le_of_eq hlast.symm

end DymVerif.Lockup
