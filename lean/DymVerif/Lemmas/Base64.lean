import DymVerif.Base.Base64
import DymVerif.Lemmas.Bytes
namespace DymVerif

/-- the alphabet table inverts: a finite check -/
theorem b64val_sym (n : Nat) (h : n < 64) : b64val (b64sym n) = some n := by
  revert n; decide +kernel

theorem b64sym_props (n : Nat) : b64sym n ≠ 61 ∧ b64sym n ≠ 10 ∧ b64sym n ≠ 13 := by
  unfold b64sym
  split
  · omega
  · split
    · omega
    · split
      · omega
      · split <;> omega

theorem b64sym_ne_pad (n : Nat) : b64sym n ≠ padChar := (b64sym_props n).1

theorem b64sym_not_nl (n : Nat) : (b64sym n != 10 && b64sym n != 13) = true := by
  have := b64sym_props n
  simp [this.2.1, this.2.2]

theorem b64enc_filter (bs : Bytes) :
    (b64enc bs).filter (fun c => c != 10 && c != 13) = b64enc bs := by
  fun_induction b64enc bs with
  | case1 => rfl
  | case2 a => simp [List.filter, b64sym_not_nl, padChar]
  | case3 a b => simp [List.filter, b64sym_not_nl, padChar]
  | case4 a b c rest ih => simp [List.filter, b64sym_not_nl, ih]

/-- the three-bytes / four-sextets identities -/
theorem sextet_identities (a b c : Nat) (ha : a < 256) (hb : b < 256) (hc : c < 256) :
    a / 4 < 64 ∧ a % 4 * 16 + b / 16 < 64 ∧ b % 16 * 4 + c / 64 < 64 ∧ c % 64 < 64 ∧
    a / 4 * 4 + (a % 4 * 16 + b / 16) / 16 = a ∧
    (a % 4 * 16 + b / 16) % 16 * 16 + (b % 16 * 4 + c / 64) / 4 = b ∧
    (b % 16 * 4 + c / 64) % 4 * 64 + c % 64 = c := by omega

theorem b64enc_ne_nil : ∀ (k : Bytes), k ≠ [] → b64enc k ≠ []
  | [], h => absurd rfl h
  | [_], _ => by simp [b64enc]
  | [_, _], _ => by simp [b64enc]
  | _ :: _ :: _ :: _, _ => by simp [b64enc]

theorem b64enc_cons3_ne_nil (a b c : Nat) (rest : Bytes) : b64enc (a :: b :: c :: rest) ≠ [] := by
  simp [b64enc]

/-- decoding one full quantum of alphabet symbols in front of an already decodable rest -/
theorem b64decQ_quantum {p q r s : Nat} (hp : p < 64) (hq : q < 64) (hr : r < 64) (hs : s < 64) {rest t : Bytes}
    (ht : b64decQ rest = some t) :
    b64decQ (b64sym p :: b64sym q :: b64sym r :: b64sym s :: rest) =
      some ((p * 4 + q / 16) :: (q % 16 * 16 + r / 4) :: (r % 4 * 64 + s) :: t) := by
  cases rest with
  | nil =>
    cases ht
    simp only [b64decQ, b64val_sym, hp, hq, hr, hs, if_neg (b64sym_ne_pad _)]
  | cons y ys =>
    simp only [b64decQ, b64val_sym, hp, hq, hr, hs, ht]

theorem b64decQ_enc (bs : Bytes) (h : Bytes.WF bs) : b64decQ (b64enc bs) = some bs := by
  fun_induction b64enc bs with
  | case1 => rfl
  | case2 a =>
    obtain ⟨h1, h2, -, -, e1, -⟩ := sextet_identities a 0 0 (h a (by simp)) (by decide) (by decide)
    rw [Nat.zero_div, Nat.add_zero] at h2 e1
    simp only [b64decQ, b64val_sym _ h1, b64val_sym _ h2, if_true, e1]
  | case3 a b =>
    obtain ⟨h1, h2, h3, -, e1, e2, -⟩ := sextet_identities a b 0 (h a (by simp)) (h b (by simp)) (by decide)
    rw [Nat.zero_div, Nat.add_zero] at h3 e2
    simp only [b64decQ, b64val_sym _ h1, b64val_sym _ h2, b64val_sym _ h3, if_neg (b64sym_ne_pad _), if_true, e1, e2]
  | case4 a b c rest ih =>
    obtain ⟨h1, h2, h3, h4, e1, e2, e3⟩ := sextet_identities a b c (h a (by simp)) (h b (by simp)) (h c (by simp))
    rw [b64decQ_quantum h1 h2 h3 h4 (ih fun x hx => h x (by simp [hx])), e1, e2, e3]

/-- Go: `Decode(Encode(b)) = b` for every byte string -/
theorem b64dec_enc (bs : Bytes) (h : Bytes.WF bs) : b64dec (b64enc bs) = some bs := by
  unfold b64dec; rw [b64enc_filter]; exact b64decQ_enc bs h

end DymVerif
