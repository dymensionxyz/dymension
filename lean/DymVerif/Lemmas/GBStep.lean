/-
  Lemmas/GBStep — what the validator accepts (`Matches`), what the handshake writes, and the shape of a step
  of M-GB: which record an op may write in place of which (`Writes`), and that a step does nothing else to the
  records and the channel table (`step_shape`, `step_getRa`).  Every frame and invariant theorem about `step`
  is this shape plus one small fact per constructor of `Writes`.
-/
import DymVerif.Lemmas.GBPerm
namespace DymVerif.GB

/-- The property's own notion of a matching handshake packet: every scalar field of the genesis info
    equals the registered one, the account lists are equal as multisets, and the genesis transfer is
    absent when there are no registered accounts and otherwise carries exactly their sum to the
    fixed hub recipient. -/
def TrMatches : Option FT → GInfo → Prop
  | none, hub => hub.accounts = []
  | some t, hub => hub.accounts ≠ [] ∧ t.recv = 0 ∧ t.canon = true ∧ t.amt = sumAccs hub.accounts

def Matches (d : GBData) (hub : GInfo) : Prop :=
  d.gi.checksum = hub.checksum ∧ d.gi.pfx = hub.pfx ∧ d.gi.denom = hub.denom ∧ d.gi.supply = hub.supply ∧
  d.gi.accounts.Perm hub.accounts ∧ TrMatches d.tr hub

/-- a chain of checks that answers `none` has passed its first check -/
theorem ite_some_none {α : Type} {c : Prop} [Decidable c] {e : α} {k : Option α}
    (h : (if c then some e else k) = none) : ¬ c ∧ k = none := by
  split at h
  · cases h
  · exact ⟨‹_›, h⟩

/-- a valid genesis info has pairwise distinct account addresses: `ValidateBasic` tests `accsOk` whenever
    there are accounts -/
theorem vb_nodup {g : GInfo} (h : g.vb = none) : (g.accounts.map (·.addr)).Nodup := by
  by_cases hl : decide (0 < g.accounts.length) = true
  · unfold GInfo.vb at h
    rw [hl] at h
    obtain ⟨_, h⟩ := ite_some_none h
    obtain ⟨_, h⟩ := ite_some_none h
    by_cases hs : (!g.denom.isSet) = true
    · rw [if_pos hs] at h
      exact absurd rfl (ite_some_none (ite_some_none h).2).1
    rw [if_neg hs] at h
    obtain ⟨_, h⟩ := ite_some_none h
    obtain ⟨_, h⟩ := ite_some_none h
    rw [if_pos rfl] at h
    obtain ⟨_, h⟩ := ite_some_none h
    split at h
    · cases h
    · have ha : accsOk g.accounts = true := by simpa using (ite_some_none h).1
      simp only [accsOk, Bool.and_eq_true] at ha
      exact nodupB_nodup _ ha.2
  · have : g.accounts = [] := List.eq_nil_of_length_eq_zero (by simpa using hl)
    simp [this]

theorem againstHub_none {d hub : GInfo} (h : againstHub d hub = none) :
    d.checksum = hub.checksum ∧ d.pfx = hub.pfx ∧ d.denom = hub.denom ∧ d.supply = hub.supply ∧
    compareAccounts hub.accounts d.accounts = true := by
  unfold againstHub at h
  obtain ⟨h1, h⟩ := ite_some_none h
  obtain ⟨h2, h⟩ := ite_some_none h
  obtain ⟨h3, h⟩ := ite_some_none h
  obtain ⟨h4, h⟩ := ite_some_none h
  exact ⟨by simpa using h1, by simpa using h2, by simpa using h3, by simpa using h4, by simpa using (ite_some_none h).1⟩

theorem checkTransfer_none {tr : Option FT} {hub : GInfo} (h : checkTransfer tr hub = none) : TrMatches tr hub := by
  unfold checkTransfer at h
  cases tr with
  | none =>
    have := (ite_some_none h).1
    exact List.eq_nil_of_length_eq_zero (by simpa using this)
  | some t =>
    simp only at h
    obtain ⟨h1, h⟩ := ite_some_none h
    obtain ⟨h2, h⟩ := ite_some_none h
    have h3 := (ite_some_none h).1
    simp only [Bool.not_eq_true, Bool.not_eq_false', Bool.and_eq_true, beq_iff_eq] at h3
    exact ⟨fun he => by simp [he] at h1, by simpa using h2, h3.1, h3.2⟩

/-- everything `GenesisBridgeValidator.Validate` lets through matches the registered genesis info -/
theorem validate_matches {d : GBData} {hub : GInfo} (hw : hub.vb = none) (h : validate d hub = none) : Matches d hub := by
  unfold validate at h
  split at h
  · cases h
  split at h
  · cases h
  rename_i _ h2
  obtain ⟨a, b, c, e, f⟩ := againstHub_none h2
  exact ⟨a, b, c, e, compareAccounts_perm _ _ (vb_nodup hw) f, checkTransfer_none h⟩

-- ---------------------------------------------------------------- the handshake step

/-- the record a completed handshake writes: the data accounts credited, the packet's proof height recorded, metadata
    registered for a native denom, the plan settled -/
def opened (ra : Ra) (ph : Nat) (d : GBData) (bal' : List (Nat × Int)) : Ra :=
  { ra with md := ra.md || d.gi.denom.isSet, bal := bal', tph := ph, plan := ra.plan.map (fun x => (x.1, true)),
            nOpen := ra.nOpen + 1 }

/-- the handshake answers with an error acknowledgement and writes nothing, or the packet passed the validator, the
    bank had no metadata for a native denom, the credits went through, a plan was unsettled and backed by its allocation,
    and the record written is `opened` -/
theorem handshake_cases (ra : Ra) (ph : Nat) (p : Pkt) :
    (∃ e, handshake ra ph p = (ra, .rerr e)) ∨
    ∃ d bal', p = .gb d ∧ validate d ra.gi = none ∧ (d.gi.denom.isSet = true → ra.md = false) ∧
      credit d.gi.accounts ra.bal = some bal' ∧
      (∀ alloc st, ra.plan = some (alloc, st) → st = false ∧ getBal bal' iroAddr = alloc) ∧
      handshake ra ph p = (opened ra ph d bal', .ok) := by
  unfold handshake
  cases p with
  | junk => exact .inl ⟨_, rfl⟩
  | ft t => exact .inl ⟨_, rfl⟩
  | gb d =>
    simp only
    cases hv : validate d ra.gi with
    | some e => exact .inl ⟨_, rfl⟩
    | none =>
      simp only
      by_cases h1 : (d.gi.denom.isSet && !d.md.ibcOk) = true
      · rw [if_pos h1]; exact .inl ⟨_, rfl⟩
      by_cases h2 : (d.gi.denom.isSet && ra.md) = true
      · rw [if_neg h1, if_pos h2]; exact .inl ⟨_, rfl⟩
      rw [if_neg h1, if_neg h2]
      have hmd : d.gi.denom.isSet = true → ra.md = false := fun hd => by simpa [hd] using h2
      cases hc : credit d.gi.accounts ra.bal with
      | none => exact .inl ⟨_, rfl⟩
      | some bal' =>
        simp only
        cases hp : ra.plan with
        | none => exact .inr ⟨d, bal', rfl, hv, hmd, hc, (fun _ _ h => nomatch h), by rw [opened, hp]; rfl⟩
        | some pl =>
          obtain ⟨alloc, st⟩ := pl
          simp only
          by_cases h3 : (st || getBal bal' iroAddr != alloc) = true
          · rw [if_pos h3]; exact .inl ⟨_, rfl⟩
          rw [if_neg h3]
          simp only [Bool.or_eq_true, bne_iff_ne, ne_eq, not_or, Bool.not_eq_true, Decidable.not_not] at h3
          refine .inr ⟨d, bal', rfl, hv, hmd, hc, ?_, by rw [opened, hp]; rfl⟩
          intro _ _ h
          cases h
          exact h3

/-- the handshake writes the bridge part of the record and the plan's settlement flag, nothing else -/
theorem handshake_keeps (ra : Ra) (ph : Nat) (p : Pkt) :
    (handshake ra ph p).1.id = ra.id ∧ (handshake ra ph p).1.gi = ra.gi ∧ (handshake ra ph p).1.chan = ra.chan ∧
    (handshake ra ph p).1.frozen = ra.frozen := by
  rcases handshake_cases ra ph p with ⟨_, h⟩ | ⟨_, _, _, _, _, _, _, h⟩ <;> rw [h] <;> exact ⟨rfl, rfl, rfl, rfl⟩

-- ---------------------------------------------------------------- the shape of a step

/-- the record an accepted `MsgCreatePlan` writes -/
def planned (now : Nat) (ra : Ra) (alloc : Int) (dur : Nat) (te : Bool) (start : Option Nat) : Ra :=
  { ra with gi := { ra.gi with sealed := true },
            preLaunch := some (if te then planPreLaunch (planStart now start) dur else now + tenYears),
            plan := some (alloc, false), te := te,
            pstart := (if te then some (planStart now start) else none), pdur := dur }

/-- the record an accepted `MsgEnableTrading` writes -/
def enabled (now : Nat) (ra : Ra) : Ra :=
  { ra with te := true, pstart := some now, preLaunch := some (planPreLaunch now ra.pdur) }

/-- `Writes s ra op x`: in state `s` the op `op`, addressed to the rollapp of record `ra`, may replace `ra` by `x`.
    One constructor per op that writes a record, with those facts its guards establish that the theorems about `step` use. -/
inductive Writes (s : St) : Ra → Op → Ra → Prop
  | setgi {ra : Ra} (g : GInfo) : ra.gi.sealed = false → (hotfix g).vb = none →
      Writes s ra (.setgi ra.id true (some g)) { ra with gi := hotfix g }
  | force {ra : Ra} (g : GInfo) : g.vb = none →
      Writes s ra (.force ra.id true g) { ra with gi := { g with sealed := true } }
  | plan {ra : Ra} (alloc : Int) (dur : Nat) (te : Bool) (start : Option Nat) : ra.plan = none → ra.launched = false →
      ra.gi.sealed = false → (start.isSome = true → te = true) →
      Writes s ra (.plan ra.id true alloc dur te start) (planned s.now ra alloc dur te start)
  | enable {ra : Ra} (alloc : Int) : ra.plan = some (alloc, false) → ra.te = false →
      Writes s ra (.enable ra.id true) (enabled s.now ra)
  | seq {ra : Ra} : Writes s ra (.seq ra.id) { ra with launched := true, gi := { ra.gi with sealed := true } }
  | link {ra : Ra} : Writes s ra (.link ra.id) { ra with linked := true, chan := some s.nextChan }
  | canon {ra : Ra} : Writes s ra (.canon ra.id) { ra with linked := true }
  | chopen {ra : Ra} : ra.chan = none → Writes s ra (.chopen ra.id 0) { ra with chan := some s.nextChan }
  | premd {ra : Ra} : ra.chan.isSome = true → ra.gi.denom.isSet = true → ra.md = false →
      Writes s ra (.premd ra.id) { ra with md := true }
  | update {ra : Ra} (n : Nat) : ra.launched = true → 0 < n →
      Writes s ra (.update ra.id n) { ra with lastH := ra.lastH + n, frozen := false }
  | fork {ra : Ra} (h : Nat) : 0 < h → 0 < ra.tph → ra.tph ≤ h - 1 → 0 < ra.lastH → ra.linked = true →
      canonClientHeight ≤ min ra.lastH (h - 1) →
      Writes s ra (.fork ra.id true h) { ra with lastH := min ra.lastH (h - 1), frozen := true, rev := ra.rev + 1 }
  | recv {ra : Ra} (c c' ph : Nat) (p : Pkt) : s.chans.find? (·.1 == c) = some (c', ChanKind.canon ra.id) → ra.tph = 0 →
      (handshake ra ph p).2 = .ok → Writes s ra (.recv c ph p) (handshake ra ph p).1

theorem Writes.id {s : St} {ra x : Ra} {op : Op} (hw : Writes s ra op x) : x.id = ra.id := by
  cases hw with
  | recv => exact (handshake_keeps _ _ _).1
  | _ => rfl

theorem Writes.getRa {s : St} {ra x : Ra} {op : Op} (hw : Writes s ra op x) (hg : getRa s ra.id = some ra) :
    getRa (setRa s x) ra.id = some x := by
  rw [← hw.id]; exact getRa_setRa_self (hw.id ▸ hg)

/-- `out` is a refusal that changes nothing, or an acceptance that writes one record and nothing else -/
def ErrOrWrites (s : St) (op : Op) (out : St × Res) : Prop :=
  out = (s, .err) ∨ ∃ ra x, getRa s ra.id = some ra ∧ Writes s ra op x ∧ out = (setRa s x, .ok)

theorem ErrOrWrites.write {s : St} {op : Op} {ra x : Ra} (hg : getRa s ra.id = some ra) (hw : Writes s ra op x) :
    ErrOrWrites s op (setRa s x, .ok) := .inr ⟨ra, x, hg, hw, rfl⟩

/-- One guard of an op.  The op functions are chains of such guards ending in one flat record; applying this lemma
    once per `if` walks the chain by unification, without looking into the record. -/
theorem ErrOrWrites.guard {s : St} {op : Op} {c : Prop} [Decidable c] {out : St × Res} (h : ¬ c → ErrOrWrites s op out) :
    ErrOrWrites s op (if c then (s, .err) else out) := by
  by_cases hc : c
  · rw [if_pos hc]; exact .inl rfl
  · rw [if_neg hc]; exact h hc

/-- the lookup of the rollapp an op addresses -/
theorem ErrOrWrites.lookup {s : St} {op : Op} {r : Nat} {k : Ra → St × Res}
    (h : ∀ ra, getRa s r = some ra → ra.id = r → ErrOrWrites s op (k ra)) :
    ErrOrWrites s op (match getRa s r with | none => (s, .err) | some ra => k ra) := by
  cases hg : getRa s r with
  | none => exact .inl rfl
  | some ra => exact h ra hg (getRa_mem hg).2

theorem ErrOrWrites.ok {s : St} {op : Op} {out : St × Res} (h : ErrOrWrites s op out) (hok : out.2 = .ok) :
    ∃ ra x, getRa s ra.id = some ra ∧ Writes s ra op x ∧ out = (setRa s x, .ok) :=
  h.resolve_left fun e => by rw [e] at hok; cases hok

theorem ErrOrWrites.err {s : St} {op : Op} {out : St × Res} (h : ErrOrWrites s op out) (hne : out.2 ≠ .ok) : out = (s, .err) :=
  h.resolve_right fun ⟨_, _, _, _, e⟩ => hne (by rw [e])

theorem force_errOrWrites (s : St) (r : Nat) (gov : Bool) (g : GInfo) : ErrOrWrites s (.force r gov g) (step s (.force r gov g)) := by
  simp only [step, stepForce]
  refine .lookup fun ra hg hr => ?_
  subst hr
  refine .guard fun hgov => .guard fun hv => ?_
  obtain rfl : gov = true := by simpa using hgov
  exact .write hg (.force g (Option.not_isSome_iff_eq_none.1 fun h => hv (by rw [h]; rfl)))

theorem plan_errOrWrites (s : St) (r : Nat) (owner : Bool) (alloc : Int) (dur : Nat) (te : Bool) (start : Option Nat) :
    ErrOrWrites s (.plan r owner alloc dur te start) (step s (.plan r owner alloc dur te start)) := by
  simp only [step, stepPlan]
  refine .guard fun h0 => ?_
  refine .lookup fun ra hg hr => ?_
  subst hr
  refine .guard fun ho => .guard fun _ => .guard fun hp => ?_
  cases ra.gi.accounts.find? (·.addr == iroAddr) with
  | none => exact .inl rfl
  | some a =>
    refine .guard fun _ => .guard fun _ => .guard fun h6 => ?_
    obtain rfl : owner = true := by simpa using ho
    simp only [Bool.or_eq_true, not_or, Bool.not_eq_true] at h6
    refine .write hg (.plan alloc dur te start (Option.not_isSome_iff_eq_none.1 hp) h6.1.1 h6.1.2 fun hs => ?_)
    -- a start time without the trading flag was refused by the first guard
    cases te
    · exact absurd (by rw [hs]; rfl) h0
    · rfl

theorem enable_errOrWrites (s : St) (r : Nat) (owner : Bool) : ErrOrWrites s (.enable r owner) (step s (.enable r owner)) := by
  simp only [step, stepEnable]
  refine .lookup fun ra hg hr => ?_
  subst hr
  split
  · exact .inl rfl
  rename_i alloc settled hp
  refine .guard fun hte => .guard fun ho => .guard fun hst => ?_
  obtain rfl : owner = true := by simpa using ho
  obtain rfl : settled = false := by simpa using hst
  exact .write hg (.enable alloc hp (by simpa using hte))

theorem canon_errOrWrites (s : St) (r : Nat) : ErrOrWrites s (.canon r) (step s (.canon r)) := by
  simp only [step, stepCanon]
  refine .lookup fun ra hg hr => ?_
  subst hr
  exact .guard fun _ => .write hg .canon

theorem premd_errOrWrites (s : St) (r : Nat) : ErrOrWrites s (.premd r) (step s (.premd r)) := by
  simp only [step, stepPremd]
  refine .lookup fun ra hg hr => ?_
  subst hr
  refine .guard fun h1 => .guard fun h2 => ?_
  simp only [Bool.or_eq_true, not_or, Bool.not_eq_true, Bool.not_eq_false', Option.isNone_eq_false_iff] at h1
  exact .write hg (.premd h1.1 (by simpa using h1.2) (by simpa using h2))

theorem update_errOrWrites (s : St) (r n : Nat) : ErrOrWrites s (.update r n) (step s (.update r n)) := by
  simp only [step, stepUpdate]
  refine .lookup fun ra hg hr => ?_
  subst hr
  refine .guard fun h1 => ?_
  simp only [Bool.or_eq_true, not_or, Bool.not_eq_true, Bool.not_eq_false', beq_iff_eq] at h1
  exact .write hg (.update n h1.1 (Nat.pos_of_ne_zero h1.2))

theorem fork_errOrWrites (s : St) (r : Nat) (gov : Bool) (h : Nat) : ErrOrWrites s (.fork r gov h) (step s (.fork r gov h)) := by
  simp only [step, stepFork]
  refine .guard fun hgov => ?_
  refine .lookup fun ra hg hr => ?_
  subst hr
  refine .guard fun h1 => .guard fun h2 => .guard fun h3 => .guard fun h4 => .guard fun h5 => ?_
  obtain rfl : gov = true := by simpa using hgov
  simp only [Bool.or_eq_true, beq_iff_eq, decide_eq_true_eq, not_or] at h2
  refine .write hg (.fork h ?_ ?_ ?_ ?_ (by simpa using h4) (by simpa using h5))
  · exact Nat.pos_of_ne_zero (by simpa using h1)
  · omega
  · omega
  · exact Nat.pos_of_ne_zero (by simpa using h3)

/-- a refused `plan` step changes nothing -/
theorem stepPlan_err {s : St} {r : Nat} {owner : Bool} {alloc : Int} {dur : Nat} {te : Bool} {start : Option Nat}
    (h : (stepPlan s r owner alloc dur te start).2 ≠ .ok) : stepPlan s r owner alloc dur te start = (s, .err) :=
  (plan_errOrWrites s r owner alloc dur te start).err h

/-- What one op does to the rollapp records and to the channel table: the records stay, or a fresh one is appended, or one
    is replaced as `Writes` says; the channel table stays or grows at its end. -/
structure StepShape (s : St) (op : Op) (out : St × Res) : Prop where
  chans : ∃ l, out.1.chans = s.chans ++ l
  ras : out.1.ras = s.ras ∨ (∃ r g, g.vb = none ∧ out.1.ras = s.ras ++ [newRa r g]) ∨
    ∃ ra x, getRa s ra.id = some ra ∧ Writes s ra op x ∧ out.2 = .ok ∧ out.1.ras = (setRa s x).ras

theorem StepShape.of_chans {s : St} {op : Op} {out : St × Res} (hc : out.1.chans = s.chans)
    (h : out.1.ras = s.ras ∨ (∃ r g, g.vb = none ∧ out.1.ras = s.ras ++ [newRa r g]) ∨
      ∃ ra x, getRa s ra.id = some ra ∧ Writes s ra op x ∧ out.2 = .ok ∧ out.1.ras = (setRa s x).ras) : StepShape s op out :=
  ⟨⟨[], by rw [hc, List.append_nil]⟩, h⟩

theorem StepShape.same {s : St} {op : Op} (e : Res) : StepShape s op (s, e) := .of_chans rfl (.inl rfl)

theorem StepShape.write {s : St} {op : Op} {ra x : Ra} (hg : getRa s ra.id = some ra) (hw : Writes s ra op x) :
    StepShape s op (setRa s x, .ok) := .of_chans rfl (.inr (.inr ⟨ra, x, hg, hw, rfl, rfl⟩))

theorem StepShape.guard {s : St} {op : Op} {c : Prop} [Decidable c] {e : Res} {out : St × Res} (h : ¬ c → StepShape s op out) :
    StepShape s op (if c then (s, e) else out) := by
  by_cases hc : c
  · rw [if_pos hc]; exact .same e
  · rw [if_neg hc]; exact h hc

theorem StepShape.lookup {s : St} {op : Op} {r : Nat} {k : Ra → St × Res}
    (h : ∀ ra, getRa s r = some ra → ra.id = r → StepShape s op (k ra)) :
    StepShape s op (match getRa s r with | none => (s, .err) | some ra => k ra) := by
  cases hg : getRa s r with
  | none => exact .same _
  | some ra => exact h ra hg (getRa_mem hg).2

theorem ErrOrWrites.shape {s : St} {op : Op} {out : St × Res} (h : ErrOrWrites s op out) : StepShape s op out := by
  rcases h with e | ⟨ra, x, hg, hw, e⟩ <;> rw [e]
  · exact .same _
  · exact .write hg hw

theorem step_shape (s : St) (op : Op) : StepShape s op (step s op) := by
  cases op with
  | force r gov g => exact (force_errOrWrites s r gov g).shape
  | plan r owner alloc dur te start => exact (plan_errOrWrites s r owner alloc dur te start).shape
  | enable r owner => exact (enable_errOrWrites s r owner).shape
  | canon r => exact (canon_errOrWrites s r).shape
  | premd r => exact (premd_errOrWrites s r).shape
  | update r n => exact (update_errOrWrites s r n).shape
  | fork r gov h => exact (fork_errOrWrites s r gov h).shape
  | tick dt => exact .of_chans rfl (.inl rfl)
  | plainch => exact ⟨⟨[_], rfl⟩, .inl rfl⟩
  | create r g =>
    simp only [step, stepCreate]
    cases g with
    | none => exact .guard fun _ => .of_chans rfl (.inr (.inl ⟨r, _, emptyGI_vb, rfl⟩))
    | some g =>
      refine .guard fun _ => .guard fun hv => .guard fun _ => ?_
      exact .of_chans rfl (.inr (.inl ⟨r, _, Option.not_isSome_iff_eq_none.1 hv, rfl⟩))
  | setgi r owner g =>
    simp only [step, stepSetgi]
    refine .lookup fun ra hg hr => ?_
    subst hr
    cases g with
    | none => simp only; split <;> exact .same _
    | some g =>
      refine .guard fun _ => .guard fun ho => .guard fun hs => .guard fun _ => .guard fun hv => .guard fun _ => ?_
      obtain rfl : owner = true := by simpa using ho
      exact .write hg (.setgi g (by simpa using hs) (Option.not_isSome_iff_eq_none.1 hv))
  | seq r =>
    simp only [step, stepSeq]
    refine .lookup fun ra hg hr => ?_
    subst hr
    exact .guard fun _ => .guard fun _ => .guard fun _ => .write hg .seq
  | link r =>
    simp only [step, stepLink]
    refine .lookup fun ra hg hr => ?_
    subst hr
    exact .guard fun _ => ⟨⟨[_], rfl⟩, .inr (.inr ⟨ra, _, hg, .link, rfl, rfl⟩)⟩
  | link2 r =>
    simp only [step, stepLink2]
    exact .lookup fun ra _ _ => .guard fun _ => .guard fun _ => ⟨⟨[_], rfl⟩, .inl rfl⟩
  | chopen r via =>
    simp only [step, stepChopen]
    refine .lookup fun ra hg hr => ?_
    subst hr
    refine .guard fun _ => .guard fun _ => ?_
    by_cases hvia : (via == 0) = true
    · obtain rfl : via = 0 := by simpa using hvia
      by_cases hc : ra.chan.isSome = true
      · rw [if_pos hvia, if_pos hc]; exact .of_chans rfl (.inl rfl)
      · rw [if_pos hvia, if_neg hc]
        exact ⟨⟨[_], rfl⟩, .inr (.inr ⟨ra, _, hg, .chopen (by simpa using hc), rfl, rfl⟩)⟩
    · rw [if_neg hvia]; exact ⟨⟨[_], rfl⟩, .inl rfl⟩
  | send c =>
    simp only [step, stepSend]
    split
    · exact .same _
    · exact .same _
    · exact .same _
    · exact .lookup fun ra _ _ => .guard fun _ => .guard fun _ => .same _
  | recv c ph p =>
    simp only [step, stepRecv]
    split
    · exact .same _
    · exact .same _
    · exact .lookup fun ra _ _ => .guard fun _ => by split <;> exact .same _
    · rename_i c' r hc
      refine .lookup fun ra hg hr => ?_
      subst hr
      by_cases ht : (ra.tph != 0) = true
      · rw [if_pos ht]; split <;> exact .same _
      by_cases hok : ((handshake ra ph p).2 == .ok) = true
      · rw [if_neg ht, if_pos hok]
        exact .write hg (.recv c c' ph p hc (by simpa using ht) (by simpa using hok))
      · rw [if_neg ht, if_neg hok]; exact .same _

/-- what one op does to the record of one rollapp: nothing, or what `Writes` says -/
theorem step_getRa (s : St) (op : Op) {r : Nat} {ra : Ra} (hg : getRa s r = some ra) :
    getRa (step s op).1 r = some ra ∨
    ∃ x, Writes s ra op x ∧ (step s op).2 = .ok ∧ getRa (step s op).1 r = some x := by
  obtain rfl := (getRa_mem hg).2
  rcases (step_shape s op).ras with e | ⟨_, _, _, e⟩ | ⟨ra0, x, hg0, hw, hok, e⟩
  · exact .inl (by rw [getRa_of_ras e]; exact hg)
  · left
    unfold getRa at hg ⊢
    rw [e, List.find?_append, hg]; rfl
  · rw [getRa_of_ras e]
    by_cases hr : ra.id = ra0.id
    · rw [hr, hg0] at hg
      cases hg
      exact .inr ⟨x, hw, hok, hw.getRa hg0⟩
    · exact .inl (by rw [getRa_setRa_ne s x (hw.id ▸ hr)]; exact hg)

end DymVerif.GB
