/-
  Lemmas/CoreLevBasic — the liveness-event queue: list lemmas (`delEvent`, `insertSorted ltPair`),
  `getRa`/`setRa` interplay, the structural invariant `Lev` (events ↔ rollapp records, at most one
  event per rollapp) and its preservation by the primitive transformers.
-/
import DymVerif.Lemmas.CoreLevOps
namespace DymVerif.Core.LevNs

theorem mem_setRa_ne {s : St} {r0 x : Rollapp} (h : x ∈ (setRa s r0).ras) :
    x = r0 ∨ (x ∈ s.ras ∧ x.id ≠ r0.id) := by
  unfold setRa at h
  simp only [List.mem_map] at h
  obtain ⟨y, hy, rfl⟩ := h
  by_cases hc : (y.id == r0.id) = true
  · simp [hc]
  · right
    have hne : y.id ≠ r0.id := by simpa using hc
    simp only [hc]
    exact ⟨hy, hne⟩

theorem setRa_ids (s : St) (r : Rollapp) : (setRa s r).ras.map (·.id) = s.ras.map (·.id) := by
  unfold setRa
  dsimp only
  rw [List.map_map]
  apply List.map_congr_left
  intro x _
  show (if (x.id == r.id) = true then r else x).id = x.id
  split
  · rename_i h; exact (by simpa using h : x.id = r.id).symm
  · rfl

theorem mem_delEvent {lev : List (Nat × Nat)} {h ra : Nat} {e : Nat × Nat} :
    e ∈ delEvent lev h ra ↔ e ∈ lev ∧ ¬ (e.1 = h ∧ e.2 = ra) := by
  unfold delEvent
  simp only [List.mem_filter, Bool.not_eq_true', Bool.and_eq_false_iff, beq_eq_false_iff_ne, ne_eq]
  constructor
  · rintro ⟨h1, h2⟩; exact ⟨h1, fun hc => by rcases h2 with h2 | h2; exact h2 hc.1; exact h2 hc.2⟩
  · rintro ⟨h1, h2⟩
    refine ⟨h1, ?_⟩
    by_cases hc : e.1 = h
    · exact Or.inr (fun h3 => h2 ⟨hc, h3⟩)
    · exact Or.inl hc

theorem delEvent_nodup {lev : List (Nat × Nat)} (h ra : Nat) (hn : (lev.map (·.2)).Nodup) :
    ((delEvent lev h ra).map (·.2)).Nodup := by
  unfold delEvent
  exact List.Nodup.sublist (List.Sublist.map _ List.filter_sublist) hn

theorem ltPair_tri {a b : Nat × Nat} (h1 : ltPair a b = false) (h2 : ltPair b a = false) : b = a := by
  unfold ltPair at h1 h2
  simp only [Bool.or_eq_false_iff, Bool.and_eq_false_iff, decide_eq_false_iff_not, beq_eq_false_iff_ne] at h1 h2
  apply Prod.ext <;> omega

/-- `ltPair` is total: nothing is dropped by an insertion into the event list -/
theorem mem_insertSorted_of_mem (x : Nat × Nat) (l : List (Nat × Nat)) (y : Nat × Nat) (hy : y ∈ l) :
    y ∈ insertSorted ltPair x l := by
  rcases insertSorted_mem_of_mem ltPair x hy with h | ⟨h1, h2⟩
  · exact h
  · rw [ltPair_tri h1 h2]; exact insertSorted_mem_self _ _ _

/-- inserting (or replacing by) an element with a fresh key keeps the keys distinct, whatever the order -/
theorem insertSorted_nodup_map {α β} (lt : α → α → Bool) (f : α → β) (x : α) (l : List α)
    (hn : (l.map f).Nodup) (hx : ∀ y ∈ l, f y ≠ f x) : ((insertSorted lt x l).map f).Nodup := by
  obtain ⟨l₁, l₂, e, _, h⟩ := insertSorted_eq lt x l
  have hsub : (l₁ ++ l₂).Sublist l := by
    rcases h with ⟨rfl, _⟩ | ⟨y, rfl, _⟩
    · exact List.Sublist.refl _
    · exact List.Sublist.append (List.Sublist.refl _) (List.sublist_cons_self _ _)
  rw [e, List.map_append, List.map_cons]
  refine List.perm_middle.nodup_iff.2 (List.nodup_cons.2 ⟨fun hm => ?_, ?_⟩)
  · rw [← List.map_append] at hm
    obtain ⟨y, hy, e'⟩ := List.mem_map.1 hm
    exact hx y (hsub.subset hy) e'
  · rw [← List.map_append]; exact hn.sublist (hsub.map f)

/-- events and rollapp records agree, and no rollapp has two events -/
structure Lev (s : St) : Prop where
  /-- every queued event belongs to an existing rollapp whose record carries that height -/
  ev_ra : ∀ e ∈ s.lev, ∃ r, getRa s e.2 = some r ∧ r.evH = e.1
  /-- at most one event per rollapp -/
  one : (s.lev.map (·.2)).Nodup
  /-- a rollapp record with a non-zero event height has exactly that event queued -/
  ra_ev : ∀ r ∈ s.ras, r.evH = 0 ∨ (r.evH, r.id) ∈ s.lev

theorem Lev.of_eq {s s' : St} (h : Lev s) (e1 : s'.ras = s.ras) (e2 : s'.lev = s.lev) : Lev s' := by
  constructor
  · intro e he; rw [e2] at he; rw [getRa_of_ras_eq e1]; exact h.ev_ra e he
  · rw [e2]; exact h.one
  · intro r hr; rw [e1] at hr; rw [e2]; exact h.ra_ev r hr

/-- all queued events of rollapp `id` sit at the height its record carries -/
theorem Lev.ev_height {s : St} (h : Lev s) {id : Nat} {r : Rollapp} (hg : getRa s id = some r)
    {e : Nat × Nat} (he : e ∈ s.lev) (h2 : e.2 = id) : e.1 = r.evH := by
  obtain ⟨r0, hr0, h0⟩ := h.ev_ra e he
  rw [h2, hg] at hr0
  injection hr0 with hr0; subst hr0; exact h0.symm

/-- rewriting a record without touching its event height -/
theorem Lev.setRa_same {s : St} {id : Nat} {r r' : Rollapp} (h : Lev s) (hg : getRa s id = some r)
    (hid : r'.id = r.id) (he : r'.evH = r.evH) : Lev (setRa s r') := by
  have hid' : r'.id = id := hid.trans (getRa_id hg)
  constructor
  · intro e hel
    rw [setRa_lev] at hel
    obtain ⟨r0, hr0, h0⟩ := h.ev_ra e hel
    by_cases hc : r'.id = e.2
    · rw [← hc, hid', hg] at hr0
      injection hr0 with hr0; subst hr0
      refine ⟨r', ?_, he.trans h0⟩
      rw [← hc]; exact getRa_setRa_self (r0 := r) (by rw [hid']; exact hg)
    · exact ⟨r0, by rw [getRa_setRa_ne hc]; exact hr0, h0⟩
  · exact h.one
  · intro x hx
    rw [setRa_lev]
    rcases mem_setRa_ne hx with h1 | ⟨h1, _⟩
    · subst h1
      rw [he, hid]
      exact h.ra_ev r (getRa_mem hg)
    · exact h.ra_ev x h1

/-- the clock of a rollapp is reset: its event is deleted, the record carries height 0 -/
theorem Lev.reset_gen {s s' : St} {id : Nat} {r r' : Rollapp} (h : Lev s) (hg : getRa s id = some r)
    (hid : r'.id = r.id) (he : r'.evH = 0) (hras : s'.ras = (setRa s r').ras)
    (hlev : s'.lev = delEvent s.lev r.evH id) : Lev s' := by
  have hid' : r'.id = id := hid.trans (getRa_id hg)
  constructor
  · intro e hel
    rw [hlev] at hel
    obtain ⟨hel1, hel2⟩ := mem_delEvent.1 hel
    obtain ⟨r0, hr0, h0⟩ := h.ev_ra e hel1
    have hc : r'.id ≠ e.2 := by
      intro hc
      exact hel2 ⟨h.ev_height hg hel1 (hc.symm.trans hid'), hc.symm.trans hid'⟩
    exact ⟨r0, by rw [getRa_of_ras_eq hras, getRa_setRa_ne hc]; exact hr0, h0⟩
  · rw [hlev]; exact delEvent_nodup _ _ h.one
  · intro x hx
    rw [hras] at hx
    rw [hlev]
    rcases mem_setRa_ne hx with h1 | ⟨h1, h2⟩
    · subst h1; exact Or.inl he
    · rcases h.ra_ev x h1 with h3 | h3
      · exact Or.inl h3
      · exact Or.inr (mem_delEvent.2 ⟨h3, fun hc => h2 (hc.2.trans hid'.symm)⟩)

/-- the event of a rollapp is replaced by a new one at the height its record now carries -/
theorem Lev.sched_gen {s s' : St} {id : Nat} {r r' : Rollapp} (h : Lev s) (hg : getRa s id = some r)
    (hid : r'.id = r.id) (hras : s'.ras = (setRa s r').ras)
    (hlev : s'.lev = insertSorted ltPair (r'.evH, id) (delEvent s.lev r.evH id)) : Lev s' := by
  have hid' : r'.id = id := hid.trans (getRa_id hg)
  have hclean : ∀ y ∈ delEvent s.lev r.evH id, y.2 ≠ id := by
    intro y hy hc
    obtain ⟨hy1, hy2⟩ := mem_delEvent.1 hy
    exact hy2 ⟨h.ev_height hg hy1 hc, hc⟩
  constructor
  · intro e hel
    rw [hlev] at hel
    rcases insertSorted_mem' _ _ _ _ hel with h1 | h1
    · subst h1
      refine ⟨r', ?_, rfl⟩
      rw [getRa_of_ras_eq hras]
      show getRa (setRa s r') id = some r'
      rw [← hid']; exact getRa_setRa_self (r0 := r) (by rw [hid']; exact hg)
    · obtain ⟨hel1, _⟩ := mem_delEvent.1 h1
      obtain ⟨r0, hr0, h0⟩ := h.ev_ra e hel1
      have hc : r'.id ≠ e.2 := fun hc => hclean e h1 (hc.symm.trans hid')
      exact ⟨r0, by rw [getRa_of_ras_eq hras, getRa_setRa_ne hc]; exact hr0, h0⟩
  · rw [hlev]
    exact insertSorted_nodup_map _ Prod.snd _ _ (delEvent_nodup _ _ h.one) hclean
  · intro x hx
    rw [hras] at hx
    rw [hlev]
    rcases mem_setRa_ne hx with h1 | ⟨h1, h2⟩
    · subst h1; rw [hid']; exact Or.inr (insertSorted_mem_self _ _ _)
    · rcases h.ra_ev x h1 with h3 | h3
      · exact Or.inl h3
      · exact Or.inr (mem_insertSorted_of_mem _ _ _ (mem_delEvent.2 ⟨h3, fun hc => h2 (hc.2.trans hid'.symm)⟩))

/-- `IndicateLiveness` + `SetRollapp` in one step: the old event is replaced by one at the next slash height
    counted from now, the record carries that height and the new countdown start -/
theorem indicateLiveness_eq (s : St) (r : Rollapp) :
    indicateLiveness s r =
      setRa { s with lev := insertSorted ltPair (nextSlashHeight s.p.lsBlocks s.p.lsInterval s.h s.h, r.id)
                              (delEvent s.lev r.evH r.id) }
        { r with evH := nextSlashHeight s.p.lsBlocks s.p.lsInterval s.h s.h, cdStart := s.h } := rfl

theorem indicateLiveness_ras (s : St) (r : Rollapp) :
    (indicateLiveness s r).ras =
      (setRa s { r with evH := nextSlashHeight s.p.lsBlocks s.p.lsInterval s.h s.h, cdStart := s.h }).ras := by
  rw [indicateLiveness_eq]; rfl

theorem indicateLiveness_lev (s : St) (r : Rollapp) :
    (indicateLiveness s r).lev =
      insertSorted ltPair (nextSlashHeight s.p.lsBlocks s.p.lsInterval s.h s.h, r.id) (delEvent s.lev r.evH r.id) := by
  rw [indicateLiveness_eq]; rfl

theorem indicateLiveness_h (s : St) (r : Rollapp) : (indicateLiveness s r).h = s.h := by
  rw [indicateLiveness_eq]; rfl
theorem indicateLiveness_p (s : St) (r : Rollapp) : (indicateLiveness s r).p = s.p := by
  rw [indicateLiveness_eq]; rfl

theorem Lev.indicate {s : St} {id : Nat} {r : Rollapp} (h : Lev s) (hg : getRa s id = some r) :
    Lev (indicateLiveness s r) := by
  have hid := getRa_id hg
  refine Lev.sched_gen (r' := { r with evH := nextSlashHeight s.p.lsBlocks s.p.lsInterval s.h s.h, cdStart := s.h })
    h hg rfl (indicateLiveness_ras s r) ?_
  rw [indicateLiveness_lev, hid]

theorem Lev.reset {s : St} {id : Nat} {r r' : Rollapp} (h : Lev s) (hg : getRa s id = some r)
    (hid : r'.id = r.id) (he : r'.evH = r.evH) :
    Lev (setRa (resetClock s r').1 (resetClock s r').2) := by
  have hid' : r'.id = id := hid.trans (getRa_id hg)
  refine Lev.reset_gen (r' := { r' with evH := 0, cdStart := s.h }) h hg hid rfl rfl ?_
  show delEvent s.lev r'.evH r'.id = _
  rw [he, hid']

end DymVerif.Core.LevNs
