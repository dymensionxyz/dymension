/-
  Lemmas/IncentExact — EXACT accounting of the paged distribution on the real callback and the real pointer loop
  (`rewardsCb`, `iterateEpochPointer`, `ptrLoop` of Model/Incent — not the abstract iterator):
  for every cached stream the quantity
      QR = distributed + Σ shares of its (stream, gauge) positions still ahead of its epoch's pointer
  (`pendR`, read off the iterator's own `remaining` list) is CONSERVED by the pointer loop for EVERY budget —
  the equality reading of `ptrLoop_acct` (Lemmas/IncentPass), whose other reading is the `≤` of `ptrLoop_window`.
  Needs every record of a cached stream to name a
  live gauge (`LiveC`: `getActiveGaugeByID` succeeds — true for what `validateGauges` admits: existing perpetual
  gauges never finish; a record naming a finished / unknown gauge is skipped by the code and its share is lost).
-/
import DymVerif.Lemmas.IncentOps
namespace DymVerif.Incent
open DymVerif Coins

/-- **the pointer loop of x/streamer `Distribute` (hour, day, week sharing one budget), EVERY budget**: `QR` of every
    cached stream is the same before and after -/
theorem ptrLoop_exact (s : State) (maxOps : Nat) : ∀ (es : List Nat) (total : Nat) (c : Caches) (ps : List Pointer), GoodCache c → LiveC s c →
    Grown c (ptrLoop s maxOps es total c ps).2.1 ∧
    ∀ k, k < c.streams.length → ∀ i, QR (ptrLoop s maxOps es total c ps).2.1 (ptrLoop s maxOps es total c ps).2.2 k i = QR c ps k i :=
  fun es total c ps hgc hl =>
    let ⟨a, b⟩ := ptrLoop_acct s maxOps es total c ps hgc
    ⟨a, fun k hk i => (b k hk i).2 hl⟩

end DymVerif.Incent
