/-
  Lemmas/CoreFork — frame lemmas for the hard fork: record lookup after `setRa` / `setSeq`, what the
  sequencer hook `seqOnHardFork` touches, and the decomposition of an accepted `hardFork` into its
  post-state.
-/
import DymVerif.Lemmas.CoreCustody2
import DymVerif.Lemmas.CoreProposer
namespace DymVerif.Core.Fork

theorem getRa_congr {s s' : St} (e : s'.ras = s.ras) (id : Nat) : getRa s' id = getRa s id :=
  getRa_of_ras_eq e id

theorem getRa_setRa_same {s : St} {r r0 : Rollapp} (hg : getRa s r.id = some r0) :
    getRa (setRa s r) r.id = some r := getRa_setRa_self hg

theorem getRa_setRa_other {s : St} {r : Rollapp} {id : Nat} (hne : id ≠ r.id) :
    getRa (setRa s r) id = getRa s id := getRa_setRa_ne (Ne.symm hne)

theorem setProposer_getRa_same {s : St} {ra : Nat} {r : Rollapp} {a : Option Addr} (hg : getRa s ra = some r) :
    getRa (setProposer s ra a) ra = some { r with proposer := a } := by
  have hid := getRa_id hg
  subst hid
  unfold setProposer
  rw [hg]
  exact getRa_setRa_same (r := { r with proposer := a }) hg

theorem setSuccessor_getRa_same {s : St} {ra : Nat} {r : Rollapp} {a : Option Addr} (hg : getRa s ra = some r) :
    getRa (setSuccessor s ra a) ra = some { r with successor := a } := by
  have hid := getRa_id hg
  subst hid
  unfold setSuccessor
  rw [hg]
  exact getRa_setRa_same (r := { r with successor := a }) hg

/-- `h`, `t`, `p`, queue, liabilities, liveness events, obsolete list and money agree -/
structure SameRest (s s' : St) : Prop where
  h : s'.h = s.h
  t : s'.t = s.t
  p : s'.p = s.p
  queue : s'.queue = s.queue
  seqH : s'.seqH = s.seqH
  lev : s'.lev = s.lev
  obsolete : s'.obsolete = s.obsolete
  bal : s'.bal = s.bal
  modBal : s'.modBal = s.modBal
  burned : s'.burned = s.burned

theorem SameRest.refl (s : St) : SameRest s s := ⟨rfl, rfl, rfl, rfl, rfl, rfl, rfl, rfl, rfl, rfl⟩

theorem SameRest.trans {s1 s2 s3 : St} (a : SameRest s1 s2) (b : SameRest s2 s3) : SameRest s1 s3 :=
  ⟨b.h.trans a.h, b.t.trans a.t, b.p.trans a.p, b.queue.trans a.queue, b.seqH.trans a.seqH, b.lev.trans a.lev,
   b.obsolete.trans a.obsolete, b.bal.trans a.bal, b.modBal.trans a.modBal, b.burned.trans a.burned⟩

theorem SameRest.setRa {s b : St} (h : SameRest s b) (r : Rollapp) : SameRest s (setRa b r) :=
  h.trans ⟨rfl, rfl, rfl, rfl, rfl, rfl, rfl, rfl, rfl, rfl⟩

theorem SameRest.seqs {s b : St} (h : SameRest s b) (l : List Seq) : SameRest s { b with seqs := l } :=
  h.trans ⟨rfl, rfl, rfl, rfl, rfl, rfl, rfl, rfl, rfl, rfl⟩

theorem removeFromNoticeQueue_rest (s : St) (q : Seq) : SameRest s (removeFromNoticeQueue s q) := by
  unfold removeFromNoticeQueue; split <;> exact ⟨rfl, rfl, rfl, rfl, rfl, rfl, rfl, rfl, rfl, rfl⟩

theorem setProposer_nq (s : St) (ra : Nat) (a : Option Addr) : (setProposer s ra a).nq = s.nq := by
  unfold setProposer; split <;> rfl

theorem setSuccessor_nq (s : St) (ra : Nat) (a : Option Addr) : (setSuccessor s ra a).nq = s.nq := by
  unfold setSuccessor; split <;> rfl

/-- the rollapp record after the abrupt removal: only the proposer field may change; it becomes
    the sentinel unless the recorded proposer has no sequencer record (then nothing happens) -/
theorem abruptRemoveProposer_getRa_same {s : St} {ra : Nat} {r : Rollapp} (hg : getRa s ra = some r) :
    ∃ p', getRa (abruptRemoveProposer s ra) ra = some { r with proposer := p' } ∧
      (p' = none ∨ (p' = r.proposer ∧ ∃ a, r.proposer = some a ∧ getSeq s a = none)) := by
  rcases abruptRemoveProposer_cases' s ra with ⟨h, hwhy⟩ | ⟨r1, a, q, hg1, _, _, h⟩
  · rw [h]
    refine ⟨r.proposer, hg, ?_⟩
    rcases hwhy with hn | ⟨r1, hg1, hp⟩
    · rw [hg] at hn; cases hn
    · cases hg.symm.trans hg1
      exact hp.imp id (fun ⟨a, hp, hq⟩ => ⟨rfl, a, hp, hq⟩)
  · cases hg.symm.trans hg1
    rw [h]
    refine ⟨none, ?_, Or.inl rfl⟩
    apply setProposer_getRa_same
    rw [getRa_congr (s := s) (by simp [removeFromNoticeQueue_ras])]; exact hg

/-- the sequencer records after the abrupt removal: only the proposer's `bonded` flag changes -/
theorem abruptRemoveProposer_getSeq {s : St} {ra : Nat} {r : Rollapp} (hg : getRa s ra = some r) (a : Addr) :
    getSeq (abruptRemoveProposer s ra) a =
      (getSeq s a).map (fun q => if r.proposer = some a then { q with bonded := false } else q) := by
  unfold abruptRemoveProposer
  rw [hg]
  dsimp only
  split
  · rename_i hp
    simp [hp]
  · rename_i pa hp
    split
    · rename_i hq
      by_cases hpa : pa = a
      · subst hpa; rw [hq]; rfl
      · have : ¬ (r.proposer = some a) := by rw [hp]; intro hc; injection hc with hc; exact hpa hc
        simp [this]
    · rename_i q hq
      rw [getSeq_congr (setProposer_seqs _ _ _).1, getSeq_setSeq, getSeq_congr (removeFromNoticeQueue_seqs s q).1]
      have hqa := getSeq_addr hq
      by_cases hpa : pa = a
      · subst hpa
        rw [hq, hp]
        simp [hqa]
      · have hne : ¬ (r.proposer = some a) := by rw [hp]; intro hc; injection hc with hc; exact hpa hc
        simp only [hne, if_false]
        cases hx : getSeq s a with
        | none => rfl
        | some x =>
          have hxa := getSeq_addr hx
          have : (x.addr == q.addr) = false := by simp [hxa, hqa]; exact fun hc => hpa hc.symm
          show some (if (x.addr == q.addr) = true then { q with bonded := false } else x) = some x
          rw [this]; rfl

/-- only notice-queue entries of the removed proposer disappear -/
theorem abruptRemoveProposer_nq_keep {s : St} {ra : Nat} {r : Rollapp} (hg : getRa s ra = some r) :
    ∀ e ∈ s.nq, r.proposer ≠ some e.2 → e ∈ (abruptRemoveProposer s ra).nq := by
  intro e he hne
  rcases abruptRemoveProposer_cases s ra with h | ⟨r1, a, q, hg1, hp, hq, h⟩
  · rw [h]; exact he
  · cases hg.symm.trans hg1
    rw [h, setProposer_nq]
    show e ∈ (removeFromNoticeQueue s q).nq
    unfold removeFromNoticeQueue
    split
    · refine List.mem_filter.2 ⟨he, ?_⟩
      have : e.2 ≠ q.addr := fun hc => hne (by rw [hp, hc, getSeq_addr hq])
      simp [this]
    · exact he

theorem seqOnHardFork_rest (s : St) (ra : Nat) : SameRest s (seqOnHardFork s ra) :=
  RoleClosed.seqOnHardFork (P := SameRest s)
    ⟨fun _ h => h.setRa _, fun _ h => h.setRa _, fun _ h => h.seqs _, fun h => h.seqs _,
      fun q h => h.trans (removeFromNoticeQueue_rest _ q)⟩ (SameRest.refl s)

theorem seqOnHardFork_getRa_other {s : St} {ra id : Nat} (hne : id ≠ ra) :
    getRa (seqOnHardFork s ra) id = getRa s id :=
  RoleClosed.seqOnHardFork (P := fun b => getRa b id = getRa s id)
    ⟨fun hg h => (getRa_setRa_other (by rw [getRa_id hg]; exact hne)).trans h,
      fun hg h => (getRa_setRa_other (by rw [getRa_id hg]; exact hne)).trans h, fun _ h => h, fun h => h,
      fun q h => (getRa_congr (removeFromNoticeQueue_ras _ q) id).trans h⟩ rfl

/-- the forked rollapp's record after the sequencer hook: successor cleared, proposer := sentinel
    (unless the recorded proposer has no sequencer record), every other field as before -/
theorem seqOnHardFork_getRa_same {s : St} {ra : Nat} {r : Rollapp} (hg : getRa s ra = some r) :
    ∃ p', getRa (seqOnHardFork s ra) ra = some { r with proposer := p', successor := none } ∧
      (p' = none ∨ (p' = r.proposer ∧ ∃ a, r.proposer = some a ∧ getSeq s a = none)) := by
  unfold seqOnHardFork
  have hg1 : getRa (optOutAll s ra) ra = some r := (getRa_congr (s := s) (s' := optOutAll s ra) rfl ra).trans hg
  obtain ⟨p', h1, h2⟩ := abruptRemoveProposer_getRa_same hg1
  refine ⟨p', setSuccessor_getRa_same h1, ?_⟩
  rcases h2 with h2 | ⟨h2, a, h3, h4⟩
  · exact Or.inl h2
  · refine Or.inr ⟨h2, a, h3, ?_⟩
    rw [optOutAll_getSeq] at h4
    cases hx : getSeq s a with
    | none => rfl
    | some x => rw [hx] at h4; cases h4

/-- every sequencer record after the hook: opted out if it belongs to the rollapp, unbonded if it
    was the proposer, nothing else changes (in particular not the bond) -/
theorem seqOnHardFork_getSeq {s : St} {ra : Nat} {r : Rollapp} (hg : getRa s ra = some r) (a : Addr) :
    getSeq (seqOnHardFork s ra) a =
      (getSeq s a).map (fun q => { q with optedIn := if q.rollapp == ra then false else q.optedIn,
                                          bonded := if r.proposer = some a then false else q.bonded }) := by
  unfold seqOnHardFork
  have hg1 : getRa (optOutAll s ra) ra = some r := (getRa_congr (s := s) (s' := optOutAll s ra) rfl ra).trans hg
  rw [getSeq_congr (setSuccessor_seqs _ _ _).1, abruptRemoveProposer_getSeq hg1, optOutAll_getSeq]
  cases getSeq s a with
  | none => rfl
  | some q =>
    simp only [Option.map_some]
    congr 1
    by_cases h1 : (q.rollapp == ra) = true <;> by_cases h2 : r.proposer = some a <;> simp [h1, h2]

theorem seqOnHardFork_nq_sub (s : St) (ra : Nat) : ∀ e ∈ (seqOnHardFork s ra).nq, e ∈ s.nq :=
  RoleClosed.seqOnHardFork (P := fun b => ∀ e ∈ b.nq, e ∈ s.nq)
    ⟨fun _ h => h, fun _ h => h, fun _ h => h, fun h => h, fun q h e he => by
      unfold removeFromNoticeQueue at he
      split at he
      · exact h e (List.mem_filter.1 he).1
      · exact h e he⟩ (fun _ he => he)

theorem seqOnHardFork_nq_keep {s : St} {ra : Nat} {r : Rollapp} (hg : getRa s ra = some r) :
    ∀ e ∈ s.nq, r.proposer ≠ some e.2 → e ∈ (seqOnHardFork s ra).nq := by
  intro e he hne
  unfold seqOnHardFork
  rw [setSuccessor_nq]
  have hg1 : getRa (optOutAll s ra) ra = some r := (getRa_congr (s := s) (s' := optOutAll s ra) rfl ra).trans hg
  exact abruptRemoveProposer_nq_keep hg1 e he hne

/-- `hardFork` on a known rollapp, gate by gate -/
theorem hardFork_of_get {s : St} {ra lv : Nat} {r : Rollapp} (hg : getRa s ra = some r) :
    hardFork s ra lv =
      if r.tph = 0 ∨ lv < r.tph then .error .forkNotAllowed
      else if (lv + 1) % 2 ^ 64 = 0 then .error .invalid
      else match revertPlan r ((lv + 1) % 2 ^ 64) with
        | .error e => .error e
        | .ok (keep, kst) => .ok (seqOnHardFork (afterRevert s ra keep r kst) ra) := by
  unfold hardFork
  rw [hg]
  dsimp only
  by_cases ht : r.tph = 0 ∨ lv < r.tph
  · rw [if_pos ht, if_pos (by simp; omega)]
  · rw [if_neg ht, if_neg (by simp; omega)]
    rfl

/-- the same with the rollapp record and the plan named by the caller -/
theorem hardFork_ok_eq {s s' : St} {ra lv keep : Nat} {r : Rollapp} {kst : SInfo} (hg : getRa s ra = some r)
    (hplan : revertPlan r ((lv + 1) % 2 ^ 64) = .ok (keep, kst)) (e : hardFork s ra lv = .ok s') :
    s' = seqOnHardFork (afterRevert s ra keep r kst) ra := by
  obtain ⟨r1, keep1, kst1, hg1, _, _, _, hplan1, hs⟩ := hardFork_ok e
  cases hg.symm.trans hg1
  cases hplan.symm.trans hplan1
  exact hs

theorem afterRevert_getRa_other {s : St} {ra keep id : Nat} {r : Rollapp} {kst : SInfo} (hg : getRa s ra = some r)
    (hne : id ≠ ra) : getRa (afterRevert s ra keep r kst) id = getRa s id := by
  unfold afterRevert resetClock
  rw [getRa_setRa_other (by show id ≠ r.id; rw [getRa_id hg]; exact hne)]
  exact getRa_congr rfl id

/-- the revert itself touches no clock, parameter, balance, the obsolete list or the notice queue -/
theorem afterRevert_rest (s : St) (ra keep : Nat) (r : Rollapp) (kst : SInfo) :
    (afterRevert s ra keep r kst).h = s.h ∧ (afterRevert s ra keep r kst).t = s.t ∧
    (afterRevert s ra keep r kst).p = s.p ∧ (afterRevert s ra keep r kst).bal = s.bal ∧
    (afterRevert s ra keep r kst).modBal = s.modBal ∧ (afterRevert s ra keep r kst).burned = s.burned ∧
    (afterRevert s ra keep r kst).obsolete = s.obsolete ∧ (afterRevert s ra keep r kst).nq = s.nq :=
  ⟨rfl, rfl, rfl, rfl, rfl, rfl, rfl, rfl⟩

end DymVerif.Core.Fork
