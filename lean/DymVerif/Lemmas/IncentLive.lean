/-
  Lemmas/IncentLive — the streamer EndBlock keeps `LiveS` (every record of an active stream names a gauge
  `getActiveGaugeByID` accepts): a gauge's liveness reads its start, perpetual flag, filled and total epochs
  (`liveData`), none of which the EndBlock (epochEnd = false) writes.
  Hence every schedule of blocks conserves the settled amounts (`blocks_settled`), and any schedule followed by the
  epoch end stores `Settled s`: `schedule_settled`.
-/
import DymVerif.Lemmas.IncentPagingState
import DymVerif.Lemmas.IncentProp
import DymVerif.Lemmas.IncentStatic
namespace DymVerif.Incent
open DymVerif Coins

/-- the data `Gauge.isFinished` reads -/
def liveData (g : Gauge) : Nat × Bool × Nat × Nat := (g.start, g.perpetual, g.filled, g.numEpochs)

theorem isFinished_liveData {g g' : Gauge} (h : liveData g' = liveData g) (now : Nat) : g'.isFinished now = g.isFinished now := by
  simp only [liveData, Prod.mk.injEq] at h
  unfold Gauge.isFinished; rw [h.1, h.2.1, h.2.2.1, h.2.2.2]

/-- the EndBlock keeps `liveData` of EVERY stored gauge (`strDistribute_static`), and a stream active afterwards is
    the copy of a stream active before, with the same records; the pointers play no part -/
theorem endBlock_live (s s' : State) (hi : Inv s) (hl : LiveS s) (h : streamerEndBlock s = .ok s') : LiveS s' := by
  obtain ⟨c, hf⟩ := strDistribute_core s _ _ _ _ s' hi.struct (activeStreams_good s hi.struct) hi.active_static h
  have hm := strDistribute_static liveData (fun _ _ => rfl) false (fun _ _ => rfl) hi.ginv.ids h
  obtain ⟨hact, _⟩ := strDistribute_false_frame _ _ _ _ _ h
  intro st' hm' r hr
  obtain ⟨hget', hact'⟩ := (activeStreams_good s' (endBlock_inv s s' hi h).struct).2 st' hm'
  rw [hact] at hact'
  obtain ⟨st0, hg0, hm0⟩ := active_has_stream s hi.struct st'.id hact'
  obtain ⟨v, _, e1, e2⟩ := hf.stored hg0 (by rw [activeStreams_ids s hi.struct]; exact hact')
  have hrecs : st'.recs = st0.recs := by rw [Option.some.inj (hget'.symm.trans e2), e1]; rfl
  rw [hrecs] at hr
  obtain ⟨g, g1, g2⟩ := hl st0 hm0 r hr
  obtain ⟨g', c1, c2⟩ := getG_of_map_eq liveData hm g1
  exact ⟨g', c1, by rw [hf.now, isFinished_liveData c2]; exact g2⟩

/-- every schedule of blocks conserves the settled amounts (and keeps what the next block needs) -/
theorem blocks_settled : ∀ (ns : List Nat) (s t : State), Inv s → PtrsOKS s → LiveS s → runBlocks s ns = some t →
    Inv t ∧ PtrsOKS t ∧ LiveS t ∧ t.active = s.active ∧ t.locks = s.locks ∧ dataOf t = dataOf s ∧
    ∀ st0 ∈ s.streams, st0.id ∈ s.active.ids → ∃ st', getS t.streams st0.id = some st' ∧
        st' = { st0 with distributed := st'.distributed } ∧ ∀ i, Settled t st' i = Settled s st0 i := by
  intro ns
  induction ns with
  | nil =>
    intro s t hi hp hl h
    simp only [runBlocks, Option.some.injEq] at h
    subst h
    refine ⟨hi, hp, hl, rfl, rfl, rfl, ?_⟩
    intro st0 hm _
    exact ⟨st0, getS_of_mem hi.struct.sid hm, rfl, fun _ => rfl⟩
  | cons n rest ih =>
    intro s t hi hp hl h
    unfold runBlocks at h
    cases hb : streamerEndBlock { s with maxIter := n } with
    | error x => simp [hb] at h
    | ok s1 =>
      simp only [hb] at h
      have hi0 : Inv { s with maxIter := n } :=
        Inv_frame hi rfl rfl rfl rfl (Same.ginv (s := s) ⟨rfl, rfl, rfl, rfl⟩ hi.ginv)
      obtain ⟨k1, k2, k3, k4, k5⟩ := endBlock_settled { s with maxIter := n } s1 hi0 hl hp hb
      have hi1 := endBlock_inv _ s1 hi0 hb
      obtain ⟨r1, r2, r3, r4, r5, r6, r7⟩ := ih s1 t hi1 k5 (endBlock_live { s with maxIter := n } s1 hi0 hl hb) h
      refine ⟨r1, r2, r3, r4.trans k2, r5.trans k3, r6.trans k4, ?_⟩
      intro st0 hm ha
      obtain ⟨st1, a1, a2, a3⟩ := k1 st0 hm ha
      have hm1 : st1 ∈ s1.streams := mem_of_getS a1
      have hid1 : st1.id = st0.id := by rw [a2]
      obtain ⟨st', b1, b2, b3⟩ := r7 st1 hm1 (by rw [hid1, k2]; exact ha)
      refine ⟨st', by rw [← hid1]; exact b1, ?_, fun i => (b3 i).trans (a3 i)⟩
      rw [b2, a2]

/-- **any schedule of per-block limits followed by the end of epoch `e`**: every stream of that epoch active at the
    start is stored with distributed coins `Settled s` — a function of the starting state alone -/
theorem schedule_settled (s : State) (e : Nat) (he : e ≤ 2) (hi : Inv s) (hp : PtrsOKS s) (hl : LiveS s)
    (hsmall : (s.locks.length + 1) * totalRecs (dataOf s) < maxU64) (ns : List Nat) (t u : State)
    (hr : runBlocks s ns = some t) (hf : streamerAfterEpochEnd t e = .ok u) :
    ∀ st0 ∈ s.streams, st0.id ∈ s.active.ids → st0.epochId = e →
      ∃ D, getS u.streams st0.id = some ({ st0 with distributed := D } : Stream).atEpochEnd ∧ ∀ i, amt D i = Settled s st0 i := by
  intro st0 hm ha hep
  obtain ⟨r1, r2, r3, r4, r5, r6, r7⟩ := blocks_settled ns s t hi hp hl hr
  -- the stream as the blocks leave it: same stream, same settled amount
  obtain ⟨st1, a1, a2, a3⟩ := r7 st0 hm ha
  have hid1 : st1.id = st0.id := by rw [a2]
  obtain ⟨D, d1, d2⟩ := flush_settled t u e he r1 r3 r2 (by rw [r5, r6]; exact hsmall) hf st1 (mem_of_getS a1)
    (by rw [hid1, r4]; exact ha) (by rw [a2]; exact hep)
  refine ⟨D, ?_, fun i => (d2 i).trans (a3 i)⟩
  rw [← hid1, d1, a2]

end DymVerif.Incent
