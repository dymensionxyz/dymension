import DymVerif.Lemmas.LockupBasic
/-
  Lemmas/LockupInv — the state invariant of M-Lockup and its preservation by every state transformer
  (by `step`: Lemmas/LockupOps).
-/
namespace DymVerif.Lockup

/-- the state invariant of M-Lockup -/
structure Inv (s : State) : Prop where
  /-- module account = Σ coins of existing locks, per denom -/
  custody : ∀ d, s.modBal d = lockedDenom s.locks d
  /-- accumulation(denom, k) = Σ coins of the locks of that denom with duration >= k, every k -/
  accum : ∀ d k, accQuery s.acc d k = (lockedLonger s.locks d k : Int)
  nodup : (s.locks.map (·.id)).Nodup
  idle : ∀ l ∈ s.locks, 0 < l.id ∧ l.id ≤ s.lastId
  pos : ∀ l ∈ s.locks, 0 < l.amount
  /-- ghost: a lock is unlocking iff its owner's begin-unlock ran, at `t0 <= now`, and then
      end time = t0 + duration -/
  ghost : ∀ l ∈ s.locks, (l.endTime = none → l.startedAt = none) ∧
            (∀ e, l.endTime = some e → ∃ t0, l.startedAt = some t0 ∧ e = t0 + l.duration ∧ t0 ≤ s.now)

theorem init_inv (bal : Actor → Denom → Nat) (now height : Nat) : Inv (init bal now height) := by
  constructor <;> simp [init, lockedDenom, lockedLonger, total, accQuery]

/-! ### bank moves -/

/-- frame: `t` is `s` after a bank move -/
structure Frame (s t : State) : Prop where
  locks : t.locks = s.locks
  acc : t.acc = s.acc
  lastId : t.lastId = s.lastId
  now : t.now = s.now
  height : t.height = s.height

theorem toModule_some {s t : State} {a d x : Nat} (h : toModule s a d x = some t) :
    Frame s t ∧ (∀ d', t.modBal d' = s.modBal d' + (if d' = d then x else 0)) ∧
    (∀ a' d', t.bal a' d' + (if a' = a ∧ d' = d then x else 0) = s.bal a' d') := by
  unfold toModule at h
  split at h
  · simp at h
  · rename_i hlt
    injection h with h
    subst h
    refine ⟨⟨rfl, rfl, rfl, rfl, rfl⟩, ?_, ?_⟩
    · intro d'
      simp only [updMod]
      split <;> simp_all
    · intro a' d'
      simp only [updBal]
      split
      · rename_i hc; obtain ⟨h1, h2⟩ := hc; subst h1; subst h2; omega
      · simp

theorem fromModule_some {s t : State} {a d x : Nat} (h : fromModule s a d x = some t) :
    Frame s t ∧ (∀ d', t.modBal d' + (if d' = d then x else 0) = s.modBal d') ∧
    (∀ a' d', t.bal a' d' = s.bal a' d' + (if a' = a ∧ d' = d then x else 0)) := by
  unfold fromModule at h
  split at h
  · simp at h
  · rename_i hlt
    injection h with h
    subst h
    refine ⟨⟨rfl, rfl, rfl, rfl, rfl⟩, ?_, ?_⟩
    · intro d'
      simp only [updMod]
      split
      · rename_i hc; subst hc; omega
      · simp
    · intro a' d'
      simp only [updBal]
      split <;> simp_all

theorem fromModule_ok {s : State} (a d x : Nat) (h : x ≤ s.modBal d) :
    ∃ t, fromModule s a d x = some t := by
  unfold fromModule
  have : ¬ s.modBal d < x := by omega
  simp [this]

theorem frame_charge {p : Params} {s t : State} {a d amt : Nat}
    (h : toModule (chargeFee p s a) a d amt = some t) :
    Frame s t ∧ (∀ d', t.modBal d' = s.modBal d' + (if d' = d then amt else 0)) :=
  have ⟨fr, hm, _⟩ := toModule_some h
  ⟨⟨fr.locks, fr.acc, fr.lastId, fr.now, fr.height⟩, hm⟩

/-! ### the state transformers preserve the invariant

  Each transformer replaces one lock by another of the same id (`total_setLock`), appends a fresh one or
  deletes one (`total_delLock`).  The two sum clauses then compare the weight of the lock that changed
  with what the bank / the accumulation store did to that lock's denom (and duration); the weights are
  additive in the amount (`ite_add_zero` …), so this is linear arithmetic over them.  The clauses about
  single locks go through `forall_setLock` / `forall_append` / `forall_delLock`. -/

section
variable {s t : State}

/-- case split on "same denom" (and "long enough"), then arithmetic -/
local macro "denom_cases" l:term "," d:term : tactic =>
  `(tactic| (by_cases hd : ($l).denom = $d
             · subst hd; (try simp at *) <;> omega
             · have hd' : ¬ $d = ($l).denom := fun e => hd e.symm
               (try simp [hd, hd'] at *) <;> omega))
local macro "denom_dur_cases" l:term "," d:term "," k:term : tactic =>
  `(tactic| (by_cases hd : ($l).denom = $d
             · subst hd
               by_cases hk : $k ≤ ($l).duration
               · (try simp [hk] at *) <;> omega
               · (try simp [hk] at *) <;> omega
             · have hd' : ¬ $d = ($l).denom := fun e => hd e.symm
               (try simp [hd, hd'] at *) <;> omega))

theorem inv_addToLock (h : Inv s) (fr : Frame s t) {l : Lock} (hl : l ∈ s.locks) (amt : Nat)
    (hmod : ∀ d', t.modBal d' = s.modBal d' + (if d' = l.denom then amt else 0)) :
    Inv (addToLock t l amt) := by
  have hset := fun P => total_setLock P h.nodup hl (n := { l with amount := l.amount + amt }) rfl
  simp only [addToLock, fr.locks, fr.acc]
  refine ⟨fun d => ?_, fun d k => ?_, setLock_nodup h.nodup _,
    forall_setLock (fr.lastId ▸ h.idle) (fr.lastId ▸ h.idle l hl),
    forall_setLock h.pos (Nat.lt_of_lt_of_le (h.pos l hl) (Nat.le_add_right _ _)),
    forall_setLock (fr.now ▸ h.ghost) (fr.now ▸ h.ghost l hl)⟩
  · have hs := hset (fun x => x.denom == d)
    have hc := h.custody d
    have hm := hmod d
    simp only [lockedDenom, weight_denom, ite_add_zero] at hs hc ⊢
    omega
  · have hs := hset (fun x => x.denom == d && decide (k ≤ x.duration))
    have hc := h.accum d k
    simp only [lockedLonger, weight_longer, accQuery_accAdd, ite_add_zero, ite_cast_zero] at hs hc ⊢
    omega

theorem inv_createLock (h : Inv s) (fr : Frame s t) (a d amt dur : Nat) (hamt : 0 < amt)
    (hmod : ∀ d', t.modBal d' = s.modBal d' + (if d' = d then amt else 0)) :
    Inv (createLock t a d amt dur) := by
  simp only [createLock, fr.locks, fr.acc, fr.lastId]
  refine ⟨fun d' => ?_, fun d' k => ?_, nodup_append_fresh h.nodup h.idle _ rfl,
    forall_append (fun x hx => ⟨(h.idle x hx).1, Nat.le_succ_of_le (h.idle x hx).2⟩)
      ⟨Nat.succ_pos _, Nat.le_refl _⟩,
    forall_append h.pos hamt,
    forall_append (fr.now ▸ h.ghost) ⟨fun _ => rfl, fun _ he => (nomatch he)⟩⟩
  · have hc := h.custody d'
    have hm := hmod d'
    simp only [lockedDenom, total_append, total_single, weight_denom] at hc ⊢
    omega
  · have hc := h.accum d' k
    simp only [lockedLonger, total_append, total_single, weight_longer, accQuery_accAdd] at hc ⊢
    rw [ite_cast_zero]
    omega

theorem inv_startUnlock (h : Inv s) {l : Lock} (hl : l ∈ s.locks) : Inv (startUnlock s l) := by
  have hset := fun P => total_setLock P h.nodup hl
    (n := { l with endTime := some (s.now + l.duration), startedAt := some s.now }) rfl
  refine ⟨fun d => ?_, fun d k => ?_, setLock_nodup h.nodup _,
    forall_setLock h.idle (h.idle l hl), forall_setLock h.pos (h.pos l hl),
    forall_setLock h.ghost ⟨fun he => (nomatch he), fun _ he => ⟨s.now, rfl, (Option.some.inj he).symm, Nat.le_refl _⟩⟩⟩
  · have hs := hset (fun x => x.denom == d)
    have hc := h.custody d
    simp only [startUnlock, lockedDenom, weight] at hs hc ⊢
    omega
  · have hs := hset (fun x => x.denom == d && decide (k ≤ x.duration))
    have hc := h.accum d k
    simp only [startUnlock, lockedLonger, weight] at hs hc ⊢
    omega

theorem inv_splitUnlock (h : Inv s) {l : Lock} (hl : l ∈ s.locks) (x : Nat) (hx0 : 0 < x)
    (hx : x < l.amount) : Inv (splitUnlock s l x) := by
  have hset := fun P => total_setLock P h.nodup hl (n := { l with amount := l.amount - x }) rfl
  have hidle : ∀ y ∈ setLock s.locks { l with amount := l.amount - x }, 0 < y.id ∧ y.id ≤ s.lastId :=
    forall_setLock h.idle (h.idle l hl)
  refine ⟨fun d => ?_, fun d k => ?_,
    nodup_append_fresh (setLock_nodup h.nodup _) hidle _ rfl,
    forall_append (fun y hy => ⟨(hidle y hy).1, Nat.le_succ_of_le (hidle y hy).2⟩) ⟨Nat.succ_pos _, Nat.le_refl _⟩,
    forall_append (forall_setLock h.pos (Nat.sub_pos_of_lt hx)) hx0,
    forall_append (forall_setLock h.ghost (h.ghost l hl))
      ⟨fun he => (nomatch he), fun _ he => ⟨s.now, rfl, (Option.some.inj he).symm, Nat.le_refl _⟩⟩⟩
  · have hs := hset (fun y => y.denom == d)
    have hc := h.custody d
    simp only [splitUnlock, lockedDenom, total_append, total_single, weight_denom] at hs hc ⊢
    rw [ite_sub_zero _ (Nat.le_of_lt hx)] at hs
    omega
  · have hs := hset (fun y => y.denom == d && decide (k ≤ y.duration))
    have hc := h.accum d k
    simp only [splitUnlock, lockedLonger, total_append, total_single, weight_longer] at hs hc ⊢
    rw [ite_sub_zero _ (Nat.le_of_lt hx)] at hs
    omega

theorem inv_extendTo (h : Inv s) {l : Lock} (hl : l ∈ s.locks) (dur : Nat)
    (hnot : l.endTime = none) : Inv (extendTo s l dur) := by
  have hset := fun P => total_setLock P h.nodup hl (n := { l with duration := dur }) rfl
  refine ⟨fun d => ?_, fun d k => ?_, setLock_nodup h.nodup _,
    forall_setLock h.idle (h.idle l hl), forall_setLock h.pos (h.pos l hl),
    forall_setLock h.ghost ⟨fun _ => (h.ghost l hl).1 hnot, fun _ he => nomatch hnot.symm.trans he⟩⟩
  · have hs := hset (fun y => y.denom == d)
    have hc := h.custody d
    simp only [extendTo, lockedDenom, weight] at hs hc ⊢
    omega
  · have hs := hset (fun y => y.denom == d && decide (k ≤ y.duration))
    have hc := h.accum d k
    simp only [extendTo, lockedLonger, weight_longer, accQuery_accAdd, ite_neg_zero, ite_cast_zero] at hs hc ⊢
    omega

theorem inv_removeLock (h : Inv s) (fr : Frame s t) {l : Lock} (hl : l ∈ s.locks)
    (hmod : ∀ d', t.modBal d' + (if d' = l.denom then l.amount else 0) = s.modBal d') :
    Inv (removeLock t l) := by
  have hdel := fun P => total_delLock P h.nodup hl
  simp only [removeLock, fr.locks, fr.acc]
  refine ⟨fun d => ?_, fun d k => ?_, delLock_nodup h.nodup _, forall_delLock _ (fr.lastId ▸ h.idle),
    forall_delLock _ h.pos, forall_delLock _ (fr.now ▸ h.ghost)⟩
  · have hs := hdel (fun y => y.denom == d)
    have hc := h.custody d
    have hm := hmod d
    simp only [lockedDenom, weight_denom] at hs hc ⊢
    omega
  · have hs := hdel (fun y => y.denom == d && decide (k ≤ y.duration))
    have hc := h.accum d k
    simp only [lockedLonger, weight_longer, accQuery_accAdd, ite_neg_zero] at hs hc ⊢
    omega

theorem inv_shrinkLock (h : Inv s) (fr : Frame s t) {l : Lock} (hl : l ∈ s.locks) (x : Nat)
    (hx : x < l.amount)
    (hmod : ∀ d', t.modBal d' + (if d' = l.denom then x else 0) = s.modBal d') :
    Inv (shrinkLock t l x) := by
  have hset := fun P => total_setLock P h.nodup hl (n := { l with amount := l.amount - x }) rfl
  simp only [shrinkLock, fr.locks, fr.acc, fr.lastId]
  refine ⟨fun d => ?_, fun d k => ?_, setLock_nodup h.nodup _,
    forall_setLock (fun y hy => ⟨(h.idle y hy).1, Nat.le_succ_of_le (h.idle y hy).2⟩)
      ⟨(h.idle l hl).1, Nat.le_succ_of_le (h.idle l hl).2⟩,
    forall_setLock h.pos (Nat.sub_pos_of_lt hx), forall_setLock (fr.now ▸ h.ghost) (fr.now ▸ h.ghost l hl)⟩
  · have hs := hset (fun y => y.denom == d)
    have hc := h.custody d
    have hm := hmod d
    simp only [lockedDenom, weight_denom] at hs hc ⊢
    rw [ite_sub_zero _ (Nat.le_of_lt hx)] at hs
    omega
  · have hs := hset (fun y => y.denom == d && decide (k ≤ y.duration))
    have hc := h.accum d k
    simp only [lockedLonger, weight_longer, accQuery_accAdd, ite_neg_zero] at hs hc ⊢
    rw [ite_sub_zero _ (Nat.le_of_lt hx)] at hs
    omega

end

end DymVerif.Lockup
