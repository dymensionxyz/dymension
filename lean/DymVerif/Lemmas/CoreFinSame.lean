/-
  Lemmas/CoreFinSame — the operations that do not touch anything finalization looks at: sequencer
  messages, rotation, liveness, and `HardForkToLatest` (which prunes nothing and only clears `next`
  of the latest state).  Each is shown to satisfy `FS` (well-formedness kept, `Same` state).
-/
import DymVerif.Lemmas.CoreFinDefs
namespace DymVerif.Core

theorem Frame.fs {s s1 : St} (h : Frame s s1) : FS s s1 := FS.of_ras_eq h.ras h.p h.h h.queue

theorem FS.setRa' {s s1 : St} {id : Nat} {r r' : Rollapp} (hf : Frame s s1) (hg : getRa s id = some r)
    (hk : rKey r' = rKey r) : FS s (Core.setRa s1 r') := by
  refine hf.fs.trans (FS.setRa (id := id) (r := r) ?_ hk)
  unfold getRa at *; rw [hf.ras]; exact hg

-- ---------------------------------------------------------------- liveness / proposer bookkeeping

theorem indicateLiveness_fs {s : St} {id : Nat} {r : Rollapp} (hg : getRa s id = some r) : FS s (indicateLiveness s r) := by
  unfold indicateLiveness resetClock scheduleEvent
  exact FS.setRa' ⟨rfl, rfl, rfl, rfl⟩ hg rfl

theorem setLastNext_sKey (l : List SInfo) (n : NextP) : (setLastNext l n).map sKey = l.map sKey := by
  unfold setLastNext
  split
  · rfl
  · rename_i x rest e
    have : l = (x :: rest).reverse := by rw [← e, List.reverse_reverse]
    rw [this]; simp [sKey]

theorem afterSetRealProposer_fs (s : St) (ra : Nat) (a : Addr) : FS s (afterSetRealProposer s ra a) := by
  unfold afterSetRealProposer
  split
  · exact FS.refl s
  · rename_i r hg
    have h1 := indicateLiveness_fs hg
    split
    · exact h1
    · rename_i r1 hg1
      refine h1.trans (FS.setRa hg1 ?_)
      unfold rKey
      rw [show ({ r1 with states := setLastNext r1.states (NextP.addr a) } : Rollapp).states = setLastNext r1.states (NextP.addr a) from rfl,
        setLastNext_sKey]

theorem recoverFromSentinel_fs {s s' : St} {ra : Nat} (e : recoverFromSentinel s ra = .ok s') : FS s s' := by
  obtain ⟨r, a, hg, _, _, rfl⟩ := recoverFromSentinel_ok e
  exact (FS.setRa (r' := { r with proposer := some a }) hg rfl).trans (afterSetRealProposer_fs _ _ _)

/-- the role writers of x/sequencer are finalization-neutral -/
theorem fsRole (s : St) (ra : Nat) : RoleClosed (FS s) ra where
  clearProposer hg h := h.trans (FS.setRa hg rfl)
  clearSuccessor hg h := h.trans (FS.setRa hg rfl)
  unbond _ h := h.trans (FS.of_ras_eq rfl rfl rfl rfl)
  optOut h := h.trans (FS.of_ras_eq rfl rfl rfl rfl)
  nq q h := h.trans (removeFromNoticeQueue_frame _ q).fs

theorem abruptRemoveProposer_fs (s : St) (ra : Nat) : FS s (abruptRemoveProposer s ra) :=
  (fsRole s ra).abruptRemoveProposer (FS.refl s)

theorem seqOnHardFork_fs (s : St) (ra : Nat) : FS s (seqOnHardFork s ra) :=
  (fsRole s ra).seqOnHardFork (FS.refl s)

-- ---------------------------------------------------------------- HardForkToLatest prunes nothing

theorem take_concat_map {α β} (f : α → β) (l : List α) (k : Nat) (a b : α) (hk : l[k]? = some a) (hf : f b = f a) :
    (l.take k ++ [b]).map f = (l.take (k + 1)).map f := by
  rw [List.take_add_one, hk]; simp [hf]

theorem take_last_map {α β} (f : α → β) (l : List α) (a b : α) (hl : l.getLast? = some a) (hf : f b = f a) :
    (l.take (l.length - 1) ++ [b]).map f = l.map f := by
  rw [List.getLast?_eq_getElem?] at hl
  have hlt := getElem?_lt hl
  rw [take_concat_map f l _ a b hl hf, show l.length - 1 + 1 = l.length by omega, List.take_length]

theorem hardForkToLatest_fs {s s' : St} {ra : Nat} (e : hardForkToLatest s ra = .ok s') : FS s s' := by
  intro hp
  obtain ⟨r, h, hg, hh, e⟩ := hardForkToLatest_ok e
  obtain ⟨r', keep, kst, hg', _, _, _, hplan, rfl⟩ := hardFork_ok e
  rw [hg] at hg'; cases hg'
  unfold latestHeight at hh
  cases hl : r.states.getLast? with
  | none => rw [hl] at hh; cases hh
  | some l =>
    rw [hl] at hh; cases hh
    obtain ⟨hk, hkst⟩ := revertPlan_latest (hp.chain.get hg) hl hplan
    subst hk; subst hkst
    have hq : removeIdxAbove s.queue ra r.states.length = s.queue :=
      removeIdxAbove_id _ _ _ (fun e he hra => hp.qb r (getRa_mem hg) e he (by rw [getRa_id hg]; exact hra))
    refine (FS.trans ?_ (seqOnHardFork_fs _ _)) hp
    unfold afterRevert resetClock forkedRollapp
    refine FS.setRa' ⟨rfl, rfl, rfl, hq⟩ hg ?_
    unfold rKey
    dsimp only
    rw [take_last_map sKey r.states l { l with next := NextP.empty } hl rfl]

end DymVerif.Core
