/-
  Lemmas/DymNSInv — the state invariant of M-DymNS; the blocks that prune, write and rewrite a name keep it.
-/
import DymVerif.Lemmas.DymNSIdx
import DymVerif.Lemmas.DymNSMsg
namespace DymVerif.DymNS
open AMap

/-- alias -> RollApp and RollApp -> aliases are inverse of each other -/
structure AliasOK (al : AliasStore) : Prop where
  iff : ∀ l c, AMap.get al.aliasTo l = some c ↔ l ∈ al.aliases c
  roll : ∀ l c, AMap.get al.aliasTo l = some c → al.isRollapp c = true

/-- an open sell order of a name ends before the name does, was placed by the name's owner, and its
    highest bidder is not the owner (`MsgPurchaseOrder` refuses the owner, and the owner cannot change
    while the order is open) -/
def SOOK (s : State) : Prop :=
  ∀ n so, AMap.get s.nameSO n = some so → ∃ d, s.ns.get n = some d ∧ so.expireAt < d.expireAt ∧ so.seller = d.owner ∧
    ∀ b, so.bid = some b → b.bidder ≠ d.owner

structure Inv (s : State) : Prop where
  wfN : NoDupKeys s.nameSO
  wfA : NoDupKeys s.aliasSO
  wfB : NoDupKeys s.bos
  esc : s.modBal = escrowed s
  idx : IdxOK s.ns
  ali : AliasOK s.al
  so : SOOK s
  /-- buy-order ids never exceed the all-time counter -/
  boK : ∀ id bo, AMap.get s.bos id = some bo → id ≤ s.boCount

theorem escrowed_def (s : State) :
    escrowed s = vsum bidOf s.nameSO + vsum bidOf s.aliasSO + vsum (·.offer) s.bos := rfl

theorem fOpt_bidOf (o : Option SellOrder) : fOpt bidOf o = bidAmt (o.bind (·.bid)) := by
  cases o with
  | none => rfl
  | some so => simp [fOpt, bidOf_eq]

/-- writing the sell order under `k`: new total + old bid = old total + new bid (`ob` is the old bid:
    `nameBid s n` for `s.nameSO`, `aliasBid s l` for `s.aliasSO`) -/
theorem sum_setSO (m : AMap Nat SellOrder) (k : Nat) (ob : Option Bid) (hb : (AMap.get m k).bind (·.bid) = ob)
    (so : SellOrder) : vsum bidOf (AMap.set m k so) + bidAmt ob = vsum bidOf m + bidAmt so.bid := by
  have := vsum_set bidOf m k so
  rw [fOpt_bidOf, bidOf_eq, hb] at this
  exact this

theorem sum_delSO (m : AMap Nat SellOrder) (k : Nat) (ob : Option Bid) (hb : (AMap.get m k).bind (·.bid) = ob)
    (h : NoDupKeys m) : vsum bidOf (AMap.del m k) + bidAmt ob = vsum bidOf m := by
  have := vsum_del bidOf m k h
  rw [fOpt_bidOf, hb] at this
  exact this

theorem bid_le_sum (m : AMap Nat SellOrder) (k : Nat) (ob : Option Bid) (hb : (AMap.get m k).bind (·.bid) = ob)
    (h : NoDupKeys m) : bidAmt ob ≤ vsum bidOf m := by
  have := sum_delSO m k ob hb h; omega

theorem NameStore.get_setAfterBothT (ns : NameStore) (n m : Name) (d : DymName) :
    (ns.setAfterBothT n d).get m = if m = n then some d else ns.get m := by
  simp [NameStore.setAfterBothT, NameStore.get, AMap.get_set]

/-! The escrow equation after one book changes at one key: the module balance moves by the difference
    between the old and the new entry. -/

theorem esc_setNameSO {s : State} (hI : Inv s) (n : Name) (so : SellOrder) :
    s.modBal - bidAmt (nameBid s n) + bidAmt so.bid =
      vsum bidOf (AMap.set s.nameSO n so) + vsum bidOf s.aliasSO + vsum (·.offer) s.bos := by
  have := sum_setSO s.nameSO n (nameBid s n) rfl so
  have hle := bid_le_sum s.nameSO n (nameBid s n) rfl hI.wfN
  have e := hI.esc
  rw [escrowed_def] at e
  omega

theorem esc_delNameSO {s : State} (hI : Inv s) (n : Name) :
    s.modBal - bidAmt (nameBid s n) =
      vsum bidOf (AMap.del s.nameSO n) + vsum bidOf s.aliasSO + vsum (·.offer) s.bos := by
  have := sum_delSO s.nameSO n (nameBid s n) rfl hI.wfN
  have e := hI.esc
  rw [escrowed_def] at e
  omega

theorem esc_setAliasSO {s : State} (hI : Inv s) (l : AliasId) (so : SellOrder) :
    s.modBal - bidAmt (aliasBid s l) + bidAmt so.bid =
      vsum bidOf s.nameSO + vsum bidOf (AMap.set s.aliasSO l so) + vsum (·.offer) s.bos := by
  have := sum_setSO s.aliasSO l (aliasBid s l) rfl so
  have hle := bid_le_sum s.aliasSO l (aliasBid s l) rfl hI.wfA
  have e := hI.esc
  rw [escrowed_def] at e
  omega

theorem esc_delAliasSO {s : State} (hI : Inv s) (l : AliasId) :
    s.modBal - bidAmt (aliasBid s l) =
      vsum bidOf s.nameSO + vsum bidOf (AMap.del s.aliasSO l) + vsum (·.offer) s.bos := by
  have := sum_delSO s.aliasSO l (aliasBid s l) rfl hI.wfA
  have e := hI.esc
  rw [escrowed_def] at e
  omega

theorem esc_setBO {s : State} (hI : Inv s) (id : Nat) (bo : BuyOrder) {mb : Nat}
    (h : mb + fOpt (·.offer) (AMap.get s.bos id) = s.modBal + bo.offer) :
    mb = vsum bidOf s.nameSO + vsum bidOf s.aliasSO + vsum (·.offer) (AMap.set s.bos id bo) := by
  have := vsum_set (·.offer) s.bos id bo
  have e := hI.esc
  rw [escrowed_def] at e
  omega

theorem esc_delBO {s : State} (hI : Inv s) (id : Nat) :
    s.modBal - fOpt (·.offer) (AMap.get s.bos id) =
      vsum bidOf s.nameSO + vsum bidOf s.aliasSO + vsum (·.offer) (AMap.del s.bos id) := by
  have := vsum_del (·.offer) s.bos id hI.wfB
  have e := hI.esc
  rw [escrowed_def] at e
  omega

theorem pruneNameT_inv {s : State} (n : Name) (hI : Inv s) : Inv (pruneNameT s n) := by
  rw [pruneNameT, refundOptT_eq]
  refine { wfN := noDup_del _ _ hI.wfN, wfA := hI.wfA, wfB := hI.wfB, esc := esc_delNameSO hI n,
           idx := NameStore.idxOK_delete n hI.idx, ali := hI.ali, so := ?_, boK := hI.boK }
  · intro m so hm
    simp only [AMap.get_del] at hm
    split at hm
    · cases hm
    · rename_i hne
      obtain ⟨d, hd, hlt⟩ := hI.so m so hm
      exact ⟨d, by simp [NameStore.get_delete, hne, hd], hlt⟩

theorem pruneNameT_get (s : State) (n m : Name) : (pruneNameT s n).ns.get m = if m = n then none else s.ns.get m := by
  simp [pruneNameT, NameStore.get_delete]

theorem pruneNameT_so_self (s : State) (n : Name) : AMap.get (pruneNameT s n).nameSO n = none := by
  simp [pruneNameT]

/-- writing a record for a name that has neither a record nor a sell order -/
theorem setAfterBoth_inv {s : State} {n : Name} (d : DymName) (hI : Inv s) (hn : s.ns.get n = none)
    (hso : AMap.get s.nameSO n = none) : Inv { s with ns := s.ns.setAfterBothT n d } := by
  refine { wfN := hI.wfN, wfA := hI.wfA, wfB := hI.wfB, esc := hI.esc,
           idx := NameStore.idxOK_setAfterBothT d (NameStore.idxOKBut_of_none hI.idx hn), ali := hI.ali, so := ?_, boK := hI.boK }
  intro m so hm
  by_cases hmn : m = n
  · subst hmn; simp only [hso] at hm; cases hm
  · obtain ⟨d', hd', hlt⟩ := hI.so m so hm
    exact ⟨d', by simp [NameStore.get_setAfterBothT, hmn, hd'], hlt⟩

theorem replaceNameT_inv {s : State} (n : Name) (d : DymName) (hI : Inv s) : Inv (replaceNameT s n d) :=
  setAfterBoth_inv _ (pruneNameT_inv n hI) ((pruneNameT_get s n n).trans (if_pos rfl)) (pruneNameT_so_self s n)

theorem completeNameSOT_inv {s : State} {n : Name} {d : DymName} {so : SellOrder} {b : Bid} (hI : Inv s)
    (hso : AMap.get s.nameSO n = some so) (hb : so.bid = some b) :
    Inv (completeNameSOT s n d b) := by
  have hesc := esc_delNameSO hI n
  rw [show nameBid s n = some b by simp [nameBid, hso, hb]] at hesc
  unfold completeNameSOT fromModuleT
  refine { wfN := noDup_del _ _ hI.wfN, wfA := hI.wfA, wfB := hI.wfB, esc := hesc,
           idx := NameStore.idxOK_setAfterBothT _ (NameStore.idxOKBut_befores n hI.idx), ali := hI.ali, so := ?_, boK := hI.boK }
  · intro m so' hm
    simp only [AMap.get_del] at hm
    split at hm
    · cases hm
    · rename_i hne
      obtain ⟨d', hd', hlt⟩ := hI.so m so' hm
      refine ⟨d', ?_, hlt⟩
      simp only [NameStore.get_setAfterBothT, hne, if_false, NameStore.get_beforeConfig, NameStore.get_beforeOwner]
      exact hd'

/-- the invariant reads neither the clock nor the params nor the balances -/
theorem Inv.frame {s : State} (hI : Inv s) (now : Nat) (p : Params) (bal : AMap Acct Nat) :
    Inv { s with now := now, p := p, bal := bal } :=
  { wfN := hI.wfN, wfA := hI.wfA, wfB := hI.wfB, esc := hI.esc, idx := hI.idx, ali := hI.ali, so := hI.so, boK := hI.boK }

theorem payAndBurnT_inv {s : State} (a : Acct) (amt : Nat) (hI : Inv s) : Inv (payAndBurnT s a amt) :=
  hI.frame _ _ _

theorem NameStore.get_setConfigChangedT (ns : NameStore) (n m : Name) (d : DymName) :
    (ns.setConfigChangedT n d).get m = if m = n then some d else ns.get m := by
  rw [← NameStore.get_beforeConfig ns n m, ← NameStore.get_set]; rfl

/-- the record of `n` is rewritten keeping the owner and not shortening the expiry: the open sell
    orders stay those of the owner -/
theorem sook_write {s t : State} {n : Name} {d0 d : DymName} (hS : SOOK s) (hso : t.nameSO = s.nameSO)
    (hget : ∀ k, t.ns.get k = if k = n then some d else s.ns.get k) (h0 : s.ns.get n = some d0)
    (ho : d.owner = d0.owner) (he : d0.expireAt ≤ d.expireAt) : SOOK t := by
  intro m so hm
  rw [hso] at hm
  obtain ⟨d', hd', hlt⟩ := hS m so hm
  rw [hget]
  by_cases hmn : m = n
  · subst hmn
    rw [h0] at hd'; injection hd' with e; subst e
    exact ⟨d, if_pos rfl, by omega, by rw [ho]; exact hlt.2.1, by rw [ho]; exact hlt.2.2⟩
  · exact ⟨d', by rw [if_neg hmn]; exact hd', hlt⟩

/-- a record update that keeps owner and configs and does not shorten the expiry -/
theorem setName_same_inv {s : State} {n : Name} {d0 d : DymName} (hI : Inv s) (h0 : getName s n = some d0)
    (ho : d.owner = d0.owner) (hc : d.configs = d0.configs) (he : d0.expireAt ≤ d.expireAt) :
    Inv (setName s n d) :=
  { wfN := hI.wfN, wfA := hI.wfA, wfB := hI.wfB, esc := hI.esc, idx := NameStore.idxOK_set_same hI.idx h0 ho hc,
    ali := hI.ali, so := sook_write hI.so rfl (fun _ => NameStore.get_set _ _ _ _) h0 ho he, boK := hI.boK }

/-- a config change (owner and expiry kept) wrapped in the config hooks -/
theorem setConfigChanged_inv {s : State} {n : Name} {d0 d : DymName} (hI : Inv s) (h0 : getName s n = some d0)
    (ho : d.owner = d0.owner) (he : d.expireAt = d0.expireAt) :
    Inv { s with ns := s.ns.setConfigChangedT n d } :=
  { wfN := hI.wfN, wfA := hI.wfA, wfB := hI.wfB, esc := hI.esc, idx := NameStore.idxOK_setConfigChangedT hI.idx h0 ho,
    ali := hI.ali, so := sook_write hI.so rfl (fun _ => NameStore.get_setConfigChangedT _ _ _ _) h0 ho (Nat.le_of_eq he.symm),
    boK := hI.boK }

end DymVerif.DymNS
