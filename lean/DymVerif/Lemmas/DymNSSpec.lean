/-
  Lemmas/DymNSSpec — total ("T") versions of the model's building blocks and specification lemmas:
  success of the monadic block gives the guard facts and the result state as an explicit term.
-/
import DymVerif.Lemmas.DymNSBasic
namespace DymVerif.DymNS
open AMap

theorem chk_eq_ok (c : Bool) (e : Err) (v : Unit) : (chk c e = Except.ok v) = (c = true) := by
  unfold chk; cases c <;> simp

theorem soBasic_eq_ok (mn sl : Nat) (v : Unit) : (soBasic mn sl = Except.ok v) = (mn ≠ 0 ∧ (sl = 0 ∨ mn ≤ sl)) := by
  unfold soBasic chk
  simp only [bind, Except.bind]
  by_cases h1 : mn ≠ 0 <;> by_cases h2 : (sl = 0 ∨ mn ≤ sl) <;> simp [h1, h2]

/-- split `f … = .ok s'` into its success paths and normalise the guard facts -/
syntax "mcases' " ident : tactic
macro_rules
  | `(tactic| mcases' $h:ident) => `(tactic|
      (simp only [bind, Except.bind, pure, Except.pure] at $h:ident
       repeat' split at $h:ident
       all_goals (first | (cases $h:ident; done) | skip)
       all_goals (try simp only [chk_eq_ok, soBasic_eq_ok, decide_eq_true_eq, Bool.not_eq_true', Option.isNone_iff_eq_none] at *)))

theorem chk_ok {c : Bool} {e : Err} {v : Unit} (h : (if c = true then Except.ok () else Except.error e) = Except.ok v) :
    c = true := by
  split at h
  · assumption
  · cases h

theorem del_of_get_none {κ ν : Type} [DecidableEq κ] (m : AMap κ ν) (k : κ) (h : AMap.get m k = none) :
    AMap.del m k = m := by
  induction m with
  | nil => rfl
  | cons e m ih =>
    obtain ⟨k0, v0⟩ := e
    by_cases hk : k = k0
    · subst hk; simp [AMap.get] at h
    · simp only [AMap.get, hk, if_false] at h
      simp [AMap.del, hk, ih h]

/-! ### bank -/

def toModuleT (s : State) (a : Acct) (amt : Nat) : State :=
  { s with bal := AMap.set s.bal a (balOf s a - amt), modBal := s.modBal + amt }
def fromModuleT (s : State) (a : Acct) (amt : Nat) : State :=
  { s with bal := AMap.set s.bal a (balOf s a + amt), modBal := s.modBal - amt }
def payAndBurnT (s : State) (a : Acct) (amt : Nat) : State :=
  { s with bal := AMap.set s.bal a (balOf s a - amt) }

theorem toModule_ok {s s' : State} {a amt} (h : toModule s a amt = .ok s') :
    s' = toModuleT s a amt ∧ amt ≤ balOf s a := by
  unfold toModule at h
  split at h
  · cases h
  · injection h with h; exact ⟨h.symm, by omega⟩

theorem fromModule_ok {s s' : State} {a amt} (h : fromModule s a amt = .ok s') :
    s' = fromModuleT s a amt ∧ amt ≤ s.modBal := by
  unfold fromModule at h
  split at h
  · cases h
  · injection h with h; exact ⟨h.symm, by omega⟩

theorem payAndBurn_ok {s s' : State} {a amt} (h : payAndBurn s a amt = .ok s') :
    s' = payAndBurnT s a amt ∧ amt ≤ balOf s a := by
  unfold payAndBurn at h
  split at h
  · cases h
  · injection h with h; exact ⟨h.symm, by omega⟩

def refundOptT (s : State) : Option Bid → State
  | none => s
  | some b => fromModuleT s b.bidder b.price

def bidAmt : Option Bid → Nat
  | none => 0
  | some b => b.price

theorem bidOf_eq (so : SellOrder) : bidOf so = bidAmt so.bid := by
  unfold bidOf bidAmt; cases so.bid <;> rfl

/-! ### name store -/

namespace NameStore

/-- `set`, `afterOwner`, `afterConfig` on a name without index entries: the record written, the name added
    under the record's keys -/
def setAfterBothT (ns : NameStore) (n : Name) (d : DymName) : NameStore :=
  { names := AMap.set ns.names n d, ownIdx := ns.ownIdx.add d.owner n,
    cfgIdx := d.cfgAddrs.foldl (fun i a => i.add a n) ns.cfgIdx,
    fbIdx := d.fbAddrs.foldl (fun i a => i.add a n) ns.fbIdx }

/-- `beforeConfig`, `set`, `afterConfig` -/
def setConfigChangedT (ns : NameStore) (n : Name) (d : DymName) : NameStore :=
  let ns' := (ns.beforeConfig n).set n d
  { ns' with cfgIdx := d.cfgAddrs.foldl (fun i a => i.add a n) ns'.cfgIdx,
             fbIdx := d.fbAddrs.foldl (fun i a => i.add a n) ns'.fbIdx }

theorem get_set (ns : NameStore) (n m : Name) (d : DymName) :
    (ns.set n d).get m = if m = n then some d else ns.get m := by
  simp [get, set, AMap.get_set]

theorem get_beforeConfig (ns : NameStore) (n m : Name) : (ns.beforeConfig n).get m = ns.get m := by
  unfold beforeConfig; split <;> rfl

theorem get_beforeOwner (ns : NameStore) (n m : Name) : (ns.beforeOwner n).get m = ns.get m := by
  unfold beforeOwner; split <;> rfl

theorem get_delete (ns : NameStore) (n m : Name) : (ns.delete n).get m = if m = n then none else ns.get m := by
  have : (ns.delete n).get m = AMap.get (AMap.del ((ns.beforeOwner n).beforeConfig n).names n) m := rfl
  rw [this, AMap.get_del]
  split
  · rfl
  · exact (get_beforeConfig _ n m).trans (get_beforeOwner _ n m)

theorem setAfterBoth_ok (ns : NameStore) (n : Name) (d : DymName) :
    ns.setAfterBoth n d = .ok (ns.setAfterBothT n d) := by
  have h1 : (ns.set n d).get n = some d := by simp [get_set]
  have h2 : ({ ns.set n d with ownIdx := (ns.set n d).ownIdx.add d.owner n } : NameStore).get n = some d := h1
  simp only [setAfterBoth, bind, Except.bind, afterOwner, afterConfig, h1, h2]
  rfl

theorem setConfigChanged_ok (ns : NameStore) (n : Name) (d : DymName) :
    ns.setConfigChanged n d = .ok (ns.setConfigChangedT n d) := by
  have h1 : ((ns.beforeConfig n).set n d).get n = some d := by simp [get_set]
  simp only [setConfigChanged, afterConfig, h1, setConfigChangedT]

end NameStore

theorem setNameAfterBoth_ok (s : State) (n : Name) (d : DymName) :
    setNameAfterBoth s n d = .ok { s with ns := s.ns.setAfterBothT n d } := by
  simp [setNameAfterBoth, NameStore.setAfterBoth_ok, bind, Except.bind, pure, Except.pure]

theorem setNameConfigChanged_ok (s : State) (n : Name) (d : DymName) :
    setNameConfigChanged s n d = .ok { s with ns := s.ns.setConfigChangedT n d } := by
  simp [setNameConfigChanged, NameStore.setConfigChanged_ok, bind, Except.bind, pure, Except.pure]

/-- the highest bid of the sell order of name `n`, if any -/
def nameBid (s : State) (n : Name) : Option Bid := (AMap.get s.nameSO n).bind (·.bid)
def aliasBid (s : State) (l : AliasId) : Option Bid := (AMap.get s.aliasSO l).bind (·.bid)

def pruneNameT (s : State) (n : Name) : State :=
  { refundOptT s (nameBid s n) with nameSO := AMap.del s.nameSO n, ns := s.ns.delete n }

theorem NameStore.delete_of_none (ns : NameStore) (n : Name) (h : ns.get n = none) : ns.delete n = ns := by
  unfold NameStore.delete NameStore.beforeOwner
  simp only [h]
  unfold NameStore.beforeConfig
  simp only [h]
  have : AMap.del ns.names n = ns.names := del_of_get_none _ _ h
  rw [this]

theorem pruneName_ok {s s' : State} {n : Name} (h : pruneName s n = .ok s') :
    s' = pruneNameT s n ∧ bidAmt (nameBid s n) ≤ s.modBal := by
  unfold pruneName at h
  unfold pruneNameT nameBid
  have key : ∀ (t : State), t.ns = s.ns →
      (match getName t n with
        | none => (pure t : M State)
        | some _ => pure { t with ns := t.ns.delete n }) = .ok { t with ns := s.ns.delete n } := by
    intro t ht
    cases hn : getName t n with
    | none =>
      have : s.ns.delete n = t.ns := by rw [← ht]; exact NameStore.delete_of_none _ _ hn
      simp [this, pure, Except.pure]
    | some d => simp [ht, pure, Except.pure]
  cases hso : AMap.get s.nameSO n with
  | none =>
    simp only [hso, bind, Except.bind, pure, Except.pure] at h
    have hk := key s rfl
    simp only [pure, Except.pure] at hk
    replace h := hk.symm.trans h
    injection h with h
    simp only [Option.bind, refundOptT, bidAmt, Nat.zero_le, and_true, del_of_get_none _ _ hso]
    exact h.symm
  | some so =>
    simp only [hso, bind, Except.bind, pure, Except.pure] at h
    cases hb : so.bid with
    | none =>
      simp only [hb] at h
      have hk := key { s with nameSO := AMap.del s.nameSO n } rfl
      simp only [pure, Except.pure] at hk
      replace h := hk.symm.trans h
      injection h with h
      simp only [Option.bind, hb, refundOptT, bidAmt, Nat.zero_le, and_true]
      exact h.symm
    | some b =>
      simp only [hb, refundBid] at h
      cases hf : fromModule s b.bidder b.price with
      | error e => simp [hf] at h
      | ok s1 =>
        obtain ⟨rfl, hle⟩ := fromModule_ok hf
        simp only [hf] at h
        have hk := key { fromModuleT s b.bidder b.price with nameSO := AMap.del s.nameSO n } rfl
        simp only [pure, Except.pure] at hk
        replace h := hk.symm.trans h
        injection h with h
        simp only [Option.bind, hb, refundOptT, bidAmt]
        exact ⟨h.symm, hle⟩

/-- a record handed to a new owner: controller reset, configuration and contact cleared -/
def cleared (owner : Acct) (expireAt : Nat) : DymName :=
  { owner := owner, controller := owner, expireAt := expireAt, configs := [], contact := 0 }

/-- prune the name (refund, drop the sell order, delete the record), then write the record `d` and run
    both After hooks: new registration, take-over and `transferDymNameOwnership` (with `cleared`) -/
def replaceNameT (s : State) (n : Name) (d : DymName) : State :=
  { pruneNameT s n with ns := (pruneNameT s n).ns.setAfterBothT n d }

theorem transferOwnership_ok {s s' : State} {n : Name} {d : DymName} {b : Acct}
    (h : transferOwnership s n d b = .ok s') :
    s' = replaceNameT s n (cleared b d.expireAt) ∧ bidAmt (nameBid s n) ≤ s.modBal := by
  unfold transferOwnership at h
  simp only [bind, Except.bind] at h
  cases hp : pruneName s n with
  | error e => simp [hp] at h
  | ok s1 =>
    obtain ⟨rfl, hle⟩ := pruneName_ok hp
    simp only [hp, setNameAfterBoth_ok] at h
    injection h with h
    exact ⟨by rw [← h]; rfl, hle⟩

def completeNameSOT (s : State) (n : Name) (d : DymName) (b : Bid) : State :=
  let s1 := fromModuleT s d.owner b.price
  let d' : DymName := { d with owner := b.bidder, controller := b.bidder, configs := [], contact := 0 }
  { s1 with nameSO := AMap.del s1.nameSO n, ns := ((s1.ns.beforeOwner n).beforeConfig n).setAfterBothT n d' }

theorem completeNameSO_ok {s s' : State} {n : Name} {d : DymName} {so : SellOrder} {b : Bid}
    (hd : getName s n = some d) (hso : AMap.get s.nameSO n = some so) (hb : so.bid = some b)
    (h : completeNameSO s n = .ok s') :
    so.finished s.now = true ∧ b.price ≤ s.modBal ∧ s' = completeNameSOT s n d b := by
  unfold completeNameSO at h
  simp only [hd, hso, hb] at h
  mcases' h
  rename (fromModule s _ _ = Except.ok _) => hf
  obtain ⟨rfl, hle⟩ := fromModule_ok hf
  rw [setNameAfterBoth_ok] at h
  injection h with h
  exact ⟨by assumption, hle, by rw [← h]; rfl⟩

def takeBidT (s : State) (old : Option Bid) (a : Acct) (offer : Nat) : State :=
  toModuleT (refundOptT s old) a offer

theorem takeBid_ok {s s' : State} {so : SellOrder} {a : Acct} {offer : Nat} (h : takeBid s so a offer = .ok s') :
    s' = takeBidT s so.bid a offer ∧ bidAmt so.bid ≤ s.modBal ∧ offer ≤ balOf (refundOptT s so.bid) a := by
  unfold takeBid at h
  cases hb : so.bid with
  | none =>
    simp only [hb, bind, Except.bind, pure, Except.pure] at h
    obtain ⟨rfl, hle⟩ := toModule_ok h
    exact ⟨rfl, Nat.zero_le _, hle⟩
  | some b =>
    simp only [hb, bind, Except.bind, refundBid] at h
    cases hf : fromModule s b.bidder b.price with
    | error e => simp [hf] at h
    | ok s1 =>
      obtain ⟨rfl, hle⟩ := fromModule_ok hf
      simp only [hf] at h
      obtain ⟨rfl, hle2⟩ := toModule_ok h
      exact ⟨rfl, hle, hle2⟩

/-! ### the refund blocks as record updates -/

/-- a refund touches the balances and the module account only -/
theorem refundOptT_eq (s : State) (b : Option Bid) :
    refundOptT s b = { s with bal := (refundOptT s b).bal, modBal := s.modBal - bidAmt b } := by
  cases b <;> rfl

theorem takeBidT_eq (s : State) (o : Option Bid) (a : Acct) (x : Nat) :
    takeBidT s o a x = { s with bal := (takeBidT s o a x).bal, modBal := s.modBal - bidAmt o + x } := by
  cases o <;> rfl

theorem takeBidT_now (s : State) (o : Option Bid) (a : Acct) (x : Nat) : (takeBidT s o a x).now = s.now := by
  rw [takeBidT_eq]
theorem takeBidT_ns (s : State) (o : Option Bid) (a : Acct) (x : Nat) : (takeBidT s o a x).ns = s.ns := by
  rw [takeBidT_eq]

end DymVerif.DymNS
