/-
  Lemmas/DymNSMsg — what the message handlers of x/dymns are made of: the lookups and checks they share
  (`getNameLive`, `getBO`, `isCreator`, the registration plan, `validatePurchase`, `validateAliasDst`),
  the blocks they end in (placing a buy order, the alias store, `registerAliasFor`, `completeAliasSO`)
  with what their success gives, and the result states of the handlers as explicit terms.  The handlers
  themselves are opened once, in DymNSStep.
-/
import DymVerif.Lemmas.DymNSSpec
namespace DymVerif.DymNS
open AMap

section
variable {s s' : State}

theorem getNameLive_some {n : Name} {d : DymName} (h : getNameLive s n = some d) :
    getName s n = some d ∧ d.expired s.now = false := by
  unfold getNameLive at h
  cases hg : getName s n with
  | none => simp [hg] at h
  | some d' =>
    simp only [hg] at h
    split at h
    · cases h
    · injection h with h; subst h; exact ⟨rfl, by simpa using ‹¬ d'.expired s.now = true›⟩

theorem getBO_some {pfx : Bool} {id : Nat} {bo : BuyOrder} (h : getBO s pfx id = some bo) :
    AMap.get s.bos id = some bo ∧ bo.isAlias = pfx := by
  unfold getBO at h
  cases hg : AMap.get s.bos id with
  | none => simp [hg] at h
  | some bo' =>
    simp only [hg] at h
    split at h
    · injection h with h; subst h; exact ⟨rfl, by assumption⟩
    · cases h

theorem isCreator_some {c : Chain} {a : Acct} (h : isCreator s c a = true) :
    ∃ r, AMap.get s.al.rollapps c = some r ∧ r.owner = a := by
  unfold isCreator at h
  split at h
  · rename_i r hr; exact ⟨r, hr, by simpa using h⟩
  · cases h

theorem regAllowed_ok {a : Acct} {n : Name} {v : Unit} (h : regAllowed s a n = .ok v) {d : DymName}
    (hd : getName s n = some d) (hne : d.owner ≠ a) : d.expired s.now = true ∧ d.expireAt + s.p.grace ≤ s.now := by
  unfold regAllowed at h
  simp only [hd, hne, if_false] at h
  mcases' h
  rename (d.expired s.now = true) => h1
  exact ⟨h1, by omega⟩

theorem validatePurchase_ok {so : SellOrder} {offer : Nat} {v : Unit}
    (h : validatePurchase s so offer = .ok v) : so.expired s.now = false := by
  unfold validatePurchase at h
  simp only [bind, Except.bind, chk] at h
  cases he : so.expired s.now with
  | false => rfl
  | true => simp [he] at h

/-- an extension keeps the record of the owner's unexpired name but for expiry and contact -/
theorem regPlan_keep {a : Acct} {n : Name} {dur c : Nat} (h : (regPlan s a n dur c).prune = false) :
    ∃ d, getName s n = some d ∧ d.owner = a ∧ d.expired s.now = false ∧
      (regPlan s a n dur c).record =
        { d with expireAt := d.expireAt + yearSeconds * dur, contact := if c ≠ 0 then c else d.contact } := by
  unfold regPlan at h ⊢
  cases hd : getName s n with
  | none => simp [hd] at h
  | some d =>
    simp only [hd] at h ⊢
    by_cases ho : d.owner = a
    · by_cases he : d.expired s.now = true
      · simp [ho, he] at h
      · exact ⟨d, rfl, ho, by simpa using he, by simp [ho, he]⟩
    · simp [ho] at h

/-- a registration that prunes writes a fresh record -/
theorem regPlan_prune {a : Acct} {n : Name} {dur c : Nat} (h : (regPlan s a n dur c).prune = true) :
    (regPlan s a n dur c).record =
      { owner := a, controller := a, expireAt := s.now + yearSeconds * dur, configs := [], contact := c } := by
  unfold regPlan at h ⊢
  cases hd : getName s n with
  | none => rfl
  | some d =>
    simp only [hd] at h ⊢
    by_cases ho : d.owner = a
    · by_cases he : d.expired s.now = true
      · simp only [ho, he, if_true]
      · simp [ho, he] at h
    · simp only [ho, if_false]

/-- the state right after a bid was recorded on the sell order of name `n` -/
def bidStateN (s : State) (so : SellOrder) (a : Acct) (offer : Nat) (n : Name) : State :=
  let s1 := takeBidT s so.bid a offer
  { s1 with nameSO := AMap.set s1.nameSO n { so with bid := some ⟨a, offer, 0⟩ } }

/-- the state after a new buy order was booked and its offer escrowed -/
def newBOT (s : State) (isAlias : Bool) (a : Acct) (asset : Nat) (dst : Chain) (offer : Nat) : State :=
  toModuleT { s with boCount := s.boCount + 1,
                     bos := AMap.set s.bos (s.boCount + 1) ⟨isAlias, asset, dst, a, offer, 0⟩,
                     boBuyer := s.boBuyer.add a (s.boCount + 1),
                     boName := if isAlias then s.boName else s.boName.add asset (s.boCount + 1),
                     boAlias := if isAlias then s.boAlias.add asset (s.boCount + 1) else s.boAlias } a offer

/-- the state after the offer of order `id` was raised and the difference escrowed -/
def raiseBOT (s : State) (id : Nat) (bo : BuyOrder) (a : Acct) (offer : Nat) : State :=
  toModuleT { s with bos := AMap.set s.bos id { bo with offer := offer } } a (offer - bo.offer)

/-- what placing a buy order does: a new order, or a raise of the buyer's own order on the same asset -/
inductive PlacedBO (s : State) (isAlias : Bool) (a : Acct) (asset : Nat) (dst : Chain) (offer : Nat) :
    State → Option (Bool × Nat) → Prop
  | new : offer ≤ balOf s a → PlacedBO s isAlias a asset dst offer (newBOT s isAlias a asset dst offer) none
  | raise (pfx : Bool) (id : Nat) (bo : BuyOrder) : AMap.get s.bos id = some bo → bo.buyer = a →
      bo.isAlias = isAlias → bo.asset = asset → bo.offer < offer → offer - bo.offer ≤ balOf s a →
      PlacedBO s isAlias a asset dst offer (raiseBOT s id bo a offer) (some (pfx, id))

theorem placedBO_of {isAlias a asset dst offer cont ex} (hv : validateContinue s isAlias a asset offer cont = .ok ex)
    (h : putBO s isAlias a asset dst offer ex = .ok s') : PlacedBO s isAlias a asset dst offer s' cont := by
  unfold validateContinue at hv
  unfold putBO at h
  cases cont with
  | none =>
    simp only [pure, Except.pure] at hv
    injection hv with hv; subst hv
    obtain ⟨rfl, hle⟩ := toModule_ok h
    exact .new hle
  | some c =>
    obtain ⟨pfx, i⟩ := c
    simp only at hv
    cases hg : getBO s pfx i with
    | none => simp [hg] at hv
    | some bo =>
      simp only [hg] at hv
      mcases' hv
      injection hv with hv; subst hv
      obtain ⟨rfl, hle⟩ := toModule_ok h
      rename (bo.isAlias = isAlias ∧ bo.asset = asset) => hx
      exact .raise pfx i bo (getBO_some hg).1 (by assumption) hx.1 hx.2 (by assumption) hle

namespace AliasStore

def setAliasT (al : AliasStore) (c : Chain) (l : AliasId) : AliasStore :=
  { al with aliasesOf := AMap.set al.aliasesOf c (al.aliases c ++ [l]), aliasTo := AMap.set al.aliasTo l c }

def removeAliasT (al : AliasStore) (c : Chain) (l : AliasId) : AliasStore :=
  let rest := (al.aliases c).filter (· ≠ l)
  { al with aliasesOf := if rest = [] then AMap.del al.aliasesOf c else AMap.set al.aliasesOf c rest,
            aliasTo := AMap.del al.aliasTo l }

theorem setAlias_ok {al al' : AliasStore} {c : Chain} {l : AliasId} (h : al.setAlias c l = .ok al') :
    al.isRollapp c = true ∧ AMap.get al.aliasTo l = none ∧ al' = al.setAliasT c l := by
  unfold setAlias at h
  mcases' h
  injection h with h
  exact ⟨by assumption, by assumption, h.symm⟩

theorem removeAlias_ok {al al' : AliasStore} {c : Chain} {l : AliasId} (h : al.removeAlias c l = .ok al') :
    al.isRollapp c = true ∧ AMap.get al.aliasTo l = some c ∧ al' = al.removeAliasT c l := by
  unfold removeAlias at h
  simp only [bind, Except.bind, pure, Except.pure, chk] at h
  by_cases hr : al.isRollapp c = true
  · simp only [hr, if_true] at h
    cases hg : AMap.get al.aliasTo l with
    | none => simp [hg] at h
    | some c' =>
      simp only [hg] at h
      by_cases hc : c' = c
      · subst hc
        simp only [decide_true, if_true] at h
        split at h
        · cases h
        · injection h with h
          exact ⟨hr, rfl, h.symm⟩
      · simp [hc] at h
  · simp [hr] at h

theorem moveAlias_ok {al al' : AliasStore} {src dst : Chain} {l : AliasId} (h : al.moveAlias src l dst = .ok al') :
    AMap.get al.aliasTo l = some src ∧ al.isRollapp dst = true ∧ al' = (al.removeAliasT src l).setAliasT dst l := by
  unfold moveAlias at h
  mcases' h
  rename (removeAlias al src l = Except.ok _) => hr
  obtain ⟨_, h2, rfl⟩ := removeAlias_ok hr
  obtain ⟨_, _, rfl⟩ := setAlias_ok h
  exact ⟨h2, by assumption, rfl⟩

end AliasStore

theorem setAlias_ok {c : Chain} {l : AliasId} (h : setAlias s c l = .ok s') :
    s.al.isRollapp c = true ∧ AMap.get s.al.aliasTo l = none ∧ s' = { s with al := s.al.setAliasT c l } := by
  unfold setAlias at h
  mcases' h
  rename (s.al.setAlias c l = Except.ok _) => ha
  obtain ⟨h1, h2, rfl⟩ := AliasStore.setAlias_ok ha
  injection h with h
  exact ⟨h1, h2, h.symm⟩

theorem removeAlias_ok {c : Chain} {l : AliasId} (h : removeAlias s c l = .ok s') :
    s.al.isRollapp c = true ∧ AMap.get s.al.aliasTo l = some c ∧ s' = { s with al := s.al.removeAliasT c l } := by
  unfold removeAlias at h
  mcases' h
  rename (s.al.removeAlias c l = Except.ok _) => ha
  obtain ⟨h1, h2, rfl⟩ := AliasStore.removeAlias_ok ha
  injection h with h
  exact ⟨h1, h2, h.symm⟩

theorem moveAlias_ok {src dst : Chain} {l : AliasId} (h : moveAlias s src l dst = .ok s') :
    AMap.get s.al.aliasTo l = some src ∧ s.al.isRollapp dst = true ∧
      s' = { s with al := (s.al.removeAliasT src l).setAliasT dst l } := by
  unfold moveAlias at h
  mcases' h
  rename (s.al.moveAlias src l dst = Except.ok _) => ha
  obtain ⟨h1, h2, rfl⟩ := AliasStore.moveAlias_ok ha
  injection h with h
  exact ⟨h1, h2, h.symm⟩

theorem registerAliasFor_ok {c a l cost} (h : registerAliasFor s c a l cost = .ok s') :
    cost ≤ balOf s a ∧ s.al.isRollapp c = true ∧ AMap.get s.al.aliasTo l = none ∧
      s' = { payAndBurnT s a cost with al := s.al.setAliasT c l } := by
  unfold registerAliasFor at h
  mcases' h
  rename (payAndBurn s a cost = Except.ok _) => hp
  obtain ⟨rfl, hle⟩ := payAndBurn_ok hp
  rename (setAlias _ c l = Except.ok _) => hs
  obtain ⟨h1, h2, rfl⟩ := setAlias_ok hs
  injection h with h
  exact ⟨hle, h1, h2, h.symm⟩

/-- the state with the RollApp record `c ↦ r` written -/
def withRollapp (s : State) (c : Chain) (r : Rollapp) : State :=
  { s with al := { s.al with rollapps := AMap.set s.al.rollapps c r } }

/-- the result of `CompleteAliasSellOrder` on `t`: the owner of the source RollApp is paid the bid, the order
    is closed, the alias moves to the bidder's RollApp -/
def aliasSoldT (t : State) (l : AliasId) (src : Chain) (r : Rollapp) (b : Bid) : State :=
  { fromModuleT t r.owner b.price with aliasSO := AMap.del t.aliasSO l, al := (t.al.removeAliasT src l).setAliasT b.dst l }

theorem completeAliasSO_ok {l : AliasId} {so : SellOrder} {b : Bid} (hso : AMap.get s.aliasSO l = some so)
    (hb : so.bid = some b) (h : completeAliasSO s l = .ok s') :
    ∃ src r, AMap.get s.al.aliasTo l = some src ∧ AMap.get s.al.rollapps src = some r ∧ so.finished s.now = true ∧
      isRollapp s b.dst = true ∧ b.price ≤ s.modBal ∧ s' = aliasSoldT s l src r b := by
  unfold completeAliasSO at h
  simp only [hso, hb] at h
  mcases' h
  rename (fromModule s _ _ = Except.ok _) => hf
  obtain ⟨rfl, hle⟩ := fromModule_ok hf
  rename (removeAlias _ _ l = Except.ok _) => hrm
  obtain ⟨_, _, rfl⟩ := removeAlias_ok hrm
  obtain ⟨_, _, rfl⟩ := setAlias_ok h
  exact ⟨_, _, by assumption, by assumption, by assumption, by assumption, hle, rfl⟩

/-- the state right after a bid was recorded on the sell order of alias `l` -/
def bidStateA (s : State) (so : SellOrder) (a : Acct) (offer : Nat) (l : AliasId) (dst : Chain) : State :=
  let s1 := takeBidT s so.bid a offer
  { s1 with aliasSO := AMap.set s1.aliasSO l { so with bid := some ⟨a, offer, dst⟩ } }

theorem bidStateA_al (s : State) (so : SellOrder) (a : Acct) (offer : Nat) (l : AliasId) (dst : Chain) :
    (bidStateA s so a offer l dst).al = s.al := by
  rw [bidStateA, takeBidT_eq]

theorem validateAliasDst_ok {a l dst} {v : Unit} (h : validateAliasDst s a l dst = .ok v) :
    isCreator s dst a = true ∧ AMap.get s.al.aliasTo l ≠ some dst := by
  unfold validateAliasDst at h
  mcases' h
  rename (AMap.get s.al.aliasTo l = some _) => hsrc
  refine ⟨by assumption, ?_⟩
  rw [hsrc]
  intro e; injection e with e
  exact ‹¬ dst = _› e.symm

end

end DymVerif.DymNS
