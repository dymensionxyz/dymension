/-
  Lemmas/KeysRange — general facts about store iteration ranges: `storetypes.PrefixEndBytes` /
  collections `nextBytesPrefixKey` computed structurally, exactness of prefix ranges, upper bounds
  against fixed-width big-endian heads.
-/
import DymVerif.Lemmas.Keys3
namespace DymVerif.Keys
open DymVerif

theorem prefixEnd_cons (x : Nat) (xs : Bytes) :
    prefixEnd (x :: xs) = match prefixEnd xs with
      | some e => some (x :: e)
      | none => if x = 255 then none else some [x + 1] := by
  unfold prefixEnd
  simp only [List.reverse_cons]
  rw [List.dropWhile_append]
  cases h : List.dropWhile (· == 255) xs.reverse with
  | nil =>
    by_cases hx : x = 255
    · simp [List.dropWhile, hx]
    · have : (x == 255) = false := by simp [hx]
      simp [List.dropWhile, hx, this]
  | cons y ys => simp

/-- upper bound test of an iterator: `k < end`, nil end = unbounded -/
def below (stop : Option Bytes) (k : Bytes) : Bool := match stop with | none => true | some e => lexLt k e

theorem inRangeO_eq (a : Bytes) (e : Option Bytes) (k : Bytes) : inRangeO a e k = (lexLe a k && below e k) := rfl

/-- **`KVStorePrefixIterator` / prefix ranges are exact**: the range `[P, PrefixEndBytes(P))` contains
    exactly the byte strings that start with `P` -/
theorem prefix_range_exact (P K : Bytes) (hK : Bytes.WF K) :
    inRangeO P (prefixEnd P) K = isPrefix P K := by
  induction P generalizing K with
  | nil => cases K <;> rfl
  | cons x xs ih =>
    cases K with
    | nil => rfl
    | cons y ys =>
      have hy : y < 256 := hK y List.mem_cons_self
      have ih' := ih ys fun c hc => hK c (List.mem_cons_of_mem _ hc)
      rw [prefixEnd_cons, isPrefix, ← ih']
      cases hp : prefixEnd xs with
      | some e => exact inRange_cons_eq x y xs e ys
      | none =>
        simp only [inRangeO, Bool.and_true]
        by_cases hx : x = 255
        · rw [if_pos hx, lexLe_cons, hx]
          by_cases hy' : 255 = y
          · simp [hy']
          · rw [decide_eq_false (by omega : ¬ 255 < y), decide_eq_false hy', beq_false_of_ne hy']; rfl
        · rw [if_neg hx]
          simp only [lexLe_cons, lexLt_cons, lexLt_nil_right, Bool.and_false, Bool.or_false]
          rcases Nat.lt_trichotomy x y with h | h | h
          · rw [decide_eq_true h, decide_eq_false (by omega : ¬ y < x + 1), beq_false_of_ne (Nat.ne_of_lt h)]; rfl
          · simp [h]
          · rw [decide_eq_false (Nat.lt_asymm h), beq_false_of_ne (Nat.ne_of_gt h), decide_eq_false (Nat.ne_of_gt h)]; rfl

theorem prefixEnd_append (p x : Bytes) :
    prefixEnd (p ++ x) = match prefixEnd x with
      | some e => some (p ++ e)
      | none => prefixEnd p := by
  induction p with
  | nil =>
    simp only [List.nil_append]
    cases h : prefixEnd x with
    | some e => rfl
    | none => rfl
  | cons a p ih =>
    rw [List.cons_append, prefixEnd_cons, ih]
    cases h : prefixEnd x with
    | some e => simp
    | none => simp only []; rw [prefixEnd_cons]

/-- every extension of `P` is below `PrefixEndBytes(P)` -/
theorem below_prefixEnd_self (P r : Bytes) : below (prefixEnd P) (P ++ r) = true := by
  induction P with
  | nil => simp [prefixEnd, below]
  | cons x xs ih =>
    rw [prefixEnd_cons]
    cases h : prefixEnd xs with
    | some e => rw [h] at ih; simpa [below, lexLt] using ih
    | none =>
      by_cases hx : x = 255
      · simp [hx, below]
      · simp [hx, below, lexLt]

/-- a common prefix of the bound and the key can be dropped from the upper-bound test -/
theorem below_prefixEnd_append (p x y : Bytes) :
    below (prefixEnd (p ++ x)) (p ++ y) = below (prefixEnd x) y := by
  rw [prefixEnd_append]
  cases prefixEnd x with
  | some e => exact lexLt_append_left p y e
  | none => exact below_prefixEnd_self p y

/-- upper bound against a fixed-width head: for `|B| = |P|`, `B ++ r < PrefixEndBytes(P)` iff `B ≤ P` -/
theorem below_prefixEnd_eqlen (P B r : Bytes) (hl : B.length = P.length) (hB : Bytes.WF B) :
    below (prefixEnd P) (B ++ r) = lexLe B P := by
  induction P generalizing B with
  | nil => cases B with
    | nil => rfl
    | cons _ _ => simp at hl
  | cons x xs ih =>
    cases B with
    | nil => simp at hl
    | cons y ys =>
      have hy : y < 256 := hB y List.mem_cons_self
      have ih' := ih ys (by simpa using hl) fun c hc => hB c (List.mem_cons_of_mem _ hc)
      rw [prefixEnd_cons, lexLe_cons, ← ih', List.cons_append]
      cases hp : prefixEnd xs with
      | some e => exact lexLt_cons y x _ e
      | none =>
        by_cases hx : x = 255
        · simp [hx, below]; omega
        · simp only [hx, if_false, below, lexLt_cons, lexLt_nil_right, Bool.and_false, Bool.or_false, Bool.and_true]
          rw [← Bool.decide_or]
          exact decide_eq_decide.2 (by omega)

/-- a scan that starts at or after `pfx` and is bounded above by `PrefixEndBytes` of an extension of `pfx`
    returns only keys that carry `pfx` -/
theorem isPrefix_of_inRangeO (pfx s x K : Bytes) (hK : Bytes.WF K)
    (h : inRangeO (pfx ++ s) (prefixEnd (pfx ++ x)) K = true) : isPrefix pfx K = true := by
  rw [prefixEnd_append] at h
  cases hx : isPrefix pfx K with
  | true => rfl
  | false =>
    cases hp : prefixEnd x with
    | some e =>
      rw [hp] at h
      exact absurd (h.symm.trans (not_prefix_not_inRange pfx s e K hx)) (by decide)
    | none =>
      rw [hp] at h
      have h2 : inRangeO pfx (prefixEnd pfx) K = true := by
        simp only [inRangeO, Bool.and_eq_true] at h ⊢
        refine ⟨?_, h.2⟩
        cases hl : lexLt K pfx with
        | false => simp [lexLe, hl]
        | true => simp [lexLe, lexLt_append_right K pfx s hl] at h
      rw [prefix_range_exact pfx K hK, hx] at h2
      cases h2

end DymVerif.Keys
