/-
  Lemmas/GBFrame — monotonicity of M-GB along op sequences (a channel keeps its kind, an open bridge stays
  as it is), and the total of the credited balances (`totalBal`, `credit_total`).
-/
import DymVerif.Lemmas.GBInv
namespace DymVerif.GB

/-- a channel keeps its kind -/
theorem step_find (s : St) (op : Op) (c : Nat) (k : Nat × ChanKind) (h : s.chans.find? (·.1 == c) = some k) :
    (step s op).1.chans.find? (·.1 == c) = some k := by
  obtain ⟨l, hl⟩ := (step_shape s op).chans
  rw [hl, List.find?_append, h]; rfl

theorem run_find (s : St) (ops : List Op) (c : Nat) (k : Nat × ChanKind) (h : s.chans.find? (·.1 == c) = some k) :
    (run s ops).chans.find? (·.1 == c) = some k :=
  run_induction ops h fun s op _ hs => step_find s op c k hs

-- ---------------------------------------------------------------- once open, open for good

/-- an open bridge is never touched again: along any op sequence the proof height, the credited
    balances and the handshake counter of a rollapp whose handshake has completed stay what they are,
    and registered metadata stays registered -/
theorem run_opened (s : St) (ops : List Op) (r : Nat) (ra : Ra) (hg : getRa s r = some ra) (ht : ra.tph ≠ 0) :
    ∃ ra', getRa (run s ops) r = some ra' ∧ ra'.tph = ra.tph ∧ ra'.bal = ra.bal ∧ ra'.nOpen = ra.nOpen ∧
      (ra.md = true → ra'.md = true) := by
  refine run_induction (P := fun s' => ∃ ra', getRa s' r = some ra' ∧ ra'.tph = ra.tph ∧ ra'.bal = ra.bal ∧
    ra'.nOpen = ra.nOpen ∧ (ra.md = true → ra'.md = true)) ops ⟨ra, hg, rfl, rfl, rfl, id⟩ ?_
  intro s op _ ⟨ra1, hg1, e1, e2, e3, e4⟩
  -- one step: only the handshake writes the bridge part, and it needs a closed bridge; `premd` registers metadata
  rcases step_getRa s op hg1 with h | ⟨x, hw, _, h⟩
  · exact ⟨ra1, h, e1, e2, e3, e4⟩
  · refine ⟨x, h, ?_⟩
    cases hw with
    | recv _ _ _ _ _ h0 => exact absurd (e1 ▸ h0) ht
    | premd => exact ⟨e1, e2, e3, fun _ => rfl⟩
    | _ => exact ⟨e1, e2, e3, e4⟩

-- ---------------------------------------------------------------- total of the credited balances

def totalBal (b : List (Nat × Int)) : Int := (b.map (·.2)).sum

theorem any_false_of_not_mem (b : List (Nat × Int)) (a : Nat) (h : a ∉ b.map (·.1)) : b.any (·.1 == a) = false := by
  induction b with
  | nil => rfl
  | cons x xs ih =>
    simp only [List.map_cons, List.mem_cons, not_or] at h
    simp only [List.any_cons, Bool.or_eq_false_iff, beq_eq_false_iff_ne, ne_eq]
    exact ⟨fun he => h.1 he.symm, ih h.2⟩

theorem map_upd_keys (b : List (Nat × Int)) (a : Nat) (v : Int) :
    (b.map (fun x => if x.1 == a then (a, x.2 + v) else x)).map (·.1) = b.map (·.1) := by
  induction b with
  | nil => rfl
  | cons x xs ih =>
    simp only [List.map_cons, ih]
    congr 1
    split
    · rename_i h; simpa using (beq_iff_eq.1 h).symm
    · rfl

theorem map_upd_total (b : List (Nat × Int)) (a : Nat) (v : Int) (hn : (b.map (·.1)).Nodup) :
    totalBal (b.map (fun x => if x.1 == a then (a, x.2 + v) else x)) = totalBal b + (if b.any (·.1 == a) then v else 0) := by
  induction b with
  | nil => simp [totalBal]
  | cons x xs ih =>
    simp only [List.map_cons, List.nodup_cons] at hn
    have ih' := ih hn.2
    by_cases hx : x.1 = a
    · have hf := any_false_of_not_mem xs a (by rw [← hx]; exact hn.1)
      rw [hf] at ih'
      simp only [totalBal, List.map_cons, List.sum_cons, List.any_cons, hx, beq_self_eq_true, if_true, Bool.true_or,
        Bool.false_eq_true, if_false] at ih' ⊢
      omega
    · have hx' : (x.1 == a) = false := by simpa using hx
      simp only [totalBal, List.map_cons, List.sum_cons, List.any_cons, hx', Bool.false_or, Bool.false_eq_true, if_false] at ih' ⊢
      omega

theorem addBal_keys_nodup (b : List (Nat × Int)) (a : Nat) (v : Int) (hn : (b.map (·.1)).Nodup) :
    ((addBal b a v).map (·.1)).Nodup := by
  unfold addBal
  split
  · rw [map_upd_keys]; exact hn
  · rename_i h
    rw [List.map_append, List.nodup_append]
    refine ⟨hn, by simp, ?_⟩
    intro x hx y hy
    simp only [List.map_cons, List.map_nil, List.mem_singleton] at hy
    subst hy
    intro hxy
    subst hxy
    apply h
    obtain ⟨z, hz, hz1⟩ := List.mem_map.1 hx
    exact List.any_eq_true.2 ⟨z, hz, by simpa using hz1⟩

theorem addBal_total (b : List (Nat × Int)) (a : Nat) (v : Int) (hn : (b.map (·.1)).Nodup) :
    totalBal (addBal b a v) = totalBal b + v := by
  unfold addBal
  split
  · rename_i h
    rw [map_upd_total b a v hn, h]; rfl
  · simp [totalBal, List.sum_append]

/-- the genesis credits add exactly the sum of the credited accounts to the total -/
theorem credit_total : ∀ (l : List Acc) (b b' : List (Nat × Int)), (b.map (·.1)).Nodup → credit l b = some b' →
    (b'.map (·.1)).Nodup ∧ totalBal b' = totalBal b + sumAccs l
  | [], b, b', hn, h => by
    simp only [credit, Option.some.injEq] at h
    subst h
    exact ⟨hn, by simp [sumAccs]⟩
  | a :: as, b, b', hn, h => by
    simp only [credit] at h
    split at h
    · exact absurd h (by simp)
    · obtain ⟨h1, h2⟩ := credit_total as _ b' (addBal_keys_nodup b a.addr a.amt hn) h
      refine ⟨h1, ?_⟩
      rw [h2, addBal_total b a.addr a.amt hn]
      simp only [sumAccs, List.map_cons, List.sum_cons]
      omega

end DymVerif.GB
