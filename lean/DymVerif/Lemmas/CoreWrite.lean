/-
  Lemmas/CoreWrite — M-Core as sequences of elementary writes.  `Write k b b'` lists the leaves of the call tree
  of `apply`: a literal record update or one leaf function of the model, under the guards the model has checked
  when it performs it, named by a kind `k`.  `Writes ks` is the reflexive-transitive closure over the kinds in
  `ks`; `Op.kinds` is the footprint of each op and `apply_writes` walks the call tree once.  A state invariant,
  or a reflexive and transitive relation between two states, then holds across every accepted op as soon as it
  holds across each single write (`Writes.inv`, `Writes.rel`), and a class of ops is a Boolean function on kinds
  checked against the footprint table.  The writes fall into three groups with one frame each: rollapp side
  (`RaWrite.seqSide`), sequencer side (`SeqWrite.raSide`), the rest (`AuxWrite.same`).
-/
import DymVerif.Lemmas.CoreFrame
import DymVerif.Lemmas.CoreProposer
namespace DymVerif.Core

inductive RaKind
  | newRa | launch | bridge | owner | vacate | succ | recover | rotate | append | indicate | revert | resched | fin | clearSucc
  deriving DecidableEq

inductive SeqKind
  | optOut | fund | join | toModule | withdraw | punish | slashLiv | notice | optIn | honor | kicker
  deriving DecidableEq

inductive AuxKind
  | enqueue | sqp | obsolete | tick | nqDrop | queue
  deriving DecidableEq

/-- the name of an elementary write: what the footprint of an op (`Op.kinds`) is made of -/
inductive Kind
  | ra (k : RaKind) | sq (k : SeqKind) | aux (k : AuxKind) | abrupt
  deriving DecidableEq

/-- The writes to the rollapp records, with the event list, the finalization queue and the liabilities where the
    model writes them in the same breath.
    `newRa`: `apply` on `createRollapp`; `launch`: `createSeq` for the first sequencer; `bridge`: `apply` on `bridge`
    (the transfers-enabled height, set once); `owner`: `transferOwner`.
    `vacate`, `rotate`: `onProposerLastBlock` without / with a successor; `recover`: `recoverFromSentinel`.  In both
    `recover` and `rotate` the new proposer's record write and the rollapp hook `afterSetRealProposer` are one write,
    given as: the record with the new proposer noted in its latest state, then `indicateLiveness` on it
    (`afterSetReal_eq`); the new proposer comes from `choose` resp. from the old successor.
    `succ`: the successor chosen in `beginBlock` for an elapsed notice.
    `append`, `indicate`: `updateState` (the new state info; the liveness clock restarted at the end).
    `revert`: `hardFork` up to the sequencer hook (`afterRevert`: states cut, queue and liabilities pruned, clock
    reset); `clearSucc`: the last step of that hook.
    `resched`: `handleLivenessEvent` after the slash; `fin`: one `finalizeOne` of the end blocker. -/
inductive RaWrite : RaKind → St → St → Prop
  | newRa {b : St} (id : Nat) (ow : Addr) (mb : Nat) : getRa b id = none →
      RaWrite .newRa b { b with ras := insertSorted (fun x y => decide (x.id < y.id)) (newRollapp id ow mb) b.ras }
  | launch {b : St} {id : Nat} {r : Rollapp} : getRa b id = some r → RaWrite .launch b (setRa b { r with launched := true })
  | bridge {b : St} {id : Nat} {r : Rollapp} (h lh : Nat) : getRa b id = some r → latestHeight r = some lh →
      r.tph = 0 → h ≠ 0 → h ≤ lh → RaWrite .bridge b (setRa b { r with tph := h })
  | owner {b : St} {id : Nat} {r : Rollapp} (no : Addr) : getRa b id = some r → blockedAddr no = false →
      RaWrite .owner b (setRa b { r with owner := no })
  | vacate {b : St} {id : Nat} {r : Rollapp} : getRa b id = some r → r.successor = none →
      RaWrite .vacate b (setRa b { r with successor := none, proposer := r.successor })
  | succ {b : St} {id : Nat} {r : Rollapp} : getRa b id = some r → RaWrite .succ b (setRa b { r with successor := choose b id })
  | recover {b : St} {id : Nat} {r : Rollapp} (a : Addr) : getRa b id = some r → r.proposer = none → choose b id = some a →
      RaWrite .recover b
        (indicateLiveness (setRa b { r with proposer := some a, states := setLastNext r.states (.addr a) })
          { r with proposer := some a, states := setLastNext r.states (.addr a) })
  | rotate {b : St} {id : Nat} {r : Rollapp} (a : Addr) : getRa b id = some r → r.successor = some a →
      RaWrite .rotate b
        (indicateLiveness
          (setRa b { r with successor := none, proposer := r.successor, states := setLastNext r.states (.addr a) })
          { r with successor := none, proposer := r.successor, states := setLastNext r.states (.addr a) })
  | append {b : St} {r : Rollapp} (m : UpdMsg) : getRa b m.ra = some r → updValidateBasic m = .ok () →
      r.proposer = some m.sender → latestRev r = m.rev → updPre r m = .ok () →
      RaWrite .append b (setRa b { r with states := r.states ++ [newSInfo b m (updSucc r m)] })
  | indicate {b : St} {id : Nat} {r : Rollapp} : getRa b id = some r → RaWrite .indicate b (indicateLiveness b r)
  | revert {b : St} {r : Rollapp} (ra lv keep : Nat) (kst : SInfo) : getRa b ra = some r → 0 < r.tph → r.tph ≤ lv →
      revertPlan r ((lv + 1) % 2 ^ 64) = .ok (keep, kst) → RaWrite .revert b (afterRevert b ra keep r kst)
  | resched {b : St} {r : Rollapp} (ra : Nat) : getRa b ra = some r →
      RaWrite .resched b (setRa (scheduleEvent { b with lev := delEvent b.lev b.h ra } r).1
                     (scheduleEvent { b with lev := delEvent b.lev b.h ra } r).2)
  | fin {b b' : St} (fails : List (Nat × Nat)) (ra i : Nat) : finalizeOne b fails ra i = some b' → RaWrite .fin b b'
  | clearSucc {b : St} (ra : Nat) : RaWrite .clearSucc b (setSuccessor b ra none)

/-- The writes to the sequencer records, the notice queue and the money.  A money mover (`sendToModule`, `tryUnbond`,
    `slash`) and the write-back of the record it returns are one write.
    `optOut`: the first step of the sequencer hook of the hard fork; `fund`: `apply` on `fund`;
    `join`: `createSeq`; `toModule`: `increaseBond`; `withdraw`: `decreaseBond`, and `unbond` of a sequencer that is
    not the proposer (which opts it out first); `notice`: `unbond` of the proposer, which has no notice yet
    (`unbond_fresh`);
    `punish`: `punish` (a governance proposal, or the fraud handler naming a culprit);
    `slashLiv`: `slashLiveness` in the end blocker; `optIn`: `optIn`; `honor`: `seqAfterUpdate`;
    `kicker`: `kick` writing the kicker's record back as read before the fork, which by then has opted it out
    (`kick_kicker`). -/
inductive SeqWrite : SeqKind → St → St → Prop
  | optOut {b : St} (ra : Nat) : SeqWrite .optOut b (optOutAll b ra)
  | fund {b : St} (a : Addr) (amt : Nat) : SeqWrite .fund b { b with bal := setBal b.bal a (getBal b.bal a + amt) }
  | join {b s1 : St} {q1 : Seq} (a : Addr) (ra bond : Nat) : getSeq b a = none →
      sendToModule b (newSeq a ra) bond = .ok (s1, q1) → SeqWrite .join b (addSeq s1 q1)
  | toModule {b s1 : St} {q q1 : Seq} (a : Addr) (amt : Nat) : getSeq b a = some q →
      sendToModule b q amt = .ok (s1, q1) → SeqWrite .toModule b (setSeq s1 q1)
  | withdraw {b s1 : St} {q0 q q1 : Seq} (a : Addr) (amt : Nat) : getSeq b a = some q0 →
      (q = q0 ∨ q = { q0 with optedIn := false }) → tryUnbond b q amt = .ok (s1, q1) → SeqWrite .withdraw b (setSeq s1 q1)
  | punish {b s1 : St} {q q1 : Seq} (a : Addr) (rw : Option Addr) : getSeq b a = some q →
      slash b q q.tokens (punishMul rw) rw = .ok (s1, q1) → SeqWrite .punish b (setSeq s1 q1)
  | slashLiv {b s1 : St} {q q1 : Seq} (a : Addr) : getSeq b a = some q →
      slash b q (livenessAmt b.sqp q.tokens) ⟨0⟩ none = .ok (s1, q1) →
      SeqWrite .slashLiv b (setSeq s1 { q1 with dishonor := q1.dishonor + s1.sqp.dishonorL })
  | notice {b : St} {q : Seq} (a : Addr) : getSeq b a = some q → isProposer b q = true → q.notice = none →
      SeqWrite .notice b (setSeq { b with nq := insertSorted ltPair (b.t + b.sqp.noticePeriod, a) b.nq }
        (noticed q (b.t + b.sqp.noticePeriod)))
  | optIn {b : St} {q : Seq} (a : Addr) (v : Bool) : getSeq b a = some q → q.notice = none →
      SeqWrite .optIn b (setSeq b { q with optedIn := v })
  | honor {b : St} {q : Seq} (a : Addr) : getSeq b a = some q →
      SeqWrite .honor b (setSeq b { q with dishonor := q.dishonor - min b.sqp.dishonorSU q.dishonor })
  | kicker {b : St} (k : Seq) : getSeq b k.addr = some { k with optedIn := false } →
      SeqWrite .kicker b (setSeq b { k with optedIn := true })

/-- The writes to the remaining components.  `enqueue`: `updateState` queueing the new state for finalization and
    recording its block heights as liabilities of the proposer; `sqp`: `setSeqParams`; `obsolete`: `markObsolete`;
    `tick`, `nqDrop`: `beginBlock` (clock; an elapsed notice leaves the notice queue); `queue`: `finalizeEntry.go`
    at the end of an entry, which is deleted when every index finalized and cut to the rest at the first refusal. -/
inductive AuxWrite : AuxKind → St → St → Prop
  | enqueue {b : St} (ra i : Nat) (a : Addr) (bds : List BD) :
      AuxWrite .enqueue b { b with queue := queueAppend b.queue b.h ra i, seqH := addSeqHeights b.seqH a bds }
  | sqp {b : St} (sp : SeqParams) : AuxWrite .sqp b { b with sqp := sp }
  | obsolete {b : St} (o : List Nat) : AuxWrite .obsolete b { b with obsolete := o }
  | tick {b : St} (dt : Nat) : AuxWrite .tick b { b with h := b.h + 1, t := b.t + dt }
  | nqDrop {b : St} (e : Nat × Addr) : AuxWrite .nqDrop b { b with nq := b.nq.filter (fun x => !(x.1 == e.1 && x.2 == e.2)) }
  | qDone {b : St} (e : QEntry) : AuxWrite .queue b { b with queue := b.queue.filter (fun x => !(x.ch == e.ch && x.ra == e.ra)) }
  | qRest {b : St} (e : QEntry) (l : List Nat) : AuxWrite .queue b
      { b with queue := b.queue.map (fun x => if x.ch == e.ch && x.ra == e.ra then { x with idx := l } else x) }

/-- One elementary write of M-Core.  `abrupt` is `abruptRemoveProposer` (in `kick` and in the sequencer hook of the
    hard fork): proposer out of the notice queue, unbonded, slot cleared; an invariant relating the slot to the bond
    is false in between, so it is one write, with `RoleClosed` for its parts. -/
inductive Write : Kind → St → St → Prop
  | ra {k : RaKind} {b b' : St} : RaWrite k b b' → Write (.ra k) b b'
  | sq {k : SeqKind} {b b' : St} : SeqWrite k b b' → Write (.sq k) b b'
  | aux {k : AuxKind} {b b' : St} : AuxWrite k b b' → Write (.aux k) b b'
  | abrupt {b : St} (ra : Nat) : Write .abrupt b (abruptRemoveProposer b ra)

/-- the writes of a hard fork -/
def forkKinds : List Kind := [.ra .revert, .sq .optOut, .abrupt, .ra .clearSucc]

/-- A sequence of elementary writes whose kinds are all in `ks`.  A `revert` occurs only as the first of the four
    writes of a hard fork, and the fork is kept whole (`fork`): between the revert and the end of the sequencer
    hook the forked record has a reset clock and still its proposer, which an invariant tying the two together
    does not survive.  `inv` takes the fork apart into its four writes, `inv_fork` leaves it in one piece. -/
inductive Writes (ks : List Kind) (a : St) : St → Prop
  | refl : Writes ks a a
  | tail {k : Kind} {b c : St} (w : Writes ks a b) (hk : k ∈ ks) (x : Write k b c) (hr : k ≠ .ra .revert := by decide) :
      Writes ks a c
  | fork {b c : St} {ra lv : Nat} : Writes ks a b → (∀ k ∈ forkKinds, k ∈ ks) → hardFork b ra lv = .ok c → Writes ks a c

namespace Writes
variable {ks ks' : List Kind}

theorem one {k : Kind} {a b : St} (hk : k ∈ ks) (w : Write k a b) (hr : k ≠ .ra .revert := by decide) : Writes ks a b :=
  .tail .refl hk w hr

theorem trans {a b c : St} (h1 : Writes ks a b) (h2 : Writes ks b c) : Writes ks a c := by
  induction h2 with
  | refl => exact h1
  | tail _ hk w hr ih => exact .tail ih hk w hr
  | fork _ hk e ih => exact .fork ih hk e

theorem mono (h : ∀ k ∈ ks, k ∈ ks') {a b : St} (w : Writes ks a b) : Writes ks' a b := by
  induction w with
  | refl => exact .refl
  | tail _ hk w hr ih => exact .tail ih (h _ hk) w hr
  | fork _ hk e ih => exact .fork ih (fun k hf => h k (hk k hf)) e

/-- what every elementary write of the kinds `ks` preserves, every sequence of them preserves -/
theorem inv {P : St → Prop} (hw : ∀ {k b b'}, k ∈ ks → Write k b b' → P b → P b') {s s' : St} (w : Writes ks s s')
    (h : P s) : P s' := by
  induction w with
  | refl => exact h
  | tail _ hk w _ ih => exact hw hk w ih
  | @fork _ _ ra lv _ hk e ih =>
    obtain ⟨r, keep, kst, hg, h1, h2, _, hp, rfl⟩ := hardFork_ok e
    exact hw (hk _ (by decide)) (.ra (.clearSucc ra)) (hw (hk _ (by decide)) (.abrupt ra)
      (hw (hk _ (by decide)) (.sq (.optOut ra)) (hw (hk _ (by decide)) (.ra (.revert ra lv keep kst hg h1 h2 hp)) ih)))

/-- a reflexive and transitive relation that holds across every elementary write holds across a sequence -/
theorem rel {R : St → St → Prop} (hr : ∀ s, R s s) (ht : ∀ {a b c}, R a b → R b c → R a c)
    (hw : ∀ {k b b'}, k ∈ ks → Write k b b' → R b b') {s s' : St} (w : Writes ks s s') : R s s' :=
  inv (P := R s) (fun hk w h => ht h (hw hk w)) w (hr s)

/-- the same for a predicate that holds across a hard fork as a whole only -/
theorem inv_fork {P : St → Prop} (hw : ∀ {k b b'}, k ∈ ks → k ≠ .ra .revert → Write k b b' → P b → P b')
    (hf : ∀ {b c ra lv}, hardFork b ra lv = .ok c → P b → P c) {s s' : St} (w : Writes ks s s') (h : P s) : P s' := by
  induction w with
  | refl => exact h
  | tail _ hk w hr ih => exact hw hk hr w ih
  | fork _ _ e ih => exact hf e ih

end Writes

-- ---------------------------------------------------------------- one frame per group of writes

/-- everything outside the rollapp records, the event list, the finalization queue and the liabilities is the same -/
structure SeqSide (s s' : St) : Prop where
  seqs : s'.seqs = s.seqs
  nq : s'.nq = s.nq
  bal : s'.bal = s.bal
  modBal : s'.modBal = s.modBal
  burned : s'.burned = s.burned
  pp : pp s' = pp s
  h : s'.h = s.h
  t : s'.t = s.t
  obsolete : s'.obsolete = s.obsolete

theorem SeqSide.setRa (s : St) (r : Rollapp) : SeqSide s (setRa s r) := ⟨rfl, rfl, rfl, rfl, rfl, rfl, rfl, rfl, rfl⟩

theorem SeqSide.trans {a b c : St} (x : SeqSide a b) (y : SeqSide b c) : SeqSide a c :=
  ⟨y.seqs.trans x.seqs, y.nq.trans x.nq, y.bal.trans x.bal, y.modBal.trans x.modBal, y.burned.trans x.burned,
   y.pp.trans x.pp, y.h.trans x.h, y.t.trans x.t, y.obsolete.trans x.obsolete⟩

theorem indicateLiveness_seqSide (s : St) (r : Rollapp) : SeqSide s (indicateLiveness s r) := by
  unfold indicateLiveness resetClock scheduleEvent; exact ⟨rfl, rfl, rfl, rfl, rfl, rfl, rfl, rfl, rfl⟩

theorem RaWrite.seqSide {k : RaKind} {b b' : St} (w : RaWrite k b b') : SeqSide b b' := by
  cases w with
  | newRa => exact ⟨rfl, rfl, rfl, rfl, rfl, rfl, rfl, rfl, rfl⟩
  | launch | bridge | owner | vacate | succ | append => exact .setRa _ _
  | recover | rotate => exact (SeqSide.setRa _ _).trans (indicateLiveness_seqSide _ _)
  | indicate => exact indicateLiveness_seqSide _ _
  | revert => unfold afterRevert resetClock; exact ⟨rfl, rfl, rfl, rfl, rfl, rfl, rfl, rfl, rfl⟩
  | resched => unfold scheduleEvent; exact ⟨rfl, rfl, rfl, rfl, rfl, rfl, rfl, rfl, rfl⟩
  | fin fails ra i e => obtain ⟨_, _, r, st, _, _, _, rfl⟩ := finalizeOne_ok e; exact ⟨rfl, rfl, rfl, rfl, rfl, rfl, rfl, rfl, rfl⟩
  | clearSucc ra =>
    rcases setSuccessor_cases b ra none with ⟨_, e⟩ | ⟨r, _, e⟩ <;> rw [e] <;> exact ⟨rfl, rfl, rfl, rfl, rfl, rfl, rfl, rfl, rfl⟩

theorem RaSide.setSeq {s s1 : St} (x : RaSide s s1) (q : Seq) : RaSide s (setSeq s1 q) :=
  x.trans ⟨rfl, rfl, rfl, rfl, rfl, rfl, rfl, rfl⟩

theorem SeqWrite.raSide {k : SeqKind} {b b' : St} (w : SeqWrite k b b') : RaSide b b' := by
  cases w with
  | optOut | fund | notice | optIn | honor | kicker => exact ⟨rfl, rfl, rfl, rfl, rfl, rfl, rfl, rfl⟩
  | join _ _ _ _ hs => exact (Fork.sendToModule_money hs).1.raSide.trans ⟨rfl, rfl, rfl, rfl, rfl, rfl, rfl, rfl⟩
  | toModule _ _ _ hs => exact (Fork.sendToModule_money hs).1.raSide.setSeq _
  | withdraw _ _ _ _ hs => exact (Fork.tryUnbond_money hs).1.raSide.setSeq _
  | punish _ _ _ hs | slashLiv _ _ hs => exact (Fork.slash_money hs).1.raSide.setSeq _

theorem AuxWrite.same {k : AuxKind} {b b' : St} (w : AuxWrite k b b') :
    b'.ras = b.ras ∧ b'.seqs = b.seqs ∧ b'.p = b.p ∧ b.h ≤ b'.h := by
  cases w <;> exact ⟨rfl, rfl, rfl, by first | exact Nat.le_refl _ | exact Nat.le_succ _⟩

-- ---------------------------------------------------------------- the call tree, once

/-- the rollapp hook `AfterSetRealProposer` right after the write of the record with the new proposer: the same as
    writing the record with the new proposer noted in its latest state and restarting the liveness clock on it
    (the two writes of the hook go to the same record) -/
theorem afterSetReal_eq {b : St} {id : Nat} {r r0 : Rollapp} (hg : getRa b id = some r0) (hid : r.id = id) (a : Addr) :
    afterSetRealProposer (setRa b r) id a =
      indicateLiveness (setRa b { r with states := setLastNext r.states (.addr a) })
        { r with states := setLastNext r.states (.addr a) } := by
  subst hid
  have h1 : getRa (setRa b r) r.id = some r := getRa_setRa_self hg
  have h2 : getRa (indicateLiveness (setRa b r) r) r.id =
      some { r with evH := nextSlashHeight b.p.lsBlocks b.p.lsInterval b.h b.h, cdStart := b.h } :=
    getRa_setRa_self (s := { setRa b r with lev := _ })
      (r := { r with evH := nextSlashHeight b.p.lsBlocks b.p.lsInterval b.h b.h, cdStart := b.h }) h1
  unfold afterSetRealProposer
  rw [h1]; dsimp only
  rw [h2]; dsimp only
  -- three, resp. two, writes to the record `r.id` of `b` under the new event list; the last one is the same
  -- (records and list spelt out: left as `_`, unification does not find them through the nested updates)
  have e1 := (setRa_setRa (setRa { b with lev := (indicateLiveness b r).lev } r)
    (r := { r with evH := nextSlashHeight b.p.lsBlocks b.p.lsInterval b.h b.h, cdStart := b.h })
    (r' := { r with evH := nextSlashHeight b.p.lsBlocks b.p.lsInterval b.h b.h, cdStart := b.h,
                    states := setLastNext r.states (.addr a) }) rfl).trans (setRa_setRa _ rfl)
  have e2 := setRa_setRa { b with lev := (indicateLiveness b r).lev } (r := { r with states := setLastNext r.states (.addr a) })
    (r' := { r with evH := nextSlashHeight b.p.lsBlocks b.p.lsInterval b.h b.h, cdStart := b.h,
                    states := setLastNext r.states (.addr a) }) rfl
  exact e1.trans e2.symm

section
variable {ks : List Kind}

theorem recoverFromSentinel_writes (hk : Kind.ra .recover ∈ ks) {s s' : St} {ra : Nat}
    (e : recoverFromSentinel s ra = .ok s') : Writes ks s s' := by
  obtain ⟨r, a, hg, hp, hc, rfl⟩ := recoverFromSentinel_ok e
  rw [afterSetReal_eq (r := { r with proposer := some a }) hg (getRa_id hg : r.id = ra)]
  exact .one hk (.ra (.recover (r := r) a hg hp hc))

theorem hardFork_writes (hk : ∀ k ∈ forkKinds, k ∈ ks) {s s' : St} {ra lv : Nat} (e : hardFork s ra lv = .ok s') :
    Writes ks s s' := .fork .refl hk e

theorem hardForkToLatest_writes (hk : ∀ k ∈ forkKinds, k ∈ ks) {s s' : St} {ra : Nat}
    (e : hardForkToLatest s ra = .ok s') : Writes ks s s' := by
  obtain ⟨_, _, _, _, e⟩ := hardForkToLatest_ok e
  exact hardFork_writes hk e

theorem onProposerLastBlock_writes (hk : ∀ k ∈ .ra .vacate :: .ra .rotate :: forkKinds, k ∈ ks) {s s' : St} {q : Seq}
    (e : onProposerLastBlock s q = .ok s') : Writes ks s s' := by
  obtain ⟨_, r, s1, hg, rfl, ⟨hs, hf⟩ | ⟨a, hs, rfl⟩⟩ := onProposerLastBlock_ok e
  · exact (Writes.one (hk _ (by decide)) (.ra (.vacate hg hs))).trans
      (hardForkToLatest_writes (fun k h => hk k (by simp [h])) hf)
  · rw [afterSetReal_eq (r := { r with successor := none, proposer := r.successor }) ((getRa_id hg).symm ▸ hg) rfl]
    exact .one (hk _ (by decide)) (.ra (.rotate (r := r) a hg hs))

theorem seqAfterUpdate_writes (hk : ∀ k ∈ .sq .honor :: .ra .vacate :: .ra .rotate :: forkKinds, k ∈ ks) {s s' : St}
    {m : UpdMsg} {b : Bool} (e : seqAfterUpdate s m b = .ok s') : Writes ks s s' := by
  obtain ⟨prop, prop1, hg, rfl, ⟨_, rfl⟩ | ⟨_, e⟩⟩ := seqAfterUpdate_ok e
  · exact .one (hk _ (by decide)) (.sq (.honor _ hg))
  · exact (Writes.one (hk _ (by decide)) (.sq (.honor _ hg))).trans
      (onProposerLastBlock_writes (fun k h => hk k (by simp [h])) e)

theorem punish_writes (hk : Kind.sq .punish ∈ ks) {s s' : St} {a : Addr} {rw : Option Addr}
    (e : punish s a rw = .ok s') : Writes ks s s' := by
  obtain ⟨q, s1, q1, hg, hs, rfl⟩ := punish_ok e
  exact .one hk (.sq (.punish a rw hg hs))

end

def createSeqKinds : List Kind := [.ra .launch, .sq .join, .ra .recover]
def unbondKinds : List Kind := [.sq .notice, .sq .withdraw]
def optInKinds : List Kind := [.sq .optIn, .ra .recover]
def kickKinds : List Kind := .sq .kicker :: .ra .recover :: .abrupt :: forkKinds
def updateKinds : List Kind :=
  .ra .append :: .aux .enqueue :: .ra .indicate :: .sq .honor :: .ra .vacate :: .ra .rotate :: forkKinds
def beginKinds : List Kind := [.aux .tick, .aux .nqDrop, .ra .succ]
def endKinds : List Kind := [.ra .fin, .aux .queue, .sq .slashLiv, .ra .resched]

/-- the footprint of each op: the kinds of writes it may perform -/
def Op.kinds : Op → List Kind
  | .createRollapp .. => [.ra .newRa]
  | .bridge .. => [.ra .bridge]
  | .fund .. => [.sq .fund]
  | .createSeq .. => createSeqKinds
  | .bondInc .. => [.sq .toModule]
  | .bondDec .. => [.sq .withdraw]
  | .unbond _ => unbondKinds
  | .optIn .. => optInKinds
  | .kick _ => kickKinds
  | .update _ => updateKinds
  | .fraud _ _ _ _ (some _) _ => .sq .punish :: forkKinds
  | .fraud _ _ _ _ none _ => forkKinds
  | .obsolete .. => .aux .obsolete :: forkKinds
  | .punish .. => [.sq .punish]
  | .transferOwner .. => [.ra .owner]
  | .setSeqParams .. => [.aux .sqp]
  | .begin_ _ => beginKinds
  | .end_ _ => endKinds

/-- `createRollapp` is the only op that creates a rollapp record -/
theorem Op.newRa_kinds {o : Op} (h : Kind.ra .newRa ∈ o.kinds) : ∃ id ow mb, o = .createRollapp id ow mb := by
  cases o with
  | createRollapp id ow mb => exact ⟨_, _, _, rfl⟩
  | fraud _ _ _ _ p _ => cases p <;> (simp only [Op.kinds] at h; exact absurd h (by decide))
  | _ => simp only [Op.kinds] at h; exact absurd h (by decide)

theorem updateState_writes {s s' : St} {m : UpdMsg} (e : updateState s m = .ok s') : Writes updateKinds s s' := by
  obtain ⟨r, s3, s4, r4, hvb, hg, hp, _, hrev, hpre, _, h3, rfl, hg4, rfl⟩ := updateState_ok e
  exact (((Writes.one (by decide) (.ra (.append m hg hvb hp hrev hpre))).trans
    (seqAfterUpdate_writes (by decide) h3)).tail (by decide) (.aux (.enqueue m.ra _ m.sender m.bds))).tail (by decide)
    (.ra (.indicate hg4))

theorem createSeq_writes {s s' : St} {a : Addr} {ra bond : Nat} {d : Bool} (e : createSeq s a ra bond d = .ok s') :
    Writes createSeqKinds s s' := by
  obtain ⟨r, s1, q1, hg, hq, _, _, _, hs, r2, _, hx⟩ := createSeq_ok e
  have h1 : Writes createSeqKinds s (addSeq s1 q1) := by
    by_cases hl : r.launched = true
    · rw [if_pos hl] at hs; exact .one (by decide) (.sq (.join a ra bond hq hs))
    · rw [if_neg hl] at hs
      exact (Writes.one (by decide) (.ra (.launch hg))).tail (by decide)
        (.sq (.join a ra bond ((getSeq_congr rfl a).trans hq) hs))
  rcases hx with ⟨_, rfl⟩ | ⟨_, hr⟩
  · exact h1
  · exact h1.trans (recoverFromSentinel_writes (by decide) hr)

theorem optIn_writes {s s' : St} {a : Addr} {v : Bool} (e : optIn s a v = .ok s') : Writes optInKinds s s' := by
  obtain ⟨q, r, hg, hn, _, ⟨_, rfl⟩ | ⟨_, e⟩⟩ := optIn_ok e
  · exact .one (by decide) (.sq (.optIn a v hg hn))
  · exact (Writes.one (by decide) (.sq (.optIn a v hg hn))).trans (recoverFromSentinel_writes (by decide) e)

theorem unbond_writes {s s' : St} {a : Addr} (e : unbond s a = .ok s') : Writes unbondKinds s s' := by
  obtain ⟨q, r, hg, hgr, hrot, ⟨hp, _, hn, rfl⟩ | ⟨_, s1, q1, hs, rfl⟩⟩ := unbond_ok e
  · exact .one (by decide) (.sq (.notice a hg hp (unbond_fresh hg hgr hrot hp hn).2))
  · exact .one (by decide) (.sq (.withdraw a _ hg (Or.inr rfl) hs))

theorem abruptRemoveProposer_none {s : St} {ra : Nat} {r : Rollapp} (hg : getRa s ra = some r) (hp : r.proposer = none) :
    abruptRemoveProposer s ra = s := by
  rcases abruptRemoveProposer_cases' s ra with ⟨e, _⟩ | ⟨r', a, _, hg', ha, _⟩
  · exact e
  · rw [hg] at hg'; cases hg'; rw [hp] at ha; cases ha

/-- where `kick` has got to when it writes the kicker's record back: the proposer was removed and the rollapp
    forked, which has opted the kicker out and changed nothing else of its record (it is not the proposer) -/
theorem kick_kicker {s s3 : St} {a pa : Addr} {k pq : Seq} {r : Rollapp} (hk : getSeq s a = some k)
    (hg : getRa s k.rollapp = some r) (hp : r.proposer = some pa) (hpq : getSeq s pa = some pq) (hne : a ≠ pa)
    (h3 : hardForkToLatest (abruptRemoveProposer s r.id) r.id = .ok s3) :
    getSeq s3 a = some { k with optedIn := false } := by
  have hid : r.id = k.rollapp := getRa_id hg
  rw [← hid] at hg
  have hX : getRa (setSeq (removeFromNoticeQueue s pq) { pq with bonded := false }) r.id = some r :=
    (getRa_of_ras_eq (removeFromNoticeQueue_ras s pq) r.id).trans hg
  have h2 : abruptRemoveProposer s r.id =
      setRa (setSeq (removeFromNoticeQueue s pq) { pq with bonded := false }) { r with proposer := none } := by
    rcases abruptRemoveProposer_cases' s r.id with ⟨_, hn | ⟨r', hg', hn | ⟨a', ha', hq'⟩⟩⟩ | ⟨r', a', q', hg', ha', hq', e⟩
    · rw [hg] at hn; cases hn
    · rw [hg] at hg'; cases hg'; rw [hp] at hn; cases hn
    · rw [hg] at hg'; cases hg'; rw [hp] at ha'; cases ha'; rw [hpq] at hq'; cases hq'
    · rw [hg] at hg'; cases hg'; rw [hp] at ha'; cases ha'; rw [hpq] at hq'; cases hq'
      rcases setProposer_cases (setSeq (removeFromNoticeQueue s pq) { pq with bonded := false }) r.id none with
        ⟨hn, _⟩ | ⟨r'', hg'', e'⟩
      · rw [hX] at hn; cases hn
      · rw [hX] at hg''; cases hg''; exact e.trans e'
  rw [h2] at h3
  obtain ⟨_, _, _, _, hf⟩ := hardForkToLatest_ok h3
  obtain ⟨r', keep, kst, hg', _, _, _, _, rfl⟩ := hardFork_ok hf
  have hr' : r' = { r with proposer := none } := by
    rw [getRa_setRa_self (r := { r with proposer := none }) hX] at hg'; exact (Option.some.inj hg').symm
  subst hr'
  have hY := Fork.afterRevert_getRa_same (keep := keep) (kst := kst) hg'
  have hk2 : getSeq (setRa (setSeq (removeFromNoticeQueue s pq) { pq with bonded := false }) { r with proposer := none }) a = some k := by
    rw [getSeq_congr (setRa_seqs _ _), getSeq_setSeq_ne (by show pq.addr ≠ a; rw [getSeq_addr hpq]; exact fun h => hne h.symm),
      getSeq_congr (removeFromNoticeQueue_seqs s pq).1]
    exact hk
  unfold seqOnHardFork
  rw [getSeq_congr (setSuccessor_seqs _ _ _).1]
  rw [abruptRemoveProposer_none ((getRa_of_ras_eq (s := afterRevert _ _ _ _ _) (s' := optOutAll _ _) rfl _).trans hY) rfl,
    Fork.optOutAll_getSeq, Fork.afterRevert_getSeq, hk2]
  simp [hid]

theorem kick_writes {s s' : St} {a : Addr} (e : kick s a = .ok s') : Writes kickKinds s s' := by
  obtain ⟨k, r, pa, pq, s3, hgk, _, ho, hg, hp, hpq, hne, _, h3, e⟩ := kick_ok e
  have hk3 := kick_kicker hgk hg hp hpq hne h3
  rw [← getSeq_addr hgk] at hk3
  exact (((Writes.one (by decide) (.abrupt r.id)).trans (hardForkToLatest_writes (by decide) h3)).tail (by decide)
    (.sq (.kicker k hk3))).trans (recoverFromSentinel_writes (by decide) e)

theorem beginBlock_writes (s : St) (dt : Nat) : Writes beginKinds s (beginBlock s dt) :=
  beginBlock_ind'' (P := Writes _ s) s dt (.one (by decide) (.aux (.tick dt)))
    (fun _ e _ _ hb => hb.tail (by decide) (.aux (.nqDrop e)))
    (fun _ _ _ _ _ _ hb _ hg => hb.tail (by decide) (.ra (.succ hg)))

theorem handleLivenessEvent_writes (s : St) (ra : Nat) :
    Writes endKinds s (handleLivenessEvent s ra) := by
  rcases handleLivenessEvent_cases s ra with e | ⟨r, s1, r1, _, hs, hg1, e⟩ <;> rw [e]
  · exact .refl
  · refine Writes.tail ?_ (by decide) (.ra (.resched ra hg1))
    rcases slashLiveness_ok hs with ⟨_, rfl⟩ | ⟨a, q, s2, q2, _, hq, hsl, rfl⟩
    · exact .refl
    · exact .one (by decide) (.sq (.slashLiv a hq hsl))

theorem finalizeEntry_go_writes (f : List (Nat × Nat)) (e : QEntry) (l : List Nat) :
    ∀ b, Writes endKinds b (finalizeEntry.go f e b l).1 := by
  induction l with
  | nil => intro b; unfold finalizeEntry.go; exact .one (by decide) (.aux (.qDone e))
  | cons i rest ih =>
    intro b
    unfold finalizeEntry.go
    cases h1 : finalizeOne b f e.ra i with
    | none => exact .one (by decide) (.aux (.qRest e (i :: rest)))
    | some b' => exact (Writes.one (by decide) (.ra (.fin f e.ra i h1))).trans (ih b')

theorem finalizeAll_writes (f : List (Nat × Nat)) (es : List QEntry) :
    ∀ failed b, Writes endKinds b (finalizeAll b f es failed) := by
  induction es with
  | nil => intro failed b; unfold finalizeAll; exact .refl
  | cons e es ih =>
    intro failed b
    unfold finalizeAll
    by_cases hc : failed.contains e.ra = true
    · rw [if_pos hc]; exact ih _ _
    · rw [if_neg hc]; exact (finalizeEntry_go_writes f e e.idx b).trans (ih _ _)

theorem finalizeRollappStates_writes (s : St) (f : List (Nat × Nat)) : Writes endKinds s (finalizeRollappStates s f) := by
  unfold finalizeRollappStates
  by_cases hd : s.h < s.p.dispute
  · rw [if_pos hd]; exact .refl
  · rw [if_neg hd]; exact finalizeAll_writes f _ _ _

theorem endBlock_writes (s : St) (f : List (Nat × Nat)) : Writes endKinds s (endBlock s f) := by
  unfold endBlock checkLiveness
  exact List.foldlRecOn _ _ (finalizeRollappStates_writes s f) (fun b hb e _ => hb.trans (handleLivenessEvent_writes b e.2))

/-- every accepted op is a sequence of elementary writes of the kinds in its footprint -/
theorem apply_writes {s s' : St} {o : Op} (e : apply s o = .ok s') : Writes o.kinds s s' := by
  cases o with
  | createRollapp id owner mb =>
    obtain ⟨hg, rfl⟩ := apply_createRollapp_ok e; exact .one (.head _) (.ra (.newRa id owner mb hg))
  | bridge ra hh =>
    obtain ⟨r, lh, hg, hl, h0, h1, h2, rfl⟩ := apply_bridge_ok e; exact .one (.head _) (.ra (.bridge hh lh hg hl h0 h1 h2))
  | fund a amt => rw [apply_fund_ok e]; exact .one (.head _) (.sq (.fund a amt))
  | createSeq a ra b d => exact createSeq_writes e
  | bondInc a amt d =>
    obtain ⟨q, s1, q1, hg, _, _, hs, rfl⟩ := increaseBond_ok e; exact .one (.head _) (.sq (.toModule a amt hg hs))
  | bondDec a amt =>
    obtain ⟨q, s1, q1, hg, _, hs, rfl⟩ := decreaseBond_ok e; exact .one (.head _) (.sq (.withdraw a amt hg (Or.inl rfl) hs))
  | unbond a => exact unbond_writes e
  | optIn a v => exact optIn_writes e
  | kick a => exact kick_writes e
  | update m => exact updateState_writes e
  | fraud au ra hh rev p rw =>
    obtain ⟨_, _, r, s1, _, _, ⟨rfl, rfl⟩ | ⟨a, rfl, hp⟩, hf⟩ := fraud_ok e
    · exact hardFork_writes (fun _ h => h) hf
    · exact (punish_writes (.head _) hp).trans (hardFork_writes (fun _ h => .tail _ h) hf)
  | obsolete au vs =>
    exact (markObsolete_ind' (P := Writes _ s) e (.one (.head _) (.aux (.obsolete _)))
      (fun _ _ _ hb hf => hb.trans (hardForkToLatest_writes (fun _ h => .tail _ h) hf))).2.2
  | punish au a rw => exact punish_writes (.head _) (punishProposal_ok e).2
  | transferOwner sg ra' no =>
    obtain ⟨r, hg, _, _, hnb, rfl⟩ := transferOwner_ok e; exact .one (.head _) (.ra (.owner no hg hnb))
  | setSeqParams au sp => obtain ⟨_, _, _, rfl⟩ := setSeqParams_ok e; exact .one (.head _) (.aux (.sqp sp))
  | begin_ dt => simp only [apply] at e; cases e; exact beginBlock_writes s dt
  | end_ f => simp only [apply] at e; cases e; exact endBlock_writes s f

-- ---------------------------------------------------------------- height and rollapp parameters

theorem Write.hp {k : Kind} {b b' : St} (w : Write k b b') : b'.p = b.p ∧ b.h ≤ b'.h := by
  cases w with
  | ra w => exact ⟨pp_p w.seqSide.pp, Nat.le_of_eq w.seqSide.h.symm⟩
  | sq w => exact ⟨pp_p w.raSide.pp, Nat.le_of_eq w.raSide.h.symm⟩
  | aux w => exact w.same.2.2
  | abrupt ra =>
    have hc : RoleClosed (fun x => x.p = b.p ∧ x.h = b.h) ra :=
      ⟨fun _ h => h, fun _ h => h, fun _ h => h, fun h => h, fun q h => by unfold removeFromNoticeQueue; split <;> exact h⟩
    have := hc.abruptRemoveProposer ⟨rfl, rfl⟩
    exact ⟨this.1, Nat.le_of_eq this.2.symm⟩

/-- the hub height never decreases and the rollapp parameters never change -/
theorem apply_hp {s s' : St} {o : Op} (e : apply s o = .ok s') : s'.p = s.p ∧ s.h ≤ s'.h :=
  (apply_writes e).rel (R := fun a b => b.p = a.p ∧ a.h ≤ b.h) (fun _ => ⟨rfl, Nat.le_refl _⟩)
    (fun x y => ⟨y.1.trans x.1, Nat.le_trans x.2 y.2⟩) (fun _ => Write.hp)

end DymVerif.Core
