/-
  Lemmas/CoreRolesOut — a marked sequencer (notice started or unbonded) that holds no proposer slot
  never holds one again, and never is a successor.
-/
import DymVerif.Lemmas.CoreRolesMark
namespace DymVerif.Core.Roles

/-- a rollapp that did not exist before the operation has an empty proposer slot after it -/
theorem apply_new_rollapp {s s' : St} {o : Op} {id : Nat} {r' : Rollapp} (h : Roles s)
    (e : apply s o = .ok s') (hn : getRa s id = none) (hr' : getRa s' id = some r') : r'.proposer = none := by
  have h0 : slots s id = none := by unfold slots; rw [hn]; rfl
  have h1 := slots_get hr'
  cases apply_slots h e id with
  | same hc => rw [h0, h1] at hc; cases hc
  | created _ hc | forked hc => rw [h1] at hc; exact (Prod.mk.inj (Option.some.inj hc)).1
  | rotated _ hr | kicked _ hr => rw [hn] at hr; cases hr
  | filled f => obtain ⟨_, ⟨_, hc, _⟩, _⟩ := f; rw [h0] at hc; cases hc
  | chosen hc => rw [h0] at hc; cases hc

/-- a marked sequencer is no rollapp's successor (a successor is bonded and has not started a notice) -/
theorem marked_not_successor {s : St} (h : RolesCore s) {a : Addr} (hm : Marked s a) :
    ∀ r ∈ s.ras, r.successor ≠ some a := by
  intro r hr hs
  obtain ⟨q, hq, hmk⟩ := hm
  have hb := ((h.succ r hr a hs).get hq).1
  rcases hmk with hmk | hmk
  · rw [h.succFresh r hr a hs q hq] at hmk; cases hmk
  · rw [hb] at hmk; cases hmk

/-- marked and holding no proposer slot -/
structure Out (s : St) (a : Addr) : Prop where
  marked : Marked s a
  notProp : ∀ r ∈ s.ras, r.proposer ≠ some a

theorem apply_out {s s' : St} {o : Op} {a : Addr} (h : Roles s) (e : apply s o = .ok s') (ho : Out s a) : Out s' a := by
  have h' := apply_roles h e
  have hm' : Marked s' a := (apply_mono h e).marked ho.marked
  refine ⟨hm', ?_⟩
  intro r' hr' hp'
  have hg' : getRa s' r'.id = some r' := getRa_of_mem h'.core.uniq.ids hr'
  cases hg : getRa s r'.id with
  | none =>
    rw [apply_new_rollapp h e hg hg'] at hp'; cases hp'
  | some r =>
    have hnp : r.proposer ≠ some a := ho.notProp r (getRa_mem hg)
    have hne : r'.proposer ≠ r.proposer := by rw [hp']; exact fun hc => hnp hc.symm
    rcases apply_classify h e hg hg' hne with ⟨_, _, _, _, _, _, _, _, hc⟩ | ⟨_, _, _, _, _, _, _, _, _, _, _, _, _, hc, _⟩ |
        ⟨hc, _⟩ | ⟨_, hc, _⟩
    · rw [hp'] at hc
      exact marked_not_successor h.core ho.marked r (getRa_mem hg) hc.symm
    · rw [hp'] at hc
      exact choose_ne_marked h'.core hm' _ hc.symm
    · rw [hp'] at hc; cases hc
    · rw [hp'] at hc
      exact choose_ne_marked h'.core hm' _ hc.symm

theorem step_out {s : St} {o : Op} {a : Addr} (h : Roles s) (ho : Out s a) : Out (step s o).1 a := by
  unfold step
  split
  · rename_i s' e; exact apply_out h e ho
  · exact ho

theorem runFrom_out {s : St} {a : Addr} (h : Roles s) (ho : Out s a) (ops : List Op) :
    Roles (runFrom s ops) ∧ Out (runFrom s ops) a := by
  unfold runFrom
  apply foldl_inv (fun acc => Roles acc ∧ Out acc a)
  · exact ⟨h, ho⟩
  · intro b o hb; exact ⟨step_roles hb.1, step_out hb.1 hb.2⟩

/-- the state right after a sequencer lost its proposer slot: it is out -/
theorem out_after_removal {s s' : St} {o : Op} {id : Nat} {r : Rollapp} {a : Addr} (h : Roles s)
    (e : apply s o = .ok s') (hg : getRa s id = some r) (hp : r.proposer = some a)
    (hlost : ∀ r', getRa s' id = some r' → r'.proposer ≠ some a) : Out s' a := by
  have h' := apply_roles h e
  have hm : Marked s' a := by
    apply apply_removed_marked h e hg hp
    unfold propOf
    cases hg2 : getRa s' id with
    | none => intro hc; cases hc
    | some r' =>
      intro hc
      simp only [Option.map_some, Option.some.injEq] at hc
      exact hlost r' hg2 hc
  refine ⟨hm, ?_⟩
  intro r' hr' hp'
  -- the sequencer belongs to rollapp `id`, before and after
  obtain ⟨q, hq, _, hqr⟩ := h.core.prop r (getRa_mem hg) a hp
  obtain ⟨q', hq', hqr', _⟩ := apply_mono h e a q hq
  have hqr'' := ((h'.core.prop r' hr' a hp').get hq').2
  have hid : r'.id = id := by rw [← hqr'', hqr', hqr, getRa_id hg]
  have hg' : getRa s' id = some r' := by rw [← hid]; exact getRa_of_mem h'.core.uniq.ids hr'
  exact hlost r' hg' hp'

end DymVerif.Core.Roles
