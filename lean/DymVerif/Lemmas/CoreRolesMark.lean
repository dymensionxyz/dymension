/-
  Lemmas/CoreRolesMark — `apply_slots` read slot by slot: a successor is only ever cleared outside begin block; whoever
  loses the proposer slot is marked for good (a started notice, or unbonded by the removal); every change of a proposer
  slot is classified by the operation that caused it.
-/
import DymVerif.Lemmas.CoreRolesSlots
namespace DymVerif.Core.Roles

/-- every operation other than begin-block leaves every successor as it is or clears it -/
theorem apply_sclr {s s' : St} {o : Op} (h : Roles s) (e : apply s o = .ok s') (hb : ∀ dt, o ≠ .begin_ dt) : SClr s s' := by
  intro id
  rw [succOf_slots, succOf_slots]
  cases apply_slots h e id with
  | same h1 => left; rw [h1]
  | created _ h1 | rotated h1 | kicked h1 | forked h1 => right; rw [h1]; rfl
  | filled f => obtain ⟨_, ⟨x, h0, h1⟩, _⟩ := f; left; rw [h0, h1]; rfl
  | chosen _ _ ho => exact absurd ho (hb _)

/-- **whoever loses the proposer slot is marked**: after an accepted operation under which `a` stops
    being the proposer of a rollapp, `a` has a started notice (rotation) or is unbonded (kick / fork) -/
theorem apply_removed_marked {s s' : St} {o : Op} {id : Nat} {r : Rollapp} {a : Addr} (h : Roles s)
    (e : apply s o = .ok s') (hg : getRa s id = some r) (hp : r.proposer = some a)
    (hne : propOf s' id ≠ some (some a)) : Marked s' a := by
  have hps : propOf s id = some (some a) := by rw [propOf_get hg, hp]
  rw [propOf_slots] at hne
  cases apply_slots h e id with
  | same hc => rw [hc, ← propOf_slots] at hne; exact absurd hps hne
  | created hc => rw [propOf_slots, hc] at hps; cases hps
  | @rotated _ q _ _ hr1 hp1 hq hel =>
    cases hg.symm.trans hr1
    cases hp.symm.trans hp1
    refine (apply_mono h e).marked ⟨q, hq, Or.inl ?_⟩
    unfold noticeElapsed at hel
    cases hn : q.notice with
    | none => rw [hn] at hel; cases hel
    | some _ => rfl
  | kicked _ hr1 hp1 hub =>
    cases hg.symm.trans hr1
    cases hp.symm.trans hp1
    exact hub.marked
  | forked _ hub => exact (hub a hps).marked
  | filled f => obtain ⟨_, ⟨_, hc, _⟩, _⟩ := f; rw [propOf_slots, hc] at hps; cases hps
  | chosen hc hc' => rw [propOf_slots, hc] at hps; rw [hc'] at hne; exact absurd hps hne

theorem apply_classify {s s' : St} {o : Op} {id : Nat} {r r' : Rollapp} (h : Roles s)
    (e : apply s o = .ok s') (hr : getRa s id = some r) (hr' : getRa s' id = some r')
    (hne : r'.proposer ≠ r.proposer) :
    (∃ m q, o = .update m ∧ m.ra = id ∧ m.last = true ∧ r.proposer = some m.sender ∧
        getSeq s m.sender = some q ∧ noticeElapsed q s.t = true ∧ r'.proposer = r.successor) ∨
    (∃ a k pa pq, o = .kick a ∧ getSeq s a = some k ∧ k.bonded = true ∧ k.optedIn = true ∧ k.rollapp = id ∧
        r.proposer = some pa ∧ a ≠ pa ∧ getSeq s pa = some pq ∧ s.sqp.kickThr ≤ pq.dishonor ∧
        r'.proposer = choose s' id ∧ r'.proposer.isSome = true) ∨
    (r'.proposer = none ∧
        ((∃ au hh rev pun rw, o = .fraud au id hh rev pun rw) ∨ (∃ au vs, o = .obsolete au vs))) ∨
    (r.proposer = none ∧ r'.proposer = choose s' id ∧ r'.proposer.isSome = true ∧
        ((∃ a b d, o = .createSeq a id b d) ∨
         (∃ a v q, o = .optIn a v ∧ getSeq s a = some q ∧ q.rollapp = id))) := by
  have h0 := slots_get hr
  have h1 := slots_get hr'
  have fst : ∀ {x : Option Addr × Option Addr}, slots s' id = some x → r'.proposer = x.1 := fun hx =>
    congrArg Prod.fst (Option.some.inj (h1.symm.trans hx))
  cases apply_slots h e id with
  | same hc => exact absurd (fst (hc.trans h0)) hne
  | created hc => rw [h0] at hc; cases hc
  | @rotated m q _ pc hr1 hp1 hq hel ho hm hl =>
    cases hr.symm.trans hr1
    exact Or.inl ⟨m, q, ho, hm, hl, hp1, hq, hel, fst pc⟩
  | @kicked a k _ pa pq pc hr1 hp1 _ pi ho hk hkb hko hkr hne' hpq hthr =>
    cases hr.symm.trans hr1
    exact Or.inr (Or.inl ⟨a, k, pa, pq, ho, hk, hkb, hko, hkr, hp1, hne', hpq, hthr, fst pc, by rw [fst pc]; exact pi⟩)
  | forked pc _ hop => exact Or.inr (Or.inr (Or.inl ⟨fst pc, hop⟩))
  | filled f hop =>
    obtain ⟨_, ⟨x, hx, pc⟩, pi⟩ := f
    have hn : r.proposer = none := congrArg Prod.fst (Option.some.inj (h0.symm.trans hx))
    exact Or.inr (Or.inr (Or.inr ⟨hn, fst pc, by rw [fst pc]; exact pi, hop⟩))
  | @chosen _ _ _ _ p _ hx pc =>
    exact absurd ((fst pc).trans (show p = r.proposer from congrArg Prod.fst (Option.some.inj (hx.symm.trans h0)))) hne

end DymVerif.Core.Roles
