/-
  Lemmas/IncentBlocks — what can be proved about the streamer / incentives block functions of M-Incent
  never failing (feeds property C11, "block processing never fails"), after fixes D1, D2 (D3 not applied):
    * `incDistribute_ok`   x/incentives `Keeper.Distribute` succeeds when no recipient is a blocked address
                            and every rollapp gauge's rollapp exists;
    * `streamer_endBlock_ok`  the streamer EndBlock succeeds in every state satisfying the invariant
                            (stream bound, gauge invariant, streamer solvency) with no blocked recipients;
    * `streamer_endBlock_ok_reachable`  … hence after every admissible history;
    * `incentives_epochEnd_ok`  the incentives epoch hook does not fail under the same conditions;
    * `endblock_blocked_owner_counterexample`  F4: a rollapp owner that is a blocked module account makes
                            the streamer EndBlock return an error (the block fails).
  The streamer epoch hooks (`AfterEpochEnd`, `BeforeEpochStart`) can additionally fail on inconsistent
  reference-list keys; their failure is swallowed by the epochs module and does not fail the block — no
  theorem about them here.
-/
import DymVerif.Lemmas.IncentStatic
namespace DymVerif.Incent
open DymVerif Coins

/-- no lock owner and no rollapp owner is an address the bank refuses to credit -/
def NoBlocked (s : State) : Prop :=
  (∀ l ∈ s.locks, blocked l.owner = false) ∧ (∀ ra ∈ s.rollapps, blocked ra.owner = false)

/-- every rollapp gauge refers to a registered rollapp -/
def RollOK (s : State) : Prop :=
  ∀ k ∈ s.gauges.map (·.kind), ∀ r, k = .rollapp r → ∃ ra, s.rollapps[r]? = some ra ∧ ra.exists_ = true

theorem calcGauge_ok (s : State) (g : Gauge) (tr : Tracker) (hb : ∀ i, amt g.distributed i ≤ amt g.coins i)
    (hr : ∀ r, g.kind = .rollapp r → ∃ ra, s.rollapps[r]? = some ra ∧ ra.exists_ = true) :
    ∃ tr' c, calcGauge s g tr = .ok tr' c := by
  have hsub : ∃ rem, Coins.sub? g.coins g.distributed = some rem := by
    unfold Coins.sub?
    rw [if_pos ((le_iff _ _).2 hb)]
    exact ⟨_, rfl⟩
  obtain ⟨rem, hrem⟩ := hsub
  unfold calcGauge
  cases hk : g.kind with
  | asset d dur =>
    -- once the subtraction succeeds no branch of `calculateAssetGaugeRewards` fails
    have hsome : ∃ p, calcAsset g (gaugeLocks s g) tr = some p := by
      unfold calcAsset
      rw [hrem]
      by_cases h1 : lockSum (gaugeLocks s g) = 0
      · rw [if_pos h1]; exact ⟨_, rfl⟩
      rw [if_neg h1]
      dsimp only
      by_cases h2 : remainEpochs g = 0
      · rw [if_pos h2]; exact ⟨_, rfl⟩
      rw [if_neg h2]
      by_cases h3 : rem.isZero = true
      · rw [if_pos h3]; exact ⟨_, rfl⟩
      · rw [if_neg h3]; exact ⟨_, rfl⟩
    obtain ⟨⟨t2, c⟩, hp⟩ := hsome
    dsimp only
    rw [hp]
    exact ⟨_, _, rfl⟩
  | rollapp r =>
    obtain ⟨ra, h1, h2⟩ := hr r hk
    dsimp only
    unfold calcRollapp
    rw [h1]
    simp only [h2, Bool.not_true, Bool.false_eq_true, if_false, hrem]
    by_cases h3 : (!ra.launched) = true
    · rw [if_pos h3]; exact ⟨_, _, rfl⟩
    rw [if_neg h3]
    by_cases h4 : rem.isZero = true
    · rw [if_pos h4]; exact ⟨_, _, rfl⟩
    · rw [if_neg h4]; exact ⟨_, _, rfl⟩

theorem incLoop_ok (ee : Bool) : ∀ (gs : List Gauge) (s : State) (tr : Tracker),
    IdsOK s.gauges → Bounded s.gauges → (gs.map (·.id)).Nodup → (∀ g ∈ gs, Coh s.gauges g) →
    (∀ g ∈ gs, ∀ r, g.kind = .rollapp r → ∃ ra, s.rollapps[r]? = some ra ∧ ra.exists_ = true) →
    ∃ res, incLoop ee gs s tr = .ok res := by
  intro gs
  induction gs with
  | nil => intro s tr _ _ _ _ _; exact ⟨_, rfl⟩
  | cons g rest ih =>
    intro s tr hid hb hnd hcoh hroll
    have hnd0 : (g.id :: rest.map (·.id)).Nodup := hnd
    have hnd' : (rest.map (·.id)).Nodup := (List.nodup_cons.1 hnd0).2
    have hgnot : ∀ x ∈ rest, x.id ≠ g.id := by
      intro x hx he
      exact (List.nodup_cons.1 hnd0).1 (by rw [← he]; exact List.mem_map_of_mem (f := (·.id)) hx)
    obtain ⟨g0, hg0, hd, hkind, hcoins⟩ := hcoh g List.mem_cons_self
    obtain ⟨hid1, hk, hget, hg0id, hg0mem⟩ := getG_some hid hg0
    have hbg : ∀ i, amt g.distributed i ≤ amt g.coins i := by
      intro i; rw [hd]; exact Nat.le_trans (hb g0 hg0mem i) (hcoins i)
    obtain ⟨t2, c, hc⟩ := calcGauge_ok s g tr hbg (hroll g List.mem_cons_self)
    obtain ⟨c1, _, _⟩ := calcGauge_spec s g tr t2 c hc
    unfold incLoop
    rw [hc]
    simp only
    by_cases hz : c.isZero = true
    · rw [if_pos hz]
      exact ih s t2 hid hb hnd' (fun x hx => hcoh x (List.mem_cons_of_mem _ hx)) (fun x hx => hroll x (List.mem_cons_of_mem _ hx))
    · rw [if_neg hz]
      have hbound : ∀ i, amt (Coins.add g.distributed c) i ≤ amt g.coins i := by
        intro i
        rw [amt_add]
        rcases c1 i with h1 | h1
        · omega
        · have := hbg i; omega
      have hs1 : setGauge s { g with filled := if ee then g.filled + 1 else g.filled, distributed := Coins.add g.distributed c }
          = { s with gauges := s.gauges.set (g.id - 1) { g with filled := if ee then g.filled + 1 else g.filled, distributed := Coins.add g.distributed c } } := rfl
      apply ih
      · rw [hs1]; exact idsOK_set hid _ _ (by show g.id = g.id - 1 + 1; omega)
      · rw [hs1]; exact bounded_set hb _ _ hbound
      · exact hnd'
      · intro x hx
        obtain ⟨x0, hx0, r⟩ := hcoh x (List.mem_cons_of_mem _ hx)
        refine ⟨x0, ?_, r⟩
        rw [hs1]; simp only
        rw [getG_set_ne _ _ _ _ (by have := hgnot x hx; omega)]
        exact hx0
      · intro x hx; rw [hs1]; exact hroll x (List.mem_cons_of_mem _ hx)

theorem payAll_ok : ∀ (tr : Tracker) (b : Bank), (∀ a ∈ tr.map (·.1), blocked a = false) →
    (∀ i, trSum tr i ≤ amt (b.get incAddr) i) → ∃ b', payAll tr b = some b' := by
  intro tr
  induction tr with
  | nil => intro b _ _; exact ⟨b, rfl⟩
  | cons p rest ih =>
    intro b hbl hsum
    obtain ⟨o, c⟩ := p
    unfold payAll
    have hbo : blocked o = false := hbl o (by simp)
    rw [hbo]
    simp only [Bool.false_eq_true, if_false]
    have hne : incAddr ≠ o := by
      intro he
      have : blocked incAddr = true := by decide
      rw [he] at this; rw [this] at hbo; simp at hbo
    have hle : Coins.le c (b.get incAddr) = true := by
      apply (le_iff _ _).2
      intro i
      have := hsum i
      simp only [trSum, List.map_cons, List.sum_cons] at this
      omega
    cases hs : b.send incAddr o c with
    | none =>
      unfold Bank.send at hs
      rw [if_pos hle] at hs
      simp at hs
    | some b1 =>
      simp only
      obtain ⟨_, s2⟩ := Bank.send_some hs hne
      apply ih
      · intro a ha; exact hbl a (by simp only [List.map_cons, List.mem_cons]; exact Or.inr ha)
      · intro i
        have h2 := s2 incAddr i
        simp only [if_true] at h2
        have := hsum i
        simp only [trSum, List.map_cons, List.sum_cons] at this
        rw [h2]
        unfold trSum
        omega

/-- every address `LegitFor` allows is a lock owner or a rollapp owner -/
theorem legit_not_blocked (s : State) (hnb : NoBlocked s) (k : GKind) (a : Nat) (h : LegitFor s.locks s.rollapps k a) : blocked a = false := by
  unfold LegitFor at h
  cases k with
  | asset d dur =>
    obtain ⟨l, hl, ho, _⟩ := h
    rw [← ho]; exact hnb.1 l hl
  | rollapp r =>
    obtain ⟨ra, hr, _, _, ho⟩ := h
    rw [← ho]; exact hnb.2 ra (List.mem_of_getElem? hr)

/-- x/incentives `Keeper.Distribute` does not fail -/
theorem incDistribute_ok (s : State) (gs : List Gauge) (ee : Bool)
    (hid : IdsOK s.gauges) (hb : Bounded s.gauges) (hnd : (gs.map (·.id)).Nodup) (hcoh : ∀ g ∈ gs, Coh s.gauges g)
    (hsol : ∀ i, owed s.gauges i + extras s.gauges gs i ≤ amt (s.bank.get incAddr) i)
    (hroll : ∀ g ∈ gs, ∀ r, g.kind = .rollapp r → ∃ ra, s.rollapps[r]? = some ra ∧ ra.exists_ = true)
    (hnb : NoBlocked s) : ∃ s', incDistribute s gs ee = .ok s' := by
  obtain ⟨⟨s1, tr⟩, hl⟩ := incLoop_ok ee gs s [] hid hb hnd hcoh hroll
  obtain ⟨_, _, r3, _, r5, r6⟩ := incLoop_spec ee gs s [] s1 tr hid hb hnd hcoh hl
  unfold incDistribute
  rw [hl]
  simp only
  have hbank : s1.bank = s.bank := by rw [r3]
  obtain ⟨b', hp⟩ := payAll_ok tr s1.bank
    (by
      intro a ha
      rcases r6 a ha with h1 | ⟨g, _, hl⟩
      · simp at h1
      · exact legit_not_blocked s hnb g.kind a hl)
    (by
      intro i
      have := r5 i
      have h0 := hsol i
      have hnil : trSum ([] : Tracker) i = 0 := by simp [trSum]
      rw [hbank]; omega)
  rw [hp]
  exact ⟨_, rfl⟩


theorem saveStreams_false_ok : ∀ (l : List Stream) (s : State), ∃ s', saveStreams false l s = .ok s' := by
  intro l
  induction l with
  | nil => intro s; exact ⟨s, rfl⟩
  | cons st rest ih =>
    intro s
    unfold saveStreams
    simp only [Bool.false_eq_true, if_false]
    exact ih _

theorem sum_sortById (f : Stream → Nat) (l : List Stream) : ((sortById l).map f).sum = (l.map f).sum :=
  ((sortById_perm l).map f).sum_nat

theorem sum_le_sum_map {α : Type} (f g : α → Nat) (l : List α) (h : ∀ x ∈ l, f x ≤ g x) : (l.map f).sum ≤ (l.map g).sum := by
  induction l with
  | nil => simp
  | cons x xs ih =>
    have := h x List.mem_cons_self
    have := ih (fun y hy => h y (List.mem_cons_of_mem _ hy))
    simp only [List.map_cons, List.sum_cons]; omega

/-- **the streamer EndBlock does not fail** in a state satisfying the invariant in which the streamer
    account covers its open streams, every rollapp gauge's rollapp exists and no recipient is blocked -/
theorem streamer_endBlock_ok (s : State) (hi : Inv s) (hsolv : Solv s) (hroll : RollOK s) (hnb : NoBlocked s) :
    ∃ s', streamerEndBlock s = .ok s' := by
  unfold streamerEndBlock strDistribute
  have hin0 := activeStreams_good s hi.struct
  have hin := sortById_good s (activeStreams s) hin0
  have hgc0 := goodCache_sortById hin0 hi.active_static
  have hci := strPass_CI s [0, 1, 2] (activeStreams s) s.maxIter hi.ginv.ids
  have hsci := strPass_SCI2 s [0, 1, 2] (activeStreams s) s.maxIter hin
  unfold strPass at hci hsci
  have hwin := ptrLoop_window s s.maxIter (sortByDuration [0, 1, 2]) 0 ⟨sortById (activeStreams s), [], []⟩ s.ptrs hgc0
  generalize ptrLoop s s.maxIter (sortByDuration [0, 1, 2]) 0 ⟨sortById (activeStreams s), [], []⟩ s.ptrs = res at hci hsci hwin ⊢
  obtain ⟨tot, c, ps⟩ := res
  dsimp only at hci hsci hwin ⊢
  obtain ⟨ci1, ci2, ci3⟩ := hci
  obtain ⟨⟨sc1, sc2, sc3⟩, sc4⟩ := hsci
  obtain ⟨wg, wq⟩ := hwin
  have hne : streamerAddr ≠ incAddr := by decide
  -- what is about to be transferred is covered by the streamer account
  have hcover : ∀ i, amt c.distributed i ≤ amt (s.bank.get streamerAddr) i := by
    intro i
    rw [← sc3 i]
    unfold sExtras
    have h1 : (c.streams.map (sExtra s.streams · i)).sum ≤ (c.streams.map (fun v => termS s.streams v.id i)).sum := by
      apply sum_le_sum_map
      intro v hv
      obtain ⟨k, hk0, hslot, hslot0, hget0, hact0, _⟩ := pass_slot hin wg hv
      have hq := wq k hk0 i
      have hsb := hi.sb _ (mem_of_getS hget0) i
      unfold SBst at hsb; rw [if_pos hact0] at hsb
      unfold Qv distAt at hq
      rw [hslot, hslot0] at hq
      unfold sExtra storedDist termS
      rw [hget0]
      simp only
      unfold ptrOfEpoch at hsb
      omega
    -- the cache holds the ids of the active streams, in another order
    have byId : ∀ l : List Stream, l.map (fun v => termS s.streams v.id i) = (l.map (·.id)).map (termS s.streams · i) :=
      fun l => by rw [List.map_map]; rfl
    have h2 : (c.streams.map (fun v => termS s.streams v.id i)).sum = (s.active.ids.map (termS s.streams · i)).sum := by
      rw [byId, sc4, ← byId, sum_sortById, byId, activeStreams_ids s hi.struct]
    have h4 : (s.active.ids.map (termS s.streams · i)).sum ≤ owedL s i := by
      unfold owedL openIds
      simp only [List.map_append, List.sum_append]
      omega
    have := hsolv i
    omega
  -- the bank step
  have hbank : ∃ b, (if c.distributed.isZero = true then some s.bank else s.bank.send streamerAddr incAddr c.distributed) = some b ∧
      ∀ i, amt (b.get incAddr) i = amt (s.bank.get incAddr) i + amt c.distributed i := by
    by_cases hz : c.distributed.isZero = true
    · rw [if_pos hz]
      exact ⟨s.bank, rfl, fun i => by have := (isZero_iff _).1 hz i; omega⟩
    · rw [if_neg hz]
      cases hsend : s.bank.send streamerAddr incAddr c.distributed with
      | none =>
        unfold Bank.send at hsend
        rw [if_pos ((le_iff _ _).2 hcover)] at hsend
        simp at hsend
      | some b =>
        obtain ⟨_, sb⟩ := Bank.send_some hsend hne
        refine ⟨b, rfl, fun i => ?_⟩
        have := sb incAddr i
        rw [if_neg (fun x => hne x.symm), if_pos rfl] at this
        exact this
  obtain ⟨b, hb0, hb1⟩ := hbank
  rw [hb0]
  simp only
  -- the incentives side
  have hrollc : ∀ g ∈ c.gauges, ∀ r, g.kind = .rollapp r → ∃ ra, s.rollapps[r]? = some ra ∧ ra.exists_ = true := by
    intro g hg r hk
    obtain ⟨g0, a1, _, a3, _⟩ := ci2 g hg
    obtain ⟨_, _, _, _, hmem⟩ := getG_some hi.ginv.ids a1
    exact hroll g0.kind (List.mem_map_of_mem (f := (·.kind)) hmem) r (by rw [← a3]; exact hk)
  obtain ⟨s2, hinc⟩ := incDistribute_ok { s with ptrs := ps, bank := b } c.gauges false hi.ginv.ids hi.ginv.bounded ci1 ci2
    (by intro i; simp only; rw [ci3 i, hb1 i]; have := hi.ginv.solvent i; omega) hrollc hnb
  rw [hinc]
  simp only
  exact saveStreams_false_ok _ _


/-! ### along every admissible history -/

theorem setRollapp_get (l : List Rollapp) (r : Nat) (x : Rollapp) (r' : Nat) (ra : Rollapp) (h : l[r']? = some ra) (hra : ra.exists_ = true)
    (hx : x.exists_ = true) : ∃ ra', (setRollapp l r x)[r']? = some ra' ∧ ra'.exists_ = true := by
  obtain ⟨hlt, hget⟩ := List.getElem?_eq_some_iff.1 h
  unfold setRollapp
  by_cases hr : r < l.length
  · rw [if_pos hr]
    by_cases he : r = r'
    · subst he; exact ⟨x, by simp [hr], hx⟩
    · rw [List.getElem?_set_ne he]; exact ⟨ra, h, hra⟩
  · rw [if_neg hr]
    refine ⟨ra, ?_, hra⟩
    rw [List.append_assoc, List.getElem?_append_left hlt]; exact h

theorem RollOK_congr {s s' : State} (h : RollOK s) (hk : s'.gauges.map (·.kind) = s.gauges.map (·.kind))
    (hr : s'.rollapps = s.rollapps) : RollOK s' := by
  unfold RollOK; rw [hk, hr]; exact h

theorem RollOK_of_pay {s s' : State} (h : RollOK s) (hp : Pay s s') : RollOK s' := RollOK_congr h hp.kinds hp.rollapps

theorem RollOK_of_same {s s' : State} (h : RollOK s) (hp : Same s s') : RollOK s' := RollOK_of_pay h hp.pay

theorem RollOK_added {s : State} (h : RollOK s) (b : Bank) (gs : List Gauge)
    (hgs : ∀ g ∈ gs, ∀ r, g.kind = .rollapp r → ∃ ra, s.rollapps[r]? = some ra ∧ ra.exists_ = true) :
    RollOK { s with bank := b, gauges := s.gauges ++ gs } := by
  intro k hk r hkr
  obtain ⟨g, hg, rfl⟩ := List.mem_map.1 hk
  rcases List.mem_append.1 hg with h1 | h1
  · exact h _ (List.mem_map_of_mem h1) r hkr
  · exact hgs g h1 r hkr

theorem step_rollok (s : State) (op : Op) (hg : GInv s) (h : RollOK s) : RollOK (step s op).2 := by
  have hs := step_shape s op
  generalize (step s op).2 = s' at hs ⊢
  cases hs with
  | inert => exact h
  | locks ls => exact h
  | rollapp r o l =>
    intro k hk r' hkr
    obtain ⟨ra, h1, h2⟩ := h k hk r' hkr
    exact setRollapp_get s.rollapps r ⟨true, o, l⟩ r' ra h1 h2 rfl
  | begin dt => exact RollOK_of_pay h (beginBlock_spec s dt hg).2
  | endOk _ he => exact RollOK_of_pay h (strDistribute_spec _ _ _ _ _ _ hg he).2
  | gauges b gs k => exact RollOK_added h b gs k
  | topUp gid g b c hgg =>
    exact RollOK_congr h (map_setGauge (·.kind) (s := { s with bank := b }) ((agrees_stored _ hg.ids hgg).congr _ rfl)) rfl
  | createStream sp c rs st e n => exact RollOK_of_same h (createStream_same s sp c rs st e n)
  | terminateStream id => exact RollOK_of_same h (terminateStream_same s id)
  | retarget _ hsame => exact RollOK_of_same h hsame

theorem run_rollok : ∀ (ops : List Op) (s : State), GInv s → RollOK s → (∀ op ∈ ops, op.wf) → RollOK (run s ops) := by
  intro ops
  induction ops with
  | nil => intro s _ h _; exact h
  | cons op rest ih =>
    intro s hg h hw
    unfold run
    exact ih _ (step_ginv s op hg (hw op List.mem_cons_self)) (step_rollok s op hg h) (fun o ho => hw o (List.mem_cons_of_mem _ ho))

theorem init_rollok (now mi : Nat) : RollOK (init now mi) := by
  intro k hk; simp [init] at hk

/-- **after every admissible history** (no re-targeting, module accounts do not sign, fewer than 2^64-1
    streams) in whose final state no lock owner or rollapp owner is a blocked address, the streamer
    EndBlock succeeds: block processing does not fail in x/streamer -/
theorem streamer_endBlock_ok_reachable (now mi : Nat) (ops : List Op)
    (hw : ∀ op ∈ ops, op.wf ∧ op.wfS ∧ op.noRetarget)
    (hlen : (run (init now mi) ops).streams.length < maxU64) (hnb : NoBlocked (run (init now mi) ops)) :
    ∃ s', streamerEndBlock (run (init now mi) ops) = .ok s' := by
  have hi := run_inv ops _ (init_inv now mi) hw hlen
  have hsolv := run_solvent ops _ (init_sstruct now mi) (init_solv now mi)
    (fun op ho => ⟨(hw op ho).1, (hw op ho).2.1⟩) (SB_noOver _ hi.sb)
  have hroll := run_rollok ops _ (init_ginv now mi) (init_rollok now mi) (fun op ho => (hw op ho).1)
  exact streamer_endBlock_ok _ hi hsolv hroll hnb

/-- **the incentives epoch hook does not fail** (x/incentives `AfterEpochEnd`) when every rollapp gauge's
    rollapp exists and no recipient is blocked -/
theorem incentives_epochEnd_ok (s : State) (e : Nat) (hg : GInv s) (hroll : RollOK s) (hnb : NoBlocked s) :
    ∃ s', incAfterEpochEnd s e = .ok s' := by
  unfold incAfterEpochEnd
  split
  · exact ⟨s, rfl⟩
  · simp only
    generalize hf : (fun g : Gauge => if (g.status == GStatus.upcoming && decide (g.start ≤ s.now)) = true then { g with status := GStatus.active } else g) = f
    have hfa : ∀ g, f g = g ∨ f g = { g with status := .active } := by
      intro g; rw [← hf]; dsimp only; split
      · exact Or.inr rfl
      · exact Or.inl rfl
    obtain ⟨g1, p1⟩ := hg.activated hfa
    obtain ⟨a1, a2, a3⟩ := activeGauges_input g1.ids (fun x => x.status == GStatus.active)
    obtain ⟨s2, h2⟩ := incDistribute_ok { s with gauges := s.gauges.map f } _ true g1.ids g1.bounded a1 a2
      (fun i => by
        show owed (s.gauges.map f) i + extras (s.gauges.map f) _ i ≤ _
        rw [a3 i]; exact g1.solvent i)
      (fun g hgm r hk => RollOK_of_pay hroll p1 g.kind (List.mem_map_of_mem (List.mem_filter.1 hgm).1) r hk)
      hnb
    rw [h2]
    exact ⟨_, rfl⟩

/-- F4: the owner of a launched rollapp with a gauge is a blocked module account (address 102); a stream
    feeds the gauge; the payout to the owner fails and the streamer EndBlock returns an error — the
    block fails.  (`MsgTransferOwnership` accepted such an owner before fix F4.) -/
def blockedOwnerHistory : List Op :=
  [.begin 1, .end_, .rollapp 0 2 true, .rollappGauge 0, .fund streamerAddr [9000],
   .createStream false [9000] [⟨1, 1⟩] 101 1 3, .rollapp 0 102 true, .begin 3601, .end_, .begin 7201]

theorem endblock_blocked_owner_counterexample :
    (match streamerEndBlock (run (init 100 500) blockedOwnerHistory) with | .error .err => true | _ => false) = true ∧
    (step (run (init 100 500) blockedOwnerHistory) .end_).2.halted = true ∧
    (∀ op ∈ blockedOwnerHistory, op.wf ∧ op.wfS ∧ op.noRetarget) ∧
    ¬ NoBlocked (run (init 100 500) blockedOwnerHistory) := by
  refine ⟨by decide +kernel, by decide +kernel, by decide +kernel, ?_⟩
  intro h
  have := h.2 ⟨true, 102, true⟩ (by decide +kernel)
  revert this; decide

end DymVerif.Incent
