/-
  Lemmas/DymNSLit — records stored under the literal host chain-id (`hostLit`) exist only after a
  chain-id migration whose target is the host chain-id: every history without such a migration (and
  without the op argument `hostLit`, which is the id of no text) keeps all records free of it.
-/
import DymVerif.Lemmas.DymNSCfg
namespace DymVerif.DymNS
open AMap

/-- no record of any name is stored under the literal host chain-id -/
def NoLit (s : State) : Prop := ∀ n d, getName s n = some d → ∀ c ∈ d.configs, c.chain ≠ hostLit

/-- the operations that can store the literal host chain-id: a chain-id migration onto the host
    chain-id (text id 0; `hostLit` itself is not the id of a text), and an update-resolve-address
    whose chain argument is `hostLit` (no message corresponds to it) -/
def IntroducesLit : Op → Prop
  | .updateResolve _ _ ch _ _ _ => ch = hostLit
  | .migrateChainIds m => ∃ r ∈ m, r.2 = 0 ∨ r.2 = hostLit
  | _ => False

theorem AMap.mem_of_get {κ ν : Type} [DecidableEq κ] {m : AMap κ ν} {k : κ} {v : ν} (h : AMap.get m k = some v) :
    (k, v) ∈ m := by
  induction m with
  | nil => cases h
  | cons e m ih =>
    obtain ⟨k0, v0⟩ := e
    by_cases hk : k = k0
    · subst hk
      simp only [AMap.get, if_true, Option.some.injEq] at h
      subst h; simp
    · simp only [AMap.get, hk, if_false] at h
      exact List.mem_cons_of_mem _ (ih h)

theorem migConfig_noLit {m : List (Chain × Chain)} (hm : ¬ ∃ r ∈ m, r.2 = 0 ∨ r.2 = hostLit) {c : Config}
    (hc : c.chain ≠ hostLit) : (migConfig m c).chain ≠ hostLit := by
  unfold migConfig
  split
  · exact hc
  · split
    · rename_i new hg
      have hmem := AMap.mem_of_get hg
      intro e
      apply hm
      refine ⟨_, hmem, ?_⟩
      simp only [litChain] at e
      split at e
      · rename_i h0; exact Or.inl h0
      · exact Or.inr e
    · exact hc

theorem start_noLit (p : Params) (t : Nat) : NoLit (State.start p t) :=
  fun n d hd => by rw [start_getName] at hd; cases hd

theorem exec_noLit {s s' : State} {op : Op} (hI : Inv s) (hN : NoLit s) (hop : ¬ IntroducesLit op)
    (h : exec s op = .ok s') : NoLit s' := by
  intro n d' hd'
  cases hn : getName s n with
  | none => rw [name_created hI h hn hd']; intro c hc; cases hc
  | some d =>
    have hd0 := hN n d hn
    obtain ⟨d'', hd'', hc⟩ := name_change hI h hn
    rw [hd'] at hd''; injection hd'' with hd''; subst hd''
    rcases hc with rfl | hc
    · exact hd0
    · cases hc with
      | extend dur pay c he => exact hd0
      | renew dur pay c he => intro c hc; cases hc
      | takeOver a dur pay c hna he hg => intro c hc; cases hc
      | transfer b he hso hb => intro c hc; cases hc
      | setController c he => exact hd0
      | updateResolve ch e p v cfgs he hcf =>
        rcases hcf with ⟨x, rfl, _⟩ | rfl
        · intro c hc
          rcases mem_upsertConfig hc with rfl | hc
          · exact hop
          · exact hd0 c hc
        · intro c hc
          exact hd0 c ((removeConfig_sublist _ _ _).subset hc)
      | updateDetails c cl cfgs contact he hcf =>
        rcases hcf with rfl | rfl
        · intro c hc; cases hc
        · exact hd0
      | purchase a offer so hso hsel hse he hna => intro c hc; cases hc
      | complete a so b hso hsel hb he ha => intro c hc; cases hc
      | accept pfx id m bo hg hna hn he hso hb => intro c hc; cases hc
      | migrate m he hnd =>
        intro c hc
        obtain ⟨c0, hc0, rfl⟩ := List.mem_map.mp hc
        exact migConfig_noLit hop (hd0 c0 hc0)

theorem run_inv_noLit {s : State} (ops : List Op) (hI : Inv s) (hN : NoLit s) (hops : ∀ op ∈ ops, ¬ IntroducesLit op) :
    NoLit (run s ops) :=
  run_induct (fun hI hN hop h => exec_noLit hI hN hop h) ops hI hN hops

end DymVerif.DymNS
