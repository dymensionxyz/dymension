/-
  Lemmas/DymNSIdx — the three Dym-Name reverse indexes are exactly the image of the records:
  preservation by the Before/After hook pairs.
-/
import DymVerif.Lemmas.DymNSSpec
namespace DymVerif.DymNS
open AMap

/-- owned-by(a) = {n | names[n].owner = a}; configured-address(x) = {n | x is a value of names[n]};
    fallback(b) = {n | b is the account of names[n]'s default record} -/
structure IdxOK (ns : NameStore) : Prop where
  own : ∀ a n, n ∈ ns.ownIdx.lookup a ↔ ∃ d, ns.get n = some d ∧ d.owner = a
  cfg : ∀ x n, n ∈ ns.cfgIdx.lookup x ↔ ∃ d, ns.get n = some d ∧ x ∈ d.cfgAddrs
  fb : ∀ b n, n ∈ ns.fbIdx.lookup b ↔ ∃ d, ns.get n = some d ∧ b ∈ d.fbAddrs

/-- the key lists of the three indexes -/
def ownKeys (d : DymName) : List Acct := [d.owner]

theorem mem_ownKeys {a : Acct} {d : DymName} : a ∈ ownKeys d ↔ d.owner = a := by
  simp [ownKeys, eq_comm]

theorem idxOK_iff (ns : NameStore) :
    IdxOK ns ↔ Idx.Images ns.ownIdx ns.names ownKeys ∧ Idx.Images ns.cfgIdx ns.names DymName.cfgAddrs ∧
      Idx.Images ns.fbIdx ns.names DymName.fbAddrs :=
  ⟨fun h => ⟨fun a n => by simpa only [mem_ownKeys, NameStore.get] using h.own a n, h.cfg, h.fb⟩,
   fun h => ⟨fun a n => by simpa only [mem_ownKeys, NameStore.get] using h.1 a n, h.2.1, h.2.2⟩⟩

/-- consistent for every name but `n`, which has no index entry at all -/
def IdxOKBut (ns : NameStore) (n : Name) : Prop :=
  Idx.ImagesBut ns.ownIdx ns.names ownKeys n ∧ Idx.ImagesBut ns.cfgIdx ns.names DymName.cfgAddrs n ∧
    Idx.ImagesBut ns.fbIdx ns.names DymName.fbAddrs n

namespace NameStore

theorem idxOKBut_of_none {ns : NameStore} {n : Name} (h : IdxOK ns) (hn : ns.get n = none) : IdxOKBut ns n :=
  have ⟨a, b, c⟩ := (idxOK_iff ns).mp h
  ⟨a.but_of_none hn, b.but_of_none hn, c.but_of_none hn⟩

theorem befores_eq (ns : NameStore) (n : Name) (d : DymName) (hd : ns.get n = some d) :
    (ns.beforeOwner n).beforeConfig n =
      { names := ns.names, ownIdx := ns.ownIdx.remove d.owner n,
        cfgIdx := d.cfgAddrs.foldl (fun i a => i.remove a n) ns.cfgIdx,
        fbIdx := d.fbAddrs.foldl (fun i a => i.remove a n) ns.fbIdx } := by
  have h1 : ns.beforeOwner n = { ns with ownIdx := ns.ownIdx.remove d.owner n } := by
    unfold beforeOwner; simp only [hd]
  have h2 : (ns.beforeOwner n).get n = some d := by rw [get_beforeOwner, hd]
  unfold beforeConfig
  simp only [h2]
  rw [h1]

/-- after both Before hooks the name has no index entries left -/
theorem idxOKBut_befores {ns : NameStore} (n : Name) (h : IdxOK ns) :
    IdxOKBut ((ns.beforeOwner n).beforeConfig n) n := by
  cases hd : ns.get n with
  | none =>
    have : (ns.beforeOwner n).beforeConfig n = ns := by
      unfold beforeOwner; simp only [hd]; unfold beforeConfig; simp only [hd]
    rw [this]; exact idxOKBut_of_none h hd
  | some d =>
    rw [befores_eq ns n d hd]
    have ⟨a, b, c⟩ := (idxOK_iff ns).mp h
    exact ⟨a.removeAll hd, b.removeAll hd, c.removeAll hd⟩

/-- writing the record and running both After hooks restores consistency -/
theorem idxOK_setAfterBothT {ns : NameStore} {n : Name} (d : DymName) (h : IdxOKBut ns n) :
    IdxOK (ns.setAfterBothT n d) :=
  (idxOK_iff _).mpr ⟨h.1.addAll d, h.2.1.addAll d, h.2.2.addAll d⟩

theorem idxOK_delete {ns : NameStore} (n : Name) (h : IdxOK ns) : IdxOK (ns.delete n) :=
  have hb := idxOKBut_befores n h
  (idxOK_iff _).mpr ⟨hb.1.del, hb.2.1.del, hb.2.2.del⟩

/-- a record change that keeps owner and configs leaves the indexes consistent -/
theorem idxOK_set_same {ns : NameStore} {n : Name} {d0 d : DymName} (h : IdxOK ns) (h0 : ns.get n = some d0)
    (ho : d.owner = d0.owner) (hc : d.configs = d0.configs) : IdxOK (ns.set n d) := by
  have hca : d.cfgAddrs = d0.cfgAddrs := by simp [DymName.cfgAddrs, DymName.revConfigs, ho, hc]
  have hfa : d.fbAddrs = d0.fbAddrs := by simp [DymName.fbAddrs, DymName.revConfigs, ho, hc]
  have ⟨a, b, c⟩ := (idxOK_iff ns).mp h
  exact (idxOK_iff _).mpr ⟨a.set_same h0 (by rw [ownKeys, ho]; rfl), b.set_same h0 hca, c.set_same h0 hfa⟩

/-- a config change (owner kept) wrapped in the Before/After config hooks -/
theorem idxOK_setConfigChangedT {ns : NameStore} {n : Name} {d0 d : DymName} (h : IdxOK ns)
    (h0 : ns.get n = some d0) (ho : d.owner = d0.owner) : IdxOK (ns.setConfigChangedT n d) := by
  have hb : ns.beforeConfig n = { ns with cfgIdx := d0.cfgAddrs.foldl (fun i a => i.remove a n) ns.cfgIdx,
                                          fbIdx := d0.fbAddrs.foldl (fun i a => i.remove a n) ns.fbIdx } := by
    unfold beforeConfig; simp only [h0]
  unfold setConfigChangedT
  rw [hb]
  have ⟨a, b, c⟩ := (idxOK_iff ns).mp h
  exact (idxOK_iff _).mpr ⟨a.set_same h0 (by rw [ownKeys, ho]; rfl), (b.removeAll h0).addAll d, (c.removeAll h0).addAll d⟩

end NameStore

end DymVerif.DymNS
