/-
  Lemmas/CoreForkInv — three invariants of every reachable state that give the fork clauses their
  clean form, and the step relation `Good` that carries them:
    * `PropRa`: the proposer and the successor of a rollapp are sequencers of that rollapp
      (so the proposer a fork removes has a record and belongs to the forked rollapp);
    * `Liab`: every (sequencer, height) liability refers to an unfinalized height of a state of the
      sequencer's rollapp created by it;
    * `Creators`: the creator of every recorded state is a sequencer of that rollapp.
  `Good s s'` holds of every transition that neither adds states or liabilities nor changes revisions
  or finalization flags.
-/
import DymVerif.Lemmas.CoreForkSpec
import DymVerif.Lemmas.CoreCustody3
namespace DymVerif.Core.Fork

/-- `a` is a sequencer of rollapp `ra` -/
def SeqOf (s : St) (a : Addr) (ra : Nat) : Prop := ∃ q, getSeq s a = some q ∧ q.rollapp = ra

def SeqMono (s s' : St) : Prop := ∀ a ra, SeqOf s a ra → SeqOf s' a ra

def eraseNext (st : SInfo) : SInfo := { st with next := NextP.empty }

/-- what the `Good` transitions keep of a rollapp record: revisions and states up to `NextProposer` -/
def raView (r : Rollapp) : List (Nat × Nat) × List SInfo := (r.revs, r.states.map eraseNext)

/-- proposer and successor of `r` are sequencers of `r` -/
def PQ (s : St) (r : Rollapp) : Prop :=
  (∀ a, r.proposer = some a → SeqOf s a r.id) ∧ (∀ a, r.successor = some a → SeqOf s a r.id)

def PropRa (s : St) : Prop := ∀ id r, getRa s id = some r → PQ s r

def Liab (s : St) : Prop := ∀ p ∈ s.seqH, ∃ (ra : Nat) (r : Rollapp) (i : Nat) (st : SInfo),
  SeqOf s p.1 ra ∧ getRa s ra = some r ∧ r.states[i]? = some st ∧ st.creator = p.1 ∧ st.finalized = false ∧
    st.start ≤ p.2 ∧ p.2 ≤ st.last

/-- the creator of every recorded state is a sequencer of that rollapp -/
def Creators (s : St) : Prop := ∀ id r, getRa s id = some r → ∀ st ∈ r.states, SeqOf s st.creator id

structure J (s : St) : Prop where
  prop : PropRa s
  liab : Liab s
  creators : Creators s

theorem SeqOf.congr {s s' : St} (e : s'.seqs = s.seqs) {a : Addr} {ra : Nat} (h : SeqOf s a ra) : SeqOf s' a ra := by
  obtain ⟨q, h1, h2⟩ := h
  exact ⟨q, by rw [getSeq_congr e]; exact h1, h2⟩

theorem SeqMono.refl (s : St) : SeqMono s s := fun _ _ h => h
theorem SeqMono.trans {s1 s2 s3 : St} (a : SeqMono s1 s2) (b : SeqMono s2 s3) : SeqMono s1 s3 :=
  fun x ra h => b x ra (a x ra h)
theorem SeqMono.of_seqs {s s' : St} (e : s'.seqs = s.seqs) : SeqMono s s' := fun _ _ h => h.congr e

theorem SeqMono.map {s : St} (f : Seq → Seq) (hf : ∀ x, (f x).addr = x.addr) (hr : ∀ x, (f x).rollapp = x.rollapp) :
    SeqMono s { s with seqs := s.seqs.map f } := by
  intro a ra ⟨q, h1, h2⟩
  exact ⟨f q, by rw [getSeq_mapSeqs s f hf, h1]; rfl, by rw [hr, h2]⟩

theorem SeqMono.setSeq {s : St} {q q0 : Seq} (hg : getSeq s q.addr = some q0) (hr : q.rollapp = q0.rollapp) :
    SeqMono s (setSeq s q) := by
  intro a ra ⟨x, h1, h2⟩
  by_cases ha : q.addr = a
  · subst ha
    cases hg.symm.trans h1
    exact ⟨q, getSeq_setSeq_self hg, hr.trans h2⟩
  · exact ⟨x, (getSeq_setSeq_ne ha).trans h1, h2⟩

theorem SeqMono.insert {s : St} {q : Seq} (hnone : getSeq s q.addr = none) :
    SeqMono s { s with seqs := insertSorted (fun x y => decide (x.addr < y.addr)) q s.seqs } := by
  intro a ra ⟨x, h1, h2⟩
  have hne : q.addr ≠ a := fun hc => by rw [hc, h1] at hnone; cases hnone
  exact ⟨x, (getSeq_insertSorted_ne hne).trans h1, h2⟩

theorem PQ.mono {s s' : St} {r : Rollapp} (m : SeqMono s s') (h : PQ s r) : PQ s' r :=
  ⟨fun a ha => m _ _ (h.1 a ha), fun a ha => m _ _ (h.2 a ha)⟩

theorem PQ.congr {s s' : St} {r : Rollapp} (e : s'.seqs = s.seqs) (h : PQ s r) : PQ s' r := h.mono (SeqMono.of_seqs e)

/-- `PQ` only reads id, proposer and successor -/
theorem PQ.of_fields {s : St} {r r' : Rollapp} (h : PQ s r) (e1 : r'.id = r.id) (e2 : r'.proposer = r.proposer)
    (e3 : r'.successor = r.successor) : PQ s r' := by
  unfold PQ at *; rw [e1, e2, e3]; exact h

theorem eraseNext_set_next (st : SInfo) (n : NextP) : eraseNext { st with next := n } = eraseNext st := rfl

theorem map_eraseNext_setLastNext (l : List SInfo) (n : NextP) : (setLastNext l n).map eraseNext = l.map eraseNext := by
  unfold setLastNext
  split
  · rfl
  · rename_i x rest e
    have : l = (x :: rest).reverse := by rw [← e, List.reverse_reverse]
    rw [this]
    simp [eraseNext]

theorem getElem?_of_map_eraseNext {l l' : List SInfo} (e : l'.map eraseNext = l.map eraseNext) {i : Nat} {st : SInfo}
    (h : l[i]? = some st) : ∃ st', l'[i]? = some st' ∧ eraseNext st' = eraseNext st := by
  have h1 : (l.map eraseNext)[i]? = some (eraseNext st) := by rw [List.getElem?_map, h]; rfl
  rw [← e, List.getElem?_map] at h1
  cases hx : l'[i]? with
  | none => rw [hx] at h1; cases h1
  | some st' => rw [hx] at h1; exact ⟨st', rfl, by simpa using h1⟩

theorem eraseNext_fields {a b : SInfo} (e : eraseNext a = eraseNext b) :
    a.creator = b.creator ∧ a.start = b.start ∧ a.num = b.num ∧ a.finalized = b.finalized ∧ a.bds = b.bds ∧
      a.creationHeight = b.creationHeight := by
  unfold eraseNext at e
  injection e with e1 e2 e3 e4 e5 e6 e7 e8 e9
  exact ⟨e1, e2, e3, e5, e7, e4⟩

theorem eraseNext_last {a b : SInfo} (e : eraseNext a = eraseNext b) : a.last = b.last := by
  have := eraseNext_fields e
  unfold SInfo.last; rw [this.2.1, this.2.2.1]

/-- a transition that keeps every rollapp's revisions and states (up to `NextProposer`), adds no
    liability, keeps every sequencer in its rollapp, and keeps proposer/successor known -/
structure Good (s s' : St) : Prop where
  seqMono : SeqMono s s'
  seqH : ∀ p ∈ s'.seqH, p ∈ s.seqH
  keep : ∀ id r, getRa s id = some r → ∃ r', getRa s' id = some r' ∧ raView r' = raView r ∧ (PQ s r → PQ s' r')
  fresh : ∀ id r', getRa s' id = some r' → getRa s id = none → PQ s' r' ∧ r'.states = []

theorem Good.refl (s : St) : Good s s :=
  ⟨SeqMono.refl s, fun _ h => h, fun _ r h => ⟨r, h, rfl, fun x => x⟩, fun _ _ h1 h2 => by rw [h1] at h2; cases h2⟩

theorem Good.trans {s1 s2 s3 : St} (a : Good s1 s2) (b : Good s2 s3) : Good s1 s3 := by
  refine ⟨a.seqMono.trans b.seqMono, fun p h => a.seqH p (b.seqH p h), ?_, ?_⟩
  · intro id r hg
    obtain ⟨r', h1, h2, h3⟩ := a.keep id r hg
    obtain ⟨r'', h4, h5, h6⟩ := b.keep id r' h1
    exact ⟨r'', h4, h5.trans h2, fun x => h6 (h3 x)⟩
  · intro id r'' hg hn
    cases h2 : getRa s2 id with
    | none => exact b.fresh id r'' hg h2
    | some r' =>
      obtain ⟨hp, hs⟩ := a.fresh id r' h2 hn
      obtain ⟨r2, h4, h5, h6⟩ := b.keep id r' h2
      cases hg.symm.trans h4
      refine ⟨h6 hp, ?_⟩
      have : r''.states.map eraseNext = r'.states.map eraseNext := congrArg Prod.snd h5
      rw [hs] at this
      simpa using this

/-- same rollapp records, sequencers only move monotonically, no new liability -/
theorem Good.of_ras {s s' : St} (e : s'.ras = s.ras) (m : SeqMono s s') (h : ∀ x ∈ s'.seqH, x ∈ s.seqH) : Good s s' := by
  refine ⟨m, h, ?_, ?_⟩
  · intro id r hg
    exact ⟨r, by rw [getRa_congr e]; exact hg, rfl, fun x => x.mono m⟩
  · intro id r' hg hn
    rw [getRa_congr e, hn] at hg; cases hg

theorem Good.of_eq {s s' : St} (e1 : s'.ras = s.ras) (e2 : s'.seqs = s.seqs) (e3 : s'.seqH = s.seqH) : Good s s' :=
  Good.of_ras e1 (SeqMono.of_seqs e2) (fun p h => e3 ▸ h)

/-- writing back a record with the same view (into a state that differs from `s` outside
    ras / seqs / seqH only) -/
theorem Good.setRa {s s1 : St} {r0 r1 : Rollapp} (e1 : s1.ras = s.ras) (e2 : s1.seqs = s.seqs) (e3 : s1.seqH = s.seqH)
    (hg : getRa s r1.id = some r0) (hv : raView r1 = raView r0) (hp : PQ s r0 → PQ s r1) : Good s (setRa s1 r1) := by
  have hg1 : getRa s1 r1.id = some r0 := by rw [getRa_congr e1]; exact hg
  refine ⟨SeqMono.of_seqs (by rw [setRa_seqs, e2]), fun p h => by rw [setRa_seqH, e3] at h; exact h, ?_, ?_⟩
  · intro id r hgr
    by_cases hid : id = r1.id
    · subst hid
      cases hg.symm.trans hgr
      exact ⟨r1, getRa_setRa_same hg1, hv, fun x => (hp x).congr (by rw [setRa_seqs, e2])⟩
    · exact ⟨r, by rw [getRa_setRa_other hid, getRa_congr e1]; exact hgr, rfl, fun x => x.congr (by rw [setRa_seqs, e2])⟩
  · intro id r' hgr hn
    rw [getRa_setRa, getRa_congr e1, hn] at hgr; cases hgr

/-- writing back a record read from the state with its id, view, proposer and successor unchanged, into a state
    `s1` that differs from `s` outside ras / seqs / seqH only; for a concrete `s1` and record all side
    conditions hold by `rfl` -/
theorem Good.setRa_fields {s s1 : St} {id : Nat} {r r1 : Rollapp} (hg : getRa s id = some r)
    (e1 : s1.ras = s.ras := by rfl) (e2 : s1.seqs = s.seqs := by rfl) (e3 : s1.seqH = s.seqH := by rfl)
    (hid : r1.id = r.id := by rfl) (hv : raView r1 = raView r := by rfl) (hp : r1.proposer = r.proposer := by rfl)
    (hs : r1.successor = r.successor := by rfl) : Good s (Core.setRa s1 r1) :=
  Good.setRa e1 e2 e3 (r0 := r) (by rw [hid, getRa_id hg]; exact hg) hv (fun x => x.of_fields hid hp hs)

theorem Good.setSeq {s : St} {q q0 : Seq} (hg : getSeq s q.addr = some q0) (hr : q.rollapp = q0.rollapp) :
    Good s (setSeq s q) := Good.of_ras rfl (SeqMono.setSeq hg hr) (fun _ h => h)

/-- the invariants follow any `Good` step -/
theorem Good.J {s s' : St} (g : Good s s') (h : J s) : J s' := by
  constructor
  · intro id r' hg
    cases hs : getRa s id with
    | none => exact (g.fresh id r' hg hs).1
    | some r =>
      obtain ⟨r2, h1, _, h3⟩ := g.keep id r hs
      cases hg.symm.trans h1
      exact h3 (h.prop id r hs)
  · intro p hp
    obtain ⟨ra, r, i, st, h1, h2, h3, h4, h5, h6, h7⟩ := h.liab p (g.seqH p hp)
    obtain ⟨r', g1, g2, _⟩ := g.keep ra r h2
    obtain ⟨st', k1, k2⟩ := getElem?_of_map_eraseNext (congrArg Prod.snd g2 : r'.states.map eraseNext = r.states.map eraseNext) h3
    have hf := eraseNext_fields k2
    exact ⟨ra, r', i, st', g.seqMono _ _ h1, g1, k1, hf.1.trans h4, hf.2.2.2.1.trans h5, by rw [hf.2.1]; exact h6,
      by rw [eraseNext_last k2]; exact h7⟩
  · intro id r' hg st' hst'
    cases hs : getRa s id with
    | none => rw [(g.fresh id r' hg hs).2] at hst'; cases hst'
    | some r =>
      obtain ⟨r2, h1, h2, _⟩ := g.keep id r hs
      cases hg.symm.trans h1
      obtain ⟨i, hi⟩ := List.mem_iff_getElem?.1 hst'
      obtain ⟨st, k1, k2⟩ := getElem?_of_map_eraseNext
        (congrArg Prod.snd h2 : r'.states.map eraseNext = r.states.map eraseNext).symm hi
      rw [← (eraseNext_fields k2).1]
      exact g.seqMono _ _ (h.creators id r hs st (List.mem_of_getElem? k1))

theorem indicateLiveness_good {s : St} {id : Nat} {r : Rollapp} (hg : getRa s id = some r) :
    Good s (indicateLiveness s r) := by
  unfold indicateLiveness resetClock scheduleEvent
  dsimp only
  exact Good.setRa_fields hg

theorem afterSetRealProposer_good (s : St) (ra : Nat) (a : Addr) : Good s (afterSetRealProposer s ra a) := by
  unfold afterSetRealProposer
  split
  · exact Good.refl s
  · rename_i r hg
    have g1 := indicateLiveness_good hg
    split
    · exact g1
    · rename_i r1 hg1
      refine g1.trans (Good.setRa_fields hg1 (hv := ?_))
      show (r1.revs, (setLastNext r1.states (NextP.addr a)).map eraseNext) = (r1.revs, r1.states.map eraseNext)
      rw [map_eraseNext_setLastNext]

theorem foldl_pick_mem (f : Option Seq → Seq → Option Seq)
    (hf : ∀ acc q, f acc q = some q ∨ (f acc q = acc ∧ acc ≠ none)) (l : List Seq) (acc : Option Seq) (b : Seq)
    (h : l.foldl f acc = some b) : b ∈ l ∨ acc = some b := by
  induction l generalizing acc with
  | nil => exact Or.inr h
  | cons x xs ih =>
    rw [List.foldl_cons] at h
    rcases ih _ h with h1 | h1
    · exact Or.inl (by simp [h1])
    · rcases hf acc x with h2 | h2
      · rw [h2] at h1; injection h1 with h1; exact Or.inl (by simp [h1])
      · rw [h2.1] at h1; exact Or.inr h1

theorem choose_mem {s : St} {ra : Nat} {a : Addr} (h : choose s ra = some a) :
    ∃ q ∈ s.seqs, q.addr = a ∧ q.rollapp = ra := by
  unfold choose at h
  dsimp only at h
  rw [Option.map_eq_some_iff] at h
  obtain ⟨b, hb, hab⟩ := h
  rcases foldl_pick_mem _ (by
      intro acc q
      cases acc with
      | none => exact Or.inl rfl
      | some c =>
        dsimp only
        split
        · exact Or.inl rfl
        · exact Or.inr ⟨rfl, by simp⟩) _ _ _ hb with h1 | h1
  · have := List.mem_filter.1 h1
    refine ⟨b, this.1, hab, ?_⟩
    have h2 := this.2
    simp only [Bool.and_eq_true, beq_iff_eq] at h2
    exact h2.1.1
  · cases h1

theorem getSeq_of_mem_nodup {s : St} (hn : AddrNodup s.seqs) {q : Seq} (hq : q ∈ s.seqs) : getSeq s q.addr = some q := by
  unfold getSeq
  cases hf : s.seqs.find? (·.addr == q.addr) with
  | none =>
    have := List.find?_eq_none.1 hf q hq
    simp at this
  | some x =>
    have hx := List.mem_of_find?_eq_some hf
    have hxa : x.addr = q.addr := by simpa using List.find?_some hf
    rw [hn.eq_of_mem hx hq hxa]

theorem choose_seqOf {s : St} (hn : AddrNodup s.seqs) {ra : Nat} {a : Addr} (h : choose s ra = some a) : SeqOf s a ra := by
  obtain ⟨q, hq, h1, h2⟩ := choose_mem h
  exact ⟨q, by rw [← h1]; exact getSeq_of_mem_nodup hn hq, h2⟩

theorem recoverFromSentinel_good {s s' : St} {ra : Nat} (hn : AddrNodup s.seqs)
    (e : recoverFromSentinel s ra = .ok s') : Good s s' := by
  obtain ⟨r, a, hg, _, hch, rfl⟩ := recoverFromSentinel_ok e
  refine (Good.setRa rfl rfl rfl (r0 := r) (r1 := { r with proposer := some a }) (by rw [getRa_id hg]; exact hg) rfl
    fun x => ⟨?_, x.2⟩).trans (afterSetRealProposer_good _ _ _)
  -- the elected proposer is a sequencer of the rollapp
  intro a' ha'
  cases ha'
  show SeqOf s a r.id
  rw [getRa_id hg]
  exact choose_seqOf hn hch

theorem optOutAll_good (s : St) (ra : Nat) : Good s (optOutAll s ra) := by
  unfold optOutAll
  exact Good.of_ras rfl (SeqMono.map _ (by intro x; split <;> rfl) (by intro x; split <;> rfl)) (fun _ h => h)

/-- the writes of the role writers are `Good` steps: clearing a role keeps the other one known -/
theorem good_roleClosed (s : St) (ra : Nat) : RoleClosed (Good s) ra where
  clearProposer := @fun _ r hg h => h.trans (Good.setRa rfl rfl rfl (r0 := r) (by rw [getRa_id hg]; exact hg) rfl
    fun x => ⟨fun a ha => (by cases ha), x.2⟩)
  clearSuccessor := @fun _ r hg h => h.trans (Good.setRa rfl rfl rfl (r0 := r) (by rw [getRa_id hg]; exact hg) rfl
    fun x => ⟨x.1, fun a ha => (by cases ha)⟩)
  unbond hg h := h.trans (Good.setSeq hg rfl)
  optOut h := h.trans (optOutAll_good _ ra)
  nq q h := h.trans (by unfold removeFromNoticeQueue; split; exact Good.of_eq rfl rfl rfl; exact Good.refl _)

theorem abruptRemoveProposer_good (s : St) (ra : Nat) : Good s (abruptRemoveProposer s ra) :=
  (good_roleClosed s ra).abruptRemoveProposer (Good.refl s)

theorem seqOnHardFork_good (s : St) (ra : Nat) : Good s (seqOnHardFork s ra) :=
  (good_roleClosed s ra).seqOnHardFork (Good.refl s)

end DymVerif.Core.Fork
