/-
  Lemmas/SponsStep — what each message of M-Spons does when it is accepted: the result state as an
  explicit update of the input.  The invariants are proved from these shapes, without unfolding `step`
  or a message.  Last: votes, distribution and endorsement totals (the vote core) are written by vote,
  revoke and the staking hook only, each a chain of two elementary moves (`Drop`, `Put`); a property of
  the core is proved closed under the two moves and `moves_ind` carries it over the messages.
-/
import DymVerif.Lemmas.SponsAList
namespace DymVerif.Spons

/-! ### staking hook -/

/-- the hook prunes the vote below the minimum, and otherwise replaces the voter's contribution -/
theorem processHook_eq (s : State) (a val : Nat) (v : Vote) (o n : Int) :
    (v.vp + (n - o) < s.minVP ∧ s.processHook a val v o n = s.revokeVote a v) ∨
    (s.minVP ≤ v.vp + (n - o) ∧ s.processHook a val v o n =
      { s with
        dist := (Vote.toDist ⟨v.vp + (n - o), v.weights⟩).merge (v.toDist.negate.merge s.dist),
        endorsements := updateShares s.gauges (updateShares s.gauges s.endorsements v.toDist.negate.gauges)
          (Vote.toDist ⟨v.vp + (n - o), v.weights⟩).gauges,
        votes := aset a ⟨v.vp + (n - o), v.weights⟩ s.votes,
        dvp := if n = 0 then aerase (a, val) s.dvp else aset (a, val) n s.dvp }) := by
  by_cases h : v.vp + (n - o) < s.minVP
  · exact .inl ⟨h, if_pos h⟩
  · refine .inr ⟨Int.not_lt.mp h, (if_neg h).trans ?_⟩
    unfold State.applyUpdate; rfl

theorem hook_ok {s s' : State} {a val : Nat} {p : Option Int} (h : s.hook a val p = .ok s') :
    (alookup a s.votes = none ∧ s' = s) ∨
    ∃ v, alookup a s.votes = some v ∧
      s' = s.processHook a val v ((alookup (a, val) s.dvp).getD 0) (p.getD 0) := by
  unfold State.hook State.vote? at h
  split at h
  · rename_i hv; cases h; exact .inl ⟨hv, rfl⟩
  · rename_i v hv
    refine .inr ⟨v, hv, ?_⟩
    split at h
    · cases h; rfl
    · split at h
      · cases h
      · rename_i old ho; cases h; rw [ho]; rfl

/-- a relation that holds across one `processHook` holds across a list of hooks -/
theorem hooks_rel {R : State → State → Prop} (refl : ∀ s, R s s) (trans : ∀ {a b c}, R a b → R b c → R a c)
    {a : Nat} (ph : ∀ s val v o n, alookup a s.votes = some v → R s (s.processHook a val v o n))
    {s s' : State} {hs : List (Nat × Option Int)} (h : s.hooks a hs = .ok s') : R s s' := by
  induction hs generalizing s with
  | nil => cases h; exact refl _
  | cons x xs ih =>
    unfold State.hooks at h
    split at h
    · cases h
    · rename_i s1 h1
      refine trans ?_ (ih h)
      rcases hook_ok h1 with ⟨_, rfl⟩ | ⟨v, hv, rfl⟩
      · exact refl _
      · exact ph _ _ _ _ _ hv

/-! ### vote, revoke -/

theorem castVote_ok {s1 s' : State} {a : Nat} {ws : List GP} (hc : s1.castVote a ws = .ok s') :
    s1.minVP ≤ sumP (s1.breakdown a) ∧
    s' = { s1 with
           dist := (applyWeights (sumP (s1.breakdown a)) ws).merge s1.dist,
           endorsements := updateShares s1.gauges s1.endorsements (applyWeights (sumP (s1.breakdown a)) ws).gauges,
           votes := aset a ⟨sumP (s1.breakdown a), ws⟩ s1.votes,
           blacklist := if s1.blacklist.contains a then s1.blacklist else a :: s1.blacklist,
           dvp := saveAll (s1.breakdown a) s1.dvp } := by
  unfold State.castVote at hc
  simp only at hc
  split at hc
  · cases hc
  · rename_i hlow; cases hc; exact ⟨Int.not_lt.mp hlow, rfl⟩

/-- an accepted vote: valid weights on existing perpetual gauges; the previous vote, if any, is revoked first -/
theorem vote_ok {s s' : State} {a : Nat} {ws : List GP} (h : s.vote a ws = .ok s') :
    validWeights ws = true ∧ validateWeights s ws = none ∧
    ((alookup a s.votes = none ∧ s.castVote a ws = .ok s') ∨
      ∃ v, alookup a s.votes = some v ∧ (s.revokeVote a v).castVote a ws = .ok s') := by
  unfold State.vote State.vote? at h
  split at h
  · cases h
  rename_i hvw
  split at h
  · cases h
  rename_i hval
  refine ⟨by simpa using hvw, hval, ?_⟩
  split at h
  · rename_i v hv; exact .inr ⟨v, hv, h⟩
  · rename_i hv; exact .inl ⟨hv, h⟩

theorem revoke_ok {s s' : State} {a : Nat} (h : s.revoke a = .ok s') :
    ∃ v, alookup a s.votes = some v ∧ s' = s.revokeVote a v := by
  unfold State.revoke State.vote? at h
  split at h
  · cases h
  · rename_i v hv; cases h; exact ⟨v, hv, rfl⟩

/-! ### claim -/

theorem pay_ok {s s1 : State} {a : Nat} {g : Gauge} {e : Endorsement} {pw p : Int}
    (h : s.pay a g e pw = .ok (s1, p)) :
    (g.epochRewards = none ∧ p = 0 ∧ s1 = s.blacklisted a) ∨
    (∃ er, g.epochRewards = some er ∧ p = (pw * er).tdiv e.epoch ∧ 0 < p ∧ s1 = s.paid a g p) := by
  unfold State.pay at h
  cases her : g.epochRewards with
  | none => rw [her] at h; cases h; exact .inl ⟨rfl, rfl, rfl⟩
  | some er =>
    rw [her] at h; dsimp only at h
    by_cases h1 : e.epoch = 0
    · rw [if_pos h1] at h; cases h
    by_cases h2 : (pw * er).tdiv e.epoch ≤ 0
    · rw [if_neg h1, if_pos h2] at h; cases h
    by_cases h3 : s.incBal < (pw * er).tdiv e.epoch
    · rw [if_neg h1, if_neg h2, if_pos h3] at h; cases h
    · rw [if_neg h1, if_neg h2, if_neg h3] at h; cases h
      exact .inr ⟨er, rfl, rfl, Int.not_le.mp h2, rfl⟩

/-- what an accepted claim looked at -/
theorem claim_ok {s s1 : State} {a gid : Nat} {p : Int} (h : s.claim a gid = .ok (s1, p)) :
    a ∉ s.blacklist ∧ ∃ g r e v, s.gauge? gid = some g ∧ g.kind = .endorsement r ∧ s.endorsement? r = some e ∧
      alookup a s.votes = some v ∧ v.gaugePower e.gaugeId ≠ 0 ∧ s.pay a g e (v.gaugePower e.gaugeId) = .ok (s1, p) := by
  unfold State.claim at h
  split at h
  · cases h
  rename_i hcan
  split at h
  · cases h
  rename_i g hg
  split at h
  · cases h
  · cases h
  rename_i r hk
  split at h
  · cases h
  rename_i e he
  split at h
  · cases h
  rename_i v hv
  split at h
  · cases h
  rename_i hp
  exact ⟨fun hm => hcan (by simp [hm]), g, r, e, v, hg, hk, he, hv, hp, h⟩

/-- an accepted claim blacklists the claimer and, if something is paid, moves it out of the gauge found -/
theorem claim_eq {s s1 : State} {a gid : Nat} {p : Int} (h : s.claim a gid = .ok (s1, p)) :
    s1 = s.blacklisted a ∨ ∃ g, s.gauge? gid = some g ∧ s1 = s.paid a g p := by
  obtain ⟨_, g, _, _, _, hg, _, _, _, _, hpay⟩ := claim_ok h
  rcases pay_ok hpay with ⟨_, _, e⟩ | ⟨_, _, _, _, e⟩
  · exact .inl e
  · exact .inr ⟨g, hg, e⟩

/-! ### funding, creation, parameters -/

theorem fund_ok {s s1 : State} {gid : Nat} {amt : Int} (h : s.fund gid amt = .ok s1) :
    ∃ g, s.gauge? gid = some g ∧ s1 = s.funded g amt := by
  unfold State.fund at h
  split at h
  · cases h
  rename_i g hg
  split at h
  · cases h
  · cases h; exact ⟨g, hg, rfl⟩

theorem addGauge_ok {s s1 : State} {g : Gauge} (h : s.addGauge g = .ok s1) :
    (∃ inc, s1 = { s with gauges := s.gauges ++ [newGauge (s.lastGauge + 1) g], lastGauge := s.lastGauge + 1,
                          incBal := s.incBal + inc }) ∧ (∀ r, g.kind ≠ .rollapp r) ∧
      (∀ r, g.kind = .endorsement r → (s.endorsement? r).isSome) := by
  unfold State.addGauge at h
  split at h
  · cases h
  · rename_i hk
    cases h
    exact ⟨⟨0, by rw [Int.add_zero]⟩, fun r e => (by rw [hk] at e; cases e), fun r e => (by rw [hk] at e; cases e)⟩
  · rename_i r hk
    split at h
    · cases h
    rename_i hsome
    split at h
    · cases h
    · cases h
      refine ⟨⟨g.coins, rfl⟩, fun r' e => (by rw [hk] at e; cases e), fun r' e => ?_⟩
      rw [hk] at e; cases e
      cases hh : s.endorsement? r with
      | none => simp [hh] at hsome
      | some _ => rfl

theorem addRollapp_ok {s s1 : State} {r : Nat} (h : s.addRollapp r = .ok s1) :
    s.endorsement? r = none ∧
    s1 = { s with gauges := s.gauges ++ [{ id := s.lastGauge + 1, kind := .rollapp r, perpetual := true }],
                  endorsements := s.endorsements ++ [⟨r, s.lastGauge + 1, 0, 0⟩],
                  lastGauge := s.lastGauge + 1 } := by
  unfold State.addRollapp at h
  split at h
  · cases h
  · rename_i hn; cases h; exact ⟨by simpa using hn, rfl⟩

theorem setParams_ok {s s1 : State} {ma mv : Int} (h : s.setParams ma mv = .ok s1) :
    s1 = { s with minAlloc := ma, minVP := mv } ∧ 0 ≤ mv ∧ 0 ≤ ma ∧ ma ≤ maxW := by
  unfold State.setParams at h
  split at h
  · cases h
  · rename_i hv
    cases h
    have hv' : validParams ma mv = true := by simpa using hv
    simp only [validParams, Bool.and_eq_true, decide_eq_true_eq] at hv'
    exact ⟨rfl, hv'.2, hv'.1.1, hv'.1.2⟩

/-! ### epoch end -/

theorem ite_ind {α : Type} {P : α → Prop} {c : Prop} [Decidable c] {a b : α} (ha : P a) (hb : P b) :
    P (if c then a else b) := by
  split
  · exact ha
  · exact hb

/-- the x/incentives epoch hook rewrites the gauges one by one and keeps each gauge's id and kind -/
theorem incentivesEpochEnd_eq (s : State) :
    ∃ f : Gauge → Gauge, (∀ x, (f x).id = x.id ∧ (f x).kind = x.kind) ∧
      s.incentivesEpochEnd = { s with gauges := s.gauges.map f } := by
  unfold State.incentivesEpochEnd
  apply ite_ind (P := fun z : State => ∃ f : Gauge → Gauge, (∀ x, (f x).id = x.id ∧ (f x).kind = x.kind) ∧
      z = { s with gauges := s.gauges.map f })
  · exact ⟨id, fun _ => ⟨rfl, rfl⟩, (congrArg (fun l => ({ s with gauges := l } : State)) (List.map_id _)).symm⟩
  · refine ⟨_, fun x => ?_, congrArg (fun l => ({ s with gauges := l } : State)) List.map_map⟩
    have h1 : ∀ y : Gauge, (if y.status = .upcoming then { y with status := .active } else y).id = y.id ∧
        (if y.status = .upcoming then { y with status := .active } else y).kind = y.kind :=
      fun y => ite_ind (P := fun z : Gauge => z.id = y.id ∧ z.kind = y.kind) ⟨rfl, rfl⟩ ⟨rfl, rfl⟩
    rw [Function.comp_apply]
    obtain ⟨e1, e2⟩ := h1 x
    generalize (if x.status = .upcoming then { x with status := .active } else x) = y at e1 e2 ⊢
    rw [← e1, ← e2]
    refine ite_ind (P := fun z : Gauge => z.id = y.id ∧ z.kind = y.kind) ?_ ⟨rfl, rfl⟩
    have h2 : (if isEndorsement y.kind then y.epochUpdate else y).id = y.id ∧
        (if isEndorsement y.kind then y.epochUpdate else y).kind = y.kind :=
      ite_ind (P := fun z : Gauge => z.id = y.id ∧ z.kind = y.kind) ⟨rfl, rfl⟩ ⟨rfl, rfl⟩
    exact ite_ind (P := fun z : Gauge => z.id = y.id ∧ z.kind = y.kind) h2 h2

/-- the end of a distribution epoch: the gauges are rewritten in place, every endorsement's snapshot
    becomes its total, the blacklist is cleared (the end of any other epoch does nothing: `rfl`) -/
theorem epochEnd_true (s : State) :
    ∃ f : Gauge → Gauge, (∀ x, (f x).id = x.id ∧ (f x).kind = x.kind) ∧
      s.epochEnd true =
        { s with gauges := s.gauges.map f,
                 endorsements := s.endorsements.map (fun e => { e with epoch := e.total }), blacklist := [] } := by
  obtain ⟨f, hf, e⟩ := incentivesEpochEnd_eq s
  refine ⟨f, hf, ?_⟩
  show s.incentivesEpochEnd.sponsEpochEnd = _
  rw [e]; rfl

/-! ### one op -/

theorem staking_ok {s s' : State} {a : Nat} {hs : List (Nat × Option Int)} {fin : List ((Nat × Nat) × Option Int)}
    (h : s.staking a hs fin = .ok s') : ∃ s1, s.hooks a hs = .ok s1 ∧ s' = { s1 with stk := setStk s1.stk fin } := by
  unfold State.staking at h
  split at h
  · cases h
  · rename_i s1 h1; cases h; exact ⟨s1, h1, rfl⟩

/-- a property of the state that holds if the op is rejected (the state is kept) and in the state an
    accepted op produces holds after the step -/
theorem step_cases {P : State → Prop} (s : State) (op : Op) (rej : P s)
    (acc : match op with
      | .vote a ws => ∀ s1, s.vote a ws = .ok s1 → P s1
      | .revoke a => ∀ v, alookup a s.votes = some v → P (s.revokeVote a v)
      | .claim a g => ∀ s1 p, s.claim a g = .ok (s1, p) → P s1
      | .staking a hs fin => ∀ s1, s.hooks a hs = .ok s1 → P { s1 with stk := setStk s1.stk fin }
      | .slash fin => P { s with stk := setStk s.stk fin }
      | .epochEnd d => P (s.epochEnd d)
      | .fund g amt => ∀ s1, s.fund g amt = .ok s1 → P s1
      | .addGauge g => ∀ s1, s.addGauge g = .ok s1 → P s1
      | .addRollapp r => ∀ s1, s.addRollapp r = .ok s1 → P s1
      | .setParams ma mv => ∀ s1, s.setParams ma mv = .ok s1 → P s1) : P (step s op).1 := by
  cases op with
  | vote a ws => simp only [step]; split; exact acc _ ‹_›; exact rej
  | revoke a =>
    simp only [step]; split
    · rename_i s1 h; obtain ⟨v, hv, rfl⟩ := revoke_ok h; exact acc v hv
    · exact rej
  | claim a g => simp only [step]; split; exact acc _ _ ‹_›; exact rej
  | staking a hs fin =>
    simp only [step]; split
    · rename_i s1 h; obtain ⟨s2, h2, rfl⟩ := staking_ok h; exact acc s2 h2
    · exact rej
  | slash fin => exact acc
  | epochEnd d => exact acc
  | fund g amt => simp only [step]; split; exact acc _ ‹_›; exact rej
  | addGauge g => simp only [step]; split; exact acc _ ‹_›; exact rej
  | addRollapp r => simp only [step]; split; exact acc _ ‹_›; exact rej
  | setParams ma mv => simp only [step]; split; exact acc _ ‹_›; exact rej

/-! ### the vote core: two elementary moves -/

/-- `s'` is `s` after `UpdateDistribution(u.Merge)` + `UpdateTotalSharesWithDistribution(u)` (`applyUpdate u`); votes,
    recorded powers, blacklist, balances and the staking table are not spoken of -/
structure Merged (s s' : State) (u : Dist) : Prop where
  dist : s'.dist = u.merge s.dist
  endo : s'.endorsements = updateShares s.gauges s.endorsements u.gauges
  gauges : s'.gauges = s.gauges
  minVP : s'.minVP = s.minVP
  last : s'.lastGauge = s.lastGauge

/-- the stored vote `v` of `a` leaves and its contribution is subtracted: `revokeVote`, which is also the first half
    of a re-vote in `Keeper.Vote` and of `processHook` -/
structure Drop (s s' : State) (a : Nat) (v : Vote) : Prop extends Merged s s' v.toDist.negate where
  had : alookup a s.votes = some v
  votes : s'.votes = aerase a s.votes

/-- `a`, who has no vote, gets the vote `nv`, which meets the minimum, and its contribution is added: the second half
    of `Keeper.Vote` (`castVote`) and of a `processHook` that does not prune -/
structure Put (s s' : State) (a : Nat) (nv : Vote) : Prop extends Merged s s' nv.toDist where
  fresh : alookup a s.votes = none
  low : s.minVP ≤ nv.vp
  votes : s'.votes = aset a nv s.votes

theorem Merged.applyUpdate (s : State) (u : Dist) : Merged s (s.applyUpdate u) u := ⟨rfl, rfl, rfl, rfl, rfl⟩

theorem Drop.revokeVote {s : State} {a : Nat} {v : Vote} (h : alookup a s.votes = some v) :
    Drop s (s.revokeVote a v) a v := ⟨⟨rfl, rfl, rfl, rfl, rfl⟩, h, rfl⟩

theorem castVote_put {s1 s' : State} {a : Nat} {ws : List GP} (hn : alookup a s1.votes = none)
    (hc : s1.castVote a ws = .ok s') : Put s1 s' a ⟨sumP (s1.breakdown a), ws⟩ := by
  obtain ⟨hlow, rfl⟩ := castVote_ok hc
  exact ⟨⟨rfl, rfl, rfl, rfl, rfl⟩, hn, hlow, rfl⟩

/-- the hook: the vote leaves, and unless the new total is below the minimum it comes back with the weights it had
    and the new power -/
theorem processHook_moves (s : State) (a val : Nat) (v : Vote) (o n : Int) :
    s.processHook a val v o n = s.revokeVote a v ∨
      Put (s.revokeVote a v) (s.processHook a val v o n) a ⟨v.vp + (n - o), v.weights⟩ := by
  rcases processHook_eq s a val v o n with ⟨_, e⟩ | ⟨hge, e⟩ <;> rw [e]
  · exact .inl rfl
  · exact .inr ⟨⟨rfl, rfl, rfl, rfl, rfl⟩, alookup_aerase_self _ _, hge,
      congrArg (List.cons _) (aerase_idem a s.votes).symm⟩

/-- every stored vote's weight list satisfies `W` -/
def VotesAll (W : List GP → Prop) (s : State) : Prop := ∀ x ∈ s.votes, W x.2.weights

theorem Drop.votesAll {W : List GP → Prop} {s s' : State} {a : Nat} {v : Vote} (h : Drop s s' a v)
    (w : VotesAll W s) : VotesAll W s' :=
  fun x hx => w x (mem_aerase.mp (h.votes ▸ hx)).1

theorem Put.votesAll {W : List GP → Prop} {s s' : State} {a : Nat} {nv : Vote} (h : Put s s' a nv)
    (hn : W nv.weights) (w : VotesAll W s) : VotesAll W s' := fun x hx =>
  (List.mem_cons.mp (h.votes ▸ hx)).elim (fun e => by rw [e]; exact hn) (fun hx => w x (mem_aerase.mp hx).1)

/-- **a property kept by the two moves is kept by a vote and by a list of staking hooks.**  A hook stores the vote
    again with the weights it had, so what is known of the stored weights (`W`: whatever the weights of accepted
    votes satisfy) travels with the property and is handed to `put`. -/
theorem moves_ind {W : List GP → Prop} {P : State → Prop}
    (drop : ∀ {s s' a v}, Drop s s' a v → P s → P s')
    (put : ∀ {s s' a nv}, Put s s' a nv → W nv.weights → P s → P s') :
    (∀ {s s' a ws}, s.vote a ws = .ok s' → W ws → VotesAll W s ∧ P s → VotesAll W s' ∧ P s') ∧
    (∀ {s s' a hs}, s.hooks a hs = .ok s' → VotesAll W s ∧ P s → VotesAll W s' ∧ P s') := by
  refine ⟨fun {s s' a ws} h hw ⟨w, p⟩ => ?_, fun h => hooks_rel (R := fun s s' => VotesAll W s ∧ P s → VotesAll W s' ∧ P s')
      (fun _ h => h) (fun h1 h2 h => h2 (h1 h)) (fun s val v o n hv ⟨w, p⟩ => ?_) h⟩
  · obtain ⟨_, _, ⟨hv, hc⟩ | ⟨v, hv, hc⟩⟩ := vote_ok h
    · exact ⟨(castVote_put hv hc).votesAll hw w, put (castVote_put hv hc) hw p⟩
    · have hd := Drop.revokeVote hv
      have hp := castVote_put (alookup_aerase_self _ _) hc
      exact ⟨hp.votesAll hw (hd.votesAll w), put hp hw (drop hd p)⟩
  · have hd := Drop.revokeVote hv
    have hw := w _ (alookup_mem hv)
    rcases processHook_moves s _ val v o n with e | hp
    · rw [e]; exact ⟨hd.votesAll w, drop hd p⟩
    · exact ⟨hp.votesAll hw (hd.votesAll w), put hp hw (drop hd p)⟩

end DymVerif.Spons
