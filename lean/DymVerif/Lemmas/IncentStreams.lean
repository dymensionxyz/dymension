/-
  Lemmas/IncentStreams — the stream side of M-Incent: the streamer's stream cache is a faithful copy of
  the store whose extra `distributed` coins equal what is transferred; streams only ever grow in
  `distributed`; the streamer account covers the open streams as long as no stream over-distributes.
-/
import DymVerif.Lemmas.IncentInv
namespace DymVerif.Incent
open DymVerif Coins

/-! ### the stream store -/

def getS (ss : List Stream) (id : Nat) : Option Stream := if id = 0 then none else ss[id - 1]?

def SidOK (ss : List Stream) : Prop := ∀ k (h : k < ss.length), ss[k].id = k + 1

theorem getS_some {ss : List Stream} (hid : SidOK ss) {id : Nat} {st : Stream} (h : getS ss id = some st) :
    1 ≤ id ∧ ∃ hk : id - 1 < ss.length, ss[id - 1] = st ∧ st.id = id ∧ st ∈ ss := by
  unfold getS at h
  by_cases h0 : id = 0
  · simp [h0] at h
  · rw [if_neg h0] at h
    obtain ⟨hk, he⟩ := List.getElem?_eq_some_iff.1 h
    refine ⟨by omega, hk, he, ?_, ?_⟩
    · rw [← he, hid _ hk]; omega
    · rw [← he]; exact List.getElem_mem hk

theorem getS_set_ne (ss : List Stream) (k : Nat) (v : Stream) (id : Nat) (h : id ≠ k + 1) :
    getS (ss.set k v) id = getS ss id := by
  unfold getS
  by_cases h0 : id = 0
  · simp [h0]
  · simp only [h0, if_false]
    rw [List.getElem?_set_ne (by omega)]

theorem getS_set_eq (ss : List Stream) (k : Nat) (v : Stream) (hk : k < ss.length) :
    getS (ss.set k v) (k + 1) = some v := by
  unfold getS
  simp [hk]

theorem sidOK_set {ss : List Stream} (hid : SidOK ss) (k : Nat) (v : Stream) (hv : v.id = k + 1) : SidOK (ss.set k v) := by
  intro j hj
  rw [List.getElem_set]
  split
  · next h => rw [← h]; exact hv
  · exact hid j (by simpa using hj)

/-! ### streams only grow in `distributed`; coins and ids never change -/

def StreamsMono (ss ss' : List Stream) : Prop :=
  ss.length ≤ ss'.length ∧
  ∀ k (h : k < ss.length) (h' : k < ss'.length), ss'[k].coins = ss[k].coins ∧ ss'[k].id = ss[k].id ∧
    ∀ i, amt ss[k].distributed i ≤ amt ss'[k].distributed i

theorem StreamsMono.refl (ss : List Stream) : StreamsMono ss ss :=
  ⟨Nat.le_refl _, fun _ _ _ => ⟨rfl, rfl, fun _ => Nat.le_refl _⟩⟩

theorem StreamsMono.trans {a b c : List Stream} (h1 : StreamsMono a b) (h2 : StreamsMono b c) : StreamsMono a c := by
  refine ⟨Nat.le_trans h1.1 h2.1, ?_⟩
  intro k h h'
  have hb : k < b.length := Nat.lt_of_lt_of_le h h1.1
  obtain ⟨a1, a2, a3⟩ := h1.2 k h hb
  obtain ⟨b1, b2, b3⟩ := h2.2 k hb h'
  exact ⟨b1.trans a1, b2.trans a2, fun i => Nat.le_trans (a3 i) (b3 i)⟩

/-- no stream has distributed more than its coins -/
def NoOver (ss : List Stream) : Prop := ∀ st ∈ ss, ∀ i, amt st.distributed i ≤ amt st.coins i

theorem NoOver_of_mono {ss ss' : List Stream} (hm : StreamsMono ss ss') (h : NoOver ss') : NoOver ss := by
  intro st hst i
  obtain ⟨k, hk, he⟩ := List.getElem_of_mem hst
  have hk' : k < ss'.length := Nat.lt_of_lt_of_le hk hm.1
  obtain ⟨a1, _, a3⟩ := hm.2 k hk hk'
  have := h ss'[k] (List.getElem_mem hk') i
  rw [← he, ← a1]
  exact Nat.le_trans (a3 i) this

theorem StreamsMono_set (ss : List Stream) (k : Nat) (v : Stream) (hk : k < ss.length)
    (hc : v.coins = ss[k].coins) (hi : v.id = ss[k].id) (hd : ∀ i, amt ss[k].distributed i ≤ amt v.distributed i) :
    StreamsMono ss (ss.set k v) := by
  refine ⟨by simp, ?_⟩
  intro j h h'
  rw [List.getElem_set]
  split
  · next he => subst he; exact ⟨hc, hi, hd⟩
  · exact ⟨rfl, rfl, fun _ => Nat.le_refl _⟩

theorem StreamsMono_append (ss : List Stream) (v : Stream) : StreamsMono ss (ss ++ [v]) := by
  refine ⟨by simp, ?_⟩
  intro k h h'
  rw [List.getElem_append_left h]
  exact ⟨rfl, rfl, fun _ => Nat.le_refl _⟩

/-! ### the streamer's stream cache -/

theorem upsertStream_present (f : Stream → Nat) : ∀ (l : List Stream) (g x : Stream), (l.map (·.id)).Nodup → x ∈ l → x.id = g.id →
    (upsertStream l g).map (·.id) = l.map (·.id) ∧
    (∀ y ∈ upsertStream l g, y = g ∨ (y ∈ l ∧ y.id ≠ g.id)) ∧
    ((upsertStream l g).map f).sum + f x = (l.map f).sum + f g :=
  upsert_present (·.id) upsertStream (fun _ _ _ => rfl) f

theorem cacheGetStream_some {c : Caches} {id : Nat} {st : Stream} (h : c.getStream id = some st) : st ∈ c.streams ∧ st.id = id := by
  unfold Caches.getStream at h
  exact ⟨List.mem_of_find?_eq_some h, by simpa using List.find?_some h⟩

/-- a cached stream is the stored stream with possibly more `distributed` coins -/
def SCoh (ss : List Stream) (st : Stream) : Prop :=
  ∃ st0, getS ss st.id = some st0 ∧ st = { st0 with distributed := st.distributed } ∧
    ∀ i, amt st0.distributed i ≤ amt st.distributed i

def storedDist (ss : List Stream) (id : Nat) (i : Nat) : Nat :=
  match getS ss id with
  | some st0 => amt st0.distributed i
  | none => 0

def sExtra (ss : List Stream) (st : Stream) (i : Nat) : Nat := amt st.distributed i - storedDist ss st.id i
def sExtras (ss : List Stream) (l : List Stream) (i : Nat) : Nat := (l.map (sExtra ss · i)).sum

/-- stream-cache invariant: distinct ids, every cached stream a stored stream with more `distributed`, and the
    extra `distributed` adding up to what the pass is about to transfer -/
def SCI (ss : List Stream) (c : Caches) : Prop :=
  (c.streams.map (·.id)).Nodup ∧ (∀ st ∈ c.streams, SCoh ss st) ∧ ∀ i, sExtras ss c.streams i = amt c.distributed i

theorem SCI_bump (ss : List Stream) (c : Caches) (h : SCI ss c) (st : Stream) (hst : st ∈ c.streams) (rw_ : Coins) (gs : List Gauge) :
    SCI ss { streams := upsertStream c.streams { st with distributed := Coins.add st.distributed rw_ }, gauges := gs,
             distributed := Coins.add c.distributed rw_ } ∧
    (upsertStream c.streams { st with distributed := Coins.add st.distributed rw_ }).map (·.id) = c.streams.map (·.id) := by
  obtain ⟨h1, h2, h3⟩ := h
  have hids := (upsertStream_present (fun _ => 0) c.streams { st with distributed := Coins.add st.distributed rw_ } st h1 hst rfl).1
  refine ⟨?_, hids⟩
  unfold SCI
  simp only
  refine ⟨by rw [hids]; exact h1, ?_, ?_⟩
  · intro y hy
    rcases (upsertStream_present (fun _ => 0) c.streams { st with distributed := Coins.add st.distributed rw_ } st h1 hst rfl).2.1 y hy with h | ⟨h, _⟩
    · subst h
      obtain ⟨st0, a, b, d⟩ := h2 st hst
      refine ⟨st0, a, ?_, fun i => by simp only [amt_add]; have := d i; omega⟩
      simp only
      rw [b]
    · exact h2 y h
  · intro i
    have hs := (upsertStream_present (sExtra ss · i) c.streams { st with distributed := Coins.add st.distributed rw_ } st h1 hst rfl).2.2
    obtain ⟨st0, a, b, d⟩ := h2 st hst
    have e1 : sExtra ss { st with distributed := Coins.add st.distributed rw_ } i = sExtra ss st i + amt rw_ i := by
      unfold sExtra storedDist
      simp only [a, amt_add]
      have := d i; omega
    unfold sExtras at *
    rw [amt_add, ← h3 i]
    omega

/-! ### reference lists -/

/-- overwriting slot `i` with the last element and dropping the last takes `l[i]` out of the list, up to order -/
theorem set_last_dropLast_perm (l : List Nat) (i : Nat) (h : i < l.length) :
    l.Perm (l[i] :: (l.set i (l.getLastD 0)).dropLast) := by
  rcases List.eq_nil_or_concat l with rfl | ⟨ys, last, rfl⟩
  · simp at h
  simp only [List.concat_eq_append, List.getLastD_concat]
  by_cases hi : i < ys.length
  · rw [List.set_append_left _ _ hi, List.dropLast_concat, List.getElem_append_left hi,
      List.set_eq_take_append_cons_drop, if_pos hi]
    conv => lhs; rw [← List.take_append_drop i ys, ← List.getElem_cons_drop hi]
    simp only [List.append_assoc, List.cons_append]
    exact List.perm_middle.trans (((List.perm_append_singleton last _).append_left _).cons _)
  · have he : i = ys.length := by simp at h; omega
    subst he
    simp [List.perm_append_singleton]

/-- `removeValue` gives back the list without one occurrence of the id, in some order -/
theorem Refs.swapRemove_perm {l : List Nat} {id : Nat} {l' : List Nat} (h : Refs.swapRemove l id = some l') : l.Perm (id :: l') := by
  unfold Refs.swapRemove at h
  cases hi : l.idxOf? id with
  | none => simp [hi] at h
  | some i =>
    obtain ⟨hlt, he, _⟩ := List.idxOf?_eq_some_iff.1 hi
    simp only [hi, Option.some.injEq] at h
    rw [← h, ← he]
    exact set_last_dropLast_perm l i hlt

theorem Refs.ids_cons (t : Nat) (l : List Nat) (rest : Refs) : Refs.ids ((t, l) :: rest) = l ++ Refs.ids rest := by
  simp [Refs.ids]

/-- `deleteStreamRefByKey` takes one occurrence of the id out of the reference list -/
theorem Refs.del_perm : ∀ (r : Refs) (t id : Nat) (r' : Refs), Refs.del r t id = some r' →
    (Refs.ids r).Perm (id :: Refs.ids r') := by
  intro r
  induction r with
  | nil => intro t id r' h; simp [Refs.del] at h
  | cons p rest ih =>
    intro t id r' h
    obtain ⟨t', l⟩ := p
    unfold Refs.del at h
    rw [Refs.ids_cons]
    by_cases h1 : t = t'
    · rw [if_pos h1] at h
      cases hs : Refs.swapRemove l id with
      | none => simp [hs] at h
      | some l' =>
        simp only [hs] at h
        have hids : Refs.ids r' = l' ++ Refs.ids rest := by
          split at h
          · next he =>
            simp only [Option.some.injEq] at h; subst h
            have : l' = [] := by simpa using he
            simp [this]
          · simp only [Option.some.injEq] at h; subst h
            exact Refs.ids_cons _ _ _
        rw [hids]
        exact (Refs.swapRemove_perm hs).append_right _
    · rw [if_neg h1] at h
      cases hr : Refs.del rest t id with
      | none => simp [hr] at h
      | some r2 =>
        simp only [hr, Option.some.injEq] at h
        rw [← h, Refs.ids_cons]
        exact ((ih t id r2 hr).append_left l).trans List.perm_middle

/-- `addStreamRefByKey` puts the id into the reference list -/
theorem Refs.add_perm : ∀ (r : Refs) (t id : Nat) (r' : Refs), Refs.add r t id = some r' →
    (Refs.ids r').Perm (id :: Refs.ids r) := by
  intro r
  induction r with
  | nil =>
    intro t id r' h
    simp only [Refs.add, Option.some.injEq] at h
    rw [← h]; exact List.Perm.refl _
  | cons p rest ih =>
    intro t id r' h
    obtain ⟨t', l⟩ := p
    unfold Refs.add at h
    by_cases h1 : t < t'
    · rw [if_pos h1, Option.some.injEq] at h
      rw [← h]; exact List.Perm.refl _
    rw [if_neg h1] at h
    by_cases h2 : t = t'
    · rw [if_pos h2] at h
      split at h
      · simp at h
      · simp only [Option.some.injEq] at h
        rw [← h, Refs.ids_cons, Refs.ids_cons, List.append_assoc]
        exact List.perm_middle
    · rw [if_neg h2] at h
      cases hr : Refs.add rest t id with
      | none => simp [hr] at h
      | some r2 =>
        simp only [hr, Option.some.injEq] at h
        rw [← h, Refs.ids_cons, Refs.ids_cons]
        exact ((ih t id r2 hr).append_left l).trans List.perm_middle

theorem perm_cons_sum {l l' : List Nat} {id : Nat} (h : l.Perm (id :: l')) (f : Nat → Nat) :
    (l.map f).sum = (l'.map f).sum + f id := by
  rw [(h.map f).sum_nat, List.map_cons, List.sum_cons, Nat.add_comm]

/-- a list `l` and the same list `l'` without one occurrence of `id`: membership, and distinctness if `l` has it -/
theorem perm_cons_facts {l l' : List Nat} {id : Nat} (h : l.Perm (id :: l')) :
    id ∈ l ∧ (∀ x, x ∈ l' → x ∈ l) ∧ (l.Nodup → l'.Nodup ∧ ∀ x, x ∈ l' ↔ x ∈ l ∧ x ≠ id) := by
  have hm : ∀ x, x ∈ l ↔ x = id ∨ x ∈ l' := fun x => h.mem_iff.trans List.mem_cons
  refine ⟨(hm id).2 (Or.inl rfl), fun x hx => (hm x).2 (Or.inr hx), fun hn => ?_⟩
  obtain ⟨h1, h2⟩ := List.nodup_cons.1 (h.nodup_iff.1 hn)
  exact ⟨h2, fun x => ⟨fun hx => ⟨(hm x).2 (Or.inr hx), fun he => h1 (he ▸ hx)⟩,
    fun ⟨hx, hne⟩ => ((hm x).1 hx).resolve_left hne⟩⟩

theorem Refs.add_mem {r : Refs} {t id : Nat} {r' : Refs} (h : Refs.add r t id = some r') (x : Nat) :
    x ∈ Refs.ids r' ↔ x ∈ Refs.ids r ∨ x = id :=
  (Refs.add_perm r t id r' h).mem_iff.trans (List.mem_cons.trans Or.comm)

/-- `deleteStreamRefByKey` removes the id (sum form; membership form for duplicate-free lists) -/
theorem Refs.del_spec (f : Nat → Nat) (r : Refs) (t id : Nat) (r' : Refs) (h : Refs.del r t id = some r') :
    id ∈ Refs.ids r ∧ ((Refs.ids r).map f).sum = ((Refs.ids r').map f).sum + f id ∧
    ((Refs.ids r).Nodup → (Refs.ids r').Nodup ∧ ∀ x, x ∈ Refs.ids r' ↔ x ∈ Refs.ids r ∧ x ≠ id) :=
  have p := Refs.del_perm r t id r' h
  ⟨(perm_cons_facts p).1, perm_cons_sum p f, (perm_cons_facts p).2.2⟩

/-- deletion only removes ids (no duplicate-freeness needed) -/
theorem Refs.del_subset {r : Refs} {t id : Nat} {r' : Refs} (h : Refs.del r t id = some r') :
    ∀ x, x ∈ Refs.ids r' → x ∈ Refs.ids r :=
  (perm_cons_facts (Refs.del_perm r t id r' h)).2.1

/-! ### what the streamer still owes to its open (upcoming or active) streams -/

def termS (ss : List Stream) (id : Nat) (i : Nat) : Nat :=
  match getS ss id with
  | some st => amt st.coins i - amt st.distributed i
  | none => 0

def openIds (s : State) : List Nat := s.active.ids ++ s.upcoming.ids

def owedL (s : State) (i : Nat) : Nat := ((openIds s).map (termS s.streams · i)).sum

structure SStruct (s : State) : Prop where
  sid : SidOK s.streams
  valid : ∀ id ∈ openIds s, 1 ≤ id ∧ id ≤ s.streams.length
  nodup : (openIds s).Nodup

/-- a sum over a duplicate-free list when the summand changes at one element `id` of the list only -/
theorem sum_update_one (L : List Nat) (F F' : Nat → Nat) (id : Nat) (hn : L.Nodup) (hm : id ∈ L)
    (hF : ∀ x, x ≠ id → F' x = F x) : (L.map F').sum + F id = (L.map F).sum + F' id := by
  induction L with
  | nil => simp at hm
  | cons y ys ih =>
    obtain ⟨h1, h2⟩ := List.nodup_cons.1 hn
    simp only [List.map_cons, List.sum_cons]
    rcases List.mem_cons.1 hm with h | h
    · subst h
      have : (ys.map F') = (ys.map F) := by
        apply List.map_congr_left
        intro x hx
        exact hF x (fun he => h1 (by rw [← he]; exact hx))
      rw [this]; omega
    · have hy : y ≠ id := fun he => h1 (by rw [he]; exact h)
      have := ih h2 h
      rw [hF y hy]; omega

theorem sum_congr_notin (L : List Nat) (F F' : Nat → Nat) (id : Nat) (hm : id ∉ L)
    (hF : ∀ x, x ≠ id → F' x = F x) : (L.map F').sum = (L.map F).sum := by
  apply congrArg
  apply List.map_congr_left
  intro x hx
  exact hF x (fun he => hm (by rw [← he]; exact hx))

theorem termS_set_ne (ss : List Stream) (k : Nat) (v : Stream) (id i : Nat) (h : id ≠ k + 1) :
    termS (ss.set k v) id i = termS ss id i := by
  unfold termS; rw [getS_set_ne _ _ _ _ h]

/-- writing a stream value `v` back to its slot, keeping the reference lists -/
theorem write_keep (s : State) (hs : SStruct s) (st0 v : Stream) (hget : getS s.streams v.id = some st0)
    (hc : v.coins = st0.coins) (hd : ∀ i, amt st0.distributed i ≤ amt v.distributed i) :
    SStruct (setStream s v) ∧ StreamsMono s.streams (setStream s v).streams ∧
    (∀ i, v.id ∈ openIds s → amt v.distributed i ≤ amt v.coins i →
      owedL (setStream s v) i + (amt v.distributed i - amt st0.distributed i) = owedL s i) ∧
    (∀ i, v.id ∉ openIds s → owedL (setStream s v) i = owedL s i) := by
  obtain ⟨h1, hk, hgetk, hid0, _⟩ := getS_some hs.sid hget
  have hs1 : setStream s v = { s with streams := s.streams.set (v.id - 1) v } := rfl
  have hidv : v.id = v.id - 1 + 1 := (Nat.sub_add_cancel h1).symm
  refine ⟨?_, ?_, ?_, ?_⟩
  · rw [hs1]
    exact ⟨sidOK_set hs.sid _ _ hidv, by intro id hid; have := hs.valid id hid; simpa using this, hs.nodup⟩
  · rw [hs1]
    exact StreamsMono_set _ _ _ hk (by rw [hgetk]; exact hc) (by rw [hgetk, hid0]) (by rw [hgetk]; exact hd)
  · intro i hopen hno
    rw [hs1]
    have hF : ∀ x, x ≠ v.id → termS (s.streams.set (v.id - 1) v) x i = termS s.streams x i :=
      fun x hx => termS_set_ne _ _ _ _ _ (by rw [← hidv]; exact hx)
    have := sum_update_one (openIds s) (termS s.streams · i) (termS (s.streams.set (v.id - 1) v) · i) v.id hs.nodup hopen hF
    have e1 : termS s.streams v.id i = amt st0.coins i - amt st0.distributed i := by unfold termS; rw [hget]
    have e2 : termS (s.streams.set (v.id - 1) v) v.id i = amt v.coins i - amt v.distributed i := by
      unfold termS
      have := getS_set_eq s.streams (v.id - 1) v hk
      rw [← hidv] at this
      rw [this]
    have := hd i
    rw [hc] at hno e2
    show (List.map (fun x => termS (s.streams.set (v.id - 1) v) x i) (openIds s)).sum + _ = (List.map (fun x => termS s.streams x i) (openIds s)).sum
    omega
  · intro i hnot
    rw [hs1]
    exact sum_congr_notin (openIds s) (termS s.streams · i) (termS (s.streams.set (v.id - 1) v) · i) v.id hnot
      (fun x hx => termS_set_ne _ _ _ _ _ (by rw [← hidv]; exact hx))


/-- the open ids lose one occurrence of `id` (in whatever order) while the streams stay: the structure is kept and
    what is owed falls by what `id` was owed -/
theorem open_remove {s s' : State} (hs : SStruct s) (hst : s'.streams = s.streams) {id : Nat}
    (h : (openIds s).Perm (id :: openIds s')) :
    SStruct s' ∧ (∀ i, owedL s' i + termS s.streams id i = owedL s i) ∧ id ∉ openIds s' := by
  obtain ⟨_, hsub, hnd⟩ := perm_cons_facts h
  obtain ⟨j1, j2⟩ := hnd hs.nodup
  refine ⟨⟨by rw [hst]; exact hs.sid, fun x hx => by rw [hst]; exact hs.valid x (hsub x hx), j1⟩, fun i => ?_,
    fun hm => ((j2 id).1 hm).2 rfl⟩
  have := perm_cons_sum h (termS s.streams · i)
  unfold owedL
  rw [hst]
  omega

theorem remove_active (s : State) (hs : SStruct s) (t id : Nat) (a : Refs) (f : Refs) (hd : Refs.del s.active t id = some a) :
    SStruct { s with active := a, finished := f } ∧
    (∀ i, owedL { s with active := a, finished := f } i + termS s.streams id i = owedL s i) ∧
    id ∉ openIds { s with active := a, finished := f } ∧ id ∈ s.active.ids ∧
    (∀ y, y ∈ a.ids ↔ y ∈ s.active.ids ∧ y ≠ id) := by
  have hp := Refs.del_perm s.active t id a hd
  obtain ⟨a1, a2, a3⟩ := open_remove (s' := { s with active := a, finished := f }) hs rfl (hp.append_right s.upcoming.ids)
  obtain ⟨hm, _, hnd⟩ := perm_cons_facts hp
  exact ⟨a1, a2, a3, hm, (hnd (List.nodup_append.1 hs.nodup).1).2⟩

theorem remove_upcoming (s : State) (hs : SStruct s) (t id : Nat) (u : Refs) (hd : Refs.del s.upcoming t id = some u) :
    SStruct { s with upcoming := u } ∧
    (∀ i, owedL { s with upcoming := u } i + termS s.streams id i = owedL s i) ∧
    id ∉ openIds { s with upcoming := u } ∧ id ∈ s.upcoming.ids := by
  have hp := Refs.del_perm s.upcoming t id u hd
  obtain ⟨a1, a2, a3⟩ := open_remove (s' := { s with upcoming := u }) hs rfl
    ((hp.append_left s.active.ids).trans List.perm_middle)
  exact ⟨a1, a2, a3, (perm_cons_facts hp).1⟩

/-- the parts of the state only the gauge side touches stay put -/
def SFrame (s s' : State) : Prop := s'.bank = s.bank ∧ s'.gauges = s.gauges ∧ s'.locks = s.locks ∧ s'.rollapps = s.rollapps

theorem getS_setStream_ne (s : State) (hs : SStruct s) (v : Stream) (hv : ∃ st0, getS s.streams v.id = some st0) (x : Nat) (hx : x ≠ v.id) :
    getS (setStream s v).streams x = getS s.streams x := by
  obtain ⟨st0, h0⟩ := hv
  obtain ⟨h1, _⟩ := getS_some hs.sid h0
  show getS (s.streams.set (v.id - 1) v) x = _
  exact getS_set_ne _ _ _ _ (by rw [Nat.sub_add_cancel h1]; exact hx)

theorem getS_setStream_eq (s : State) (hs : SStruct s) (v : Stream) (hv : ∃ st0, getS s.streams v.id = some st0) :
    getS (setStream s v).streams v.id = some v := by
  obtain ⟨st0, h0⟩ := hv
  obtain ⟨h1, hk, _⟩ := getS_some hs.sid h0
  show getS (s.streams.set (v.id - 1) v) v.id = _
  have := getS_set_eq s.streams (v.id - 1) v hk
  rw [Nat.sub_add_cancel h1] at this; exact this

/-- the value written for a cached stream -/
def finVal (ee : Bool) (st : Stream) : Stream := if ee then st.atEpochEnd else st
/-- the stream leaves the active list -/
def gone (ee : Bool) (st : Stream) : Prop := ee = true ∧ st.atEpochEnd.numEpochs ≤ st.atEpochEnd.filled

theorem atEpochEnd_id (st : Stream) : st.atEpochEnd.id = st.id := by unfold Stream.atEpochEnd; split <;> rfl

theorem finVal_static (ee : Bool) (st : Stream) :
    (finVal ee st).id = st.id ∧ (finVal ee st).coins = st.coins ∧ (finVal ee st).distributed = st.distributed ∧
    (finVal ee st).start = st.start ∧ (finVal ee st).recs = st.recs ∧ (finVal ee st).totalWeight = st.totalWeight := by
  unfold finVal Stream.atEpochEnd
  cases ee
  · exact ⟨rfl, rfl, rfl, rfl, rfl, rfl⟩
  · rw [if_pos rfl]; split <;> exact ⟨rfl, rfl, rfl, rfl, rfl, rfl⟩

/-- saving one cached stream writes `finVal`; at an epoch end a filled stream first leaves the active list -/
theorem saveOne_shape {ee : Bool} {st : Stream} {s s1 : State}
    (h : (if ee then saveStreamEnd st.atEpochEnd s else .ok (setStream s st)) = .ok s1) :
    (¬ gone ee st ∧ s1 = setStream s (finVal ee st)) ∨
    (gone ee st ∧ ∃ a f, Refs.del s.active (finVal ee st).start (finVal ee st).id = some a ∧
      s1 = setStream { s with active := a, finished := f } (finVal ee st)) := by
  unfold gone finVal
  cases ee with
  | false =>
    rw [if_neg Bool.false_ne_true] at h
    exact Or.inl ⟨fun hg => Bool.false_ne_true hg.1, (Except.ok.inj h).symm⟩
  | true =>
    rw [if_pos rfl] at h ⊢
    unfold saveStreamEnd at h
    by_cases hf : st.atEpochEnd.filled ≥ st.atEpochEnd.numEpochs
    · rw [if_pos hf] at h
      cases hd : Refs.del s.active st.atEpochEnd.start st.atEpochEnd.id with
      | none => simp [hd] at h
      | some a =>
        cases hfi : Refs.add s.finished st.atEpochEnd.start st.atEpochEnd.id with
        | none => simp [hd, hfi] at h
        | some f =>
          simp only [hd, hfi, Except.ok.injEq] at h
          exact Or.inr ⟨⟨rfl, hf⟩, a, f, rfl, h.symm⟩
    · rw [if_neg hf] at h
      exact Or.inl ⟨fun hg => hf hg.2, (Except.ok.inj h).symm⟩

/-- what saving the cached stream `st` in state `s` leaves in `s1` -/
structure SavedOne (ee : Bool) (s : State) (st : Stream) (s1 : State) : Prop where
  struct : SStruct s1
  mono : StreamsMono s.streams s1.streams
  len : s1.streams.length = s.streams.length
  others : ∀ x, x ≠ st.id → getS s1.streams x = getS s.streams x
  saved : getS s1.streams st.id = some (finVal ee st)
  active : ∀ x, x ∈ s1.active.ids ↔ x ∈ s.active.ids ∧ (x = st.id → ¬ gone ee st)
  owed : ∀ i, amt st.distributed i ≤ amt st.coins i → owedL s1 i + sExtra s.streams st i ≤ owedL s i

/-- one cached stream is saved: structure and growth, the store exactly, the active list exactly, and what is
    owed falls by what the cached copy distributed beyond the stored one -/
theorem saveOne (ee : Bool) (s : State) (hs : SStruct s) (st : Stream) (hcoh : SCoh s.streams st) (hact : st.id ∈ s.active.ids)
    (s1 : State) (h : (if ee then saveStreamEnd st.atEpochEnd s else .ok (setStream s st)) = .ok s1) :
    SavedOne ee s st s1 := by
  obtain ⟨st0, hget, heq, hdle⟩ := hcoh
  obtain ⟨hvid, hvc, hvd, _⟩ := finVal_static ee st
  have hstc : st.coins = st0.coins := by rw [heq]
  have hex : ∀ i, sExtra s.streams st i = amt st.distributed i - amt st0.distributed i := by
    intro i; unfold sExtra storedDist; rw [hget]
  -- writing `finVal ee st` into a state `sx` with the streams of `s`
  have write : ∀ sx : State, SStruct sx → sx.streams = s.streams →
      SStruct (setStream sx (finVal ee st)) ∧ StreamsMono s.streams (setStream sx (finVal ee st)).streams ∧
      (setStream sx (finVal ee st)).streams.length = s.streams.length ∧
      (∀ x, x ≠ st.id → getS (setStream sx (finVal ee st)).streams x = getS s.streams x) ∧
      getS (setStream sx (finVal ee st)).streams st.id = some (finVal ee st) ∧
      (∀ i, st.id ∈ openIds sx → amt st.distributed i ≤ amt st.coins i →
        owedL (setStream sx (finVal ee st)) i + sExtra s.streams st i = owedL sx i) ∧
      (∀ i, st.id ∉ openIds sx → owedL (setStream sx (finVal ee st)) i = owedL sx i) := by
    intro sx hsx hss
    have hgetx : getS sx.streams (finVal ee st).id = some st0 := by rw [hss, hvid]; exact hget
    obtain ⟨w1, w2, w3, w4⟩ := write_keep sx hsx st0 (finVal ee st) hgetx (by rw [hvc, hstc]) (by intro i; rw [hvd]; exact hdle i)
    rw [hss] at w2
    refine ⟨w1, w2, by rw [← hss]; simp [setStream], ?_, ?_, ?_, fun i ho => w4 i (by rw [hvid]; exact ho)⟩
    · intro x hx
      rw [getS_setStream_ne sx hsx _ ⟨st0, hgetx⟩ x (by rw [hvid]; exact hx), hss]
    · have := getS_setStream_eq sx hsx _ ⟨st0, hgetx⟩
      rw [hvid] at this; exact this
    · intro i ho hno
      have := w3 i (by rw [hvid]; exact ho) (by rw [hvd, hvc]; exact hno)
      rw [hex i, ← hvd]; exact this
  rcases saveOne_shape h with ⟨hng, h⟩ | ⟨hg, a, f, hd, h⟩ <;> rw [h]
  · obtain ⟨p1, p2, p3, p4, p5, p6, _⟩ := write s hs rfl
    refine ⟨p1, p2, p3, p4, p5, fun x => ⟨fun hx => ⟨hx, fun _ => hng⟩, fun hx => hx.1⟩,
      fun i hno => Nat.le_of_eq (p6 i (List.mem_append_left _ hact) hno)⟩
  · rw [hvid] at hd
    obtain ⟨r1, r2, r3, _, r5⟩ := remove_active s hs _ st.id a f hd
    obtain ⟨p1, p2, p3, p4, p5, _, p7⟩ := write { s with active := a, finished := f } r1 rfl
    refine ⟨p1, p2, p3, p4, p5, fun x => ?_, fun i hno => ?_⟩
    · show x ∈ a.ids ↔ _
      rw [r5 x]
      exact ⟨fun ⟨h1, h2⟩ => ⟨h1, fun he => absurd he h2⟩, fun ⟨h1, h2⟩ => ⟨h1, fun he => h2 he hg⟩⟩
    · -- the stream leaves the open set: what it was still owed covers what its copy distributed
      have e3 : termS s.streams st.id i = amt st0.coins i - amt st0.distributed i := by unfold termS; rw [hget]
      have := r2 i
      have := hdle i
      rw [hex i, p7 i r3]
      rw [hstc] at hno
      omega

theorem SCoh_congr {ss ss' : List Stream} {st : Stream} (h : getS ss' st.id = getS ss st.id) (hc : SCoh ss st) : SCoh ss' st := by
  obtain ⟨st0, a, b, c⟩ := hc
  exact ⟨st0, by rw [h]; exact a, b, c⟩

theorem saveStreams_all (ee : Bool) : ∀ (l : List Stream) (s s' : State), SStruct s → (l.map (·.id)).Nodup →
    (∀ st ∈ l, SCoh s.streams st ∧ st.id ∈ s.active.ids) → saveStreams ee l s = .ok s' →
    SStruct s' ∧ StreamsMono s.streams s'.streams ∧ s'.streams.length = s.streams.length ∧
    (∀ x, x ∉ l.map (·.id) → getS s'.streams x = getS s.streams x) ∧
    (∀ st ∈ l, getS s'.streams st.id = some (finVal ee st)) ∧
    (∀ x, x ∈ s'.active.ids ↔ x ∈ s.active.ids ∧ ∀ st ∈ l, st.id = x → ¬ gone ee st) ∧
    (NoOver s'.streams → ∀ i, owedL s' i + sExtras s.streams l i ≤ owedL s i) := by
  intro l
  induction l with
  | nil =>
    intro s s' hs _ _ h
    simp only [saveStreams, Except.ok.injEq] at h
    subst h
    exact ⟨hs, StreamsMono.refl _, rfl, fun _ _ => rfl, by simp, by simp, fun _ i => Nat.le_refl _⟩
  | cons st rest ih =>
    intro s s' hs hnd hall h
    obtain ⟨hn1, hn2⟩ := List.nodup_cons.1 (show (st.id :: rest.map (·.id)).Nodup from hnd)
    have hne : ∀ y ∈ rest, y.id ≠ st.id := fun y hy he => hn1 (by rw [← he]; exact List.mem_map_of_mem (f := (·.id)) hy)
    obtain ⟨hcoh, hact⟩ := hall st List.mem_cons_self
    obtain ⟨s1, hw, hrest⟩ : ∃ s1, (if ee then saveStreamEnd st.atEpochEnd s else .ok (setStream s st)) = .ok s1 ∧
        saveStreams ee rest s1 = .ok s' := by
      unfold saveStreams at h
      cases ee with
      | true =>
        rw [if_pos rfl] at h ⊢
        cases hs1 : saveStreamEnd st.atEpochEnd s with
        | error e => simp [hs1] at h
        | ok s1 => rw [hs1] at h; exact ⟨s1, rfl, h⟩
      | false => rw [if_neg Bool.false_ne_true] at h ⊢; exact ⟨_, rfl, h⟩
    have so := saveOne ee s hs st hcoh hact s1 hw
    have hall' : ∀ y ∈ rest, SCoh s1.streams y ∧ y.id ∈ s1.active.ids := by
      intro y hy
      obtain ⟨c1, c2⟩ := hall y (List.mem_cons_of_mem _ hy)
      exact ⟨SCoh_congr (so.others y.id (hne y hy)) c1, (so.active y.id).2 ⟨c2, fun he => absurd he (hne y hy)⟩⟩
    obtain ⟨b1, b2, b3, b4, b5, b6, b7⟩ := ih s1 s' so.struct hn2 hall' hrest
    refine ⟨b1, StreamsMono.trans so.mono b2, b3.trans so.len, ?_, ?_, ?_, ?_⟩
    · intro x hx
      simp only [List.map_cons, List.mem_cons, not_or] at hx
      rw [b4 x hx.2, so.others x hx.1]
    · intro y hy
      rcases List.mem_cons.1 hy with h1 | h1
      · rw [h1, b4 st.id hn1]; exact so.saved
      · exact b5 y h1
    · intro x
      rw [b6 x, so.active x]
      constructor
      · intro ⟨⟨h1, h2⟩, h3⟩
        refine ⟨h1, fun y hy hyx => ?_⟩
        rcases List.mem_cons.1 hy with h4 | h4
        · rw [h4] at hyx; rw [h4]; exact h2 hyx.symm
        · exact h3 y h4 hyx
      · intro ⟨h1, h2⟩
        exact ⟨⟨h1, fun he => h2 st List.mem_cons_self he.symm⟩, fun y hy hyx => h2 y (List.mem_cons_of_mem _ hy) hyx⟩
    · intro hno i
      have h5 := b7 hno i
      -- the head stream did not over-distribute, because it only grew afterwards
      obtain ⟨hfid, hfc, hfd, _⟩ := finVal_static ee st
      obtain ⟨_, gk, gget, _, _⟩ := getS_some so.struct.sid so.saved
      have gk' : st.id - 1 < s'.streams.length := Nat.lt_of_lt_of_le gk b2.1
      obtain ⟨m1, _, m3⟩ := b2.2 (st.id - 1) gk gk'
      have hfin := hno _ (List.getElem_mem gk') i
      have hhead : amt st.distributed i ≤ amt st.coins i := by
        have := m3 i
        rw [gget] at this m1
        rw [m1, hfc] at hfin
        rw [hfd] at this
        omega
      have h6 := so.owed i hhead
      have hex : sExtras s1.streams rest i = sExtras s.streams rest i := by
        unfold sExtras
        apply congrArg
        apply List.map_congr_left
        intro y hy
        unfold sExtra storedDist
        rw [so.others y.id (hne y hy)]
      rw [hex] at h5
      have : sExtras s.streams (st :: rest) i = sExtra s.streams st i + sExtras s.streams rest i := rfl
      omega

/-! ### the stream lists handed to `Distribute` -/

theorem streamsOf_spec (ss : List Stream) (hid : SidOK ss) : ∀ (ids : List Nat), ids.Nodup →
    ((ids.filterMap (getS ss)).map (·.id)).Nodup ∧
    ∀ st ∈ ids.filterMap (getS ss), getS ss st.id = some st ∧ st.id ∈ ids := by
  intro ids
  induction ids with
  | nil => intro _; simp
  | cons x xs ih =>
    intro hnd
    obtain ⟨h1, h2⟩ := List.nodup_cons.1 hnd
    obtain ⟨i1, i2⟩ := ih h2
    cases hg : getS ss x with
    | none =>
      simp only [List.filterMap_cons, hg]
      exact ⟨i1, fun st hst => ⟨(i2 st hst).1, List.mem_cons_of_mem _ (i2 st hst).2⟩⟩
    | some st0 =>
      simp only [List.filterMap_cons, hg]
      obtain ⟨_, _, _, hid0, _⟩ := getS_some hid hg
      refine ⟨?_, ?_⟩
      · simp only [List.map_cons]
        refine List.nodup_cons.2 ⟨?_, i1⟩
        intro hm
        obtain ⟨y, hy, he⟩ := List.mem_map.1 hm
        have := (i2 y hy).2
        rw [he, hid0] at this
        exact h1 this
      · intro st hst
        rcases List.mem_cons.1 hst with h | h
        · subst h; exact ⟨by rw [hid0]; exact hg, by rw [hid0]; exact List.mem_cons_self⟩
        · exact ⟨(i2 st h).1, List.mem_cons_of_mem _ (i2 st h).2⟩

/-! ### sorting the stream list by id (fix D2) -/

theorem insertById_spec (st : Stream) : ∀ (l : List Stream), ∃ a b, l = a ++ b ∧ insertById st l = a ++ [st] ++ b ∧
    (∀ x ∈ a, x.id < st.id) ∧ (∀ x, b.head? = some x → st.id ≤ x.id) := by
  intro l
  induction l with
  | nil => exact ⟨[], [], rfl, rfl, by simp, by simp⟩
  | cons x xs ih =>
    unfold insertById
    by_cases h : st.id ≤ x.id
    · rw [if_pos h]
      exact ⟨[], x :: xs, rfl, rfl, by simp, by intro y hy; simp at hy; rw [← hy]; exact h⟩
    · rw [if_neg h]
      obtain ⟨a, b, e1, e2, e3, e4⟩ := ih
      refine ⟨x :: a, b, by rw [e1]; rfl, by rw [e2]; rfl, ?_, e4⟩
      intro y hy
      rcases List.mem_cons.1 hy with h1 | h1
      · rw [h1]; omega
      · exact e3 y h1

theorem insertById_perm (st : Stream) (l : List Stream) : (insertById st l).Perm (st :: l) := by
  obtain ⟨a, b, e1, e2, _, _⟩ := insertById_spec st l
  rw [e2, e1, List.append_assoc]
  exact List.perm_middle

theorem sortById_perm (l : List Stream) : (sortById l).Perm l := by
  induction l with
  | nil => exact List.Perm.refl _
  | cons x xs ih => exact (insertById_perm x _).trans (ih.cons x)

theorem mem_insertById (st : Stream) (l : List Stream) (y : Stream) : y ∈ insertById st l ↔ y = st ∨ y ∈ l :=
  (insertById_perm st l).mem_iff.trans List.mem_cons

theorem mem_sortById (l : List Stream) (y : Stream) : y ∈ sortById l ↔ y ∈ l :=
  (sortById_perm l).mem_iff

theorem nodup_sortById (l : List Stream) (hn : (l.map (·.id)).Nodup) : ((sortById l).map (·.id)).Nodup :=
  ((sortById_perm l).map _).nodup_iff.2 hn

/-- the ids of the sorted list are non-decreasing -/
theorem sorted_insertById (st : Stream) (l : List Stream) (hs : (l.map (·.id)).Pairwise (· ≤ ·)) :
    ((insertById st l).map (·.id)).Pairwise (· ≤ ·) := by
  induction l with
  | nil => simp [insertById]
  | cons x xs ih =>
    have hs0 : (x.id :: xs.map (·.id)).Pairwise (· ≤ ·) := hs
    obtain ⟨p1, p2⟩ := List.pairwise_cons.1 hs0
    unfold insertById
    by_cases h : st.id ≤ x.id
    · rw [if_pos h]
      simp only [List.map_cons]
      refine List.pairwise_cons.2 ⟨?_, hs0⟩
      intro y hy
      rcases List.mem_cons.1 hy with h1 | h1
      · rw [h1]; exact h
      · exact Nat.le_trans h (p1 y h1)
    · rw [if_neg h]
      simp only [List.map_cons]
      refine List.pairwise_cons.2 ⟨?_, ih p2⟩
      intro y hy
      obtain ⟨z, hz, he⟩ := List.mem_map.1 hy
      rcases (mem_insertById st xs z).1 hz with h1 | h1
      · rw [← he, h1]; omega
      · exact p1 y (by rw [← he]; exact List.mem_map_of_mem (f := (·.id)) h1)

theorem sorted_sortById (l : List Stream) : ((sortById l).map (·.id)).Pairwise (· ≤ ·) := by
  induction l with
  | nil => simp [sortById]
  | cons x xs ih => unfold sortById; exact sorted_insertById x _ ih

/-- input condition of `Distribute`: distinct exact copies of stored streams that are in the active list -/
def GoodInput (s : State) (l : List Stream) : Prop :=
  (l.map (·.id)).Nodup ∧ ∀ st ∈ l, getS s.streams st.id = some st ∧ st.id ∈ s.active.ids

theorem activeStreams_good (s : State) (hs : SStruct s) : GoodInput s (activeStreams s) := by
  obtain ⟨n1, _, _⟩ := List.nodup_append.1 hs.nodup
  exact streamsOf_spec s.streams hs.sid s.active.ids n1

theorem activeStreamsFor_good (s : State) (hs : SStruct s) (e : Nat) : GoodInput s (activeStreamsFor s e) := by
  obtain ⟨a, b⟩ := activeStreams_good s hs
  unfold activeStreamsFor
  exact ⟨a.sublist ((List.filter_sublist).map _), fun st hst => b st (List.mem_filter.1 hst).1⟩

theorem sortById_good (s : State) (l : List Stream) (h : GoodInput s l) : GoodInput s (sortById l) :=
  ⟨nodup_sortById l h.1, fun st hst => h.2 st ((mem_sortById l st).1 hst)⟩

/-- stream-cache invariant together with "the cache holds the same ids as the input" -/
def SCI2 (ss : List Stream) (ids : List Nat) (c : Caches) : Prop := SCI ss c ∧ c.streams.map (·.id) = ids

theorem rewardsCb_SCI2 (s : State) (ss : List Stream) (ids : List Nat) (c : Caches) (v : SView) (r : Rec) (h : SCI2 ss ids c) :
    SCI2 ss ids (rewardsCb s c v r).1 := by
  obtain ⟨h1, hi⟩ := h
  rcases rewardsCb_shape s c v r with ⟨e, _⟩ | ⟨_, _, _, _, _, _, _, e⟩ | ⟨st, _, _, hs, _, _, e⟩ <;> rw [e]
  · exact ⟨h1, hi⟩
  · exact ⟨h1, hi⟩
  · obtain ⟨a, b⟩ := SCI_bump ss c h1 st (cacheGetStream_some hs).1 _ _
    exact ⟨a, b.trans hi⟩

theorem ptrLoop_SCI2 (s : State) (ss : List Stream) (ids : List Nat) (maxOps : Nat) :
    ∀ (es : List Nat) (total : Nat) (c : Caches) (ps : List Pointer), SCI2 ss ids c →
      SCI2 ss ids (ptrLoop s maxOps es total c ps).2.1 :=
  ptrLoop_inv (SCI2 ss ids) s (rewardsCb_SCI2 s ss ids) maxOps

theorem ptrLoop_SCI (s : State) (ss : List Stream) (maxOps : Nat) :
    ∀ (es : List Nat) (total : Nat) (c : Caches) (ps : List Pointer), SCI ss c →
      SCI ss (ptrLoop s maxOps es total c ps).2.1 :=
  fun es total c ps h => (ptrLoop_SCI2 s ss _ maxOps es total c ps ⟨h, rfl⟩).1

/-- the stream cache of a pass over exact copies of stored streams -/
theorem strPass_SCI2 (s : State) (es : List Nat) (streams : List Stream) (maxOps : Nat) (hin : GoodInput s (sortById streams)) :
    SCI2 s.streams ((sortById streams).map (·.id)) (strPass s es streams maxOps).2.1 := by
  refine ptrLoop_SCI2 s s.streams _ maxOps _ 0 _ s.ptrs
    ⟨⟨hin.1, fun st hst => ⟨st, (hin.2 st hst).1, rfl, fun _ => Nat.le_refl _⟩, fun i => ?_⟩, rfl⟩
  apply sum_zero_of_all_zero
  intro x hx
  obtain ⟨st, hst, he⟩ := List.mem_map.1 hx
  rw [← he]; unfold sExtra storedDist; rw [(hin.2 st hst).1]; exact Nat.sub_self _

theorem SStruct_congr {s s' : State} (h1 : s'.streams = s.streams) (h2 : s'.active = s.active) (h3 : s'.upcoming = s.upcoming)
    (hs : SStruct s) : SStruct s' := by
  have ho : openIds s' = openIds s := by unfold openIds; rw [h2, h3]
  exact ⟨by rw [h1]; exact hs.sid, by rw [ho, h1]; exact hs.valid, by rw [ho]; exact hs.nodup⟩

theorem owedL_congr {s s' : State} (h1 : s'.streams = s.streams) (h2 : s'.active = s.active) (h3 : s'.upcoming = s.upcoming) (i : Nat) :
    owedL s' i = owedL s i := by
  unfold owedL openIds; rw [h1, h2, h3]

def Solv (s : State) : Prop := ∀ i, owedL s i ≤ amt (s.bank.get streamerAddr) i

/-- what one successful x/streamer `Keeper.Distribute` leaves in the stream store, with `c` the caches of its pass:
    structure and growth; streams not handed in stay; the cache holds the streams handed in, and each cached `v` is
    written back as `finVal ee v` and leaves the active list iff `gone`; the streamer account still covers its open
    streams if it did before and no stream has over-distributed afterwards -/
structure PassFacts (s : State) (streams : List Stream) (ee : Bool) (s' : State) (c : Caches) : Prop where
  struct : SStruct s'
  mono : StreamsMono s.streams s'.streams
  len : s'.streams.length = s.streams.length
  others : ∀ x, x ∉ streams.map (·.id) → getS s'.streams x = getS s.streams x
  cached : ∀ v ∈ c.streams, v.id ∈ streams.map (·.id)
  handed : ∀ x ∈ streams.map (·.id), ∃ v ∈ c.streams, v.id = x
  saved : ∀ v ∈ c.streams, getS s'.streams v.id = some (finVal ee v)
  active : ∀ x, x ∈ s'.active.ids ↔ x ∈ s.active.ids ∧ ∀ v ∈ c.streams, v.id = x → ¬ gone ee v
  solv : Solv s → NoOver s'.streams → Solv s'

/-- the transfer, x/incentives `Distribute` on the state with the new pointers (it leaves the stream side alone) and
    the save of the cached streams, put together once -/
theorem strDistribute_pass (s : State) (es : List Nat) (streams : List Stream) (maxOps : Nat) (ee : Bool) (s' : State)
    (hs : SStruct s) (hin : GoodInput s streams) (h : strDistribute s es streams maxOps ee = .ok s') :
    PassFacts s streams ee s' (strPass s es streams maxOps).2.1 := by
  obtain ⟨b, s2, hb, hinc, hsave⟩ := strDistribute_unfold h
  obtain ⟨⟨sc1, sc2, sc3⟩, sc4⟩ := strPass_SCI2 s es streams maxOps (sortById_good s streams hin)
  obtain ⟨hle, hbk⟩ := strTransfer hb
  have hfr := incDistribute_frame _ _ _ _ hinc
  have e1 : s2.streams = s.streams := by rw [hfr]
  have e2 : s2.active = s.active := by rw [hfr]
  have e3 : s2.upcoming = s.upcoming := by rw [hfr]
  have hidmem : ∀ x, x ∈ (strPass s es streams maxOps).2.1.streams.map (·.id) ↔ x ∈ streams.map (·.id) :=
    fun x => by rw [sc4]; exact ((sortById_perm streams).map _).mem_iff
  have hall : ∀ st ∈ (strPass s es streams maxOps).2.1.streams, SCoh s2.streams st ∧ st.id ∈ s2.active.ids := by
    intro st hst
    obtain ⟨y, hy, he⟩ := List.mem_map.1 ((hidmem _).1 (List.mem_map_of_mem (f := (·.id)) hst))
    exact ⟨by rw [e1]; exact sc2 st hst, by rw [e2, ← he]; exact (hin.2 y hy).2⟩
  obtain ⟨q1, q2, q3, q4, q5, q6, q7⟩ := saveStreams_all ee _ s2 s' (SStruct_congr e1 e2 e3 hs) sc1 hall hsave
  refine ⟨q1, by rw [e1] at q2; exact q2, by rw [q3, e1], fun x hx => ?_, fun v hv => ?_, fun x hx => ?_, q5,
    fun x => by rw [q6 x, e2], fun hsol hno i => ?_⟩
  · rw [q4 x (fun hm => hx ((hidmem x).1 hm)), e1]
  · exact (hidmem _).1 (List.mem_map_of_mem (f := (·.id)) hv)
  · obtain ⟨v, hv, he⟩ := List.mem_map.1 ((hidmem x).2 hx)
    exact ⟨v, hv, he⟩
  · -- what is owed falls by what the pass transferred; x/incentives does not debit the streamer account
    have h5 := q7 hno i
    rw [e1, sc3 i, owedL_congr e1 e2 e3 i] at h5
    have h6 : amt (b.get streamerAddr) i ≤ amt (s2.bank.get streamerAddr) i := incDistribute_bank_mono hinc streamerAddr (by decide) i
    rw [hbk streamerAddr i, if_pos rfl] at h6
    have := hsol i
    have := hle i
    have hbank : s'.bank = s2.bank := by rw [saveStreams_frame ee _ hsave]
    rw [hbank]
    omega

/-- x/streamer `Keeper.Distribute`, stream side: streams only grow, and if afterwards no stream has
    over-distributed, the streamer account still covers its open streams -/
theorem strDistribute_streams (s : State) (es : List Nat) (streams : List Stream) (maxOps : Nat) (ee : Bool) (s' : State)
    (hs : SStruct s) (hin : GoodInput s streams)
    (h : strDistribute s es streams maxOps ee = .ok s') :
    SStruct s' ∧ StreamsMono s.streams s'.streams ∧
    ((∀ i, owedL s i ≤ amt (s.bank.get streamerAddr) i) → NoOver s'.streams →
      ∀ i, owedL s' i ≤ amt (s'.bank.get streamerAddr) i) :=
  let p := strDistribute_pass s es streams maxOps ee s' hs hin h
  ⟨p.struct, p.mono, p.solv⟩


/-! ### the stream-side step relation -/

structure SStep (s s' : State) : Prop where
  struct : SStruct s'
  mono : StreamsMono s.streams s'.streams
  solv : Solv s → NoOver s'.streams → Solv s'

theorem SStep.refl {s : State} (hs : SStruct s) : SStep s s := ⟨hs, StreamsMono.refl _, fun h _ => h⟩

theorem SStep.trans {a b c : State} (h1 : SStep a b) (h2 : SStep b c) : SStep a c :=
  ⟨h2.struct, StreamsMono.trans h1.mono h2.mono,
   fun hs hno => h2.solv (h1.solv hs (NoOver_of_mono h2.mono hno)) hno⟩

/-- a change that leaves streams, reference lists and the streamer balance alone (or raises the balance) -/
theorem SStep.of_frame {s s' : State} (hs : SStruct s) (h1 : s'.streams = s.streams) (h2 : s'.active = s.active)
    (h3 : s'.upcoming = s.upcoming) (hb : ∀ i, amt (s.bank.get streamerAddr) i ≤ amt (s'.bank.get streamerAddr) i) : SStep s s' :=
  ⟨SStruct_congr h1 h2 h3 hs, by rw [h1]; exact StreamsMono.refl _,
   fun hsol _ i => by rw [owedL_congr h1 h2 h3 i]; exact Nat.le_trans (hsol i) (hb i)⟩

/-- rewriting a stream without touching its coins or distributed coins -/
theorem write_same (s : State) (hs : SStruct s) (st0 v : Stream) (hget : getS s.streams v.id = some st0)
    (hc : v.coins = st0.coins) (hd : v.distributed = st0.distributed) :
    SStruct (setStream s v) ∧ StreamsMono s.streams (setStream s v).streams ∧ ∀ i, owedL (setStream s v) i = owedL s i := by
  obtain ⟨w1, w2, _, _⟩ := write_keep s hs st0 v hget hc (by intro i; rw [hd]; exact Nat.le_refl _)
  refine ⟨w1, w2, ?_⟩
  intro i
  obtain ⟨h1, hk, hgetk, hid0, _⟩ := getS_some hs.sid hget
  show ((openIds s).map (termS (s.streams.set (v.id - 1) v) · i)).sum = ((openIds s).map (termS s.streams · i)).sum
  apply congrArg
  apply List.map_congr_left
  intro x _
  by_cases hx : x = v.id
  · subst hx
    unfold termS
    have := getS_set_eq s.streams (v.id - 1) v hk
    rw [Nat.sub_add_cancel h1] at this
    rw [this, hget]
    simp only [hc, hd]
  · exact termS_set_ne _ _ _ _ _ (by rw [Nat.sub_add_cancel h1]; exact hx)

/-- an upcoming id becomes active: the open ids are the same up to order -/
theorem move_to_active (s : State) (hs : SStruct s) (t id : Nat) (u a : Refs)
    (hd : Refs.del s.upcoming t id = some u) (ha : Refs.add s.active t id = some a) :
    SStruct { s with upcoming := u, active := a } ∧ ∀ i, owedL { s with upcoming := u, active := a } i = owedL s i := by
  have hp : (a.ids ++ u.ids).Perm (openIds s) :=
    ((Refs.add_perm _ _ _ _ ha).append_right u.ids).trans
      (List.perm_middle.symm.trans ((Refs.del_perm _ _ _ _ hd).symm.append_left s.active.ids))
  exact ⟨⟨hs.sid, fun x hx => hs.valid x (hp.mem_iff.1 hx), hp.nodup_iff.2 hs.nodup⟩,
    fun i => ((hp.map (termS s.streams · i)).sum_nat)⟩

/-- `moveUpcomingStreamToActiveStream` for the due streams of `l`: structure, streams, bank and what is owed stay; only
    ids of `l` become active, no id leaves the active list, no id becomes upcoming -/
theorem activateDue_spec : ∀ (l : List Stream) (s s' : State), SStruct s → activateDue l s = .ok s' →
    SStruct s' ∧ s'.streams = s.streams ∧ s'.bank = s.bank ∧ (∀ i, owedL s' i = owedL s i) ∧
    (∀ x, x ∈ s'.active.ids → x ∈ s.active.ids ∨ ∃ st ∈ l, st.id = x) ∧
    (∀ x, x ∈ s.active.ids → x ∈ s'.active.ids) ∧
    (∀ x, x ∈ s'.upcoming.ids → x ∈ s.upcoming.ids) := by
  intro l
  induction l with
  | nil =>
    intro s s' hs h
    simp only [activateDue, Except.ok.injEq] at h
    subst h
    exact ⟨hs, rfl, rfl, fun _ => rfl, fun x hx => Or.inl hx, fun x hx => hx, fun x hx => hx⟩
  | cons st rest ih =>
    intro s s' hs h
    unfold activateDue at h
    by_cases hc : st.start ≤ s.now
    · rw [if_pos hc] at h
      cases hd : Refs.del s.upcoming st.start st.id with
      | none => simp [hd] at h
      | some u =>
        cases hf : Refs.add s.active st.start st.id with
        | none => simp [hd, hf] at h
        | some a =>
          simp only [hd, hf] at h
          obtain ⟨m1, m2⟩ := move_to_active s hs _ _ u a hd hf
          obtain ⟨r1, r2, r3, r4, r5, r6, r7⟩ := ih _ _ m1 h
          refine ⟨r1, r2, r3, fun i => (r4 i).trans (m2 i), fun x hx => ?_,
            fun x hx => r6 x ((Refs.add_mem hf x).2 (Or.inl hx)), fun x hx => Refs.del_subset hd x (r7 x hx)⟩
          rcases r5 x hx with h1 | ⟨y, hy, hy2⟩
          · rcases (Refs.add_mem hf x).1 h1 with h2 | h2
            · exact Or.inl h2
            · exact Or.inr ⟨st, List.mem_cons_self, h2.symm⟩
          · exact Or.inr ⟨y, List.mem_cons_of_mem _ hy, hy2⟩
    · rw [if_neg hc] at h
      obtain ⟨r1, r2, r3, r4, r5, r6, r7⟩ := ih _ _ hs h
      refine ⟨r1, r2, r3, r4, fun x hx => ?_, r6, r7⟩
      rcases r5 x hx with h1 | ⟨y, hy, hy2⟩
      · exact Or.inl h1
      · exact Or.inr ⟨y, List.mem_cons_of_mem _ hy, hy2⟩

/-- re-reading the sponsorship distribution keeps id, coins, distributed coins, start, epoch, epoch counts and the
    `sponsored` flag -/
theorem retarget_static (st : Stream) (d : List Rec) :
    (st.retarget d).id = st.id ∧ (st.retarget d).coins = st.coins ∧ (st.retarget d).distributed = st.distributed ∧
    (st.retarget d).start = st.start ∧ (st.retarget d).epochId = st.epochId ∧ (st.retarget d).numEpochs = st.numEpochs ∧
    (st.retarget d).filled = st.filled ∧ (st.retarget d).sponsored = st.sponsored := by
  unfold Stream.retarget; split <;> exact ⟨rfl, rfl, rfl, rfl, rfl, rfl, rfl, rfl⟩

/-- the value `UpdateStreamAtEpochStart` writes for a stream whose records are settled (for a sponsored stream:
    after `Stream.retarget`, i.e. `started (st.retarget distr)`) -/
def started (st : Stream) : Stream :=
  { st with epochCoins := Coins.quo (Coins.sub st.coins st.distributed) (st.numEpochs - st.filled),
            ecEmpty := (Coins.sub st.coins st.distributed).isZero }

/-- `UpdateStreamAtEpochStart` for every stream of the list: each is stored as `started` of its re-targeted self (it
    had an epoch left and had not over-distributed), the other streams stay; coins and distributed amounts are not
    touched, so structure and what is owed stay -/
theorem startStreams_all : ∀ (l : List Stream) (s s' : State), SStruct s → (l.map (·.id)).Nodup →
    (∀ st ∈ l, getS s.streams st.id = some st) → startStreams l s = .ok s' →
    SStruct s' ∧ StreamsMono s.streams s'.streams ∧ (∀ i, owedL s' i = owedL s i) ∧
    (∀ x, x ∉ l.map (·.id) → getS s'.streams x = getS s.streams x) ∧
    (∀ st ∈ l, getS s'.streams st.id = some (started (st.retarget s.distr)) ∧ st.numEpochs - st.filled ≠ 0 ∧ ∀ i, amt st.distributed i ≤ amt st.coins i) := by
  intro l
  induction l with
  | nil =>
    intro s s' hs _ _ h
    simp only [startStreams, Except.ok.injEq] at h
    subst h
    exact ⟨hs, StreamsMono.refl _, fun _ => rfl, fun _ _ => rfl, by simp⟩
  | cons st rest ih =>
    intro s s' hs hnd hall h
    have hnd0 : (st.id :: rest.map (·.id)).Nodup := hnd
    obtain ⟨hn1, hn2⟩ := List.nodup_cons.1 hnd0
    unfold startStreams at h
    cases hsub : Coins.sub? st.coins st.distributed with
    | none => simp [hsub] at h
    | some remain =>
      simp only [hsub] at h
      obtain ⟨hr, hle⟩ := sub?_some hsub
      by_cases hre : st.numEpochs - st.filled = 0
      · rw [if_pos hre] at h; simp at h
      · rw [if_neg hre] at h
        have hget := hall st List.mem_cons_self
        obtain ⟨q1, q2, q3, _, _, q6, q7, _⟩ := retarget_static st s.distr
        have hstarted : ({ st.retarget s.distr with epochCoins := Coins.quo remain (st.numEpochs - st.filled), ecEmpty := remain.isZero } : Stream) = started (st.retarget s.distr) := by
          unfold started; simp only [hr, q2, q3, q6, q7]
        rw [hstarted] at h
        have hidst : (started (st.retarget s.distr)).id = st.id := q1
        have hold : ∃ st0, getS s.streams (started (st.retarget s.distr)).id = some st0 := ⟨st, by rw [hidst]; exact hget⟩
        obtain ⟨w1, w2, w3⟩ := write_same s hs st (started (st.retarget s.distr)) (by rw [hidst]; exact hget) q2 q3
        have hall' : ∀ y ∈ rest, getS (setStream s (started (st.retarget s.distr))).streams y.id = some y := by
          intro y hy
          have hne : y.id ≠ st.id := fun he => hn1 (by rw [← he]; exact List.mem_map_of_mem (f := (·.id)) hy)
          rw [getS_setStream_ne s hs _ hold y.id (by rw [hidst]; exact hne)]
          exact hall y (List.mem_cons_of_mem _ hy)
        obtain ⟨r1, r2, r3, r4, r5⟩ := ih _ _ w1 hn2 hall' h
        refine ⟨r1, StreamsMono.trans w2 r2, fun i => (r3 i).trans (w3 i), ?_, ?_⟩
        · intro x hx
          simp only [List.map_cons, List.mem_cons, not_or] at hx
          rw [r4 x hx.2]
          exact getS_setStream_ne s hs _ hold x (by rw [hidst]; exact hx.1)
        · intro y hy
          rcases List.mem_cons.1 hy with h1 | h1
          · rw [h1]
            refine ⟨?_, hre, hle⟩
            rw [r4 st.id hn1]
            have := getS_setStream_eq s hs _ hold
            rw [hidst] at this; exact this
          · exact r5 y h1

theorem startStreams_exact : ∀ (l : List Stream) (s s' : State), SStruct s → (l.map (·.id)).Nodup →
    (∀ st ∈ l, getS s.streams st.id = some st) → startStreams l s = .ok s' →
    s'.ptrs = s.ptrs ∧ s'.active = s.active ∧ s'.now = s.now ∧
    (∀ x, x ∉ l.map (·.id) → getS s'.streams x = getS s.streams x) ∧
    s'.distr = s.distr ∧
    (∀ st ∈ l, getS s'.streams st.id = some (started (st.retarget s.distr)) ∧ st.numEpochs - st.filled ≠ 0 ∧ ∀ i, amt st.distributed i ≤ amt st.coins i) :=
  fun l s s' hs hnd hall h =>
    let ⟨_, _, _, a, b⟩ := startStreams_all l s s' hs hnd hall h
    have hf := (startStreams_frame l h).1
    ⟨by rw [hf], by rw [hf], by rw [hf], a, by rw [hf], b⟩

theorem streamerBeforeEpochStart_sstep (s : State) (e : Nat) (s' : State) (hs : SStruct s)
    (h : streamerBeforeEpochStart s e = .ok s') : SStep s s' := by
  obtain ⟨s1, ha, h⟩ := streamerBeforeEpochStart_unfold h
  obtain ⟨a1, a2, a3, a4, _⟩ := activateDue_spec _ _ _ hs ha
  obtain ⟨gi1, gi2⟩ := activeStreamsFor_good s1 a1 e
  obtain ⟨b1, b2, b4, _⟩ := startStreams_all _ _ _ a1 gi1 (fun st hst => (gi2 st hst).1) h
  refine ⟨b1, by rw [a2] at b2; exact b2, ?_⟩
  intro hsol _ i
  rw [b4 i, a4 i, (startStreams_frame _ h).1, a3]; exact hsol i

theorem streamerAfterEpochEnd_sstep (s : State) (e : Nat) (s' : State) (hs : SStruct s)
    (h : streamerAfterEpochEnd s e = .ok s') : SStep s s' := by
  rcases streamerAfterEpochEnd_unfold h with h | ⟨s1, hd, h⟩ <;> rw [h]
  · exact SStep.refl hs
  · obtain ⟨a, b, c⟩ := strDistribute_streams _ _ _ _ _ _ hs (activeStreamsFor_good s hs e) hd
    exact SStep.trans ⟨a, b, c⟩ (SStep.of_frame a rfl rfl rfl (fun _ => Nat.le_refl _))

theorem incAfterEpochEnd_sstep (s : State) (e : Nat) (s' : State) (hs : SStruct s)
    (h : incAfterEpochEnd s e = .ok s') : SStep s s' := by
  rcases incAfterEpochEnd_unfold h with h | ⟨f, s2, _, hd, h⟩
  · rw [h]; exact SStep.refl hs
  · have e2 := incDistribute_frame _ _ _ _ hd
    rw [h, checkFinished_frame2]
    exact SStep.of_frame hs (by rw [e2]) (by rw [e2]) (by rw [e2])
      (fun i => incDistribute_bank_mono hd streamerAddr (by decide) i)

/-! ### blocks -/

/-- a change of fields the stream side does not read -/
theorem SStep.frame {s0 s s' : State} (h : SStep s0 s) (h1 : s'.streams = s.streams) (h2 : s'.active = s.active)
    (h3 : s'.upcoming = s.upcoming) (h4 : s'.bank = s.bank) : SStep s0 s' :=
  SStep.trans h (SStep.of_frame h.struct h1 h2 h3 (fun _ => by rw [h4]; exact Nat.le_refl _))

theorem epochTick_sstep (s : State) (e : Nat) (hs : SStruct s) : SStep s (epochTick s e) :=
  epochTick_ind (SStep s) e
    (fun _ _ hx => hx.frame rfl rfl rfl rfl)
    (fun _ hx => applyHook_ind hx (fun _ h => hx.trans (streamerBeforeEpochStart_sstep _ _ _ hx.struct h)))
    (fun _ hx => applyHook_ind hx (fun _ h => hx.trans (streamerAfterEpochEnd_sstep _ _ _ hx.struct h)))
    (fun _ hx => applyHook_ind hx (fun _ h => hx.trans (incAfterEpochEnd_sstep _ _ _ hx.struct h)))
    s (SStep.refl hs)

theorem beginBlock_sstep (s : State) (dt : Nat) (hs : SStruct s) : SStep s (beginBlock s dt) :=
  beginBlock_ind (SStep s) (fun _ _ hx => hx.frame rfl rfl rfl rfl)
    (fun x e hx => hx.trans (epochTick_sstep x e hx.struct)) s dt (SStep.refl hs)

/-! ### proposals -/

theorem sum_sub_pointwise {α : Type} (c d : α → Nat) (l : List α) (h : ∀ x ∈ l, d x ≤ c x) :
    (l.map (fun x => c x - d x)).sum = (l.map c).sum - (l.map d).sum ∧ (l.map d).sum ≤ (l.map c).sum := by
  induction l with
  | nil => simp
  | cons x xs ih =>
    obtain ⟨i1, i2⟩ := ih (fun y hy => h y (List.mem_cons_of_mem _ hy))
    have := h x List.mem_cons_self
    simp only [List.map_cons, List.sum_cons]
    omega

/-- `getToDistributeCoinsFromStreams` when no stream of the list has over-distributed -/
theorem toDistribute_amt (l : List Stream) (r : Coins) (h : toDistribute l = some r)
    (hno : ∀ st ∈ l, ∀ i, amt st.distributed i ≤ amt st.coins i) (i : Nat) :
    amt r i = (l.map (fun st => amt st.coins i - amt st.distributed i)).sum := by
  unfold toDistribute at h
  obtain ⟨hr, _⟩ := sub?_some h
  rw [hr, amt_sub, amt_sumList_map, amt_sumList_map]
  exact ((sum_sub_pointwise (fun st => amt st.coins i) (fun st => amt st.distributed i) l (fun st hst => hno st hst i)).1).symm

theorem filterMap_sum (ss : List Stream) (g : Stream → Nat) (ids : List Nat) :
    ((ids.filterMap (getS ss)).map g).sum =
      (ids.map (fun id => match getS ss id with | some st => g st | none => 0)).sum := by
  induction ids with
  | nil => simp
  | cons x xs ih =>
    cases hg : getS ss x with
    | none => simp only [List.filterMap_cons, hg, List.map_cons, List.sum_cons, ih]; omega
    | some st => simp only [List.filterMap_cons, hg, List.map_cons, List.sum_cons, ih]

theorem mem_streamsOf {ss : List Stream} {ids : List Nat} {st : Stream} (h : st ∈ ids.filterMap (getS ss)) : st ∈ ss := by
  obtain ⟨id, _, hg⟩ := List.mem_filterMap.1 h
  unfold getS at hg
  split at hg
  · simp at hg
  · exact List.mem_of_getElem? hg

/-- the allocation computed by `GetModuleToDistributeCoins` is exactly what is owed to open streams -/
theorem moduleToDistribute_amt (s : State) (alloc : Coins) (h : moduleToDistribute s = some alloc) (hno : NoOver s.streams) (i : Nat) :
    amt alloc i = owedL s i := by
  unfold moduleToDistribute at h
  cases ha : toDistribute (activeStreams s) with
  | none => simp [ha] at h
  | some a =>
    cases hu : toDistribute (upcomingStreams s) with
    | none => simp [ha, hu] at h
    | some u =>
      simp only [ha, hu, Option.some.injEq] at h
      subst h
      have e1 := toDistribute_amt _ _ ha (fun st hst => hno st (mem_streamsOf hst)) i
      have e2 := toDistribute_amt _ _ hu (fun st hst => hno st (mem_streamsOf hst)) i
      rw [amt_add, e1, e2]
      unfold owedL openIds activeStreams upcomingStreams streamsOf
      simp only [List.map_append, List.sum_append]
      have f1 := filterMap_sum s.streams (fun st => amt st.coins i - amt st.distributed i) s.active.ids
      have f2 := filterMap_sum s.streams (fun st => amt st.coins i - amt st.distributed i) s.upcoming.ids
      have hg : getStream s = getS s.streams := rfl
      rw [hg, f1, f2]
      rfl

theorem getS_append_old (ss : List Stream) (v : Stream) (id : Nat) (h : id ≤ ss.length) : getS (ss ++ [v]) id = getS ss id := by
  unfold getS
  by_cases h0 : id = 0
  · simp [h0]
  · simp only [h0, if_false]
    rw [List.getElem?_append_left (by omega)]

theorem getS_append_new (ss : List Stream) (v : Stream) : getS (ss ++ [v]) (ss.length + 1) = some v := by
  unfold getS
  simp

theorem createStream_sstep (s : State) (hs : SStruct s) (sp : Bool) (c : Coins) (rs0 : List Rec) (st e n : Nat) :
    SStep s (createStream s sp c rs0 st e n).2 := by
  rcases createStream_cases s sp c rs0 st e n with h | ⟨alloc, free, u, start', _, _, hm, hf, hle, hadd, h⟩ <;> rw [h]
  · exact SStep.refl hs
  have hnew : s.streams.length + 1 ∉ openIds s := fun hx => by have := (hs.valid _ hx).2; omega
  generalize hv : newStream s sp c (if sp then s.distr else rs0) start' e n = v
  have hvid : v.id = s.streams.length + 1 := by rw [← hv]; rfl
  have hvc : amt v.coins = amt c ∧ v.distributed = [] := by rw [← hv]; exact ⟨rfl, rfl⟩
  -- the open ids gain the new id
  have hp : (openIds { s with streams := s.streams ++ [v], upcoming := u }).Perm ((s.streams.length + 1) :: openIds s) :=
    ((Refs.add_perm _ _ _ _ hadd).append_left s.active.ids).trans List.perm_middle
  refine ⟨⟨?_, ?_, hp.nodup_iff.2 (List.nodup_cons.2 ⟨hnew, hs.nodup⟩)⟩, StreamsMono_append _ _, ?_⟩
  · intro k hk
    simp only [List.length_append, List.length_singleton] at hk
    by_cases h : k < s.streams.length
    · simp only [List.getElem_append_left h]; exact hs.sid k h
    · have : k = s.streams.length := by omega
      subst this; simp [hvid]
  · intro x hx
    simp only [List.length_append, List.length_singleton]
    rcases List.mem_cons.1 (hp.mem_iff.1 hx) with h | h
    · omega
    · have := hs.valid x h; omega
  · -- the new stream is owed its coins, which fit into what the account holds beyond the old allocation
    intro hsol hno i
    have ha := moduleToDistribute_amt s alloc hm (NoOver_of_mono (StreamsMono_append s.streams v) hno) i
    obtain ⟨hfr, hale⟩ := sub?_some hf
    have hci := (le_iff c free).1 hle i
    rw [hfr, amt_sub] at hci
    have hold : ((openIds s).map (termS (s.streams ++ [v]) · i)).sum = owedL s i :=
      congrArg List.sum (List.map_congr_left (fun x hx => by
        unfold termS; rw [getS_append_old _ _ _ (hs.valid x hx).2]))
    have hnewt : termS (s.streams ++ [v]) (s.streams.length + 1) i = amt c i := by
      unfold termS; rw [getS_append_new]; simp [hvc.1, hvc.2]
    have := hale i
    show ((openIds { s with streams := s.streams ++ [v], upcoming := u }).map (termS (s.streams ++ [v]) · i)).sum ≤
      amt (s.bank.get streamerAddr) i
    rw [(hp.map _).sum_nat, List.map_cons, List.sum_cons, hold, hnewt]
    omega

theorem moveToFinished_sstep (s : State) (hs : SStruct s) (b : Bool) (st : Stream) (s' : State)
    (h : moveToFinished s b st = some s') : SStep s s' := by
  obtain ⟨r, f, hd, _, h⟩ := moveToFinished_shape h
  cases b with
  | true =>
    rw [h, if_pos rfl]; rw [if_pos rfl] at hd
    obtain ⟨r1, r2, _⟩ := remove_active s hs _ _ r f hd
    exact ⟨r1, StreamsMono.refl _, fun hsol _ i => by have := r2 i; have := hsol i; show owedL _ i ≤ amt (s.bank.get streamerAddr) i; omega⟩
  | false =>
    rw [h, if_neg Bool.false_ne_true]; rw [if_neg Bool.false_ne_true] at hd
    obtain ⟨r1, r2, _⟩ := remove_upcoming s hs _ _ r hd
    exact SStep.frame ⟨r1, StreamsMono.refl _, fun hsol _ i => by have := r2 i; have := hsol i; show owedL _ i ≤ amt (s.bank.get streamerAddr) i; omega⟩
      rfl rfl rfl rfl

/-- new records and total weight for a stored stream: what it is owed does not change -/
theorem retarget_sstep (s : State) (hs : SStruct s) {id : Nat} {st : Stream} (hg : getStream s id = some st) (rs : List Rec) (w : Nat) :
    SStep s (setStream s { st with recs := rs, totalWeight := w }) := by
  obtain ⟨_, _, _, hid, _⟩ := getS_some hs.sid hg
  obtain ⟨w1, w2, w3⟩ := write_same s hs st { st with recs := rs, totalWeight := w } (by rw [hid]; exact hg) rfl rfl
  exact ⟨w1, w2, fun hsol _ i => by rw [w3 i]; exact hsol i⟩

/-! ### operations, steps and histories -/

/-- the streamer module account does not create or top up gauges by message; the sponsorship distribution handed in lists its
    gauges in strictly ascending id order (x/sponsorship keeps it so: `Distribution.Merge`) -/
def Op.wfS : Op → Prop
  | .createGauge o _ _ _ _ _ _ _ => o ≠ streamerAddr
  | .addToGauge o _ _ => o ≠ streamerAddr
  | .distribution rs => (rs.map (·.gauge)).Pairwise (· < ·)
  | _ => True

instance (op : Op) : Decidable op.wfS := by
  cases op <;> (unfold Op.wfS; infer_instance)

/-- a payment into the incentives account does not lower the streamer's balance unless the streamer pays
    something itself -/
theorem send_streamer_le {b b' : Bank} {o : Nat} {c : Coins} (h : b.send o incAddr c = some b') (h1 : o ≠ incAddr)
    (h2 : o ≠ streamerAddr ∨ c = []) (i : Nat) : amt (b.get streamerAddr) i ≤ amt (b'.get streamerAddr) i := by
  have := (Bank.send_some h h1).2 streamerAddr i
  rcases h2 with h2 | h2
  · rw [if_neg (fun x => h2 x.symm), if_neg (by decide)] at this
    exact Nat.le_of_eq this.symm
  · subst h2
    by_cases ho : streamerAddr = o
    · rw [if_pos ho, ← ho] at this; exact Nat.le_of_eq this.symm
    · rw [if_neg ho, if_neg (by decide)] at this; exact Nat.le_of_eq this.symm

theorem createGauge_sstep (s : State) (hs : SStruct s) (o : Nat) (hw : o ≠ incAddr) (p : Bool) (d du : Nat) (hsup : Bool)
    (c : Coins) (h2 : o ≠ streamerAddr ∨ c = []) (st n : Nat) : SStep s (createGauge s o p d du hsup c st n).2 := by
  rcases createGauge_shape s o p d du hsup c st n with h | ⟨b, hsend, h⟩ <;> rw [h]
  · exact SStep.refl hs
  · exact SStep.of_frame hs rfl rfl rfl (send_streamer_le hsend hw h2)

theorem step_sstep (s : State) (op : Op) (hs : SStruct s) (hw : op.wf) (hw2 : op.wfS) : SStep s (step s op).2 := by
  have frame : ∀ s' : State, s'.streams = s.streams → s'.active = s.active → s'.upcoming = s.upcoming → s'.bank = s.bank → SStep s s' :=
    fun _ h1 h2 h3 h4 => (SStep.refl hs).frame h1 h2 h3 h4
  unfold step
  by_cases hh : s.halted = true
  · rw [if_pos hh]; exact SStep.refl hs
  rw [if_neg hh]
  cases op with
  | begin dt => exact beginBlock_sstep s dt hs
  | end_ =>
    dsimp only
    cases h : streamerEndBlock s with
    | ok s' =>
      obtain ⟨a, b, c⟩ := strDistribute_streams _ _ _ _ _ _ hs (activeStreams_good s hs) h
      exact ⟨a, b, c⟩
    | error e => exact frame _ rfl rfl rfl rfl
  | setMaxIter n => exact frame _ rfl rfl rfl rfl
  | fund a c =>
    refine SStep.of_frame (s' := { s with bank := s.bank.credit a c }) hs rfl rfl rfl (fun i => ?_)
    show _ ≤ amt ((s.bank.credit a c).get streamerAddr) i
    rw [Bank.get_credit]
    by_cases hh : streamerAddr = a
    · rw [if_pos hh, ← hh]; omega
    · rw [if_neg hh]; omega
  | locks ls => exact frame _ rfl rfl rfl rfl
  | rollapp r o l => exact frame _ rfl rfl rfl rfl
  | rollappGauge r =>
    rcases createRollappGauge_shape s r with h | h <;> dsimp only <;> rw [h]
    · exact SStep.refl hs
    · exact frame _ rfl rfl rfl rfl
  | createGauge o p d du hsup c st n => exact createGauge_sstep s hs o hw p d du hsup c (Or.inl hw2) st n
  | addToGauge o gid c =>
    rcases addToGauge_shape s o gid c with h | ⟨g, b, _, hsend, h⟩ <;> dsimp only <;> rw [h]
    · exact SStep.refl hs
    · exact SStep.of_frame (s' := setGauge { s with bank := b } { g with coins := Coins.add g.coins c }) hs rfl rfl rfl
        (send_streamer_le hsend hw (Or.inl hw2))
  | createStream sp c rs st e n => exact createStream_sstep s hs sp c rs st e n
  | terminateStream id =>
    rcases terminateStream_shape s id with h | ⟨_, _, _, h⟩
    · dsimp only; rw [h]; exact SStep.refl hs
    · exact moveToFinished_sstep _ hs _ _ _ h
  | replaceDistr id rs =>
    rcases replaceDistr_shape s id rs with h | ⟨_, _, hg', h⟩ <;> dsimp only <;> rw [h]
    · exact SStep.refl hs
    · exact retarget_sstep s hs hg' _ _
  | updateDistr id rs =>
    rcases updateDistr_shape s id rs with h | ⟨_, _, hg', h⟩ <;> dsimp only <;> rw [h]
    · exact SStep.refl hs
    · exact retarget_sstep s hs hg' _ _
  | distribution rs => exact frame _ rfl rfl rfl rfl
  | poolGauges d hsup =>
    exact poolGaugesLoop_ind (SStep s) d hsup
      (fun x dur hx => SStep.trans hx (createGauge_sstep x hx.struct streamerAddr (by decide) true d dur hsup [] (Or.inr rfl) x.now 1))
      lockableDurations s (SStep.refl hs)

/-- along every history: the structural invariant holds and streams only grow -/
theorem run_struct_mono : ∀ (ops : List Op) (s : State), SStruct s → (∀ op ∈ ops, op.wf ∧ op.wfS) →
    SStruct (run s ops) ∧ StreamsMono s.streams (run s ops).streams := by
  intro ops
  induction ops with
  | nil => intro s hs _; exact ⟨hs, StreamsMono.refl _⟩
  | cons op rest ih =>
    intro s hs hw
    unfold run
    obtain ⟨w1, w2⟩ := hw op List.mem_cons_self
    have st := step_sstep s op hs w1 w2
    obtain ⟨a, b⟩ := ih _ st.struct (fun o ho => hw o (List.mem_cons_of_mem _ ho))
    exact ⟨a, StreamsMono.trans st.mono b⟩

/-- **if at the end no stream has handed out more than its coins, the streamer account covers all open streams** -/
theorem run_solvent : ∀ (ops : List Op) (s : State), SStruct s → Solv s → (∀ op ∈ ops, op.wf ∧ op.wfS) →
    NoOver (run s ops).streams → Solv (run s ops) := by
  intro ops
  induction ops with
  | nil => intro s _ h _ _; exact h
  | cons op rest ih =>
    intro s hs hsol hw hno
    unfold run at hno ⊢
    obtain ⟨w1, w2⟩ := hw op List.mem_cons_self
    have st := step_sstep s op hs w1 w2
    have hw' : ∀ o ∈ rest, o.wf ∧ o.wfS := fun o ho => hw o (List.mem_cons_of_mem _ ho)
    obtain ⟨_, m⟩ := run_struct_mono rest _ st.struct hw'
    exact ih _ st.struct (st.solv hsol (NoOver_of_mono m hno)) hw' hno

theorem init_sstruct (now mi : Nat) : SStruct (init now mi) :=
  ⟨by intro k hk; simp [init] at hk, by intro id hid; simp [init, openIds, Refs.ids] at hid, by simp [init, openIds, Refs.ids]⟩

theorem init_solv (now mi : Nat) : Solv (init now mi) := by
  intro i; simp [init, owedL, openIds, Refs.ids]

end DymVerif.Incent
