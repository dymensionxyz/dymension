/-
  Lemmas/CoreCustody2 — the sequencer module account holds exactly the sum of all recorded bonds (`Cust`, with the
  address-uniqueness it needs): custody through every message handler.
-/
import DymVerif.Lemmas.CoreFlags
namespace DymVerif.Core

-- ---------------------------------------------------------------- lists with distinct keys

/-- a relation that holds pairwise between the keys of a list depends on the list of keys only -/
theorem pairwise_key_congr {α κ} (k : α → κ) (R : κ → κ → Prop) {l l' : List α}
    (h : l.Pairwise (fun a b => R (k a) (k b))) (e : l'.map k = l.map k) : l'.Pairwise (fun a b => R (k a) (k b)) := by
  have h1 : (l.map k).Pairwise R := List.pairwise_map.2 h
  rw [← e] at h1
  exact List.pairwise_map.1 h1

theorem eq_of_key_eq {α} (key : α → Nat) {l : List α} (h : l.Pairwise (fun a b => key a ≠ key b)) {x y : α}
    (hx : x ∈ l) (hy : y ∈ l) (e : key x = key y) : x = y := by
  induction l with
  | nil => cases hx
  | cons a as ih =>
    have hp := List.pairwise_cons.1 h
    rcases List.mem_cons.1 hx with h1 | h1 <;> rcases List.mem_cons.1 hy with h2 | h2
    · rw [h1, h2]
    · subst h1; exact absurd e (hp.1 y h2)
    · subst h2; exact absurd e.symm (hp.1 x h1)
    · exact ih hp.2 h1 h2

theorem pairwise_ne_insertSorted {α} (key : α → Nat) (l : List α) (x : α) (hn : l.Pairwise (fun a b => key a ≠ key b))
    (h : ∀ y ∈ l, key y ≠ key x) :
    (insertSorted (fun a b => decide (key a < key b)) x l).Pairwise (fun a b => key a ≠ key b) := by
  induction l with
  | nil => simp [insertSorted]
  | cons a as ih =>
    have hp := List.pairwise_cons.1 hn
    have ha : key a ≠ key x := h a (by simp)
    unfold insertSorted
    by_cases h1 : key x < key a
    · simp only [h1, decide_true, if_true]
      apply List.pairwise_cons.2
      refine ⟨?_, hn⟩
      intro y hy; exact fun e => h y hy e.symm
    · have h2 : key a < key x := Nat.lt_of_le_of_ne (Nat.le_of_not_lt h1) ha
      simp only [h1, h2, decide_false, decide_true, Bool.false_eq_true, if_false, if_true]
      apply List.pairwise_cons.2
      refine ⟨?_, ih hp.2 (fun y hy => h y (by simp [hy]))⟩
      intro y hy
      rcases insertSorted_mem _ _ _ _ hy with h3 | h3
      · subst h3; exact ha
      · exact hp.1 y h3

/-- the sum of the recorded bonds -/
def tokSum (l : List Seq) : Nat := (l.map (·.tokens)).sum

/-- distinct sequencer records have distinct addresses -/
def AddrNodup (l : List Seq) : Prop := l.Pairwise (fun a b => a.addr ≠ b.addr)

/-- custody: one record per address, and the sequencer module account holds exactly the sum of the recorded bonds -/
structure Cust (s : St) : Prop where
  nodup : AddrNodup s.seqs
  bal : s.modBal = tokSum s.seqs

theorem AddrNodup.eq_of_mem {l : List Seq} (h : AddrNodup l) {x y : Seq} (hx : x ∈ l) (hy : y ∈ l)
    (e : x.addr = y.addr) : x = y := eq_of_key_eq (fun q : Seq => q.addr) h hx hy e

/-- replacing the record of address `q.addr` by `q` changes the token sum by the difference -/
theorem tokSum_replace (l : List Seq) (h : AddrNodup l) (q0 q : Seq) (hq0 : q0 ∈ l) (ha : q.addr = q0.addr) :
    tokSum (l.map (fun x => if x.addr == q.addr then q else x)) + q0.tokens = tokSum l + q.tokens := by
  induction l with
  | nil => cases hq0
  | cons a as ih =>
    have hp := List.pairwise_cons.1 h
    simp only [List.map_cons, tokSum, List.sum_cons] at *
    rcases List.mem_cons.1 hq0 with h1 | h1
    · subst h1
      have hrest : as.map (fun x => if x.addr == q.addr then q else x) = as := by
        have : as.map (fun x => if x.addr == q.addr then q else x) = as.map id := by
          apply List.map_congr_left
          intro x hx
          have : x.addr ≠ q0.addr := fun e => hp.1 x hx e.symm
          simp [ha, this]
        simpa using this
      simp only [ha, beq_self_eq_true, if_true]
      rw [show (List.map (fun x => if x.addr == q0.addr then q else x) as) = as by simpa [ha] using hrest]
      omega
    · have hne : a.addr ≠ q0.addr := fun e => hp.1 q0 h1 e
      have := ih hp.2 h1
      simp only [ha] at this ⊢
      simp only [show (a.addr == q0.addr) = false by simp [hne]]
      simp only [Bool.false_eq_true, if_false]
      omega

theorem addrs_replace (l : List Seq) (q : Seq) :
    (l.map (fun x => if x.addr == q.addr then q else x)).map (·.addr) = l.map (·.addr) := by
  induction l with
  | nil => rfl
  | cons a as ih =>
    simp only [List.map_cons, ih]
    by_cases h : (a.addr == q.addr) = true
    · simp [h]; exact (by simpa using h : a.addr = q.addr).symm
    · simp [h]

theorem AddrNodup.of_addrs_eq {l l' : List Seq} (h : AddrNodup l) (e : l'.map (·.addr) = l.map (·.addr)) : AddrNodup l' :=
  pairwise_key_congr (fun q : Seq => q.addr) (· ≠ ·) h e

/-- writing back a record whose tokens are unchanged keeps custody -/
theorem Cust.setSeq_same {s : St} {a : Addr} {q0 q : Seq} (h : Cust s) (hg : getSeq s a = some q0)
    (ha : q.addr = a) (ht : q.tokens = q0.tokens) : Cust (setSeq s q) := by
  have hq0a := getSeq_addr hg
  constructor
  · exact h.nodup.of_addrs_eq (addrs_replace s.seqs q)
  · have := tokSum_replace s.seqs h.nodup q0 q (getSeq_mem hg) (by rw [ha, hq0a])
    show s.modBal = tokSum (s.seqs.map (fun x => if x.addr == q.addr then q else x))
    rw [h.bal]; omega

/-- writing back a record after the module balance moved by the same amount -/
theorem Cust.setSeq_moved {s s1 : St} {a : Addr} {q0 q1 : Seq} (h : Cust s) (hg : getSeq s a = some q0)
    (hs : s1.seqs = s.seqs) (ha : q1.addr = a) (hm : s1.modBal + q0.tokens = s.modBal + q1.tokens) :
    Cust (setSeq s1 q1) := by
  have hq0a := getSeq_addr hg
  constructor
  · show AddrNodup ((s1.seqs).map (fun x => if x.addr == q1.addr then q1 else x))
    rw [hs]; exact h.nodup.of_addrs_eq (addrs_replace s.seqs q1)
  · have := tokSum_replace s.seqs h.nodup q0 q1 (getSeq_mem hg) (by rw [ha, hq0a])
    show s1.modBal = tokSum (s1.seqs.map (fun x => if x.addr == q1.addr then q1 else x))
    rw [hs]; have := h.bal; omega

theorem Cust.of_eq {s s' : St} (h : Cust s) (e1 : s'.seqs = s.seqs) (e2 : s'.modBal = s.modBal) : Cust s' :=
  ⟨e1 ▸ h.nodup, by rw [e2, e1]; exact h.bal⟩

theorem optOutAll_cust {s : St} {ra : Nat} (h : Cust s) : Cust (optOutAll s ra) := by
  have ha : ∀ x : Seq, (if x.rollapp == ra then { x with optedIn := false } else x).addr = x.addr := by
    intro x; split <;> rfl
  have ht : ∀ x : Seq, (if x.rollapp == ra then { x with optedIn := false } else x).tokens = x.tokens := by
    intro x; split <;> rfl
  unfold optOutAll
  constructor
  · apply h.nodup.of_addrs_eq
    dsimp only
    rw [List.map_map]; apply List.map_congr_left; intro x _; exact ha x
  · dsimp only
    rw [h.bal]; unfold tokSum; rw [List.map_map]; congr 1
    apply List.map_congr_left; intro x _; exact (ht x).symm

theorem abruptRemoveProposer_cust {s : St} {ra : Nat} (h : Cust s) : Cust (abruptRemoveProposer s ra) := by
  rcases abruptRemoveProposer_cases s ra with e | ⟨r, a, q, _, _, hg, e⟩
  · rw [e]; exact h
  rw [e]
  have h1 : Cust (removeFromNoticeQueue s q) := h.of_eq (removeFromNoticeQueue_seqs s q).1 (removeFromNoticeQueue_seqs s q).2
  have hg1 : getSeq (removeFromNoticeQueue s q) a = some q := by
    rw [getSeq_congr (removeFromNoticeQueue_seqs s q).1]; exact hg
  have h2 := h1.setSeq_same hg1 (q := { q with bonded := false }) (show q.addr = a from getSeq_addr hg) rfl
  exact h2.of_eq (setProposer_seqs _ _ _).1 (setProposer_seqs _ _ _).2

theorem seqOnHardFork_cust {s : St} {ra : Nat} (h : Cust s) : Cust (seqOnHardFork s ra) := by
  unfold seqOnHardFork
  exact (abruptRemoveProposer_cust (optOutAll_cust h)).of_eq (setSuccessor_seqs _ _ _).1 (setSuccessor_seqs _ _ _).2

theorem hardFork_cust {s s' : St} {ra lv : Nat} (h : Cust s) (e : hardFork s ra lv = .ok s') : Cust s' := by
  obtain ⟨r, keep, kst, _, _, _, _, _, rfl⟩ := hardFork_ok e
  exact seqOnHardFork_cust (h.of_eq rfl rfl)

theorem hardForkToLatest_cust {s s' : St} {ra : Nat} (h : Cust s) (e : hardForkToLatest s ra = .ok s') : Cust s' := by
  obtain ⟨r, lh, _, _, e'⟩ := hardForkToLatest_ok e
  exact hardFork_cust h e'

theorem onProposerLastBlock_cust {s s' : St} {q : Seq} (h : Cust s) (e : onProposerLastBlock s q = .ok s') : Cust s' := by
  obtain ⟨_, r, s1, _, rfl, hc⟩ := onProposerLastBlock_ok e
  rcases hc with ⟨_, e'⟩ | ⟨a, _, rfl⟩
  · exact hardForkToLatest_cust (show Cust (setRa s _) from h.of_eq rfl rfl) e'
  · exact h.of_eq (afterSetRealProposer_seqs _ _ _).1 (afterSetRealProposer_seqs _ _ _).2

theorem seqAfterUpdate_cust {s s' : St} {m : UpdMsg} {b : Bool} (h : Cust s) (e : seqAfterUpdate s m b = .ok s') : Cust s' := by
  obtain ⟨prop, prop1, hg, rfl, hc⟩ := seqAfterUpdate_ok e
  have h1 : Cust (setSeq s { prop with dishonor := prop.dishonor - min s.sqp.dishonorSU prop.dishonor }) :=
    h.setSeq_same hg (show prop.addr = m.sender from getSeq_addr hg) rfl
  rcases hc with ⟨_, rfl⟩ | ⟨_, e'⟩
  · exact h1
  · exact onProposerLastBlock_cust h1 e'

theorem updateState_cust {s s' : St} {m : UpdMsg} (h : Cust s) (e : updateState s m = .ok s') : Cust s' := by
  obtain ⟨r, s3, s4, r4, _, _, _, _, _, _, _, h3, rfl, _, rfl⟩ := updateState_ok e
  have h3' := seqAfterUpdate_cust (show Cust (setRa s _) from h.of_eq rfl rfl) h3
  exact (h3'.of_eq rfl rfl).of_eq (indicateLiveness_seqs _ _).1 (indicateLiveness_seqs _ _).2

-- ---------------------------------------------------------------- custody through the money-moving handlers

/-- a slash moves the module balance and the recorded bond by the same amount -/
theorem slash_spec {s s1 : St} {q q1 : Seq} {amt : Nat} {mul : Dec} {rw : Option Addr}
    (e : slash s q amt mul rw = .ok (s1, q1)) :
    s1.seqs = s.seqs ∧ s1.modBal + q.tokens = s.modBal + q1.tokens ∧ q1.addr = q.addr ∧ q1.tokens ≤ q.tokens := by
  obtain ⟨s0, q0, h0, hb⟩ := slash_ok e
  obtain ⟨b1, b2, rfl, rfl⟩ := burn_ok hb
  rcases h0 with ⟨_, rfl, rfl⟩ | ⟨_, to, _, hs⟩
  · exact ⟨rfl, show _ - _ + _ = _ + (_ - _) from (Nat.sub_add_comm b2).symm.trans (Nat.add_sub_assoc b1 _), rfl, Nat.sub_le _ _⟩
  · obtain ⟨f1, _, f3, rfl, rfl⟩ := sendFromModule_ok hs
    dsimp only at b1 b2 ⊢
    exact ⟨rfl, by omega, rfl, Nat.le_trans (Nat.sub_le _ _) (Nat.sub_le _ _)⟩

/-- the record `TryUnbond` returns: unbonded when the test holds, every other field as it was -/
theorem unbondIf_eq (c : Prop) [Decidable c] (x : Seq) :
    (if c then { x with bonded := false } else x) = { x with bonded := x.bonded && !decide c } := by
  cases x; by_cases h : c <;> simp [h]

/-- a successful `TryUnbond` pays `amt` from the module account to the sequencer's own bank account -/
theorem tryUnbond_money {s s1 : St} {q q1 : Seq} {amt : Nat} (e : tryUnbond s q amt = .ok (s1, q1)) :
    s1.seqs = s.seqs ∧ q1.addr = q.addr ∧ q1.tokens + amt = q.tokens ∧ s1.modBal + amt = s.modBal ∧ s1.burned = s.burned ∧
    s1.bal = setBal s.bal q.addr (getBal s.bal q.addr + amt) := by
  obtain ⟨_, _, _, r, q0, _, _, hs, rfl⟩ := tryUnbond_ok e
  obtain ⟨h1, _, h3, rfl, rfl⟩ := sendFromModule_ok hs
  rw [unbondIf_eq]
  exact ⟨rfl, rfl, Nat.sub_add_cancel h1, Nat.sub_add_cancel h3, rfl, rfl⟩

theorem tokSum_insert (l : List Seq) (x : Seq) (h : ∀ y ∈ l, y.addr ≠ x.addr) :
    tokSum (insertSorted (fun a b => decide (a.addr < b.addr)) x l) = tokSum l + x.tokens := by
  induction l with
  | nil => simp [insertSorted, tokSum]
  | cons a as ih =>
    have ha : a.addr ≠ x.addr := h a (by simp)
    have ih' := ih (fun y hy => h y (by simp [hy]))
    have hc : ∀ (y : Seq) (l : List Seq), tokSum (y :: l) = y.tokens + tokSum l := by
      intro y l; simp [tokSum]
    unfold insertSorted
    by_cases h1 : x.addr < a.addr
    · simp only [h1, decide_true, if_true]
      rw [hc, hc]; omega
    · have h2 : a.addr < x.addr := Nat.lt_of_le_of_ne (Nat.le_of_not_lt h1) ha
      simp only [h1, h2, decide_false, decide_true, Bool.false_eq_true, if_false, if_true]
      rw [hc, hc, ih']; omega

theorem nodup_insert (l : List Seq) (x : Seq) (hn : AddrNodup l) (h : ∀ y ∈ l, y.addr ≠ x.addr) :
    AddrNodup (insertSorted (fun a b => decide (a.addr < b.addr)) x l) :=
  pairwise_ne_insertSorted (fun q : Seq => q.addr) l x hn h

theorem getSeq_none {s : St} {a : Addr} (h : getSeq s a = none) : ∀ y ∈ s.seqs, y.addr ≠ a := by
  unfold getSeq at h
  intro y hy e
  have := List.find?_eq_none.1 h y hy
  simp [e] at this

/-- a fresh record enters with exactly the bond the module account received for it -/
theorem Cust.addSeq {s s1 : St} {q : Seq} (h : Cust s) (hf : getSeq s q.addr = none) (e1 : s1.seqs = s.seqs)
    (e2 : s1.modBal = s.modBal + q.tokens) : Cust (addSeq s1 q) := by
  have hfresh : ∀ y ∈ s1.seqs, y.addr ≠ q.addr := by rw [e1]; exact getSeq_none hf
  exact ⟨nodup_insert s1.seqs q (e1 ▸ h.nodup) hfresh,
    by show s1.modBal = tokSum (insertSorted _ q s1.seqs); rw [tokSum_insert s1.seqs q hfresh, e2, e1, h.bal]⟩

theorem createSeq_cust {s s' : St} {a : Addr} {ra bond : Nat} {d : Bool} (h : Cust s)
    (e : createSeq s a ra bond d = .ok s') : Cust s' := by
  obtain ⟨r, s1, q1, _, hnone, _, _, _, hs, r2, _, hfin⟩ := createSeq_ok e
  obtain ⟨_, hs1, hq1⟩ := sendToModule_ok hs
  have h2 : Cust (addSeq s1 q1) :=
    h.addSeq (by rw [hq1]; exact hnone) (by rw [hs1]; dsimp only; split <;> rfl)
      (by rw [hs1, hq1]; dsimp only [newSeq]; split <;> simp)
  rcases hfin with ⟨_, rfl⟩ | ⟨_, hr⟩
  · exact h2
  · exact h2.of_eq (recoverFromSentinel_seqs hr).1 (recoverFromSentinel_seqs hr).2

theorem increaseBond_cust {s s' : St} {a : Addr} {amt : Nat} {d : Bool} (h : Cust s)
    (e : increaseBond s a amt d = .ok s') : Cust s' := by
  obtain ⟨q, s1, q1, hg, _, _, hs, rfl⟩ := increaseBond_ok e
  obtain ⟨_, rfl, rfl⟩ := sendToModule_ok hs
  exact h.setSeq_moved hg rfl (show q.addr = a from getSeq_addr hg) (by show s.modBal + amt + q.tokens = s.modBal + (q.tokens + amt); omega)

/-- writing back the record a successful `tryUnbond` returned for (a variant of) the record of `a` -/
theorem Cust.of_tryUnbond {s s1 : St} {a : Addr} {q0 q q1 : Seq} {amt : Nat} (h : Cust s) (hg : getSeq s a = some q0)
    (hqa : q.addr = a) (hqt : q.tokens = q0.tokens) (e : tryUnbond s q amt = .ok (s1, q1)) : Cust (setSeq s1 q1) := by
  have sp := tryUnbond_money e
  exact h.setSeq_moved hg sp.1 (sp.2.1.trans hqa) (by have := sp.2.2.1; have := sp.2.2.2.1; omega)

theorem decreaseBond_cust {s s' : St} {a : Addr} {amt : Nat} (h : Cust s)
    (e : decreaseBond s a amt = .ok s') : Cust s' := by
  obtain ⟨q, s1, q1, hg, _, hs, rfl⟩ := decreaseBond_ok e
  exact h.of_tryUnbond hg (getSeq_addr hg) rfl hs

theorem unbond_cust {s s' : St} {a : Addr} (h : Cust s) (e : unbond s a = .ok s') : Cust s' := by
  obtain ⟨q, r, hg, _, _, hc⟩ := unbond_ok e
  rcases hc with ⟨_, _, _, rfl⟩ | ⟨_, s1, q1, hs, rfl⟩
  · exact Cust.setSeq_same (s := { s with nq := _ }) (q0 := q) (a := a) (h.of_eq rfl rfl) hg
      (show q.addr = a from getSeq_addr hg) rfl
  · exact h.of_tryUnbond (q := { q with optedIn := false }) hg (show q.addr = a from getSeq_addr hg) rfl hs

theorem optIn_cust {s s' : St} {a : Addr} {v : Bool} (h : Cust s) (e : optIn s a v = .ok s') : Cust s' := by
  obtain ⟨q, r, hg, _, _, hc⟩ := optIn_ok e
  have h1 : Cust (setSeq s { q with optedIn := v }) := h.setSeq_same hg (show q.addr = a from getSeq_addr hg) rfl
  rcases hc with ⟨_, rfl⟩ | ⟨_, hr⟩
  · exact h1
  · exact h1.of_eq (recoverFromSentinel_seqs hr).1 (recoverFromSentinel_seqs hr).2

theorem punish_cust {s s' : St} {a : Addr} {rw : Option Addr} (h : Cust s) (e : punish s a rw = .ok s') : Cust s' := by
  obtain ⟨q, s1, q1, hg, hs, rfl⟩ := punish_ok e
  have sp := slash_spec hs
  exact h.setSeq_moved hg sp.1 (sp.2.2.1.trans (getSeq_addr hg)) sp.2.1

theorem fraud_cust {s s' : St} {au : Bool} {ra hh rev : Nat} {p rw : Option Addr} (h : Cust s)
    (e : fraud s au ra hh rev p rw = .ok s') : Cust s' := by
  obtain ⟨_, _, r, s1, _, _, hp, hf⟩ := fraud_ok e
  rcases hp with ⟨_, rfl⟩ | ⟨a, _, hpun⟩
  · exact hardFork_cust h hf
  · exact hardFork_cust (punish_cust h hpun) hf

theorem kick_cust {s s' : St} {a : Addr} (h : Cust s) (e : kick s a = .ok s') : Cust s' := by
  obtain ⟨k, r, pa, pq, s3, hgk, _, _, _, _, _, _, _, h3, hr⟩ := kick_ok e
  have c3 := hardForkToLatest_cust (abruptRemoveProposer_cust (ra := r.id) h) h3
  -- neither the removal nor the fork changes anybody's bond, so writing the kicker's old record back is harmless
  obtain ⟨q3, hq3, r3⟩ := ((abruptRemoveProposer_flags s r.id).trans (hardForkToLatest_flags h3)).old a k hgk
  have c4 : Cust (setSeq s3 { k with optedIn := true }) :=
    c3.setSeq_same hq3 (show k.addr = a from getSeq_addr hgk) r3.tokens.symm
  exact c4.of_eq (recoverFromSentinel_seqs hr).1 (recoverFromSentinel_seqs hr).2

end DymVerif.Core
