/-
  Lemmas/CoreFlags — the relation `FlagsOnly` between two states whose sequencer records differ in flags only (opt-in
  status, dishonor, `bonded` cleared): what rotation, proposer removal and the hard fork do to the sequencers, and
  what the operations that move no bond do as a whole: every write but the six that bond, move a bond or start a
  notice is `FlagsOnly` (`Kind.quiet`, `Write.flags`), and an op that moves no bond has none of the six in its
  footprint (`Op.quiet`, `apply_flags`).  Before it, the functions that do not touch the sequencer list at all.
-/
import DymVerif.Lemmas.CoreChainInv2
import DymVerif.Lemmas.CoreWrite
namespace DymVerif.Core

-- ---------------------------------------------------------------- rollapp-side functions do not touch bonds

theorem indicateLiveness_seqs (s : St) (r : Rollapp) :
    (indicateLiveness s r).seqs = s.seqs ∧ (indicateLiveness s r).modBal = s.modBal := by
  unfold indicateLiveness resetClock scheduleEvent; exact ⟨rfl, rfl⟩

theorem afterSetRealProposer_seqs (s : St) (ra : Nat) (a : Addr) :
    (afterSetRealProposer s ra a).seqs = s.seqs ∧ (afterSetRealProposer s ra a).modBal = s.modBal := by
  unfold afterSetRealProposer
  split
  · exact ⟨rfl, rfl⟩
  · rename_i r _
    have := indicateLiveness_seqs s r
    split
    · exact this
    · exact ⟨this.1, this.2⟩

theorem recoverFromSentinel_seqs {s s' : St} {ra : Nat} (e : recoverFromSentinel s ra = .ok s') :
    s'.seqs = s.seqs ∧ s'.modBal = s.modBal := by
  obtain ⟨r, a, _, _, _, rfl⟩ := recoverFromSentinel_ok e
  exact afterSetRealProposer_seqs _ _ _

theorem beginBlock_seqs (s : St) (dt : Nat) : (beginBlock s dt).seqs = s.seqs ∧ (beginBlock s dt).modBal = s.modBal :=
  beginBlock_ind (P := fun x => x.seqs = s.seqs ∧ x.modBal = s.modBal) s dt ⟨rfl, rfl⟩ (fun _ _ h => h)
    (fun _ _ _ _ h _ => h)


theorem getSeq_setSeq_other {s : St} {q : Seq} {a : Addr} (hne : q.addr ≠ a) : getSeq (setSeq s q) a = getSeq s a :=
  getSeq_setSeq_ne hne

-- ---------------------------------------------------------------- steps that only flip flags

/-- `q'` is `q` up to its flags — opt-in status, dishonor counter, and `bonded`, which may only be cleared:
    address, rollapp, bond and notice time are the same -/
structure Seq.Quiet (q q' : Seq) : Prop where
  addr : q'.addr = q.addr
  rollapp : q'.rollapp = q.rollapp
  tokens : q'.tokens = q.tokens
  notice : q'.notice = q.notice
  bonded : q.bonded = false → q'.bonded = false

theorem Seq.Quiet.refl (q : Seq) : q.Quiet q := ⟨rfl, rfl, rfl, rfl, id⟩

theorem Seq.Quiet.trans {a b c : Seq} (h1 : a.Quiet b) (h2 : b.Quiet c) : a.Quiet c :=
  ⟨h2.addr.trans h1.addr, h2.rollapp.trans h1.rollapp, h2.tokens.trans h1.tokens, h2.notice.trans h1.notice,
   fun h => h2.bonded (h1.bonded h)⟩

/-- the same addresses are recorded in both states and each record has changed at most in its flags: what
    rotation, removal of a proposer and the hard fork do to the sequencers -/
structure FlagsOnly (s s' : St) : Prop where
  old : ∀ a q, getSeq s a = some q → ∃ q', getSeq s' a = some q' ∧ q.Quiet q'
  new : ∀ a, getSeq s a = none → getSeq s' a = none

theorem FlagsOnly.refl (s : St) : FlagsOnly s s := ⟨fun _ q h => ⟨q, h, .refl q⟩, fun _ h => h⟩

theorem FlagsOnly.trans {a b c : St} (h1 : FlagsOnly a b) (h2 : FlagsOnly b c) : FlagsOnly a c := by
  refine ⟨fun x q hq => ?_, fun x hx => h2.new x (h1.new x hx)⟩
  obtain ⟨q1, hq1, r1⟩ := h1.old x q hq
  obtain ⟨q2, hq2, r2⟩ := h2.old x q1 hq1
  exact ⟨q2, hq2, r1.trans r2⟩

theorem FlagsOnly.of_seqs {s s' : St} (e : s'.seqs = s.seqs) : FlagsOnly s s' :=
  ⟨fun a q h => ⟨q, by rw [getSeq_congr e]; exact h, .refl q⟩, fun a h => by rw [getSeq_congr e]; exact h⟩

/-- overwriting the record of an address by one that is the same up to flags -/
theorem FlagsOnly.setSeq {s : St} {q0 q : Seq} (hg : getSeq s q.addr = some q0) (h : q0.Quiet q) :
    FlagsOnly s (setSeq s q) := by
  constructor
  · intro a x hx
    by_cases ha : q.addr = a
    · subst ha
      rw [hg] at hx; cases hx
      exact ⟨q, getSeq_setSeq_self hg, h⟩
    · exact ⟨x, by rw [getSeq_setSeq_ne ha]; exact hx, .refl x⟩
  · intro a hx
    rw [getSeq_setSeq_ne (fun ha => by rw [ha, hx] at hg; cases hg)]; exact hx

theorem FlagsOnly.map {s : St} (f : Seq → Seq) (hf : ∀ x : Seq, x.Quiet (f x)) :
    FlagsOnly s { s with seqs := s.seqs.map f } := by
  have ha : ∀ x, (f x).addr = x.addr := fun x => (hf x).addr
  exact ⟨fun a q hq => ⟨f q, by rw [getSeq_mapSeqs s f ha, hq]; rfl, hf q⟩,
    fun a hq => by rw [getSeq_mapSeqs s f ha, hq]; rfl⟩

/-- the recorded bond of every address is the same in both states -/
def TokFrame (s s' : St) : Prop := ∀ a, (getSeq s' a).map (·.tokens) = (getSeq s a).map (·.tokens)

theorem FlagsOnly.tok {s s' : St} (h : FlagsOnly s s') : TokFrame s s' := by
  intro a
  cases hq : getSeq s a with
  | none => rw [h.new a hq]
  | some q =>
    obtain ⟨q', hq', r⟩ := h.old a q hq
    rw [hq']; exact congrArg Option.some r.tokens

/-- the relation is closed under the writes of proposer removal and of the sequencer hook of the hard fork -/
theorem FlagsOnly.roleClosed (s : St) (ra : Nat) : RoleClosed (FlagsOnly s) ra where
  clearProposer _ h := h.trans (.of_seqs rfl)
  clearSuccessor _ h := h.trans (.of_seqs rfl)
  unbond hg h := h.trans (.setSeq hg ⟨rfl, rfl, rfl, rfl, fun _ => rfl⟩)
  optOut h := by
    refine h.trans (.map _ (fun x => ?_))
    split
    · exact ⟨rfl, rfl, rfl, rfl, id⟩
    · exact .refl x
  nq q h := h.trans (.of_seqs (removeFromNoticeQueue_seqs _ q).1)

theorem abruptRemoveProposer_flags (s : St) (ra : Nat) : FlagsOnly s (abruptRemoveProposer s ra) :=
  (FlagsOnly.roleClosed s ra).abruptRemoveProposer (.refl s)

/-- the operations that move no bond, assign no rollapp, start no notice and bond nobody -/
def Op.quiet : Op → Bool
  | .createSeq .. | .bondInc .. | .bondDec .. | .unbond .. | .punish .. | .end_ .. => false
  | .fraud _ _ _ _ pun _ => pun.isNone
  | _ => true

/-- the writes that move no bond, assign no rollapp, start no notice and bond nobody -/
def Kind.quiet : Kind → Bool
  | .sq .join | .sq .toModule | .sq .withdraw | .sq .punish | .sq .slashLiv | .sq .notice => false
  | _ => true

theorem Write.flags {k : Kind} {b b' : St} (hk : k.quiet = true) (w : Write k b b') : FlagsOnly b b' := by
  cases w with
  | ra w => exact .of_seqs w.seqSide.seqs
  | aux w => exact .of_seqs w.same.2.1
  | abrupt ra => exact abruptRemoveProposer_flags b ra
  | sq w =>
    cases w with
    | join | toModule | withdraw | punish | slashLiv | notice => cases hk
    | optOut ra => exact (FlagsOnly.roleClosed b ra).optOut (.refl b)
    | fund => exact .of_seqs rfl
    | optIn a v hg | honor a hg => cases getSeq_addr hg; exact .setSeq hg ⟨rfl, rfl, rfl, rfl, id⟩
    | kicker k hg => exact .setSeq (q := { k with optedIn := true }) hg ⟨rfl, rfl, rfl, rfl, id⟩

theorem Op.quiet_kinds {o : Op} (hq : o.quiet = true) : ∀ k ∈ o.kinds, k.quiet = true := by
  cases o with
  | fraud au ra hh rev p rw => cases p with
    | none => simp only [Op.kinds]; decide
    | some _ => cases hq
  | createSeq | bondInc | bondDec | unbond | punish | end_ => cases hq
  | _ => simp only [Op.kinds]; decide

theorem Writes.flags {ks : List Kind} (hk : ∀ k ∈ ks, k.quiet = true) {s s' : St} (w : Writes ks s s') : FlagsOnly s s' :=
  w.rel FlagsOnly.refl FlagsOnly.trans (fun h => Write.flags (hk _ h))

/-- a quiet operation leaves every sequencer record as it is up to flags -/
theorem apply_flags {s s' : St} {o : Op} (hq : o.quiet = true) (e : apply s o = .ok s') : FlagsOnly s s' :=
  (apply_writes e).flags (Op.quiet_kinds hq)

theorem hardFork_flags {s s' : St} {ra lv : Nat} (e : hardFork s ra lv = .ok s') : FlagsOnly s s' :=
  (hardFork_writes (fun _ h => h) e).flags (by decide)

theorem hardFork_tok {s s' : St} {ra lv : Nat} (e : hardFork s ra lv = .ok s') : TokFrame s s' :=
  (hardFork_flags e).tok

theorem hardForkToLatest_flags {s s' : St} {ra : Nat} (e : hardForkToLatest s ra = .ok s') : FlagsOnly s s' :=
  (hardForkToLatest_writes (fun _ h => h) e).flags (by decide)

end DymVerif.Core
