/-
  Lemmas/PacketsEibc — what a successful eIBC message implies (x/eibc message server, keeper,
  on-demand LPs, authorisation), and bank bookkeeping lemmas.
-/
import DymVerif.Lemmas.PacketsStore
namespace DymVerif.Packets
open DymVerif DymVerif.Keys

/-- a check in front of a message handler: it passed, and the rest succeeded -/
theorem guard_ok {α : Type} {c : Prop} [Decidable c] {e : Err} {m : M α} {a : α}
    (h : (if c then .error e else m) = .ok a) : ¬ c ∧ m = .ok a := by
  split at h
  · cases h
  · exact ⟨‹¬ c›, h⟩

-- ------------------------------------------------------------------ bank

theorem getBal_setBal (b : List ((Addr × Denom) × Int)) (a : Addr) (d : Denom) (v : Int) (a' : Addr) (d' : Denom) :
    getBal (setBal b a d v) a' d' = if a' = a ∧ d' = d then v else getBal b a' d' := by
  unfold getBal setBal
  by_cases h : a' = a ∧ d' = d
  · obtain ⟨rfl, rfl⟩ := h
    simp [List.find?]
  · have h1 : ((a == a') && (d == d')) = false := by
      by_cases ha : a' = a
      · have hd : d' ≠ d := fun e => h ⟨ha, e⟩
        have : (d == d') = false := by simpa using (Ne.symm hd)
        simp [this]
      · have : (a == a') = false := by simpa using (Ne.symm ha)
        simp [this]
    simp only [List.find?, h1, h, if_false]
    congr 1
    induction b with
    | nil => rfl
    | cons x xs ih =>
      by_cases hx : (x.1.1 == a && x.1.2 == d) = true
      · have hx' : (x.1.1 == a' && x.1.2 == d') = false := by
          have ⟨e1, e2⟩ : x.1.1 = a ∧ x.1.2 = d := by simpa using hx
          rw [e1, e2]; exact h1
        simp only [List.filter, hx, Bool.not_true, List.find?, hx']
        exact ih
      · have hx0 : (x.1.1 == a && x.1.2 == d) = false := by simpa using hx
        simp only [List.filter, hx0, Bool.not_false, List.find?]
        by_cases hy : (x.1.1 == a' && x.1.2 == d') = true
        · simp [hy]
        · have hy0 : (x.1.1 == a' && x.1.2 == d') = false := by simpa using hy
          simp only [hy0]; exact ih

theorem getBal_credit (s : St) (a : Addr) (d : Denom) (v : Int) (a' : Addr) (d' : Denom) :
    getBal (credit s a d v).bal a' d' = getBal s.bal a' d' + (if a' = a ∧ d' = d then v else 0) := by
  unfold credit
  simp only [getBal_setBal]
  split
  · rename_i h; obtain ⟨rfl, rfl⟩ := h; rfl
  · simp

theorem getBal_debit (s : St) (a : Addr) (d : Denom) (v : Int) (a' : Addr) (d' : Denom) :
    getBal (debit s a d v).bal a' d' = getBal s.bal a' d' - (if a' = a ∧ d' = d then v else 0) := by
  unfold debit
  simp only [getBal_setBal]
  split
  · rename_i h; obtain ⟨rfl, rfl⟩ := h; rfl
  · simp

/-- `SendCoins`: exactly `v` of denom `d` moves from `src` to `dst`, nothing else changes, and it
    needs the funds -/
theorem sendCoins_spec {s s' : St} {src dst : Addr} {d : Denom} {v : Int} (h : sendCoins s src dst d v = some s') :
    (v = 0 ∨ v ≤ getBal s.bal src d) ∧
    ∀ a' d', getBal s'.bal a' d' =
      getBal s.bal a' d' - (if a' = src ∧ d' = d then v else 0) + (if a' = dst ∧ d' = d then v else 0) := by
  unfold sendCoins at h
  split at h
  · rename_i hv
    cases h
    exact ⟨Or.inl hv, fun a' d' => by simp [hv]⟩
  · split at h
    · cases h
    · rename_i hlt
      cases h
      refine ⟨Or.inr (Int.not_lt.mp hlt), fun a' d' => ?_⟩
      rw [getBal_credit, getBal_debit]

-- ------------------------------------------------------------------ order store

theorem mem_insertOrd {o q : Order} : ∀ {l : List Order}, q ∈ insertOrd o l ↔ q = o ∨ q ∈ l
  | [] => by simp [insertOrd]
  | x :: xs => by
    unfold insertOrd
    split
    · simp
    · simp only [List.mem_cons, mem_insertOrd (l := xs), or_left_comm]

theorem mem_setOrder {s : St} {o q : Order} :
    q ∈ (setOrder s o).orders ↔ q = o ∨ (q ∈ s.orders ∧ ¬ (q.status = o.status ∧ q.id = o.id)) := by
  simp [setOrder, mem_insertOrd, Decidable.imp_iff_not_or]

theorem mem_delOrder {s : St} {st : Status} {id : Bytes} {q : Order} :
    q ∈ (delOrder s st id).orders ↔ q ∈ s.orders ∧ ¬ (q.status = st ∧ q.id = id) := by
  simp [delOrder, Decidable.imp_iff_not_or]

theorem getOrder_some {s : St} {st : Status} {id : Bytes} {o : Order} (h : getOrder s st id = some o) :
    o ∈ s.orders ∧ o.status = st ∧ o.id = id := by
  unfold getOrder at h
  have h1 := List.mem_of_find?_eq_some h
  have h2 := List.find?_some h
  simp only [Bool.and_eq_true, beq_iff_eq] at h2
  exact ⟨h1, h2.1, h2.2⟩

theorem getOrder_none {s : St} {st : Status} {id : Bytes} (h : getOrder s st id = none) :
    ∀ o ∈ s.orders, ¬ (o.status = st ∧ o.id = id) := by
  intro o ho ⟨e1, e2⟩
  have := List.find?_eq_none.mp h o ho
  simp [e1, e2] at this

theorem find_insertOrd_self (o : Order) : ∀ (l : List Order), (∀ q ∈ l, ¬ (q.status = o.status ∧ q.id = o.id)) →
    (insertOrd o l).find? (fun q => q.status == o.status && q.id == o.id) = some o
  | [], _ => by simp [insertOrd, List.find?]
  | x :: xs, h => by
    unfold insertOrd
    split
    · simp [List.find?]
    · have hx : (x.status == o.status && x.id == o.id) = false := by
        have := h x List.mem_cons_self
        cases hb : (x.status == o.status && x.id == o.id) with
        | false => rfl
        | true =>
          simp only [Bool.and_eq_true, beq_iff_eq] at hb
          exact absurd hb this
      simp only [List.find?, hx]
      exact find_insertOrd_self o xs (fun q hq => h q (List.mem_cons_of_mem _ hq))

theorem getOrder_setOrder_self (s : St) (o : Order) : getOrder (setOrder s o) o.status o.id = some o := by
  unfold getOrder setOrder
  apply find_insertOrd_self
  intro q hq
  have := (List.mem_filter.mp hq).2
  rintro ⟨e1, e2⟩
  simp [e1, e2] at this

-- ------------------------------------------------------------------ outstanding orders

/-- the packet of an order is not finalizable: its proof height is above the finalized height of the
    order's rollapp (or nothing is finalized yet) -/
def NotFinalizable (s : St) (rid : Bytes) (ph : Nat) : Prop := ∀ f, finHeight s rid = some f → f < ph

theorem verify_error {s : St} {rid : Bytes} {ph : Nat} {e : Err} (h : verifyHeightFinalized s rid ph = .error e) :
    NotFinalizable s rid ph := by
  unfold verifyHeightFinalized at h
  intro f hf
  rw [hf] at h
  simp only at h
  split at h
  · assumption
  · cases h

/-- `GetOutstandingOrder` succeeded: pending, unfulfilled, packet present and not finalizable -/
theorem getOutstanding_ok {s : St} {id : Bytes} {o : Order} (h : getOutstanding s id = .ok o) :
    getOrder s .pending id = some o ∧ o.fulfiller = none ∧
    ∃ p, getPacket s o.trackingKey = some p ∧ NotFinalizable s o.rollappId p.proofHeight := by
  unfold getOutstanding at h
  split at h
  · cases h
  · rename_i o' ho
    split at h
    · cases h
    · rename_i p hp
      split at h
      · cases h
      · rename_i e hv
        split at h
        · cases h
        · rename_i hfu
          split at h
          · cases h
          · cases h
            refine ⟨ho, ?_, p, hp, verify_error hv⟩
            cases hf : o.fulfiller with
            | none => rfl
            | some x => simp [hf] at hfu

/-- a fulfilled order is not outstanding -/
theorem outstanding_pending {s : St} {id : Bytes} {o : Order} (h : getOutstanding s id = .ok o) :
    o ∈ s.orders ∧ o.status = .pending ∧ o.fulfiller = none := by
  obtain ⟨hgo, hf, _⟩ := getOutstanding_ok h
  obtain ⟨hm, hs, _⟩ := getOrder_some hgo
  exact ⟨hm, hs, hf⟩

theorem getOutstanding_fulfilled {s : St} {id : Bytes} {o : Order} (ho : getOrder s .pending id = some o)
    (hf : o.fulfiller.isSome = true) : ∀ o', getOutstanding s id ≠ .ok o' := by
  intro o' h
  obtain ⟨h1, h2, _⟩ := getOutstanding_ok h
  rw [ho] at h1
  cases h1
  rw [h2] at hf
  cases hf

-- ------------------------------------------------------------------ the fulfilment core

/-- `UpdateRollappPacketTransferAddress` succeeded: the pending packet now names the new address and
    remembers the old one; orders, bank and everything else are untouched -/
theorem updateTransferAddress_ok {s s' : St} {k : Bytes} {a : Addr} (h : updateTransferAddress s k a = .ok s') :
    ∃ p, getPacket s k = some p ∧ p.status = .pending ∧
      s' = setPacket (addByAddr (delByAddr s p.target k) a (pkey (retarget p a))) (retarget p a) := by
  unfold updateTransferAddress at h
  split at h
  · cases h
  · rename_i p hp
    split at h
    · cases h
    · rename_i hst
      cases h
      refine ⟨p, hp, ?_, rfl⟩
      cases hs : p.status with
      | pending => rfl
      | finalized => simp [hs] at hst

/-- the store writes of `UpdateRollappPacketTransferAddress` touch neither the orders nor the bank -/
theorem retargetWrites_fields (s : St) (a b : Addr) (k k' : Bytes) (q : Packet) :
    (setPacket (addByAddr (delByAddr s a k) b k') q).orders = s.orders ∧
    (setPacket (addByAddr (delByAddr s a k) b k') q).bal = s.bal := by
  simp only [setPacket, addByAddr, delByAddr, and_self]

/-- `SetOrderFulfilled` succeeded -/
theorem setOrderFulfilled_ok {s s' : St} {o : Order} {f : Addr} {c : Option Addr} (h : setOrderFulfilled s o f c = .ok s') :
    ∃ p, getPacket s o.trackingKey = some p ∧ p.status = .pending ∧
      getPacket s' o.trackingKey = some (retarget p (c.getD f)) ∧
      getOrder s' o.status o.id = some { o with fulfiller := some f } ∧ s'.bal = s.bal := by
  obtain ⟨p, hp, hst, rfl⟩ := updateTransferAddress_ok h
  obtain ⟨eo, eb⟩ := retargetWrites_fields (setOrder s { o with fulfiller := some f }) p.target (c.getD f) o.trackingKey
    (pkey (retarget p (c.getD f))) (retarget p (c.getD f))
  refine ⟨p, hp, hst, ?_, ?_, eb⟩
  · rw [← (getPacket_some hp).2]
    exact getPacket_setPacket_self _ (retarget p (c.getD f))
  · unfold getOrder
    rw [eo]
    exact getOrder_setOrder_self s { o with fulfiller := some f }

/-- `Keeper.Fulfill` succeeded: the fulfiller has an account, pays exactly the price to the order's
    recipient, the order is marked, the packet redirected -/
theorem fulfillCore_ok {s s' : St} {o : Order} {f : Addr} (h : fulfillCore s o f = .ok s') :
    s.accts.contains f = true ∧
    ∃ s1, sendCoins s f o.recipient o.denom o.price = some s1 ∧ s'.bal = s1.bal ∧
      ∃ p, getPacket s o.trackingKey = some p ∧ p.status = .pending ∧
        getPacket s' o.trackingKey = some (retarget p f) ∧
        getOrder s' o.status o.id = some { o with fulfiller := some f } := by
  unfold fulfillCore at h
  split at h
  · cases h
  · rename_i hacc
    split at h
    · cases h
    · rename_i s1 hs
      obtain ⟨p, hp, hst, hp', ho', hb⟩ := setOrderFulfilled_ok h
      refine ⟨by simpa using hacc, s1, hs, hb, p, ?_, hst, hp', ho'⟩
      unfold getPacket at hp ⊢
      rw [← (coins_sendCoins hs).bank.dframe.packets]; exact hp

-- ------------------------------------------------------------------ finalization

/-- the packet-store writes of `UpdateRollappPacketAfterFinalization` leave the orders and the fee parameter alone -/
theorem flipWrites_fields (s : St) (a : Addr) (k : Bytes) (q : Packet) :
    (setPacket (delPacket (delByAddr s a k) k) q).orders = s.orders ∧
    (setPacket (delPacket (delByAddr s a k) k) q).bridgingFee = s.bridgingFee := by
  simp only [setPacket, delPacket, delByAddr, and_self]

/-- the orders after eibc's `AfterPacketStatusUpdated`: those not on (PENDING, `a`), and the updated one -/
theorem mem_afterPacketStatusUpdated {s : St} {a b : Bytes} {st : Status} {o : Order}
    (h : o ∈ (afterPacketStatusUpdated s a b st).orders) :
    (o ∈ s.orders ∧ ¬ (o.status = .pending ∧ o.id = a)) ∨
    ∃ o0, getOrder s .pending a = some o0 ∧ o = { o0 with trackingKey := b, status := st } := by
  unfold afterPacketStatusUpdated at h
  split at h
  · rename_i hgo
    exact Or.inl ⟨h, getOrder_none hgo o h⟩
  · rename_i o0 hgo
    rcases mem_setOrder.mp h with rfl | ⟨h1, _⟩
    · exact Or.inr ⟨o0, hgo, rfl⟩
    · rw [(getOrder_some hgo).2.2] at h1
      exact Or.inl (mem_delOrder.mp h1)

end DymVerif.Packets
