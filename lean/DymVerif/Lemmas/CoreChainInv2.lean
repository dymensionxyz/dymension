/-
  Lemmas/CoreChainInv2 — every accepted transition preserves the chain invariant: `RaClosed.apply` of
  Lemmas/CoreWalk at `chainClosed`; the same for single handlers from their sequences of writes.
-/
import DymVerif.Lemmas.CoreChainInv
namespace DymVerif.Core

theorem onProposerLastBlock_chain {s s' : St} {q : Seq} (h : ChainAll s)
    (e : onProposerLastBlock s q = .ok s') : ChainAll s' :=
  chainClosed.writes (by decide) (onProposerLastBlock_writes (fun _ hk => hk) e) h

theorem updateState_chain {s s' : St} {m : UpdMsg} (h : ChainAll s) (e : updateState s m = .ok s') : ChainAll s' :=
  chainClosed.writes (by decide) (updateState_writes e) h

theorem slashLiveness_ras {s s1 : St} {r : Rollapp} (e : slashLiveness s r = .ok s1) : s1.ras = s.ras :=
  (slashLiveness_frame e).ras

theorem punish_chain {s s' : St} {a : Addr} {rw : Option Addr} (h : ChainAll s) (e : punish s a rw = .ok s') : ChainAll s' :=
  h.ras_eq (punish_frame e).ras

theorem finalizeOne_chain {s s' : St} {fails : List (Nat × Nat)} {ra idx : Nat} (h : ChainAll s)
    (e : finalizeOne s fails ra idx = some s') : ChainAll s' := chainClosed.write (.ra (.fin fails ra idx e)) (by decide) h

theorem finalizeRollappStates_chain {s : St} (fails : List (Nat × Nat)) (h : ChainAll s) :
    ChainAll (finalizeRollappStates s fails) :=
  chainClosed.writes (by decide) (finalizeRollappStates_writes s fails) h

/-- every accepted transition preserves the chain invariant of every rollapp -/
theorem apply_chain {s s' : St} {o : Op} (h : ChainAll s) (e : apply s o = .ok s') : ChainAll s' :=
  chainClosed.apply h e (fun _ _ _ _ => Chain.nil)

theorem step_chain {s : St} {o : Op} (h : ChainAll s) : ChainAll (step s o).1 := step_of_apply h (fun _ => apply_chain h)

theorem run_chain (p : Params) (ops : List Op) : ChainAll (run p ops) :=
  run_of_apply (by intro r hr; simp [init] at hr) (fun _ => apply_chain)

end DymVerif.Core
