import DymVerif.Lemmas.LockupChain
/-
  Lemmas/LockupChainEmbed — M-Lockup's restart (Model/LockupChain) and C18's genesis model of
  x/lockup (Model/Genesis: `exportLockup`, `importLockup`) are the same functions on the lock section:
  under the encoding `embLock` of M-Lockup's lock record into C18's, export commutes with the
  encoding and so does import — for EVERY state and EVERY genesis list, no invariant needed.
  Core Lean only.
-/
namespace DymVerif.Genesis

/-! ### generic: sorting / store writes commute with an order-preserving re-encoding -/

theorem insertBy_map {α β : Type} (f : α → β) (lt : α → α → Bool) (lt' : β → β → Bool)
    (h : ∀ a b, lt' (f a) (f b) = lt a b) (x : α) (l : List α) :
    Genesis.insertBy lt' (f x) (l.map f) = (Genesis.insertBy lt x l).map f := by
  induction l with
  | nil => rfl
  | cons y ys ih =>
    simp only [List.map_cons, Genesis.insertBy, h]
    split
    · rw [ih]; rfl
    · rfl

theorem sortBy_map {α β : Type} (f : α → β) (lt : α → α → Bool) (lt' : β → β → Bool)
    (h : ∀ a b, lt' (f a) (f b) = lt a b) (l : List α) :
    Genesis.sortBy lt' (l.map f) = (Genesis.sortBy lt l).map f := by
  induction l with
  | nil => rfl
  | cons x xs ih =>
    simp only [Genesis.sortBy, List.map_cons, List.foldr_cons] at ih ⊢
    rw [ih, insertBy_map f lt lt' h]

theorem kvSet_map {κ α β : Type} (lt : κ → κ → Bool) (g : α → β) (k : κ) (v : α) (s : Genesis.KV κ α) :
    Genesis.kvSet lt k (g v) (s.map (fun e => (e.1, g e.2))) =
      (Genesis.kvSet lt k v s).map (fun e => (e.1, g e.2)) := by
  induction s with
  | nil => rfl
  | cons e rest ih =>
    simp only [List.map_cons, Genesis.kvSet]
    split
    · rfl
    · split
      · rw [ih]; rfl
      · rfl

theorem importVals_map {κ α β : Type} (lt : κ → κ → Bool) (g : α → β) (key : α → κ) (key' : β → κ)
    (hk : ∀ v, key' (g v) = key v) (vs : List α) :
    Genesis.importVals lt key' (vs.map g) = (Genesis.importVals lt key vs).map (fun e => (e.1, g e.2)) := by
  unfold Genesis.importVals Genesis.importWith
  suffices H : ∀ (acc : Genesis.KV κ α),
      (vs.map g).foldl (fun s x => Genesis.kvSet lt (key' x) (id x) s) (acc.map (fun e => (e.1, g e.2))) =
        (vs.foldl (fun s x => Genesis.kvSet lt (key x) (id x) s) acc).map (fun e => (e.1, g e.2)) from H []
  induction vs with
  | nil => intro acc; rfl
  | cons v vs ih =>
    intro acc
    simp only [List.map_cons, List.foldl_cons, id, hk]
    rw [kvSet_map lt g (key v) v acc]
    exact ih _

end DymVerif.Genesis

namespace DymVerif.Lockup

/-! ### the encoding -/

/-- M-Lockup's lock as a lock of C18's genesis model: actor and denom indices as one-byte strings,
    `time.Time{}` as 0 and an end time `e` as `e + 1` (C18's record uses 0 for "not unlocking") -/
def embLock (l : Lock) : Genesis.Lock :=
  { id := l.id, owner := [l.owner], duration := l.duration,
    endTime := match l.endTime with
      | none => 0
      | some e => e + 1,
    coins := [([l.denom], l.amount)] }

/-- the module state C18's model keeps: params (opaque there), last id, the lock section by id -/
def embState (params : Nat) (s : State) : Genesis.LockupState :=
  { params := params, lastLockId := s.lastId, locks := s.locks.map (fun l => (l.id, embLock l)) }

theorem embLock_isUnlocking (l : Lock) : (embLock l).isUnlocking = l.isUnlocking := by
  cases h : l.endTime <;> simp [embLock, Genesis.Lock.isUnlocking, Lock.isUnlocking, h]

theorem embLock_refLt (a b : Lock) : Genesis.ltLockRef (embLock a) (embLock b) = refLt a b := rfl

theorem exportVals_embState (params : Nat) (s : State) :
    Genesis.exportVals (embState params s).locks = s.locks.map embLock := by
  simp only [Genesis.exportVals, embState, List.map_map]
  exact List.map_congr_left (fun x _ => rfl)

/-- **export commutes with the encoding**: C18's `exportLockup` of the encoded state is the encoded
    `exportGenesis` -/
theorem embed_export (params : Nat) (s : State) :
    (Genesis.exportLockup (embState params s)).lastLockId = (exportGenesis s).lastLockId ∧
    (Genesis.exportLockup (embState params s)).locks = (exportGenesis s).locks.map embLock := by
  refine ⟨rfl, ?_⟩
  simp only [Genesis.exportLockup, Genesis.periodLocks, exportGenesis, periodLocks, exportVals_embState,
    List.map_append]
  have hf : ∀ (ls : List Lock), (ls.map embLock).filter (fun l => l.isUnlocking) =
      (ls.filter (fun l => l.isUnlocking)).map embLock := by
    intro ls
    rw [List.filter_map]
    congr 1
    apply List.filter_congr
    intro x _
    exact embLock_isUnlocking x
  have hn : ∀ (ls : List Lock), (ls.map embLock).filter (fun l => !l.isUnlocking) =
      (ls.filter (fun l => !l.isUnlocking)).map embLock := by
    intro ls
    rw [List.filter_map]
    congr 1
    apply List.filter_congr
    intro x _
    simp only [Function.comp, embLock_isUnlocking]
  rw [hf, hn, Genesis.sortBy_map embLock refLt Genesis.ltLockRef embLock_refLt,
    Genesis.sortBy_map embLock refLt Genesis.ltLockRef embLock_refLt]

/-- **import commutes with the encoding**: C18's `importLockup` of an encoded genesis holds the encoded
    `storeLocks` (the lock section `InitializeAllLocks` writes), the genesis' last id, default params -/
theorem embed_import (g : GenesisState) :
    (Genesis.importLockup { lastLockId := g.lastLockId, locks := g.locks.map embLock }).lastLockId = g.lastLockId ∧
    Genesis.exportVals (Genesis.importLockup { lastLockId := g.lastLockId, locks := g.locks.map embLock }).locks =
      (storeLocks g.locks).map embLock ∧
    (Genesis.importLockup { lastLockId := g.lastLockId, locks := g.locks.map embLock }).params =
      Genesis.lockupDefaultParams := by
  refine ⟨rfl, ?_, rfl⟩
  simp only [Genesis.importLockup, storeLocks]
  rw [Genesis.importVals_map Genesis.ltNat embLock (fun l : Lock => l.id) (fun l : Genesis.Lock => l.id) (fun _ => rfl)]
  simp only [Genesis.exportVals, List.map_map]
  exact List.map_congr_left (fun x _ => rfl)

end DymVerif.Lockup
