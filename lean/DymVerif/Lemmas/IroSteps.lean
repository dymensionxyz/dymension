/-
  Lemmas/IroSteps — what a successful message of M-IRO did: one characterisation lemma per op, and
  `trade_ok` for what buy, exact-spend purchase and sell have in common.
-/
import DymVerif.Lemmas.IroArith
import DymVerif.Model.IroNewton
namespace DymVerif.Iro
open DymVerif

def isBes : Op → Bool
  | .bes .. => true
  | _ => false

def isTradeBy (a : Nat) : Op → Bool
  | .buy b _ _ | .bes b _ _ | .sell b _ _ => b == a
  | _ => false

/-- the contract at the point of this message (vacuous for everything but an exact-spend purchase) -/
def BesOkAt (I : Int → Int) (T : Int → Int → Option Int) (st : State) (op : Op) : Prop :=
  ∀ pt, besPoint st op = some pt → NewtonUpperAt I T pt.1 pt.2.1 pt.2.2

/-- split the next `if … then .error e else …` of hypothesis `h`, closing the error branch -/
macro "split_err" h:ident : tactic => `(tactic| (split at $h:ident; · cases $h:ident))

/-- a guard `if c then .error e else k` that let the message through -/
theorem of_guard {c : Prop} [Decidable c] {e : Err} {α : Type} {k : Except Err α} {s : α}
    (h : (if c then .error e else k) = .ok s) : ¬ c ∧ k = .ok s := by
  by_cases hc : c
  · rw [if_pos hc] at h; cases h
  · rw [if_neg hc] at h; exact ⟨hc, h⟩

theorem tradeable_ok {st : State} {a : Nat} {p : Plan} (h : tradeable st a = .ok p) :
    st.plan = some p ∧ p.settled = false ∧ (a = st.owner ∨ (p.enabled = true ∧ p.startTime ≤ st.now)) := by
  unfold tradeable at h
  cases hq : st.plan with
  | none => rw [hq] at h; cases h
  | some q =>
    rw [hq] at h
    obtain ⟨hs, h⟩ := of_guard h
    by_cases ha : a = st.owner
    · rw [if_pos ha] at h; cases h
      exact ⟨rfl, by simpa using hs, Or.inl ha⟩
    · rw [if_neg ha] at h
      obtain ⟨he, h⟩ := of_guard h
      obtain ⟨hn, h⟩ := of_guard h
      cases h
      exact ⟨rfl, by simpa using hs, Or.inr ⟨by simpa using he, by omega⟩⟩

theorem doBuy_ok {I : Int → Int} {st st' : State} {a : Nat} {amt mc : Int} (h : doBuy I st a amt mc = .ok st') :
    ∃ p tot fee l1, tradeable st a = .ok p ∧ 0 < amt ∧ p.sold + amt ≤ p.maxSell ∧
      applyTakerFee (cost I p.L p.sold (p.sold + amt)) st.cfg.takerFee true = some (tot, fee) ∧
      chargeFee st a fee = .ok l1 ∧ cost I p.L p.sold (p.sold + amt) ≤ l1 a ∧ amt ≤ st.modIro ∧
      st' = { st with liq := upd l1 a (l1 a - cost I p.L p.sold (p.sold + amt)),
                      planLiq := st.planLiq + cost I p.L p.sold (p.sold + amt), modIro := st.modIro - amt,
                      iro := upd st.iro a (st.iro a + amt), plan := some { p with sold := p.sold + amt },
                      trades := st.trades + 1 } := by
  unfold doBuy at h
  obtain ⟨h1, h⟩ := of_guard h
  cases ht : tradeable st a with
  | error e => rw [ht] at h; cases h
  | ok p =>
    rw [ht] at h
    obtain ⟨h2, h⟩ := of_guard h
    cases hf : applyTakerFee (cost I p.L p.sold (p.sold + amt)) st.cfg.takerFee true with
    | none => rw [hf] at h; cases h
    | some tf =>
      obtain ⟨tot, fee⟩ := tf
      rw [hf] at h
      obtain ⟨h3, h⟩ := of_guard h
      cases hl : chargeFee st a fee with
      | error e => rw [hl] at h; cases h
      | ok l1 =>
        rw [hl] at h
        obtain ⟨h4, h⟩ := of_guard h
        obtain ⟨h5, h⟩ := of_guard h
        cases h
        exact ⟨p, tot, fee, l1, rfl, by omega, by omega, hf, hl, by omega, by omega, rfl⟩

theorem chargeFee_ok {st : State} {a : Nat} {fee : Int} {l : Nat → Int} (h : chargeFee st a fee = .ok l) :
    fee ≤ st.liq a ∧
    ((st.cfg.feeBase = false ∧ l = upd st.liq a (st.liq a - fee)) ∨
     (st.cfg.feeBase = true ∧ 0 < fee.tdiv 2 ∧
        l = upd (upd st.liq a (st.liq a - fee)) st.owner (upd st.liq a (st.liq a - fee) st.owner + fee.tdiv 2))) := by
  unfold chargeFee at h
  obtain ⟨h1, h⟩ := of_guard h
  by_cases hb : st.cfg.feeBase = true
  · rw [if_pos hb] at h
    obtain ⟨h2, h⟩ := of_guard h
    cases h
    exact ⟨by omega, Or.inr ⟨hb, by omega, rfl⟩⟩
  · rw [if_neg hb] at h
    cases h
    exact ⟨by omega, Or.inl ⟨by simpa using hb, rfl⟩⟩

/-- whoever pays a positive fee ends up with at least one unit less (the owner gets at most half back) -/
theorem chargeFee_self {st : State} {a : Nat} {fee : Int} {l : Nat → Int} (h : chargeFee st a fee = .ok l)
    (hf : 0 < fee) : l a ≤ st.liq a - 1 ∧ st.liq a - fee ≤ l a := by
  obtain ⟨_, h1 | ⟨_, hh, h1⟩⟩ := chargeFee_ok h
  · obtain ⟨_, h1⟩ := h1
    subst h1; simp [upd]; omega
  · subst h1
    have : fee.tdiv 2 = fee / 2 := Int.tdiv_eq_ediv_of_nonneg (by omega)
    by_cases ha : a = st.owner
    · subst ha; simp [upd]; omega
    · simp [upd, ha]; omega

theorem doBes_ok {T : Int → Int → Option Int} {st st' : State} {a : Nat} {spend mt : Int}
    (h : doBes T st a spend mt = .ok st') :
    ∃ p net fee tokens l1, tradeable st a = .ok p ∧ 0 < mt ∧
      applyTakerFee spend st.cfg.takerFee false = some (net, fee) ∧
      tokensForExactIn T p.L p.sold net = some tokens ∧ mt ≤ tokens ∧ p.sold + tokens ≤ p.maxSell ∧
      chargeFee st a fee = .ok l1 ∧ net ≤ l1 a ∧ tokens ≤ st.modIro ∧
      st' = { st with liq := upd l1 a (l1 a - net), planLiq := st.planLiq + net, modIro := st.modIro - tokens,
                      iro := upd st.iro a (st.iro a + tokens), plan := some { p with sold := p.sold + tokens },
                      trades := st.trades + 1 } := by
  unfold doBes at h
  obtain ⟨h1, h⟩ := of_guard h
  cases ht : tradeable st a with
  | error e => rw [ht] at h; cases h
  | ok p =>
    rw [ht] at h
    dsimp only at h
    cases hf : applyTakerFee spend st.cfg.takerFee false with
    | none => rw [hf] at h; cases h
    | some nf =>
      obtain ⟨net, fee⟩ := nf
      rw [hf] at h
      dsimp only at h
      cases htk : tokensForExactIn T p.L p.sold net with
      | none => rw [htk] at h; cases h
      | some tokens =>
        rw [htk] at h
        obtain ⟨h2, h⟩ := of_guard h
        obtain ⟨h3, h⟩ := of_guard h
        cases hl : chargeFee st a fee with
        | error e => rw [hl] at h; cases h
        | ok l1 =>
          rw [hl] at h
          obtain ⟨h4, h⟩ := of_guard h
          obtain ⟨h5, h⟩ := of_guard h
          cases h
          exact ⟨p, net, fee, tokens, l1, rfl, by omega, rfl, htk, by omega, by omega, hl, by omega, by omega, rfl⟩

theorem doSell_ok {I : Int → Int} {st st' : State} {a : Nat} {amt mi : Int} (h : doSell I st a amt mi = .ok st') :
    ∃ p net fee l1, tradeable st a = .ok p ∧ 0 < amt ∧
      applyTakerFee (cost I p.L (p.sold - amt) p.sold) st.cfg.takerFee false = some (net, fee) ∧
      amt ≤ st.iro a ∧ cost I p.L (p.sold - amt) p.sold ≤ st.planLiq ∧
      chargeFee { st with iro := upd st.iro a (st.iro a - amt), modIro := st.modIro + amt,
                          planLiq := st.planLiq - cost I p.L (p.sold - amt) p.sold,
                          liq := upd st.liq a (st.liq a + cost I p.L (p.sold - amt) p.sold),
                          plan := some { p with sold := p.sold - amt }, trades := st.trades + 1 } a fee = .ok l1 ∧
      st' = { st with iro := upd st.iro a (st.iro a - amt), modIro := st.modIro + amt,
                      planLiq := st.planLiq - cost I p.L (p.sold - amt) p.sold,
                      liq := l1,
                      plan := some { p with sold := p.sold - amt }, trades := st.trades + 1 } := by
  unfold doSell at h
  obtain ⟨h1, h⟩ := of_guard h
  cases ht : tradeable st a with
  | error e => rw [ht] at h; cases h
  | ok p =>
    rw [ht] at h
    dsimp only at h
    cases hf : applyTakerFee (cost I p.L (p.sold - amt) p.sold) st.cfg.takerFee false with
    | none => rw [hf] at h; cases h
    | some nf =>
      obtain ⟨net, fee⟩ := nf
      rw [hf] at h
      obtain ⟨h2, h⟩ := of_guard h
      obtain ⟨h3, h⟩ := of_guard h
      obtain ⟨h4, h⟩ := of_guard h
      split at h
      · cases h
      · rename_i l1 hl
        cases h
        exact ⟨p, net, fee, l1, rfl, by omega, hf, by omega, by omega, hl, rfl⟩

theorem isTradeBy_actor {a n : Nat} {op : Op} (h : opActorsOk n op = true) (hop : isTradeBy a op = true) : a < n := by
  cases op with
  | buy b _ _ | bes b _ _ | sell b _ _ => cases (beq_iff_eq.mp hop : b = a); exact of_decide_eq_true h
  | _ => cases hop

/-- what buy, exact-spend purchase and sell have in common: `δ` tokens go from the module to the trader and
    `c` liquidity from the trader to the plan account (a sale: both negative), the fee on top; the tokens are
    worth less than `c + 1` on the curve — for an exact-spend purchase by the Newton contract at its point -/
theorem trade_ok {I : Int → Int} {T : Int → Int → Option Int} {st st' : State} {a : Nat} {op : Op}
    (h : exec I T st op = .ok st') (hop : isTradeBy a op = true) :
    ∃ p δ c l, tradeable st a = .ok p ∧
      st' = { st with liq := l, planLiq := st.planLiq + c, modIro := st.modIro - δ,
                      iro := upd st.iro a (st.iro a + δ), plan := some { p with sold := p.sold + δ },
                      trades := st.trades + 1 } ∧
      (0 < δ ∧ 0 < c ∧ p.sold + δ ≤ p.maxSell ∧ δ ≤ st.modIro ∨
       δ < 0 ∧ c < 0 ∧ 0 ≤ st.iro a + δ ∧ 0 ≤ st.planLiq + c) ∧ l a + c < st.liq a ∧
      (BesOkAt I T st op → pow10 p.L * (I (p.sold + δ) - I p.sold) < decP * (c + 1)) := by
  cases op with
  | buy b amt mc =>
    cases (beq_iff_eq.mp hop : b = a)
    obtain ⟨p, tot, fee, l1, ht, _, hms, hf, hl, _, hmi, rfl⟩ := doBuy_ok h
    obtain ⟨hcp, hfp, -, -⟩ := applyTakerFee_some hf
    have hl1 := (chargeFee_self hl hfp).1
    refine ⟨p, amt, _, _, ht, rfl, Or.inl ⟨by omega, hcp, hms, hmi⟩, ?_, fun _ => (cost_pos_bounds hcp).2⟩
    simp only [upd, if_true]; omega
  | bes b sp mt =>
    cases (beq_iff_eq.mp hop : b = a)
    obtain ⟨p, net, fee, tokens, l1, ht, _, hf, htk, _, hms, hl, _, hmi, rfl⟩ := doBes_ok h
    obtain ⟨hp, -, -⟩ := tradeable_ok ht
    obtain ⟨-, hfp, hnp, -⟩ := applyTakerFee_some hf
    have hl1 := (chargeFee_self hl hfp).1
    refine ⟨p, tokens, net, _, ht, rfl, Or.inl ⟨by omega, hnp, hms, hmi⟩, ?_, fun hB => ?_⟩
    · simp only [upd, if_true]; omega
    · have : pow10 p.L * (I (p.sold + tokens) - I p.sold) ≤ decP * net :=
        hB (p.L, p.sold, net) (by simp [besPoint, hp, hf]) tokens htk
      unfold decP at this ⊢; omega
  | sell b amt mi =>
    cases (beq_iff_eq.mp hop : b = a)
    obtain ⟨p, net, fee, l1, ht, _, hf, hia, hpl, hl, rfl⟩ := doSell_ok h
    obtain ⟨hcp, hfp, -, -⟩ := applyTakerFee_some hf
    have hl1 := (chargeFee_self hl hfp).1
    simp only [upd, if_true] at hl1
    have hb := (cost_pos_bounds hcp).1
    refine ⟨p, -amt, -cost I p.L (p.sold - amt) p.sold, l1, ht, ?_,
      Or.inr ⟨by omega, by omega, by omega, by omega⟩, by omega, fun _ => ?_⟩
    · simp only [Int.sub_neg, ← Int.sub_eq_add_neg]
    · rw [← Int.sub_eq_add_neg]
      simp only [Int.mul_sub] at hb ⊢; unfold decP at hb ⊢; omega
  | _ => cases hop

theorem doCreate_ok {I : Int → Int} {st st' : State} {alloc m n c : Int} {L : Nat} {en : Bool} {stt pd : Int}
    {lp : Dec} {vd vs : Int} (h : doCreate I st alloc m n c L en stt pd lp vd vs = .ok st') :
    createOk I st alloc m n c L en stt pd lp vd vs ∧
    st' = { st with
      plan := some { L := L, alloc := alloc, maxSell := findEquilibrium m n alloc lp, sold := st.cfg.creationFee,
                     claimed := st.cfg.creationFee, enabled := en, startTime := planStart en stt st.now,
                     preLaunch := planPre en (planStart en stt st.now) pd,
                     planDur := pd, liqPart := lp, settled := false, vest := { dur := vd, startAfter := vs } },
      modIro := st.modIro + alloc, liq := upd st.liq st.owner (st.liq st.owner - cost I L 0 st.cfg.creationFee),
      planLiq := st.planLiq + cost I L 0 st.cfg.creationFee } := by
  unfold doCreate at h
  by_cases hc : createOk I st alloc m n c L en stt pd lp vd vs
  · rw [if_pos hc] at h; cases h; exact ⟨hc, rfl⟩
  · rw [if_neg hc] at h; cases h

theorem time_ok {I : Int → Int} {T : Int → Int → Option Int} {st st' : State} {dt : Int}
    (h : exec I T st (.time dt) = .ok st') : 0 ≤ dt ∧ st' = { st with now := st.now + dt } := by
  obtain ⟨hd, h⟩ := of_guard h
  cases h
  exact ⟨by omega, rfl⟩

theorem fund_ok {I : Int → Int} {T : Int → Int → Option Int} {st st' : State} {a : Nat} {amt : Int}
    (h : exec I T st (.fund a amt) = .ok st') : 0 ≤ amt ∧ st' = { st with liq := upd st.liq a (st.liq a + amt) } := by
  obtain ⟨hd, h⟩ := of_guard h
  cases h
  exact ⟨by omega, rfl⟩

theorem doEnable_ok {st st' : State} {a : Nat} (h : doEnable st a = .ok st') :
    ∃ p, st.plan = some p ∧ p.enabled = false ∧ a = st.owner ∧ p.settled = false ∧
      st' = { st with plan := some { p with enabled := true, startTime := st.now, preLaunch := st.now + p.planDur } } := by
  unfold doEnable at h
  cases hp : st.plan with
  | none => rw [hp] at h; cases h
  | some p =>
    rw [hp] at h
    obtain ⟨he, h⟩ := of_guard h
    obtain ⟨ha, h⟩ := of_guard h
    obtain ⟨hs, h⟩ := of_guard h
    cases h
    exact ⟨p, rfl, by simpa using he, by simpa using ha, by simpa using hs, rfl⟩

theorem doSettle_ok {st st' : State} {rf : Int} {ok : Bool} (h : doSettle st rf ok = .ok st') :
    (st.plan = none ∧ st' = { st with modRa := st.modRa + rf }) ∨
    ∃ p, st.plan = some p ∧ p.settled = false ∧ st.modRa + rf = p.alloc ∧
      st' = { st with
        plan := some { p with settled := true,
                              vest := { p.vest with amount := st.planLiq - ((Dec.ofInt st.planLiq).mul p.liqPart).truncateInt,
                                                    start := st.now + p.vest.startAfter,
                                                    stop := st.now + p.vest.startAfter + p.vest.dur } },
        modIro := 0, planLiq := st.planLiq - ((Dec.ofInt st.planLiq).mul p.liqPart).truncateInt,
        modRa := st.modRa + rf - (p.alloc - (p.sold - p.claimed)) } := by
  unfold doSettle at h
  cases hp : st.plan with
  | none => rw [hp] at h; cases h; exact Or.inl ⟨rfl, rfl⟩
  | some p =>
    rw [hp] at h
    obtain ⟨hs, h⟩ := of_guard h
    obtain ⟨hra, h⟩ := of_guard h
    obtain ⟨hok, h⟩ := of_guard h
    cases h
    exact Or.inr ⟨p, rfl, by simpa using hs, by omega, rfl⟩

theorem doClaim_ok {st st' : State} {a : Nat} (h : doClaim st a = .ok st') :
    ∃ p, st.plan = some p ∧ p.settled = true ∧ st.iro a ≠ 0 ∧ st.iro a ≤ st.modRa ∧
      st' = { st with iro := upd st.iro a 0, modRa := st.modRa - st.iro a, ra := upd st.ra a (st.ra a + st.iro a),
                      plan := some { p with claimed := p.claimed + st.iro a } } := by
  unfold doClaim at h
  cases hp : st.plan with
  | none => rw [hp] at h; cases h
  | some p =>
    rw [hp] at h
    obtain ⟨hs, h⟩ := of_guard h
    obtain ⟨hb, h⟩ := of_guard h
    obtain ⟨hle, h⟩ := of_guard h
    cases h
    exact ⟨p, rfl, by simpa using hs, hb, by omega, rfl⟩

/-- nothing to claim on a zero holding -/
theorem doClaim_noTokens {st : State} {a : Nat} {p : Plan} (hp : st.plan = some p) (hs : p.settled = true)
    (h0 : st.iro a = 0) : doClaim st a = .error .noTokens := by
  simp [doClaim, hp, hs, h0]

theorem doClaimVested_ok {st st' : State} {a : Nat} (h : doClaimVested st a = .ok st') :
    ∃ p amt, st.plan = some p ∧ p.settled = true ∧ a = st.owner ∧ vestedAmt p.vest st.now = some amt ∧ 0 < amt ∧
      amt ≤ st.planLiq ∧
      st' = { st with planLiq := st.planLiq - amt, liq := upd st.liq a (st.liq a + amt),
                      plan := some { p with vest := { p.vest with claimed := p.vest.claimed + amt } } } := by
  unfold doClaimVested at h
  cases hp : st.plan with
  | none => rw [hp] at h; cases h
  | some p =>
    rw [hp] at h
    obtain ⟨hs, h⟩ := of_guard h
    obtain ⟨ha, h⟩ := of_guard h
    cases hva : vestedAmt p.vest st.now with
    | none => rw [hva] at h; cases h
    | some amt =>
      rw [hva] at h
      obtain ⟨h0, h⟩ := of_guard h
      obtain ⟨h1, h⟩ := of_guard h
      obtain ⟨h2, h⟩ := of_guard h
      cases h
      exact ⟨p, amt, rfl, by simpa using hs, by omega, hva, by omega, by omega, rfl⟩

theorem doXfer_ok {st st' : State} {a b : Nat} {amt : Int} (h : doXfer st a b amt = .ok st') :
    0 < amt ∧ amt ≤ st.iro a ∧
      st' = { st with iro := upd (upd st.iro a (st.iro a - amt)) b (upd st.iro a (st.iro a - amt) b + amt) } := by
  unfold doXfer at h
  obtain ⟨h1, h⟩ := of_guard h
  obtain ⟨h2, h⟩ := of_guard h
  cases h
  exact ⟨by omega, by omega, rfl⟩

theorem doChown_ok {st st' : State} {a b : Nat} (h : doChown st a b = .ok st') :
    a = st.owner ∧ b ≠ st.owner ∧ st' = { st with owner := b } := by
  unfold doChown at h
  obtain ⟨h1, h⟩ := of_guard h
  obtain ⟨h2, h⟩ := of_guard h
  cases h
  exact ⟨by omega, by omega, rfl⟩

/-- a failed message leaves the state untouched -/
theorem step_err {I : Int → Int} {T : Int → Int → Option Int} {st : State} {op : Op}
    (h : (step I T st op).2 ≠ .ok) : (step I T st op).1 = st := by
  unfold step at h ⊢
  by_cases h0 : (!opActorsOk st.cfg.n op) = true
  · simp [h0]
  · simp only [h0] at h ⊢
    cases hx : exec I T st op with
    | ok s => simp [hx] at h
    | error e => simp

/-- every step either is the identity or succeeds through `exec` -/
theorem step_cases (I : Int → Int) (T : Int → Int → Option Int) (st : State) (op : Op) :
    ((step I T st op).1 = st) ∨ (opActorsOk st.cfg.n op = true ∧ exec I T st op = .ok (step I T st op).1) := by
  unfold step
  by_cases h0 : (!opActorsOk st.cfg.n op) = true
  · simp [h0]
  · simp only [h0]
    cases hx : exec I T st op with
    | ok s => exact Or.inr ⟨by simpa using h0, by simp⟩
    | error e => simp

theorem step_of_exec_ok {I : Int → Int} {T : Int → Int → Option Int} {st s : State} {op : Op}
    (h0 : opActorsOk st.cfg.n op = true) (h : exec I T st op = .ok s) : step I T st op = (s, .ok) := by
  unfold step; simp [h0, h]

theorem step_of_exec_err {I : Int → Int} {T : Int → Int → Option Int} {st : State} {e : Err} {op : Op}
    (h : exec I T st op = .error e) (hne : e ≠ .ok) : (step I T st op).1 = st ∧ (step I T st op).2 ≠ .ok := by
  unfold step
  by_cases h0 : (!opActorsOk st.cfg.n op) = true
  · simp [h0]
  · simp [h0, h, hne]

/-- a trade fails as `GetTradeableIRO` fails (unless its amounts are already invalid) -/
theorem trade_err {I : Int → Int} {T : Int → Int → Option Int} {st : State} {a : Nat} {e : Err} {op : Op}
    (hop : isTradeBy a op = true) (he : tradeable st a = .error e) :
    exec I T st op = .error e ∨ exec I T st op = .error .invalid := by
  cases op with
  | buy b x y =>
    cases (beq_iff_eq.mp hop : b = a)
    by_cases hc : x ≤ 0 ∨ y ≤ 0
    · exact Or.inr (if_pos hc)
    · exact Or.inl (by rw [exec, doBuy, if_neg hc, he])
  | bes b x y =>
    cases (beq_iff_eq.mp hop : b = a)
    by_cases hc : x ≤ 0 ∨ y ≤ 0
    · exact Or.inr (if_pos hc)
    · exact Or.inl (by rw [exec, doBes, if_neg hc, he])
  | sell b x y =>
    cases (beq_iff_eq.mp hop : b = a)
    by_cases hc : x ≤ 0 ∨ y ≤ 0
    · exact Or.inr (if_pos hc)
    · exact Or.inl (by rw [exec, doSell, if_neg hc, he])
  | _ => cases hop

end DymVerif.Iro
