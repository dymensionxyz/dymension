/-
  Lemmas/CoreXUpdate — what an accepted `MsgUpdateState` does to the rollapp records, for every value
  of the `last` flag (plain update, hand-over to a real successor, hand-over to the sentinel = fork to
  the latest height):
    * `updateState_rkeys`: up to `NextProposer`, the records after the update are the records before
      it with the new state appended to the updated rollapp (ids, `lastFin`, every state-info field
      but `next` of every rollapp);
    * `updateState_revs`: the revisions of the updated rollapp are unchanged, except in the
      fork-to-sentinel case where exactly one revision starting right above the new state is added.
  Both follow from `seqAfterUpdate_fs` / `indicateLiveness_fs` (`FS`) and the `Fork.Good` lemmas.
-/
import DymVerif.Lemmas.CoreFinInv
import DymVerif.Lemmas.CoreForkQuiet
import DymVerif.Lemmas.CoreLevOps
namespace DymVerif.Core.XUpd
open DymVerif.Core

theorem find_rKey (R1 R2 : List Rollapp) (h : R1.map rKey = R2.map rKey) (id : Nat) :
    (R1.find? (·.id == id)).map rKey = (R2.find? (·.id == id)).map rKey := by
  induction R1 generalizing R2 with
  | nil =>
    cases R2 with
    | nil => rfl
    | cons y ys => simp at h
  | cons x xs ih =>
    cases R2 with
    | nil => simp at h
    | cons y ys =>
      simp only [List.map_cons, List.cons.injEq] at h
      have hid : x.id = y.id := (rKey_fields h.1).1
      simp only [List.find?_cons, hid]
      cases (y.id == id) with
      | true => simp [h.1]
      | false => exact ih ys h.2

/-- equal key lists give equal keys of every looked-up record (no uniqueness of ids needed: the key
    contains the id and `getRa` takes the first match on both sides) -/
theorem getRa_rKey {s1 s2 : St} (h : s1.ras.map rKey = s2.ras.map rKey) (id : Nat) :
    (getRa s1 id).map rKey = (getRa s2 id).map rKey := find_rKey _ _ h id

theorem getRa_rKey_some {s1 s2 : St} (h : s1.ras.map rKey = s2.ras.map rKey) {id : Nat} {r : Rollapp}
    (hg : getRa s2 id = some r) : ∃ r', getRa s1 id = some r' ∧ rKey r' = rKey r := by
  have := getRa_rKey h id
  rw [hg] at this
  cases h1 : getRa s1 id with
  | none => rw [h1] at this; cases this
  | some r' =>
    rw [h1] at this
    simp only [Option.map_some, Option.some.injEq] at this
    exact ⟨r', rfl, this⟩

theorem getRa_rKey_none {s1 s2 : St} (h : s1.ras.map rKey = s2.ras.map rKey) {id : Nat}
    (hg : getRa s2 id = none) : getRa s1 id = none := by
  have := getRa_rKey h id
  rw [hg] at this
  cases h1 : getRa s1 id with
  | none => rfl
  | some r' => rw [h1] at this; cases this

/-- `eraseNext` keeps exactly what `sKey` lists -/
theorem sKey_of_eraseNext {a b : SInfo} (e : Fork.eraseNext a = Fork.eraseNext b) : sKey a = sKey b := by
  unfold Fork.eraseNext at e
  injection e with e1 e2 e3 e4 e5 e6 e7 e8 e9
  unfold sKey
  rw [e1, e2, e3, e4, e5, e7, e8, e9]

theorem map_sKey_of_eraseNext {l l' : List SInfo} (e : l'.map Fork.eraseNext = l.map Fork.eraseNext) :
    l'.map sKey = l.map sKey := by
  induction l' generalizing l with
  | nil =>
    cases l with
    | nil => rfl
    | cons y ys => simp at e
  | cons x xs ih =>
    cases l with
    | nil => simp at e
    | cons y ys =>
      simp only [List.map_cons, List.cons.injEq] at e
      simp only [List.map_cons, sKey_of_eraseNext e.1, ih e.2]

/-- **Every accepted update appends exactly one state** (any `last` flag): up to the `next` field,
    the rollapp records after the update are those of the state in which the new state info was
    appended to the updated rollapp and nothing else was done. -/
theorem updateState_rkeys {s s' : St} {m : UpdMsg} {r : Rollapp} (hc : ChainAll s) (hi : FinInv s)
    (hgr : getRa s m.ra = some r) (e : updateState s m = .ok s') :
    s'.ras.map rKey = (setRa s { r with states := r.states ++ [newSInfo s m (updSucc r m)] }).ras.map rKey := by
  obtain ⟨r0, s3, _, r4, hvb, hg, _, _, _, hpre, _, h3, rfl, hg4, rfl⟩ := updateState_ok e
  rw [hgr] at hg; injection hg with hg; subst hg
  have hg := hgr
  have hc2 : ChainAll (setRa s { r with states := r.states ++ [newSInfo s m (updSucc r m)] }) :=
    RaAll.setRa hc (LevNs.chain_append_update (hc.get hg) hvb hpre s _)
  have hq2 : QBound (setRa s { r with states := r.states ++ [newSInfo s m (updSucc r m)] }) := by
    intro r2 hr2 e he hra
    have he : e ∈ s.queue := he
    rcases mem_setRa_strong hr2 with ⟨hm, _⟩ | heq
    · exact hi.qbound r2 hm e he hra
    · subst heq
      have := hi.qbound r (getRa_mem hg) e he hra
      refine ⟨this.1, fun i hii => ?_⟩
      have := this.2 i hii
      show i ≤ (r.states ++ [_]).length
      simp; omega
  obtain ⟨p3, s23⟩ := seqAfterUpdate_fs h3 ⟨hi.nodup.setRa _, hc2, hq2⟩
  have hp4 : Pre { s3 with queue := queueAppend s3.queue s3.h m.ra (r.states.length + 1),
                           seqH := addSeqHeights s3.seqH m.sender m.bds } := by
    refine ⟨p3.nodup.of_ids rfl, p3.chain.ras_eq rfl, ?_⟩
    -- the queue bound after the append of the new index
    intro r5 hr5 e he hra
    have hr5 : r5 ∈ s3.ras := hr5
    obtain ⟨r2, hr2, hk⟩ := s23.mem_back hr5
    obtain ⟨k1, _, k3⟩ := rKey_fields hk
    have hlen : r5.states.length = r2.states.length := (map_length_of_eq k3).symm
    have hold : ∀ e0 ∈ s.queue, e0.ra = r5.id → e0.idx ≠ [] ∧ ∀ i ∈ e0.idx, i ≤ r5.states.length := by
      intro e0 he0 hra0
      rw [hlen]; exact hq2 r2 hr2 e0 he0 (by rw [k1]; exact hra0)
    have hq3 : s3.queue = s.queue := s23.queue
    rcases mem_queueAppend _ _ _ _ _ he with ⟨_, k2', k3', k4⟩ | hq
    · refine ⟨(by intro hx; rw [hx] at k3'; cases k3'), ?_⟩
      intro i hii
      rcases k4 i hii with h1 | ⟨e0, he0, _, j2, j3⟩
      · subst h1
        -- r5 is the updated rollapp
        have hid5 : r5.id = m.ra := hra.symm.trans k2'
        rcases mem_setRa_strong hr2 with ⟨_, hne⟩ | heq
        · exfalso; apply hne
          show r2.id = r.id
          rw [k1, hid5, getRa_id hg]
        · subst heq
          rw [hlen]
          show r.states.length + 1 ≤ (r.states ++ [_]).length
          simp
      · rw [hq3] at he0
        exact (hold e0 he0 (by rw [j2]; exact hra)).2 i j3
    · rw [hq3] at hq
      exact hold e hq hra
  obtain ⟨_, s45⟩ := indicateLiveness_fs hg4 hp4
  exact s45.ras.trans s23.ras

/-- the `NextProposer` recorded in the new state differs from the sender exactly in a rotation whose
    successor is not the sender itself -/
theorem updSucc_ne_iff (r : Rollapp) (m : UpdMsg) :
    (updSucc r m != NextP.addr m.sender) = true ↔ m.last = true ∧ r.successor ≠ some m.sender := by
  unfold updSucc
  cases hl : m.last with
  | false => simp
  | true =>
    cases hs : r.successor with
    | none => simp
    | some a =>
      simp only [if_true, bne_iff_ne, ne_eq, true_and, Option.some.injEq]
      constructor
      · intro h hc; apply h; rw [hc]
      · intro h hc; apply h; injection hc

/-- revisions of the rollapp of `q` after the hand-over hook `OnProposerLastBlock` -/
theorem onProposerLastBlock_revs {s s' : St} {q : Seq} {r : Rollapp} {l : SInfo} (hc : Chain r.states)
    (hg : getRa s q.rollapp = some r) (hl : r.states.getLast? = some l) (e : onProposerLastBlock s q = .ok s') :
    ∃ r', getRa s' q.rollapp = some r' ∧
      r'.revs = if r.successor = none then r.revs ++ [(latestRev r + 1, l.start + l.num)] else r.revs := by
  obtain ⟨_, r1, _, hg1', rfl, h2⟩ := onProposerLastBlock_ok e
  rw [hg] at hg1'; injection hg1' with hg1'; subst hg1'
  have hid := getRa_id hg
  have hg1 : getRa (setRa s { r with successor := none, proposer := r.successor }) r.id =
      some { r with successor := none, proposer := r.successor } :=
    LevNs.getRa_setRa_same_id (by rw [hid]; exact hg) rfl
  rcases h2 with ⟨hs, e⟩ | ⟨a, hs, rfl⟩
  · rw [if_pos hs]
    obtain ⟨r1, lh, hgp, hlh, hf, hp⟩ := Fork.hardForkToLatest_plan e
    rw [hg1] at hgp; injection hgp with hgp; subst hgp
    obtain ⟨l1, hl1, _, hplan⟩ := hp hc
    have hl1 : r.states.getLast? = some l1 := hl1
    rw [hl] at hl1; injection hl1 with hl1; subst hl1
    obtain ⟨p', h1, _⟩ := Fork.hardFork_getRa_same hg1 hplan hf
    refine ⟨_, by rw [← hid]; exact h1, ?_⟩
    have hw := hc.wf l (List.mem_of_getLast? hl)
    have hle := hw.last_eq
    have hpos := hw.num_pos
    show r.revs ++ [(latestRev r + 1, ({ l with next := NextP.empty } : SInfo).last + 1)] = _
    have : ({ l with next := NextP.empty } : SInfo).last = l.last := rfl
    rw [this, hle]
    congr 3
    omega
  · rw [if_neg (by rw [hs]; simp)]
    obtain ⟨r', h1, h2, _⟩ := (Fork.afterSetRealProposer_good
      (setRa s { r with successor := none, proposer := r.successor }) r.id a).keep r.id _ hg1
    exact ⟨r', by rw [← hid]; exact h1, congrArg Prod.fst h2⟩

/-- **Revisions after an accepted update**: unchanged, except when the update is the proposer's last
    block and there is no successor (hand-over to the sentinel): then the rollapp is forked to its
    latest height, which adds exactly one revision, numbered `latest + 1` and starting right above
    the new state. -/
theorem updateState_revs {s s' : St} {m : UpdMsg} {r : Rollapp} (hi : Fork.Inv s)
    (hgr : getRa s m.ra = some r) (e : updateState s m = .ok s') :
    ∃ r', getRa s' m.ra = some r' ∧
      r'.revs = if m.last = true ∧ r.successor = none
                then r.revs ++ [(latestRev r + 1, m.start + m.num)] else r.revs := by
  obtain ⟨r0, s3, _, r4, hvb, hg, hpr, _, _, hpre, _, h3, rfl, hg4, rfl⟩ := updateState_ok e
  rw [hgr] at hg; injection hg with hg; subst hg
  have hg := hgr
  have hid := getRa_id hg
  -- the sender is a sequencer of this very rollapp
  obtain ⟨prop, hq, hqr⟩ : Fork.SeqOf s m.sender m.ra := by
    have h0 := (hi.j.prop m.ra r hg).1 m.sender hpr
    rw [hid] at h0; exact h0
  have hga : getRa (setRa s { r with states := r.states ++ [newSInfo s m (updSucc r m)] }) m.ra =
      some { r with states := r.states ++ [newSInfo s m (updSucc r m)] } :=
    LevNs.getRa_setRa_same_id hg hid
  have hca : Chain (r.states ++ [newSInfo s m (updSucc r m)]) :=
    LevNs.chain_append_update (hi.chain.get hg) hvb hpre s _
  -- revisions of the rollapp after the sequencer hook
  have key : ∃ r3, getRa s3 m.ra = some r3 ∧
      r3.revs = if m.last = true ∧ r.successor = none
                then r.revs ++ [(latestRev r + 1, m.start + m.num)] else r.revs := by
    obtain ⟨prop', _, hq', rfl, h2⟩ := seqAfterUpdate_ok h3
    rw [show getSeq (setRa s _) m.sender = some prop from hq] at hq'
    injection hq' with hq'; subst hq'
    rcases h2 with ⟨hb, rfl⟩ | ⟨hb, h3⟩
    · refine ⟨_, hga, ?_⟩
      rw [if_neg]
      rintro ⟨h1, h2⟩
      have := (updSucc_ne_iff r m).2 ⟨h1, by rw [h2]; simp⟩
      rw [hb] at this; cases this
    · have hlast := ((updSucc_ne_iff r m).1 hb).1
      obtain ⟨r3, h1, h2⟩ := onProposerLastBlock_revs
        (r := { r with states := r.states ++ [newSInfo s m (updSucc r m)] })
        (l := newSInfo s m (updSucc r m)) hca
        (by show getRa (setRa s _) prop.rollapp = _; rw [hqr]; exact hga)
        List.getLast?_concat h3
      refine ⟨r3, by rw [← hqr]; exact h1, ?_⟩
      rw [h2]
      show (if r.successor = none then r.revs ++ [(latestRev r + 1, m.start + m.num)] else r.revs) = _
      by_cases hs : r.successor = none
      · rw [if_pos hs, if_pos ⟨hlast, hs⟩]
      · rw [if_neg hs, if_neg (fun h => hs h.2)]
  obtain ⟨r3, hg3, hrev3⟩ := key
  have hg4' : getRa s3 m.ra = some r4 := hg4
  rw [hg3] at hg4'; injection hg4' with hg4'; subst hg4'
  obtain ⟨r', h1, h2, _⟩ := (Fork.indicateLiveness_good (id := m.ra) hg4).keep m.ra r3 hg4
  exact ⟨r', h1, (congrArg Prod.fst h2).trans hrev3⟩

end DymVerif.Core.XUpd
