/-
  Lemmas/IncentDue — the exact-amount theorems composed through WHOLE BLOCKS.
  `endGauges s` / `beginGauges s dt` are the (executable) lists of gauge values handed to x/incentives
  `Keeper.Distribute` by every distribution of the block that went through: the streamer EndBlock; for the
  epochs BeginBlocker, per epoch identifier (day, hour, week) the streamer `AfterEpochEnd` flush and the
  incentives `AfterEpochEnd` hook (a hook that fails is rolled back by the epochs wrapper and contributes
  nothing).  `begin_pays_exactly` / `end_pays_exactly`: over the block every account other than the two module
  accounts gains EXACTLY `Σ_{g ∈ …Gauges} dueG s g a` (`dueG` read in the block's first state: locks and
  rollapps do not change inside a block).  The driver prints `blockDue` / `blockHandout` (these very functions)
  for every `begin` and `end` line and the harness compares them with the real balance / gauge deltas.
-/
import DymVerif.Lemmas.IncentProp
namespace DymVerif.Incent
open DymVerif Coins

/-- gauges distributed by the streamer EndBlock (none when it fails: the block is not committed) -/
def endGauges (s : State) : List Gauge :=
  match streamerEndBlock s with
  | .ok _ => strGauges s [0, 1, 2] (activeStreams s) s.maxIter
  | .error _ => []

/-- gauges distributed by the streamer `AfterEpochEnd` hook of epoch `e` -/
def saeGauges (s : State) (e : Nat) : List Gauge :=
  match streamerAfterEpochEnd s e with
  | .error _ => []
  | .ok _ => if (activeStreamsFor s e).isEmpty then [] else strGauges s [e] (activeStreamsFor s e) maxU64

/-- gauges distributed by the incentives `AfterEpochEnd` hook of epoch `e` -/
def iaeGauges (s : State) (e : Nat) : List Gauge :=
  match incAfterEpochEnd s e with
  | .error _ => []
  | .ok _ => if e != 2 then [] else (incActivated s).filter (·.status == GStatus.active)

/-- gauges distributed by the epochs BeginBlocker for epoch info `e` (mirrors `epochTick`) -/
def tickGauges (s : State) (e : Nat) : List Gauge :=
  match s.epochs[e]? with
  | none => []
  | some ep =>
    if s.now < ep.startTime then [] else
    let initial := !ep.started
    if !(decide (ep.curStart + ep.dur < s.now) || initial) then [] else
    if initial then [] else
      saeGauges s e ++ iaeGauges (applyHook (fun x => streamerAfterEpochEnd x e) s) e

/-- all gauge values distributed during `begin dt` -/
def beginGauges (s : State) (dt : Nat) : List Gauge :=
  let s0 := { s with now := s.now + dt }
  let s1 := epochTick s0 0
  let s2 := epochTick s1 1
  tickGauges s0 0 ++ tickGauges s1 1 ++ tickGauges s2 2

/-- what account `a` is due over a block that distributes the gauge values `gs` -/
def blockDue (s : State) (gs : List Gauge) (a i : Nat) : Nat := (gs.map (dueG s · a i)).sum

/-- what gauge `gid` hands out over a block that distributes the gauge values `gs` -/
def blockHandout (s : State) (gs : List Gauge) (gid i : Nat) : Nat :=
  ((gs.filter (·.id == gid)).map (dueTotal s · i)).sum

theorem blockDue_append (s : State) (l1 l2 : List Gauge) (a i : Nat) :
    blockDue s (l1 ++ l2) a i = blockDue s l1 a i + blockDue s l2 a i := by
  simp [blockDue]

theorem blockDue_congr {s s' : State} (h1 : s'.locks = s.locks) (h2 : s'.rollapps = s.rollapps) (gs : List Gauge) (a i : Nat) :
    blockDue s' gs a i = blockDue s gs a i := by
  unfold blockDue
  apply congrArg
  exact List.map_congr_left (fun g _ => (dueG_congr h1 h2 g a i).1)

/-- the streamer epoch-end hook inside the epochs wrapper -/
theorem sae_pays_exactly (s : State) (e : Nat) (hg : GInv s) (a : Nat) (ha : a ≠ streamerAddr) (hb : a ≠ incAddr) (i : Nat) :
    amt ((applyHook (fun x => streamerAfterEpochEnd x e) s).bank.get a) i = amt (s.bank.get a) i + blockDue s (saeGauges s e) a i := by
  unfold applyHook saeGauges
  dsimp only
  cases h : streamerAfterEpochEnd s e with
  | error x => rfl
  | ok s' =>
    dsimp only
    rcases streamerAfterEpochEnd_cases h with ⟨hemp, h1⟩ | ⟨hemp, s1, hd, h1⟩ <;> rw [hemp, h1]
    · rfl
    · exact (strDistribute_pays_explicit s _ _ _ _ s1 hg hd).2.2.1 a ha hb i

/-- the incentives epoch-end hook inside the epochs wrapper -/
theorem iae_pays_exactly (s : State) (e : Nat) (a : Nat) (hb : a ≠ incAddr) (i : Nat) :
    amt ((applyHook (fun x => incAfterEpochEnd x e) s).bank.get a) i = amt (s.bank.get a) i + blockDue s (iaeGauges s e) a i := by
  unfold applyHook iaeGauges
  dsimp only
  cases h : incAfterEpochEnd s e with
  | error x => rfl
  | ok s' =>
    dsimp only
    rcases incAfterEpochEnd_cases h with ⟨he, h1⟩ | ⟨he, s2, hd, h1⟩ <;> rw [he, h1]
    · rfl
    · rw [checkFinished_frame2]
      exact (incDistribute_exact _ _ _ _ hd a hb i).trans
        (congrArg _ (blockDue_congr (s := s) (s' := { s with gauges := incActivated s }) rfl rfl _ a i))

theorem beforeEpochStart_bank (s : State) (e : Nat) : (applyHook (fun x => streamerBeforeEpochStart x e) s).bank = s.bank := by
  unfold applyHook
  dsimp only
  cases h : streamerBeforeEpochStart s e with
  | error x => rfl
  | ok s' => exact (streamerBeforeEpochStart_same s e s' h).2.1

/-- one epoch info of the epochs BeginBlocker -/
theorem tick_pays_exactly (s : State) (e : Nat) (hg : GInv s) (a : Nat) (ha : a ≠ streamerAddr) (hb : a ≠ incAddr) (i : Nat) :
    amt ((epochTick s e).bank.get a) i = amt (s.bank.get a) i + blockDue s (tickGauges s e) a i := by
  unfold epochTick tickGauges
  cases s.epochs[e]? with
  | none => rfl
  | some ep =>
    dsimp only
    by_cases h1 : s.now < ep.startTime
    · simp only [if_pos h1]; rfl
    simp only [if_neg h1]
    by_cases h2 : (!(decide (ep.curStart + ep.dur < s.now) || !ep.started)) = true
    · simp only [if_pos h2]; rfl
    simp only [if_neg h2]
    by_cases h3 : (!ep.started) = true
    · simp only [if_pos h3]; rw [beforeEpochStart_bank]; rfl
    · simp only [if_neg h3]
      rw [beforeEpochStart_bank]
      obtain ⟨a1, b1⟩ := applyHook_spec (fun x => streamerAfterEpochEnd x e) s hg
        (fun s' h => streamerAfterEpochEnd_spec _ _ _ hg h)
      show amt ((applyHook (fun x => incAfterEpochEnd x e) (applyHook (fun x => streamerAfterEpochEnd x e) s)).bank.get a) i = _
      rw [iae_pays_exactly _ e a hb i, sae_pays_exactly s e hg a ha hb i, blockDue_append,
        blockDue_congr b1.locks b1.rollapps]
      omega

/-- **the whole `begin` step (epochs BeginBlocker over day, hour, week; per epoch the streamer flush, the
    incentives hook and the streamer epoch start), any state satisfying the gauge invariant**: every account
    other than the two module accounts gains exactly what the gauge values distributed in the block owe it -/
theorem begin_pays_exactly (s : State) (dt : Nat) (hg : GInv s) (a : Nat) (ha : a ≠ streamerAddr) (hb : a ≠ incAddr) (i : Nat) :
    amt ((beginBlock s dt).bank.get a) i = amt (s.bank.get a) i + blockDue s (beginGauges s dt) a i := by
  unfold beginBlock beginGauges
  have hs : Same s { s with now := s.now + dt } := ⟨rfl, rfl, rfl, rfl⟩
  generalize hs0 : ({ s with now := s.now + dt } : State) = s0 at hs
  have hbank : s0.bank = s.bank := hs.2.1
  obtain ⟨a0, b0⟩ := epochTick_spec s0 0 (hs.ginv hg)
  obtain ⟨a1, b1⟩ := epochTick_spec _ 1 a0
  have t0 := tick_pays_exactly s0 0 (hs.ginv hg) a ha hb i
  have t1 := tick_pays_exactly _ 1 a0 a ha hb i
  have t2 := tick_pays_exactly _ 2 a1 a ha hb i
  have c0 := blockDue_congr (s := s) (s' := s0) hs.2.2.1 hs.2.2.2 (tickGauges s0 0) a i
  have c1 := blockDue_congr (s := s) (s' := epochTick s0 0) (b0.locks.trans hs.2.2.1) (b0.rollapps.trans hs.2.2.2) (tickGauges (epochTick s0 0) 1) a i
  have c2 := blockDue_congr (s := s) (s' := epochTick (epochTick s0 0) 1) (b1.locks.trans (b0.locks.trans hs.2.2.1))
    (b1.rollapps.trans (b0.rollapps.trans hs.2.2.2)) (tickGauges (epochTick (epochTick s0 0) 1) 2) a i
  simp only
  rw [blockDue_append, blockDue_append, t2, t1, t0, c0, c1, c2, hbank]
  omega

/-- **the whole `end` step** whatever its outcome -/
theorem end_pays_exactly (s : State) (hg : GInv s) (a : Nat) (ha : a ≠ streamerAddr) (hb : a ≠ incAddr) (i : Nat) :
    amt ((step s .end_).2.bank.get a) i = amt (s.bank.get a) i + (if s.halted then 0 else blockDue s (endGauges s) a i) := by
  unfold step endGauges
  by_cases hh : s.halted = true
  · simp [hh]
  · simp only [hh, Bool.false_eq_true, if_false]
    cases h : streamerEndBlock s with
    | error x => simp [blockDue]
    | ok s' =>
      simp only
      unfold streamerEndBlock at h
      exact (strDistribute_pays_explicit s _ _ _ _ s' hg h).2.2.1 a ha hb i

/-- what gauge `gid` hands out over the `end` step is what its stored distributed coins grow by -/
theorem end_handout_exactly (s s' : State) (hg : GInv s) (h : streamerEndBlock s = .ok s') :
    ∀ g ∈ endGauges s, ∃ g', getG s'.gauges g.id = some g' ∧ ∀ i, amt g'.distributed i = amt g.distributed i + blockHandout s (endGauges s) g.id i := by
  intro g hgm
  unfold endGauges at hgm ⊢
  rw [h] at hgm ⊢
  simp only at hgm ⊢
  unfold streamerEndBlock at h
  obtain ⟨hnd, _, _, hx⟩ := strDistribute_pays_explicit s _ _ _ _ s' hg h
  obtain ⟨g', e1, e2⟩ := hx g hgm
  refine ⟨g', e1, fun i => ?_⟩
  rw [e2 i]
  congr 1
  -- ids are distinct: the filter keeps `g` alone
  unfold blockHandout
  generalize strGauges s [0, 1, 2] (activeStreams s) s.maxIter = l at hnd hgm
  clear hx e1 e2 h
  induction l with
  | nil => simp at hgm
  | cons x xs ih =>
    have hn0 : (x.id :: xs.map (·.id)).Nodup := hnd
    obtain ⟨n1, n2⟩ := List.nodup_cons.1 hn0
    rcases List.mem_cons.1 hgm with he | hm
    · subst he
      have : xs.filter (·.id == g.id) = [] := by
        apply List.filter_eq_nil_iff.2
        intro y hy
        simp only [beq_iff_eq]
        intro hyid
        exact n1 (by rw [← hyid]; exact List.mem_map_of_mem (f := (·.id)) hy)
      simp [List.filter_cons, this]
    · have hne : (x.id == g.id) = false := by
        simp only [beq_eq_false_iff_ne, ne_eq]
        intro hx
        exact n1 (by rw [hx]; exact List.mem_map_of_mem (f := (·.id)) hm)
      simp only [List.filter_cons, hne, Bool.false_eq_true, if_false]
      exact ih n2 hm

end DymVerif.Incent
