/-
  Lemmas/CoreXFrame — frame lemmas for the state chain of a rollapp:
    * `cKey`: what the chain clauses of C01 read in a rollapp record (id, latest finalized index,
      revisions, every state-info field but `next`); an op that is finalization-neutral (`FS`) and
      fork-neutral (`Fork.Good`) keeps `cKey` of every rollapp (`kept_of`);
    * `beginBlock` and `setRa` of a record with the same `cKey` keep it too;
    * `EndBlock`: `endKey` (everything of a record except states / lastFin / evH) is kept, and the
      states change by finalization flags only (`endBlock_rec`);
    * the height lookup returns nothing below the first recorded height.
-/
import DymVerif.Lemmas.CoreXUpdate
import DymVerif.Lemmas.CoreFinIso
namespace DymVerif.Core.XUpd
open DymVerif.Core

/-- what the chain clauses read in a rollapp record: id, latest finalized index, revisions, and the
    recorded states up to `NextProposer` -/
def cKey (r : Rollapp) : Nat × Nat × List (Nat × Nat) × List (Addr × Nat × Nat × Nat × Bool × List BD × Nat × Nat) :=
  (r.id, r.lastFin, r.revs, r.states.map sKey)

theorem cKey_fields {a b : Rollapp} (h : cKey a = cKey b) :
    a.id = b.id ∧ a.lastFin = b.lastFin ∧ a.revs = b.revs ∧ a.states.map sKey = b.states.map sKey := by
  unfold cKey at h
  simp only [Prod.mk.injEq] at h
  exact h

theorem cKey_of {a b : Rollapp} (h1 : rKey a = rKey b) (h2 : a.revs = b.revs) : cKey a = cKey b := by
  obtain ⟨k1, k2, k3⟩ := rKey_fields h1
  unfold cKey; rw [k1, k2, k3, h2]

/-- a step that keeps the finalization keys and is `Fork.Good` keeps the chain view of every rollapp
    (and creates / removes none) -/
theorem kept_of {s s' : St} (hs : s'.ras.map rKey = s.ras.map rKey) (hg : Fork.Good s s') (id : Nat) :
    (getRa s' id).map cKey = (getRa s id).map cKey := by
  cases h : getRa s id with
  | none => rw [getRa_rKey_none hs h]
  | some r =>
    obtain ⟨r', h1, hk⟩ := getRa_rKey_some hs h
    obtain ⟨r'', h2, hv, _⟩ := hg.keep id r h
    rw [h1] at h2; injection h2 with h2; subst h2
    rw [h1]
    simp only [Option.map_some, Option.some.injEq]
    exact cKey_of hk (congrArg Prod.fst hv)

theorem kept_of_fs {s s' : St} (hp : Pre s) (hf : FS s s') (hg : Fork.Good s s') (id : Nat) :
    (getRa s' id).map cKey = (getRa s id).map cKey := kept_of (hf hp).2.ras hg id

theorem beginBlock_kept {s : St} (dt : Nat) (hp : Pre s) (hi : Fork.Inv s) (id : Nat) :
    (getRa (beginBlock s dt) id).map cKey = (getRa s id).map cKey := by
  have hp1 : Pre { s with h := s.h + 1, t := s.t + dt } := ⟨hp.nodup, hp.chain, hp.qb⟩
  have hs : (beginBlock s dt).ras.map rKey = s.ras.map rKey := (beginBlock_fs s dt hp1).2.ras
  exact kept_of hs (Fork.beginBlock_good hi.cust.nodup) id

/-- writing back a record with the same chain view -/
theorem setRa_kept {s : St} {r r1 : Rollapp} {ra : Nat} (hg : getRa s ra = some r) (hk : cKey r1 = cKey r) (id : Nat) :
    (getRa (setRa s r1) id).map cKey = (getRa s id).map cKey := by
  have hid : r1.id = ra := (cKey_fields hk).1.trans (getRa_id hg)
  by_cases hx : r1.id = id
  · subst hx
    rw [getRa_setRa_self (r := r1) (by rw [hid]; exact hg), hid, hg]
    simp [hk]
  · rw [getRa_setRa_ne hx]

/-- everything of a rollapp record that `EndBlock` never writes: all of it except the states, the
    latest finalized index and the liveness event height -/
def endKey (r : Rollapp) : Nat × Addr × Nat × Bool × List (Nat × Nat) × Nat × Nat × Option Addr × Option Addr :=
  (r.id, r.owner, r.minBond, r.launched, r.revs, r.tph, r.cdStart, r.proposer, r.successor)

theorem endKey_fields {a b : Rollapp} (h : endKey a = endKey b) :
    a.id = b.id ∧ a.owner = b.owner ∧ a.minBond = b.minBond ∧ a.launched = b.launched ∧ a.revs = b.revs ∧
      a.tph = b.tph ∧ a.cdStart = b.cdStart ∧ a.proposer = b.proposer ∧ a.successor = b.successor := by
  unfold endKey at h
  simp only [Prod.mk.injEq] at h
  exact h

theorem endKey_of_livKey {a b : Rollapp} (h : livKey a = livKey b) : endKey a = endKey b := by
  unfold livKey at h
  simp only [Prod.mk.injEq] at h
  obtain ⟨h1, h2, h3, h4, h5, h6, _, h8, h9, h10⟩ := h
  unfold endKey
  rw [h1, h2, h3, h4, h5, h6, h8, h9, h10]

theorem getRa_setRa_endKey (s0 : St) (r0 r1 : Rollapp) (id : Nat) (hg : getRa s0 r0.id = some r1)
    (hk : endKey r0 = endKey r1) : (getRa (setRa s0 r0) id).map endKey = (getRa s0 id).map endKey := by
  by_cases hid : r0.id = id
  · subst hid
    rw [getRa_setRa_self hg, hg]
    simp [hk]
  · rw [getRa_setRa_ne hid]

theorem handleLivenessEvent_endKey (s : St) (ra id : Nat) :
    (getRa (handleLivenessEvent s ra) id).map endKey = (getRa s id).map endKey := by
  unfold handleLivenessEvent
  split
  · rfl
  · split
    · rfl
    · rename_i s1 hs1
      have hf := slashLiveness_frame hs1
      split
      · rfl
      · rename_i r1 hg1
        unfold scheduleEvent
        dsimp only
        refine (getRa_setRa_endKey _ _ r1 id ?_ ?_).trans ?_
        · show getRa s1 r1.id = some r1
          rw [getRa_id hg1]; exact hg1
        · rfl
        · show (getRa s1 id).map endKey = _
          rw [getRa_frame hf.ras]

theorem checkLiveness_endKey (s : St) (id : Nat) : (getRa (checkLiveness s) id).map endKey = (getRa s id).map endKey := by
  unfold checkLiveness
  apply foldl_inv (fun b => (getRa b id).map endKey = (getRa s id).map endKey)
  · rfl
  · intro b e hb
    rw [handleLivenessEvent_endKey]; exact hb

/-- `EndBlock` writes nothing of a rollapp record but its states, `lastFin` and `evH` -/
theorem endBlock_endKey (s : St) (hn : IdsNodup s) (fails : List (Nat × Nat)) (id : Nat) :
    (getRa (endBlock s fails) id).map endKey = (getRa s id).map endKey := by
  unfold endBlock
  rw [checkLiveness_endKey]
  obtain ⟨R, Q, H, h2, hR⟩ := finalizeRollappStates_livEq s fails hn
  have h3 := getRa_livKey (s1 := finalizeRollappStates s fails) (s2 := s) (by rw [h2]; exact hR) id
  cases ha : getRa (finalizeRollappStates s fails) id with
  | none =>
    rw [ha] at h3
    cases hb : getRa s id with
    | none => rfl
    | some b => rw [hb] at h3; cases h3
  | some a =>
    rw [ha] at h3
    cases hb : getRa s id with
    | none => rw [hb] at h3; cases h3
    | some b =>
      rw [hb] at h3
      simp only [Option.map_some, Option.some.injEq] at h3 ⊢
      exact endKey_of_livKey h3

/-- **What `EndBlock` does to one rollapp record** (any failure oracle): the record survives with the
    same number of states; every state is either identical (all fields, `next` included) or was
    unfinalized and differs in the finalization flag and the ghost finalization height only; the
    latest finalized index does not decrease and stays within the states; nothing else but the
    liveness event height is written. -/
theorem endBlock_rec {s : St} (fails : List (Nat × Nat)) (hi : FinInv s) {id : Nat} {r : Rollapp}
    (hg : getRa s id = some r) :
    ∃ r', getRa (endBlock s fails) id = some r' ∧ r'.states.length = r.states.length ∧
      (∀ (i : Nat) (st : SInfo), r.states[i]? = some st → ∃ st', r'.states[i]? = some st' ∧
        (st' = st ∨ (st.finalized = false ∧ st' = { st with finalized := true, finalizedAt := s.h }))) ∧
      r.lastFin ≤ r'.lastFin ∧ r'.lastFin ≤ r'.states.length ∧ endKey r' = endKey r := by
  obtain ⟨hi1, _⟩ := finalizeRollappStates_fin fails hi
  obtain ⟨_, _, _, hrel⟩ := finalizeRollappStates_rel fails hi.nodup
  have hid := getRa_id hg
  obtain ⟨r1, hr1, hid1, hlen1, hs1⟩ := hrel r (getRa_mem hg)
  have hg1 : getRa (finalizeRollappStates s fails) id = some r1 := by
    rw [← hid, ← hid1]; exact getRa_of_mem hi1.nodup hr1
  have hfp := checkLiveness_finPart (finalizeRollappStates s fails) id
  rw [hg1] at hfp
  cases hg2 : getRa (checkLiveness (finalizeRollappStates s fails)) id with
  | none => rw [hg2] at hfp; cases hfp
  | some r2 =>
    rw [hg2] at hfp
    simp only [Option.map_some, Option.some.injEq, finPart, Prod.mk.injEq] at hfp
    have hek := endBlock_endKey s hi.nodup fails id
    unfold endBlock at hek ⊢
    rw [hg2, hg] at hek
    simp only [Option.map_some, Option.some.injEq] at hek
    refine ⟨r2, hg2, by rw [hfp.1]; exact hlen1, ?_, ?_, ?_, hek⟩
    · rw [hfp.1]; exact hs1
    · rw [hfp.2]
      -- the finalized prefix cannot shrink: the state at index lastFin r1 would be finalized in r …
      rcases Nat.lt_or_ge r1.lastFin r.lastFin with hlt | hge
      · exfalso
        have hf0 := hi.ras r (getRa_mem hg)
        have hf1 := hi1.ras r1 hr1
        have hlt2 : r1.lastFin < r.states.length := by have := hf0.le; omega
        have hst : r.states[r1.lastFin]? = some r.states[r1.lastFin] := List.getElem?_eq_getElem hlt2
        have hfin := (hf0.pre _ _ hst).2 hlt
        obtain ⟨st', hst', hc⟩ := hs1 _ _ hst
        have hfin' : st'.finalized = true := by
          rcases hc with hc | ⟨hc, _⟩
          · rw [hc]; exact hfin
          · rw [hfin] at hc; cases hc
        have := (hf1.pre _ _ hst').1 hfin'
        omega
      · exact hge
    · rw [hfp.1, hfp.2]; exact (hi1.ras r1 hr1).le

/-- `EndBlock` creates and removes no rollapp -/
theorem endBlock_ids_eq {s : St} (fails : List (Nat × Nat)) (hc : ChainAll s) (hi : FinInv s) :
    (endBlock s fails).ras.map (·.id) = s.ras.map (·.id) := by
  obtain ⟨hi1, _⟩ := finalizeRollappStates_fin fails hi
  obtain ⟨_, _, hids, _⟩ := finalizeRollappStates_rel fails hi.nodup
  have hc1 := finalizeRollappStates_chain fails hc
  unfold endBlock
  exact ((checkLiveness_fs _ (hi1.pre hc1)).2.ids).trans hids

/-- under the chain invariant the height lookup returns nothing below the first recorded height -/
theorem findByHeight_none_below {r : Rollapp} (hc : Chain r.states) {first : SInfo} (hf : r.states[0]? = some first)
    {h : Nat} (hlt : h < first.start) : findByHeight r h = none := by
  cases e : findByHeight r h with
  | none => rfl
  | some i =>
    exfalso
    obtain ⟨st, hst, hcont⟩ := findByHeight_sound r h i e
    have hw := hc.wf st (List.mem_of_getElem? hst)
    have h1 := ((contains_iff st h hw).1 hcont).1
    have h2 := hc.first_le hf (i - 1) st hst
    omega

end DymVerif.Core.XUpd
