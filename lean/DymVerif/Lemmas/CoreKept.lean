/-
  Lemmas/CoreKept — which ops keep the chain view (`XUpd.cKey`) of every rollapp: every write keeps it except the
  creation of a rollapp, an appended state, a fork and a finalization (`Kind.keepsChain`, `Write.kept`), so an op
  without those four kinds in its footprint keeps it, in any state (`apply_kept`).
-/
import DymVerif.Lemmas.CoreXFrame
namespace DymVerif.Core
open XUpd

/-- every rollapp has the same chain view in both states -/
def Kept (s s' : St) : Prop := ∀ id, (getRa s' id).map cKey = (getRa s id).map cKey

theorem Kept.refl (s : St) : Kept s s := fun _ => rfl
theorem Kept.trans {a b c : St} (x : Kept a b) (y : Kept b c) : Kept a c := fun id => (y id).trans (x id)
theorem Kept.of_ras {s s' : St} (e : s'.ras = s.ras) : Kept s s' := fun id => by rw [getRa_of_ras_eq e]
theorem Kept.setRa {s : St} {r r1 : Rollapp} {ra : Nat} (hg : getRa s ra = some r) (hk : cKey r1 = cKey r) :
    Kept s (setRa s r1) := setRa_kept hg hk

theorem indicateLiveness_kept {s : St} {ra : Nat} {r : Rollapp} (hg : getRa s ra = some r) : Kept s (indicateLiveness s r) := by
  unfold indicateLiveness resetClock scheduleEvent
  exact (Kept.of_ras (s' := { s with lev := _ }) rfl).trans (.setRa (show getRa { s with lev := _ } ra = some r from hg) rfl)

/-- the writes that leave the recorded states, revisions and finalization index of every rollapp alone -/
def Kind.keepsChain : Kind → Bool
  | .ra .newRa | .ra .append | .ra .revert | .ra .fin => false
  | _ => true

theorem Write.kept {k : Kind} {b b' : St} (hk : k.keepsChain = true) (w : Write k b b') : Kept b b' := by
  cases w with
  | sq w => exact .of_ras w.raSide.ras
  | aux w => exact .of_ras w.same.1
  | abrupt ra =>
    exact RoleClosed.abruptRemoveProposer (P := Kept b) (ra := ra)
      ⟨fun hg h => h.trans (.setRa hg rfl), fun hg h => h.trans (.setRa hg rfl), fun _ h => h.trans (.of_ras rfl),
        fun h => h.trans (.of_ras rfl), fun q h => h.trans (.of_ras (removeFromNoticeQueue_ras _ q))⟩ (.refl b)
  | ra w =>
    cases w with
    | newRa | append | revert | fin => cases hk
    | launch hg | bridge _ _ hg | owner _ hg | vacate hg | succ hg => exact .setRa hg rfl
    | recover _ hg | rotate _ hg =>
      -- `NextProposer` of the latest state is not part of the chain view
      exact (Kept.setRa hg (by unfold cKey; simp only [setLastNext_sKey])).trans
        (indicateLiveness_kept (getRa_setRa_self ((getRa_id hg).symm ▸ hg)))
    | indicate hg => exact indicateLiveness_kept hg
    | resched ra hg =>
      unfold scheduleEvent
      exact (Kept.of_ras (s' := { b with lev := _ }) rfl).trans (.setRa (show getRa { b with lev := _ } ra = some _ from hg) rfl)
    | clearSucc ra =>
      rcases setSuccessor_cases b ra none with ⟨_, e⟩ | ⟨r, hg, e⟩ <;> rw [e]
      · exact .refl b
      · exact .setRa hg rfl

/-- in any state, an op whose footprint keeps the chain keeps the chain view of every rollapp -/
theorem apply_kept {s s' : St} {o : Op} (hk : ∀ k ∈ o.kinds, k.keepsChain = true) (e : apply s o = .ok s') : Kept s s' :=
  (apply_writes e).rel Kept.refl Kept.trans (fun h => Write.kept (hk _ h))

end DymVerif.Core
