/-
  Lemmas/LCAdmin — upgrade / recovery of a client that is NOT canonical leaves everything C09 is about alone.
-/
import DymVerif.Model.LCAdmin
import DymVerif.Lemmas.LCAgree
namespace DymVerif.LC
open DymVerif.Core (Addr NextP)

/-- rewriting a client that is not canonical preserves the agreement invariant -/
theorem agree_setClient_noncanon {s : St} (hm : MapsInv s) (ha : AgreeInv s) (new : Client)
    (hc : lookup s.c2r new.id = none) : AgreeInv (setClient s new) := by
  refine ((ha.toEx _).setClient new fun r a => ?_).toInv
  rw [hm.r2c_c2r r _ a] at hc
  cases hc

theorem upgradeClient_fst (s : St) (c : Nat) (u : Upg) (ibc : Bool) :
    (upgradeClient s c u ibc).1 = s ∨ ∃ new, new.id = c ∧ (upgradeClient s c u ibc).1 = setClient s new := by
  generalize hx : upgradeClient s c u ibc = x
  unfold upgradeClient at hx
  cases hcl : getClient s c with
  | none => rw [hcl] at hx; subst hx; exact Or.inl rfl
  | some cl =>
    rw [hcl] at hx
    dsimp only at hx
    rcases ite_eq_cases hx with ⟨-, rfl⟩ | ⟨-, hx⟩
    · exact Or.inl rfl
    rcases ite_eq_cases hx with ⟨-, rfl⟩ | ⟨-, hx⟩
    · exact Or.inl rfl
    rcases ite_eq_cases hx with ⟨-, rfl⟩ | ⟨-, hx⟩
    · exact Or.inl rfl
    subst hx
    refine Or.inr ⟨_, ?_, rfl⟩
    exact (getClient_id hcl : cl.id = c)

theorem recoverClient_fst (s : St) (c sub : Nat) :
    (recoverClient s c sub).1 = s ∨ ∃ new, new.id = c ∧ (recoverClient s c sub).1 = setClient s new := by
  generalize hx : recoverClient s c sub = x
  unfold recoverClient at hx
  cases hcl : getClient s c with
  | none => rw [hcl] at hx; subst hx; exact Or.inl rfl
  | some cl =>
    rw [hcl] at hx
    dsimp only at hx
    rcases ite_eq_cases hx with ⟨-, rfl⟩ | ⟨-, hx⟩
    · exact Or.inl rfl
    cases hsb : getClient s sub with
    | none => rw [hsb] at hx; subst hx; exact Or.inl rfl
    | some sb =>
      rw [hsb] at hx
      dsimp only at hx
      rcases ite_eq_cases hx with ⟨-, rfl⟩ | ⟨-, hx⟩
      · exact Or.inl rfl
      rcases ite_eq_cases hx with ⟨-, rfl⟩ | ⟨-, hx⟩
      · exact Or.inl rfl
      rcases ite_eq_cases hx with ⟨-, rfl⟩ | ⟨-, hx⟩
      · exact Or.inl rfl
      cases hcs : getCons sb sb.latest with
      | none => rw [hcs] at hx; subst hx; exact Or.inl rfl
      | some cs =>
        rw [hcs] at hx; subst hx
        refine Or.inr ⟨_, ?_, rfl⟩
        exact (getClient_id hcl : cl.id = c)

end DymVerif.LC
