/-
  Lemmas/GenesisLink — x/lockup: C18's store invariant `LockupInv` proved for every reachable state of
  M-Lockup's chain (Model/LockupChain, `crun`) under the encoding `embState` of Lemmas/LockupChainEmbed:
  `CInv.sorted` (the lock table is in id order, `crun_cinv`) is `LockupInv`.  The other modules'
  invariants are in Lemmas/GenesisLinkLC, GenesisLinkDa and GenesisLinkSpons.
-/
import DymVerif.Lemmas.LockupChainEmbed
import DymVerif.Lemmas.GenesisStores
namespace DymVerif.GenesisLink
open DymVerif DymVerif.Genesis

/-! ### x/lockup -/

theorem sorted_emb_locks (ls : List Lockup.Lock) (h : Lockup.IdSorted ls) :
    Sorted ltNat (ls.map (fun l => (l.id, Lockup.embLock l))) :=
  List.pairwise_map.2 ((List.pairwise_map.1 h).imp decide_eq_true)

/-- the encoded lock section of an id-sorted M-Lockup state satisfies C18's store invariant -/
theorem lockupInv_embState (params : Nat) {s : Lockup.State} (hs : Lockup.IdSorted s.locks) :
    LockupInv (Lockup.embState params s) where
  sl := sorted_emb_locks s.locks hs
  kl := by
    intro e he
    obtain ⟨x, _, rfl⟩ := List.mem_map.1 he
    rfl

/-- `LockupInv` after every history of a chain (messages, blocks, restarts, parameter changes) -/
theorem lockupInv_reachable (params : Nat) (p : Lockup.Params) (bal : Lockup.Actor → Lockup.Denom → Nat)
    (now height : Nat) (ops : List Lockup.COp) :
    LockupInv (Lockup.embState params (Lockup.crun (Lockup.cinit p bal now height) ops).s) :=
  lockupInv_embState params (Lockup.crun_cinv ops (Lockup.cinit_cinv p bal now height)).sorted

end DymVerif.GenesisLink
