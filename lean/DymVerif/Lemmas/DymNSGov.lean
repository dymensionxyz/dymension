/-
  Lemmas/DymNSGov — the chain-id migration (`MigrateChainIdsProposal`, keeper/proposal.go) on one config,
  one record, the name store and the state.  It rewrites records with `SetDymName` WITHOUT the
  Before/After config hooks, and the three reverse indexes stay exact all the same, because the keys
  of those indexes are computed from the values and the default-ness of the configs only — and the
  migration never turns an empty chain-id into a non-empty one or back.
-/
import DymVerif.Lemmas.DymNSIdx
namespace DymVerif.DymNS
open AMap

/-! ### one config, one record -/

theorem litChain_ne_zero (c : Chain) : litChain c ≠ 0 := by
  unfold litChain hostLit
  split
  · decide
  · assumption

@[simp] theorem migConfig_path (m : List (Chain × Chain)) (c : Config) : (migConfig m c).path = c.path := by
  unfold migConfig; split
  · rfl
  · split <;> rfl

@[simp] theorem migConfig_value (m : List (Chain × Chain)) (c : Config) : (migConfig m c).value = c.value := by
  unfold migConfig; split
  · rfl
  · split <;> rfl

theorem migConfig_chain_zero (m : List (Chain × Chain)) (c : Config) : (migConfig m c).chain = 0 ↔ c.chain = 0 := by
  unfold migConfig
  split
  · rename_i h; simp [h]
  · rename_i h
    split
    · simp [h, litChain_ne_zero]
    · simp [h]

@[simp] theorem migConfig_isDefault (m : List (Chain × Chain)) (c : Config) :
    (migConfig m c).isDefault = c.isDefault := by
  have := migConfig_chain_zero m c
  simp only [Config.isDefault, migConfig_path]
  by_cases h : c.chain = 0
  · simp [h, this.mpr h]
  · have h' : ¬ (migConfig m c).chain = 0 := fun e => h (this.mp e)
    simp [h, h']

/-- a config on the empty chain-id is not touched -/
theorem migConfig_of_zero (m : List (Chain × Chain)) {c : Config} (h : c.chain = 0) : migConfig m c = c := by
  unfold migConfig; simp [h]

theorem any_isDefault_map_mig (m : List (Chain × Chain)) (l : List Config) :
    (l.map (migConfig m)).any Config.isDefault = l.any Config.isDefault := by
  induction l with
  | nil => rfl
  | cons c l ih => simp [List.any_cons, ih]

/-- the configs the reverse mapping works on, after rewriting the chain-ids: the same configs,
    rewritten one by one (the fake default record is on the empty chain-id) -/
theorem revConfigs_mig (m : List (Chain × Chain)) (d : DymName) :
    ({ d with configs := d.configs.map (migConfig m) } : DymName).revConfigs = d.revConfigs.map (migConfig m) := by
  unfold DymName.revConfigs
  simp only [any_isDefault_map_mig]
  split
  · rfl
  · simp [List.map_append, migConfig_of_zero m (c := ⟨0, 0, hostAddr d.owner⟩) rfl]

theorem cfgAddrs_mig (m : List (Chain × Chain)) (d : DymName) :
    ({ d with configs := d.configs.map (migConfig m) } : DymName).cfgAddrs = d.cfgAddrs := by
  unfold DymName.cfgAddrs
  rw [revConfigs_mig, List.map_map]
  congr 1
  funext c; simp

theorem fbAddrs_mig (m : List (Chain × Chain)) (d : DymName) :
    ({ d with configs := d.configs.map (migConfig m) } : DymName).fbAddrs = d.fbAddrs := by
  unfold DymName.fbAddrs
  rw [revConfigs_mig, List.filter_map, List.map_map]
  have h1 : (Config.isDefault ∘ migConfig m) = Config.isDefault := by funext c; simp
  have h2 : ((fun x : Config => x.value.acct) ∘ migConfig m) = (fun x : Config => x.value.acct) := by funext c; simp
  rw [h1, h2]

/-- `migName` rewrites nothing but the list of configs -/
theorem migName_cases (now : Nat) (m : List (Chain × Chain)) (d : DymName) :
    migName now m d = d ∨
    (d.expired now = false ∧ ((d.configs.map (migConfig m)).map cid).Nodup ∧
      migName now m d = { d with configs := d.configs.map (migConfig m) }) := by
  unfold migName
  split
  · exact Or.inl rfl
  · rename_i he
    split
    · rename_i hn
      exact Or.inr ⟨by simpa using he, hn, rfl⟩
    · exact Or.inl rfl

@[simp] theorem migName_owner (now : Nat) (m : List (Chain × Chain)) (d : DymName) : (migName now m d).owner = d.owner := by
  rcases migName_cases now m d with h | ⟨_, _, h⟩ <;> rw [h]
@[simp] theorem migName_controller (now : Nat) (m : List (Chain × Chain)) (d : DymName) :
    (migName now m d).controller = d.controller := by
  rcases migName_cases now m d with h | ⟨_, _, h⟩ <;> rw [h]
@[simp] theorem migName_expireAt (now : Nat) (m : List (Chain × Chain)) (d : DymName) :
    (migName now m d).expireAt = d.expireAt := by
  rcases migName_cases now m d with h | ⟨_, _, h⟩ <;> rw [h]
@[simp] theorem migName_contact (now : Nat) (m : List (Chain × Chain)) (d : DymName) :
    (migName now m d).contact = d.contact := by
  rcases migName_cases now m d with h | ⟨_, _, h⟩ <;> rw [h]

theorem migName_cfgAddrs (now : Nat) (m : List (Chain × Chain)) (d : DymName) : (migName now m d).cfgAddrs = d.cfgAddrs := by
  rcases migName_cases now m d with h | ⟨_, _, h⟩ <;> rw [h]
  exact cfgAddrs_mig m d

theorem migName_fbAddrs (now : Nat) (m : List (Chain × Chain)) (d : DymName) : (migName now m d).fbAddrs = d.fbAddrs := by
  rcases migName_cases now m d with h | ⟨_, _, h⟩ <;> rw [h]
  exact fbAddrs_mig m d

/-! ### the whole name store -/

/-- every record rewritten by `f`, the indexes left alone -/
def NameStore.mapRecords (ns : NameStore) (f : DymName → DymName) : NameStore :=
  { ns with names := ns.names.map (fun e => (e.1, f e.2)) }

theorem NameStore.get_mapRecords (ns : NameStore) (f : DymName → DymName) (n : Name) :
    (ns.mapRecords f).get n = (ns.get n).map f := by
  simp [NameStore.mapRecords, NameStore.get, AMap.get_mapVal]

/-- rewriting the records without touching the indexes keeps the indexes exact, as long as the
    rewrite keeps what the index keys are computed from -/
theorem NameStore.idxOK_mapRecords {ns : NameStore} {f : DymName → DymName} (h : IdxOK ns)
    (ho : ∀ d, (f d).owner = d.owner) (hc : ∀ d, (f d).cfgAddrs = d.cfgAddrs) (hf : ∀ d, (f d).fbAddrs = d.fbAddrs) :
    IdxOK (ns.mapRecords f) :=
  have ⟨a, b, c⟩ := (idxOK_iff ns).mp h
  (idxOK_iff _).mpr ⟨a.map_vals (fun d => by rw [ownKeys, ownKeys, ho]), b.map_vals hc, c.map_vals hf⟩

/-- **the chain-id migration keeps the three reverse indexes exact although it skips the hooks** -/
theorem NameStore.idxOK_migrate {ns : NameStore} (now : Nat) (m : List (Chain × Chain)) (h : IdxOK ns) :
    IdxOK (ns.mapRecords (migName now m)) :=
  NameStore.idxOK_mapRecords h (migName_owner now m) (migName_cfgAddrs now m) (migName_fbAddrs now m)

/-! ### the state -/

/-- the state after an accepted chain-id migration -/
def migrateT (s : State) (m : List (Chain × Chain)) : State :=
  { s with p := { s.p with chainAliases := migrateCA s.p.chainAliases m },
           ns := s.ns.mapRecords (migName s.now m) }

theorem getName_migrateT (s : State) (m : List (Chain × Chain)) (n : Name) :
    getName (migrateT s m) n = (getName s n).map (migName s.now m) := by
  simp [getName, migrateT, NameStore.get_mapRecords]

end DymVerif.DymNS
