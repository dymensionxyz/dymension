/-
  Lemmas/CoreXLiable — the moment a sequencer becomes liable: an accepted state update records a
  (sequencer, height) pair for every block descriptor it carries (helper of Props/C06X
  `update_makes_liable`).
-/
import DymVerif.Lemmas.CoreLevBasic
namespace DymVerif.Core.XLiable

theorem mem_addSeqHeights_old (a : Addr) (bds : List BD) (sh : List (Addr × Nat)) (p : Addr × Nat)
    (h : p ∈ sh) : p ∈ addSeqHeights sh a bds := by
  unfold addSeqHeights
  induction bds generalizing sh with
  | nil => exact h
  | cons b bs ih =>
    rw [List.foldl_cons]
    exact ih _ (LevNs.mem_insertSorted_of_mem _ _ _ h)

theorem mem_addSeqHeights_new (a : Addr) (bds : List BD) (sh : List (Addr × Nat)) (b : BD) (hb : b ∈ bds) :
    (a, b.height) ∈ addSeqHeights sh a bds := by
  induction bds generalizing sh with
  | nil => cases hb
  | cons x xs ih =>
    have e : addSeqHeights sh a (x :: xs) = addSeqHeights (insertSorted ltPair (a, x.height) sh) a xs := by
      unfold addSeqHeights; rw [List.foldl_cons]
    rw [e]
    rcases List.mem_cons.1 hb with h | h
    · subst h
      exact mem_addSeqHeights_old _ _ _ _ (insertSorted_mem_self _ _ _)
    · exact ih _ h

theorem ok_of_guard {α} {c : Prop} [Decidable c] {x : Err} {m : M α} {v : α}
    (e : (if c then .error x else m) = .ok v) : ¬ c ∧ m = .ok v := by
  by_cases h : c
  · rw [if_pos h] at e; cases e
  · rw [if_neg h] at e; exact ⟨h, e⟩

/-- an accepted `MsgUpdateState` carries at least one block descriptor and leaves a
    (sender, height) liability for each of them -/
theorem updateState_liable {s s' : St} {m : UpdMsg} (e : updateState s m = .ok s') :
    m.bds ≠ [] ∧ ∀ b ∈ m.bds, (m.sender, b.height) ∈ s'.seqH := by
  obtain ⟨r, s3, _, r4, hvb, _, _, _, _, _, _, _, rfl, _, rfl⟩ := updateState_ok e
  constructor
  · -- `ValidateBasic`: `num ≠ 0` and as many descriptors as `num`
    unfold updValidateBasic at hvb
    obtain ⟨h0, hvb⟩ := ok_of_guard hvb
    obtain ⟨_, hvb⟩ := ok_of_guard hvb
    obtain ⟨hlen, _⟩ := ok_of_guard hvb
    intro hnil
    apply h0
    rw [← Decidable.not_not.1 hlen, hnil]; rfl
  · intro b hb
    show (m.sender, b.height) ∈ addSeqHeights s3.seqH m.sender m.bds
    exact mem_addSeqHeights_new _ _ _ _ hb

end DymVerif.Core.XLiable
