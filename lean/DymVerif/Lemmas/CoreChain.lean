/-
  Lemmas/CoreChain — `SInfo.WF`, `Chain` (a gap-free list of state infos) and the list operations that keep it.
-/
import DymVerif.Lemmas.CoreBasic
namespace DymVerif.Core

/-- a single stored state update is well formed -/
structure SInfo.WF (st : SInfo) : Prop where
  num_pos : 1 ≤ st.num
  start_pos : 1 ≤ st.start
  no_overflow : st.start + st.num < 2 ^ 64
  bds_len : st.bds.length = st.num
  bds_seq : ∀ i b, st.bds[i]? = some b → b.height = st.start + i

theorem last_of_WF {l : SInfo} (hw : l.WF) : l.last = l.start + l.num - 1 := by
  unfold SInfo.last; rw [if_pos (by have := hw.num_pos; omega)]

theorem contains_iff (st : SInfo) (h : Nat) (hw : st.WF) :
    st.contains h = true ↔ st.start ≤ h ∧ h ≤ st.start + st.num - 1 := by
  unfold SInfo.contains SInfo.last
  have := hw.num_pos
  simp only [Bool.and_eq_true, decide_eq_true_eq]
  rw [if_pos (by omega)]

/-- gap-free chain: every state well formed, each starts right after the previous one ends -/
structure Chain (l : List SInfo) : Prop where
  wf : ∀ st ∈ l, st.WF
  link : ∀ i a b, l[i]? = some a → l[i + 1]? = some b → b.start = a.start + a.num

def ChainQ (r : Rollapp) : Prop := Chain r.states

theorem Chain.nil : Chain [] := ⟨by simp, by simp⟩

/-- the chain only depends on (start, num, bds) of each element -/
theorem Chain.congr {l l' : List SInfo} (h : Chain l)
    (e : l'.map (fun s => (s.start, s.num, s.bds)) = l.map (fun s => (s.start, s.num, s.bds))) : Chain l' := by
  have hlen : l'.length = l.length := by simpa using congrArg List.length e
  have key : ∀ (i : Nat) (a' : SInfo), l'[i]? = some a' → ∃ a : SInfo, l[i]? = some a ∧ a'.start = a.start ∧ a'.num = a.num ∧ a'.bds = a.bds := by
    intro i a' ha'
    have hi : i < l'.length := getElem?_lt ha'
    have hi2 : i < l.length := hlen ▸ hi
    refine ⟨l[i], by simp [hi2], ?_⟩
    have e1 := congrArg (fun x => x[i]?) e
    simp only [List.getElem?_map] at e1
    rw [ha'] at e1
    simp [List.getElem?_eq_getElem hi2] at e1
    exact e1
  constructor
  · intro st hst
    obtain ⟨i, hi, rfl⟩ := List.mem_iff_getElem.1 hst
    obtain ⟨a, ha, e1, e2, e3⟩ := key i l'[i] (by simp [hi])
    have hw := h.wf a (List.mem_of_getElem? ha)
    exact ⟨e2 ▸ hw.num_pos, e1 ▸ hw.start_pos, by rw [e1, e2]; exact hw.no_overflow,
      by rw [e3, e2]; exact hw.bds_len, by intro j b hb; rw [e3] at hb; rw [e1]; exact hw.bds_seq j b hb⟩
  · intro i a' b' ha' hb'
    obtain ⟨a, ha, e1, e2, _⟩ := key i a' ha'
    obtain ⟨b, hb, f1, _, _⟩ := key (i + 1) b' hb'
    rw [f1, e1, e2]; exact h.link i a b ha hb

theorem Chain.append {l : List SInfo} {st : SInfo} (h : Chain l) (hw : st.WF)
    (hs : ∀ a, l.getLast? = some a → st.start = a.start + a.num) : Chain (l ++ [st]) := by
  constructor
  · intro x hx
    rcases List.mem_append.1 hx with h1 | h1
    · exact h.wf x h1
    · simp at h1; exact h1 ▸ hw
  · intro i a b ha hb
    by_cases hi : i + 1 < l.length
    · rw [List.getElem?_append_left (by omega)] at ha
      rw [List.getElem?_append_left hi] at hb
      exact h.link i a b ha hb
    · have hb2 : i + 1 < (l ++ [st]).length := getElem?_lt hb
      simp at hb2
      have hil : i + 1 = l.length := by omega
      rw [List.getElem?_append_right (by omega)] at hb
      have : i + 1 - l.length = 0 := by omega
      rw [this] at hb
      simp at hb
      subst hb
      rw [List.getElem?_append_left (by omega)] at ha
      apply hs
      rw [List.getLast?_eq_getElem?]
      have : l.length - 1 = i := by omega
      rw [this]; exact ha

theorem Chain.take {l : List SInfo} (h : Chain l) (n : Nat) : Chain (l.take n) := by
  constructor
  · intro x hx; exact h.wf x (List.mem_of_mem_take hx)
  · intro i a b ha hb
    have hb' : i + 1 < n := by
      rcases Nat.lt_or_ge (i + 1) n with h1 | h1
      · exact h1
      · rw [List.getElem?_take_eq_none h1] at hb; cases hb
    rw [List.getElem?_take_of_lt (by omega)] at ha
    rw [List.getElem?_take_of_lt hb'] at hb
    exact h.link i a b ha hb

/-- the result of a fork: a prefix followed by the kept state, which is either an unchanged element
    of the chain or a truncation of one to a positive number of blocks -/
theorem Chain.fork {l : List SInfo} (h : Chain l) (k : Nat) (st kst : SInfo) (hk : l[k]? = some st)
    (hstart : kst.start = st.start) (hnum : 1 ≤ kst.num ∧ kst.num ≤ st.num)
    (hbds : kst.bds = st.bds.take kst.num) : Chain (l.take k ++ [kst]) := by
  have hwst := h.wf st (List.mem_of_getElem? hk)
  have hklt : k < l.length := getElem?_lt hk
  apply Chain.append (h.take k)
  · refine ⟨hnum.1, hstart ▸ hwst.start_pos, ?_, ?_, ?_⟩
    · rw [hstart]; have := hwst.no_overflow; omega
    · rw [hbds, List.length_take, hwst.bds_len]; omega
    · intro i b hb
      rw [hbds] at hb
      have hi : i < kst.num := by
        rcases Nat.lt_or_ge i kst.num with h1 | h1
        · exact h1
        · rw [List.getElem?_take_eq_none h1] at hb; cases hb
      rw [List.getElem?_take_of_lt hi] at hb
      rw [hstart]; exact hwst.bds_seq i b hb
  · intro a ha
    rw [List.getLast?_eq_getElem?, List.length_take, Nat.min_eq_left (by omega)] at ha
    by_cases hk0 : k = 0
    · subst hk0; simp at ha
    · rw [List.getElem?_take_of_lt (by omega)] at ha
      have := h.link (k - 1) a st ha (by rw [show k - 1 + 1 = k by omega]; exact hk)
      rw [hstart]; exact this

end DymVerif.Core
