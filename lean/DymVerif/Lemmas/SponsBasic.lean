/-
  Lemmas/SponsBasic — gauge lists as functions gauge ↦ power (`gget`), strictly sorted gauge lists,
  and the algebra of `mergeG` / `sortG` / `applyWeights` / `negate` on them.  Core Lean only.
-/
import DymVerif.Model.Spons
namespace DymVerif.Spons

/-- power of gauge `g` in a gauge list (sum over the entries with that id) -/
def gget : List GP → Nat → Int
  | [], _ => 0
  | x :: xs, g => (if x.1 = g then x.2 else 0) + gget xs g

/-- every id in the list is above `k` -/
def LB (k : Nat) (l : List GP) : Prop := ∀ x ∈ l, k < x.1

/-- strictly increasing gauge ids -/
def Sorted : List GP → Prop
  | [] => True
  | x :: xs => LB x.1 xs ∧ Sorted xs

theorem LB_nil (k : Nat) : LB k [] := by intro x hx; cases hx

theorem LB_cons {k : Nat} {x : GP} {xs : List GP} : LB k (x :: xs) ↔ k < x.1 ∧ LB k xs := by
  constructor
  · intro h; exact ⟨h x (by simp), fun y hy => h y (by simp [hy])⟩
  · intro ⟨h1, h2⟩ y hy
    rcases List.mem_cons.mp hy with rfl | hy
    · exact h1
    · exact h2 y hy

theorem LB_mono {k k' : Nat} {l : List GP} (h : LB k' l) (hk : k ≤ k') : LB k l :=
  fun x hx => Nat.lt_of_le_of_lt hk (h x hx)

theorem gget_of_LB {k : Nat} {l : List GP} (h : LB k l) {g : Nat} (hg : g ≤ k) : gget l g = 0 := by
  induction l with
  | nil => rfl
  | cons x xs ih =>
    have ⟨h1, h2⟩ := LB_cons.mp h
    have : x.1 ≠ g := Nat.ne_of_gt (Nat.lt_of_le_of_lt hg h1)
    simp [gget, this, ih h2]

theorem LB_keep {k : Nat} {x : GP} {l : List GP} (hx : k < x.1) (hl : LB k l) : LB k (keep x l) := by
  unfold keep; split
  · exact LB_cons.mpr ⟨hx, hl⟩
  · exact hl

theorem Sorted_keep {x : GP} {l : List GP} (hx : LB x.1 l) (hl : Sorted l) : Sorted (keep x l) := by
  unfold keep; split
  · exact ⟨hx, hl⟩
  · exact hl

theorem LB_mergeG {k : Nat} (n : Nat) (a b : List GP) (ha : LB k a) (hb : LB k b) : LB k (mergeG n a b) := by
  fun_induction mergeG n a b with
  | case1 l r => intro x hx; rcases List.mem_append.mp hx with h | h; exact ha x h; exact hb x h
  | case2 _ r => exact hb
  | case3 _ a l => exact ha
  | case4 n a l b r h ih =>
    have ⟨a1, a2⟩ := LB_cons.mp ha; have ⟨b1, b2⟩ := LB_cons.mp hb
    exact LB_keep (by simpa using a1) (ih a2 b2)
  | case5 n a l b r h1 h2 ih =>
    have ⟨a1, a2⟩ := LB_cons.mp ha
    exact LB_keep a1 (ih a2 hb)
  | case6 n a l b r h1 h2 ih =>
    have ⟨b1, b2⟩ := LB_cons.mp hb
    exact LB_keep b1 (ih ha b2)

theorem Sorted.LB_of_lt {k : Nat} {x : GP} {xs : List GP} (h : Sorted (x :: xs)) (hk : k < x.1) : LB k (x :: xs) :=
  LB_cons.mpr ⟨hk, LB_mono h.1 (Nat.le_of_lt hk)⟩

/-- what `fuel ≥ |lhs| + |rhs|` says at fuel 0 and at a successor -/
theorem fuel_zero {l r : List GP} (h : l.length + r.length ≤ 0) : l = [] ∧ r = [] :=
  ⟨List.eq_nil_of_length_eq_zero (by omega), List.eq_nil_of_length_eq_zero (by omega)⟩

theorem fuel_succ {a b : GP} {l r : List GP} {n : Nat} (h : (a :: l).length + (b :: r).length ≤ n + 1) :
    l.length + r.length ≤ n ∧ l.length + (b :: r).length ≤ n ∧ (a :: l).length + r.length ≤ n := by
  simp only [List.length_cons] at h ⊢; omega

theorem Sorted_mergeG (n : Nat) (a b : List GP) (ha : Sorted a) (hb : Sorted b) (hn : a.length + b.length ≤ n) :
    Sorted (mergeG n a b) := by
  fun_induction mergeG n a b with
  | case1 l r => obtain ⟨rfl, rfl⟩ := fuel_zero hn; trivial
  | case2 _ r => exact hb
  | case3 _ a l => exact ha
  | case4 n a l b r h ih =>
    exact Sorted_keep (LB_mergeG _ _ _ ha.1 (h ▸ hb.1)) (ih ha.2 hb.2 (fuel_succ hn).1)
  | case5 n a l b r h1 h2 ih =>
    exact Sorted_keep (LB_mergeG _ _ _ ha.1 (hb.LB_of_lt h2)) (ih ha.2 hb (fuel_succ hn).2.1)
  | case6 n a l b r h1 h2 ih =>
    exact Sorted_keep (LB_mergeG _ _ _ (ha.LB_of_lt (Nat.lt_of_le_of_ne (Nat.le_of_not_lt h2) (Ne.symm h1))) hb.1)
      (ih ha hb.2 (fuel_succ hn).2.2)

theorem gget_cons_eq {i g : Nat} (p : Int) (xs : List GP) (h : i = g) : gget ((i, p) :: xs) g = p + gget xs g := by
  simp only [gget, h, if_true]

theorem gget_cons_ne {i g : Nat} (p : Int) (xs : List GP) (h : i ≠ g) : gget ((i, p) :: xs) g = gget xs g := by
  simp only [gget, h, if_false, Int.zero_add]

/-- dropping an entry whose power is 0 does not change the reading -/
theorem gget_keep_eq {i g : Nat} {p : Int} (xs : List GP) (h : i = g) (hp : 0 ≤ p) : gget (keep (i, p) xs) g = p + gget xs g := by
  unfold keep; split
  · exact gget_cons_eq p xs h
  · rename_i hn
    have hp0 : p = 0 := Int.le_antisymm (Int.not_lt.mp hn) hp
    rw [hp0, Int.zero_add]

theorem gget_keep_ne {i g : Nat} (p : Int) (xs : List GP) (h : i ≠ g) : gget (keep (i, p) xs) g = gget xs g := by
  unfold keep; split
  · exact gget_cons_ne p xs h
  · rfl

/-- on strictly sorted lists the merge adds powers gauge by gauge — wherever the sum is not negative
    (a non-positive sum inside the loop is dropped, i.e. read as 0; the tails are kept as they are) -/
theorem gget_mergeG (n : Nat) (a b : List GP) (g : Nat) (ha : Sorted a) (hb : Sorted b)
    (hn : a.length + b.length ≤ n) (hs : 0 ≤ gget a g + gget b g) :
    gget (mergeG n a b) g = gget a g + gget b g := by
  fun_induction mergeG n a b with
  | case1 l r => obtain ⟨rfl, rfl⟩ := fuel_zero hn; rfl
  | case2 _ r => exact (Int.zero_add _).symm
  | case3 _ a l => exact (Int.add_zero _).symm
  -- loop cases: if the head consumed is `g`'s entry, everything behind it has no power on `g`
  | case4 n a l b r h ih =>
    by_cases hg : a.1 = g
    · have hl := gget_of_LB ha.1 (Nat.le_of_eq hg.symm)
      have hr := gget_of_LB hb.1 (Nat.le_of_eq (h ▸ hg : b.1 = g).symm)
      rw [gget_cons_eq a.2 l hg, gget_cons_eq b.2 r (h ▸ hg), hl, hr, Int.add_zero, Int.add_zero] at hs ⊢
      rw [gget_keep_eq _ hg hs, ih ha.2 hb.2 (fuel_succ hn).1 (by rw [hl, hr]; decide), hl, hr]
      exact Int.add_zero _
    · rw [gget_cons_ne a.2 l hg, gget_cons_ne b.2 r (h ▸ hg)] at hs ⊢
      rw [gget_keep_ne _ _ hg, ih ha.2 hb.2 (fuel_succ hn).1 hs]
  | case5 n a l b r h1 h2 ih =>
    by_cases hg : a.1 = g
    · have hl := gget_of_LB ha.1 (Nat.le_of_eq hg.symm)
      have hr := gget_of_LB (hb.LB_of_lt h2) (Nat.le_of_eq hg.symm)
      rw [gget_cons_eq a.2 l hg, hl, hr, Int.add_zero, Int.add_zero] at hs ⊢
      rw [gget_keep_eq _ hg hs, ih ha.2 hb (fuel_succ hn).2.1 (by rw [hl, hr]; decide), hl, hr]
      exact Int.add_zero _
    · rw [gget_cons_ne a.2 l hg] at hs ⊢
      rw [gget_keep_ne _ _ hg, ih ha.2 hb (fuel_succ hn).2.1 hs]
  | case6 n a l b r h1 h2 ih =>
    by_cases hg : b.1 = g
    · have hl := gget_of_LB (ha.LB_of_lt (Nat.lt_of_le_of_ne (Nat.le_of_not_lt h2) (Ne.symm h1))) (Nat.le_of_eq hg.symm)
      have hr := gget_of_LB hb.1 (Nat.le_of_eq hg.symm)
      rw [gget_cons_eq b.2 r hg, hl, hr, Int.add_zero, Int.zero_add] at hs ⊢
      rw [gget_keep_eq _ hg hs, ih ha hb.2 (fuel_succ hn).2.2 (by rw [hl, hr]; decide), hl, hr]
      exact Int.add_zero _
    · rw [gget_cons_ne b.2 r hg] at hs ⊢
      rw [gget_keep_ne _ _ hg, ih ha hb.2 (fuel_succ hn).2.2 hs]

/-! ### sortG / applyWeights -/

theorem gget_insertG (x : GP) (l : List GP) (g : Nat) :
    gget (insertG x l) g = (if x.1 = g then x.2 else 0) + gget l g := by
  induction l with
  | nil => simp [insertG, gget]
  | cons y ys ih =>
    simp only [insertG]; split
    · simp [gget]
    · simp only [gget, ih]; omega

theorem gget_sortG (l : List GP) (g : Nat) : gget (sortG l) g = gget l g := by
  induction l with
  | nil => rfl
  | cons x xs ih => simp only [sortG, List.foldr_cons] at ih ⊢; rw [gget_insertG, ih]; rfl

theorem mem_insertG {x y : GP} {l : List GP} : y ∈ insertG x l ↔ y = x ∨ y ∈ l := by
  induction l with
  | nil => simp [insertG]
  | cons z zs ih =>
    simp only [insertG]; split
    · simp
    · simp [ih]; constructor
      · rintro (h | h | h) <;> simp [h]
      · rintro (h | h | h) <;> simp [h]

theorem mem_sortG {y : GP} {l : List GP} : y ∈ sortG l ↔ y ∈ l := by
  induction l with
  | nil => simp [sortG]
  | cons x xs ih => simp only [sortG, List.foldr_cons] at ih ⊢; rw [mem_insertG, ih]; simp

/-- no id of the list equals `k` -/
def NotIn (k : Nat) (l : List GP) : Prop := ∀ x ∈ l, x.1 ≠ k

/-- pairwise distinct ids -/
def Nodup : List GP → Prop
  | [] => True
  | x :: xs => NotIn x.1 xs ∧ Nodup xs

theorem LB_insertG {k : Nat} {x : GP} {l : List GP} (hx : k < x.1) (hl : LB k l) : LB k (insertG x l) := by
  intro y hy; rcases mem_insertG.mp hy with rfl | h
  · exact hx
  · exact hl y h

theorem Sorted_insertG {x : GP} {l : List GP} (hl : Sorted l) (hx : NotIn x.1 l) : Sorted (insertG x l) := by
  induction l with
  | nil => exact ⟨LB_nil _, trivial⟩
  | cons y ys ih =>
    simp only [insertG]; split <;> rename_i h
    · have hne : y.1 ≠ x.1 := hx y (by simp)
      have hlt : x.1 < y.1 := Nat.lt_of_le_of_ne h (Ne.symm hne)
      exact ⟨LB_cons.mpr ⟨hlt, LB_mono hl.1 (Nat.le_of_lt hlt)⟩, hl⟩
    · refine ⟨LB_insertG (Nat.lt_of_not_le h) hl.1, ih hl.2 (fun z hz => hx z (by simp [hz]))⟩

theorem Sorted_sortG {l : List GP} (h : Nodup l) : Sorted (sortG l) := by
  induction l with
  | nil => trivial
  | cons x xs ih =>
    simp only [sortG, List.foldr_cons] at ih ⊢
    exact Sorted_insertG (ih h.2) (fun y hy => h.1 y (mem_sortG.mp hy))

theorem length_insertG (x : GP) (l : List GP) : (insertG x l).length = l.length + 1 := by
  induction l with
  | nil => rfl
  | cons y ys ih => simp only [insertG]; split <;> simp [ih]

theorem length_sortG (l : List GP) : (sortG l).length = l.length := by
  induction l with
  | nil => rfl
  | cons x xs ih => simp only [sortG, List.foldr_cons] at ih ⊢; rw [length_insertG, ih]; simp

/-- power that the weight list `ws` gives gauge `g` at voting power `vp` (sum over matching weights) -/
def wpow (vp : Int) : List GP → Nat → Int
  | [], _ => 0
  | w :: ws, g => (if w.1 = g then gpow vp w.2 else 0) + wpow vp ws g

theorem gget_map_gpow (vp : Int) (ws : List GP) (g : Nat) :
    gget (ws.map fun x => (x.1, gpow vp x.2)) g = wpow vp ws g := by
  induction ws with
  | nil => rfl
  | cons w ws ih => simp [gget, wpow, ih]

theorem gget_applyWeights (vp : Int) (ws : List GP) (g : Nat) :
    gget (applyWeights vp ws).gauges g = wpow vp ws g := by
  simp [applyWeights, gget_sortG, gget_map_gpow]

theorem Nodup_map {f : Int → Int} {ws : List GP} (h : Nodup ws) : Nodup (ws.map fun x => (x.1, f x.2)) := by
  induction ws with
  | nil => trivial
  | cons w ws ih =>
    refine ⟨?_, ih h.2⟩
    intro y hy
    rcases List.mem_map.mp hy with ⟨z, hz, rfl⟩
    exact h.1 z hz

theorem Sorted_applyWeights {vp : Int} {ws : List GP} (h : Nodup ws) : Sorted (applyWeights vp ws).gauges :=
  Sorted_sortG (Nodup_map (f := gpow vp) h)

theorem gget_negate (l : List GP) (g : Nat) : gget (l.map fun x => (x.1, -x.2)) g = - gget l g := by
  induction l with
  | nil => rfl
  | cons x xs ih => simp only [List.map_cons, gget, ih]; split <;> omega

theorem Sorted_negate {l : List GP} (h : Sorted l) : Sorted (l.map fun x => (x.1, -x.2)) := by
  induction l with
  | nil => trivial
  | cons x xs ih =>
    refine ⟨?_, ih h.2⟩
    intro y hy
    rcases List.mem_map.mp hy with ⟨z, hz, rfl⟩
    exact h.1 z hz

/-- `nodupIds` (the executable check) implies `Nodup` -/
theorem Nodup_of_nodupIds {ws : List GP} (h : nodupIds ws = true) : Nodup ws := by
  induction ws with
  | nil => trivial
  | cons w ws ih =>
    simp only [nodupIds, Bool.and_eq_true, Bool.not_eq_true', List.any_eq_false, beq_iff_eq] at h
    exact ⟨fun x hx => by simpa using h.1 x hx, ih h.2⟩

theorem wpow_absent {vp : Int} {ws : List GP} {g : Nat} (h : ∀ w ∈ ws, w.1 ≠ g) : wpow vp ws g = 0 := by
  induction ws with
  | nil => rfl
  | cons w ws ih =>
    rw [wpow, if_neg (h w (List.mem_cons_self ..)), ih (fun x hx => h x (List.mem_cons_of_mem _ hx))]; rfl

/-- with distinct ids `Vote.GetGaugePower` (first match) is the summed power -/
theorem gaugePowerW_eq_wpow {vp : Int} {ws : List GP} (h : Nodup ws) (g : Nat) :
    gaugePowerW vp ws g = wpow vp ws g := by
  induction ws with
  | nil => rfl
  | cons w ws ih =>
    rw [gaugePowerW, wpow]
    split <;> rename_i hw
    · rw [wpow_absent (hw ▸ h.1), Int.add_zero]
    · rw [ih h.2, Int.zero_add]

end DymVerif.Spons
