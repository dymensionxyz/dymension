import DymVerif.Lemmas.LockupChain
import DymVerif.Model.LockupRefs
/-
  Lemmas/LockupRefs — the reference store of x/lockup (Model/LockupRefs): what the writers
  `addLockRefs` / `deleteLockRefs` do to a sorted store, the image `refsOf` of the lock table under
  `setLock` / `delLock` / append, and the consistency invariant `RefsOk` kept by every composite
  reference move of the keeper (create, begin-unlock, split, extend, remove).
-/
namespace DymVerif.Lockup
open DymVerif.Genesis

theorem soRef : StrictOrder ltRef :=
  soPair soNat (soPair soNat (soPair soNat (soPair soNat (soPair soNat soNat))))

/-- the lock id a reference ends with -/
def rid (r : RefK) : Nat := r.2.2.2.2.2

@[simp] theorem rid_mkRef (q : Nat) (k : RefKey) (id : Nat) : rid (mkRef q k id) = id := rfl

theorem mkRef_inj {q id : Nat} {k k' : RefKey} (h : mkRef q k id = mkRef q k' id) : k = k' := by
  obtain ⟨a, b, c, d⟩ := k
  obtain ⟨a', b', c', d'⟩ := k'
  simp only [mkRef, Prod.mk.injEq] at h
  obtain ⟨_, h1, h2, h3, h4, _⟩ := h
  simp [h1, h2, h3, h4]

/-- **the reference store is exactly the image of the lock table** -/
structure RefsOk (locks : List Lock) (refs : Refs) : Prop where
  sorted : Sorted ltRef refs
  mem : ∀ e, e ∈ refs ↔ e.1 ∈ refsOf locks

/-! ### the writers on a sorted store -/

theorem foldl_kvDel_spec (f : RefKey → RefK) : ∀ (keys : List RefKey) (refs : Refs), Sorted ltRef refs →
    Sorted ltRef (keys.foldl (fun r k => kvDel (f k) r) refs) ∧
    ∀ e, e ∈ keys.foldl (fun r k => kvDel (f k) r) refs ↔ e ∈ refs ∧ ∀ k ∈ keys, e.1 ≠ f k
  | [], refs, hs => ⟨hs, fun e => by simp⟩
  | k :: ks, refs, hs => by
    have ih := foldl_kvDel_spec f ks (kvDel (f k) refs) (sorted_kvDel _ hs)
    refine ⟨ih.1, fun e => ?_⟩
    rw [List.foldl_cons, ih.2 e, mem_kvDel]
    constructor
    · rintro ⟨⟨h1, h2⟩, h3⟩
      refine ⟨h1, fun k' hk' => ?_⟩
      rcases List.mem_cons.1 hk' with rfl | hk'
      · exact h2
      · exact h3 k' hk'
    · rintro ⟨h1, h2⟩
      exact ⟨⟨h1, h2 k (List.mem_cons_self)⟩, fun k' hk' => h2 k' (List.mem_cons_of_mem _ hk')⟩

theorem deleteLockRefs_spec {refs : Refs} (hs : Sorted ltRef refs) (q : Nat) (l : Lock) :
    Sorted ltRef (deleteLockRefs refs q l) ∧
    ∀ e, e ∈ deleteLockRefs refs q l ↔ e ∈ refs ∧ ∀ k ∈ lockRefKeys l, e.1 ≠ mkRef q k l.id :=
  foldl_kvDel_spec (fun k => mkRef q k l.id) (lockRefKeys l) refs hs

/-- `addRefKeys` into a store that holds none of the keys to be written: no clash, all of them added -/
theorem addRefKeys_spec (q id : Nat) : ∀ (ks : List RefKey) (refs : Refs), Sorted ltRef refs → ks.Nodup →
    (∀ e ∈ refs, ∀ k ∈ ks, e.1 ≠ mkRef q k id) →
    ∃ r', addRefKeys q id ks refs = some r' ∧ Sorted ltRef r' ∧
      ∀ e, e ∈ r' ↔ e ∈ refs ∨ ∃ k ∈ ks, e.1 = mkRef q k id
  | [], refs, hs, _, _ => ⟨refs, rfl, hs, fun e => by simp⟩
  | k :: ks, refs, hs, hnd, hfr => by
    rw [List.nodup_cons] at hnd
    have hno : kvHas (mkRef q k id) refs = false := by
      cases hh : kvHas (mkRef q k id) refs with
      | false => rfl
      | true =>
        obtain ⟨e, he, hk⟩ := (kvHas_iff _ _).1 hh
        exact absurd hk (hfr e he k List.mem_cons_self)
    -- after the insertion the remaining keys are still absent: they differ from `k`
    obtain ⟨r', hr', hsr, hm⟩ := addRefKeys_spec q id ks (kvSet ltRef (mkRef q k id) () refs)
      (sorted_kvSet soRef (mkRef q k id) () hs) hnd.2 (by
        intro e he k' hk'
        rcases (mem_setInsU soRef (mkRef q k id) hs e).1 he with h | h
        · rw [h]; intro hc; exact hnd.1 (mkRef_inj hc ▸ hk')
        · exact hfr e h k' (List.mem_cons_of_mem _ hk'))
    refine ⟨r', ?_, hsr, fun e => ?_⟩
    · simp only [addRefKeys, addLockRefByKey, hno]; exact hr'
    · rw [hm e, mem_setInsU soRef _ hs]
      constructor
      · rintro ((h | h) | ⟨k', hk', h⟩)
        · exact Or.inr ⟨k, List.mem_cons_self, h⟩
        · exact Or.inl h
        · exact Or.inr ⟨k', List.mem_cons_of_mem _ hk', h⟩
      · rintro (h | ⟨k', hk', h⟩)
        · exact Or.inl (Or.inr h)
        · rcases List.mem_cons.1 hk' with rfl | hk''
          · exact Or.inl (Or.inl h)
          · exact Or.inr ⟨k', hk'', h⟩

theorem refKeysOf_nodup (l : Lock) : (refKeysOf l).Nodup := by
  -- the keys of one lock lie in pairwise different families
  refine List.Pairwise.of_map (S := (· ≠ ·)) (fun k : RefKey => k.1) (fun _ _ h e => h (congrArg _ e)) ?_
  unfold refKeysOf lockRefKeys durationLockRefKeys
  split <;> simp only [List.cons_append, List.nil_append, List.map_cons, List.map_nil] <;> decide

theorem mem_lockRefs {l : Lock} {r : RefK} :
    r ∈ lockRefs l ↔ ∃ k ∈ refKeysOf l, r = mkRef (queueOf l.isUnlocking) k l.id := by
  simp only [lockRefs, List.mem_map]
  constructor
  · rintro ⟨k, hk, rfl⟩; exact ⟨k, hk, rfl⟩
  · rintro ⟨k, hk, rfl⟩; exact ⟨k, hk, rfl⟩

theorem rid_of_mem_lockRefs {l : Lock} {r : RefK} (h : r ∈ lockRefs l) : rid r = l.id := by
  obtain ⟨k, _, rfl⟩ := mem_lockRefs.1 h; rfl

/-- `addLockRefs` into a store that holds no reference of this id: all the lock's references added -/
theorem addLockRefs_spec {refs : Refs} (hs : Sorted ltRef refs) (n : Lock) (hfr : ∀ e ∈ refs, rid e.1 ≠ n.id) :
    ∃ r', addLockRefs refs n = some r' ∧ Sorted ltRef r' ∧ ∀ e, e ∈ r' ↔ e ∈ refs ∨ e.1 ∈ lockRefs n := by
  obtain ⟨r', h1, h2, h3⟩ := addRefKeys_spec (queueOf n.isUnlocking) n.id (refKeysOf n) refs hs (refKeysOf_nodup n)
    (fun e he k _ hc => hfr e he (by rw [hc]; rfl))
  refine ⟨r', h1, h2, fun e => ?_⟩
  rw [h3 e, mem_lockRefs]

/-- the fields the references of a lock depend on -/
def RefSame (a b : Lock) : Prop :=
  a.id = b.id ∧ a.owner = b.owner ∧ a.duration = b.duration ∧ a.endTime = b.endTime ∧ a.denom = b.denom

theorem lockRefs_same {a b : Lock} (h : RefSame a b) : lockRefs a = lockRefs b := by
  obtain ⟨h1, h2, h3, h4, h5⟩ := h
  simp only [lockRefs, refKeysOf, lockRefKeys, durationLockRefKeys, Lock.isUnlocking, h1, h2, h3, h4, h5]
  rfl

/-- the references a stored lock has are among the eight keys `deleteLockRefs` removes from its queue -/
theorem lockRefs_sub_deleted {l : Lock} {r : RefK} (h : r ∈ lockRefs l) :
    ∃ k ∈ lockRefKeys l, r = mkRef (queueOf l.isUnlocking) k l.id := by
  obtain ⟨k, hk, rfl⟩ := mem_lockRefs.1 h
  refine ⟨k, ?_, rfl⟩
  unfold refKeysOf at hk
  split at hk
  · exact hk
  · unfold lockRefKeys; exact List.mem_append_left _ hk

/-! ### the image of the lock table -/

theorem mem_refsOf {ls : List Lock} {r : RefK} : r ∈ refsOf ls ↔ ∃ l ∈ ls, r ∈ lockRefs l := by
  simp [refsOf, List.mem_flatMap]

theorem mem_refsOf_append {ls : List Lock} {n : Lock} {r : RefK} :
    r ∈ refsOf (ls ++ [n]) ↔ r ∈ refsOf ls ∨ r ∈ lockRefs n := by
  simp [refsOf, List.flatMap_append]

theorem mem_refsOf_delLock {ls : List Lock} {id : Nat} {r : RefK} :
    r ∈ refsOf (delLock ls id) ↔ r ∈ refsOf ls ∧ rid r ≠ id := by
  simp only [mem_refsOf]
  constructor
  · rintro ⟨l, hl, hr⟩
    obtain ⟨hl1, hl2⟩ := mem_delLock.1 hl
    exact ⟨⟨l, hl1, hr⟩, by rw [rid_of_mem_lockRefs hr]; exact hl2⟩
  · rintro ⟨⟨l, hl, hr⟩, hne⟩
    exact ⟨l, mem_delLock.2 ⟨hl, by rw [← rid_of_mem_lockRefs hr]; exact hne⟩, hr⟩

theorem mem_refsOf_setLock {ls : List Lock} {n : Lock} (hex : ∃ o ∈ ls, o.id = n.id) {r : RefK} :
    r ∈ refsOf (setLock ls n) ↔ (r ∈ refsOf ls ∧ rid r ≠ n.id) ∨ r ∈ lockRefs n := by
  simp only [mem_refsOf]
  constructor
  · rintro ⟨x, hx, hr⟩
    rcases mem_setLock hx with ⟨rfl, _⟩ | ⟨hx', hne⟩
    · exact Or.inr hr
    · exact Or.inl ⟨⟨x, hx', hr⟩, by rw [rid_of_mem_lockRefs hr]; exact hne⟩
  · rintro (⟨⟨x, hx, hr⟩, hne⟩ | hr)
    · exact ⟨x, mem_setLock_other hx (by rw [← rid_of_mem_lockRefs hr]; exact hne), hr⟩
    · obtain ⟨o, ho, hid⟩ := hex
      exact ⟨n, mem_setLock_new ho hid, hr⟩

/-! ### `RefsOk` under the keeper's composite reference moves -/

theorem refsOk_nil : RefsOk [] [] := ⟨sorted_nil, fun e => by simp [refsOf]⟩

/-- every reference in a consistent store ends with the id of a stored lock -/
theorem RefsOk.rid_mem {locks : List Lock} {refs : Refs} (h : RefsOk locks refs) {e : RefK × Unit} (he : e ∈ refs) :
    ∃ l ∈ locks, l.id = rid e.1 ∧ e.1 ∈ lockRefs l := by
  obtain ⟨l, hl, hr⟩ := mem_refsOf.1 ((h.mem e).1 he)
  exact ⟨l, hl, (rid_of_mem_lockRefs hr).symm, hr⟩

/-- a lock rewritten without touching the fields its references depend on (top-up, split rest) -/
theorem refsOk_setLock_same {locks : List Lock} {refs : Refs} (h : RefsOk locks refs)
    (hn : (locks.map (·.id)).Nodup) {o n : Lock} (ho : o ∈ locks) (hsame : RefSame o n) :
    RefsOk (setLock locks n) refs := by
  refine ⟨h.sorted, fun e => ?_⟩
  rw [h.mem e, mem_refsOf_setLock ⟨o, ho, hsame.1⟩, ← lockRefs_same hsame]
  constructor
  · intro he
    by_cases hid : rid e.1 = n.id
    · right
      obtain ⟨l, hl, hr⟩ := mem_refsOf.1 he
      have : l = o := eq_of_id_eq hn hl ho (by rw [← rid_of_mem_lockRefs hr, hid, hsame.1])
      rw [← this]; exact hr
    · exact Or.inl ⟨he, hid⟩
  · rintro (⟨he, _⟩ | he)
    · exact he
    · exact mem_refsOf.2 ⟨o, ho, he⟩

theorem refsOk_create {locks : List Lock} {refs : Refs} (h : RefsOk locks refs) {n : Lock}
    (hfresh : ∀ l ∈ locks, l.id ≠ n.id) :
    ∃ r', addLockRefs refs n = some r' ∧ RefsOk (locks ++ [n]) r' := by
  have hfr : ∀ e ∈ refs, rid e.1 ≠ n.id := by
    intro e he
    obtain ⟨l, hl, hid, _⟩ := h.rid_mem he
    rw [← hid]; exact hfresh l hl
  obtain ⟨r', hr', hs2, hm2⟩ := addLockRefs_spec h.sorted n hfr
  refine ⟨r', hr', hs2, fun e => ?_⟩
  rw [hm2 e, mem_refsOf_append, h.mem e]

/-- what is left after `deleteLockRefs(queue of l, l)` of a stored lock: the references of the others -/
theorem mem_delete_stored {locks : List Lock} {refs : Refs} (h : RefsOk locks refs)
    (hn : (locks.map (·.id)).Nodup) {l : Lock} (hl : l ∈ locks) (e : RefK × Unit) :
    e ∈ deleteLockRefs refs (queueOf l.isUnlocking) l ↔ e.1 ∈ refsOf locks ∧ rid e.1 ≠ l.id := by
  rw [(deleteLockRefs_spec h.sorted _ l).2 e, h.mem e]
  constructor
  · rintro ⟨h1, h2⟩
    refine ⟨h1, fun hid => ?_⟩
    obtain ⟨x, hx, hr⟩ := mem_refsOf.1 h1
    have : x = l := eq_of_id_eq hn hx hl (by rw [← rid_of_mem_lockRefs hr, hid])
    subst this
    obtain ⟨k, hk, he⟩ := lockRefs_sub_deleted hr
    exact h2 k hk he
  · rintro ⟨h1, h2⟩
    exact ⟨h1, fun k _ hc => h2 (by rw [hc]; rfl)⟩

/-- beginUnlock / ExtendLockup of a stored lock: its references deleted from its queue, the
    references of the rewritten lock added -/
theorem refsOk_move {locks : List Lock} {refs : Refs} (h : RefsOk locks refs)
    (hn : (locks.map (·.id)).Nodup) {l n n' : Lock} (hl : l ∈ locks) (hid : n.id = l.id) (hsame : RefSame n n') :
    ∃ r', addLockRefs (deleteLockRefs refs (queueOf l.isUnlocking) l) n = some r' ∧
      RefsOk (setLock locks n') r' := by
  obtain ⟨hs1, _⟩ := deleteLockRefs_spec h.sorted (queueOf l.isUnlocking) l
  have hm1 := mem_delete_stored h hn hl
  have hfr : ∀ e ∈ deleteLockRefs refs (queueOf l.isUnlocking) l, rid e.1 ≠ n.id := by
    intro e he; rw [hid]; exact ((hm1 e).1 he).2
  obtain ⟨r', hr', hs2, hm2⟩ := addLockRefs_spec hs1 n hfr
  refine ⟨r', hr', hs2, fun e => ?_⟩
  rw [hm2 e, hm1 e, mem_refsOf_setLock ⟨l, hl, by rw [← hsame.1, hid]⟩, ← lockRefs_same hsame, ← hsame.1, hid]

/-- unlockMaturedLockInternalLogic of a stored lock: lock deleted, its references deleted -/
theorem refsOk_remove {locks : List Lock} {refs : Refs} (h : RefsOk locks refs)
    (hn : (locks.map (·.id)).Nodup) {l : Lock} (hl : l ∈ locks) :
    RefsOk (delLock locks l.id) (deleteLockRefs refs (queueOf l.isUnlocking) l) := by
  refine ⟨(deleteLockRefs_spec h.sorted _ l).1, fun e => ?_⟩
  rw [mem_delete_stored h hn hl e, mem_refsOf_delLock]

/-- deleting the references of an id no stored lock has changes nothing -/
theorem refsOk_delete_absent {locks : List Lock} {refs : Refs} (h : RefsOk locks refs) (q : Nat) {d : Lock}
    (hfresh : ∀ l ∈ locks, l.id ≠ d.id) : RefsOk locks (deleteLockRefs refs q d) := by
  refine ⟨(deleteLockRefs_spec h.sorted q d).1, fun e => ?_⟩
  rw [(deleteLockRefs_spec h.sorted q d).2 e, h.mem e]
  constructor
  · exact fun h1 => h1.1
  · intro h1
    refine ⟨h1, fun k _ hc => ?_⟩
    obtain ⟨l, hl, hr⟩ := mem_refsOf.1 h1
    have : rid e.1 = d.id := by rw [hc]; rfl
    rw [rid_of_mem_lockRefs hr] at this
    exact hfresh l hl this

/-- the split lock of beginUnlock: a lock with a fresh id, its references added (after a
    `deleteLockRefs` of the same id, which finds nothing) -/
theorem refsOk_add_fresh {locks : List Lock} {refs : Refs} (h : RefsOk locks refs) {n n' d : Lock} (q : Nat)
    (hfresh : ∀ l ∈ locks, l.id ≠ n.id) (hd : d.id = n.id) (hsame : RefSame n n') :
    ∃ r', addLockRefs (deleteLockRefs refs q d) n = some r' ∧ RefsOk (locks ++ [n']) r' := by
  obtain ⟨r', hr', hok⟩ := refsOk_create (refsOk_delete_absent h q fun l hl => hd ▸ hfresh l hl) hfresh
  exact ⟨r', hr', hok.sorted, fun e => by
    rw [hok.mem e, mem_refsOf_append, mem_refsOf_append, lockRefs_same hsame]⟩

end DymVerif.Lockup
