/-
  Lemmas/IroInv — the bookkeeping invariant of M-IRO (token conservation between the module account,
  the holders and the plan's counters; bounds of `sold`; the plan account after settlement) and the
  lemmas on `sumTo` / `upd` its preservation (`exec_inv`, Lemmas/IroVestInv) needs.
-/
import DymVerif.Model.Iro
namespace DymVerif.Iro
open DymVerif

theorem sumTo_upd_ge (n : Nat) (f : Nat → Int) (a : Nat) (v : Int) (h : n ≤ a) :
    sumTo n (upd f a v) = sumTo n f := by
  induction n with
  | zero => rfl
  | succ k ih =>
    simp only [sumTo]
    rw [ih (by omega)]
    have : k ≠ a := by omega
    simp [upd, this]

theorem sumTo_upd (n : Nat) (f : Nat → Int) (a : Nat) (v : Int) (h : a < n) :
    sumTo n (upd f a v) = sumTo n f - f a + v := by
  induction n with
  | zero => omega
  | succ k ih =>
    simp only [sumTo]
    by_cases hk : a = k
    · subst hk
      rw [sumTo_upd_ge a f a v (Nat.le_refl a)]; simp [upd]
    · rw [ih (by omega)]
      have : k ≠ a := fun e => hk e.symm
      simp [upd, this]; omega

theorem sumTo_zero (n : Nat) (f : Nat → Int) (h : ∀ j, f j = 0) : sumTo n f = 0 := by
  induction n with
  | zero => rfl
  | succ k ih => simp [sumTo, ih, h]

theorem sumTo_nonneg (n : Nat) (f : Nat → Int) (h : ∀ j, 0 ≤ f j) : 0 ≤ sumTo n f := by
  induction n with
  | zero => simp [sumTo]
  | succ k ih => simp only [sumTo]; have := h k; omega

theorem le_sumTo (n : Nat) (f : Nat → Int) (h : ∀ j, 0 ≤ f j) (a : Nat) (ha : a < n) : f a ≤ sumTo n f := by
  induction n with
  | zero => omega
  | succ k ih =>
    simp only [sumTo]
    by_cases hk : a = k
    · subst hk; have := sumTo_nonneg a f h; omega
    · have := ih (by omega); have := h k; omega

theorem upd_nonneg {f : Nat → Int} (h : ∀ j, 0 ≤ f j) (a : Nat) {v : Int} (hv : 0 ≤ v) (j : Nat) :
    0 ≤ upd f a v j := by
  unfold upd; split
  · exact hv
  · exact h j

structure Inv (st : State) : Prop where
  iro_nonneg : ∀ j, 0 ≤ st.iro j
  none_ : st.plan = none → (∀ j, st.iro j = 0) ∧ st.modIro = 0 ∧ 0 ≤ st.planLiq
  all : ∀ p, st.plan = some p →
      0 < p.maxSell ∧ p.maxSell ≤ p.alloc ∧ 0 ≤ p.liqPart.raw ∧ p.liqPart.raw ≤ decP ∧
      0 ≤ p.vest.dur ∧ 0 ≤ p.vest.startAfter ∧
      p.sold ≤ p.maxSell ∧ p.claimed ≤ p.sold ∧ st.cfg.creationFee ≤ p.claimed ∧
      p.L = st.cfg.liqDec
  pre : ∀ p, st.plan = some p → p.settled = false →
      st.modIro + sumTo st.cfg.n st.iro = p.alloc ∧ sumTo st.cfg.n st.iro = p.sold - p.claimed ∧
      0 ≤ st.modIro ∧ p.claimed = st.cfg.creationFee ∧ 0 ≤ st.planLiq ∧ p.vest.claimed = 0
  post : ∀ p, st.plan = some p → p.settled = true →
      st.modIro = 0 ∧ st.modRa = sumTo st.cfg.n st.iro ∧ st.modRa = p.sold - p.claimed ∧
      st.planLiq = p.vest.amount - p.vest.claimed ∧ p.vest.stop = p.vest.start + p.vest.dur

theorem Inv.L_eq {st : State} (hi : Inv st) {p : Plan} (hp : st.plan = some p) : p.L = st.cfg.liqDec :=
  (hi.all p hp).2.2.2.2.2.2.2.2.2

theorem inv_init (cfg : Cfg) : Inv (init cfg) := by
  refine ⟨by simp [init], by simp [init], ?_, ?_, ?_⟩ <;> intro p hp <;> simp [init] at hp

/-- the invariant of a state that has the plan `p` -/
theorem Inv.of_some {st : State} {p : Plan} (hp : st.plan = some p) (h0 : ∀ j, 0 ≤ st.iro j)
    (hall : 0 < p.maxSell ∧ p.maxSell ≤ p.alloc ∧ 0 ≤ p.liqPart.raw ∧ p.liqPart.raw ≤ decP ∧
      0 ≤ p.vest.dur ∧ 0 ≤ p.vest.startAfter ∧
      p.sold ≤ p.maxSell ∧ p.claimed ≤ p.sold ∧ st.cfg.creationFee ≤ p.claimed ∧ p.L = st.cfg.liqDec)
    (hpre : p.settled = false →
      st.modIro + sumTo st.cfg.n st.iro = p.alloc ∧ sumTo st.cfg.n st.iro = p.sold - p.claimed ∧
      0 ≤ st.modIro ∧ p.claimed = st.cfg.creationFee ∧ 0 ≤ st.planLiq ∧ p.vest.claimed = 0)
    (hpost : p.settled = true →
      st.modIro = 0 ∧ st.modRa = sumTo st.cfg.n st.iro ∧ st.modRa = p.sold - p.claimed ∧
      st.planLiq = p.vest.amount - p.vest.claimed ∧ p.vest.stop = p.vest.start + p.vest.dur) : Inv st :=
  ⟨h0, fun hn => (nomatch hp.symm.trans hn),
   fun _ hq => Option.some.inj (hp.symm.trans hq) ▸ hall,
   fun _ hq => Option.some.inj (hp.symm.trans hq) ▸ hpre,
   fun _ hq => Option.some.inj (hp.symm.trans hq) ▸ hpost⟩

end DymVerif.Iro
