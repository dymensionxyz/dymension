/-
  Lemmas/CoreFinDefs — the finalization invariant of M-Core (definitions) and the generic machinery:
  * `RFin` / `FinInv`: per-rollapp and global finalization invariant;
  * `Same`: two states agree on everything finalization looks at (ids, lastFin, every state-info field
    except `next`, the queue, params, height) — the relation most operations satisfy;
  * `Evolves`: finalized states are kept (the "frozen" relation); `Back`: nothing becomes finalized;
    `Good` / `Full`: what a transition guarantees from a state satisfying the invariants;
  * rollapp-list lemmas about `setRa` / `getRa` under unique ids.
-/
import DymVerif.Lemmas.CoreQueue
import DymVerif.Lemmas.CoreChainInv2
namespace DymVerif.Core

-- ---------------------------------------------------------------- definitions

/-- rollapp ids are unique -/
def IdsNodup (s : St) : Prop := s.ras.Pairwise (fun a b => a.id ≠ b.id)

/-- the pending (unfinalized) state indices `lastFin+1 .. n`, in order -/
def pendingIdx (r : Rollapp) : List Nat := List.range' (r.lastFin + 1) (r.states.length - r.lastFin)

/-- finalization invariant of one rollapp, with the flattened queue of the rollapp as a parameter
    (`fl`), so that it can be stated in the middle of `FinalizeStates` too -/
structure RFinL (fl : List Nat) (q : List QEntry) (d : Nat) (r : Rollapp) : Prop where
  le : r.lastFin ≤ r.states.length
  flat_eq : fl = pendingIdx r
  pre : ∀ i st, r.states[i]? = some st → (st.finalized = true ↔ i < r.lastFin)
  ch : ∀ e ∈ q, e.ra = r.id → ∀ i ∈ e.idx, ∃ st, r.states[i - 1]? = some st ∧ st.creationHeight = e.ch
  notEarly : ∀ st ∈ r.states, st.finalized = true → st.creationHeight + d ≤ st.finalizedAt

/-- finalization invariant of one rollapp w.r.t. the queue `q` and dispute period `d` -/
def RFin (q : List QEntry) (d : Nat) (r : Rollapp) : Prop := RFinL (flat q r.id) q d r

structure FinInv (s : St) : Prop where
  nodup : IdsNodup s
  sorted : QSorted s.queue
  ent : ∀ e ∈ s.queue, e.ch ≤ s.h ∧ e.idx ≠ []
  qra : ∀ e ∈ s.queue, e.ra ∈ s.ras.map (·.id)
  ras : RaAll (RFin s.queue s.p.dispute) s

/-- everything of a state info except `next` -/
def sKey (st : SInfo) : Addr × Nat × Nat × Nat × Bool × List BD × Nat × Nat :=
  (st.creator, st.start, st.num, st.creationHeight, st.finalized, st.bds, st.accRev, st.finalizedAt)

/-- what finalization looks at in a rollapp record -/
def rKey (r : Rollapp) : Nat × Nat × List (Addr × Nat × Nat × Nat × Bool × List BD × Nat × Nat) :=
  (r.id, r.lastFin, r.states.map sKey)

/-- the two states agree on everything the finalization invariant depends on -/
structure Same (s s' : St) : Prop where
  p : s'.p = s.p
  h : s'.h = s.h
  queue : s'.queue = s.queue
  ras : s'.ras.map rKey = s.ras.map rKey

/-- every queued index of an existing rollapp is in range and no entry is empty -/
def QBound (s : St) : Prop :=
  ∀ r ∈ s.ras, ∀ e ∈ s.queue, e.ra = r.id → e.idx ≠ [] ∧ ∀ i ∈ e.idx, i ≤ r.states.length

structure Pre (s : St) : Prop where
  nodup : IdsNodup s
  chain : ChainAll s
  qb : QBound s

/-- `FS s s'`: from a well-formed `s`, `s'` is well-formed and finalization-equivalent to `s` -/
def FS (s s' : St) : Prop := Pre s → Pre s' ∧ Same s s'

/-- finalized states are kept: every rollapp survives and each of its finalized state infos keeps
    every field except (possibly) `next` -/
def Evolves (s s' : St) : Prop :=
  ∀ r ∈ s.ras, ∃ r' ∈ s'.ras, r'.id = r.id ∧
    ∀ (i : Nat) (st : SInfo), r.states[i]? = some st → st.finalized = true →
      ∃ st', r'.states[i]? = some st' ∧ sKey st' = sKey st

-- ---------------------------------------------------------------- small list facts

theorem map_get_of_eq {α β} {f : α → β} {l l' : List α} (e : l'.map f = l.map f) {i : Nat} {a' : α}
    (h : l'[i]? = some a') : ∃ a, l[i]? = some a ∧ f a = f a' := by
  have e1 := congrArg (fun x => x[i]?) e
  simp only [List.getElem?_map, h] at e1
  cases hl : l[i]? with
  | none => rw [hl] at e1; cases e1
  | some a => rw [hl] at e1; simp at e1; exact ⟨a, rfl, e1.symm⟩

theorem map_length_of_eq {α β} {f : α → β} {l l' : List α} (e : l'.map f = l.map f) : l'.length = l.length := by
  simpa using congrArg List.length e

theorem sKey_fields {a b : SInfo} (h : sKey a = sKey b) :
    a.creator = b.creator ∧ a.start = b.start ∧ a.num = b.num ∧ a.creationHeight = b.creationHeight ∧
    a.finalized = b.finalized ∧ a.bds = b.bds ∧ a.accRev = b.accRev ∧ a.finalizedAt = b.finalizedAt := by
  unfold sKey at h
  simp only [Prod.mk.injEq] at h
  exact h

theorem rKey_fields {a b : Rollapp} (h : rKey a = rKey b) :
    a.id = b.id ∧ a.lastFin = b.lastFin ∧ a.states.map sKey = b.states.map sKey := by
  unfold rKey at h
  simp only [Prod.mk.injEq] at h
  exact h

-- ---------------------------------------------------------------- setRa / getRa

theorem IdsNodup.iff_map (s : St) : IdsNodup s ↔ (s.ras.map (·.id)).Pairwise (· ≠ ·) := by
  unfold IdsNodup; rw [List.pairwise_map]

theorem IdsNodup.of_ids {s s' : St} (h : IdsNodup s) (e : s'.ras.map (·.id) = s.ras.map (·.id)) : IdsNodup s' := by
  rw [IdsNodup.iff_map] at *; rw [e]; exact h

theorem IdsNodup.setRa {s : St} (h : IdsNodup s) (r0 : Rollapp) : IdsNodup (setRa s r0) :=
  h.of_ids (setRa_ids s r0)

theorem IdsNodup.unique {s : St} (h : IdsNodup s) {a b : Rollapp} (ha : a ∈ s.ras) (hb : b ∈ s.ras)
    (e : a.id = b.id) : a = b :=
  pairwise_unique h ha hb (fun hc => hc e) (fun hc => hc e.symm)

theorem getRa_of_mem {s : St} (h : IdsNodup s) {r : Rollapp} (hr : r ∈ s.ras) : getRa s r.id = some r := by
  cases hg : getRa s r.id with
  | none =>
    unfold getRa at hg
    have := List.find?_eq_none.1 hg r hr
    simp at this
  | some x =>
    have := h.unique (getRa_mem hg) hr (getRa_id hg)
    rw [this]

-- ---------------------------------------------------------------- Same

theorem Same.refl (s : St) : Same s s := ⟨rfl, rfl, rfl, rfl⟩

theorem Same.trans {a b c : St} (h1 : Same a b) (h2 : Same b c) : Same a c :=
  ⟨h2.p.trans h1.p, h2.h.trans h1.h, h2.queue.trans h1.queue, h2.ras.trans h1.ras⟩

theorem Same.of_ras_eq {s s' : St} (e : s'.ras = s.ras) (hp : s'.p = s.p) (hh : s'.h = s.h) (hq : s'.queue = s.queue) :
    Same s s' := ⟨hp, hh, hq, by rw [e]⟩

theorem Same.mem_back {s s' : St} (h : Same s s') {r' : Rollapp} (hr : r' ∈ s'.ras) : ∃ r ∈ s.ras, rKey r = rKey r' := by
  have : rKey r' ∈ s'.ras.map rKey := List.mem_map.2 ⟨r', hr, rfl⟩
  rw [h.ras] at this
  obtain ⟨r, h1, h2⟩ := List.mem_map.1 this
  exact ⟨r, h1, h2⟩

theorem Same.mem_fwd {s s' : St} (h : Same s s') {r : Rollapp} (hr : r ∈ s.ras) : ∃ r' ∈ s'.ras, rKey r' = rKey r := by
  have : rKey r ∈ s.ras.map rKey := List.mem_map.2 ⟨r, hr, rfl⟩
  rw [← h.ras] at this
  obtain ⟨r', h1, h2⟩ := List.mem_map.1 this
  exact ⟨r', h1, h2⟩

theorem Same.ids {s s' : St} (h : Same s s') : s'.ras.map (·.id) = s.ras.map (·.id) := by
  have := congrArg (List.map (fun k : Nat × Nat × List (Addr × Nat × Nat × Nat × Bool × List BD × Nat × Nat) => k.1)) h.ras
  simpa [List.map_map, rKey, Function.comp_def] using this

theorem Same.setRa {s : St} (hn : IdsNodup s) {id : Nat} {r r' : Rollapp} (hg : getRa s id = some r)
    (hk : rKey r' = rKey r) : Same s (setRa s r') := by
  refine ⟨rfl, rfl, rfl, ?_⟩
  unfold Core.setRa
  simp only [List.map_map]
  apply List.map_congr_left
  intro x hx
  simp only [Function.comp]
  by_cases hc : (x.id == r'.id) = true
  · have hxid : x.id = r'.id := by simpa using hc
    have : x = r := hn.unique hx (getRa_mem hg) (by rw [hxid, (rKey_fields hk).1])
    rw [if_pos hc, hk, this]
  · rw [if_neg hc]

theorem Chain.of_sKey {l l' : List SInfo} (h : Chain l) (e : l'.map sKey = l.map sKey) : Chain l' := by
  apply h.congr
  have := congrArg (List.map (fun k : Addr × Nat × Nat × Nat × Bool × List BD × Nat × Nat => (k.2.1, k.2.2.1, k.2.2.2.2.2.1))) e
  simpa [List.map_map, sKey, Function.comp_def] using this

theorem Same.chain {s s' : St} (h : Same s s') (hc : ChainAll s) : ChainAll s' := by
  intro r' hr'
  obtain ⟨r, hr, hk⟩ := h.mem_back hr'
  exact Chain.of_sKey (hc r hr) (rKey_fields hk).2.2.symm

theorem Same.qbound {s s' : St} (h : Same s s') (hq : QBound s) : QBound s' := by
  intro r' hr' e he hra
  obtain ⟨r, hr, hk⟩ := h.mem_back hr'
  obtain ⟨k1, _, k3⟩ := rKey_fields hk
  rw [h.queue] at he
  have := hq r hr e he (by rw [k1]; exact hra)
  rw [← map_length_of_eq k3]
  exact this

theorem Same.pre {s s' : St} (h : Same s s') (hp : Pre s) : Pre s' :=
  ⟨hp.nodup.of_ids h.ids, h.chain hp.chain, h.qbound hp.qb⟩

theorem FS.refl (s : St) : FS s s := fun hp => ⟨hp, Same.refl s⟩

theorem FS.trans {a b c : St} (h1 : FS a b) (h2 : FS b c) : FS a c := by
  intro hp
  obtain ⟨p1, s1⟩ := h1 hp
  obtain ⟨p2, s2⟩ := h2 p1
  exact ⟨p2, s1.trans s2⟩

theorem FS.of_same {s s' : St} (h : Pre s → Same s s') : FS s s' := fun hp => ⟨(h hp).pre hp, h hp⟩

theorem FS.of_ras_eq {s s' : St} (e : s'.ras = s.ras) (hp : s'.p = s.p) (hh : s'.h = s.h) (hq : s'.queue = s.queue) :
    FS s s' := FS.of_same fun _ => Same.of_ras_eq e hp hh hq

theorem FS.setRa {s : St} {id : Nat} {r r' : Rollapp} (hg : getRa s id = some r) (hk : rKey r' = rKey r) :
    FS s (setRa s r') := FS.of_same fun hp => Same.setRa hp.nodup hg hk

theorem FS.foldl {α} (f : St → α → St) (l : List α) (hf : ∀ b a, FS b (f b a)) (s : St) : FS s (l.foldl f s) := by
  induction l generalizing s with
  | nil => exact FS.refl s
  | cons x xs ih => exact (hf s x).trans (ih _)

-- ---------------------------------------------------------------- RFin under Same

theorem pendingIdx_congr {r r' : Rollapp} (h1 : r'.lastFin = r.lastFin) (h2 : r'.states.length = r.states.length) :
    pendingIdx r' = pendingIdx r := by
  unfold pendingIdx; rw [h1, h2]

/-- a rewrite of the queue that keeps the entries of rollapp `r` (as a set, and their flattening) -/
theorem RFin.other {q q' : List QEntry} {d : Nat} {r : Rollapp} (h : RFin q d r) (hflat : flat q' r.id = flat q r.id)
    (hmem : ∀ e ∈ q', e.ra = r.id → e ∈ q) : RFin q' d r := by
  unfold RFin at *
  rw [hflat]
  exact ⟨h.le, h.flat_eq, h.pre, fun e he hra => h.ch e (hmem e he hra) hra, h.notEarly⟩

theorem RFinL.congr {fl : List Nat} {q : List QEntry} {d : Nat} {r r' : Rollapp} (hk : rKey r' = rKey r)
    (h : RFinL fl q d r) : RFinL fl q d r' := by
  obtain ⟨k1, k2, k3⟩ := rKey_fields hk
  have hlen := map_length_of_eq k3
  refine ⟨by rw [k2, hlen]; exact h.le, by rw [pendingIdx_congr k2 hlen]; exact h.flat_eq, ?_, ?_, ?_⟩
  · intro i st' hst'
    obtain ⟨st, hst, hs⟩ := map_get_of_eq k3 hst'
    rw [k2, ← (sKey_fields hs).2.2.2.2.1]
    exact h.pre i st hst
  · intro e he hra i hi
    obtain ⟨st, hst, hc⟩ := h.ch e he (by rw [← k1]; exact hra) i hi
    obtain ⟨st', hst', hs⟩ := map_get_of_eq k3.symm hst
    exact ⟨st', hst', by rw [(sKey_fields hs).2.2.2.1]; exact hc⟩
  · intro st' hm hf
    obtain ⟨i, hi⟩ := List.mem_iff_getElem?.1 hm
    obtain ⟨st, hst, hs⟩ := map_get_of_eq k3 hi
    have f := sKey_fields hs
    rw [← f.2.2.2.1, ← f.2.2.2.2.2.2.2]
    exact h.notEarly st (List.mem_of_getElem? hst) (by rw [f.2.2.2.2.1]; exact hf)

theorem RFin.congr {q : List QEntry} {d : Nat} {r r' : Rollapp} (hk : rKey r' = rKey r) (h : RFin q d r) : RFin q d r' := by
  unfold RFin at *
  rw [(rKey_fields hk).1]
  exact RFinL.congr hk h

theorem FinInv.same {s s' : St} (h : FinInv s) (hs : Same s s') : FinInv s' := by
  refine ⟨h.nodup.of_ids hs.ids, by rw [hs.queue]; exact h.sorted, ?_, ?_, ?_⟩
  · intro e he; rw [hs.queue] at he; rw [hs.h]; exact h.ent e he
  · intro e he; rw [hs.queue] at he; rw [hs.ids]; exact h.qra e he
  · intro r' hr'
    obtain ⟨r, hr, hk⟩ := hs.mem_back hr'
    rw [hs.queue, hs.p]
    exact (h.ras r hr).congr hk.symm

theorem FinInv.qbound {s : St} (h : FinInv s) : QBound s := by
  intro r hr e he hra
  refine ⟨(h.ent e he).2, ?_⟩
  intro i hi
  obtain ⟨st, hst, _⟩ := (h.ras r hr).ch e he hra i hi
  have := getElem?_lt hst
  -- i - 1 < length; i = 0 is fine as well
  omega

theorem FinInv.pre {s : St} (h : FinInv s) (hc : ChainAll s) : Pre s := ⟨h.nodup, hc, h.qbound⟩

-- ---------------------------------------------------------------- Evolves

theorem Evolves.refl (s : St) : Evolves s s := by
  intro r hr; exact ⟨r, hr, rfl, fun i st hst _ => ⟨st, hst, rfl⟩⟩

theorem Evolves.trans {a b c : St} (h1 : Evolves a b) (h2 : Evolves b c) : Evolves a c := by
  intro r hr
  obtain ⟨r1, hr1, e1, f1⟩ := h1 r hr
  obtain ⟨r2, hr2, e2, f2⟩ := h2 r1 hr1
  refine ⟨r2, hr2, e2.trans e1, ?_⟩
  intro i st hst hf
  obtain ⟨st1, hst1, k1⟩ := f1 i st hst hf
  obtain ⟨st2, hst2, k2⟩ := f2 i st1 hst1 (by rw [(sKey_fields k1).2.2.2.2.1]; exact hf)
  exact ⟨st2, hst2, k2.trans k1⟩

theorem Evolves.of_ras_eq {s s' : St} (e : s'.ras = s.ras) : Evolves s s' := by
  intro r hr; exact ⟨r, by rw [e]; exact hr, rfl, fun i st hst _ => ⟨st, hst, rfl⟩⟩

theorem Same.evolves {s s' : St} (h : Same s s') : Evolves s s' := by
  intro r hr
  obtain ⟨r', hr', hk⟩ := h.mem_fwd hr
  obtain ⟨k1, _, k3⟩ := rKey_fields hk
  refine ⟨r', hr', k1, ?_⟩
  intro i st hst _
  obtain ⟨st', hst', hs⟩ := map_get_of_eq k3.symm hst
  exact ⟨st', hst', hs⟩

-- ---------------------------------------------------------------- Back: nothing becomes finalized

/-- every finalized state info of `s'` was already there, finalized, in `s` (same rollapp, same index,
    same fields except possibly `next`) -/
def Back (s s' : St) : Prop :=
  ∀ r' ∈ s'.ras, ∀ (i : Nat) (st' : SInfo), r'.states[i]? = some st' → st'.finalized = true →
    ∃ r ∈ s.ras, r.id = r'.id ∧ ∃ st, r.states[i]? = some st ∧ sKey st = sKey st'

theorem Back.refl (s : St) : Back s s := fun r hr i st hst _ => ⟨r, hr, rfl, st, hst, rfl⟩

theorem Back.trans {a b c : St} (h1 : Back a b) (h2 : Back b c) : Back a c := by
  intro r2 hr2 i st2 hst2 hf2
  obtain ⟨r1, hr1, e1, st1, hst1, k1⟩ := h2 r2 hr2 i st2 hst2 hf2
  obtain ⟨r0, hr0, e0, st0, hst0, k0⟩ := h1 r1 hr1 i st1 hst1 (by rw [(sKey_fields k1).2.2.2.2.1]; exact hf2)
  exact ⟨r0, hr0, e0.trans e1, st0, hst0, k0.trans k1⟩

theorem Back.of_ras_eq {s s' : St} (e : s'.ras = s.ras) : Back s s' := by
  intro r hr i st hst _; exact ⟨r, by rw [← e]; exact hr, rfl, st, hst, rfl⟩

theorem Same.back {s s' : St} (h : Same s s') : Back s s' := by
  intro r' hr' i st' hst' _
  obtain ⟨r, hr, hk⟩ := h.mem_back hr'
  obtain ⟨k1, _, k3⟩ := rKey_fields hk
  obtain ⟨st, hst, hs⟩ := map_get_of_eq k3.symm hst'
  exact ⟨r, hr, k1, st, hst, hs⟩

-- ---------------------------------------------------------------- the composite relation proved for every op

/-- from a state satisfying the chain and finalization invariants, the next state satisfies them
    and keeps all finalized states -/
def Good (s s' : St) : Prop := ChainAll s → FinInv s → ChainAll s' ∧ FinInv s' ∧ Evolves s s' ∧ s'.p = s.p

theorem Good.refl (s : St) : Good s s := fun hc hi => ⟨hc, hi, Evolves.refl s, rfl⟩

theorem Good.trans {a b c : St} (h1 : Good a b) (h2 : Good b c) : Good a c := by
  intro hc hi
  obtain ⟨c1, i1, e1, p1⟩ := h1 hc hi
  obtain ⟨c2, i2, e2, p2⟩ := h2 c1 i1
  exact ⟨c2, i2, e1.trans e2, p2.trans p1⟩

theorem FS.good {s s' : St} (h : FS s s') : Good s s' := by
  intro hc hi
  obtain ⟨p1, s1⟩ := h (hi.pre hc)
  exact ⟨p1.chain, hi.same s1, s1.evolves, s1.p⟩

theorem Evolves.get {s s' : St} (h : Evolves s s') (hn : IdsNodup s') {r : Rollapp} (hr : r ∈ s.ras) {i : Nat} {st : SInfo}
    (hst : r.states[i]? = some st) (hf : st.finalized = true) :
    ∃ r' st', getRa s' r.id = some r' ∧ r'.states[i]? = some st' ∧ sKey st' = sKey st := by
  obtain ⟨r', hr', hid, f⟩ := h r hr
  obtain ⟨st', hst', hk⟩ := f i st hst hf
  exact ⟨r', st', by rw [← hid]; exact getRa_of_mem hn hr', hst', hk⟩

/-- what every transition other than the end of a block guarantees: `Good`, and nothing gets finalized -/
def Full (s s' : St) : Prop :=
  ChainAll s → FinInv s → (ChainAll s' ∧ FinInv s' ∧ Evolves s s' ∧ s'.p = s.p) ∧ Back s s'

theorem Full.good {s s' : St} (h : Full s s') : Good s s' := fun hc hi => (h hc hi).1

theorem Full.trans {a b c : St} (h1 : Full a b) (h2 : Full b c) : Full a c := by
  intro hc hi
  obtain ⟨⟨c1, i1, e1, p1⟩, b1⟩ := h1 hc hi
  obtain ⟨⟨c2, i2, e2, p2⟩, b2⟩ := h2 c1 i1
  exact ⟨⟨c2, i2, e1.trans e2, p2.trans p1⟩, b1.trans b2⟩

theorem FS.full {s s' : St} (h : FS s s') : Full s s' :=
  fun hc hi => ⟨h.good hc hi, (h (hi.pre hc)).2.back⟩

end DymVerif.Core
