/-
  Lemmas/CoreFinEnd — `FinalizeStates` on one queue entry (finalizeOne / finalizeEntry): the entry
  processed is the first one of its rollapp, so its indices are lastFin+1, lastFin+2, … in order; on
  success the entry is removed, on failure at position j it is rewritten to the unfinalized suffix.
-/
import DymVerif.Lemmas.CoreFinSame2
namespace DymVerif.Core

-- ---------------------------------------------------------------- one index, record level

/-- the record after finalizing state index `i` (whose stored info is `st`) at hub height `H` -/
def finRec (r : Rollapp) (i : Nat) (st : SInfo) (H : Nat) : Rollapp :=
  { r with states := r.states.set (i - 1) { st with finalized := true, finalizedAt := H }, lastFin := i }

theorem RFinL.head {i : Nat} {fl : List Nat} {q : List QEntry} {d : Nat} {r : Rollapp} (h : RFinL (i :: fl) q d r) :
    i = r.lastFin + 1 ∧ r.lastFin < r.states.length ∧ fl = List.range' (r.lastFin + 1 + 1) (r.states.length - r.lastFin - 1) := by
  have := h.flat_eq
  unfold pendingIdx at this
  have hpos : r.lastFin < r.states.length := by
    rcases Nat.lt_or_ge r.lastFin r.states.length with h1 | h1
    · exact h1
    · rw [show r.states.length - r.lastFin = 0 by omega] at this; simp at this
  rw [show r.states.length - r.lastFin = (r.states.length - r.lastFin - 1) + 1 by omega, List.range'_succ] at this
  injection this with h1 h2
  exact ⟨h1, hpos, h2⟩

/-- the first pending index is `lastFin + 1`, and its state is there and not finalized -/
theorem RFinL.head_unfinalized {i : Nat} {fl : List Nat} {q : List QEntry} {d : Nat} {r : Rollapp}
    (h : RFinL (i :: fl) q d r) :
    i = r.lastFin + 1 ∧ ∃ st, r.states[i - 1]? = some st ∧ st.finalized = false := by
  obtain ⟨hi, hlt, _⟩ := h.head
  subst hi
  obtain ⟨st, hst⟩ : ∃ st, r.states[r.lastFin]? = some st := ⟨_, List.getElem?_eq_getElem hlt⟩
  refine ⟨rfl, st, by rw [Nat.add_sub_cancel]; exact hst, ?_⟩
  have := h.pre r.lastFin st hst
  cases hf : st.finalized with
  | false => rfl
  | true => have := this.1 hf; omega

theorem RFinL.finalize {i : Nat} {fl : List Nat} {q : List QEntry} {d : Nat} {r : Rollapp} {H : Nat}
    (h : RFinL (i :: fl) q d r) (hdue : ∀ st, r.states[i - 1]? = some st → st.creationHeight + d ≤ H) :
    i = r.lastFin + 1 ∧ ∃ st, r.states[i - 1]? = some st ∧ st.finalized = false ∧ RFinL fl q d (finRec r i st H) := by
  obtain ⟨hi, hlt, hfl⟩ := h.head
  obtain ⟨_, st, hst', hnf⟩ := h.head_unfinalized
  subst hi
  have hst : r.states[r.lastFin]? = some st := by rw [Nat.add_sub_cancel] at hst'; exact hst'
  refine ⟨rfl, st, hst', hnf, ?_⟩
  · have hget : ∀ j, (finRec r (r.lastFin + 1) st H).states[j]? =
        if r.lastFin = j then some { st with finalized := true, finalizedAt := H } else r.states[j]? := by
      intro j
      unfold finRec
      show (r.states.set (r.lastFin + 1 - 1) _)[j]? = _
      rw [Nat.add_sub_cancel, List.getElem?_set]
      by_cases hj : r.lastFin = j
      · rw [if_pos hj, if_pos hj, if_pos hlt]
      · rw [if_neg hj, if_neg hj]
    have hlen : (finRec r (r.lastFin + 1) st H).states.length = r.states.length := by
      unfold finRec; simp
    refine ⟨?_, ?_, ?_, ?_, ?_⟩
    · rw [hlen]; exact hlt
    · rw [hfl]; unfold pendingIdx; rw [hlen]
      show _ = List.range' (r.lastFin + 1 + 1) (r.states.length - (r.lastFin + 1))
      congr 1
    · intro j st' hst'
      rw [hget j] at hst'
      show st'.finalized = true ↔ j < r.lastFin + 1
      split at hst'
      · rename_i hj
        injection hst' with hst'; subst hst'
        simp; omega
      · rename_i hj
        have := h.pre j st' hst'
        rw [this]; omega
    · intro e he hra j hj
      obtain ⟨st1, hst1, hch⟩ := h.ch e he hra j hj
      rw [hget (j - 1)]
      by_cases hjj : r.lastFin = j - 1
      · rw [if_pos hjj]
        rw [← hjj, hst] at hst1; injection hst1 with hst1; subst hst1
        exact ⟨_, rfl, hch⟩
      · rw [if_neg hjj]; exact ⟨st1, hst1, hch⟩
    · intro st' hm hf
      obtain ⟨j, hj⟩ := List.mem_iff_getElem?.1 hm
      rw [hget j] at hj
      split at hj
      · injection hj with hj; subst hj
        exact hdue st (by rw [Nat.add_sub_cancel]; exact hst)
      · exact h.notEarly st' (List.mem_of_getElem? hj) hf

/-- weakening of the queue argument (used for the two writes of `FinalizeStates`) -/
theorem RFinL.mono_q {fl : List Nat} {q q' : List QEntry} {d : Nat} {r : Rollapp} (h : RFinL fl q d r)
    (hq : ∀ e' ∈ q', e'.ra = r.id → ∃ e0 ∈ q, e0.ch = e'.ch ∧ e0.ra = e'.ra ∧ ∀ i ∈ e'.idx, i ∈ e0.idx) :
    RFinL fl q' d r := by
  refine ⟨h.le, h.flat_eq, h.pre, ?_, h.notEarly⟩
  intro e' he' hra i hi
  obtain ⟨e0, he0, k1, k2, k3⟩ := hq e' he' hra
  obtain ⟨st, hst, hch⟩ := h.ch e0 he0 (by rw [k2]; exact hra) i (k3 i hi)
  exact ⟨st, hst, by rw [hch, k1]⟩

-- ---------------------------------------------------------------- finalizeOne

theorem finalizeOne_some {s s' : St} {fails : List (Nat × Nat)} {ra idx : Nat} (e : finalizeOne s fails ra idx = some s') :
    ∃ r st s0, getRa s ra = some r ∧ r.states[idx - 1]? = some st ∧ st.finalized = false ∧
      fails.contains (ra, idx) = false ∧ Frame s s0 ∧ s' = setRa s0 (finRec r idx st s.h) := by
  obtain ⟨hf, _, r, st, hg, hst, hnf, rfl⟩ := finalizeOne_ok e
  exact ⟨r, st, { s with seqH := s.seqH.filter (fun p => !(p.1 == st.creator && st.bds.any (·.height == p.2))) },
    hg, hst, hnf, hf, ⟨rfl, rfl, rfl, rfl⟩, rfl⟩

theorem finalizeOne_none {s : St} {fails : List (Nat × Nat)} {ra idx : Nat} {r : Rollapp} {st : SInfo}
    (e : finalizeOne s fails ra idx = none) (hg : getRa s ra = some r) (hst : r.states[idx - 1]? = some st)
    (hnf : st.finalized = false) (h0 : idx ≠ 0) : (ra, idx) ∈ fails := by
  unfold finalizeOne at e
  split at e
  · rename_i hf; simpa using hf
  · rw [hg] at e
    dsimp only at e
    rw [hst] at e
    dsimp only at e
    rw [if_neg (by simp [h0, hnf])] at e
    cases e

-- ---------------------------------------------------------------- the invariant in the middle of an entry

theorem QSorted.key_unique {q : List QEntry} (hs : QSorted q) {a b : QEntry} (ha : a ∈ q) (hb : b ∈ q)
    (h1 : a.ch = b.ch) (h2 : a.ra = b.ra) : a = b := by
  apply pairwise_unique hs ha hb
  · intro hc; rw [keyLt_iff] at hc; omega
  · intro hc; rw [keyLt_iff] at hc; omega

/-- `FinInv` in the middle of `FinalizeStates` on the queue entry `e`: `l` are the indices of `e` still to do, `rest`
    the pending indices of the rollapp queued behind `e`; the rollapp of `e` satisfies `RFinL` for `l ++ rest` (field
    `this`), every other one the full `RFin` -/
structure MidInv (e : QEntry) (rest l : List Nat) (s : St) : Prop where
  nodup : IdsNodup s
  sorted : QSorted s.queue
  ent : ∀ x ∈ s.queue, x.ch ≤ s.h ∧ x.idx ≠ []
  qra : ∀ x ∈ s.queue, x.ra ∈ s.ras.map (·.id)
  mem : e ∈ s.queue
  suffix : ∃ pre, e.idx = pre ++ l
  due : e.ch + s.p.dispute ≤ s.h
  others : ∀ r ∈ s.ras, r.id ≠ e.ra → RFin s.queue s.p.dispute r
  this : ∀ r ∈ s.ras, r.id = e.ra → RFinL (l ++ rest) s.queue s.p.dispute r

/-- the state after one of the two writes, given the per-rollapp facts -/
theorem MidInv.write {e : QEntry} {rest l : List Nat} {s : St} (h : MidInv e rest l s) (q' : List QEntry)
    (hs : QSorted q') (hne : ∀ x ∈ q', x.idx ≠ [])
    (hsub : ∀ e' ∈ q', ∃ e0 ∈ s.queue, e0.ch = e'.ch ∧ e0.ra = e'.ra ∧ ∀ i ∈ e'.idx, i ∈ e0.idx)
    (hother : ∀ ra', ra' ≠ e.ra → flat q' ra' = flat s.queue ra') (hflat : flat q' e.ra = l ++ rest) :
    FinInv { s with queue := q' } := by
  refine ⟨h.nodup, hs, ?_, ?_, ?_⟩
  · intro x hx
    obtain ⟨e0, he0, k1, _, _⟩ := hsub x hx
    exact ⟨by rw [← k1]; exact (h.ent e0 he0).1, hne x hx⟩
  · intro x hx
    obtain ⟨e0, he0, _, k2, _⟩ := hsub x hx
    show x.ra ∈ s.ras.map (·.id)
    rw [← k2]; exact h.qra e0 he0
  · intro r hr
    show RFin q' s.p.dispute r
    by_cases hra : r.id = e.ra
    · unfold RFin
      rw [hra, hflat]
      exact (h.this r hr hra).mono_q (fun e' he' _ => hsub e' he')
    · have := h.others r hr hra
      unfold RFin at *
      rw [hother _ hra]
      exact this.mono_q (fun e' he' _ => hsub e' he')

theorem mem_qRewrite {q : List QEntry} {ch ra : Nat} {l : List Nat} {x : QEntry} (hx : x ∈ qRewrite q ch ra l) :
    x ∈ q ∨ ∃ x0 ∈ q, x0.ch = ch ∧ x0.ra = ra ∧ x = { x0 with idx := l } := by
  unfold qRewrite at hx
  obtain ⟨x0, hx0, rfl⟩ := List.mem_map.1 hx
  split
  · rename_i hc
    have : x0.ch = ch ∧ x0.ra = ra := by simpa using hc
    exact Or.inr ⟨x0, hx0, this.1, this.2, rfl⟩
  · exact Or.inl hx0

/-- `FinalizeStates` on the first entry of a rollapp: result state satisfies the invariant, and a
    failure can only come from the injected oracle, at index lastFin+1 of the resulting record -/
theorem finalizeEntry_go_fin (fails : List (Nat × Nat)) (e : QEntry) (rest : List Nat) :
    ∀ (l : List Nat) (s : St), MidInv e rest l s →
      flat (qRemove s.queue e.ch e.ra) e.ra = rest → (∀ l', flat (qRewrite s.queue e.ch e.ra l') e.ra = l' ++ rest) →
      FinInv (finalizeEntry.go fails e s l).1 ∧
      ((finalizeEntry.go fails e s l).2 = false →
        ∀ r, getRa (finalizeEntry.go fails e s l).1 e.ra = some r → (e.ra, r.lastFin + 1) ∈ fails) ∧
      ((finalizeEntry.go fails e s l).2 = true → (finalizeEntry.go fails e s l).1.queue = qRemove s.queue e.ch e.ra) ∧
      ((finalizeEntry.go fails e s l).2 = false →
        ∃ l', (finalizeEntry.go fails e s l).1.queue = qRewrite s.queue e.ch e.ra l') := by
  intro l
  induction l with
  | nil =>
    intro s h h2 _
    unfold finalizeEntry.go
    refine ⟨?_, ?_, ?_, ?_⟩
    · show FinInv { s with queue := qRemove s.queue e.ch e.ra }
      apply h.write
      · exact qRemove_sorted h.sorted _ _
      · intro x hx; exact (h.ent x (List.mem_filter.1 hx).1).2
      · intro e' he'; exact ⟨e', (List.mem_filter.1 he').1, rfl, rfl, fun i hi => hi⟩
      · intro ra' hne; exact flat_qRemove_other _ _ _ _ hne
      · rw [h2]; rfl
    · intro hc; simp at hc
    · intro _; rfl
    · intro hc; simp at hc
  | cons i tl ih =>
    intro s h h2 h3
    have hrw : FinInv { s with queue := qRewrite s.queue e.ch e.ra (i :: tl) } := by
      apply h.write
      · exact qRewrite_sorted h.sorted _ _ _
      · intro x hx
        rcases mem_qRewrite hx with h1 | ⟨x0, _, _, _, rfl⟩
        · exact (h.ent x h1).2
        · simp
      · intro e' he'
        rcases mem_qRewrite he' with h1 | ⟨x0, hx0, k1, k2, rfl⟩
        · exact ⟨e', h1, rfl, rfl, fun i hi => hi⟩
        · have : x0 = e := h.sorted.key_unique hx0 h.mem k1 k2
          subst this
          refine ⟨x0, hx0, rfl, rfl, ?_⟩
          intro j hj
          obtain ⟨pre, hpre⟩ := h.suffix
          have hj : j ∈ i :: tl := hj
          rw [hpre]; exact List.mem_append_right _ hj
      · intro ra' hne; exact flat_qRewrite_other _ _ _ _ _ hne
      · exact h3 _
    unfold finalizeEntry.go
    split
    · rename_i s1 h1
      obtain ⟨r, st, s0, hg, hst, hnf, _, hfr, rfl⟩ := finalizeOne_some h1
      have hrid : r.id = e.ra := getRa_id hg
      have hrm : r ∈ s.ras := getRa_mem hg
      have hq : (setRa s0 (finRec r i st s.h)).queue = s.queue := hfr.queue
      have hiin : i ∈ e.idx := by
        obtain ⟨pre, hpre⟩ := h.suffix
        rw [hpre]; simp
      have hmid : MidInv e rest tl (setRa s0 (finRec r i st s.h)) := by
        have hp : (setRa s0 (finRec r i st s.h)).p = s.p := hfr.p
        have hh : (setRa s0 (finRec r i st s.h)).h = s.h := hfr.h
        refine ⟨(h.nodup.of_ids (by rw [hfr.ras])).setRa _, by rw [hq]; exact h.sorted, ?_, ?_, by rw [hq]; exact h.mem, ?_,
          by rw [hp, hh]; exact h.due, ?_, ?_⟩
        · intro x hx; rw [hq] at hx; rw [hh]; exact h.ent x hx
        · intro x hx; rw [hq] at hx; rw [setRa_ids, hfr.ras]; exact h.qra x hx
        · obtain ⟨pre, hpre⟩ := h.suffix
          exact ⟨pre ++ [i], by rw [hpre]; simp⟩
        · intro r2 hr2 hne
          rw [hq, hp]
          rcases mem_setRa_strong hr2 with ⟨hm, _⟩ | heq
          · rw [hfr.ras] at hm; exact h.others r2 hm hne
          · subst heq; exact absurd hrid hne
        · intro r2 hr2 heq2
          rw [hq, hp]
          rcases mem_setRa_strong hr2 with ⟨_, hne⟩ | heq
          · exact absurd (heq2.trans hrid.symm) hne
          · subst heq
            have hthis := h.this r hrm hrid
            obtain ⟨_, st2, hst2, _, hres⟩ := hthis.finalize (H := s.h) (by
              intro st3 hst3
              obtain ⟨st4, hst4, hch⟩ := hthis.ch e h.mem hrid.symm i hiin
              rw [hst3] at hst4; injection hst4 with hst4; subst hst4
              rw [hch]; exact h.due)
            rw [hst] at hst2; injection hst2 with hst2; subst hst2
            exact hres
      have := ih _ hmid (by rw [hq]; exact h2) (by rw [hq]; exact h3)
      rw [hq] at this
      exact this
    · rename_i h1
      refine ⟨hrw, ?_, ?_, ?_⟩
      · intro _ r hg
        have hg : getRa s e.ra = some r := hg
        obtain ⟨hi1, st, hst, hnf⟩ := (h.this r (getRa_mem hg) (getRa_id hg)).head_unfinalized
        rw [← hi1]
        exact finalizeOne_none h1 hg hst hnf (by omega)
      · intro hc; simp at hc
      · intro _; exact ⟨i :: tl, rfl⟩

/-- entering an entry that is the first one of its rollapp -/
theorem MidInv.start {s : St} (hi : FinInv s) {e : QEntry} (he : e ∈ s.queue)
    (hfirst : ∀ y ∈ s.queue, y.ra = e.ra → e.ch ≤ y.ch) (hdue : e.ch + s.p.dispute ≤ s.h) :
    ∃ rest, flat (qRemove s.queue e.ch e.ra) e.ra = rest ∧
      (∀ l', flat (qRewrite s.queue e.ch e.ra l') e.ra = l' ++ rest) ∧ MidInv e rest e.idx s := by
  obtain ⟨rest, h1, h2, h3⟩ := flat_first_entry s.queue hi.sorted e he hfirst
  refine ⟨rest, h2, h3, hi.nodup, hi.sorted, hi.ent, hi.qra, he, ⟨[], rfl⟩, hdue, fun r hr _ => hi.ras r hr, ?_⟩
  intro r hr hra
  have := hi.ras r hr
  unfold RFin at this
  rw [hra, h1] at this
  exact this

end DymVerif.Core
