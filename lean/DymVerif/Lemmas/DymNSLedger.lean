/-
  Lemmas/DymNSLedger — balances after the blocks the market messages are made of: refunds in full,
  deposits, proceeds of a sale (the balance equations of the messages themselves are in Props/C17).
-/
import DymVerif.Lemmas.DymNSStep
namespace DymVerif.DymNS
open AMap

/-- what account `x` gets back when the bid `b` is refunded -/
def refundTo (b : Option Bid) (x : Acct) : Nat :=
  match b with
  | some b => if x = b.bidder then b.price else 0
  | none => 0

theorem balOf_set (s : State) (a x : Acct) (v : Nat) (t : State) (ht : t.bal = AMap.set s.bal a v) :
    balOf t x = if x = a then v else balOf s x := by
  unfold balOf; rw [ht, AMap.get_set]; split <;> rfl

@[simp] theorem balOf_toModuleT (s : State) (a x : Acct) (amt : Nat) :
    balOf (toModuleT s a amt) x = if x = a then balOf s a - amt else balOf s x :=
  balOf_set s a x _ _ rfl

@[simp] theorem balOf_fromModuleT (s : State) (a x : Acct) (amt : Nat) :
    balOf (fromModuleT s a amt) x = if x = a then balOf s a + amt else balOf s x :=
  balOf_set s a x _ _ rfl

@[simp] theorem balOf_payAndBurnT (s : State) (a x : Acct) (amt : Nat) :
    balOf (payAndBurnT s a amt) x = if x = a then balOf s a - amt else balOf s x :=
  balOf_set s a x _ _ rfl

theorem balOf_refundOptT (s : State) (b : Option Bid) (x : Acct) :
    balOf (refundOptT s b) x = balOf s x + refundTo b x := by
  cases b with
  | none => simp [refundOptT, refundTo]
  | some b =>
    simp only [refundOptT, balOf_fromModuleT, refundTo]
    split
    · rename_i h; subst h; rfl
    · rfl

theorem balOf_congr {s t : State} (h : t.bal = s.bal) (x : Acct) : balOf t x = balOf s x := by
  unfold balOf; rw [h]

theorem balOf_pruneNameT (s : State) (n : Name) (x : Acct) :
    balOf (pruneNameT s n) x = balOf s x + refundTo (nameBid s n) x := by
  rw [← balOf_refundOptT]; exact balOf_congr rfl x

theorem balOf_replaceNameT (s : State) (n : Name) (d : DymName) (x : Acct) :
    balOf (replaceNameT s n d) x = balOf s x + refundTo (nameBid s n) x := by
  rw [← balOf_pruneNameT]; exact balOf_congr (by simp only [replaceNameT]) x

/-- a state whose balances are those after a payment of `amt` out of the module to `a` -/
theorem balOf_paid {s t : State} {a : Acct} {amt : Nat} (ht : t.bal = (fromModuleT s a amt).bal) (x : Acct) :
    balOf t x = balOf s x + (if x = a then amt else 0) := by
  rw [balOf_congr ht, balOf_fromModuleT]
  split
  · rename_i h; subst h; rfl
  · rfl

theorem balOf_completeNameSOT (s : State) (n : Name) (d : DymName) (b : Bid) (x : Acct) :
    balOf (completeNameSOT s n d b) x = balOf s x + (if x = d.owner then b.price else 0) :=
  balOf_paid (by simp only [completeNameSOT]) x

theorem balOf_takeBidT (s : State) (o : Option Bid) (a x : Acct) (offer : Nat) :
    balOf (takeBidT s o a offer) x =
      if x = a then balOf s a + refundTo o a - offer else balOf s x + refundTo o x := by
  simp only [takeBidT, balOf_toModuleT, balOf_refundOptT]

/-- **a bid is taken**: in a state with the balances after `takeBidT`, the bidder has paid exactly the offer and
    the previous bidder has his bid back -/
theorem balOf_bid {s t : State} {o : Option Bid} {a : Acct} {offer : Nat} (ht : t.bal = (takeBidT s o a offer).bal)
    (hle : offer ≤ balOf s a + refundTo o a) (x : Acct) :
    balOf t x + (if x = a then offer else 0) = balOf s x + refundTo o x := by
  rw [balOf_congr ht, balOf_takeBidT]
  by_cases hxa : x = a
  · subst hxa; simp only [if_true]; omega
  · simp [hxa]

/-- **placing or raising a buy order**: a new order escrows exactly the offer, a raise of the buyer's own
    order on the same asset only the difference to the previous offer; nobody else's balance moves -/
theorem placedBO_ledger {s s' : State} {isAlias : Bool} {a : Acct} {asset : Nat} {dst : Chain} {offer : Nat}
    {cont : Option (Bool × Nat)} (h : PlacedBO s isAlias a asset dst offer s' cont) :
    (∀ x, x ≠ a → balOf s' x = balOf s x) ∧
    (match cont with
     | none => balOf s' a + offer = balOf s a ∧
               AMap.get s'.bos (s.boCount + 1) = some ⟨isAlias, asset, dst, a, offer, 0⟩
     | some (_, id) => ∃ bo, AMap.get s.bos id = some bo ∧ bo.buyer = a ∧ bo.isAlias = isAlias ∧ bo.asset = asset ∧
               bo.offer < offer ∧
               balOf s' a + (offer - bo.offer) = balOf s a ∧ AMap.get s'.bos id = some { bo with offer := offer }) := by
  rcases h with ⟨hle⟩ | ⟨pfx, id, bo, hg, hbuy, hal, has, hlt, hle⟩
  · refine ⟨fun x hx => ?_, ?_, by simp [newBOT, toModuleT]⟩
    · rw [newBOT, balOf_toModuleT, if_neg hx]; exact balOf_congr rfl x
    · rw [newBOT, balOf_toModuleT, if_pos rfl]
      simp only [balOf] at hle ⊢; omega
  · refine ⟨fun x hx => ?_, bo, hg, hbuy, hal, has, hlt, ?_, by simp [raiseBOT, toModuleT]⟩
    · rw [raiseBOT, balOf_toModuleT, if_neg hx]; exact balOf_congr rfl x
    · rw [raiseBOT, balOf_toModuleT, if_pos rfl]
      simp only [balOf] at hle ⊢; omega

theorem balOf_aliasSoldT (t : State) (l : AliasId) (src : Chain) (r : Rollapp) (b : Bid) (x : Acct) :
    balOf (aliasSoldT t l src r b) x = balOf t x + (if x = r.owner then b.price else 0) :=
  balOf_paid rfl x

end DymVerif.DymNS
