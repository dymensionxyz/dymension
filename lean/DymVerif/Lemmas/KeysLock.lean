/-
  Lemmas/KeysLock — the range lemma for the lockup scans whose prefix ends in an owner address
  (any bytes, also 0xFF: `PrefixEndBytes` of it is not `incLast`) followed by 0xFF-separated parts.
-/
import DymVerif.Lemmas.KeysRange
namespace DymVerif.Keys
open DymVerif

/-- owner scans bounded above by `PrefixEndBytes(Q ++ FF ++ A)`: `[Q ++ FF ++ A ++ FF ++ s, end)` contains
    `Q ++ FF ++ B ++ FF ++ r` exactly when `B = A` and `s ≤ r` — for owners of equal length, any bytes -/
theorem eqlen_tail_range (Q A B s r : Bytes) (hl : A.length = B.length) (hB : Bytes.WF B) :
    inRangeO (Q ++ 255 :: (A ++ 255 :: s)) (prefixEnd (Q ++ 255 :: A)) (Q ++ 255 :: (B ++ 255 :: r)) =
      (decide (B = A) && lexLe s r) := by
  -- the common `Q ++ [255]` drops from both bounds: nothing is asked of `Q`
  have hb := below_prefixEnd_append (Q ++ [255]) A (B ++ 255 :: r)
  have e1 := lexLt_append_eqlen B A (255 :: r) (255 :: s) hl.symm
  simp only [List.append_assoc, List.singleton_append] at hb
  rw [inRangeO_eq, hb, below_prefixEnd_eqlen A B _ hl.symm hB]
  simp only [lexLe, lexLt_append_left, lexLt_cons_self, e1]
  by_cases h : B = A
  · subst h; simp [lexLt_irrefl]
  · have hb' : (B == A) = false := by simpa using h
    simp only [hb', Bool.false_and, Bool.or_false, h, decide_false, Bool.false_and]
    cases h1 : lexLt B A with
    | true => simp
    | false =>
      cases h2 : lexLt A B with
      | true => simp
      | false => exact absurd (lexLt_total_eq B A h1 h2) h

end DymVerif.Keys
