/-
  Lemmas/IncentPagingState — STATE-LEVEL independence from the per-block iteration limit, one epoch:
    `Settled s st = st.distributed + (shares of st's records at or after its epoch's stored pointer)`
  is CONSERVED by the streamer EndBlock for every value of `MaxIterationsPerBlock` (`endBlock_settled`), hence by
  every schedule of blocks (`blocks_settled`, Lemmas/IncentLive), and REALISED by the epoch-end flush (`flush_settled`: afterwards the
  stream's distributed coins ARE the settled amount).  So what a stream has handed out at its epoch end is a function
  of the state at the beginning of the window alone — the same for any two schedules (Props/C15,
  `paging_state_independent`).
-/
import DymVerif.Lemmas.IncentExactState
import DymVerif.Lemmas.IncentBlocks
namespace DymVerif.Incent
open DymVerif Coins

/-- what the stream will have distributed once its current epoch is completely served -/
def Settled (s : State) (st : Stream) (i : Nat) : Nat :=
  amt st.distributed i + pendId (ptrOfEpoch s st.epochId) st i

/-- every record of every active stream names a gauge `getActiveGaugeByID` accepts -/
def LiveS (s : State) : Prop := ∀ st ∈ activeStreams s, ∀ r ∈ st.recs, LiveRec s r

/-- the list `Distribute` iterates in the EndBlock (static part) -/
def dataOf (s : State) : List SView := (sortById (activeStreams s)).map Stream.view

/-- the three stored pointers are resumable: each is at a first gauge, or names an ACTIVE stream of its own epoch
    identifier, or is past every active stream.  Excludes exactly: the stream under the pointer was terminated
    (known finding C15/paging_independent/pointer-stream-terminated). -/
def PtrsOKS (s : State) : Prop := PtrsOKe (fun _ => True) (dataOf s) s.ptrs

theorem saveStreams_false_frame : ∀ (l : List Stream) (s s' : State), saveStreams false l s = .ok s' →
    s'.active = s.active ∧ s'.locks = s.locks := by
  intro l
  induction l with
  | nil => intro s s' h; simp only [saveStreams, Except.ok.injEq] at h; rw [← h]; exact ⟨rfl, rfl⟩
  | cons st rest ih =>
    intro s s' h
    unfold saveStreams at h
    simp only [Bool.false_eq_true, if_false] at h
    exact ih (setStream s st) s' h

theorem strDistribute_false_frame (s : State) (es : List Nat) (streams : List Stream) (maxOps : Nat) (s' : State)
    (h : strDistribute s es streams maxOps false = .ok s') : s'.active = s.active ∧ s'.locks = s.locks := by
  obtain ⟨b, s2, _, hinc, hsave⟩ := strDistribute_unfold h
  obtain ⟨a1, a2⟩ := saveStreams_false_frame _ _ _ hsave
  rw [a1, a2, incDistribute_frame _ _ _ _ hinc]
  exact ⟨rfl, rfl⟩

/-! ### sorting by id only looks at the static part -/

theorem insertById_view (a b : Stream) (hab : a.view = b.view) : ∀ (l1 l2 : List Stream), l1.map Stream.view = l2.map Stream.view →
    (insertById a l1).map Stream.view = (insertById b l2).map Stream.view := by
  have hid : a.id = b.id := by have := congrArg SView.id hab; exact this
  intro l1
  induction l1 with
  | nil =>
    intro l2 h
    cases l2 with
    | nil => simp [insertById, hab]
    | cons y ys => simp at h
  | cons x xs ih =>
    intro l2 h
    cases l2 with
    | nil => simp at h
    | cons y ys =>
      simp only [List.map_cons, List.cons.injEq] at h
      have hxy : x.id = y.id := by have := congrArg SView.id h.1; exact this
      unfold insertById
      by_cases hc : a.id ≤ x.id
      · rw [if_pos hc, if_pos (by rw [← hid, ← hxy]; exact hc)]
        simp [hab, h.1, h.2]
      · rw [if_neg hc, if_neg (by rw [← hid, ← hxy]; exact hc)]
        simp only [List.map_cons, List.cons.injEq]
        exact ⟨h.1, ih ys h.2⟩

theorem sortById_view : ∀ (l1 l2 : List Stream), l1.map Stream.view = l2.map Stream.view →
    (sortById l1).map Stream.view = (sortById l2).map Stream.view := by
  intro l1
  induction l1 with
  | nil =>
    intro l2 h
    cases l2 with
    | nil => rfl
    | cons y ys => simp at h
  | cons x xs ih =>
    intro l2 h
    cases l2 with
    | nil => simp at h
    | cons y ys =>
      simp only [List.map_cons, List.cons.injEq] at h
      unfold sortById
      exact insertById_view x y h.1 _ _ (ih ys h.2)

theorem filterMap_view (ss ss' : List Stream) : ∀ (ids : List Nat),
    (∀ id ∈ ids, (getS ss' id).map Stream.view = (getS ss id).map Stream.view) →
    (ids.filterMap (getS ss')).map Stream.view = (ids.filterMap (getS ss)).map Stream.view := by
  intro ids
  induction ids with
  | nil => intro _; rfl
  | cons x xs ih =>
    intro h
    have hx := h x List.mem_cons_self
    have hr := ih (fun id hid => h id (List.mem_cons_of_mem _ hid))
    cases h1 : getS ss' x with
    | none =>
      cases h2 : getS ss x with
      | none => simp only [List.filterMap_cons, h1, h2]; exact hr
      | some b => rw [h1, h2] at hx; simp at hx
    | some a =>
      cases h2 : getS ss x with
      | none => rw [h1, h2] at hx; simp at hx
      | some b =>
        rw [h1, h2] at hx
        simp only [Option.map_some, Option.some.injEq] at hx
        simp only [List.filterMap_cons, h1, h2, List.map_cons, hx, hr]

/-! ### the EndBlock conserves the settled amounts, for every iteration limit -/

theorem active_has_stream (s : State) (hs : SStruct s) (id : Nat) (h : id ∈ s.active.ids) :
    ∃ st, getS s.streams id = some st ∧ st ∈ activeStreams s := by
  have : id ∈ (activeStreams s).map (·.id) := by rw [activeStreams_ids s hs]; exact h
  obtain ⟨y, hy, hyid⟩ := List.mem_map.1 this
  exact ⟨y, by rw [← hyid]; exact ((activeStreams_good s hs).2 y hy).1, hy⟩

theorem endBlock_settled (s s' : State) (hi : Inv s) (hl : LiveS s) (hp : PtrsOKS s) (h : streamerEndBlock s = .ok s') :
    (∀ st0 ∈ s.streams, st0.id ∈ s.active.ids → ∃ st', getS s'.streams st0.id = some st' ∧
        st' = { st0 with distributed := st'.distributed } ∧ ∀ i, Settled s' st' i = Settled s st0 i) ∧
    s'.active = s.active ∧ s'.locks = s.locks ∧ dataOf s' = dataOf s ∧ PtrsOKS s' := by
  have h0 := h
  unfold streamerEndBlock at h
  have hin := activeStreams_good s hi.struct
  have hst := hi.active_static
  have hce := strDistribute_core_eq s _ _ _ _ s' hi.ginv hi.struct hin hst hl (fun _ => True) (fun _ _ => trivial) hp h
  obtain ⟨hact, hlocks⟩ := strDistribute_false_frame _ _ _ _ _ h
  have key : ∀ st0 ∈ s.streams, st0.id ∈ s.active.ids → ∃ st', getS s'.streams st0.id = some st' ∧
      st' = { st0 with distributed := st'.distributed } ∧ ∀ i, Settled s' st' i = Settled s st0 i := by
    intro st0 hm ha
    obtain ⟨v, hc1, g1, g2⟩ := hce.stored hi.struct.sid hm (by rw [activeStreams_ids s hi.struct]; exact ha)
    refine ⟨v, by simpa [finVal] using hc1, g1, ?_⟩
    intro i
    unfold Settled ptrOfEpoch
    exact g2 i
  have hdata : dataOf s' = dataOf s := by
    unfold dataOf
    apply sortById_view
    unfold activeStreams streamsOf
    rw [hact]
    apply filterMap_view
    intro id hid
    obtain ⟨st0, hg, hm⟩ := active_has_stream s hi.struct id hid
    have hmem := mem_streamsOf hm
    have hidd : st0.id = id := (getS_some hi.struct.sid hg).2.2.2.1
    obtain ⟨st', a1, a2, _⟩ := key st0 hmem (by rw [hidd]; exact hid)
    rw [hidd] at a1
    show (getS s'.streams id).map Stream.view = (getS s.streams id).map Stream.view
    rw [a1, hg, a2]
    rfl
  obtain ⟨_, _, _, _, c4, _⟩ := hce
  refine ⟨key, hact, hlocks, hdata, ?_⟩
  unfold PtrsOKS
  rw [hdata]
  exact c4

/-! ### every schedule of blocks -/

/-- blocks inside one epoch, each under the iteration limit in force (`setMaxIter n; end`) -/
def runBlocks (s : State) : List Nat → Option State
  | [] => some s
  | n :: ns =>
    match streamerEndBlock { s with maxIter := n } with
    | .ok s' => runBlocks s' ns
    | .error _ => none

/-! ### the epoch-end flush realises the settled amounts -/

theorem totalRecs_view (l : List Stream) : totalRecs (l.map Stream.view) = (l.map (fun st => st.recs.length)).sum := by
  unfold totalRecs
  rw [List.map_map]
  rfl

theorem totalRecs_for_le (s : State) (e : Nat) :
    totalRecs ((sortById (activeStreamsFor s e)).map Stream.view) ≤ totalRecs (dataOf s) := by
  unfold dataOf
  rw [totalRecs_view, totalRecs_view, sum_sortById, sum_sortById]
  unfold activeStreamsFor
  exact sum_sublist_le _ List.filter_sublist

/-- the pointer of the ending epoch stays resumable when the list is restricted to that epoch's streams -/
theorem ptrsOK_for (s : State) (e : Nat) (hp : PtrsOKS s) :
    PtrsOKe (fun x => x = e) ((sortById (activeStreamsFor s e)).map Stream.view) s.ptrs := by
  intro e' he'
  subst he'
  rcases hp e' trivial with h | ⟨sv, h1, h2, h3⟩ | h
  · exact Or.inl h
  · right; left
    unfold dataOf at h1
    obtain ⟨st, hst, hsv⟩ := List.mem_map.1 h1
    have hst' : st ∈ activeStreams s := (mem_sortById _ st).1 hst
    have hep : st.epochId = e' := by rw [← hsv] at h3; exact h3
    have hf : st ∈ activeStreamsFor s e' := by
      unfold activeStreamsFor
      exact List.mem_filter.2 ⟨hst', by rw [hep]; exact beq_self_eq_true e'⟩
    exact ⟨sv, by rw [← hsv]; exact List.mem_map_of_mem (f := Stream.view) ((mem_sortById _ st).2 hf), h2, h3⟩
  · right; right
    intro sv hsv
    obtain ⟨st, hst, he⟩ := List.mem_map.1 hsv
    have hst' : st ∈ activeStreamsFor s e' := (mem_sortById _ st).1 hst
    unfold activeStreamsFor at hst'
    have hst2 : st ∈ activeStreams s := (List.mem_filter.1 hst').1
    apply h sv
    unfold dataOf
    rw [← he]
    exact List.mem_map_of_mem (f := Stream.view) ((mem_sortById _ st).2 hst2)

/-- **the flush at the epoch end** (`AfterEpochEnd` of epoch `e`, unlimited budget): every active stream of that
    epoch is stored with its distributed coins equal to the settled amount (and its epoch counted) -/
theorem flush_settled (s s' : State) (e : Nat) (he : e ≤ 2) (hi : Inv s) (hl : LiveS s) (hp : PtrsOKS s)
    (hsmall : (s.locks.length + 1) * totalRecs (dataOf s) < maxU64)
    (h : streamerAfterEpochEnd s e = .ok s') :
    ∀ st0 ∈ s.streams, st0.id ∈ s.active.ids → st0.epochId = e →
      ∃ D, getS s'.streams st0.id = some ({ st0 with distributed := D } : Stream).atEpochEnd ∧ ∀ i, amt D i = Settled s st0 i := by
  intro st0 hm ha hep
  have hmem := mem_activeStreamsFor s hi.struct e st0 hm ha hep
  unfold streamerAfterEpochEnd at h
  have hne : (activeStreamsFor s e).isEmpty = false := by
    obtain ⟨y, hy, _⟩ := List.mem_map.1 hmem
    cases hh : activeStreamsFor s e with
    | nil => rw [hh] at hy; simp at hy
    | cons a b => rfl
  rw [hne] at h
  simp only [Bool.false_eq_true, if_false] at h
  cases hd : strDistribute s [e] (activeStreamsFor s e) maxU64 true with
  | error x => simp [hd] at h
  | ok s1 =>
    simp only [hd, Except.ok.injEq] at h
    subst h
    have hin := activeStreamsFor_good s hi.struct e
    have hsub : ∀ st ∈ activeStreamsFor s e, st ∈ activeStreams s := by
      intro st hst; unfold activeStreamsFor at hst; exact (List.mem_filter.1 hst).1
    have hst := hi.activeFor_static e
    have hce := strDistribute_core_eq s _ _ _ _ s1 hi.ginv hi.struct hin hst
      (fun st hm' r hr => hl st (hsub st hm') r hr) (fun x => x = e) (fun st hm' => activeStreamsFor_epoch s e st hm')
      (ptrsOK_for s e hp) hd
    obtain ⟨v, hc1, g1, g2⟩ := hce.stored hi.struct.sid hm hmem
    obtain ⟨_, _, _, _, c4, c5, _⟩ := hce
    have e0 := getS_of_mem hi.struct.sid hm
    refine ⟨v.distributed, ?_, ?_⟩
    · show getS s1.streams st0.id = _
      rw [hc1]
      unfold finVal
      simp only [if_true]
      rw [← g1]
    · intro i
      -- nothing is left to visit after the unlimited pass
      have hrem := c5 e he rfl rfl (Nat.lt_of_le_of_lt (Nat.mul_le_mul_left _ (totalRecs_for_le s e)) hsmall)
      have hgc := goodCache_sortById hin hst
      have hsd := hgc.sortedData
      -- the index of the stream in the iterated list
      obtain ⟨y, hy, hyid⟩ := List.mem_map.1 hmem
      have hgy := (hin.2 y hy).1
      rw [hyid, e0] at hgy
      have hyeq : y = st0 := (Option.some.inj hgy).symm
      subst hyeq
      have hys : y ∈ sortById (activeStreamsFor s e) := (mem_sortById _ y).2 hy
      obtain ⟨k, hk, hke⟩ := List.getElem_of_mem hys
      have hkd : k < ((sortById (activeStreamsFor s e)).map Stream.view).length := by simpa using hk
      have hdk : ((sortById (activeStreamsFor s e)).map Stream.view)[k] = y.view := by simp [hke]
      have hpk := c4 e rfl
      have hz : pendId (s1.ptrs.getD e Pointer.last) v i = 0 := by
        rw [← pendR_eq_pendId _ e _ hsd hpk.ok k hkd v (by rw [hdk, g1]; rfl) (by rw [hdk, g1]; rfl) (by rw [hdk]; exact hep) i]
        unfold pendR
        rw [hrem]
        simp [sharesAt]
      have := g2 i
      have hve : v.epochId = e := by rw [g1]; exact hep
      rw [hve, hz] at this
      unfold Settled ptrOfEpoch
      rw [hep] at this ⊢
      omega

end DymVerif.Incent
