/-
  Lemmas/IncentExactState — the exact accounting carried to the STORE: `strDistribute_core_eq`.
  One pass of x/streamer `Keeper.Distribute` (EndBlock: any budget; epoch end: unlimited) leaves, for every stream
  handed in,   distributed' + pendId(pointer') = distributed + pendId(pointer)   — the equality in the window field of
  `CoreFacts` (Lemmas/IncentBound), whose hypotheses hold when every record names a live gauge (`LiveRec`) and the
  three stored pointers are resumable (`PtrsOKe`);
  the pointers it stores are resumable again, and the unlimited pass of the epoch end leaves nothing pending.
-/
import DymVerif.Lemmas.IncentExactId
namespace DymVerif.Incent
open DymVerif Coins

/-- every stored epoch pointer of the epoch identifiers in `E` (all three for the EndBlock, the ending one for the
    epoch-end flush) is resumable w.r.t. the iterated list -/
def PtrsOKe (E : Nat → Prop) (data : List SView) (ps : List Pointer) : Prop := ∀ e, E e → PtrOKe data e (ps.getD e Pointer.last)

/-- the pointer loop only stores pointers it can resume from -/
theorem ptrLoop_ptrsOKe (E : Nat → Prop) (s : State) (maxOps : Nat) (es : List Nat) (total : Nat) (c : Caches) (ps : List Pointer)
    (hgc : GoodCache c) (hp : PtrsOKe E (c.streams.map Stream.view) ps) :
    PtrsOKe E (c.streams.map Stream.view) (ptrLoop s maxOps es total c ps).2.2 := fun e hE =>
  (ptrLoop_ptrs s maxOps (fun e p => E e → PtrOKe (c.streams.map Stream.view) e p) es total c ps
    (fun e it _ => ptrOKe_ptrOf _ e hgc.sortedData it) hp).2 e hE

/-- the weight the callback reports for an item: the number of qualifying locks of the gauge (or 1) -/
theorem rewardsCb_weight_le (s : State) (c : Caches) (v : SView) (r : Rec) : (rewardsCb s c v r).2 ≤ s.locks.length + 1 := by
  have hnum : ∀ g, gaugeLockNum s g ≤ s.locks.length + 1 := by
    intro g
    unfold gaugeLockNum
    cases hk : g.kind with
    | asset d du =>
      simp only
      unfold gaugeLocks
      rw [hk]
      simp only
      split
      · simp
      · exact Nat.le_trans (List.length_filter_le _ _) (Nat.le_succ _)
    | rollapp r => simp
  rcases rewardsCb_shape s c v r with ⟨e, _⟩ | ⟨_, _, _, _, _, _, _, e⟩ | ⟨_, _, _, _, _, _, e⟩
  · rw [e]; exact Nat.zero_le _
  · rw [e]; exact Nat.zero_le _
  · rw [e]; exact hnum _

/-- the unlimited pass of the epoch end (budget 2^64-1, one epoch identifier) leaves nothing to be visited -/
theorem ptrLoop_flush_done (s : State) (e : Nat) (c : Caches) (ps : List Pointer) (hgc : GoodCache c)
    (hM : (s.locks.length + 1) * totalRecs (c.streams.map Stream.view) < maxU64) :
    remaining (c.streams.map Stream.view) e ((ptrLoop s maxU64 [e] 0 c ps).2.2.getD e Pointer.last) = [] := by
  have hsd := hgc.sortedData
  have hlast : remaining (c.streams.map Stream.view) e Pointer.last = [] := by
    unfold remaining; exact visits_invalid _ e _ (newIter_last _ e hsd)
  unfold ptrLoop
  have h0 : ¬ (0 ≥ maxU64) := by decide
  rw [if_neg h0]
  simp only
  have hun := (iterate_unlimited (c.streams.map Stream.view) e hsd (ps.getD e Pointer.last) (maxU64 - 0) (s.locks.length + 1)
    (rewardsCb s) c (fun acc sv r => rewardsCb_weight_le s acc sv r) (by simpa using hM)).2
  obtain ⟨p', iters, c', hit⟩ : ∃ p' iters c', iterateEpochPointer (c.streams.map Stream.view) e (ps.getD e Pointer.last) (maxU64 - 0) (rewardsCb s) c = (p', iters, c') := ⟨_, _, _, rfl⟩
  rw [hit] at hun ⊢
  simp only at hun ⊢
  unfold ptrLoop
  simp only
  rw [getD_set_self]
  split
  · exact hun
  · exact hlast

/-- one pass of `Keeper.Distribute`, exactly: the values written are the cached ones, every stream handed in is
    cached, each cached value is the stored stream with `distributed + pending` unchanged, the stored pointers are
    resumable, the epoch-end pass leaves nothing to visit, the active list loses exactly the finished streams -/
def CoreEq (E : Nat → Prop) (s : State) (es : List Nat) (streams : List Stream) (maxOps : Nat) (ee : Bool) (s' : State) : Prop :=
  ∃ c : Caches,
    (∀ v ∈ c.streams, getS s'.streams v.id = some (finVal ee v)) ∧
    (∀ x ∈ streams.map (·.id), ∃ v ∈ c.streams, v.id = x) ∧
    (∀ v ∈ c.streams, ∃ st0, getS s.streams v.id = some st0 ∧ v = { st0 with distributed := v.distributed } ∧
        ∀ i, amt v.distributed i + pendId (s'.ptrs.getD v.epochId Pointer.last) v i
              = amt st0.distributed i + pendId (s.ptrs.getD st0.epochId Pointer.last) st0 i) ∧
    PtrsOKe E ((sortById streams).map Stream.view) s'.ptrs ∧
    (∀ e, e ≤ 2 → es = [e] → maxOps = maxU64 → (s.locks.length + 1) * totalRecs ((sortById streams).map Stream.view) < maxU64 →
      remaining ((sortById streams).map Stream.view) e (s'.ptrs.getD e Pointer.last) = []) ∧
    (∀ x, x ∈ s'.active.ids ↔ x ∈ s.active.ids ∧ ∀ v ∈ c.streams, v.id = x → ¬ gone ee v) ∧
    s'.streams.length = s.streams.length

/-- `CoreEq` for one stored stream handed in: its cached value `v` is written as `finVal ee v`, is the stream up to
    `distributed`, and `distributed + pending` is unchanged -/
theorem CoreEq.stored {E : Nat → Prop} {s : State} {es : List Nat} {streams : List Stream} {maxOps : Nat} {ee : Bool}
    {s' : State} (h : CoreEq E s es streams maxOps ee s') (hsid : SidOK s.streams) {st0 : Stream} (hm : st0 ∈ s.streams)
    (hin : st0.id ∈ streams.map (·.id)) :
    ∃ v, getS s'.streams st0.id = some (finVal ee v) ∧ v = { st0 with distributed := v.distributed } ∧
      ∀ i, amt v.distributed i + pendId (s'.ptrs.getD v.epochId Pointer.last) v i
            = amt st0.distributed i + pendId (s.ptrs.getD st0.epochId Pointer.last) st0 i := by
  obtain ⟨c, c1, c2, c3, _⟩ := h
  obtain ⟨v, hv, hvid⟩ := c2 _ hin
  obtain ⟨st1, g0, g1, g2⟩ := c3 v hv
  rw [hvid, getS_of_mem hsid hm] at g0
  obtain rfl := Option.some.inj g0
  exact ⟨v, by rw [← hvid]; exact c1 v hv, g1, g2⟩

theorem strDistribute_core_eq (s : State) (es : List Nat) (streams : List Stream) (maxOps : Nat) (ee : Bool) (s' : State)
    (hg : GInv s) (hs : SStruct s) (hin : GoodInput s streams)
    (hst : ∀ st ∈ streams, StrictInc (st.recs.map (·.gauge)) ∧ st.id < maxU64)
    (hlive : ∀ st ∈ streams, ∀ r ∈ st.recs, LiveRec s r)
    (E : Nat → Prop) (hE : ∀ st ∈ streams, E st.epochId)
    (hptr : PtrsOKe E ((sortById streams).map Stream.view) s.ptrs)
    (h : strDistribute s es streams maxOps ee = .ok s') : CoreEq E s es streams maxOps ee s' := by
  have hf := strDistribute_facts s es streams maxOps ee s' hs hin hst h
  have hgc0 := goodCache_sortById hin hst
  have hp : s'.ptrs = (strPass s es streams maxOps).2.2 := by rw [strDistribute_eq h]
  refine ⟨_, hf.saved, hf.handed, fun v hv => ?_, ?_, ?_, hf.active, hf.len⟩
  · obtain ⟨st0, g0, g1, g2⟩ := hf.window v hv
    -- `st0` is one of the streams handed in, so the pointer of its epoch is resumable
    obtain ⟨y, hy, hyid⟩ := List.mem_map.1 (hf.cached v hv)
    have hy0 : y = st0 := by have := (hin.2 y hy).1; rw [hyid, g0] at this; exact (Option.some.inj this).symm
    exact ⟨st0, g0, g1, fun i => (g2 i).2 hlive (hptr _ (by rw [← hy0]; exact hE y hy)).ok⟩
  · rw [hp]; exact ptrLoop_ptrsOKe E s maxOps (sortByDuration es) 0 ⟨sortById streams, [], []⟩ s.ptrs hgc0 hptr
  · intro e he h1 h2 h3
    subst h1; subst h2
    have : sortByDuration [e] = [e] := by
      have : e = 0 ∨ e = 1 ∨ e = 2 := by omega
      rcases this with a | a | a <;> (subst a; decide)
    rw [hp]; unfold strPass; rw [this]
    exact ptrLoop_flush_done s e ⟨sortById streams, [], []⟩ s.ptrs hgc0 h3

end DymVerif.Incent
