/-
  Lemmas/LCSigners — the header-signer records of M-LC (`signerSet`, keeper.headerSigners): who writes them,
  who removes them (only `pruneWhere`, reached from `validateNew` and `rollbackClient`), and the two facts about
  M-Core's `MsgDecreaseBond` / `MsgUnbond` that Props/C06LC needs.
-/
import DymVerif.Lemmas.LCDesig
import DymVerif.Lemmas.CoreCustody4
namespace DymVerif.LC
open DymVerif.Core (Addr NextP)

abbrev Rec := Addr × Nat × Nat

theorem mem_saveSigner (s : St) (c h : Nat) (a : Addr) : (a, c, h) ∈ (saveSigner s c h a).signerSet := by
  unfold saveSigner
  dsimp only
  split
  · rename_i hc; simpa using hc
  · simp

theorem setClient_signerSet (s : St) (cl : Client) : (setClient s cl).signerSet = s.signerSet := rfl

/-- a record `pruneWhere` removes is a record of that client whose height satisfies the range predicate
    (and the (client, height) map entry named its sequencer) -/
theorem pruneWhere_removed {s : St} {c : Nat} {p : Nat → Bool} {t : Rec} (hin : t ∈ s.signerSet)
    (hout : t ∉ (pruneWhere s c p).signerSet) : t.2.1 = c ∧ p t.2.2 = true ∧ (c, t.2.2, t.1) ∈ s.signerMap := by
  unfold pruneWhere at hout
  dsimp only at hout
  rw [List.mem_filter] at hout
  have hany : (s.signerMap.filter (fun x => x.1 == c && p x.2.1)).any (fun x => x.2.2 == t.1 && x.1 == t.2.1 && x.2.1 == t.2.2) = true := by
    cases hb : (s.signerMap.filter (fun x => x.1 == c && p x.2.1)).any (fun x => x.2.2 == t.1 && x.1 == t.2.1 && x.2.1 == t.2.2) with
    | true => rfl
    | false => exact absurd ⟨hin, by simp [hb]⟩ hout
  obtain ⟨x, hx, hxt⟩ := List.any_eq_true.1 hany
  rw [List.mem_filter] at hx
  obtain ⟨hxm, hxc⟩ := hx
  simp only [Bool.and_eq_true, beq_iff_eq] at hxt hxc
  obtain ⟨⟨e1, e2⟩, e3⟩ := hxt
  obtain ⟨e4, e5⟩ := hxc
  refine ⟨by rw [← e2, e4], by rw [← e3]; exact e5, ?_⟩
  have : x = (c, t.2.2, t.1) := by
    rcases x with ⟨x1, x2, x3⟩
    simp only at e1 e3 e4
    rw [e1, e3, e4]
  rw [← this]; exact hxm

theorem rollback_removed {s : St} {ra lv : Nat} {t : Rec} (hin : t ∈ s.signerSet)
    (hout : t ∉ (rollback s ra lv).1.signerSet) : lookup s.r2c ra = some t.2.1 ∧ lv - 1 < t.2.2 := by
  rcases rollback_cases s ra lv with ⟨_, e⟩ | ⟨c, cl, l, hl, _, _, e⟩ <;> rw [e] at hout
  · exact absurd hin hout
  · unfold pruneAbove at hout
    have := pruneWhere_removed (s := { (setClient s _) with descs := _ }) (by exact hin) hout
    exact ⟨by rw [hl, this.1], by simpa using this.2.1⟩

/-- a record gone after the `OnHardFork` hooks of the forks `l` was removed by the rollback of the client
    designated for one of the forked rollapps, and lies above the fork's last valid height - 1 -/
theorem applyForks_removed : ∀ (l : List (Nat × Nat)) (s : St) (t : Rec), t ∈ s.signerSet → t ∉ (applyForks s l).1.signerSet →
    ∃ ra lv, (ra, lv) ∈ l ∧ lookup s.r2c ra = some t.2.1 ∧ lv - 1 < t.2.2
  | [], s, t, hin, hout => absurd hin hout
  | (ra, lv) :: rest, s, t, hin, hout => by
    unfold applyForks at hout
    cases hr : rollback s ra lv with
    | mk s1 oe =>
      rw [hr] at hout
      cases oe with
      | some e => exact absurd hin hout
      | none =>
        simp only at hout
        have hs1 : (rollback s ra lv).1 = s1 := by rw [hr]
        by_cases h1 : t ∈ s1.signerSet
        · obtain ⟨ra', lv', hm, hl, hlt⟩ := applyForks_removed rest s1 t h1 hout
          have hsh := shape_rollback s ra lv
          rw [hs1] at hsh
          exact ⟨ra', lv', List.mem_cons_of_mem _ hm, by rw [← hsh.r2c]; exact hl, hlt⟩
        · have := rollback_removed (ra := ra) (lv := lv) hin (by rw [hs1]; exact h1)
          exact ⟨ra, lv, List.mem_cons_self, this.1, this.2⟩

/-- a record gone after the x/lightclient `AfterUpdateState` hook was pruned by `validateNew`: the client is the
    one designated for the rollapp, `validateStateInfo` raised no error, the record's height is at or below
    the last height of the new state info -/
theorem afterUpdate_removed {s : St} {ra rev : Nat} {st : Core.SInfo} {t : Rec} (hin : t ∈ s.signerSet)
    (hout : t ∉ (afterUpdate s ra rev st).1.signerSet) :
    lookup s.r2c ra = some t.2.1 ∧ t.2.2 ≤ st.last ∧ ∃ cl, getClient s t.2.1 = some cl ∧ (validateStateInfo s cl ra st).2 = none := by
  rcases afterUpdate_hook s ra rev st with ⟨e, _⟩ | ⟨_, e⟩ | ⟨c, cl, hl, hcl, ⟨_, _, _, _, _, e⟩ | ⟨b, hv, e⟩⟩ <;> rw [e] at hout
  · exact absurd hin hout
  · exact absurd hin hout
  · exact absurd hin hout
  · -- the range predicate of `pruneBelow` is named: left to unification it is found, but slowly
    have := pruneWhere_removed (p := fun x => decide (x < st.last + 1)) hin hout
    have hlt : t.2.2 < st.last + 1 := by simpa using this.2.1
    exact ⟨by rw [hl, this.1], by omega, cl, by rw [this.1]; exact hcl, by rw [hv]⟩

/-- a record present before and absent after a Core op with hooks was pruned by the hook of an update or by a fork -/
theorem coreOp_removed {s : St} {o : Core.Op} {ds : List (Nat × Option Nat)} {t : Rec} (hin : t ∈ s.signerSet)
    (hout : t ∉ (coreOp s o ds).1.signerSet) :
    (coreOp s o ds).2 = .ok ∧
    ((∃ m r st, o = .update m ∧ lookup s.r2c m.ra = some t.2.1 ∧ Core.getRa (coreOp s o ds).1.core m.ra = some r ∧
        r.states.getLast? = some st ∧ t.2.2 ≤ st.last ∧
        ∃ s3 cl, s3.core = (coreOp s o ds).1.core ∧ getClient s3 t.2.1 = some cl ∧ (validateStateInfo s3 cl m.ra st).2 = none) ∨
     (∃ ra lv, (ra, lv) ∈ newForks s.core (coreOp s o ds).1.core ∧ lookup s.r2c ra = some t.2.1 ∧ lv - 1 < t.2.2)) := by
  rcases coreOp_cases s o ds with ⟨e, _⟩ | ⟨core1, s2, s3, hst, hfin⟩
  · rw [e] at hout; exact absurd hin hout
  · refine ⟨hst.ok, ?_⟩
    obtain ⟨hc3, hsh3, hs2, hr2⟩ := hst.frame
    -- removed by the fork hooks?
    have forkCase : t ∉ s3.signerSet → ∃ ra lv, (ra, lv) ∈ newForks s.core core1 ∧ lookup s.r2c ra = some t.2.1 ∧ lv - 1 < t.2.2 := by
      intro h3
      have h3' : t ∉ (applyForks s2 (newForks s.core core1)).1.signerSet := by rw [hst.forks]; exact h3
      obtain ⟨ra, lv, hm, hl, hlt⟩ := applyForks_removed (newForks s.core core1) s2 t (by rw [hs2]; exact hin) h3'
      exact ⟨ra, lv, hm, by rw [← hr2]; exact hl, hlt⟩
    rcases hfin with ⟨m, r, st, s4, ho, hr, hl, _, _, ha, he⟩ | ⟨_, he⟩ <;> rw [he] at hout ⊢
    · have hc4 : s4.core = core1 := by
        have := (frame_afterUpdate s3 m.ra m.rev st).core
        rw [ha] at this; exact this.trans hc3
      rw [hc4]
      by_cases h3 : t ∈ s3.signerSet
      · left
        have hout' : t ∉ (afterUpdate s3 m.ra m.rev st).1.signerSet := by rw [ha]; exact hout
        obtain ⟨hlk, hle, cl, hcl, hv⟩ := afterUpdate_removed h3 hout'
        exact ⟨m, r, st, ho, by rw [← hsh3.r2c]; exact hlk, by rw [← hc3]; exact hr, hl, hle, s3, cl, hc3, hcl, hv⟩
      · exact Or.inr (forkCase h3)
    · rw [hc3]
      exact Or.inr (forkCase hout)

theorem apply_of_step {s s1 : Core.St} {o : Core.Op} (h : Core.step s o = (s1, none)) : Core.apply s o = .ok s1 := by
  unfold Core.step at h
  cases h1 : Core.apply s o with
  | ok x => rw [h1] at h; cases h; rfl
  | error x => rw [h1] at h; cases h

/-- `MsgDecreaseBond` of the proposer is refused by x/sequencer itself -/
theorem decreaseBond_not_proposer {s s' : Core.St} {a : Addr} {amt : Nat} {q : Core.Seq}
    (e : Core.decreaseBond s a amt = .ok s') (hq : Core.getSeq s a = some q) : Core.isProposer s q = false := by
  obtain ⟨q0, _, _, hq0, _, ht, _⟩ := Core.decreaseBond_ok e
  rw [hq] at hq0; cases hq0
  exact (Core.tryUnbond_ok ht).1

/-- `MsgUnbond` of the proposer only starts its notice period: no money moves, the bond stays -/
theorem unbond_proposer {s s' : Core.St} {a : Addr} {q : Core.Seq} (e : Core.unbond s a = .ok s')
    (hq : Core.getSeq s a = some q) (hp : Core.isProposer s q = true) :
    s'.bal = s.bal ∧ s'.modBal = s.modBal ∧ s'.burned = s.burned ∧
    ∃ q', Core.getSeq s' a = some q' ∧ q'.tokens = q.tokens ∧ q'.rollapp = q.rollapp := by
  obtain ⟨q0, r, hq0, _, _, hcase⟩ := Core.unbond_ok e
  rw [hq] at hq0; cases hq0
  rcases hcase with ⟨_, _, _, rfl⟩ | ⟨hp', _⟩
  · obtain rfl : q.addr = a := Core.getSeq_addr hq
    exact ⟨rfl, rfl, rfl, _, Core.getSeq_setSeq_self (s := { s with nq := _ }) (q := Core.noticed q _) hq, rfl, rfl⟩
  · rw [hp] at hp'; cases hp'

end DymVerif.LC
