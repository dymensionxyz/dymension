/-
  Lemmas/CorePunish — the exact effect of `PunishSequencer` (the standalone governance
  `PunishSequencerProposal`, `Core.Op.punish`, and the punishment inside a fraud proposal): only the
  punished record's `tokens` field changes (to 0), the money leaves the module account, every other
  component of the state — rollapps (roles included), parameters, queues, clocks — is untouched.
  And what the liveness slash does with the zero bond that is left.
-/
import DymVerif.Lemmas.CoreCustody4
namespace DymVerif.Core

/-- the state components a slash never writes -/
structure SlashFrame (s s1 : St) : Prop where
  ras : s1.ras = s.ras
  seqs : s1.seqs = s.seqs
  p : s1.p = s.p
  lev : s1.lev = s.lev
  queue : s1.queue = s.queue
  seqH : s1.seqH = s.seqH
  nq : s1.nq = s.nq
  h : s1.h = s.h
  t : s1.t = s.t
  obsolete : s1.obsolete = s.obsolete

theorem SlashFrame.refl (s : St) : SlashFrame s s := ⟨rfl, rfl, rfl, rfl, rfl, rfl, rfl, rfl, rfl, rfl⟩

theorem SlashFrame.trans {a b c : St} (x : SlashFrame a b) (y : SlashFrame b c) : SlashFrame a c :=
  ⟨y.ras.trans x.ras, y.seqs.trans x.seqs, y.p.trans x.p, y.lev.trans x.lev, y.queue.trans x.queue,
   y.seqH.trans x.seqH, y.nq.trans x.nq, y.h.trans x.h, y.t.trans x.t, y.obsolete.trans x.obsolete⟩

theorem sendFromModule_rec {s s1 : St} {q q1 : Seq} {amt : Nat} {to : Addr}
    (e : sendFromModule s q amt to = .ok (s1, q1)) :
    SlashFrame s s1 ∧ q1 = { q with tokens := q.tokens - amt } := by
  obtain ⟨_, _, _, rfl, rfl⟩ := sendFromModule_ok e
  exact ⟨⟨rfl, rfl, rfl, rfl, rfl, rfl, rfl, rfl, rfl, rfl⟩, rfl⟩

theorem burn_rec {s s1 : St} {q q1 : Seq} {amt : Nat} (e : burn s q amt = .ok (s1, q1)) :
    SlashFrame s s1 ∧ q1 = { q with tokens := q.tokens - amt } := by
  obtain ⟨_, _, rfl, rfl⟩ := burn_ok e
  exact ⟨⟨rfl, rfl, rfl, rfl, rfl, rfl, rfl, rfl, rfl, rfl⟩, rfl⟩

/-- a slash rewrites nothing but the `tokens` field of the record it is handed (and the bank) -/
theorem slash_rec {s s1 : St} {q q1 : Seq} {amt : Nat} {mul : Dec} {rw : Option Addr}
    (e : slash s q amt mul rw = .ok (s1, q1)) :
    SlashFrame s s1 ∧ q1 = { q with tokens := q1.tokens } := by
  obtain ⟨s0, q0, h0, hb⟩ := slash_ok e
  obtain ⟨fb, hb⟩ := burn_rec hb
  rcases h0 with ⟨_, rfl, rfl⟩ | ⟨_, to, _, hs⟩
  · exact ⟨fb, by rw [hb]⟩
  · obtain ⟨fs, hs⟩ := sendFromModule_rec hs
    exact ⟨fs.trans fb, by rw [hb, hs]⟩

/-- `PunishSequencer` writes the punished record back with bond 0, over a state that differs from the old
    one in the bank only: the reward share is at most half, so slashing the whole bond leaves nothing -/
theorem punish_shape {s s' : St} {a : Addr} {rw : Option Addr} (e : punish s a rw = .ok s') :
    ∃ q s1, getSeq s a = some q ∧ SlashFrame s s1 ∧ s' = setSeq s1 { q with tokens := 0 } := by
  obtain ⟨q, s1, q1, hg, hs, rfl⟩ := punish_ok e
  obtain ⟨fr, hq1⟩ := slash_rec hs
  obtain ⟨paid, hp, _, _, htok, _, _, _⟩ := slash_money hs
  have hple : paid * 2 ≤ q.tokens := by
    rcases hp with h | h
    · omega
    · rw [h]; exact punishShare_le rw q.tokens
  have hz : q1.tokens = 0 := by omega
  exact ⟨q, s1, hg, fr, by rw [hq1, hz]⟩

/-- **the exact effect of `PunishSequencer`**: the punished record keeps every field except `tokens`,
    which becomes 0; no other record, no rollapp (so no proposer / successor slot), no queue, no clock
    and no parameter changes. -/
theorem punish_exact {s s' : St} {a : Addr} {rw : Option Addr} (e : punish s a rw = .ok s') :
    ∃ q, getSeq s a = some q ∧ SlashFrame s { s' with seqs := s.seqs } ∧
      s'.seqs = s.seqs.map (fun x => if x.addr == a then { q with tokens := 0 } else x) := by
  obtain ⟨q, s1, hg, fr, rfl⟩ := punish_shape e
  refine ⟨q, hg, ⟨fr.ras, rfl, fr.p, fr.lev, fr.queue, fr.seqH, fr.nq, fr.h, fr.t, fr.obsolete⟩, ?_⟩
  show s1.seqs.map (fun x => if x.addr == q.addr then { q with tokens := 0 } else x) = _
  rw [fr.seqs, getSeq_addr hg]

theorem punish_record {s s' : St} {a : Addr} {rw : Option Addr} (e : punish s a rw = .ok s') :
    ∃ q, getSeq s a = some q ∧ getSeq s' a = some { q with tokens := 0 } := by
  obtain ⟨q, s1, hg, fr, rfl⟩ := punish_shape e
  have hqa : q.addr = a := getSeq_addr hg
  have h1 : getSeq s1 ({ q with tokens := 0 } : Seq).addr = some q := by
    rw [getSeq_congr fr.seqs]; show getSeq s q.addr = _; rw [hqa]; exact hg
  exact ⟨q, hg, hqa ▸ getSeq_setSeq_self h1⟩

theorem punish_others {s s' : St} {a : Addr} {rw : Option Addr} (e : punish s a rw = .ok s') (b : Addr)
    (hb : b ≠ a) : getSeq s' b = getSeq s b := by
  obtain ⟨q, s1, hg, fr, rfl⟩ := punish_shape e
  rw [getSeq_setSeq_other (show ({ q with tokens := 0 } : Seq).addr ≠ b by
    show q.addr ≠ b; rw [getSeq_addr hg]; exact Ne.symm hb), getSeq_congr fr.seqs]

-- ---------------------------------------------------------------- a zero-bond proposer and the liveness slash

/-- **the liveness slash of a proposer whose bond is 0** (e.g. after a `PunishSequencerProposal`, which
    leaves it proposer): it never fails, moves no money, and only adds the liveness dishonor — so an idle
    zero-bond proposer keeps collecting dishonor until it is kickable (`kick` needs
    `kickThr ≤ dishonor`), the only way it loses the slot without cooperating. -/
theorem slashLiveness_zero_bond (s : St) (r : Rollapp) (a : Addr) (q : Seq) (hp : r.proposer = some a)
    (hg : getSeq s a = some q) (hz : q.tokens = 0) :
    ∃ s1, slashLiveness s r = .ok s1 ∧ s1.ras = s.ras ∧ s1.bal = s.bal ∧ s1.modBal = s.modBal ∧
      s1.burned = s.burned ∧
      s1.seqs = s.seqs.map (fun x => if x.addr == a then { q with dishonor := q.dishonor + s.sqp.dishonorL } else x) := by
  unfold slashLiveness
  rw [hp]
  dsimp only
  rw [hg]
  dsimp only
  have h0 : min q.tokens (max s.sqp.lsAbs ((s.sqp.lsMul.mulInt q.tokens).truncateInt).toNat) = 0 := by
    rw [hz]; exact Nat.zero_min _
  rw [h0]
  have hsl : slash s q 0 ⟨0⟩ none =
      .ok ({ s with modBal := s.modBal - 0, burned := s.burned + 0 }, { q with tokens := q.tokens - 0 }) := by
    rw [slash_zero_mul]; unfold burn; simp
  rw [hsl]
  dsimp only
  have hqa : q.addr = a := getSeq_addr hg
  refine ⟨_, rfl, rfl, rfl, rfl, rfl, ?_⟩
  unfold setSeq
  dsimp only
  rw [hqa]
  simp only [Nat.sub_zero]

end DymVerif.Core
