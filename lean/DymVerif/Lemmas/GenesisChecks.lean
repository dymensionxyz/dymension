/-
  Lemmas/GenesisChecks — the module invariants from bounded (decidable) checks, so that concrete
  states can be shown to satisfy them by evaluation (the non-vacuity examples of C18Modules).
-/
import DymVerif.Lemmas.GenesisStores
import DymVerif.Lemmas.GenesisRefs
import DymVerif.Lemmas.GenesisSpons
namespace DymVerif.Genesis
open DymVerif

instance {κ β : Type} (lt : κ → κ → Bool) (s : KV κ β) : Decidable (Sorted lt s) :=
  inferInstanceAs (Decidable (s.Pairwise _))

instance {κ β : Type} [DecidableEq κ] (key : β → κ) (s : KV κ β) : Decidable (Keyed key s) :=
  inferInstanceAs (Decidable (∀ e ∈ s, e.1 = key e.2))

/-- a statement about all three classes from its three instances -/
theorem forall_cls {P : Cls → Prop} (h1 : P .upcoming) (h2 : P .active) (h3 : P .finished) : ∀ c, P c
  | .upcoming => h1 | .active => h2 | .finished => h3

instance {P : Cls → Prop} [∀ c, Decidable (P c)] : Decidable (∀ c, P c) :=
  decidable_of_iff (P .upcoming ∧ P .active ∧ P .finished)
    ⟨fun h => forall_cls h.1 h.2.1 h.2.2, fun h => ⟨h _, h _, h _⟩⟩

theorem unit_entry {κ : Type} (e : κ × Unit) : e = (e.1, ()) := rfl

theorem DaInv.of_checks {s : DaState}
    (h : Sorted lexLt s.packets ∧ Keyed DPacket.key s.packets ∧ Sorted ltBB s.byAddr ∧
      (∀ e ∈ s.byAddr, ∃ x ∈ s.packets, daIdxItem x.2 = some e.1) ∧
      (∀ x ∈ s.packets, ∀ k ∈ (daIdxItem x.2).toList, (k, ()) ∈ s.byAddr) ∧
      ∀ x ∈ s.packets, x.2.status = .pending → x.2.ptype ≠ .undefined) : DaInv s := by
  obtain ⟨sp, kp, sa, bwd, fwd, typed⟩ := h
  exact ⟨sp, kp, sa, fun e => Iff.trans
    ⟨bwd e, fun ⟨x, hx, hi⟩ => fwd x hx e.1 (by rw [hi]; exact List.mem_singleton.2 rfl)⟩ (DaInv.idx_iff kp e).symm, typed⟩

theorem LcInv.of_checks {s : LcState}
    (h : Sorted lexLt s.r2c ∧ Sorted lexLt s.c2r ∧ (∀ e ∈ s.c2r, (e.2, e.1) ∈ s.r2c) ∧ (∀ e ∈ s.r2c, (e.2, e.1) ∈ s.c2r) ∧
      (∀ e ∈ s.r2c, e.1 ≠ [] ∧ e.2 ≠ []) ∧ Sorted ltSigner s.signers ∧ Sorted ltCH s.h2s) : LcInv s :=
  ⟨h.1, h.2.1, fun c r => ⟨h.2.2.1 (c, r), h.2.2.2.1 (r, c)⟩, h.2.2.2.2.1, h.2.2.2.2.2.1, h.2.2.2.2.2.2⟩

theorem SignersExact.of_checks {s : LcState}
    (c1 : ∀ e ∈ s.h2s, ((e.2, e.1.1, e.1.2), ()) ∈ s.signers)
    (c2 : ∀ e ∈ s.signers, ((e.1.2.1, e.1.2.2), e.1.1) ∈ s.h2s) : SignersExact s :=
  fun c h q => ⟨fun hm => c1 ((c, h), q) hm, fun hm => c2 ((q, c, h), ()) hm⟩

theorem DymnsInv.of_checks {s : DymnsState}
    (h : Sorted lexLt s.names ∧ Keyed (fun d : DName => d.name) s.names ∧
      Sorted ltBB s.ownIdx ∧ Sorted ltBB s.cfgIdx ∧ Sorted ltBB s.fbIdx ∧
      (∀ e ∈ s.ownIdx, ∃ x ∈ s.names, e.1 = (x.2.owner, x.2.name)) ∧
      (∀ x ∈ s.names, ((x.2.owner, x.2.name), ()) ∈ s.ownIdx) ∧
      (∀ e ∈ s.cfgIdx, ∃ x ∈ s.names, ∃ a ∈ x.2.cfgAddrs, e.1 = (a, x.2.name)) ∧
      (∀ x ∈ s.names, ∀ a ∈ x.2.cfgAddrs, ((a, x.2.name), ()) ∈ s.cfgIdx) ∧
      (∀ e ∈ s.fbIdx, ∃ x ∈ s.names, ∃ a ∈ x.2.fbAddrs, e.1 = (a, x.2.name)) ∧
      ∀ x ∈ s.names, ∀ a ∈ x.2.fbAddrs, ((a, x.2.name), ()) ∈ s.fbIdx) : DymnsInv s := by
  obtain ⟨sn, kn, so, sc, sf, o1, o2, c1, c2, f1, f2⟩ := h
  refine ⟨sn, kn, so, sc, sf, fun e => ⟨o1 e, ?_⟩, fun e => ⟨c1 e, ?_⟩, fun e => ⟨f1 e, ?_⟩⟩
  · rintro ⟨x, hx, he⟩; rw [unit_entry e, he]; exact o2 x hx
  · rintro ⟨x, hx, a, ha, he⟩; rw [unit_entry e, he]; exact c2 x hx a ha
  · rintro ⟨x, hx, a, ha, he⟩; rw [unit_entry e, he]; exact f2 x hx a ha

theorem RsInv.of_checks {s : RefStore}
    (h : Sorted ltNat s.items ∧ Keyed (fun x : Item => x.id) s.items ∧
      (∀ c, Sorted ltNat (s.refs c) ∧ ∀ e ∈ s.refs c, e.2 ≠ [] ∧ ∀ id ∈ e.2, ∃ y ∈ s.items, y.1 = id ∧ y.2.start = e.1) ∧
      (∀ e ∈ s.items, e.1 ∈ refIds s.active ++ refIds s.upcoming ++ refIds s.finished) ∧
      (refIds s.active ++ refIds s.upcoming ++ refIds s.finished).Nodup) : RsInv s :=
  ⟨h.1, h.2.1, fun c => (h.2.2.1 c).1, fun c e he => ((h.2.2.1 c).2 e he).1,
    fun c e he id hid => by
      obtain ⟨y, hy, h1, h2⟩ := ((h.2.2.1 c).2 e he).2 id hid
      exact ⟨y.2, h1 ▸ hy, h2⟩,
    fun e he => by
      rcases List.mem_append.1 (h.2.2.2.1 e he) with h' | h'
      · rcases List.mem_append.1 h' with h' | h'
        · exact ⟨.active, h'⟩
        · exact ⟨.upcoming, h'⟩
      · exact ⟨.finished, h'⟩,
    h.2.2.2.2⟩

theorem ClsOk.of_checks {s : RefStore} {now : Nat}
    (c1 : ∀ c, ∀ e ∈ s.refs c, ∀ id ∈ e.2, ∀ y ∈ s.items, y.1 = id → y.2.cls now = c) : ClsOk s now :=
  fun c e he id hid x hx => c1 c e he id hid (id, x) hx rfl

theorem SponsInv.of_checks {s : SponsState}
    (h : Sorted lexLt s.votes ∧ Sorted ltBB s.dvp ∧ ∀ e ∈ s.dvp, ∃ y ∈ s.votes, y.1 = e.1.1) : SponsInv s :=
  ⟨h.1, h.2.1, fun e he => by obtain ⟨y, hy, h'⟩ := h.2.2 e he; exact ⟨y.2, h' ▸ hy⟩⟩

end DymVerif.Genesis
