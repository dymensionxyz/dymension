/-
  Lemmas/PacketsOrders — the C05 invariant of M-Packets:
  every demand order refers to an existing packet of the same status whose pending key is the
  order's id (and goes away with it); orders are unique per (status, id); price + fee + bridging fee
  = amount with a positive price; LP records never exceed their spend limit.  Here: the invariant, what
  each store write does to it, and the composite writes (finalization, fulfilment, packet deletion) — the
  cases of `inv05_tr` (Lemmas/PacketsStep), which carries it through every operation.
-/
import DymVerif.Lemmas.PacketsOnceOps
import DymVerif.Lemmas.Keys
namespace DymVerif.Packets
open DymVerif DymVerif.Keys

-- ------------------------------------------------------------------ the invariant

def OrderLinked (pk : List Packet) (o : Order) : Prop :=
  ∃ p ∈ pk, pkey p = o.trackingKey ∧ p.status = o.status ∧ pendKeyOf p = o.id

/-- price + fee + bridging fee = amount, positive price (`amount` and `withBf` are ghost fields: the
    amount and the kind of packet the price was last computed from) -/
def PriceOk (bf : Dec) (o : Order) : Prop :=
  0 < o.price ∧ 0 ≤ o.fee ∧ o.price + o.fee + (if o.withBf then (bf.mulInt o.amount).truncateInt else 0) = o.amount

def OrdersNodup (l : List Order) : Prop := l.Pairwise (fun a b => ¬ (a.status = b.status ∧ a.id = b.id))

structure InvO (ords : List Order) (pk : List Packet) (lps : List LP) (bf : Dec) : Prop where
  link : ∀ o ∈ ords, OrderLinked pk o
  okeys : OrdersNodup ords
  price : ∀ o ∈ ords, PriceOk bf o
  lps : ∀ l ∈ lps, l.spent ≤ l.spendLimit

def Inv05 (s : St) : Prop := InvO s.orders s.packets s.lps s.bridgingFee

/-- the eIBC-side fields read by the invariant agree -/
structure OFrame (s s' : St) : Prop where
  orders : s'.orders = s.orders
  packets : s'.packets = s.packets
  lps : s'.lps = s.lps
  bf : s'.bridgingFee = s.bridgingFee

theorem OFrame.refl (s : St) : OFrame s s := ⟨rfl, rfl, rfl, rfl⟩
theorem OFrame.trans {a b c : St} (h1 : OFrame a b) (h2 : OFrame b c) : OFrame a c :=
  ⟨h2.orders.trans h1.orders, h2.packets.trans h1.packets, h2.lps.trans h1.lps, h2.bf.trans h1.bf⟩

theorem Inv05.of_frame {s s' : St} (f : OFrame s s') (h : Inv05 s) : Inv05 s' := by
  unfold Inv05 at *
  rw [f.orders, f.packets, f.lps, f.bf]; exact h

theorem oframe_logRelease (s : St) (p : Packet) (ra : Option Bytes) (v : Bool) : OFrame s (logRelease s p ra v) :=
  ⟨rfl, rfl, rfl, rfl⟩

theorem BankOnly.oframe {s s' : St} (h : BankOnly s s') : OFrame s s' := by
  obtain ⟨_, _, _, rfl⟩ := h
  exact ⟨rfl, rfl, rfl, rfl⟩

-- ------------------------------------------------------------------ order store lemmas

theorem ordersNodup_insertOrd {o : Order} : ∀ {l : List Order}, OrdersNodup l → (∀ q ∈ l, ¬ (q.status = o.status ∧ q.id = o.id)) →
    OrdersNodup (insertOrd o l)
  | [], _, _ => by simp [insertOrd, OrdersNodup]
  | x :: xs, hk, hn => by
    unfold insertOrd
    rw [OrdersNodup, List.pairwise_cons] at hk
    split
    · rw [OrdersNodup, List.pairwise_cons]
      refine ⟨fun q hq ⟨e1, e2⟩ => hn q hq ⟨e1.symm, e2.symm⟩, ?_⟩
      rw [List.pairwise_cons]; exact hk
    · rw [OrdersNodup, List.pairwise_cons]
      refine ⟨?_, ordersNodup_insertOrd hk.2 (fun q hq => hn q (List.mem_cons_of_mem _ hq))⟩
      intro q hq
      rcases mem_insertOrd.mp hq with rfl | hq'
      · exact hn x List.mem_cons_self
      · exact hk.1 q hq'

theorem ordersNodup_eq : ∀ {l : List Order}, OrdersNodup l → ∀ {a b : Order}, a ∈ l → b ∈ l → a.status = b.status → a.id = b.id → a = b
  | [], _, _, _, ha, _, _, _ => by cases ha
  | x :: xs, h, a, b, ha, hb, h1, h2 => by
    rw [OrdersNodup, List.pairwise_cons] at h
    rcases List.mem_cons.mp ha with e | ha'
    · rcases List.mem_cons.mp hb with e' | hb'
      · rw [e, e']
      · exact absurd ⟨e ▸ h1, e ▸ h2⟩ (h.1 b hb')
    · rcases List.mem_cons.mp hb with e' | hb'
      · exact absurd ⟨e' ▸ h1.symm, e' ▸ h2.symm⟩ (h.1 a ha')
      · exact ordersNodup_eq h.2 ha' hb' h1 h2

/-- `SetDemandOrder` of an order that is linked and priced -/
theorem InvO.setOrder {s : St} (h : Inv05 s) (o : Order) (hl : OrderLinked s.packets o) (hp : PriceOk s.bridgingFee o) :
    Inv05 (setOrder s o) := by
  refine ⟨?_, ?_, ?_, h.lps⟩
  · intro q hq
    rcases mem_setOrder.mp hq with rfl | ⟨hq', _⟩
    · exact hl
    · exact h.link q hq'
  · show OrdersNodup (insertOrd o (s.orders.filter _))
    apply ordersNodup_insertOrd (List.Pairwise.filter _ h.okeys)
    intro q hq
    have := (List.mem_filter.mp hq).2
    rintro ⟨e1, e2⟩
    simp [e1, e2] at this
  · intro q hq
    rcases mem_setOrder.mp hq with rfl | ⟨hq', _⟩
    · exact hp
    · exact h.price q hq'

theorem InvO.delOrder {s : St} (h : Inv05 s) (st : Status) (id : Bytes) : Inv05 (delOrder s st id) :=
  ⟨fun q hq => h.link q (mem_delOrder.mp hq).1, List.Pairwise.filter _ h.okeys,
   fun q hq => h.price q (mem_delOrder.mp hq).1, h.lps⟩

/-- `SetRollappPacket`: every order keeps a packet of its key, status and id -/
theorem InvO.setPacket {s : St} (h : Inv05 s) (p : Packet) : Inv05 (setPacket s p) := by
  refine ⟨?_, h.okeys, h.price, h.lps⟩
  intro o ho
  obtain ⟨q, hq, h1, h2, h3⟩ := h.link o ho
  by_cases hk : pkey q = pkey p
  · obtain ⟨e1, e2⟩ := pkey_eq_parts hk
    exact ⟨p, mem_setPacket.mpr (Or.inl rfl), hk ▸ h1, e1 ▸ h2, e2 ▸ h3⟩
  · exact ⟨q, mem_setPacket.mpr (Or.inr ⟨hq, hk⟩), h1, h2, h3⟩

/-- deleting the key `k` when no remaining order tracks it -/
theorem InvO.delPacket {s : St} (h : Inv05 s) (k : Bytes) (hn : ∀ o ∈ s.orders, o.trackingKey ≠ k) : Inv05 (delPacket s k) := by
  refine ⟨?_, h.okeys, h.price, h.lps⟩
  intro o ho
  obtain ⟨q, hq, h1, h2, h3⟩ := h.link o ho
  refine ⟨q, mem_delPacket.mpr ⟨hq, ?_⟩, h1, h2, h3⟩
  rw [h1]; exact hn o ho

theorem inv05_addByAddr {s : St} (a k) (h : Inv05 s) : Inv05 (addByAddr s a k) := h
theorem inv05_delByAddr {s : St} (a k) (h : Inv05 s) : Inv05 (delByAddr s a k) := h

theorem mem_setLp {s : St} {l x : LP} : x ∈ (setLp s l).lps → x = l ∨ x ∈ s.lps := by
  unfold setLp
  intro hx
  have : ∀ {ls : List LP}, x ∈ insertLp l ls → x = l ∨ x ∈ ls := by
    intro ls
    induction ls with
    | nil => intro h; simp [insertLp] at h; exact Or.inl h
    | cons y ys ih =>
      intro h
      unfold insertLp at h
      split at h
      · rcases List.mem_cons.mp h with h | h
        · exact Or.inl h
        · exact Or.inr h
      · rcases List.mem_cons.mp h with h | h
        · exact Or.inr (h ▸ List.mem_cons_self)
        · rcases ih h with h | h
          · exact Or.inl h
          · exact Or.inr (List.mem_cons_of_mem _ h)
  rcases this hx with h | h
  · exact Or.inl h
  · exact Or.inr (List.mem_filter.mp h).1

theorem InvO.setLp {s : St} (h : Inv05 s) (l : LP) (hl : l.spent ≤ l.spendLimit) : Inv05 (setLp s l) := by
  refine ⟨h.link, h.okeys, h.price, ?_⟩
  intro x hx
  rcases mem_setLp hx with rfl | hx'
  · exact hl
  · exact h.lps x hx'

theorem InvO.delLp {s : St} (h : Inv05 s) (id : Nat) : Inv05 (delLp s id) :=
  ⟨h.link, h.okeys, h.price, fun x hx => h.lps x (List.mem_filter.mp hx).1⟩

-- ------------------------------------------------------------------ operations

theorem tracks_key {s : St} (h : Inv05 s) {p : Packet} {o : Order} (ho : o ∈ s.orders) (hk : o.trackingKey = pkey p) :
    o.status = p.status ∧ o.id = pendKeyOf p := by
  obtain ⟨q, _, h1, h2, h3⟩ := h.link o ho
  obtain ⟨e1, e2⟩ := pkey_eq_parts (h1.trans hk)
  exact ⟨h2.symm.trans e1, h3.symm.trans e2⟩

theorem tracks_pending {s : St} (h : Inv05 s) {p : Packet} (hs : p.status = .pending) {o : Order} (ho : o ∈ s.orders)
    (hk : o.trackingKey = pkey p) : o.status = .pending ∧ o.id = pkey p :=
  ⟨(tracks_key h ho hk).1.trans hs, (tracks_key h ho hk).2.trans (pendKeyOf_of_pending hs)⟩

/-- `UpdateRollappPacketAfterFinalization`: the packet is flipped, and eibc's hook moves its order (if
    any) along.  The order writes commute with the packet writes, so the store lemmas apply one by one:
    the pending order goes, then nothing tracks the pending key, which goes; the flipped packet and
    the flipped order come in. -/
theorem inv05_updateAfterFinalization {s s' : St} {p : Packet} (h : Inv05 s) (hu : updateAfterFinalization s p = .ok s') :
    Inv05 s' := by
  obtain ⟨hs, rfl⟩ := updateAfterFinalization_ok hu
  unfold afterPacketStatusUpdated
  split
  · rename_i hgo
    refine InvO.setPacket (InvO.delPacket (inv05_delByAddr _ _ h) _ fun o ho hk => ?_) _
    rw [getOrder, (flipWrites_fields _ _ _ _).1] at hgo
    exact getOrder_none hgo o ho (tracks_pending h hs ho hk)
  · rename_i o hgo
    obtain ⟨ho, _, hid⟩ := getOrder_some hgo
    rw [(flipWrites_fields _ _ _ _).1] at ho
    have e : setOrder (delOrder (setPacket (delPacket (delByAddr s p.target (pkey p)) (pkey p)) (flipped p)) .pending o.id)
          { o with trackingKey := pkey (flipped p), status := .finalized } =
        setOrder (setPacket (delPacket (delByAddr (delOrder s .pending o.id) p.target (pkey p)) (pkey p)) (flipped p))
          { o with trackingKey := pkey (flipped p), status := .finalized } := by
      simp only [setOrder, delOrder, setPacket, delPacket, delByAddr]
    rw [e, hid]
    apply InvO.setOrder (InvO.setPacket (InvO.delPacket (inv05_delByAddr _ _ (InvO.delOrder h .pending (pkey p))) _
      fun q hq hk => (mem_delOrder.mp hq).2 (tracks_pending h hs (mem_delOrder.mp hq).1 hk)) _)
    · exact ⟨flipped p, mem_setPacket.mpr (Or.inl rfl), rfl, rfl, (pendKeyOf_flipped p).trans (pendKeyOf_of_pending hs)⟩
    · rw [(flipWrites_fields _ _ _ _).2]
      exact h.price o ho

/-- finalization: a release, which leaves the eIBC side alone, then `UpdateRollappPacketAfterFinalization` -/
theorem finalizePacket_steps {s s' : St} {k : Bytes} (hf : finalizePacket s k = .ok s') :
    ∃ sA p, OFrame s sA ∧ updateAfterFinalization sA p = .ok s' := by
  obtain ⟨p, _, _, hu⟩ := finalizePacket_ok hf
  exact ⟨_, _, (bank_releaseEffect s p).oframe.trans (oframe_logRelease _ _ _ _), hu⟩

theorem inv05_finalizePacket {s s' : St} {k : Bytes} (h : Inv05 s) (hf : finalizePacket s k = .ok s') : Inv05 s' := by
  obtain ⟨sA, p, f, hu⟩ := finalizePacket_steps hf
  exact inv05_updateAfterFinalization (Inv05.of_frame f h) hu

theorem inv05_updateTransferAddress {s s' : St} {k : Bytes} {a : Addr} (h : Inv05 s)
    (hu : updateTransferAddress s k a = .ok s') : Inv05 s' := by
  obtain ⟨p, _, _, rfl⟩ := updateTransferAddress_ok hu
  exact InvO.setPacket (inv05_addByAddr _ _ (inv05_delByAddr _ _ h)) _

theorem inv05_setOrderFulfilled {s s' : St} {o : Order} {f : Addr} {c : Option Addr} (h : Inv05 s) (ho : o ∈ s.orders)
    (hu : setOrderFulfilled s o f c = .ok s') : Inv05 s' := by
  unfold setOrderFulfilled at hu
  refine inv05_updateTransferAddress (InvO.setOrder h _ ?_ ?_) hu
  · exact h.link o ho
  · exact h.price o ho

theorem inv05_fulfils {s s' : St} (h : Inv05 s) {id o f c} (hf : FulfilsBy id o f c s s') : Inv05 s' := by
  obtain ⟨b, a, l, g, s1, ho, hsub, hu, hs'⟩ := hf
  have h0 : Inv05 { s with bal := b, accts := a, lps := l, grants := g } :=
    ⟨h.link, h.okeys, h.price, fun x hx => h.lps x (hsub x hx)⟩
  have h1 := inv05_setOrderFulfilled h0 (outstanding_pending ho).1 hu
  rcases hs' with rfl | ⟨lp, hlp, rfl⟩
  · exact h1
  · exact InvO.setLp h1 lp hlp

/-- the authorised path runs the handler on the state with the grant updated; everything the handler
    reads besides the grant table is as in `s` -/
theorem authorized_core {s s' : St} {g : Addr} {m : AuthMsg} (h : msgFulfillAuthorized s g m = .ok s') :
    ∃ sg : St, OFrame s sg ∧ sg.ras = s.ras ∧ sg.bal = s.bal ∧ fulfillAuthorizedCore sg m = .ok s' := by
  obtain ⟨_, hcase⟩ := msgFulfillAuthorized_ok h
  rcases hcase with ⟨_, hc⟩ | ⟨_, gr, r, _, _, hc⟩
  · exact ⟨s, OFrame.refl s, rfl, rfl, hc⟩
  · cases r with
    | none => exact ⟨delGrant s m.lp g, ⟨rfl, rfl, rfl, rfl⟩, rfl, rfl, hc⟩
    | some g' => exact ⟨setGrant s g', ⟨rfl, rfl, rfl, rfl⟩, rfl, rfl, hc⟩

/-- `DeleteRollappPacket` + `AfterPacketDeleted`: the orders of the packet go with it (the order writes
    commute with the packet writes: once both orders are gone nothing tracks the key) -/
theorem inv05_deletePacket {s : St} (p : Packet) (h : Inv05 s) : Inv05 (deletePacket s p) := by
  have e : deletePacket s p =
      delByAddr (delPacket (delOrder (delOrder s .pending (pendKeyOf p)) .finalized (pendKeyOf p)) (pkey p)) p.target (pkey p) := by
    simp only [deletePacket, delOrder, delByAddr, delPacket]
  rw [e]
  refine inv05_delByAddr _ _ (InvO.delPacket (InvO.delOrder (InvO.delOrder h _ _) _ _) _ fun o ho hk => ?_)
  obtain ⟨ho1, hf⟩ := mem_delOrder.mp ho
  obtain ⟨ho2, hp⟩ := mem_delOrder.mp ho1
  obtain ⟨e1, e2⟩ := tracks_key h ho2 hk
  cases hs : p.status with
  | pending => exact hp ⟨e1.trans hs, e2⟩
  | finalized => exact hf ⟨e1.trans hs, e2⟩

theorem inv05_revertPacket {s : St} (p : Packet) (h : Inv05 s) : Inv05 (revertPacket s p) := by
  unfold revertPacket
  apply inv05_deletePacket
  unfold revertIbc
  split <;> exact h

theorem inv05_foldl_revertPacket (l : List Packet) {s : St} (h : Inv05 s) : Inv05 (l.foldl revertPacket s) :=
  foldl_preserves (fun _ p => inv05_revertPacket p) l h

def Inv (s : St) : Prop := Inv04 s ∧ Inv05 s

theorem inv_init_both (n : Nat) (fund : Int) (a b c : Dec) (r0 r1 : Bytes) (ch : List Chan) : Inv (initSt n fund a b c r0 r1 ch) := by
  refine ⟨inv_init n fund a b c r0 r1 ch, ?_⟩
  unfold Inv05
  exact ⟨(by intro o ho; cases ho), List.Pairwise.nil, (by intro o ho; cases ho), (by intro l hl; cases hl)⟩

end DymVerif.Packets
