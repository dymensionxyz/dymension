/-
  Lemmas/GenesisLinkLC — x/lightclient: C18's store invariant `LcInv` PROVED for the projection
  `toLcState` of every reachable state of M-LC (Model/LC).  M-LC keeps the two canonical-client
  sections and the two signer sections as association lists (first match wins); the projection
  rebuilds each as a KV section with `importWith` over the list's first entries per key, so
  sortedness holds by construction, and `LcInv.inv` (the two canonical sections are inverse to each
  other) is M-LC's `MapsInv` (`run_mapsInv`, C09).
-/
import DymVerif.Lemmas.LCInv
import DymVerif.Lemmas.GenesisStores
namespace DymVerif.GenesisLink
open DymVerif DymVerif.Genesis

/-! ### first entry per key of an association list -/

section firsts
variable {α κ : Type} [DecidableEq κ]

/-- the entries a first-match lookup can return: the first entry of every key -/
def firstsBy (key : α → κ) : List α → List α
  | [] => []
  | x :: xs => x :: (firstsBy key xs).filter (fun y => decide (key y ≠ key x))

theorem firstsBy_nodup (key : α → κ) (l : List α) : ((firstsBy key l).map key).Nodup := by
  induction l with
  | nil => exact List.nodup_nil
  | cons a l ih =>
    rw [firstsBy, List.map_cons, List.nodup_cons]
    refine ⟨fun h => ?_, List.Nodup.sublist (List.Sublist.map key List.filter_sublist) ih⟩
    obtain ⟨y, hy, e⟩ := List.mem_map.1 h
    exact of_decide_eq_true (List.mem_filter.1 hy).2 e

end firsts

theorem lookup_cons (a : Nat × Nat) (l : List (Nat × Nat)) (k : Nat) :
    LC.lookup (a :: l) k = if a.1 = k then some a.2 else LC.lookup l k := by
  unfold LC.lookup
  rw [List.find?_cons]
  by_cases h : a.1 = k
  · simp [h]
  · have hb : (a.1 == k) = false := by simp [h]
    rw [hb, if_neg h]

/-- the first entries of an association list are exactly what a first-match lookup answers (`get` is any
    function with the two equations of such a lookup; `enc` any injective re-encoding of the keys) -/
theorem mem_firstsBy_lookup {κ β κ' : Type} [DecidableEq κ] [DecidableEq κ'] (enc : κ → κ')
    (hinj : ∀ a b, enc a = enc b → a = b) (get : List (κ × β) → κ → Option β) (h0 : ∀ k, get [] k = none)
    (hc : ∀ a l k, get (a :: l) k = if a.1 = k then some a.2 else get l k) (l : List (κ × β)) (e : κ × β) :
    e ∈ firstsBy (fun x : κ × β => enc x.1) l ↔ get l e.1 = some e.2 := by
  induction l with
  | nil => rw [h0]; exact ⟨(nomatch ·), (nomatch ·)⟩
  | cons a l ih =>
    rw [hc, firstsBy, List.mem_cons, List.mem_filter, decide_eq_true_eq]
    by_cases h : a.1 = e.1
    · rw [if_pos h]
      constructor
      · rintro (rfl | ⟨_, hne⟩)
        · rfl
        · exact absurd (congrArg enc h.symm) hne
      · exact fun he => Or.inl (Prod.ext h.symm (Option.some.inj he).symm)
    · rw [if_neg h]
      constructor
      · rintro (rfl | ⟨hm, _⟩)
        · exact absurd rfl h
        · exact ih.1 hm
      · exact fun hl => Or.inr ⟨ih.2 hl, fun hc => h (hinj _ _ hc).symm⟩

theorem mem_firstsBy_assoc (l : List (Nat × Nat)) (e : Nat × Nat) :
    e ∈ firstsBy (fun x : Nat × Nat => ([x.1] : Bytes)) l ↔ LC.lookup l e.1 = some e.2 :=
  mem_firstsBy_lookup (fun a : Nat => ([a] : Bytes)) (fun _ _ h => List.head_eq_of_cons_eq h) LC.lookup
    (fun _ => rfl) lookup_cons l e

/-! ### the projection -/

/-- an association list of ids as a KV section over one-byte-string ids -/
def kvOfAssoc (l : List (Nat × Nat)) : KV Bytes Bytes :=
  importWith lexLt (fun e : Nat × Nat => ([e.1] : Bytes)) (fun e => ([e.2] : Bytes))
    (firstsBy (fun x : Nat × Nat => ([x.1] : Bytes)) l)

def signerKeyOf (e : Nat × Nat × Nat) : SignerKey := ([e.1], [e.2.1], e.2.2)
def chKeyOf (e : Nat × Nat × Nat) : Bytes × Nat := ([e.1], e.2.1)

/-- M-LC's light-client sections as C18's `LcState` -/
def toLcState (s : LC.St) : LcState :=
  { r2c := kvOfAssoc s.r2c,
    c2r := kvOfAssoc s.c2r,
    signers := importWith ltSigner signerKeyOf (fun _ => ()) (firstsBy signerKeyOf s.signerSet),
    h2s := importWith ltCH chKeyOf (fun e => ([e.2.2] : Bytes)) (firstsBy chKeyOf s.signerMap) }

theorem sorted_kvOfAssoc (l : List (Nat × Nat)) : Sorted lexLt (kvOfAssoc l) :=
  sorted_importWith soBytes _ _ _

theorem mem_kvOfAssoc (l : List (Nat × Nat)) (e : Bytes × Bytes) :
    e ∈ kvOfAssoc l ↔ ∃ a b, LC.lookup l a = some b ∧ e = ([a], [b]) := by
  unfold kvOfAssoc
  rw [mem_importWith soBytes _ _ _ (firstsBy_nodup _ l)]
  constructor
  · rintro ⟨x, hx, rfl⟩
    exact ⟨x.1, x.2, (mem_firstsBy_assoc l x).1 hx, rfl⟩
  · rintro ⟨a, b, hl, rfl⟩
    exact ⟨(a, b), (mem_firstsBy_assoc l (a, b)).2 hl, rfl⟩

theorem mem_kvOfAssoc_pair (l : List (Nat × Nat)) (a b : Nat) :
    (([a], [b]) : Bytes × Bytes) ∈ kvOfAssoc l ↔ LC.lookup l a = some b := by
  rw [mem_kvOfAssoc]
  constructor
  · rintro ⟨a', b', hl, e⟩
    cases e; exact hl
  · exact fun hl => ⟨a, b, hl, rfl⟩

/-- **`LcInv` from `MapsInv`** -/
theorem lcInv_of_mapsInv {s : LC.St} (h : LC.MapsInv s) : LcInv (toLcState s) where
  sr := sorted_kvOfAssoc s.r2c
  sc := sorted_kvOfAssoc s.c2r
  inv := by
    intro c r
    show (c, r) ∈ kvOfAssoc s.c2r ↔ (r, c) ∈ kvOfAssoc s.r2c
    rw [mem_kvOfAssoc, mem_kvOfAssoc]
    constructor
    · rintro ⟨a, b, hl, e⟩
      injection e with e1 e2
      exact ⟨b, a, h.c2r_r2c a b hl, by rw [e1, e2]⟩
    · rintro ⟨a, b, hl, e⟩
      injection e with e1 e2
      exact ⟨b, a, h.r2c_c2r a b hl, by rw [e1, e2]⟩
  ne := by
    intro e he
    obtain ⟨a, b, _, rfl⟩ := (mem_kvOfAssoc s.r2c e).1 he
    exact ⟨by simp, by simp⟩
  ss := sorted_importWith (soPair soBytes (soPair soBytes soNat)) _ _ _
  sh := sorted_importWith (soPair soBytes soNat) _ _ _

/-- `LcInv` in every reachable state of M-LC -/
theorem lcInv_reachable (p : Core.Params) (ops : List LC.Op) : LcInv (toLcState (LC.run (LC.init p) ops)) :=
  lcInv_of_mapsInv (LC.run_mapsInv (LC.init_mapsInv p) ops)

end DymVerif.GenesisLink
