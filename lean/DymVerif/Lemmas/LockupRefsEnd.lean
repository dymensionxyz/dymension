import DymVerif.Lemmas.LockupRefsStep
/-
  Lemmas/LockupRefsEnd — the EndBlocker, the restart and whole histories of the reference-level
  machine (Model/LockupRefs): projection onto M-Lockup and the invariant, step by step and for all
  histories (`rcstep_sim`, `rcrun_sim`).
-/
namespace DymVerif.Lockup
open DymVerif.Genesis

/-- the part of the invariant the EndBlocker's loop needs and keeps -/
structure LoopInv (rs : RState) : Prop where
  nodup : (rs.s.locks.map (·.id)).Nodup
  refs : RefsOk rs.s.locks rs.refs

theorem unlockMaturedR_step (B : Actor → Bool) {rs : RState} (w : LoopInv rs) (id : Nat) :
    (unlockMaturedR B rs id = none ∧
      (unlockMatured rs.s id = none ∨ ∃ l, findLock rs.s.locks id = some l ∧ B l.owner = true)) ∨
    (∃ rs' l, unlockMaturedR B rs id = some rs' ∧ unlockMatured rs.s id = some rs'.s ∧ LoopInv rs' ∧
      findLock rs.s.locks id = some l ∧ B l.owner = false ∧ rs'.s.locks = delLock rs.s.locks id ∧
      rs'.s.now = rs.s.now) := by
  unfold unlockMaturedR unlockMatured
  cases hf : findLock rs.s.locks id with
  | none => exact Or.inl ⟨rfl, Or.inl rfl⟩
  | some l =>
    obtain ⟨hl, hid⟩ := findLock_some hf
    dsimp only
    cases hu : l.isUnlocking with
    | false => exact Or.inl ⟨by simp, Or.inl (by simp)⟩
    | true =>
      cases hm : matured rs.s.now l with
      | false => exact Or.inl ⟨by simp, Or.inl (by simp)⟩
      | true =>
        cases hb : B l.owner with
        | true => exact Or.inl ⟨by simp, Or.inr ⟨l, rfl, hb⟩⟩
        | false =>
          cases hm2 : fromModule rs.s l.owner l.denom l.amount with
          | none => exact Or.inl ⟨by simp, Or.inl (by simp)⟩
          | some s1 =>
            obtain ⟨⟨hlk, _, _, hnow, _⟩, _⟩ := fromModule_some hm2
            right
            refine ⟨⟨removeLock s1 l, deleteLockRefs rs.refs (queueOf true) l⟩, l, by simp, by simp, ?_, rfl, hb, ?_, ?_⟩
            · constructor
              · simp only [removeLock, hlk]; exact delLock_nodup w.nodup _
              · simp only [removeLock, hlk]
                have := refsOk_remove w.refs w.nodup hl
                rwa [hu] at this
            · simp only [removeLock, hlk, hid]
            · simp only [removeLock, hnow]

/-- the loop of `unlockFromIterator` over distinct ids: it is M-Lockup's loop, and no withdrawn lock's owner is
    blocked — or it panics, and then M-Lockup's loop panics or one of the owners is blocked -/
theorem withdrawAllR_spec (B : Actor → Bool) : ∀ (ids : List Nat) (rs : RState), LoopInv rs → ids.Nodup →
    (∃ rs', withdrawAllR B ids rs = some rs' ∧ withdrawAll ids rs.s = some rs'.s ∧ LoopInv rs' ∧
        (∀ l ∈ rs'.s.locks, l ∈ rs.s.locks) ∧ ∀ id ∈ ids, ∀ l ∈ rs.s.locks, l.id = id → B l.owner = false) ∨
    (withdrawAllR B ids rs = none ∧
        (withdrawAll ids rs.s = none ∨ ∃ id ∈ ids, ∃ l ∈ rs.s.locks, l.id = id ∧ B l.owner = true))
  | [], rs, w, _ => Or.inl ⟨rs, rfl, rfl, w, fun _ h => h, fun _ h => nomatch h⟩
  | id :: ids, rs, w, hnd => by
    rw [List.nodup_cons] at hnd
    rcases unlockMaturedR_step B w id with ⟨h1, h2 | ⟨l, hf, hb⟩⟩ | ⟨rs', l, h1, h2, w', hf, hb, hlk, _⟩
    · exact Or.inr ⟨by simp [withdrawAllR, h1], Or.inl (by simp [withdrawAll, h2])⟩
    · exact Or.inr ⟨by simp [withdrawAllR, h1],
        Or.inr ⟨id, List.mem_cons_self, l, (findLock_some hf).1, (findLock_some hf).2, hb⟩⟩
    · obtain ⟨hl, hid⟩ := findLock_some hf
      -- the ids are distinct, so the locks of the later ids are still there
      have keep : ∀ i ∈ ids, ∀ x ∈ rs.s.locks, x.id = i → x ∈ rs'.s.locks := fun i hi x hx hxi =>
        hlk ▸ mem_delLock.2 ⟨hx, fun e => hnd.1 (e ▸ hxi ▸ hi)⟩
      have back : ∀ x ∈ rs'.s.locks, x ∈ rs.s.locks := fun x hx => (mem_delLock.1 (hlk ▸ hx)).1
      rcases withdrawAllR_spec B ids rs' w' hnd.2 with ⟨rs'', h3, h4, w'', hs, hB⟩ | ⟨h3, h4⟩
      · refine Or.inl ⟨rs'', by simp [withdrawAllR, h1, h3], by simp [withdrawAll, h2, h4], w'',
          fun x hx => back x (hs x hx), fun i hi x hx hxi => ?_⟩
        rcases List.mem_cons.1 hi with rfl | hi
        · rw [eq_of_id_eq w.nodup hx hl (hxi.trans hid.symm)]; exact hb
        · exact hB i hi x (keep i hi x hx hxi) hxi
      · refine Or.inr ⟨by simp [withdrawAllR, h1, h3], h4.imp (fun h => by simp [withdrawAll, h2, h]) ?_⟩
        rintro ⟨i, hi, x, hx, hxi, hbx⟩
        exact ⟨i, List.mem_cons_of_mem _ hi, x, back x hx, hxi, hbx⟩

theorem maturedWalk_filter {B : Actor → Bool} {rs : RState} (h : RInv B rs) :
    rs.s.locks.filter (fun l => (maturedWalk rs.refs rs.s.now).contains l.id) = rs.s.locks.filter (matured rs.s.now) :=
  List.filter_congr (fun l hl => matured_lookup h hl)

/-- **the EndBlocker of the reference-level machine is M-Lockup's** -/
theorem endBlockR_good {B : Actor → Bool} {rs : RState} (h : RInv B rs) :
    Good B (endBlockR B rs) (endBlock rs.s) := by
  unfold endBlockR endBlock
  by_cases hh : rs.s.height < minHeightAutoWithdraw
  · simp only [if_pos hh]; exact good_same h _
  simp only [if_neg hh]
  obtain ⟨ls, hls, _⟩ := walk_total h.refs h.inv.nodup (qBefore (queueOf true) fTime 0 0 rs.s.now)
  have hls' : getLocksFromIterator rs.s.locks (maturedWalk rs.refs rs.s.now) = some ls := hls
  simp only [hls', maturedWalk_filter h]
  rcases withdrawAllR_spec B _ rs ⟨h.inv.nodup, h.refs⟩ (maturedIds h.inv.nodup).1 with
    ⟨rs', h1, h2, w', hs, _⟩ | ⟨h1, h2 | ⟨_, _, l, hl, _, hb⟩⟩
  · simp only [h1, h2]
    exact ⟨rfl, rfl, w'.refs, fun l hl => h.owners l (hs l hl)⟩
  · simp only [h1, h2]; exact good_same h _
  · rw [h.owners l hl] at hb; cases hb

/-- the invariant without "no owner is blocked": what a hand-written genesis can violate -/
structure RInv0 (rs : RState) : Prop where
  inv : Inv rs.s
  sorted : IdSorted rs.s.locks
  refs : RefsOk rs.s.locks rs.refs

theorem RInv.toRInv0 {B : Actor → Bool} {rs : RState} (h : RInv B rs) : RInv0 rs := ⟨h.inv, h.sorted, h.refs⟩

/-! ### restart -/

theorem importRefs_spec : ∀ (ls : List Lock) (locks0 : List Lock) (refs0 : Refs), RefsOk locks0 refs0 →
    ((locks0 ++ ls).map (·.id)).Nodup →
    ∃ r', importRefs ls refs0 = some r' ∧ RefsOk (locks0 ++ ls) r'
  | [], locks0, refs0, h, _ => ⟨refs0, rfl, by simpa using h⟩
  | l :: ls, locks0, refs0, h, hnd => by
    have hnd' : (((locks0 ++ [l]) ++ ls).map (·.id)).Nodup := by simpa using hnd
    have hfresh : ∀ x ∈ locks0, x.id ≠ l.id := by
      intro x hx e
      rw [List.map_append, List.nodup_append] at hnd
      exact hnd.2.2 x.id (List.mem_map.2 ⟨x, hx, rfl⟩) l.id (by simp) e
    obtain ⟨r1, hr1, hok1⟩ := refsOk_create h hfresh
    obtain ⟨r', hr', hok'⟩ := importRefs_spec ls (locks0 ++ [l]) r1 hok1 hnd'
    exact ⟨r', by simp [importRefs, hr1, hr'], by simpa using hok'⟩

theorem refsOk_perm {l₁ l₂ : List Lock} {refs : Refs} (hp : l₁.Perm l₂) (h : RefsOk l₁ refs) : RefsOk l₂ refs := by
  refine ⟨h.sorted, fun e => ?_⟩
  rw [h.mem e, mem_refsOf, mem_refsOf]
  constructor
  · rintro ⟨l, hl, hr⟩; exact ⟨l, hp.mem_iff.1 hl, hr⟩
  · rintro ⟨l, hl, hr⟩; exact ⟨l, hp.mem_iff.2 hl, hr⟩

/-! ### the chain's life -/

def RCInv (B : Actor → Bool) (rc : RChain) : Prop := RInv B ⟨rc.c.s, rc.refs⟩

theorem RCInv.cinv {B : Actor → Bool} {rc : RChain} (h : RCInv B rc) : CInv rc.c := ⟨h.inv, h.sorted⟩

theorem rcinit_rcinv (B : Actor → Bool) (p : Params) (bal : Actor → Denom → Nat) (now height : Nat) :
    RCInv B (rcinit p bal now height) :=
  ⟨init_inv bal now height, idSorted_nil, refsOk_nil, fun _ h => by cases h⟩

/-- the signer of a message -/
def opSigner : Op → Option Actor
  | .lock a _ _ _ => some a
  | .unlock a _ _ => some a
  | .extend a _ _ => some a
  | .force a _ _ => some a
  | .beginBlock _ => none
  | .endBlock => none

/-- the messages signed by blocked recipients (module accounts) do not exist -/
def SignerOk (B : Actor → Bool) : COp → Prop
  | .msg op => ∀ a, opSigner op = some a → B a = false
  | _ => True

theorem rstep_good {B : Actor → Bool} {rs : RState} (h : RInv B rs) (p : Params) (op : Op)
    (hs : ∀ a, opSigner op = some a → B a = false) : Good B (rstep B p rs op) (step p rs.s op) := by
  cases op with
  | lock a d amt dur => exact lockTokensR_good h p a d amt dur (hs a rfl)
  | unlock a id c => exact beginUnlockingR_good h a id c
  | extend a id dur => exact extendLockupR_good h a id dur
  | force a id c => exact forceUnlockR_good h p a id c
  | beginBlock dt => exact ⟨rfl, rfl, h.refs, h.owners⟩
  | endBlock => exact endBlockR_good h

/-- **a restart rebuilds the reference store exactly** (no clash, no dangling reference), and is
    M-Lockup's restart on everything else -/
theorem restartR_good {B : Actor → Bool} {rc : RChain} (h : RCInv B rc) :
    (restartR rc).1.c = restart rc.c ∧ (restartR rc).2 = .out (.ok 0) ∧ RCInv B (restartR rc).1 := by
  -- the export walk (`GetPeriodLocks`) cannot panic
  obtain ⟨us, hu, _⟩ := walk_total h.refs h.inv.nodup (qAll (queueOf true) fDur 0 0)
  obtain ⟨ns, hns, _⟩ := walk_total h.refs h.inv.nodup (qAll (queueOf false) fDur 0 0)
  have hperm := periodLocks_perm rc.c.s.locks
  have hnd : ((([] : List Lock) ++ periodLocks rc.c.s.locks).map (·.id)).Nodup := by
    simp only [List.nil_append]
    exact (hperm.map (fun l : Lock => l.id)).nodup_iff.2 h.inv.nodup
  obtain ⟨r', hr', hok⟩ := importRefs_spec (periodLocks rc.c.s.locks) [] [] refsOk_nil hnd
  have hfr := restart_frame h.cinv
  have hci := restart_cinv h.cinv
  unfold restartR periodLocksR
  simp only [hu, hns, exportGenesis, hr']
  refine ⟨trivial, trivial, hci.inv, hci.sorted, ?_, ?_⟩
  · show RefsOk (restart rc.c).s.locks r'
    rw [hfr.1]
    exact refsOk_perm hperm (by simpa using hok)
  · show ∀ l ∈ (restart rc.c).s.locks, B l.owner = false
    rw [hfr.1]; exact h.owners

/-- **one step of the reference-level chain is one step of M-Lockup's chain**, and keeps the invariant -/
theorem rcstep_sim {B : Actor → Bool} {rc : RChain} (h : RCInv B rc) (op : COp) (hs : SignerOk B op) :
    (rcstep B rc op).1.c = (cstep rc.c op).1 ∧ (rcstep B rc op).2 = .out (cstep rc.c op).2 ∧
    RCInv B (rcstep B rc op).1 := by
  cases op with
  | msg op =>
    have g := rstep_good h rc.c.p op hs
    refine ⟨?_, g.out, ?_⟩
    · simp only [rcstep, cstep]; rw [g.state]
    · have hinv : Inv (rstep B rc.c.p ⟨rc.c.s, rc.refs⟩ op).1.s := by rw [g.state]; exact step_inv _ h.inv op
      have hsrt : IdSorted (rstep B rc.c.p ⟨rc.c.s, rc.refs⟩ op).1.s.locks := by
        rw [g.state]; exact step_idSorted _ h.inv h.sorted op
      exact ⟨hinv, hsrt, g.refs, g.owners⟩
  | restart => exact restartR_good h
  | setParams m f al => exact ⟨rfl, rfl, h⟩

theorem rcrun_sim {B : Actor → Bool} : ∀ (ops : List COp) {rc : RChain}, RCInv B rc → (∀ op ∈ ops, SignerOk B op) →
    (rcrun B rc ops).c = crun rc.c ops ∧ RCInv B (rcrun B rc ops)
  | [], _, h, _ => ⟨rfl, h⟩
  | op :: ops, rc, h, hs => by
    obtain ⟨h1, _, h3⟩ := rcstep_sim h op (hs op List.mem_cons_self)
    obtain ⟨h4, h5⟩ := rcrun_sim ops h3 (fun o ho => hs o (List.mem_cons_of_mem _ ho))
    exact ⟨by simp only [rcrun, crun]; rw [h4, h1], h5⟩

end DymVerif.Lockup
