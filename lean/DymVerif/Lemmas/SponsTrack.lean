/-
  Lemmas/SponsTrack — recorded voting power versus the staking table: `Track`, the minimum-power
  invariant, and their preservation by vote / revoke / staking hooks with faithful facts.
-/
import DymVerif.Lemmas.SponsDist
namespace DymVerif.Spons

abbrev PTable := List ((Nat × Nat) × Int)

/-- power of delegation (a, val) in a table, 0 when absent -/
def pOf (t : PTable) (a val : Nat) : Int := (alookup (a, val) t).getD 0

/-- total power of delegator `a` in a table (`GetValidatorBreakdown().TotalPower` on the staking table) -/
def powerOf (t : PTable) (a : Nat) : Int := sumP (t.filter (fun x => x.1.1 = a))

theorem powerOf_cons (x : (Nat × Nat) × Int) (t : PTable) (a : Nat) :
    powerOf (x :: t) a = (if x.1.1 = a then x.2 else 0) + powerOf t a := by
  unfold powerOf
  by_cases h : x.1.1 = a
  · simp [h, sumP]
  · simp [h]

theorem powerOf_aerase_other {t : PTable} {k : Nat × Nat} {a : Nat} (h : k.1 ≠ a) :
    powerOf (aerase k t) a = powerOf t a := by
  induction t with
  | nil => rfl
  | cons x xs ih =>
    by_cases hx : x.1 = k
    · rw [aerase_cons_eq xs hx, ih, powerOf_cons, if_neg (hx ▸ h), Int.zero_add]
    · rw [aerase_cons_ne xs hx, powerOf_cons, powerOf_cons, ih]

theorem powerOf_aerase_self {t : PTable} {a val : Nat} (hk : KeysNodup t) :
    powerOf (aerase (a, val) t) a = powerOf t a - pOf t a val := by
  induction t with
  | nil => rfl
  | cons x xs ih =>
    by_cases hx : x.1 = (a, val)
    · rw [aerase_cons_eq xs hx, aerase_of_notin (fun y hy => hx ▸ hk.1 y hy), powerOf_cons,
        if_pos (congrArg Prod.fst hx), pOf, alookup_cons_eq xs hx]
      show powerOf xs a = x.2 + powerOf xs a - x.2
      rw [Int.add_comm, Int.add_sub_cancel]
    · rw [aerase_cons_ne xs hx, powerOf_cons, powerOf_cons, ih hk.2, pOf, pOf, alookup_cons_ne xs hx]; omega

theorem pOf_upd_self (t : PTable) (k : Nat × Nat) (p : Option Int) : pOf (upd t k p) k.1 k.2 = p.getD 0 := by
  cases p with
  | none => simp [upd, pOf, alookup_aerase_self]
  | some p => simp [upd, pOf, alookup_aset_self]

theorem pOf_upd_ne (t : PTable) {k : Nat × Nat} (p : Option Int) {a val : Nat} (h : (a, val) ≠ k) :
    pOf (upd t k p) a val = pOf t a val := by
  cases p with
  | none => simp [upd, pOf, alookup_aerase_ne h]
  | some p => simp [upd, pOf, alookup_aset_ne h]

theorem powerOf_upd_other (t : PTable) {k : Nat × Nat} (p : Option Int) {a : Nat} (h : k.1 ≠ a) :
    powerOf (upd t k p) a = powerOf t a := by
  cases p with
  | none => exact powerOf_aerase_other h
  | some p =>
    show powerOf ((k, p) :: aerase k t) a = _
    rw [powerOf_cons, powerOf_aerase_other h]; simp [h]

theorem powerOf_upd_self {t : PTable} (hk : KeysNodup t) (a val : Nat) (p : Option Int) :
    powerOf (upd t (a, val) p) a = powerOf t a - pOf t a val + p.getD 0 := by
  cases p with
  | none => simp [upd, powerOf_aerase_self hk]
  | some p =>
    show powerOf (((a, val), p) :: aerase (a, val) t) a = _
    rw [powerOf_cons, powerOf_aerase_self hk]; simp; omega

theorem KeysNodup_upd {t : PTable} (hk : KeysNodup t) (k : Nat × Nat) (p : Option Int) : KeysNodup (upd t k p) := by
  cases p with
  | none => exact KeysNodup_aerase k hk
  | some p => exact KeysNodup_aset k p hk

/-! ### saveAll -/

theorem alookup_saveAll {b d : PTable} (hb : KeysNodup b) (k : Nat × Nat) :
    alookup k (saveAll b d) = (alookup k b).orElse (fun _ => alookup k d) := by
  induction b generalizing d with
  | nil => simp [saveAll, alookup]
  | cons x xs ih =>
    show alookup k (saveAll xs (aset x.1 x.2 d)) = _
    rw [ih hb.2]
    by_cases hx : x.1 = k
    · have hnone : alookup k xs = none := by
        cases h : alookup k xs with
        | none => rfl
        | some v => have := hb.1 _ (alookup_mem h); rw [hx] at this; simp at this
      subst hx
      simp [hnone, alookup, alookup_aset_self]
    · have : k ≠ x.1 := fun e => hx e.symm
      simp [alookup, hx, alookup_aset_ne this]

theorem alookup_filter_fst {t : PTable} (a val : Nat) :
    alookup (a, val) (t.filter (fun x => x.1.1 = a)) = alookup (a, val) t :=
  alookup_filter_pos (fun _ => decide_eq_true rfl) t

theorem alookup_filter_ne_fst {t : PTable} {a a' : Nat} (h : a' ≠ a) (val : Nat) :
    alookup (a', val) (t.filter (fun x => x.1.1 ≠ a)) = alookup (a', val) t :=
  alookup_filter_pos (fun _ => decide_eq_true h) t

theorem alookup_filter_eq_none {t : PTable} (a val : Nat) :
    alookup (a, val) (t.filter (fun x => x.1.1 ≠ a)) = none :=
  alookup_filter_neg (fun _ => decide_eq_false (fun h => h rfl)) t

theorem alookup_filter_fst_other {t : PTable} {a a' : Nat} (h : a' ≠ a) (val : Nat) :
    alookup (a', val) (t.filter (fun x => x.1.1 = a)) = none :=
  alookup_filter_neg (fun _ => decide_eq_false h) t

/-! ### Track -/

/-- recorded power = staking power (table `T`), for every voter -/
def Track (s : State) (T : PTable) : Prop :=
  ∀ a v, alookup a s.votes = some v → (∀ val, pOf s.dvp a val = pOf T a val) ∧ v.vp = powerOf T a

/-- every vote's recorded power is at least the minimum -/
def MinInv (s : State) : Prop := ∀ a v, alookup a s.votes = some v → s.minVP ≤ v.vp

theorem revokeVote_dvp (s : State) (a : Nat) (v : Vote) :
    (s.revokeVote a v).dvp = s.dvp.filter (fun x => x.1.1 ≠ a) := rfl

theorem revokeVote_track {s : State} {T : PTable} {a : Nat} {v : Vote} (h : Track s T) :
    Track (s.revokeVote a v) T := by
  intro a' v' hv'
  rw [revokeVote_votes] at hv'
  by_cases ha : a' = a
  · subst ha; rw [alookup_aerase_self] at hv'; cases hv'
  · rw [alookup_aerase_ne ha] at hv'
    have := h a' v' hv'
    refine ⟨fun val => ?_, this.2⟩
    rw [← this.1 val, revokeVote_dvp]
    simp only [pOf, alookup_filter_ne_fst ha]

theorem Drop.minInv {s s' : State} {a : Nat} {v : Vote} (h : Drop s s' a v) (m : MinInv s) : MinInv s' := by
  intro a' v'; rw [h.votes, h.minVP]
  exact forall_aerase (P := fun (_ : Nat) (v' : Vote) => s.minVP ≤ v'.vp) (fun a' v' _ hv' => m a' v' hv') a' v'

theorem Put.minInv {s s' : State} {a : Nat} {nv : Vote} (h : Put s s' a nv) (m : MinInv s) : MinInv s' := by
  intro a' v'; rw [h.votes, h.minVP]
  exact forall_aset (P := fun (_ : Nat) (v' : Vote) => s.minVP ≤ v'.vp) h.low (fun a' v' _ hv' => m a' v' hv') a' v'

/-- casting a vote records the voter's rows of the staking table and leaves the other records alone -/
theorem castVote_dvp_self {s1 : State} {a : Nat} (hk : KeysNodup s1.stk) (hnone : ∀ val, alookup (a, val) s1.dvp = none)
    (val : Nat) : alookup (a, val) (saveAll (s1.breakdown a) s1.dvp) = alookup (a, val) s1.stk := by
  unfold State.breakdown
  rw [alookup_saveAll (KeysNodup_filter _ hk), hnone]
  show (alookup (a, val) (s1.stk.filter fun x => x.1.1 = a)).orElse (fun _ => none) = _
  rw [alookup_filter_fst]; cases alookup (a, val) s1.stk <;> rfl

theorem castVote_dvp_ne {s1 : State} {a a' : Nat} (hk : KeysNodup s1.stk) (h : a' ≠ a) (val : Nat) :
    alookup (a', val) (saveAll (s1.breakdown a) s1.dvp) = alookup (a', val) s1.dvp := by
  unfold State.breakdown
  rw [alookup_saveAll (KeysNodup_filter _ hk)]
  show (alookup (a', val) (s1.stk.filter fun x => x.1.1 = a)).orElse _ = _
  rw [alookup_filter_fst_other h]; rfl

/-- a state in which delegators without a vote have no recorded power either -/
def DvpClean (s : State) : Prop := ∀ a val, alookup a s.votes = none → alookup (a, val) s.dvp = none

theorem revokeVote_clean {s : State} {a : Nat} {v : Vote} (h : DvpClean s) : DvpClean (s.revokeVote a v) := by
  intro a' val hv'
  rw [revokeVote_votes] at hv'
  rw [revokeVote_dvp]
  by_cases ha : a' = a
  · subst ha; exact alookup_filter_eq_none _ _
  · rw [alookup_aerase_ne ha] at hv'
    rw [alookup_filter_ne_fst ha]; exact h a' val hv'

structure Tracked (s : State) : Prop where
  keys : KeysNodup s.stk
  track : Track s s.stk
  clean : DvpClean s

theorem revokeVote_tracked {s : State} {a : Nat} {v : Vote} (ht : Tracked s) : Tracked (s.revokeVote a v) :=
  ⟨ht.keys, revokeVote_track ht.track, revokeVote_clean ht.clean⟩

/-- a first vote of `a` records exactly `a`'s rows of the staking table -/
theorem castVote_tracked {s1 s' : State} {a : Nat} {ws : List GP} (ht : Tracked s1)
    (hv : alookup a s1.votes = none) (hc : s1.castVote a ws = .ok s') : Tracked s' := by
  obtain ⟨_, rfl⟩ := castVote_ok hc
  refine ⟨ht.keys, forall_aset (P := fun a' (v' : Vote) =>
      (∀ val, pOf (saveAll (s1.breakdown a) s1.dvp) a' val = pOf s1.stk a' val) ∧ v'.vp = powerOf s1.stk a')
    ?_ (fun a' v' ha hv' => ?_), fun a' val hv' => ?_⟩
  · exact ⟨fun val => congrArg (·.getD 0) (castVote_dvp_self ht.keys (fun val => ht.clean a val hv) val), rfl⟩
  · have := ht.track a' v' hv'
    exact ⟨fun val => (congrArg (·.getD 0) (castVote_dvp_ne ht.keys ha val)).trans (this.1 val), this.2⟩
  · obtain ⟨ha, hv'⟩ := alookup_aset_none (show alookup a' (aset a _ s1.votes) = none from hv')
    exact (castVote_dvp_ne ht.keys ha val).trans (ht.clean a' val hv')

/-! ### hook -/

theorem alookup_hookDvp_ne {t : PTable} {k k' : Nat × Nat} (h : k' ≠ k) (n : Int) :
    alookup k' (if n = 0 then aerase k t else aset k n t) = alookup k' t := by
  split
  · exact alookup_aerase_ne h t
  · exact alookup_aset_ne h n t

theorem pOf_hookDvp_self (t : PTable) (a val : Nat) (n : Int) :
    pOf (if n = 0 then aerase (a, val) t else aset (a, val) n t) a val = n := by
  unfold pOf; split
  · rename_i h; rw [alookup_aerase_self, h]; rfl
  · rw [alookup_aset_self]; rfl

theorem processHook_track {s : State} {T : PTable} {a val : Nat} {v : Vote} {new : Option Int}
    (hk : KeysNodup T) (h : Track s T) (hc : DvpClean s) (hv : alookup a s.votes = some v) :
    let s' := s.processHook a val v (pOf s.dvp a val) (new.getD 0)
    Track s' (upd T (a, val) new) ∧ DvpClean s' := by
  -- the other voters' rows of the table stay as they are
  have hT : ∀ a', a' ≠ a → ∀ val', pOf (upd T (a, val) new) a' val' = pOf T a' val' :=
    fun a' ha val' => pOf_upd_ne T new (fun e => ha (congrArg Prod.fst e))
  have hP : ∀ a', a' ≠ a → powerOf (upd T (a, val) new) a' = powerOf T a' :=
    fun a' ha => powerOf_upd_other T new (fun e => ha e.symm)
  show Track (s.processHook a val v (pOf s.dvp a val) (new.getD 0)) _ ∧
    DvpClean (s.processHook a val v (pOf s.dvp a val) (new.getD 0))
  rcases processHook_eq s a val v (pOf s.dvp a val) (new.getD 0) with ⟨_, e⟩ | ⟨_, e⟩ <;> rw [e]
  · refine ⟨fun a' v' hv' => ?_, revokeVote_clean hc⟩
    have ha : a' ≠ a := fun e => by
      subst e; rw [revokeVote_votes, alookup_aerase_self] at hv'; cases hv'
    have := revokeVote_track (a := a) (v := v) h a' v' hv'
    exact ⟨fun val' => (this.1 val').trans (hT a' ha val').symm, this.2.trans (hP a' ha).symm⟩
  · refine ⟨forall_aset (P := fun a' (v' : Vote) =>
        (∀ val', pOf (if new.getD 0 = 0 then aerase (a, val) s.dvp else aset (a, val) (new.getD 0) s.dvp) a' val'
          = pOf (upd T (a, val) new) a' val') ∧ v'.vp = powerOf (upd T (a, val) new) a')
      ⟨fun val' => ?_, ?_⟩ (fun a' v' ha hv' => ?_), fun a' val' hv' => ?_⟩
    · by_cases hval : val' = val
      · subst hval; rw [pOf_hookDvp_self, pOf_upd_self]
      · have hne : (a, val') ≠ (a, val) := fun e => hval (congrArg Prod.snd e)
        rw [pOf_upd_ne T new hne, ← (h a v hv).1 val']
        exact congrArg (·.getD 0) (alookup_hookDvp_ne hne _)
    · show v.vp + (new.getD 0 - pOf s.dvp a val) = _
      rw [powerOf_upd_self hk, (h a v hv).1 val, (h a v hv).2]; omega
    · have ht := h a' v' hv'
      exact ⟨fun val' => ((congrArg (·.getD 0) (alookup_hookDvp_ne (fun e => ha (congrArg Prod.fst e)) _)).trans
        (ht.1 val')).trans (hT a' ha val').symm, ht.2.trans (hP a' ha).symm⟩
    · obtain ⟨ha, hv'⟩ := alookup_aset_none (show alookup a' (aset a _ s.votes) = none from hv')
      show alookup (a', val') (if new.getD 0 = 0 then aerase (a, val) s.dvp else aset (a, val) (new.getD 0) s.dvp) = none
      rw [alookup_hookDvp_ne (fun e => ha (congrArg Prod.fst e))]; exact hc a' val' hv'

end DymVerif.Spons
