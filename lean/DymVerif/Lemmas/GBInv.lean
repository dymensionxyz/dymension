/-
  Lemmas/GBInv — the per-rollapp invariant of M-GB and its preservation by every op.
-/
import DymVerif.Lemmas.GBStep
namespace DymVerif.GB

/-- A-proofheight: accepted packets carry a proof height ≥ 1 -/
def PhOk : Op → Prop
  | .recv _ ph _ => 0 < ph
  | _ => True

structure RaInv (ra : Ra) : Prop where
  wf : ra.gi.vb = none
  sealedI : (ra.launched = true ∨ ra.plan.isSome = true) → ra.gi.sealed = true
  -- while the bridge is closed nothing is credited; metadata of the rollapp's IBC denom can exist only by a
  -- registration outside the handshake (`premd`), which needs a recorded canonical channel
  closed : ra.tph = 0 → ra.bal = [] ∧ (ra.md = true → ra.chan.isSome = true) ∧ ra.nOpen = 0 ∧ ∀ a st, ra.plan = some (a, st) → st = false
  opened : ra.tph ≠ 0 → ra.nOpen = 1
  -- only a hard fork freezes the canonical client, and `ForkAllowed` wants transfers enabled
  frz : ra.frozen = true → ra.tph ≠ 0

theorem newRa_inv (r : Nat) (g : GInfo) (hg : g.vb = none) : RaInv (newRa r g) :=
  ⟨hg, by simp [newRa], by simp [newRa], by simp [newRa], by simp [newRa]⟩

theorem handshake_inv {ra : Ra} (ph : Nat) (p : Pkt) (hra : RaInv ra) (ht0 : ra.tph = 0) (hph : 0 < ph) :
    RaInv (handshake ra ph p).1 := by
  rcases handshake_cases ra ph p with ⟨_, h⟩ | ⟨d, bal', _, _, _, _, _, h⟩ <;> rw [h]
  · exact hra
  · have hn := (hra.closed ht0).2.2.1
    refine ⟨hra.wf, fun hc => hra.sealedI (hc.imp_right ?_), fun hc => ?_, fun _ => ?_, fun _ => Nat.pos_iff_ne_zero.1 hph⟩
    · show (ra.plan.map _).isSome = true → _
      rw [Option.isSome_map]; exact id
    · exact absurd hc (Nat.pos_iff_ne_zero.1 hph)
    · show ra.nOpen + 1 = 1
      rw [hn]

theorem Writes.inv {s : St} {ra x : Ra} {op : Op} (hw : Writes s ra op x) (hp : PhOk op) (hra : RaInv ra) : RaInv x := by
  cases hw with
  | setgi g hs hv =>
    -- an unsealed genesis info belongs to a rollapp that is neither launched nor has a plan
    have hnl : ¬ (ra.launched = true ∨ ra.plan.isSome = true) := fun hc => by
      have := hra.sealedI hc; rw [hs] at this; cases this
    exact ⟨hv, fun hc => absurd hc hnl, hra.closed, hra.opened, hra.frz⟩
  | force g hv => exact ⟨hv, fun _ => rfl, hra.closed, hra.opened, hra.frz⟩
  | plan alloc dur te start =>
    exact ⟨hra.wf, fun _ => rfl, fun ht => ⟨(hra.closed ht).1, (hra.closed ht).2.1, (hra.closed ht).2.2.1,
      fun _ _ he => by cases he; rfl⟩, hra.opened, hra.frz⟩
  | seq => exact ⟨hra.wf, fun _ => rfl, hra.closed, hra.opened, hra.frz⟩
  | link | chopen => exact ⟨hra.wf, hra.sealedI, fun ht => ⟨(hra.closed ht).1, fun _ => rfl, (hra.closed ht).2.2⟩, hra.opened, hra.frz⟩
  | premd hc => exact ⟨hra.wf, hra.sealedI, fun ht => ⟨(hra.closed ht).1, fun _ => hc, (hra.closed ht).2.2⟩, hra.opened, hra.frz⟩
  | enable | canon => exact ⟨hra.wf, hra.sealedI, hra.closed, hra.opened, hra.frz⟩
  | update => exact ⟨hra.wf, hra.sealedI, hra.closed, hra.opened, fun h => by cases h⟩
  -- only an open bridge is forked
  | fork h _ ht => exact ⟨hra.wf, hra.sealedI, hra.closed, hra.opened, fun _ => Nat.pos_iff_ne_zero.1 ht⟩
  | recv c c' ph p _ ht0 => exact handshake_inv ph p hra ht0 hp

theorem step_inv (s : St) (op : Op) (h : AllRa RaInv s) (hp : PhOk op) : AllRa RaInv (step s op).1 := by
  rcases (step_shape s op).ras with e | ⟨r, g, hv, e⟩ | ⟨ra, x, hg, hw, _, e⟩
  · exact h.of_ras e
  · exact h.append (newRa_inv r g hv) _ e
  · exact (h.setRa (hw.inv hp (h.get hg))).of_ras e

def AllPhOk (ops : List Op) : Prop := ∀ op ∈ ops, PhOk op

theorem init_inv : AllRa RaInv init := by
  intro ra hra
  simp [init] at hra

theorem run_inv_from (s : St) (ops : List Op) (h : AllRa RaInv s) (hp : AllPhOk ops) : AllRa RaInv (run s ops) :=
  run_induction ops h fun s op ho hs => step_inv s op hs (hp op ho)

theorem run_inv (ops : List Op) (hp : AllPhOk ops) : AllRa RaInv (run init ops) :=
  run_inv_from init ops init_inv hp

end DymVerif.GB
