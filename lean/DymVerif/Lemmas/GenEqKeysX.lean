/-
  Lemmas/GenEqKeysX — the regenerated translations of the x/rollapp key builders equal the model
  (`Model/KeysX`), the chain-id grammar constants and the scanned prefixes are the ones the model was
  written against, the string prefixes of the x/rollapp store are pairwise prefix-free, and the
  statement listings of the scans are pinned.
-/
import DymVerif.Gen.Keys
import DymVerif.Model.KeysX
import DymVerif.Lemmas.Bytes
namespace DymVerif.GenEq
open DymVerif DymVerif.Keys

theorem rollappKey_eq : Gen.Keys.rollappKey = rollappKey := by
  funext r; simp [Gen.Keys.rollappKey, rollappKey, sep]
theorem latestStateInfoIndexKey_eq : Gen.Keys.latestStateInfoIndexKey = latestStateInfoIndexKey := by
  funext r; simp [Gen.Keys.latestStateInfoIndexKey, latestStateInfoIndexKey, sep]
theorem latestFinalizedStateIndexKey_eq : Gen.Keys.latestFinalizedStateIndexKey = latestFinalizedStateIndexKey := by
  funext r; simp [Gen.Keys.latestFinalizedStateIndexKey, latestFinalizedStateIndexKey, sep]
theorem blockHeightToFinalizationQueueKey_eq : Gen.Keys.blockHeightToFinalizationQueueKey = blockHeightToFinalizationQueueKey := by
  funext h; simp [Gen.Keys.blockHeightToFinalizationQueueKey, blockHeightToFinalizationQueueKey, sep]
theorem rollappByEIP155Key_eq : Gen.Keys.rollappByEIP155Key = rollappByEIP155Key := by
  funext h; simp [Gen.Keys.rollappByEIP155Key, rollappByEIP155Key, sep]
theorem rollappAppKeyPrefix_eq : Gen.Keys.rollappAppKeyPrefix = rollappAppKeyPrefix := by
  funext r; simp [Gen.Keys.rollappAppKeyPrefix, rollappAppKeyPrefix, sep]
theorem stateInfoKey_eq : Gen.Keys.stateInfoKey = stateInfoKey := by
  funext r i; simp [Gen.Keys.stateInfoKey, stateInfoKey, sep]
theorem appKey_eq : Gen.Keys.appKey = appKey := by
  funext r i; simp [Gen.Keys.appKey, appKey, sep]

/-- the demand-order status prefixes scanned by `ListDemandOrdersByStatus` -/
theorem demandOrderStatusPrefixes_eq :
    Gen.Keys.pendingDemandOrderKeyPrefix = demandOrdersByStatusPrefix .pending ∧
    Gen.Keys.finalizedDemandOrderKeyPrefix = demandOrdersByStatusPrefix .finalized := ⟨rfl, rfl⟩

/-- `LivenessEventQueueKeyPrefix` is the literal `Keys.livenessIterHeightKey` starts with -/
theorem livenessEventQueueKeyPrefix_eq (h : Nat) :
    livenessIterHeightKey h = Gen.Keys.livenessEventQueueKeyPrefix ++ [sep] ++ be64 h := rfl

/-- the grammar `Keys.validRollappId` was written against: `^([a-z]{1,})_{1}([1-9][0-9]*)-{1}([1-9][0-9]*)$` -/
theorem chainIdRegex_pin :
    Gen.Keys.regexChainID = [91, 97, 45, 122, 93, 123, 49, 44, 125] /- "[a-z]{1,}" -/ ∧
    Gen.Keys.regexEIP155Separator = [95, 123, 49, 125] /- "_{1}" -/ ∧
    Gen.Keys.regexEIP155 = [91, 49, 45, 57, 93, 91, 48, 45, 57, 93, 42] /- "[1-9][0-9]*" -/ ∧
    Gen.Keys.regexEpochSeparator = [45, 123, 49, 125] /- "-{1}" -/ ∧
    Gen.Keys.regexEpoch = [91, 49, 45, 57, 93, 91, 48, 45, 57, 93, 42] /- "[1-9][0-9]*" -/ := ⟨rfl, rfl, rfl, rfl, rfl⟩

/-- the string prefixes under which the x/rollapp module files its key families -/
def rollappStorePrefixes : List Bytes :=
  [Gen.Keys.rollappKeyPrefix, Gen.Keys.rollappByEIP155KeyPrefix, Gen.Keys.stateInfoKeyPrefix,
   Gen.Keys.latestStateInfoIndexKeyPrefix, Gen.Keys.latestFinalizedStateIndexKeyPrefix,
   Gen.Keys.blockHeightToFinalizationQueueKeyPrefix, Gen.Keys.heightRollappToFinalizationQueueKeyPrefix,
   Gen.Keys.rollappHeightToFinalizationQueueKeyPrefix, Gen.Keys.appKeyPrefix, Gen.Keys.appSequenceKeyPrefix,
   Gen.Keys.obsoleteDRSVersionsKeyPrefix, Gen.Keys.keyRegisteredDenomPrefix,
   Gen.Keys.livenessEventQueueKeyPrefix ++ [sep], Gen.Keys.collSeqToUnfinalizedHeightPrefix]

/-- family disjointness of the x/rollapp store: no family prefix is a byte prefix of another, so a
    scan of one family (whatever follows the prefix) never returns a key of another family -/
theorem rollapp_store_prefixes_prefix_free :
    ∀ i, i < rollappStorePrefixes.length → ∀ j, j < rollappStorePrefixes.length → i ≠ j →
      isPrefix (rollappStorePrefixes.getD i []) (rollappStorePrefixes.getD j []) = false := by decide +kernel

theorem newChainID_pin : Gen.Keys.newChainIDListing =
  ["func NewChainID(id string) (ChainID, error)",
   "  chainID := strings.TrimSpace(id)",
   "  if chainID == \"\"",
   "    return ChainID{}, ErrInvalidRollappID",
   "  if len(chainID) > types.MaxChainIDLen",
   "    return ChainID{}, ErrInvalidRollappID",
   "  matches := ethermintChainID.FindStringSubmatch(chainID)",
   "  if matches == nil || len(matches) != 4 || matches[1] == \"\"",
   "    return ChainID{}, ErrInvalidRollappID",
   "  chainIDInt, ok := new(big.Int).SetString(matches[2], 10)",
   "  if !ok",
   "    return ChainID{}, ErrInvalidRollappID",
   "  revision, err := strconv.ParseUint(matches[3], 0, 64)",
   "  if err != nil",
   "    return ChainID{}, ErrInvalidRollappID",
   "  return ChainID{chainID: chainID, eip155ID: chainIDInt, revision: revision, name: matches[1]}, nil"] := rfl

theorem getRollappByName_pin : Gen.Keys.getRollappByNameListing =
  ["func (k Keeper) GetRollappByName(ctx sdk.Context, name string) (val types.Rollapp, found bool)",
   "  name = name + \"_\"",
   "  store := prefix.NewStore(ctx.KVStore(k.storeKey), types.KeyPrefix(types.RollappKeyPrefix))",
   "  iterator := storetypes.KVStorePrefixIterator(store, []byte(name))",
   "  defer iterator.Close()",
   "  if !iterator.Valid()",
   "    return val, false",
   "  k.cdc.MustUnmarshal(iterator.Value(), &val)",
   "  return val, true"] := rfl

theorem getLivenessEvents_pin : Gen.Keys.getLivenessEventsListing =
  ["func (k Keeper) GetLivenessEvents(ctx sdk.Context, height *int64) []types.LivenessEvent",
   "  store := ctx.KVStore(k.storeKey)",
   "  key := types.LivenessEventQueueKeyPrefix",
   "  if height != nil",
   "    key = types.LivenessEventQueueIterHeightKey(*height)",
   "  iterator := storetypes.KVStorePrefixIterator(store, key)",
   "  defer iterator.Close()",
   "  ret := []types.LivenessEvent{}",
   "  for ; iterator.Valid(); iterator.Next()",
   "    e := types.LivenessEventQueueKeyToEvent(iterator.Key())",
   "    if height != nil && *height < e.HubHeight",
   "      break",
   "    ret = append(ret, e)",
   "  return ret"] := rfl

theorem listDemandOrdersByStatus_pin : Gen.Keys.listDemandOrdersByStatusListing =
  ["func (k Keeper) ListDemandOrdersByStatus(ctx sdk.Context, status commontypes.Status, limit int, opts ...filterOption) (list []*types.DemandOrder, err error)",
   "  store := ctx.KVStore(k.storeKey)",
   "  var statusPrefix []byte",
   "  switch status",
   "    case commontypes.Status_PENDING",
   "      statusPrefix = types.PendingDemandOrderKeyPrefix",
   "    case commontypes.Status_FINALIZED",
   "      statusPrefix = types.FinalizedDemandOrderKeyPrefix",
   "    default",
   "      return nil, fmt.Errorf(status)",
   "  iterator := storetypes.KVStorePrefixIterator(store, statusPrefix)",
   "  defer iterator.Close()",
   "  outer:",
   "  for ; iterator.Valid(); iterator.Next()",
   "    if limit > 0 && len(list) >= limit",
   "      break",
   "    var val types.DemandOrder",
   "    k.cdc.MustUnmarshal(iterator.Value(), &val)",
   "    for _, opt := range opts",
   "      if !opt(val)",
   "        continue outer",
   "    list = append(list, &val)",
   "  return list, nil"] := rfl

theorem rollappSequencers_pin : Gen.Keys.rollappSequencersListing =
  ["func (k Keeper) RollappSequencers(ctx sdk.Context, rollappId string) []types.Sequencer",
   "  return k.prefixSequencers(ctx, types.SequencersByRollappKey(rollappId))"] := rfl

theorem rollappSequencersByStatus_pin : Gen.Keys.rollappSequencersByStatusListing =
  ["func (k Keeper) RollappSequencersByStatus(ctx sdk.Context, rollappId string, status types.OperatingStatus) []types.Sequencer",
   "  return k.prefixSequencers(ctx, types.SequencersByRollappByStatusKey(rollappId, status))"] := rfl

theorem prefixSequencers_pin : Gen.Keys.prefixSequencersListing =
  ["func (k Keeper) prefixSequencers(ctx sdk.Context, prefixKey []byte) []types.Sequencer",
   "  store := prefix.NewStore(ctx.KVStore(k.storeKey), prefixKey)",
   "  it := storetypes.KVStorePrefixIterator(store, []byte{})",
   "  defer it.Close()",
   "  var ret []types.Sequencer",
   "  for ; it.Valid(); it.Next()",
   "    var val types.Sequencer",
   "    k.cdc.MustUnmarshal(it.Value(), &val)",
   "    ret = append(ret, val)",
   "  return ret"] := rfl

end DymVerif.GenEq
