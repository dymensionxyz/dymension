/-
  Lemmas/CoreRoles5 — the roles invariant is kept by every operation and holds in every run: the message handlers
  (money movements, rotation and state updates, bonds, kick, obsolete versions), block processing, all operations.
-/
import DymVerif.Lemmas.CoreRolesWrites
namespace DymVerif.Core.Roles

-- ---------------------------------------------------------------- money movements change nothing role-relevant

/-- rollapps, sequencers, notice queue, time and parameters agree -/
structure Same (s s' : St) : Prop where
  ras : s'.ras = s.ras
  seqs : s'.seqs = s.seqs
  nq : s'.nq = s.nq
  t : s'.t = s.t
  p : pp s' = pp s

theorem Same.refl (s : St) : Same s s := ⟨rfl, rfl, rfl, rfl, rfl⟩
theorem Same.trans {s1 s2 s3 : St} (h1 : Same s1 s2) (h2 : Same s2 s3) : Same s1 s3 :=
  ⟨h2.ras.trans h1.ras, h2.seqs.trans h1.seqs, h2.nq.trans h1.nq, h2.t.trans h1.t, h2.p.trans h1.p⟩
theorem Same.frame {s s' : St} (h : Same s s') : Frame s s' := Frame.of_eq h.ras h.seqs h.nq h.t h.p

theorem sendToModule_same {s s1 : St} {q q1 : Seq} {amt : Nat} (e : sendToModule s q amt = .ok (s1, q1)) :
    Same s s1 ∧ skey q1 = skey q := by
  obtain ⟨_, rfl, rfl⟩ := sendToModule_ok e; exact ⟨⟨rfl, rfl, rfl, rfl, rfl⟩, rfl⟩

theorem sendFromModule_same {s s1 : St} {q q1 : Seq} {amt : Nat} {to : Addr}
    (e : sendFromModule s q amt to = .ok (s1, q1)) : Same s s1 ∧ skey q1 = skey q := by
  obtain ⟨_, _, _, rfl, rfl⟩ := sendFromModule_ok e; exact ⟨⟨rfl, rfl, rfl, rfl, rfl⟩, rfl⟩

theorem burn_same {s s1 : St} {q q1 : Seq} {amt : Nat} (e : burn s q amt = .ok (s1, q1)) :
    Same s s1 ∧ skey q1 = skey q := by
  obtain ⟨_, _, rfl, rfl⟩ := burn_ok e; exact ⟨⟨rfl, rfl, rfl, rfl, rfl⟩, rfl⟩

theorem slash_same {s s1 : St} {q q1 : Seq} {amt : Nat} {mul : Dec} {rw : Option Addr}
    (e : slash s q amt mul rw = .ok (s1, q1)) : Same s s1 ∧ skey q1 = skey q := by
  obtain ⟨s0, q0, h0, hb⟩ := slash_ok e
  have hb := burn_same hb
  rcases h0 with ⟨_, rfl, rfl⟩ | ⟨_, to, _, hs⟩
  · exact hb
  · have h0 := sendFromModule_same hs
    exact ⟨h0.1.trans hb.1, hb.2.trans h0.2⟩

theorem tryUnbond_same {s s1 : St} {q q1 : Seq} {amt : Nat} (e : tryUnbond s q amt = .ok (s1, q1)) :
    Same s s1 ∧ isProposer s q = false ∧ isSuccessor s q = false ∧ q1.addr = q.addr ∧ q1.rollapp = q.rollapp ∧
      q1.optedIn = q.optedIn ∧ q1.notice = q.notice ∧ (q1.bonded = true → q.bonded = true) := by
  obtain ⟨hp, hsu, _, r, q0, _, _, hs, rfl⟩ := tryUnbond_ok e
  obtain ⟨_, _, _, rfl, rfl⟩ := sendFromModule_ok hs
  rw [unbondIf_eq]
  exact ⟨⟨rfl, rfl, rfl, rfl, rfl⟩, hp, hsu, rfl, rfl, rfl, rfl, fun h => (Bool.and_eq_true _ _ ▸ h).1⟩

/-- a sequencer that is neither proposer nor successor of its own rollapp holds no role at all -/
theorem noRole_of_flags {s : St} {a : Addr} {q : Seq} (h : RolesCore s) (hg : getSeq s a = some q)
    (h1 : isProposer s q = false) (h2 : isSuccessor s q = false) :
    ∀ r ∈ s.ras, r.proposer ≠ some q.addr ∧ r.successor ≠ some q.addr := by
  have hg' : getSeq s q.addr = some q := by rw [getSeq_addr hg]; exact hg
  intro r hr
  constructor
  · intro hp
    unfold isProposer at h1
    rw [((h.prop r hr _ hp).get hg').2, getRa_of_mem h.uniq.ids hr] at h1
    simp [hp] at h1
  · intro hp
    unfold isSuccessor at h2
    rw [((h.succ r hr _ hp).get hg').2, getRa_of_mem h.uniq.ids hr] at h2
    simp [hp] at h2

/-- handing the proposer slot to the successor once the proposer's notice has elapsed (so that its
    notice-queue entry is gone) -/
theorem rotate_core {s : St} {prop : Seq} {r0 : Rollapp} (h : Roles s) (hq : getSeq s prop.addr = some prop)
    (hr0 : r0 ∈ s.ras) (hp0 : r0.proposer = some prop.addr) (hel : noticeElapsed prop s.t = true) :
    RolesCore (setRa s { r0 with successor := none, proposer := r0.successor }) := by
  refine h.core.of_setRa (r0 := r0) (getRa_of_mem h.core.uniq.ids hr0) (by rfl) ⟨?_, ?_, ?_, ?_⟩ ?_
  · intro a ha; exact h.core.succ r0 hr0 a ha
  · intro a ha; cases ha
  · intro a ha; cases ha
  · intro a _ hs; cases hs
  · intro t a hta hpa
    rw [hp0] at hpa; injection hpa with hpa; subst hpa
    have hn3 := h.core.nq_notice hta hq
    have := h.core.fut _ hta
    unfold noticeElapsed at hel
    rw [hn3] at hel
    simp at hel
    exact absurd this (by simp only; omega)

/-- the rollapp record `onProposerLastBlock` reads is the one the sequencer is proposer of -/
theorem getRa_of_proposer {s : St} {prop : Seq} {r0 : Rollapp} (h : Roles s) (hq : getSeq s prop.addr = some prop)
    (hr0 : r0 ∈ s.ras) (hp0 : r0.proposer = some prop.addr) : getRa s prop.rollapp = some r0 := by
  rw [((h.core.prop r0 hr0 _ hp0).get hq).2]; exact getRa_of_mem h.core.uniq.ids hr0

theorem onProposerLastBlock_roles {s s' : St} {prop : Seq} (h : Roles s) (hq : getSeq s prop.addr = some prop)
    (hp : ∃ r ∈ s.ras, r.proposer = some prop.addr) (e : onProposerLastBlock s prop = .ok s') : Roles s' := by
  obtain ⟨r0, hr0, hp0⟩ := hp
  obtain ⟨hel, r, s1, hg, rfl, hc⟩ := onProposerLastBlock_ok e
  rw [getRa_of_proposer h hq hr0 hp0] at hg; injection hg with hg; subst hg
  have c1 := rotate_core h hq hr0 hp0 hel
  rcases hc with ⟨_, e'⟩ | ⟨a, _, rfl⟩
  · apply hardForkToLatest_roles c1 _ e'
    intro x hx hne
    rcases mem_setRa' hx with ⟨h1, _⟩ | h1
    · exact h.sp x h1
    · subst h1; exact absurd rfl hne
  · have s1 : SuccProp (setRa s { r0 with successor := none, proposer := r0.successor }) :=
      h.sp.of_setRa (fun _ => rfl)
    have f := afterSetRealProposer_frame c1.uniq r0.id a
    exact ⟨c1.frame f, s1.frame f⟩

theorem seqAfterUpdate_roles {s s' : St} {m : UpdMsg} {b : Bool} (h : Roles s)
    (hp : ∃ r ∈ s.ras, r.proposer = some m.sender) (e : seqAfterUpdate s m b = .ok s') : Roles s' := by
  obtain ⟨prop, prop1, hg, rfl, hc⟩ := seqAfterUpdate_ok e
  have hpa : prop.addr = m.sender := getSeq_addr hg
  have f1 : Frame s (setSeq s { prop with dishonor := prop.dishonor - min s.sqp.dishonorSU prop.dishonor }) :=
    Frame.of_setSeq (q0 := prop) h.core.uniq hg (by rfl) (by rfl) (by rfl) (by rfl) (by rfl)
  have h1 := h.frame f1
  rcases hc with ⟨_, rfl⟩ | ⟨_, e'⟩
  · exact h1
  · apply onProposerLastBlock_roles h1 _ _ e'
    · exact getSeq_setSeq_same' (q0 := prop) hg (by rfl)
    · obtain ⟨r, hr, hpr⟩ := hp
      exact ⟨r, hr, by rw [hpr]; exact congrArg some hpa.symm⟩

theorem updateState_roles {s s' : St} {m : UpdMsg} (h : Roles s) (e : updateState s m = .ok s') : Roles s' := by
  obtain ⟨r, s3, s4, r4, _, hg, hpr, _, _, _, _, h3, rfl, hg4, rfl⟩ := updateState_ok e
  have f1 : Frame s (setRa s { r with states := r.states ++ [newSInfo s m (updSucc r m)] }) :=
    Frame.of_setRa (r0 := r) h.core.uniq hg (by rfl) (by rfl) (by rfl)
  have h3' : Roles s3 :=
    seqAfterUpdate_roles (h.frame f1) ⟨_, getRa_mem (getRa_setRa_same' (r0 := r) hg (by rfl)), hpr⟩ h3
  have h4 : Roles { s3 with queue := queueAppend s3.queue s3.h m.ra (r.states.length + 1),
                            seqH := addSeqHeights s3.seqH m.sender m.bds } :=
    h3'.frame (Frame.of_eq rfl rfl rfl rfl rfl)
  exact h4.frame (indicateLiveness_frame h4.core.uniq hg4)

/-- the state of `MsgCreateSequencer` once the new record is in: up to then nothing role-relevant has changed -/
theorem createSeq_added {s s1 : St} {a : Addr} {ra bond : Nat} {r : Rollapp} {q1 : Seq} (h : Roles s)
    (hg : getRa s ra = some r) (hnone : getSeq s a = none)
    (hs : sendToModule (if r.launched then s else setRa s { r with launched := true }) (newSeq a ra) bond = .ok (s1, q1)) :
    Frame s s1 ∧ RolesCore (addSeq s1 q1) ∧ SuccProp (addSeq s1 q1) := by
  have f0 : Frame s (if r.launched = true then s else setRa s { r with launched := true }) := by
    split
    · exact Frame.refl s
    · exact Frame.of_setRa (r0 := r) h.core.uniq hg (by rfl) (by rfl) (by rfl)
  have sp := sendToModule_same hs
  have hk := sp.2
  simp only [skey, Prod.mk.injEq] at hk
  have f1 := f0.trans sp.1.frame
  have h1 : Roles s1 := h.frame f1
  have hfresh : getSeq s1 q1.addr = none := by
    rw [getSeq_congr (s := s) (sp.1.seqs.trans (by split <;> rfl)), hk.1]; exact hnone
  exact ⟨f1, h1.core.of_insertSeq hfresh hk.2.2.2.2, h1.sp.of_ras rfl⟩

theorem createSeq_roles {s s' : St} {a : Addr} {ra bond : Nat} {d : Bool} (h : Roles s)
    (e : createSeq s a ra bond d = .ok s') : Roles s' := by
  obtain ⟨r, s1, q1, hg, hnone, _, _, _, hs, r2, _, hfin⟩ := createSeq_ok e
  obtain ⟨_, c2, p2⟩ := createSeq_added h hg hnone hs
  rcases hfin with ⟨_, rfl⟩ | ⟨_, hr⟩
  · exact ⟨c2, p2⟩
  · exact recoverFromSentinel_roles c2 p2 hr

theorem increaseBond_frame {s s' : St} {a : Addr} {amt : Nat} {d : Bool} (u : Uniq s)
    (e : increaseBond s a amt d = .ok s') : Frame s s' := by
  obtain ⟨q, s1, q1, hg, _, _, hs, rfl⟩ := increaseBond_ok e
  have sp := sendToModule_same hs
  have hk := sp.2
  simp only [skey, Prod.mk.injEq] at hk
  have f1 := sp.1.frame
  exact f1.trans (Frame.of_setSeq (q0 := q) (f1.uniq u) (by rw [getSeq_congr sp.1.seqs]; exact hg)
    hk.1 hk.2.1 hk.2.2.1 hk.2.2.2.1 hk.2.2.2.2)

/-- writing back the result of `tryUnbond` -/
theorem tryUnbond_write_roles {s s1 : St} {a : Addr} {q0 q q1 : Seq} {amt : Nat} (h : Roles s)
    (hg : getSeq s a = some q0) (ha : q.addr = q0.addr) (hr : q.rollapp = q0.rollapp) (hn : q.notice = q0.notice)
    (ho : q.optedIn = true → q0.optedIn = true)
    (e : tryUnbond s q amt = .ok (s1, q1)) : Roles (setSeq s1 q1) := by
  have sp := tryUnbond_same e
  obtain ⟨sm, hp1, hp2, e1, e2, e3, e4, _⟩ := sp
  have h1 : Roles s1 := h.frame sm.frame
  have hg1 : getSeq s1 a = some q0 := by rw [getSeq_congr sm.seqs]; exact hg
  have hip : isProposer s q0 = false := by
    unfold isProposer at hp1 ⊢; rw [hr, ha] at hp1; exact hp1
  have his : isSuccessor s q0 = false := by
    unfold isSuccessor at hp2 ⊢; rw [hr, ha] at hp2; exact hp2
  refine ⟨?_, h1.sp.of_ras rfl⟩
  apply h1.core.of_setSeq hg1 (e1.trans ha) (e2.trans hr)
  · intro _
    right
    intro r hr'
    rw [sm.ras] at hr'
    rw [e1, ha]
    exact noRole_of_flags h.core hg hip his r hr'
  · exact Or.inl (e4.trans hn)
  · intro hns
    rw [e4, hn] at hns
    have := h.core.optOut q0 (getSeq_mem hg) hns
    cases hq : q1.optedIn with
    | false => rfl
    | true => rw [e3] at hq; rw [ho hq] at this; cases this
  · intro t hta
    rw [sm.nq, e1, ha, getSeq_addr hg] at hta
    rw [e4, hn]; exact h.core.nq_notice hta hg

theorem decreaseBond_roles {s s' : St} {a : Addr} {amt : Nat} (h : Roles s)
    (e : decreaseBond s a amt = .ok s') : Roles s' := by
  obtain ⟨q, s1, q1, hg, _, hs, rfl⟩ := decreaseBond_ok e
  exact tryUnbond_write_roles h hg rfl rfl rfl id hs

/-- a new notice-queue entry for a proposer whose notice time it is -/
theorem RolesCore.of_nqInsert {s : St} {a : Addr} {T : Nat} {q : Seq} {r : Rollapp} (h : RolesCore s)
    (hq : getSeq s a = some q) (hn : q.notice = some T) (hr : getRa s q.rollapp = some r) (hp : r.proposer = some a)
    (hT : s.t < T) : RolesCore { s with nq := insertSorted ltPair (T, a) s.nq } := by
  refine .of_ra (h.uniq.of_eq rfl rfl) (fun x hx => (h.ra hx).of_seqs rfl) h.optOut ?_ ?_ h.np
  · intro t a' hta
    rcases insertSorted_mem _ _ _ _ hta with h1 | h1
    · injection h1 with h1 h2; subst h1; subst h2
      exact ⟨q, r, hq, hn, hr, hp⟩
    · exact h.nq t a' h1
  · intro e he
    rcases insertSorted_mem _ _ _ _ he with h1 | h1
    · subst h1; exact hT
    · exact h.fut e h1

/-- a proposer whose `MsgUnbond` is accepted has not started a notice before: no rotation is waiting
    (its notice has not elapsed) and none is in progress -/
theorem unbond_fresh {s : St} {a : Addr} {q : Seq} {r : Rollapp} (hg : getSeq s a = some q)
    (hgr : getRa s q.rollapp = some r)
    (hrot : awaitingLast s r = false ∨ (isProposer s q = false ∧ isSuccessor s q = false))
    (hisp : isProposer s q = true) (hnip : noticeInProgress q s.t = false) :
    r.proposer = some a ∧ q.notice = none := by
  have hpr : r.proposer = some a := by
    unfold isProposer at hisp; rw [hgr] at hisp; rw [← getSeq_addr hg]; simpa using hisp
  refine ⟨hpr, ?_⟩
  have haw : awaitingLast s r = false := by
    rcases hrot with h1 | h1
    · exact h1
    · rw [hisp] at h1; cases h1.1
  unfold awaitingLast at haw
  rw [hpr] at haw
  simp only [hg] at haw
  unfold noticeElapsed at haw
  unfold noticeInProgress at hnip
  cases hn : q.notice with
  | none => rfl
  | some t =>
    rw [hn] at haw hnip
    simp at haw hnip
    omega

theorem unbond_roles {s s' : St} {a : Addr} (h : Roles s) (e : unbond s a = .ok s') : Roles s' := by
  obtain ⟨q, r, hg, hgr, hrot, hc⟩ := unbond_ok e
  have hqa := getSeq_addr hg
  rcases hc with ⟨hisp, _, hnip, rfl⟩ | ⟨_, s1, q1, hs, rfl⟩
  · obtain ⟨hpr, hnn⟩ := unbond_fresh hg hgr hrot hisp hnip
    show Roles { setSeq s (noticed q (s.t + s.sqp.noticePeriod)) with
                  nq := insertSorted ltPair (s.t + s.sqp.noticePeriod, a) s.nq }
    have c1 : RolesCore (setSeq s (noticed q (s.t + s.sqp.noticePeriod))) := by
      apply h.core.of_setSeq hg (by rfl) (by rfl)
      · intro hb; exact Or.inl hb
      · right
        intro x hx hsx
        obtain ⟨q2, hq2, _, hr2⟩ := h.core.succ x hx _ hsx
        rw [show (noticed q (s.t + s.sqp.noticePeriod)).addr = a from hqa, hg] at hq2
        injection hq2 with hq2; subst hq2
        have hxr : x = r := by
          have := getRa_of_mem h.core.uniq.ids hx
          rw [← hr2, hgr] at this; injection this with this; exact this.symm
        subst hxr
        exact h.core.ne x hx a hpr (by rw [← hqa]; exact hsx)
      · intro _; rfl
      · intro t hta
        have hn3 := h.core.nq_notice (a := a) (hqa ▸ hta) hg
        rw [hnn] at hn3; cases hn3
    refine ⟨?_, h.sp.of_ras rfl⟩
    have := h.core.np
    apply c1.of_nqInsert (q := noticed q (s.t + s.sqp.noticePeriod)) (r := r)
    · rw [← hqa]; exact getSeq_setSeq_same' (q0 := q) hg (by rfl)
    · rfl
    · exact hgr
    · exact hpr
    · show s.t < s.t + s.sqp.noticePeriod; omega
  · exact tryUnbond_write_roles (q := { q with optedIn := false }) h hg rfl rfl rfl (fun hc => Bool.noConfusion hc) hs

theorem optIn_roles {s s' : St} {a : Addr} {v : Bool} (h : Roles s) (e : optIn s a v = .ok s') : Roles s' := by
  obtain ⟨q, r, hg, hnn, _, hc⟩ := optIn_ok e
  have c1 : RolesCore (setSeq s { q with optedIn := v }) := by
    apply h.core.of_setSeq hg (by rfl) (by rfl)
    · intro hb; exact Or.inl hb
    · exact Or.inl rfl
    · intro hc; rw [show ({ q with optedIn := v } : Seq).notice = none from hnn] at hc; cases hc
    · intro t hta
      exact h.core.nq_notice (q := q) (a := a) ((getSeq_addr hg : q.addr = a) ▸ hta) hg
  have p1 : SuccProp (setSeq s { q with optedIn := v }) := h.sp.of_ras rfl
  rcases hc with ⟨_, rfl⟩ | ⟨_, hr⟩
  · exact ⟨c1, p1⟩
  · exact recoverFromSentinel_roles c1 p1 hr

theorem punish_frame {s s' : St} {a : Addr} {rw : Option Addr} (u : Uniq s) (e : punish s a rw = .ok s') : Frame s s' := by
  obtain ⟨q, s1, q1, hg, hs, rfl⟩ := punish_ok e
  have sp := slash_same hs
  have hk := sp.2
  simp only [skey, Prod.mk.injEq] at hk
  have f1 := sp.1.frame
  exact f1.trans (Frame.of_setSeq (q0 := q) (f1.uniq u) (by rw [getSeq_congr sp.1.seqs]; exact hg)
    hk.1 hk.2.1 hk.2.2.1 hk.2.2.2.1 hk.2.2.2.2)

/-- the optional punishment at the start of a fraud proposal changes nothing role-relevant -/
theorem fraud_punish_frame {s s1 : St} {pun rw : Option Addr} (u : Uniq s)
    (hp : (pun = none ∧ s1 = s) ∨ ∃ a, pun = some a ∧ punish s a rw = .ok s1) : Frame s s1 := by
  rcases hp with ⟨_, rfl⟩ | ⟨a, _, hpun⟩
  · exact Frame.refl _
  · exact punish_frame u hpun

theorem fraud_roles {s s' : St} {au : Bool} {ra hh rev : Nat} {p rw : Option Addr} (h : Roles s)
    (e : fraud s au ra hh rev p rw = .ok s') : Roles s' := by
  obtain ⟨_, _, r, s1, _, _, hp, hf⟩ := fraud_ok e
  have : Roles s1 := h.frame (fraud_punish_frame h.core.uniq hp)
  exact hardFork_roles this.core (this.sp.ex ra) hf

theorem kick_roles {s s' : St} {a : Addr} (h : Roles s) (e : kick s a = .ok s') : Roles s' := by
  obtain ⟨kicker, r, pa, pq, s3, hgk, hkb, hko, _, _, _, _, _, h3, hr⟩ := kick_ok e
  have c2 : RolesCore (abruptRemoveProposer s r.id) := abruptRemoveProposer_core h.core
  have p2 : SuccPropEx r.id (abruptRemoveProposer s r.id) := abruptRemoveProposer_ex (h.sp.ex r.id)
  have h3' : Roles s3 := hardForkToLatest_roles c2 p2 h3
  obtain ⟨q3, hq3, f3⟩ := ((abruptRemoveProposer_flags s r.id).trans (hardForkToLatest_flags h3)).old a kicker hgk
  have hr3 := f3.rollapp
  have hn3 := f3.notice
  have hkn : kicker.notice = none := h.core.notice_none (getSeq_mem hgk) hko
  have c4 : RolesCore (setSeq s3 { kicker with optedIn := true }) := by
    apply h3'.core.of_setSeq hq3 _ (by exact hr3.symm)
    · intro _; exact Or.inl hkb
    · exact Or.inl hn3.symm
    · intro hc; rw [show ({ kicker with optedIn := true } : Seq).notice = none from hkn] at hc; cases hc
    · intro t hta
      have hn5 := h3'.core.nq_notice (a := a) ((getSeq_addr hgk : kicker.addr = a) ▸ hta) hq3
      rw [hn3, hkn] at hn5; cases hn5
    · show kicker.addr = q3.addr
      rw [getSeq_addr hgk, getSeq_addr hq3]
  exact recoverFromSentinel_roles c4 (h3'.sp.of_ras rfl) hr

theorem markObsolete_roles {s s' : St} {au : Bool} {vs : List Nat} (h : Roles s)
    (e : markObsolete s au vs = .ok s') : Roles s' :=
  (markObsolete_ind e (fun _ => h.frame (Frame.of_eq rfl rfl rfl rfl rfl))
    (fun _ _ _ hb hf => hardForkToLatest_roles hb.core (hb.sp.ex _) hf)).2.2

-- ---------------------------------------------------------------- begin block: successors for elapsed notices

/-- the entry's sequencer is the opted-out proposer of its rollapp -/
def DueOk (acc : St) (e : Nat × Addr) : Prop :=
  ∃ q r, getSeq acc e.2 = some q ∧ q.optedIn = false ∧ getRa acc q.rollapp = some r ∧ r.proposer = some e.2

theorem RolesCore.dueOk {s : St} (h : RolesCore s) {e : Nat × Addr} (he : e ∈ s.nq) : DueOk s e := by
  obtain ⟨q, r, hq, hn, hr, hp⟩ := h.nq e.1 e.2 he
  exact ⟨q, r, hq, h.optOut q (getSeq_mem hq) (by rw [hn]; rfl), hr, hp⟩

theorem DueOk.of_setRa {s : St} {id : Nat} {r r0 : Rollapp} {e : Nat × Addr} (h : DueOk s e)
    (hg : getRa s id = some r0) (hid : r.id = r0.id) (hp : r.proposer = r0.proposer) : DueOk (setRa s r) e := by
  obtain ⟨q, r1, hq, ho, hr1, hp1⟩ := h
  have hg' : getRa s r.id = some r0 := by rw [hid, getRa_id hg]; exact hg
  by_cases hc : r.id = q.rollapp
  · refine ⟨q, r, hq, ho, ?_, ?_⟩
    · rw [← hc]; exact getRa_setRa_same hg'
    · rw [← hc, hg'] at hr1; injection hr1 with hr1; subst hr1; rw [hp]; exact hp1
  · exact ⟨q, r1, hq, ho, by rw [getRa_setRa_other hc]; exact hr1, hp1⟩

/-- the loop invariant of begin block has the time held at its old value: the due entries are still queued -/
theorem beginBlock_roles {s : St} {dt : Nat} (h : Roles s) : Roles (beginBlock s dt) := by
  have hinv := beginBlock_ind'' (P := fun b => RolesCore { b with t := s.t } ∧ SuccProp b ∧
      ∀ e ∈ s.nq, e.1 ≤ s.t + dt → DueOk b e) s dt
    ⟨h.core.of_sub rfl rfl (fun _ hx => hx) rfl rfl, h.sp.of_ras rfl, fun e he _ => h.core.dueOk he⟩
    (fun b e _ _ hb => ⟨hb.1.of_sub rfl rfl (fun x hx => (List.mem_filter.1 hx).1) rfl rfl, hb.2.1.of_ras rfl, hb.2.2⟩)
    ?_
  · obtain ⟨c, sp, _⟩ := hinv
    obtain ⟨ht, _, hnq⟩ := beginBlock_nq s dt
    exact ⟨⟨c.uniq.of_eq rfl rfl, c.prop, c.succ, c.succFresh, c.ne, c.optOut, c.nq,
      fun x hx => by rw [ht]; exact (hnq x hx).2, c.np⟩, sp⟩
  · -- the successor of the rollapp of a due entry is chosen: never the departing proposer, who is opted out
    intro b e q r he hle ⟨c1, sp, due⟩ hq hr
    obtain ⟨q0, r0, hq0, ho0, hr0, hp0⟩ := due e he hle
    rw [hq] at hq0; cases hq0
    rw [hr] at hr0; cases hr0
    have hid : r.id = q.rollapp := getRa_id hr
    have hcne : choose b q.rollapp ≠ some e.2 := by
      intro hc
      obtain ⟨q', hq', ha', _, _, ho', _⟩ := choose_mem hc
      have := getSeq_of_mem (s := b) c1.uniq.addrs hq'
      rw [ha', hq] at this; injection this with this; subst this
      rw [ho0] at ho'; cases ho'
    refine ⟨?_, ?_, ?_⟩
    · show RolesCore (setRa { b with t := s.t } { r with successor := choose { b with t := s.t } q.rollapp })
      refine c1.of_setRa (r0 := r) hr (by rfl) ⟨?_, ?_, ?_, ?_⟩ ?_
      · intro a ha; exact c1.prop r (getRa_mem hr) a ha
      · intro a ha
        show BondedOf _ r.id a
        rw [hid]
        exact choose_bondedOf c1.uniq ha
      · intro a ha x hx
        obtain ⟨q', hq', ha', _, _, ho', _⟩ := choose_mem ha
        have := getSeq_of_mem (s := b) c1.uniq.addrs hq'
        rw [ha'] at this
        have hx' : getSeq b a = some x := hx
        rw [this] at hx'; injection hx' with hx'; subst hx'
        exact c1.notice_none hq' ho'
      · intro a ha hs
        rw [hp0] at ha; injection ha with ha; subst ha
        exact hcne hs
      · intro t a _ hp; exact hp
    · apply sp.of_setRa
      intro hc
      rw [show ({ r with successor := choose b q.rollapp } : Rollapp).proposer = some e.2 from hp0] at hc
      cases hc
    · intro e' he' hle'
      exact (due e' he' hle').of_setRa hr (by rfl) (by rfl)

-- ---------------------------------------------------------------- end block: finalization and liveness are frames

theorem finalizeOne_frame {s s' : St} {fails : List (Nat × Nat)} {ra idx : Nat} (u : Uniq s)
    (e : finalizeOne s fails ra idx = some s') : Frame s s' := by
  obtain ⟨_, _, r, st, hg, _, _, rfl⟩ := finalizeOne_ok e
  exact Frame.of_setRa_eq (r0 := r) u hg (by rfl) (by rfl) (by rfl) (by rfl) (by rfl) (by rfl) (by rfl) (by rfl)

theorem slashLiveness_frame {s s1 : St} {r : Rollapp} (u : Uniq s) (e : slashLiveness s r = .ok s1) : Frame s s1 := by
  rcases slashLiveness_ok e with ⟨_, rfl⟩ | ⟨a, q, s2, q2, _, hg, hsl, rfl⟩
  · exact Frame.refl _
  have sp := slash_same hsl
  have hk := sp.2
  simp only [skey, Prod.mk.injEq] at hk
  have f1 := sp.1.frame
  exact f1.trans (Frame.of_setSeq (q0 := q) (f1.uniq u) (by rw [getSeq_congr sp.1.seqs]; exact hg)
    hk.1 hk.2.1 hk.2.2.1 hk.2.2.2.1 hk.2.2.2.2)

theorem handleLivenessEvent_frame {s : St} {ra : Nat} (u : Uniq s) : Frame s (handleLivenessEvent s ra) := by
  rcases handleLivenessEvent_cases s ra with h | ⟨r, s1, r1, _, hs1, hg1, h⟩
  · rw [h]; exact Frame.refl s
  · rw [h]
    have f1 := slashLiveness_frame u hs1
    unfold scheduleEvent
    exact f1.trans (Frame.of_setRa_eq (r0 := r1) (f1.uniq u) hg1 (by rfl) (by rfl) (by rfl) (by rfl) (by rfl) (by rfl) (by rfl) (by rfl))

theorem endBlock_frame {s : St} {fails : List (Nat × Nat)} (u : Uniq s) : Frame s (endBlock s fails) :=
  endBlock_ind (P := Frame s) fails (Frame.refl s)
    (fun _ _ _ _ hb h1 => hb.trans (finalizeOne_frame (hb.uniq u) h1))
    (fun _ _ hb => hb.trans (Frame.of_eq rfl rfl rfl rfl rfl))
    (fun _ _ hb => hb.trans (handleLivenessEvent_frame (hb.uniq u)))

theorem apply_roles {s s' : St} {o : Op} (h : Roles s) (e : apply s o = .ok s') : Roles s' := by
  cases o with
  | createRollapp id owner mb =>
    obtain ⟨hnone, rfl⟩ := apply_createRollapp_ok e
    exact ⟨h.core.of_insertRa (r := newRollapp id owner mb) hnone rfl rfl, h.sp.of_insertRa rfl⟩
  | bridge ra hh =>
    obtain ⟨r, lh, hg, _, _, _, _, rfl⟩ := apply_bridge_ok e
    exact h.frame (Frame.of_setRa (r0 := r) h.core.uniq hg (by rfl) (by rfl) (by rfl))
  | fund a amt => simp only [apply] at e; injection e with e; subst e; exact h.frame (Frame.of_eq rfl rfl rfl rfl rfl)
  | createSeq a ra b d => exact createSeq_roles h e
  | bondInc a amt d => exact h.frame (increaseBond_frame h.core.uniq e)
  | bondDec a amt => exact decreaseBond_roles h e
  | unbond a => exact unbond_roles h e
  | optIn a v => exact optIn_roles h e
  | kick a => exact kick_roles h e
  | update m => exact updateState_roles h e
  | fraud au ra hh rev p rw => exact fraud_roles h e
  | obsolete au vs => exact markObsolete_roles h e
  | punish au a rw => exact h.frame (punish_frame h.core.uniq (punishProposal_ok e).2)
  | transferOwner sg ra' no =>
    obtain ⟨r, hg, _, _, _, rfl⟩ := transferOwner_ok e
    exact h.frame (Frame.of_setRa (r0 := r) h.core.uniq hg (by rfl) (by rfl) (by rfl))
  | setSeqParams au sp =>
    obtain ⟨_, hnp, _, rfl⟩ := setSeqParams_ok e
    exact ⟨h.core.of_sub' rfl rfl (fun _ he => he) rfl hnp, h.sp.of_ras rfl⟩
  | begin_ dt => simp only [apply] at e; injection e with e; subst e; exact beginBlock_roles h
  | end_ f => simp only [apply] at e; injection e with e; subst e; exact h.frame (endBlock_frame h.core.uniq)

theorem step_roles {s : St} {o : Op} (h : Roles s) : Roles (step s o).1 := by
  unfold step
  split
  · rename_i s' e; exact apply_roles h e
  · exact h

theorem init_roles (p : Params) (hp : 0 < p.noticePeriod) : Roles (init p) := by
  refine ⟨⟨⟨List.Pairwise.nil, List.Pairwise.nil, List.Pairwise.nil⟩, ?_, ?_, ?_, ?_, ?_, ?_, ?_, hp⟩, ?_⟩
  · intro r hr; cases hr
  · intro r hr; cases hr
  · intro r hr; cases hr
  · intro r hr; cases hr
  · intro q hq; cases hq
  · intro t a h; cases h
  · intro e he; cases he
  · intro r hr; cases hr

/-- **the roles invariant holds in every reachable state** (for valid parameters: the notice period
    is validated to be positive) -/
theorem run_roles (p : Params) (hp : 0 < p.noticePeriod) (ops : List Op) : Roles (run p ops) := by
  unfold run
  apply foldl_inv Roles
  · exact init_roles p hp
  · intro b o hb; exact step_roles hb

end DymVerif.Core.Roles
