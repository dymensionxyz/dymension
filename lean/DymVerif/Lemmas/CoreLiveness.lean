/-
  Lemmas/CoreLiveness — arithmetic of `NextSlashHeight`.
-/
import DymVerif.Model.Core
namespace DymVerif.Core

theorem lt_succ_div_mul (d I : Nat) (hI : 1 ≤ I) : d < (d / I + 1) * I := by
  rw [Nat.mul_comm]; exact Nat.lt_mul_div_succ d hI

theorem succ_div_mul_le {d I k : Nat} (hI : 1 ≤ I) (h : d < k * I) : (d / I + 1) * I ≤ k * I :=
  Nat.mul_le_mul_right I ((Nat.div_lt_iff_lt_mul hI).2 h)

theorem nextSlashHeight_grid (N I hub last : Nat) :
    ∃ k, nextSlashHeight N I hub last = last + N + k * I := by
  unfold nextSlashHeight
  dsimp only
  split
  · exact ⟨(hub - last - N) / I + 1, (Nat.add_assoc _ _ _).symm⟩
  · exact ⟨0, by rw [Nat.zero_mul]; rfl⟩

theorem nextSlashHeight_future (N I hub last : Nat) (hI : 1 ≤ I) (hl : last ≤ hub) :
    hub < nextSlashHeight N I hub last := by
  unfold nextSlashHeight
  dsimp only
  split
  · have := lt_succ_div_mul (hub - last - N) I hI
    omega
  · omega

theorem nextSlashHeight_least (N I hub last k : Nat) (hI : 1 ≤ I) (hl : last ≤ hub)
    (hk : hub < last + N + k * I) : nextSlashHeight N I hub last ≤ last + N + k * I := by
  unfold nextSlashHeight
  dsimp only
  split
  · have := succ_div_mul_le (d := hub - last - N) (k := k) hI (by omega)
    omega
  · omega

/-- when the rollapp is still inside its first window the event is exactly at `last + N` -/
theorem nextSlashHeight_first (N I hub last : Nat) (h : hub < last + N) (hl : last ≤ hub) :
    nextSlashHeight N I hub last = last + N := by
  unfold nextSlashHeight
  dsimp only
  rw [if_neg (by omega)]

/-- at an event height `last + N + j*I` the next event is exactly one interval later -/
theorem nextSlashHeight_step (N I last j : Nat) (hI : 1 ≤ I) :
    nextSlashHeight N I (last + N + j * I) last = last + N + (j + 1) * I := by
  unfold nextSlashHeight
  dsimp only
  rw [if_pos (by omega)]
  have : last + N + j * I - last - N = j * I := by omega
  rw [this, Nat.mul_div_cancel _ (by omega : 0 < I)]
  omega

theorem nextSlashHeight_ge (N I hub last : Nat) : last + N ≤ nextSlashHeight N I hub last := by
  obtain ⟨k, hk⟩ := nextSlashHeight_grid N I hub last
  rw [hk]; omega

/-- for `LivenessSlashBlocks ≥ 1` the first event is exactly `LivenessSlashBlocks` after the update … -/
theorem nextSlashHeight_fresh (N I h : Nat) (hN : 1 ≤ N) : nextSlashHeight N I h h = h + N :=
  nextSlashHeight_first N I h h (by omega) (Nat.le_refl _)

/-- … and in the degenerate case `LivenessSlashBlocks = 0` one interval after it -/
theorem nextSlashHeight_fresh_zero (I h : Nat) (hI : 1 ≤ I) : nextSlashHeight 0 I h h = h + I := by
  have := nextSlashHeight_step 0 I h 0 hI
  simpa using this

/-- while the event is more than one block away, advancing the hub height does not move it -/
theorem nextSlashHeight_stable (N I H c : Nat) (hI : 1 ≤ I) (hc : c ≤ H) (h : H + 1 < nextSlashHeight N I H c) :
    nextSlashHeight N I (H + 1) c = nextSlashHeight N I H c := by
  obtain ⟨k, hk⟩ := nextSlashHeight_grid N I H c
  obtain ⟨k', hk'⟩ := nextSlashHeight_grid N I (H + 1) c
  have h1 := nextSlashHeight_least N I (H + 1) c k hI (by omega) (by omega)
  have h2 := nextSlashHeight_future N I (H + 1) c hI (by omega)
  have h3 := nextSlashHeight_least N I H c k' hI hc (by omega)
  omega

/-- the event computed at height `H` is due in the very next block iff `H + 1` is a grid point -/
theorem nextSlashHeight_eq_succ_iff (N I H c : Nat) (hI : 1 ≤ I) (hc : c ≤ H) :
    nextSlashHeight N I H c = H + 1 ↔ ∃ j, H + 1 = c + N + j * I := by
  constructor
  · intro h; obtain ⟨k, hk⟩ := nextSlashHeight_grid N I H c; exact ⟨k, by omega⟩
  · rintro ⟨j, hj⟩
    have h1 := nextSlashHeight_least N I H c j hI hc (by omega)
    have h2 := nextSlashHeight_future N I H c hI hc
    omega

end DymVerif.Core
