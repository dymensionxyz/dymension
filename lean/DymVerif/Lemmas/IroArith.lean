/-
  Lemmas/IroArith — arithmetic facts about the LegacyDec roundings as used by M-IRO:
  truncated division bounds, exactness of `Mul` on integers, cost / taker-fee characterisations.
-/
import DymVerif.Model.Iro
namespace DymVerif.Iro
open DymVerif

theorem decP_pos : (0 : Int) < decP := by decide

theorem tdiv_decP_of_nonneg (n : Int) (h : 0 ≤ n) :
    decP * n.tdiv decP ≤ n ∧ n < decP * (n.tdiv decP + 1) := by
  rw [Int.tdiv_eq_ediv_of_nonneg h]; unfold decP; omega

theorem tdiv_decP_of_neg (n : Int) (h : n < 0) : n.tdiv decP ≤ 0 := by
  have h1 : n = -(-n) := by omega
  rw [h1, Int.neg_tdiv, Int.tdiv_eq_ediv_of_nonneg (by omega)]; unfold decP; omega

/-- a positive truncated quotient is a floor: `decP·q ≤ n < decP·(q+1)` -/
theorem tdiv_decP_pos (n : Int) (h : 0 < n.tdiv decP) :
    0 < n ∧ decP * n.tdiv decP ≤ n ∧ n < decP * (n.tdiv decP + 1) := by
  have hn : 0 ≤ n := by
    by_cases h0 : 0 ≤ n
    · exact h0
    · have := tdiv_decP_of_neg n (by omega); omega
  have hb := tdiv_decP_of_nonneg n hn
  refine ⟨?_, hb.1, hb.2⟩
  rcases Int.lt_or_eq_of_le hn with h1 | h1
  · exact h1
  · rw [← h1] at h; simp at h

/-- truncation of a non-negative value never exceeds it -/
theorem tdiv_decP_le (n : Int) (h : 0 ≤ n) : decP * n.tdiv decP ≤ n := (tdiv_decP_of_nonneg n h).1

/-- the truncated fraction `b/10^18 ∈ [0,1]` of a non-negative amount stays within the amount -/
theorem tdiv_decP_mul_bounds {a b : Int} (ha : 0 ≤ a) (hb0 : 0 ≤ b) (hb : b ≤ decP) :
    0 ≤ (a * b).tdiv decP ∧ (a * b).tdiv decP ≤ a := by
  have hn : 0 ≤ a * b := Int.mul_nonneg ha hb0
  rw [Int.tdiv_eq_ediv_of_nonneg hn]
  exact ⟨Int.ediv_nonneg hn (Int.le_of_lt decP_pos),
    Int.ediv_le_of_le_mul decP_pos (Int.mul_le_mul_of_nonneg_left hb ha)⟩

theorem pow10_pos (n : Nat) : 0 < pow10 n := by
  unfold pow10; have := Nat.pow_pos (n := n) (by decide : 0 < 10); omega

theorem cost_eq (I : Int → Int) (L : Nat) (x x1 : Int) :
    cost I L x x1 = ((I x1 - I x) * pow10 L).tdiv decP := by
  simp [cost, scaleToBase, Dec.sub, Dec.mulInt, Dec.truncateInt, chopTrunc]

/-- exact bounds of a positive cost -/
theorem cost_pos_bounds {I : Int → Int} {L : Nat} {x x1 : Int} (h : 0 < cost I L x x1) :
    decP * cost I L x x1 ≤ pow10 L * (I x1 - I x) ∧ pow10 L * (I x1 - I x) < decP * (cost I L x x1 + 1) := by
  rw [cost_eq] at h ⊢
  have := tdiv_decP_pos _ h
  rw [Int.mul_comm (pow10 L)]
  exact ⟨this.2.1, this.2.2⟩

/-- `Cost` is a floor: tokens worth less than `10^18·b` on the curve cost less than `b` -/
theorem cost_lt {I : Int → Int} {L : Nat} {x x1 b : Int} (hb : 0 < b) (h : pow10 L * (I x1 - I x) < decP * b) :
    cost I L x x1 < b := by
  rw [cost_eq, Int.mul_comm]
  by_cases hn : 0 ≤ pow10 L * (I x1 - I x)
  · exact Int.lt_of_mul_lt_mul_left (Int.lt_of_le_of_lt (tdiv_decP_le _ hn) h) (Int.le_of_lt decP_pos)
  · exact Int.lt_of_le_of_lt (tdiv_decP_of_neg _ (Int.not_le.mp hn)) hb

/-- with 18 supply decimals the conversion of the Newton result back to base units is exact: the tokens granted
    are the oracle's answer at the scaled arguments -/
theorem tokensForExactIn_some {T : Int → Int → Option Int} {L : Nat} {sold net t : Int}
    (h : tokensForExactIn T L sold net = some t) :
    0 < net ∧ T (scaleFromBase sold 18).raw (scaleFromBase net L).raw = some t := by
  unfold tokensForExactIn at h
  split at h
  · cases h
  · split at h
    · cases h
    · rename_i hn
      split at h
      · cases h
      · rename_i x hx
        cases h
        have e : scaleToBase ⟨x⟩ 18 = x := Int.mul_tdiv_cancel x (Int.ne_of_gt decP_pos)
        rw [e]
        exact ⟨Int.not_le.mp hn, hx⟩

/-- `Mul` of an integer-valued decimal is exact (the half-even rounding has nothing to round) -/
theorem chopRound_mul_decP (k : Int) : chopRound (k * decP) = k := by
  have hm : (k * decP).natAbs = k.natAbs * decPN := by
    rw [Int.natAbs_mul]; rfl
  have hp : 0 < decPN := by decide
  unfold chopRound
  simp only [hm, Nat.mul_mod_left, Nat.mul_div_cancel _ hp]
  have hh : 0 < decHalf := by decide
  simp only [hh, if_true]
  have hd : (0 : Int) < decP := by decide
  split
  · have : k < 0 := by
      by_cases hk : k < 0
      · exact hk
      · have : 0 ≤ k * decP := Int.mul_nonneg (by omega) (by omega)
        omega
    omega
  · have : 0 ≤ k := by
      by_cases hk : 0 ≤ k
      · exact hk
      · have : k * decP < 0 := Int.mul_neg_of_neg_of_pos (by omega) hd
        omega
    omega

theorem ofInt_mul_raw (a : Int) (d : Dec) : ((Dec.ofInt a).mul d).raw = a * d.raw := by
  have : a * decP * d.raw = (a * d.raw) * decP := by
    rw [Int.mul_assoc, Int.mul_comm decP, ← Int.mul_assoc]
  simp [Dec.mul, Dec.ofInt, this, chopRound_mul_decP]

theorem mul_ofInt_raw (d : Dec) (a : Int) : (d.mul (Dec.ofInt a)).raw = d.raw * a := by
  have : d.raw * (a * decP) = (d.raw * a) * decP := by rw [Int.mul_assoc]
  simp [Dec.mul, Dec.ofInt, this, chopRound_mul_decP]

/-- `ApplyTakerFee` succeeds only on a positive amount with a positive fee and a positive total -/
theorem applyTakerFee_some {amount : Int} {fee : Dec} {isAdd : Bool} {tot f : Int}
    (h : applyTakerFee amount fee isAdd = some (tot, f)) :
    0 < amount ∧ 0 < f ∧ 0 < tot ∧ tot = (if isAdd then amount + f else amount - f) := by
  unfold applyTakerFee at h
  split at h
  · simp at h
  · cases isAdd
    · simp only [Bool.false_eq_true, if_false] at h
      split at h
      · simp at h
      · simp only [Option.some.injEq, Prod.mk.injEq] at h
        obtain ⟨h1, h2⟩ := h
        subst h1 h2
        simp
        omega
    · simp only [if_true] at h
      split at h
      · simp at h
      · simp only [Option.some.injEq, Prod.mk.injEq] at h
        obtain ⟨h1, h2⟩ := h
        subst h1 h2
        simp
        omega

/-- the part of a pool split never exceeds the whole: `0 ≤ trunc(x·part) ≤ x` for `0 ≤ part ≤ 1` -/
theorem poolTokens_bounds (x : Int) (lp : Dec) (hx : 0 ≤ x) (h0 : 0 ≤ lp.raw) (h1 : lp.raw ≤ decP) :
    0 ≤ ((Dec.ofInt x).mul lp).truncateInt ∧ ((Dec.ofInt x).mul lp).truncateInt ≤ x := by
  simp only [Dec.truncateInt, chopTrunc, ofInt_mul_raw]
  exact tdiv_decP_mul_bounds hx h0 h1

end DymVerif.Iro
