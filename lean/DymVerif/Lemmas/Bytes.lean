/-
  Lemmas/Bytes — byte strings: fixed-width big-endian numbers (`beN`, `be64`: length, round trip, order),
  positional digits in any base (`lexLt_digits`), the byte order `lexLt` (irreflexive, transitive, total;
  cons / append equations), prefix tests (`isPrefix`: append, equal-length heads, separator-terminated
  fields) and `trimRight0`.
-/
import DymVerif.Base.Bytes
namespace DymVerif

theorem beN_length (k n : Nat) : (beN k n).length = k := by
  induction k generalizing n with
  | zero => rfl
  | succ k ih => simp [beN, ih]

/-- the leading digit of a `k + 1`-digit number in base `B` -/
theorem div_pow_lt {B k n : Nat} (hB : 0 < B) (h : n < B ^ (k + 1)) : n / B ^ k < B :=
  (Nat.div_lt_iff_lt_mul (Nat.pow_pos hB)).2 (by rwa [Nat.pow_succ, Nat.mul_comm] at h)

theorem beN_wf (k n : Nat) : Bytes.WF (beN k n) := by
  induction k generalizing n with
  | zero => intro x hx; simp [beN] at hx
  | succ k ih =>
    intro x hx
    simp [beN] at hx
    rcases hx with h | h
    · subst h; exact Nat.mod_lt _ (by decide)
    · exact ih _ x h

theorem beVal_beN (k n : Nat) (h : n < 256 ^ k) : beVal (beN k n) = n := by
  induction k generalizing n with
  | zero => simp [beN, beVal] at *; omega
  | succ k ih =>
    simp only [beN, beVal, beN_length]
    rw [ih _ (Nat.mod_lt _ (Nat.pow_pos (by decide))), Nat.mod_eq_of_lt (div_pow_lt (by decide) h)]
    rw [Nat.mul_comm]; exact Nat.div_add_mod n (256 ^ k)

theorem beN_inj (k a b : Nat) (ha : a < 256 ^ k) (hb : b < 256 ^ k) (h : beN k a = beN k b) : a = b := by
  rw [← beVal_beN k a ha, ← beVal_beN k b hb, h]

theorem lexLt_irrefl (a : Bytes) : lexLt a a = false := by
  induction a with
  | nil => rfl
  | cons x xs ih => simp [lexLt, ih]

theorem lexLt_cons (x y : Nat) (r s : Bytes) :
    lexLt (x :: r) (y :: s) = (decide (x < y) || (decide (x = y) && lexLt r s)) := by
  rw [lexLt]
  rcases Nat.lt_trichotomy x y with h | h | h
  · simp [h]
  · simp [h]
  · simp [h, Nat.lt_asymm h, Nat.ne_of_gt h]

theorem lexLe_cons (x y : Nat) (r s : Bytes) :
    lexLe (x :: r) (y :: s) = (decide (x < y) || (decide (x = y) && lexLe r s)) := by
  rw [lexLe, lexLt_cons, lexLe]
  rcases Nat.lt_trichotomy x y with h | h | h
  · simp [h, Nat.lt_asymm h, Nat.ne_of_gt h]
  · simp [h]
  · simp [h, Nat.lt_asymm h, Nat.ne_of_gt h]

/-- numbers compare by their leading digit, then by the rest -/
theorem lt_iff_div_mod (B a b : Nat) (hB : 0 < B) :
    a < b ↔ a / B < b / B ∨ (a / B = b / B ∧ a % B < b % B) := by
  have ea := Nat.div_add_mod a B
  have eb := Nat.div_add_mod b B
  have ra := Nat.mod_lt a hB
  have rb := Nat.mod_lt b hB
  rcases Nat.lt_trichotomy (a / B) (b / B) with h | h | h
  · have := Nat.mul_le_mul_left B h
    rw [Nat.mul_succ] at this
    omega
  · rw [h] at ea; omega
  · have := Nat.mul_le_mul_left B h
    rw [Nat.mul_succ] at this
    omega

/-- **fixed-width positional digits are order preserving** (lexicographic byte order = numeric order),
    for every base `B` and digit offset `off`; `f` is the digit function (`beN`: base 256, offset 0;
    `decN`: base 10, offset '0') -/
theorem lexLt_digits (B off : Nat) (hB : 0 < B) (f : Nat → Nat → Bytes) (h0 : ∀ n, f 0 n = [])
    (hs : ∀ k n, f (k + 1) n = (off + n / B ^ k % B) :: f k (n % B ^ k))
    (k a b : Nat) (ha : a < B ^ k) (hb : b < B ^ k) : lexLt (f k a) (f k b) = decide (a < b) := by
  induction k generalizing a b with
  | zero => simp [h0, lexLt] at *; omega
  | succ k ih =>
    have hp : 0 < B ^ k := Nat.pow_pos hB
    rw [hs, hs, lexLt_cons, Nat.mod_eq_of_lt (div_pow_lt hB ha), Nat.mod_eq_of_lt (div_pow_lt hB hb), ih _ _ (Nat.mod_lt a hp) (Nat.mod_lt b hp)]
    simp [lt_iff_div_mod (B ^ k) a b hp]

theorem lexLt_beN (k a b : Nat) (ha : a < 256 ^ k) (hb : b < 256 ^ k) :
    lexLt (beN k a) (beN k b) = decide (a < b) :=
  lexLt_digits 256 0 (by decide) beN (fun _ => rfl) (fun k n => by rw [beN, Nat.zero_add]) k a b ha hb

theorem be64_length (n : Nat) : (be64 n).length = 8 := beN_length 8 n

theorem be64_inj (a b : Nat) (ha : a < 2 ^ 64) (hb : b < 2 ^ 64) (h : be64 a = be64 b) : a = b :=
  beN_inj 8 a b ha hb h

theorem lexLt_be64 (a b : Nat) (ha : a < 2 ^ 64) (hb : b < 2 ^ 64) :
    lexLt (be64 a) (be64 b) = decide (a < b) :=
  lexLt_beN 8 a b ha hb

theorem lexLt_append_left (p a b : Bytes) : lexLt (p ++ a) (p ++ b) = lexLt a b := by
  induction p with
  | nil => rfl
  | cons x xs ih => simp [lexLt, ih]

theorem lexLt_cons_self (c : Nat) (a b : Bytes) : lexLt (c :: a) (c :: b) = lexLt a b :=
  lexLt_append_left [c] a b

theorem lexLt_nil_right (s : Bytes) : lexLt s [] = false := by cases s <;> rfl

/-- for equal-length heads the order of `u ++ s` vs `v ++ t` is decided by the heads, then the tails -/
theorem lexLt_append_eqlen (u v s t : Bytes) (hl : u.length = v.length) :
    lexLt (u ++ s) (v ++ t) = (lexLt u v || (u == v && lexLt s t)) := by
  induction u generalizing v with
  | nil => cases v with
    | nil => simp [lexLt]
    | cons _ _ => simp at hl
  | cons p ps ih =>
    cases v with
    | nil => simp at hl
    | cons q qs =>
      simp only [List.cons_append, lexLt]
      by_cases h1 : p < q
      · simp [h1]
      · by_cases h2 : q < p
        · have : p ≠ q := by omega
          simp [h1, h2, this]
        · have : p = q := by omega
          subst this
          simp [h1, ih qs (by simpa using hl)]

/-- … in particular by the heads alone when they differ -/
theorem lexLt_append_of_lt (a b r s : Bytes) (hl : a.length = b.length) (h : lexLt a b = true) :
    lexLt (a ++ r) (b ++ s) = true := by
  rw [lexLt_append_eqlen a b r s hl, h, Bool.true_or]

/-- big-endian uint64 heads sort numerically, whatever follows them -/
theorem lexLt_be64_append (a b : Nat) (r s : Bytes) (ha : a < 2 ^ 64) (hb : b < 2 ^ 64) (hlt : a < b) :
    lexLt (be64 a ++ r) (be64 b ++ s) = true :=
  lexLt_append_of_lt _ _ _ _ (by rw [be64_length, be64_length])
    (by rw [lexLt_be64 a b ha hb]; exact decide_eq_true hlt)

theorem lexLt_append_right (K P t : Bytes) (h : lexLt K P = true) : lexLt K (P ++ t) = true := by
  induction K generalizing P with
  | nil => cases P with
    | nil => simp [lexLt] at h
    | cons _ _ => simp [lexLt]
  | cons y ys ih =>
    cases P with
    | nil => simp [lexLt] at h
    | cons x xs =>
      simp only [lexLt, List.cons_append] at h ⊢
      by_cases h1 : y < x
      · simp [h1]
      · by_cases h2 : x < y
        · simp [h1, h2] at h
        · simp only [h1, h2, if_false] at h ⊢
          exact ih xs h

/-- `B' < B ++ c :: t` iff `B' ≤ B` for equal-length heads -/
theorem lexLt_eqlen_snoc (B' B : Bytes) (c : Nat) (t : Bytes) (hl : B'.length = B.length) :
    lexLt B' (B ++ c :: t) = lexLe B' B := by
  induction B' generalizing B with
  | nil => cases B with
    | nil => simp [lexLt, lexLe]
    | cons _ _ => simp at hl
  | cons y ys ih =>
    cases B with
    | nil => simp at hl
    | cons x xs =>
      have ih' := ih xs (by simpa using hl)
      simp only [lexLt, lexLe, List.cons_append] at ih' ⊢
      rcases Nat.lt_trichotomy x y with hxy | hxy | hxy
      · have h1 : ¬ y < x := by omega
        simp [hxy, h1]
      · subst hxy; simpa using ih'
      · have h1 : ¬ x < y := by omega
        simp [hxy, h1]

theorem isPrefix_append (p r : Bytes) : isPrefix p (p ++ r) = true := by
  induction p with
  | nil => rfl
  | cons x xs ih => simp [isPrefix, ih]

theorem isPrefix_nil (k : Bytes) : isPrefix [] k = true := rfl

theorem isPrefix_cons_self (c : Nat) (a b : Bytes) : isPrefix (c :: a) (c :: b) = isPrefix a b := by
  simp only [isPrefix, beq_self_eq_true, Bool.true_and]

theorem isPrefix_iff (p k : Bytes) : isPrefix p k = true ↔ ∃ r, k = p ++ r := by
  induction p generalizing k with
  | nil => simp [isPrefix]
  | cons x xs ih =>
    cases k with
    | nil => simp [isPrefix]
    | cons y ys =>
      simp only [isPrefix, Bool.and_eq_true, beq_iff_eq, ih, List.cons_append, List.cons.injEq]
      constructor
      · rintro ⟨rfl, r, rfl⟩; exact ⟨r, rfl, rfl⟩
      · rintro ⟨r, rfl, rfl⟩; exact ⟨rfl, r, rfl⟩

/-- a prefix of `q ++ c` and `q` are comparable: one is a prefix of the other -/
theorem isPrefix_append_comparable (p q c : Bytes) (h : isPrefix p (q ++ c) = true) :
    isPrefix p q = true ∨ isPrefix q p = true := by
  induction p generalizing q with
  | nil => exact .inl rfl
  | cons x xs ih =>
    cases q with
    | nil => exact .inr rfl
    | cons y ys =>
      simp only [List.cons_append, isPrefix, Bool.and_eq_true, beq_iff_eq] at h ⊢
      obtain ⟨rfl, h⟩ := h
      exact (ih ys h).imp (⟨rfl, ·⟩) (⟨rfl, ·⟩)

/-- separator-terminated fields: prefix match splits at the separator, so a scan for one field value
    never returns the entries of a value that merely extends it -/
theorem isPrefix_sep (sep : Nat) (a a' k k' : Bytes) (ha : sep ∉ a) (ha' : sep ∉ a') :
    isPrefix (a ++ sep :: k) (a' ++ sep :: k') = (decide (a = a') && isPrefix k k') := by
  induction a generalizing a' with
  | nil =>
    cases a' with
    | nil => simp [isPrefix]
    | cons y ys =>
      have : (sep == y) = false := beq_false_of_ne fun e => ha' (e ▸ List.mem_cons_self)
      simp [isPrefix, this]
  | cons x xs ih =>
    cases a' with
    | nil =>
      have : (x == sep) = false := beq_false_of_ne fun e => ha (e ▸ List.mem_cons_self)
      simp [isPrefix, this]
    | cons y ys =>
      simp only [List.cons_append, isPrefix, List.cons.injEq,
        ih ys (fun m => ha (List.mem_cons_of_mem _ m)) fun m => ha' (List.mem_cons_of_mem _ m)]
      by_cases hxy : x = y <;> simp [hxy]

/-- … in particular a scan for `a ++ [sep]` returns exactly the entries of field value `a` -/
theorem isPrefix_sep_nil (sep : Nat) (a a' k' : Bytes) (ha : sep ∉ a) (ha' : sep ∉ a') :
    isPrefix (a ++ [sep]) (a' ++ sep :: k') = decide (a' = a) := by
  rw [isPrefix_sep sep a a' [] k' ha ha', isPrefix_nil, Bool.and_true]
  exact decide_eq_decide.2 eq_comm

/-- splitting at a separator that does not occur in the heads is unambiguous -/
theorem sep_split_unique (sep : Nat) (a a' r r' : Bytes)
    (ha : sep ∉ a) (ha' : sep ∉ a') (h : a ++ sep :: r = a' ++ sep :: r') : a = a' ∧ r = r' := by
  have hp : isPrefix (a ++ sep :: r) (a' ++ sep :: r' ++ []) = true := h ▸ isPrefix_append _ []
  rw [List.append_nil, isPrefix_sep sep a a' r r' ha ha', Bool.and_eq_true, decide_eq_true_eq] at hp
  obtain ⟨rfl, _⟩ := hp
  exact ⟨rfl, (List.cons.inj (List.append_cancel_left h)).2⟩

theorem lexLt_trans (a b c : Bytes) (h1 : lexLt a b = true) (h2 : lexLt b c = true) : lexLt a c = true := by
  induction a generalizing b c with
  | nil =>
    cases c with
    | nil => rw [lexLt_nil_right] at h2; cases h2
    | cons => rfl
  | cons x xs ih =>
    cases b with
    | nil => cases h1
    | cons y ys =>
      cases c with
      | nil => cases h2
      | cons z zs =>
        simp only [lexLt_cons, Bool.or_eq_true, Bool.and_eq_true, decide_eq_true_eq] at h1 h2 ⊢
        rcases h1 with h1 | ⟨rfl, h1⟩ <;> rcases h2 with h2 | ⟨rfl, h2⟩
        · exact Or.inl (Nat.lt_trans h1 h2)
        · exact Or.inl h1
        · exact Or.inl h2
        · exact Or.inr ⟨rfl, ih ys zs h1 h2⟩

theorem lexLt_total_eq (a b : Bytes) (h1 : lexLt a b = false) (h2 : lexLt b a = false) : a = b := by
  induction a generalizing b with
  | nil => cases b with
    | nil => rfl
    | cons _ _ => simp [lexLt] at h1
  | cons x xs ih =>
    cases b with
    | nil => simp [lexLt] at h2
    | cons y ys =>
      simp only [lexLt] at h1 h2
      by_cases c1 : x < y
      · simp [c1] at h1
      · by_cases c2 : y < x
        · simp [c2] at h2
        · have : x = y := by omega
          subst this
          simp only [c1, if_false] at h1 h2
          rw [ih ys h1 h2]

/-- equal-length heads: prefix match splits into equality of the heads and prefix match of the rest -/
theorem eqlen_isPrefix_head (A B x z : Bytes) (hl : A.length = B.length) :
    isPrefix (A ++ x) (B ++ z) = (decide (A = B) && isPrefix x z) := by
  induction A generalizing B with
  | nil => cases B with
    | nil => simp
    | cons _ _ => simp at hl
  | cons a as ih =>
    cases B with
    | nil => simp at hl
    | cons b bs =>
      have := ih bs (by simpa using hl)
      simp only [List.cons_append, isPrefix, this]
      by_cases hab : a = b
      · subst hab; simp
      · have : (a == b) = false := by simpa using hab
        simp [this, hab]

/-- equal-length components: prefix match is equality -/
theorem eqlen_isPrefix (a b r : Bytes) (hl : a.length = b.length) :
    isPrefix a (b ++ r) = decide (a = b) := by
  have := eqlen_isPrefix_head a b [] r hl
  rwa [List.append_nil, isPrefix_nil, Bool.and_true] at this

theorem isPrefix_append_left (p a b : Bytes) : isPrefix (p ++ a) (p ++ b) = isPrefix a b := by
  induction p with
  | nil => rfl
  | cons x xs ih => simp [isPrefix, ih]

theorem lexLt_self_append (p r : Bytes) : lexLt (p ++ r) p = false := by
  have := lexLt_append_left p r []
  simpa [lexLt_nil_right] using this

theorem trimRight0_append_zeros (b : Bytes) (n : Nat) :
    trimRight0 (b ++ List.replicate n 0) = trimRight0 b := by
  have hz : ∀ n, trimRight0 (List.replicate n 0) = [] := by
    intro n; induction n with
    | zero => rfl
    | succ n ih => simp [List.replicate, trimRight0, ih]
  induction b with
  | nil => simp [hz n, trimRight0]
  | cons x xs ih => simp [trimRight0, ih]

theorem trimRight0_of_last_ne (b : Bytes) (h : ∀ x, b.getLast? = some x → x ≠ 0) : trimRight0 b = b := by
  induction b with
  | nil => rfl
  | cons x xs ih =>
    cases xs with
    | nil =>
      have : x ≠ 0 := h x (by simp)
      simp [trimRight0, this]
    | cons y ys =>
      have ih' := ih (by intro z hz; exact h z (by simpa [List.getLast?_cons_cons] using hz))
      simp only [trimRight0] at ih' ⊢
      rw [ih']

end DymVerif
