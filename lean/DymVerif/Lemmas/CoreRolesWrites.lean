/-
  Lemmas/CoreRolesWrites — the roles invariant (`Roles`, Lemmas/CoreRoles) through what the handlers are built from: the
  primitive writes (a rollapp record, a sequencer record, a map over the sequencers, a new record), the rollapp-side
  hooks, the filling of an empty proposer slot, the abrupt removal of a proposer and the hard fork.
-/
import DymVerif.Lemmas.CoreRolesChoose
namespace DymVerif.Core.Roles

-- ---------------------------------------------------------------- the primitive writes

theorem BondedOf.of_seqs {s s' : St} {id : Nat} {a : Addr} (h : BondedOf s id a) (e : s'.seqs = s.seqs) :
    BondedOf s' id a := by
  obtain ⟨q, hq, hb⟩ := h
  exact ⟨q, by rw [getSeq_congr e]; exact hq, hb⟩

/-- same rollapps and sequencers, possibly fewer notice-queue entries, any valid sequencer parameters -/
theorem RolesCore.of_sub' {s s' : St} (h : RolesCore s) (e1 : s'.ras = s.ras) (e2 : s'.seqs = s.seqs)
    (e3 : ∀ e ∈ s'.nq, e ∈ s.nq) (e4 : s'.t = s.t) (e5 : 0 < s'.sqp.noticePeriod) : RolesCore s' := by
  refine .of_ra (h.uniq.of_eq e1 e2) ?_ (by rw [e2]; exact h.optOut) ?_ (fun e he => by rw [e4]; exact h.fut e (e3 e he)) e5
  · intro r hr
    rw [e1] at hr
    exact (h.ra hr).of_seqs e2
  · intro t a hta
    obtain ⟨q, r, hq, hn, hr, hp⟩ := h.nq t a (e3 _ hta)
    exact ⟨q, r, by rw [getSeq_congr e2]; exact hq, hn, by rw [getRa_congr e1]; exact hr, hp⟩

/-- same rollapps and sequencers, possibly fewer notice-queue entries -/
theorem RolesCore.of_sub {s s' : St} (h : RolesCore s) (e1 : s'.ras = s.ras) (e2 : s'.seqs = s.seqs)
    (e3 : ∀ e ∈ s'.nq, e ∈ s.nq) (e4 : s'.t = s.t) (e5 : s'.sqp = s.sqp) : RolesCore s' :=
  h.of_sub' e1 e2 e3 e4 (e5 ▸ h.np)

theorem SuccProp.of_ras {s s' : St} (h : SuccProp s) (e : s'.ras = s.ras) : SuccProp s' := by
  intro r hr; rw [e] at hr; exact h r hr

/-- writing a rollapp record that meets the requirements; a proposer with a notice-queue entry stays -/
theorem RolesCore.of_setRa {s : St} {id : Nat} {r r0 : Rollapp} (h : RolesCore s) (hg0 : getRa s id = some r0) (hid : r.id = r0.id)
    (hr : RaRoles s r) (hnq : ∀ t a, (t, a) ∈ s.nq → r0.proposer = some a → r.proposer = some a) :
    RolesCore (setRa s r) := by
  have hg : getRa s r.id = some r0 := by rw [hid, getRa_id hg0]; exact hg0
  refine .of_ra (h.uniq.of_setRa r) ?_ h.optOut ?_ h.fut h.np
  · intro x hx
    rcases mem_setRa hx with h1 | h1
    · exact (h.ra h1).of_seqs rfl
    · subst h1; exact hr.of_seqs rfl
  · intro t a hta
    obtain ⟨q, r1, hq, hn, hr1, hp1⟩ := h.nq t a hta
    by_cases hc : r.id = q.rollapp
    · refine ⟨q, r, hq, hn, ?_, ?_⟩
      · rw [← hc]; exact getRa_setRa_same hg
      · rw [← hc, hg] at hr1; injection hr1 with hr1; subst hr1; exact hnq t a hta hp1
    · exact ⟨q, r1, hq, hn, by rw [getRa_setRa_other hc]; exact hr1, hp1⟩

theorem SuccProp.of_setRa {s : St} {r : Rollapp} (h : SuccProp s) (hr : r.proposer = none → r.successor = none) :
    SuccProp (setRa s r) := by
  intro x hx
  rcases mem_setRa hx with h1 | h1
  · exact h x h1
  · subst h1; exact hr

theorem BondedOf.of_setSeq {s : St} {q q0 : Seq} {id : Nat} {a : Addr} (h : BondedOf s id a)
    (hg : getSeq s q.addr = some q0) (hr : q.rollapp = q0.rollapp) (hb : q0.bonded = true → q.bonded = true ∨ a ≠ q.addr) :
    BondedOf (setSeq s q) id a := by
  obtain ⟨q1, hq1, hb1, hr1⟩ := h
  by_cases hc : a = q.addr
  · subst hc
    rw [hg] at hq1; injection hq1 with hq1; subst hq1
    refine ⟨q, getSeq_setSeq_self hg, ?_, hr.trans hr1⟩
    rcases hb hb1 with hb | hb
    · exact hb
    · exact absurd rfl hb
  · exact ⟨q1, by rw [getSeq_setSeq_other (Ne.symm hc)]; exact hq1, hb1, hr1⟩

/-- writing a sequencer record: the rollapp is unchanged; it may be unbonded only when it holds no
    role; a started notice implies opted out; its notice-queue entry matches its notice time -/
theorem RolesCore.of_setSeq {s : St} {a0 : Addr} {q q0 : Seq} (h : RolesCore s) (hg0 : getSeq s a0 = some q0) (ha0 : q.addr = q0.addr)
    (hr : q.rollapp = q0.rollapp)
    (hb : q0.bonded = true → q.bonded = true ∨ ∀ r ∈ s.ras, r.proposer ≠ some q.addr ∧ r.successor ≠ some q.addr)
    (hsn : q.notice = q0.notice ∨ ∀ r ∈ s.ras, r.successor ≠ some q.addr)
    (ho : q.notice.isSome = true → q.optedIn = false)
    (hn : ∀ t, (t, q.addr) ∈ s.nq → q.notice = some t) : RolesCore (setSeq s q) := by
  have hg : getSeq s q.addr = some q0 := by rw [ha0, getSeq_addr hg0]; exact hg0
  refine .of_ra (h.uniq.of_setSeq q) ?_ ?_ ?_ h.fut h.np
  · intro x hx
    refine (h.ra hx).mono (fun a ha hbo => hbo.of_setSeq hg hr (fun hb0 => ?_)) (fun a ha q' hq' => ?_)
    · rcases hb hb0 with hb | hb
      · exact Or.inl hb
      · right
        rintro rfl
        rcases ha with ha | ha
        · exact (hb x hx).1 ha
        · exact (hb x hx).2 ha
    · by_cases hc : a = q.addr
      · subst hc
        rw [getSeq_setSeq_self hg] at hq'; cases hq'
        rcases hsn with hsn | hsn
        · exact ⟨q0, hg, hsn⟩
        · exact absurd ha (hsn x hx)
      · rw [getSeq_setSeq_other (Ne.symm hc)] at hq'
        exact ⟨q', hq', rfl⟩
  · intro x hx
    rcases mem_setSeq hx with h1 | h1
    · exact h.optOut x h1
    · subst h1; exact ho
  · intro t a hta
    obtain ⟨q1, r1, hq1, hn1, hr1, hp1⟩ := h.nq t a hta
    by_cases hc : a = q.addr
    · subst hc
      rw [hg] at hq1; injection hq1 with hq1; subst hq1
      exact ⟨q, r1, getSeq_setSeq_self hg, hn t hta, by rw [hr]; exact hr1, hp1⟩
    · exact ⟨q1, r1, by rw [getSeq_setSeq_other (Ne.symm hc)]; exact hq1, hn1, hr1, hp1⟩

/-- rewriting every sequencer record without touching address, rollapp, bond status and notice, and
    without opting anybody in -/
theorem RolesCore.of_mapSeqs {s : St} (h : RolesCore s) (f : Seq → Seq) (ha : ∀ x, (f x).addr = x.addr)
    (hr : ∀ x, (f x).rollapp = x.rollapp) (hb : ∀ x, (f x).bonded = x.bonded) (hn : ∀ x, (f x).notice = x.notice)
    (ho : ∀ x, (f x).optedIn = true → x.optedIn = true) : RolesCore { s with seqs := s.seqs.map f } := by
  have hm : (s.seqs.map f).map (·.addr) = s.seqs.map (·.addr) := by
    rw [List.map_map]; apply List.map_congr_left; intro x _; exact ha x
  refine .of_ra ⟨h.uniq.ids, h.uniq.addrs.of_addrs_eq hm, h.uniq.sorted.of_addrs_eq hm⟩ ?_ ?_ ?_ h.fut h.np
  · intro x hx
    refine (h.ra hx).mono (fun a _ ⟨q, hq, hb1, hr1⟩ =>
      ⟨f q, by rw [getSeq_mapSeqs s f ha, hq]; rfl, (hb q).trans hb1, (hr q).trans hr1⟩) (fun a _ q' hq' => ?_)
    rw [getSeq_mapSeqs s f ha] at hq'
    cases hq : getSeq s a with
    | none => rw [hq] at hq'; cases hq'
    | some y => rw [hq] at hq'; cases hq'; exact ⟨y, rfl, hn y⟩
  · intro x hx hnx
    obtain ⟨y, hy, rfl⟩ := List.mem_map.1 hx
    rw [hn] at hnx
    have := h.optOut y hy hnx
    cases hfo : (f y).optedIn with
    | false => rfl
    | true => rw [ho y hfo] at this; cases this
  · intro t a hta
    obtain ⟨q1, r1, hq1, hn1, hr1, hp1⟩ := h.nq t a hta
    exact ⟨f q1, r1, by rw [getSeq_mapSeqs s f ha, hq1]; rfl, (hn q1).trans hn1, by rw [hr]; exact hr1, hp1⟩

theorem optOutAll_core {s : St} (h : RolesCore s) (ra : Nat) : RolesCore (optOutAll s ra) := by
  unfold optOutAll
  apply h.of_mapSeqs
  · intro x; split <;> rfl
  · intro x; split <;> rfl
  · intro x; split <;> rfl
  · intro x; split <;> rfl
  · intro x; split
    · intro hc; cases hc
    · exact id

-- ---------------------------------------------------------------- insertion of new records

theorem getRa_none {s : St} {id : Nat} (h : getRa s id = none) : ∀ y ∈ s.ras, y.id ≠ id := by
  unfold getRa at h
  intro y hy e
  have := List.find?_eq_none.1 h y hy
  simp [e] at this

/-- a new rollapp without proposer and successor -/
theorem RolesCore.of_insertRa {s : St} {r : Rollapp} (h : RolesCore s) (hf : getRa s r.id = none)
    (hp : r.proposer = none) (hs : r.successor = none) :
    RolesCore { s with ras := insertSorted (fun x y => decide (x.id < y.id)) r s.ras } := by
  have np : ∀ a, r.proposer ≠ some a := fun a ha => by rw [hp] at ha; cases ha
  have ns : ∀ a, r.successor ≠ some a := fun a ha => by rw [hs] at ha; cases ha
  refine .of_ra ⟨pairwise_ne_insertSorted (fun r : Rollapp => r.id) s.ras r h.uniq.ids (getRa_none hf), h.uniq.addrs,
    h.uniq.sorted⟩ ?_ h.optOut ?_ h.fut h.np
  · intro x hx
    rcases insertSorted_mem _ _ _ _ hx with h1 | h1
    · subst h1
      exact ⟨fun a ha => absurd ha (np a), fun a ha => absurd ha (ns a), fun a ha => absurd ha (ns a),
        fun a ha => absurd ha (np a)⟩
    · exact (h.ra h1).of_seqs rfl
  · intro t a hta
    obtain ⟨q1, r1, hq1, hn1, hr1, hp1⟩ := h.nq t a hta
    refine ⟨q1, r1, hq1, hn1, ?_, hp1⟩
    rw [getRa_insertSorted_ne]; exact hr1
    intro e; rw [e, hr1] at hf; cases hf

theorem SuccProp.of_insertRa {s : St} {r : Rollapp} (h : SuccProp s) (hs : r.successor = none) :
    SuccProp { s with ras := insertSorted (fun x y => decide (x.id < y.id)) r s.ras } := by
  intro x hx _
  rcases insertSorted_mem _ _ _ _ hx with h1 | h1
  · subst h1; exact hs
  · exact h x h1 ‹_›

/-- a new sequencer that has not started a notice -/
theorem RolesCore.of_insertSeq {s : St} {q : Seq} (h : RolesCore s) (hf : getSeq s q.addr = none)
    (hn : q.notice = none) :
    RolesCore { s with seqs := insertSorted (fun x y => decide (x.addr < y.addr)) q s.seqs } := by
  have hne : ∀ {a q1}, getSeq s a = some q1 → q.addr ≠ a := fun hq1 e => by rw [e, hq1] at hf; cases hf
  refine .of_ra ⟨h.uniq.ids, nodup_insert s.seqs q h.uniq.addrs (getSeq_none hf),
    sorted_insert s.seqs q h.uniq.sorted (getSeq_none hf)⟩ ?_ ?_ ?_ h.fut h.np
  · intro x hx
    refine (h.ra hx).mono (fun a _ ⟨q1, hq1, hb1⟩ => ⟨q1, by rw [getSeq_insertSorted_ne (hne hq1)]; exact hq1, hb1⟩)
      (fun a ha q' hq' => ?_)
    obtain ⟨q1, hq1, _⟩ := h.succ x hx a ha
    rw [getSeq_insertSorted_ne (hne hq1)] at hq'
    exact ⟨q', hq', rfl⟩
  · intro x hx hnx
    rcases insertSorted_mem _ _ _ _ hx with h1 | h1
    · subst h1; rw [hn] at hnx; cases hnx
    · exact h.optOut x h1 hnx
  · intro t a hta
    obtain ⟨q1, r1, hq1, hn1, hr1, hp1⟩ := h.nq t a hta
    exact ⟨q1, r1, by rw [getSeq_insertSorted_ne (hne hq1)]; exact hq1, hn1, hr1, hp1⟩

theorem getRa_self {s : St} {id : Nat} {r : Rollapp} (hg : getRa s id = some r) : getRa s r.id = some r := by
  rw [getRa_id hg]; exact hg

theorem mem_setRa' {s : St} {r0 r : Rollapp} (h : r ∈ (setRa s r0).ras) : (r ∈ s.ras ∧ r.id ≠ r0.id) ∨ r = r0 := by
  unfold setRa at h
  simp only [List.mem_map] at h
  obtain ⟨x, hx, rfl⟩ := h
  by_cases hc : (x.id == r0.id) = true
  · simp [hc]
  · simp only [hc]
    left
    exact ⟨hx, by simpa using hc⟩

-- ---------------------------------------------------------------- rollapp-side hooks are frames

theorem indicateLiveness_frame {s : St} {id : Nat} {r : Rollapp} (u : Uniq s) (hg : getRa s id = some r) :
    Frame s (indicateLiveness s r) := by
  unfold indicateLiveness resetClock scheduleEvent
  dsimp only
  exact Frame.of_setRa_eq (r0 := r) u hg (by rfl) (by rfl) (by rfl) (by rfl) (by rfl) (by rfl) (by rfl) (by rfl)

theorem afterSetRealProposer_frame {s : St} (u : Uniq s) (ra : Nat) (a : Addr) :
    Frame s (afterSetRealProposer s ra a) := by
  unfold afterSetRealProposer
  split
  · exact Frame.refl s
  · rename_i r hg
    have f1 := indicateLiveness_frame u hg
    split
    · exact f1
    · rename_i r1 hg1
      exact f1.trans (Frame.of_setRa (r0 := r1) (f1.uniq u) hg1 (by rfl) (by rfl) (by rfl))

-- ---------------------------------------------------------------- filling an empty proposer slot

theorem recoverFromSentinel_roles {s s' : St} {ra : Nat} (h : RolesCore s) (sp : SuccProp s)
    (e : recoverFromSentinel s ra = .ok s') : Roles s' := by
  obtain ⟨r, a, hg, hpn, hch, rfl⟩ := recoverFromSentinel_ok e
  have hid := getRa_id hg
  have hsn : r.successor = none := sp r (getRa_mem hg) hpn
  have c1 : RolesCore (setRa s { r with proposer := some a }) := by
    refine h.of_setRa (r0 := r) hg (by rfl) ⟨?_, ?_, ?_, ?_⟩ ?_
    · intro a' ha'
      injection ha' with ha'; subst ha'
      show BondedOf s r.id a
      rw [hid]; exact choose_bondedOf h.uniq hch
    · intro a' ha'; exact h.succ r (getRa_mem hg) a' ha'
    · intro a' ha'; exact h.succFresh r (getRa_mem hg) a' ha'
    · intro a' _ hs; rw [hsn] at hs; cases hs
    · intro t a' _ hp; rw [hpn] at hp; cases hp
  have s1 : SuccProp (setRa s { r with proposer := some a }) := sp.of_setRa (fun hc => by cases hc)
  have f := afterSetRealProposer_frame c1.uniq ra a
  exact ⟨c1.frame f, s1.frame f⟩

-- ---------------------------------------------------------------- abrupt removal of the proposer

/-- the "successor only under a proposer" clause for all rollapps but one -/
def SuccPropEx (ra : Nat) (s : St) : Prop := ∀ r ∈ s.ras, r.id ≠ ra → r.proposer = none → r.successor = none

theorem SuccProp.ex {s : St} (h : SuccProp s) (ra : Nat) : SuccPropEx ra s := fun r hr _ => h r hr

theorem SuccPropEx.of_ras {s s' : St} {ra : Nat} (h : SuccPropEx ra s) (e : s'.ras = s.ras) : SuccPropEx ra s' := by
  intro r hr; rw [e] at hr; exact h r hr

theorem SuccPropEx.frame {s s' : St} {ra : Nat} (h : SuccPropEx ra s) (f : Frame s s') : SuccPropEx ra s' := by
  intro r' hr' hne hp
  obtain ⟨r, hr, e⟩ := mem_key_congr rkey f.ras hr'
  simp only [rkey, Prod.mk.injEq] at e
  rw [← e.2.2]
  exact h r hr (by rw [e.1]; exact hne) (e.2.1.trans hp)

theorem SuccPropEx.of_setRa {s : St} {r : Rollapp} (h : SuccPropEx r.id s) : SuccPropEx r.id (setRa s r) := by
  intro x hx hne
  rcases mem_setRa' hx with h1 | h1
  · exact h x h1.1 hne
  · subst h1; exact absurd rfl hne

theorem setProposer_ex {s : St} {ra : Nat} {a : Option Addr} (h : SuccPropEx ra s) : SuccPropEx ra (setProposer s ra a) := by
  unfold setProposer
  split
  · exact h
  · rename_i r hg
    have := getRa_id hg
    subst this
    exact SuccPropEx.of_setRa (r := { r with proposer := a }) h

theorem removeFromNoticeQueue_sub (s : St) (q : Seq) : ∀ e ∈ (removeFromNoticeQueue s q).nq, e ∈ s.nq := by
  unfold removeFromNoticeQueue
  split
  · intro e he; exact (List.mem_filter.1 he).1
  · intro e he; exact he

theorem abruptRemoveProposer_ex {s : St} {ra : Nat} (h : SuccPropEx ra s) : SuccPropEx ra (abruptRemoveProposer s ra) := by
  rcases abruptRemoveProposer_cases s ra with e | ⟨r, a, q, _, _, _, e⟩
  · rw [e]; exact h
  · rw [e]; exact setProposer_ex (SuccPropEx.of_ras (s := s) h (removeFromNoticeQueue_ras s q))

theorem abruptRemoveProposer_core {s : St} {ra : Nat} (h : RolesCore s) : RolesCore (abruptRemoveProposer s ra) := by
  rcases abruptRemoveProposer_cases s ra with e | ⟨r, a, q, hg, hpa, hq, e⟩
  · rw [e]; exact h
  rw [e]
  have hqa : q.addr = a := getSeq_addr hq
  have hrm := getRa_mem hg
  have hras := removeFromNoticeQueue_ras s q
  have hseqs := (removeFromNoticeQueue_seqs s q).1
  have c1 : RolesCore (removeFromNoticeQueue s q) := by
    apply h.of_sub hras hseqs (removeFromNoticeQueue_sub s q)
    · unfold removeFromNoticeQueue; split <;> rfl
    · unfold removeFromNoticeQueue; split <;> rfl
  have hnone : ∀ t, (t, a) ∉ (removeFromNoticeQueue s q).nq := by
    intro t ht
    have hin := removeFromNoticeQueue_sub s q _ ht
    obtain ⟨q1, _, hq1, hn1, _, _⟩ := h.nq t a hin
    rw [hq] at hq1; injection hq1 with hq1; subst hq1
    unfold removeFromNoticeQueue at ht
    rw [hn1] at ht
    simp only [List.mem_filter] at ht
    simp [hqa] at ht
  have hg1 : getRa (removeFromNoticeQueue s q) ra = some r := by rw [getRa_congr hras]; exact hg
  have hq1 : getSeq (removeFromNoticeQueue s q) a = some q := by rw [getSeq_congr hseqs]; exact hq
  -- write the rollapp record first (the two writes commute)
  unfold setProposer
  show RolesCore (match getRa (removeFromNoticeQueue s q) ra with
    | none => setSeq (removeFromNoticeQueue s q) { q with bonded := false }
    | some r => setRa (setSeq (removeFromNoticeQueue s q) { q with bonded := false }) { r with proposer := none })
  rw [hg1]
  show RolesCore (setSeq (setRa (removeFromNoticeQueue s q) { r with proposer := none }) { q with bonded := false })
  have c2 : RolesCore (setRa (removeFromNoticeQueue s q) { r with proposer := none }) := by
    refine c1.of_setRa (r0 := r) hg1 (by rfl) ⟨?_, ?_, ?_, ?_⟩ ?_
    · intro a' ha'; cases ha'
    · intro a' ha'; exact c1.succ r (hras ▸ hrm) a' ha'
    · intro a' ha'; exact c1.succFresh r (hras ▸ hrm) a' ha'
    · intro a' ha'; cases ha'
    · intro t a' hta hp
      rw [hpa] at hp; injection hp with hp; subst hp
      exact absurd hta (hnone t)
  apply c2.of_setSeq (q0 := q) hq1 (by rfl) (by rfl)
  · intro _
    right
    intro x hx
    rcases mem_setRa' hx with ⟨h1, h2⟩ | h1
    · rw [hras] at h1
      have h2' : x.id ≠ r.id := h2
      -- `q` belongs to rollapp `r`, so it holds no role in another one
      have hr3 := ((h.prop r hrm a hpa).get hq).2
      have hq' : getSeq s ({ q with bonded := false } : Seq).addr = some q := by rw [show _ = a from hqa]; exact hq
      exact ⟨fun hp => h2' (((h.prop x h1 _ hp).get hq').2.symm.trans hr3),
        fun hp => h2' (((h.succ x h1 _ hp).get hq').2.symm.trans hr3)⟩
    · subst h1
      constructor
      · intro hc; cases hc
      · rw [hqa]; exact h.ne r hrm a hpa
  · exact Or.inl rfl
  · exact h.optOut q (getSeq_mem hq)
  · intro t hta
    rw [hqa] at hta
    exact absurd hta (hnone t)

theorem setSuccessor_none_roles {s : St} {ra : Nat} (h : RolesCore s) (sp : SuccPropEx ra s) :
    Roles (setSuccessor s ra none) := by
  unfold setSuccessor
  split
  · rename_i hg
    refine ⟨h, ?_⟩
    intro r hr
    by_cases hc : r.id = ra
    · exact absurd hc (getRa_none hg r hr)
    · exact sp r hr hc
  · rename_i r hg
    have hid := getRa_id hg
    constructor
    · refine h.of_setRa (r0 := r) hg (by rfl) ⟨?_, ?_, ?_, ?_⟩ ?_
      · intro a ha; exact h.prop r (getRa_mem hg) a ha
      · intro a ha; cases ha
      · intro a ha; cases ha
      · intro a _ hs; cases hs
      · intro t a _ hp; exact hp
    · intro x hx
      rcases mem_setRa' hx with ⟨h1, h2⟩ | h1
      · exact sp x h1 (by rw [← hid]; exact h2)
      · subst h1; intro _; rfl

theorem seqOnHardFork_roles {s : St} {ra : Nat} (h : RolesCore s) (sp : SuccPropEx ra s) :
    Roles (seqOnHardFork s ra) := by
  unfold seqOnHardFork
  apply setSuccessor_none_roles
  · exact abruptRemoveProposer_core (optOutAll_core h ra)
  · apply abruptRemoveProposer_ex
    exact SuccPropEx.of_ras (s := s) sp rfl

/-- reverting the pending states and resetting the liveness clock changes nothing role-relevant -/
theorem afterRevert_frame {s : St} {ra keep : Nat} {r : Rollapp} (u : Uniq s) (hg : getRa s ra = some r) (kst : SInfo) :
    Frame s (afterRevert s ra keep r kst) :=
  Frame.of_setRa_eq (r0 := r) u hg (by rfl) (by rfl) (by rfl) (by rfl) (by rfl) (by rfl) (by rfl) (by rfl)

theorem hardFork_roles {s s' : St} {ra lv : Nat} (h : RolesCore s) (sp : SuccPropEx ra s)
    (e : hardFork s ra lv = .ok s') : Roles s' := by
  obtain ⟨r, keep, kst, hg, _, _, _, _, rfl⟩ := hardFork_ok e
  have f := afterRevert_frame (keep := keep) h.uniq hg kst
  exact seqOnHardFork_roles (h.frame f) (sp.frame f)

theorem hardForkToLatest_roles {s s' : St} {ra : Nat} (h : RolesCore s) (sp : SuccPropEx ra s)
    (e : hardForkToLatest s ra = .ok s') : Roles s' := by
  obtain ⟨r, lh, _, _, e'⟩ := hardForkToLatest_ok e
  exact hardFork_roles h sp e'

end DymVerif.Core.Roles
