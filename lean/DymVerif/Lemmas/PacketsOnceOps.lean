/-
  Lemmas/PacketsOnceOps — the writes of M-Packets that need an argument of their own preserve the C04
  invariant `Inv04`: finalization, fulfilment, packet deletion, the hard-fork hook (the cases of `inv_tr`,
  Lemmas/PacketsStep).
-/
import DymVerif.Lemmas.PacketsOnce
import DymVerif.Lemmas.PacketsEibc2
namespace DymVerif.Packets
open DymVerif DymVerif.Keys

theorem finHeight_frame {s s' : St} (f : DFrame s s') (r : Bytes) : finHeight s' r = finHeight s r := by
  unfold finHeight getRa; rw [f.ras]

/-- `Inv04` of a state with a packet stored, in terms of the store as a list -/
theorem Inv04.setPacket_iff {s : St} {p : Packet} :
    Inv04 (setPacket s p) ↔ InvF (storeSet s.packets p) s.receipts s.commits s.nextSeq s.log := Iff.rfl

theorem inv_addByAddr {s : St} (a k) (h : Inv04 s) : Inv04 (addByAddr s a k) := h
theorem inv_delByAddr {s : St} (a k) (h : Inv04 s) : Inv04 (delByAddr s a k) := h

theorem inv_delPacket {s : St} (k : Bytes) (h : Inv04 s) : Inv04 (delPacket s k) :=
  InvF.filter h _

theorem logEntry_uid (s : St) (p : Packet) (ra v) : (logEntry s p ra v).uid = p.uid := rfl

/-- the entry logged on the pass-through path (after a callback that leaves the rollapp table alone) is at
    or below the finalized height -/
theorem EOk_logEntry_pass {s s1 : St} (f : DFrame s s1) {p : Packet} {ra : Option Bytes} {v : Bool}
    (h : (ra.isNone || isFinalizedFor s ra p.proofHeight) = true) : EOk (logEntry s1 p ra v) := by
  intro r hr
  simp only [logEntry] at hr
  subst hr
  simp only [Option.isNone_some, Bool.false_or, isFinalizedFor] at h
  simp only [logEntry, finHeight_frame f]
  cases hf : finHeight s r with
  | none => simp [hf] at h
  | some f => simp [hf] at h; exact ⟨f, rfl, h⟩

-- ------------------------------------------------------------------ the identity of a recorded packet

theorem mkRecvPacket_uid (s : St) (c seq ph : Nat) (rid : Bytes) (d : RecvData) (tgt : Addr) :
    (mkRecvPacket s c seq ph rid d tgt).uid = (true, c, seq) := rfl

theorem sentType_ne_recv (b : Bool) : (sentType b == PType.onRecv) = false := by
  cases b <;> rfl

theorem mkSentPacket_uid (s : St) (x : Sent) (b : Bool) (ph : Nat) (rid : Bytes) (e : Bool) :
    (mkSentPacket s x (sentType b) ph rid e).uid = (false, x.chan, x.seq) := by
  simp [Packet.uid, mkSentPacket, sentType_ne_recv]

-- ------------------------------------------------------------------ finalization

theorem inv_finalizePacket {s s' : St} {k : Bytes} (h : Inv04 s) (hf : finalizePacket s k = .ok s') : Inv04 s' := by
  obtain ⟨p, os, hp, hv, hpend, rfl⟩ := finalizePacket_state hf
  have hmem := (getPacket_some hp).1
  have f1 := frame_releaseEffect s p
  show InvF (storeSet (s.packets.filter (fun q => pkey q != pkey p)) _) (releaseEffect s p).1.receipts (releaseEffect s p).1.commits
    (releaseEffect s p).1.nextSeq (s.log ++ [logEntry (releaseEffect s p).1 p (some p.rollappId) true])
  rw [f1.receipts, f1.commits, f1.nextSeq]
  -- the release is logged, the pending packet is taken out, its finalized version stored
  have hrm := InvF.removed h hmem hpend
  refine InvF.store (InvF.logAppend (InvF.filter h _) (logEntry (releaseEffect s p).1 p (some p.rollappId) true) ?_
    (fun hl => hrm (Or.inl hl)) (fun hq => hrm (Or.inr hq)) (h.guarded (Or.inr ⟨p, hmem, hpend, rfl⟩))) _
    fun hs => absurd hs (by simp [flipped])
  intro r hr
  cases hr
  obtain ⟨f, hfin, hle⟩ := verifyHeightFinalized_ok hv
  exact ⟨f, (finHeight_frame f1 _).trans hfin, hle⟩

-- ------------------------------------------------------------------ fulfilment family

theorem inv_updateTransferAddress {s s' : St} {k : Bytes} {a : Addr} (h : Inv04 s)
    (hu : updateTransferAddress s k a = .ok s') : Inv04 s' := by
  obtain ⟨p, hp, -, rfl⟩ := updateTransferAddress_ok hu
  exact Inv04.setPacket_iff.mpr (InvF.replace h p (retarget p a) (getPacket_some hp).1 (pkey_retarget p a) rfl rfl)

theorem inv_fulfils {s s' : St} (h : Inv04 s) {id o f c} (hf : FulfilsBy id o f c s s') : Inv04 s' := by
  obtain ⟨b, a, l, g, s1, -, -, hu, hs'⟩ := hf
  unfold setOrderFulfilled at hu
  have h1 : Inv04 s1 := by
    refine inv_updateTransferAddress ?_ hu
    exact h
  rcases hs' with rfl | ⟨lp, -, rfl⟩
  · exact h1
  · exact Inv04.of_frame (frame_setLp s1 lp) h1

-- ------------------------------------------------------------------ deletion: epoch, hard fork

theorem inv_deletePacket {s : St} (p : Packet) (h : Inv04 s) : Inv04 (deletePacket s p) := by
  unfold deletePacket
  exact Inv04.of_frame ((frame_delOrder _ _ _).trans (frame_delOrder _ _ _)) (inv_delByAddr _ _ (inv_delPacket _ h))

theorem deletePacket_packets (s : St) (p : Packet) : (deletePacket s p).packets = s.packets.filter (fun q => pkey q != pkey p) := rfl

theorem inv_revertPacket {s : St} {p : Packet} (h : Inv04 s) (hp : p ∈ s.packets) (hst : p.status = .pending) :
    Inv04 (revertPacket s p) := by
  unfold revertPacket deletePacket
  apply Inv04.of_frame ((frame_delOrder _ _ _).trans (frame_delOrder _ _ _))
  apply inv_delByAddr
  unfold revertIbc
  cases hr : (p.ptype == PType.onRecv)
  · simp only [Bool.false_eq_true, if_false]
    exact InvF.revertSent h p hp hst hr
  · simp only [if_true]
    exact InvF.revertRecv h p hp hst hr

theorem revertPacket_packets (s : St) (p : Packet) : (revertPacket s p).packets = s.packets.filter (fun q => pkey q != pkey p) := by
  unfold revertPacket
  rw [deletePacket_packets]
  unfold revertIbc
  split <;> rfl

-- a key inside the hard-fork range belongs to a pending packet
theorem forkRange_pending {rid : Bytes} {lv : Nat} {p : Packet} (h : forkRange rid lv (pkey p) = true) : p.status = .pending := by
  cases hs : p.status with
  | pending => rfl
  | finalized =>
    exfalso
    unfold forkRange pendingFromHeightRange byStatusRollappHeightPrefix byStatusRollappPrefix byStatusPrefix at h
    unfold pkey rollappPacketKey byStatusRollappHeightPrefix byStatusRollappPrefix byStatusPrefix at h
    rw [hs] at h
    simp [statusBytes, inRange, lexLe, lexLt] at h

theorem inv_onHardFork {s : St} (rid : Bytes) (lv : Nat) (h : Inv04 s) : Inv04 (onHardFork s rid lv) :=
  foldl_victims revertPacket_packets (fun _ _ h hp hs => inv_revertPacket h hp hs) _ h
    (fun p hp => ⟨(List.mem_filter.mp hp).1, forkRange_pending (List.mem_filter.mp hp).2⟩) (List.Pairwise.filter _ (InvF.keys h))

theorem inv_setRa {s : St} (r : Rollapp) (h : Inv04 s) : Inv04 (setRa s r) := h

theorem inv_init (n : Nat) (fund : Int) (a b c : Dec) (r0 r1 : Bytes) (ch : List Chan) : Inv04 (initSt n fund a b c r0 r1 ch) where
  final := by intro e he; cases he
  nodup := List.nodup_nil
  excl := by intro u hl; cases hl
  rcv := by
    intro c q hh
    rcases hh with hl | ⟨p, hp, _⟩
    · cases hl
    · cases hp
  snt := by
    intro c q hh
    rcases hh with hl | ⟨p, hp, _⟩
    · cases hl
    · cases hp
  bound := by intro c q hm; cases hm
  keys := List.Pairwise.nil
  uniq := by intro p hp; cases hp

end DymVerif.Packets
