/-
  Lemmas/KeysAddrLit — the statement-by-statement model of `ParseDymNameAddress` (`parseAddrLit`,
  Go's index arithmetic) on the formatter's texts: every one of its guards passes and it cuts the
  same chunks as `parseAddr`.  Core Lean only.
-/
import DymVerif.Lemmas.KeysAddr2
namespace DymVerif.Keys
open DymVerif

theorem idxOf_ge (c : Nat) : ∀ w : Bytes, -1 ≤ idxOf c w
  | [] => by simp [idxOf]
  | x :: xs => by
    have := idxOf_ge c xs
    simp only [idxOf]
    split
    · omega
    · split <;> omega

theorem idxOf_not_mem {c : Nat} : ∀ {w : Bytes}, c ∉ w → idxOf c w = -1
  | [], _ => rfl
  | x :: xs, h => by
    have hx : x ≠ c := fun e => h (by simp [e])
    have := idxOf_not_mem (w := xs) (fun hm : c ∈ xs => h (List.mem_cons_of_mem _ hm))
    simp [idxOf, hx, this]

theorem idxOf_append_not_mem {c : Nat} : ∀ {X : Bytes} (Y : Bytes), c ∉ X →
    idxOf c (X ++ Y) = if idxOf c Y < 0 then -1 else (X.length : Int) + idxOf c Y
  | [], Y, _ => by
    have := idxOf_ge c Y
    simp only [List.nil_append, List.length_nil]
    split <;> omega
  | x :: xs, Y, h => by
    have hx : x ≠ c := fun e => h (by simp [e])
    have ih := idxOf_append_not_mem (X := xs) Y (fun hm : c ∈ xs => h (List.mem_cons_of_mem _ hm))
    have := idxOf_ge c Y
    simp only [List.cons_append, idxOf, hx, if_false, ih, List.length_cons]
    split <;> simp <;> omega

/-- guard `firstDot == 0 || firstAt == 0`: a text that does not start with `c` has no `c` at index 0 -/
theorem idxOf_head_ne {c x : Nat} {xs : Bytes} (h : x ≠ c) : idxOf c (x :: xs) ≠ 0 := by
  have := idxOf_ge c xs
  simp only [idxOf, h, if_false]
  split <;> omega

/-- guard `first… == lastCharIdx`: a text that does not end with `c` has its first `c` before the last index -/
theorem idxOf_last_ne {c : Nat} : ∀ {w : Bytes} {y : Nat}, w.getLast? = some y → y ≠ c →
    idxOf c w ≠ (w.length : Int) - 1
  | [], _, h, _ => by simp at h
  | [x], y, h, hy => by
    have : x = y := by simpa using h
    subst this
    simp [idxOf, hy]
  | x :: x' :: xs, y, h, hy => by
    have h' : (x' :: xs).getLast? = some y := by simpa [List.getLast?_cons_cons] using h
    have ih := idxOf_last_ne h' hy
    have hg := idxOf_ge c (x' :: xs)
    simp only [List.length_cons] at ih ⊢
    rw [idxOf]
    split
    · omega
    · dsimp only
      split <;> omega

/-- guard `last… == lastCharIdx`: … and its last `c` too -/
theorem lastIdxOf_last_ne {c : Nat} {w : Bytes} {y : Nat} (h : w.getLast? = some y) (hy : y ≠ c) :
    lastIdxOf c w ≠ (w.length : Int) - 1 := by
  have hrev : ∃ r, w.reverse = y :: r := by
    cases hw : w.reverse with
    | nil => simp at hw; subst hw; simp at h
    | cons z r =>
      have : w.getLast? = some z := by
        rw [List.getLast?_eq_head?_reverse, hw]; rfl
      rw [this] at h
      exact ⟨r, by simpa using h⟩
  obtain ⟨r, hr⟩ := hrev
  have hlen : 0 < w.length := by
    cases w with
    | nil => simp at h
    | cons _ _ => simp
  have h0 := idxOf_head_ne (xs := r) hy
  unfold lastIdxOf
  simp only [hr]
  split
  · omega
  · omega

theorem lastIdxOf_not_mem {c : Nat} {w : Bytes} (h : c ∉ w) : lastIdxOf c w = -1 := by
  unfold lastIdxOf
  rw [idxOf_not_mem (by simpa using h)]
  simp

/-- the one `c` of `A ++ c :: h` is found from both ends at index `|A|` -/
theorem idx_single {c : Nat} {A h : Bytes} (hA : c ∉ A) (hh : c ∉ h) :
    idxOf c (A ++ c :: h) = A.length ∧ lastIdxOf c (A ++ c :: h) = A.length := by
  constructor
  · rw [idxOf_append_not_mem _ hA]; simp [idxOf]
  · unfold lastIdxOf
    have : (A ++ c :: h).reverse = h.reverse ++ c :: A.reverse := by simp
    rw [this, idxOf_append_not_mem _ (by simpa using hh)]
    simp [idxOf]
    omega

/-- a `d` that occurs only before the single `c` has its last index before it -/
theorem lastIdx_before {c d : Nat} {A h : Bytes} (hdc : c ≠ d) (hh : d ∉ h) :
    lastIdxOf d (A ++ c :: h) < (A.length : Int) := by
  unfold lastIdxOf
  have : (A ++ c :: h).reverse = h.reverse ++ c :: A.reverse := by simp
  have hg := idxOf_ge d A.reverse
  rw [this, idxOf_append_not_mem _ (by simpa using hh)]
  simp only [idxOf, hdc, if_false, List.length_reverse, List.length_append, List.length_cons]
  generalize idxOf d A.reverse = j at hg ⊢
  by_cases hj : j < 0
  · simp only [hj, if_true]; split <;> omega
  · simp only [hj, if_false]; (repeat' split) <;> omega

theorem glueDots_append : ∀ (parts : List Bytes) (a b : Bytes), glueDots parts (a ++ b) = glueDots parts a ++ b
  | [], _, _ => rfl
  | p :: ps, a, b => by simp [glueDots, glueDots_append ps a b]

theorem nameC_ne {c : Nat} (h : isNameC c = true) : c ≠ 46 ∧ c ≠ 64 ∧ c ≠ 124 := by
  simp [isNameC, isAlnumC, isLowerB, isDigitB, isDashC] at h
  omega

theorem glueDots_head (parts : List Bytes) (name : Bytes) (hp : ∀ p ∈ parts, Clean p) (hn : Clean name) :
    ∃ x r, glueDots parts name = x :: r ∧ isNameC x = true := by
  cases parts with
  | nil =>
    cases name with
    | nil => exact absurd rfl hn.1
    | cons x r => exact ⟨x, r, rfl, hn.2 x (by simp)⟩
  | cons p ps =>
    have hc := hp p (by simp)
    cases p with
    | nil => exact absurd rfl hc.1
    | cons x r => exact ⟨x, r ++ 46 :: glueDots ps name, by simp [glueDots], hc.2 x (by simp)⟩

/-! ### adjacent separators: none in glued chunks -/

/-- a chunk character is none of '.', '@', '|' (what `hasDoubleSep` looks for) -/
theorem nameC_not_bar {c : Nat} (hc : isNameC c = true) : (isSepC c || c == 124) = false := by
  have h := nameC_ne hc
  simp [isSepC, h.1, h.2.1, h.2.2]

theorem hds_nameC_cons {a : Nat} (ha : isNameC a = true) (r : Bytes) : hasDoubleSep (a :: r) = hasDoubleSep r := by
  cases r <;> simp [hasDoubleSep, nameC_not_bar ha]

theorem hds_clean_append {p : Bytes} (hp : ∀ c ∈ p, isNameC c = true) (r : Bytes) :
    hasDoubleSep (p ++ r) = hasDoubleSep r := by
  induction p with
  | nil => rfl
  | cons a p ih =>
    rw [List.cons_append, hds_nameC_cons (hp a List.mem_cons_self), ih fun c hc => hp c (List.mem_cons_of_mem _ hc)]

/-- a separator followed by a chunk character starts no pair of separators -/
theorem hds_sep_nameC (d : Nat) {x : Nat} (hx : isNameC x = true) (r : Bytes) :
    hasDoubleSep (d :: x :: r) = hasDoubleSep (x :: r) := by
  simp [hasDoubleSep, nameC_not_bar hx]

theorem hds_glueDots (parts : List Bytes) (name h : Bytes) (last : Nat) (hp : ∀ p ∈ parts, Clean p)
    (hn : Clean name) (hh : Clean h) : hasDoubleSep (glueDots parts (name ++ last :: h)) = false := by
  induction parts with
  | nil =>
    cases h with
    | nil => exact absurd rfl hh.1
    | cons y h' =>
      rw [glueDots, hds_clean_append hn.2, hds_sep_nameC last (hh.2 y List.mem_cons_self),
        ← List.append_nil (y :: h'), hds_clean_append hh.2]
      rfl
  | cons p ps ih =>
    have hps := fun q hq => hp q (List.mem_cons_of_mem _ hq)
    obtain ⟨x, r, hA, hx⟩ := glueDots_head ps name hps hn
    have ih' := ih hps
    rw [glueDots_append, hA, List.cons_append] at ih'
    rw [glueDots, hds_clean_append (hp p List.mem_cons_self).2, glueDots_append, hA, List.cons_append,
      hds_sep_nameC 46 hx, ih']

theorem glueDots_no_at (parts : List Bytes) (name : Bytes) (hp : ∀ p ∈ parts, Clean p) (hn : Clean name) :
    64 ∉ glueDots parts name := by
  induction parts with
  | nil => exact fun hm => (nameC_ne (hn.2 64 hm)).2.1 rfl
  | cons p ps ih =>
    simp only [glueDots, List.mem_append, List.mem_cons]
    rintro (hm | hm | hm)
    · exact (nameC_ne ((hp p (by simp)).2 64 hm)).2.1 rfl
    · omega
    · exact ih (fun q hq => hp q (by simp [hq])) hm

theorem clean_getLast {h : Bytes} (hh : Clean h) : ∃ y, h.getLast? = some y ∧ isNameC y = true := by
  cases hl : h.getLast? with
  | none => simp at hl; exact absurd hl hh.1
  | some y => exact ⟨y, rfl, hh.2 y (List.mem_of_getLast? hl)⟩

/-- the statement-by-statement parser on the formatter's texts -/
theorem parseAddrLit_glue (bech : Bytes → Bool) (parts : List Bytes) (name h : Bytes) (last : Nat)
    (hl : last = 46 ∨ last = 64)
    (hp : ∀ p ∈ parts, validDymName p = true) (hn : validDymName name = true)
    (hh : (validChainIdFormat h || validAlias h) = true) :
    parseAddrLit bech (glueDots parts (name ++ last :: h)) = some (joinDot parts, name, h) := by
  have hpc : ∀ p ∈ parts, Clean p := fun p hp' => validDymName_clean (hp p hp')
  have hnc := validDymName_clean hn
  have hhc := handle_clean hh
  have hsep : isSepC last = true := by rcases hl with rfl | rfl <;> decide
  have htext := glued_textC parts name h last hl hpc hnc hhc
  have hchunks := chunks_clean parts name h hpc hnc hhc
  have hne : ∀ f ∈ parts ++ [name, h], (!f.isEmpty) = true := fun f hf => by
    simp [clean_not_empty (hchunks f hf)]
  have htrim := clean_any_trim hchunks
  have hsplit := splitSeps_glueDots parts name h last hpc hnc hhc hsep
  -- the text as  A ++ last :: h
  obtain ⟨x, r, hA, hx⟩ := glueDots_head parts name hpc hnc
  have hw : glueDots parts (name ++ last :: h) = (x :: r) ++ last :: h := by rw [glueDots_append, hA]
  obtain ⟨y, hy, hyn⟩ := clean_getLast hhc
  have hlast : ((x :: r) ++ last :: h).getLast? = some y := by
    cases h with
    | nil => exact absurd rfl hhc.1
    | cons h0 h' =>
      rw [List.getLast?_append, List.getLast?_cons_cons, hy]; rfl
  have hx' := nameC_ne hx
  have hy' := nameC_ne hyn
  have g5 := hds_glueDots parts name h last hpc hnc hhc
  have g6 : fieldsSep (glueDots parts (name ++ last :: h)) = parts ++ [name, h] := by
    unfold fieldsSep
    rw [hsplit]
    exact List.filter_eq_self.mpr hne
  have g3a : idxOf 46 (glueDots parts (name ++ last :: h)) ≠ 0 := by
    rw [hw]; exact idxOf_head_ne hx'.1
  have g3b : idxOf 64 (glueDots parts (name ++ last :: h)) ≠ 0 := by
    rw [hw]; exact idxOf_head_ne hx'.2.1
  have g4a := idxOf_last_ne (c := 46) hlast hy'.1
  have g4b := idxOf_last_ne (c := 64) hlast hy'.2.1
  have g4c := lastIdxOf_last_ne (c := 46) hlast hy'.1
  have g4d := lastIdxOf_last_ne (c := 64) hlast hy'.2.1
  rw [← hw] at g4a g4b g4c g4d
  have hAat : 64 ∉ x :: r := hA ▸ glueDots_no_at parts name hpc hnc
  have hh64 : 64 ∉ h := fun hm => (nameC_ne (hhc.2 64 hm)).2.1 rfl
  have hh46 : 46 ∉ h := fun hm => (nameC_ne (hhc.2 46 hm)).1 rfl
  have g12 : (lastIdxOf 64 (glueDots parts (name ++ last :: h)) = -1 ∧ idxOf 64 (glueDots parts (name ++ last :: h)) = -1) ∨
      (idxOf 64 (glueDots parts (name ++ last :: h)) = lastIdxOf 64 (glueDots parts (name ++ last :: h)) ∧
        lastIdxOf 46 (glueDots parts (name ++ last :: h)) < lastIdxOf 64 (glueDots parts (name ++ last :: h))) := by
    rcases hl with rfl | rfl
    · left
      have : 64 ∉ glueDots parts (name ++ 46 :: h) := by
        rw [hw]; simp only [List.mem_append, List.mem_cons]
        rintro (hm | hm | hm)
        · exact hAat (List.mem_cons.mpr hm)
        · omega
        · exact hh64 hm
      exact ⟨lastIdxOf_not_mem this, idxOf_not_mem this⟩
    · right
      rw [hw]
      obtain ⟨e1, e2⟩ := idx_single (c := 64) hAat hh64
      rw [e1, e2]
      exact ⟨rfl, lastIdx_before (by omega) hh46⟩
  unfold parseAddrLit
  simp only [trimSpace_id (fun c hc => textC_not_space (htext c hc)), asciiLower_id htext, g5, g6, htrim]
  have c7 : ((parts ++ [name, h]).length == 1) = false := by simp
  rw [if_neg, if_neg, if_neg, if_neg, if_neg (by simp), if_neg (by simp), c7, if_neg (by simp)]
  · exact parseChunks_ok bech parts name h hp hn hh
  · simp only [Bool.or_eq_true, beq_iff_eq]
    exact fun h => h.elim (·.elim (·.elim g4a g4b) g4c) g4d
  · simp only [Bool.or_eq_true, beq_iff_eq]
    exact fun h => h.elim g3a g3b
  · simp only [Bool.and_eq_true, decide_eq_true_eq, bne_iff_ne]; omega
  · simp only [Bool.and_eq_true, decide_eq_true_eq]; omega

end DymVerif.Keys
