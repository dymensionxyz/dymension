/-
  Lemmas/DymNSAuth — what an operation can do to a Dym-Name record, and who must have signed it.
-/
import DymVerif.Lemmas.DymNSInv
import DymVerif.Lemmas.DymNSFrame
namespace DymVerif.DymNS
open AMap

def Op.actor : Op → Acct
  | .fund a _ | .register a .. | .transfer a .. | .setController a .. | .updateResolve a .. | .updateDetails a ..
  | .sellName a .. | .cancelSellName a .. | .completeName a .. | .buyName a .. | .offerName a .. | .cancelOffer a ..
  | .acceptOffer a .. | .createRollapp a .. | .registerAlias a .. | .sellAlias a .. | .cancelSellAlias a ..
  | .completeAlias a .. | .buyAlias a .. | .offerAlias a .. | .transferRollapp a .. => a
  | .advance _ | .trading .. | .setChainAliases _ | .migrateChainIds _ | .updateAliases .. | .setParams .. => 0

/-- every way an accepted operation can rewrite the record `d` of name `n`, with the facts that
    authorise it -/
inductive NameChange (s : State) (n : Name) (d : DymName) : Op → DymName → Prop
  /-- the owner extends an unexpired name: only expiry (and optionally contact) change -/
  | extend (dur pay c : Nat) : d.expired s.now = false →
      NameChange s n d (.register d.owner n dur pay c)
        { d with expireAt := d.expireAt + yearSeconds * dur, contact := if c ≠ 0 then c else d.contact }
  /-- the owner renews an expired name (any time, also inside the grace period) -/
  | renew (dur pay c : Nat) : d.expired s.now = true →
      NameChange s n d (.register d.owner n dur pay c)
        { owner := d.owner, controller := d.owner, expireAt := s.now + yearSeconds * dur, configs := [], contact := c }
  /-- somebody else takes the name over: only after expiry plus the grace period -/
  | takeOver (a : Acct) (dur pay c : Nat) : a ≠ d.owner → d.expired s.now = true → d.expireAt + s.p.grace ≤ s.now →
      NameChange s n d (.register a n dur pay c)
        { owner := a, controller := a, expireAt := s.now + yearSeconds * dur, configs := [], contact := c }
  | transfer (b : Acct) : d.expired s.now = false → AMap.get s.nameSO n = none → b ≠ d.owner →
      NameChange s n d (.transfer d.owner n b) (cleared b d.expireAt)
  | setController (c : Acct) : d.expired s.now = false →
      NameChange s n d (.setController d.owner n c) { d with controller := c }
  /-- address records: only the controller, only while unexpired; nothing else changes -/
  | updateResolve (ch : Chain) (e : Bool) (p : Path) (v : Option Addr) (cfgs : List Config) : d.expired s.now = false →
      ((∃ x, cfgs = upsertConfig d.configs ⟨ch, p, x⟩ ∧ (ch = 0 → x.hrp = 0)) ∨ cfgs = removeConfig d.configs ch p) →
      NameChange s n d (.updateResolve d.controller n ch e p v) { d with configs := cfgs }
  | updateDetails (c : ContactArg) (cl : Bool) (cfgs : List Config) (contact : Nat) : d.expired s.now = false →
      (cfgs = [] ∨ cfgs = d.configs) →
      NameChange s n d (.updateDetails d.controller n c cl) { d with configs := cfgs, contact := contact }
  /-- a bid that reaches the sell price of the open, unexpired sell order the owner placed -/
  | purchase (a : Acct) (offer : Nat) (so : SellOrder) : AMap.get s.nameSO n = some so → so.seller = d.owner →
      so.expired s.now = false → d.expired s.now = false → a ≠ d.owner →
      NameChange s n d (.buyName a n offer) (cleared a d.expireAt)
  /-- completion of a finished sell order by the owner or the highest bidder -/
  | complete (a : Acct) (so : SellOrder) (b : Bid) : AMap.get s.nameSO n = some so → so.seller = d.owner →
      so.bid = some b → d.expired s.now = false → (a = d.owner ∨ a = b.bidder) →
      NameChange s n d (.completeName a n) (cleared b.bidder d.expireAt)
  /-- the owner accepts a buy order -/
  | accept (pfx : Bool) (id m : Nat) (bo : BuyOrder) : AMap.get s.bos id = some bo → bo.isAlias = false → bo.asset = n →
      d.expired s.now = false → AMap.get s.nameSO n = none → bo.buyer ≠ d.owner →
      NameChange s n d (.acceptOffer d.owner pfx id m) (cleared bo.buyer d.expireAt)
  /-- governance (no signer): the chain-id migration rewrites the chain-ids of the address records of an
      unexpired name, and only when the rewritten identities are still pairwise distinct; paths,
      values, owner, controller, expiry and contact stay -/
  | migrate (m : List (Chain × Chain)) : d.expired s.now = false → ((d.configs.map (migConfig m)).map cid).Nodup →
      NameChange s n d (.migrateChainIds m) { d with configs := d.configs.map (migConfig m) }

theorem takeBidT_ns' (s : State) (o : Option Bid) (a : Acct) (x : Nat) : (takeBidT s o a x).ns = s.ns := by simp [takeBidT_ns]

section
variable (s : State) (n : Name) (d : DymName)

theorem getName_replaceNameT (m : Name) : getName (replaceNameT s n d) m = if m = n then some d else getName s m := by
  simp only [getName, replaceNameT, NameStore.get_setAfterBothT, pruneNameT_get]
  split <;> rfl

theorem getName_setName (m : Name) : getName (setName s n d) m = if m = n then some d else getName s m :=
  NameStore.get_set _ _ _ _

theorem getName_setConfigChangedT (m : Name) :
    getName { s with ns := s.ns.setConfigChangedT n d } m = if m = n then some d else getName s m :=
  NameStore.get_setConfigChangedT _ _ _ _

theorem getName_completeNameSOT (b : Bid) (m : Name) :
    getName (completeNameSOT s n d b) m = if m = n then some (cleared b.bidder d.expireAt) else getName s m := by
  simp only [getName, completeNameSOT, fromModuleT, NameStore.get_setAfterBothT, NameStore.get_beforeConfig,
    NameStore.get_beforeOwner, cleared]

theorem getName_bidStateN (so : SellOrder) (a : Acct) (offer : Nat) (m : Name) : getName (bidStateN s so a offer n) m = getName s m := by
  simp [getName, bidStateN, takeBidT_ns]

end

section
variable {s s' : State} {n : Name} {d : DymName} {op : Op}

/-- what an accepted operation does to the table of records: nothing; or (chain-id migration) every
    record goes through `migName`; or exactly one record `n ↦ d1` is written — over a record `d0` in
    one of the ways of `NameChange`, or, where there was none, as a fresh registration -/
def NamesEffect (s : State) (op : Op) (s' : State) : Prop :=
  (∀ k, getName s' k = getName s k) ∨
  (∃ m, op = .migrateChainIds m ∧ s' = migrateT s m) ∨
  ∃ n d1, (∀ k, getName s' k = if k = n then some d1 else getName s k) ∧
    ((∃ d0, getName s n = some d0 ∧ NameChange s n d0 op d1) ∨ (getName s n = none ∧ d1.configs = []))

theorem wrote {d0 d1 : DymName} (hget : ∀ k, getName s' k = if k = n then some d1 else getName s k)
    (hd0 : getName s n = some d0) (hch : NameChange s n d0 op d1) : NamesEffect s op s' :=
  Or.inr (Or.inr ⟨_, _, hget, Or.inl ⟨_, hd0, hch⟩⟩)

theorem exec_names (hI : Inv s) (h : exec s op = .ok s') : NamesEffect s op s' := by
  cases exec_step h with
  | registerPrune a m dur pay c hr _ _ hp =>
    refine Or.inr (Or.inr ⟨m, _, getName_replaceNameT _ _ _, ?_⟩)
    rw [regPlan_prune hp]
    cases hd : getName s m with
    | none => exact Or.inr ⟨rfl, rfl⟩
    | some d =>
      refine Or.inl ⟨d, rfl, ?_⟩
      by_cases ho : d.owner = a
      · subst ho
        by_cases he : d.expired s.now = true
        · exact NameChange.renew dur pay c he
        · simp [regPlan, hd, he] at hp
      · obtain ⟨he, hg⟩ := regAllowed_ok hr hd ho
        exact NameChange.takeOver a dur pay c (fun e => ho e.symm) he hg
  | registerExtend a m dur pay c _ _ hk =>
    obtain ⟨d0, hd0, ho, he, hrec⟩ := regPlan_keep hk
    subst ho
    rw [hrec]
    exact wrote (getName_setName _ _ _) hd0 (NameChange.extend dur pay c he)
  | transfer m b hd hne he hso => exact wrote (getName_replaceNameT _ _ _) hd (NameChange.transfer b he hso hne)
  | setController m c hd he => exact wrote (getName_setName _ _ _) hd (NameChange.setController c he)
  | resolveSet m ch e p x hd he hx =>
    exact wrote (getName_setConfigChangedT _ _ _) hd (NameChange.updateResolve ch e p _ _ he (Or.inl ⟨x, rfl, hx⟩))
  | resolveDelete m ch e p hd he =>
    exact wrote (getName_setConfigChangedT _ _ _) hd (NameChange.updateResolve ch e p _ _ he (Or.inr rfl))
  | updateDetailsClear m c cl cc hd he =>
    exact wrote (getName_setConfigChangedT _ _ _) hd (NameChange.updateDetails c cl [] cc he (Or.inl rfl))
  | @updateDetails d m c cl cc hd he =>
    exact wrote (getName_setName _ _ _) hd (NameChange.updateDetails c cl d.configs cc he (Or.inr rfl))
  | @completeSale d so b a m hd hso hb _ hp _ hne =>
    obtain ⟨d1, hd1, _, hsel, _⟩ := hI.so m so hso
    cases hd1.symm.trans hd
    exact wrote (getName_completeNameSOT _ _ _ _) hd
      (NameChange.complete a so b hso hsel hb (Bool.or_eq_false_iff.mp hne).2 (hp.imp Eq.symm Eq.symm))
  | @bidSale d so a m offer hd hne hso hv =>
    have hse := validatePurchase_ok hv
    obtain ⟨d1, hd1, hlt, hsel, _⟩ := hI.so m so hso
    cases hd1.symm.trans hd
    have he : d.expired s.now = false := by
      simp only [SellOrder.expired, DymName.expired, decide_eq_false_iff_not] at hse ⊢
      omega
    exact wrote (d1 := cleared a d.expireAt) (fun k => by rw [getName_completeNameSOT, getName_bidStateN]) hd
      (NameChange.purchase a offer so hso hsel hse he (fun e => hne e.symm))
  | bid => exact Or.inl (getName_bidStateN _ _ _ _ _)
  | acceptName pfx id hg hna hl hb hso =>
    obtain ⟨hd0, he⟩ := getNameLive_some hl
    exact wrote (getName_replaceNameT _ _ _) hd0 (NameChange.accept pfx id _ _ hg hna rfl he hso hb)
  | migrate m => exact Or.inr (Or.inl ⟨m, rfl, rfl⟩)
  | completeRefund | acceptAlias | counter => exact Or.inl fun _ => rfl
  | _ => exact Or.inl fun k => congrArg (NameStore.get · k) (exec_frames h).1

/-- **who can change what**: an accepted operation either leaves the record of a name as it is, or
    rewrites it in one of the ways listed by `NameChange` (each with its authorisation facts);
    a record is never deleted -/
theorem name_change (hI : Inv s) (h : exec s op = .ok s') (hd : getName s n = some d) :
    ∃ d', getName s' n = some d' ∧ (d' = d ∨ NameChange s n d op d') := by
  rcases exec_names hI h with hk | ⟨m, rfl, rfl⟩ | ⟨m, d1, hget, hw⟩
  · exact ⟨d, (hk n).trans hd, Or.inl rfl⟩
  · refine ⟨migName s.now m d, by rw [getName_migrateT, hd]; rfl, ?_⟩
    rcases migName_cases s.now m d with e | ⟨he, hn, e⟩
    · exact Or.inl e
    · rw [e]; exact Or.inr (NameChange.migrate m he hn)
  · by_cases hnm : n = m
    · subst hnm
      rcases hw with ⟨d0, hd0, hch⟩ | ⟨hnone, _⟩
      · cases hd.symm.trans hd0
        exact ⟨d1, by rw [hget, if_pos rfl], Or.inr hch⟩
      · rw [hd] at hnone; cases hnone
    · exact ⟨d, by rw [hget, if_neg hnm]; exact hd, Or.inl rfl⟩

/-- a record that appears for a name without one is a fresh registration: no address records -/
theorem name_created {d' : DymName} (hI : Inv s) (h : exec s op = .ok s') (hn : getName s n = none)
    (hd' : getName s' n = some d') : d'.configs = [] := by
  rcases exec_names hI h with hk | ⟨m, rfl, rfl⟩ | ⟨m, d1, hget, hw⟩
  · rw [hk, hn] at hd'; cases hd'
  · rw [getName_migrateT, hn] at hd'; cases hd'
  · rw [hget] at hd'
    split at hd'
    · rename_i e; subst e
      injection hd' with e; subst e
      rcases hw with ⟨d0, hd0, _⟩ | ⟨_, hc⟩
      · rw [hn] at hd0; cases hd0
      · exact hc
    · rw [hn] at hd'; cases hd'

end

end DymVerif.DymNS
