/-
  Lemmas/CoreCustody3 — custody through block processing, every operation and every run.
-/
import DymVerif.Lemmas.CoreCustody2
namespace DymVerif.Core

theorem markObsolete_cust {s s' : St} {au : Bool} {vs : List Nat} (h : Cust s)
    (e : markObsolete s au vs = .ok s') : Cust s' :=
  (markObsolete_ind e (fun _ => h.of_eq rfl rfl) (fun _ _ _ hb hf => hardForkToLatest_cust hb hf)).2.2

theorem beginBlock_cust {s : St} {dt : Nat} (h : Cust s) : Cust (beginBlock s dt) :=
  h.of_eq (beginBlock_seqs s dt).1 (beginBlock_seqs s dt).2

theorem finalizeOne_seqs {s s' : St} {fails : List (Nat × Nat)} {ra idx : Nat}
    (e : finalizeOne s fails ra idx = some s') : s'.seqs = s.seqs ∧ s'.modBal = s.modBal := by
  obtain ⟨_, _, r, st, _, _, _, rfl⟩ := finalizeOne_ok e
  exact ⟨rfl, rfl⟩

theorem finalizeAll_seqs (fails : List (Nat × Nat)) (es : List QEntry) (failed : List Nat) (s : St) :
    (finalizeAll s fails es failed).seqs = s.seqs ∧ (finalizeAll s fails es failed).modBal = s.modBal :=
  finalizeAll_ind (P := fun b => b.seqs = s.seqs ∧ b.modBal = s.modBal) fails
    (fun _ _ _ _ hb h1 => ⟨(finalizeOne_seqs h1).1.trans hb.1, (finalizeOne_seqs h1).2.trans hb.2⟩)
    (fun _ _ hb => hb) es failed s ⟨rfl, rfl⟩

theorem slashLiveness_cust {s s1 : St} {r : Rollapp} (h : Cust s) (e : slashLiveness s r = .ok s1) : Cust s1 := by
  rcases slashLiveness_ok e with ⟨_, rfl⟩ | ⟨a, q, s2, q2, _, hg, hsl, rfl⟩
  · exact h
  · have sp := slash_spec hsl
    exact h.setSeq_moved hg sp.1 (show q2.addr = a from sp.2.2.1.trans (getSeq_addr hg)) sp.2.1

theorem handleLivenessEvent_cust {s : St} {ra : Nat} (h : Cust s) : Cust (handleLivenessEvent s ra) := by
  rcases handleLivenessEvent_cases s ra with e | ⟨r, s1, r1, _, hs1, _, e⟩
  · rw [e]; exact h
  · rw [e]; unfold scheduleEvent
    exact (slashLiveness_cust h hs1).of_eq rfl rfl

theorem endBlock_cust {s : St} {fails : List (Nat × Nat)} (h : Cust s) : Cust (endBlock s fails) :=
  endBlock_ind fails h (fun _ _ _ _ hb h1 => hb.of_eq (finalizeOne_seqs h1).1 (finalizeOne_seqs h1).2)
    (fun _ _ hb => hb.of_eq rfl rfl) (fun _ _ hb => handleLivenessEvent_cust hb)

theorem apply_cust {s s' : St} {o : Op} (h : Cust s) (e : apply s o = .ok s') : Cust s' := by
  cases o with
  | createRollapp id owner mb => obtain ⟨_, rfl⟩ := apply_createRollapp_ok e; exact h.of_eq rfl rfl
  | bridge ra hh => obtain ⟨r, lh, _, _, _, _, _, rfl⟩ := apply_bridge_ok e; exact h.of_eq rfl rfl
  | fund a amt => simp only [apply] at e; injection e with e; subst e; exact h.of_eq rfl rfl
  | createSeq a ra b d => exact createSeq_cust h e
  | bondInc a amt d => exact increaseBond_cust h e
  | bondDec a amt => exact decreaseBond_cust h e
  | unbond a => exact unbond_cust h e
  | optIn a v => exact optIn_cust h e
  | kick a => exact kick_cust h e
  | update m => exact updateState_cust h e
  | fraud au ra hh rev p rw => exact fraud_cust h e
  | obsolete au vs => exact markObsolete_cust h e
  | punish au a rw => exact punish_cust h (punishProposal_ok e).2
  | transferOwner sg ra' no =>
    obtain ⟨r, hg, _, _, _, rfl⟩ := transferOwner_ok e
    exact h.of_eq rfl rfl
  | setSeqParams au sp =>
    obtain ⟨_, hnp, _, rfl⟩ := setSeqParams_ok e
    exact h.of_eq rfl rfl
  | begin_ dt => simp only [apply] at e; injection e with e; subst e; exact beginBlock_cust h
  | end_ f => simp only [apply] at e; injection e with e; subst e; exact endBlock_cust h

theorem step_cust {s : St} {o : Op} (h : Cust s) : Cust (step s o).1 := by
  unfold step
  split
  · rename_i s' e; exact apply_cust h e
  · exact h

theorem run_cust (p : Params) (ops : List Op) : Cust (run p ops) := by
  unfold run
  apply foldl_inv Cust
  · exact ⟨List.Pairwise.nil, rfl⟩
  · intro b o hb; exact step_cust hb

end DymVerif.Core
