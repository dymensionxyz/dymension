/-
  Lemmas/CoreFinEnd2 — `FinalizeAllPending` (finalizeAll) keeps the finalization invariant; at its end
  every due entry left in the queue belongs to a rollapp whose next pending index is in the failure
  oracle.
-/
import DymVerif.Lemmas.CoreFinEnd
namespace DymVerif.Core

-- ---------------------------------------------------------------- frames of finalizeEntry.go

theorem finalizeEntry_go_frame (fails : List (Nat × Nat)) (e : QEntry) (l : List Nat) (s : St) :
    (finalizeEntry.go fails e s l).1.p = s.p ∧ (finalizeEntry.go fails e s l).1.h = s.h :=
  finalizeEntry_go_ind (P := fun b => b.p = s.p ∧ b.h = s.h) fails
    (fun _ _ _ _ hb h1 => by obtain ⟨_, _, r, st, _, _, _, rfl⟩ := finalizeOne_ok h1; exact hb)
    (fun _ _ hb => hb) e l s ⟨rfl, rfl⟩

theorem finalizeEntry_go_getRa_other (fails : List (Nat × Nat)) (e : QEntry) (ra : Nat) (hne : e.ra ≠ ra) : ∀ (l : List Nat) (s : St),
    getRa (finalizeEntry.go fails e s l).1 ra = getRa s ra := by
  intro l
  induction l with
  | nil => intro s; unfold finalizeEntry.go; rfl
  | cons i tl ih =>
    intro s
    unfold finalizeEntry.go
    split
    · rename_i s1 h1
      obtain ⟨r, st, s0, hg, _, _, _, hfr, rfl⟩ := finalizeOne_some h1
      rw [ih, getRa_setRa_ne (by show r.id ≠ ra; rw [getRa_id hg]; exact hne)]
      unfold getRa; rw [hfr.ras]
    · rfl

-- ---------------------------------------------------------------- filter facts

theorem filter_map_id {α} (p : α → Bool) (f : α → α) (l : List α)
    (h : ∀ x ∈ l, p (f x) = p x ∧ (p x = true → f x = x)) : (l.map f).filter p = l.filter p := by
  induction l with
  | nil => rfl
  | cons x xs ih =>
    obtain ⟨h1, h2⟩ := h x (by simp)
    rw [List.map_cons, List.filter_cons, List.filter_cons, h1, ih (fun y hy => h y (by simp [hy]))]
    cases hp : p x with
    | false => simp
    | true => simp [h2 hp]

theorem filter_comm {α} (p q : α → Bool) (l : List α) : (l.filter p).filter q = (l.filter q).filter p := by
  rw [List.filter_filter, List.filter_filter]
  apply List.filter_congr
  intro x _; exact Bool.and_comm _ _

def dueP (fh : Nat) (failed : List Nat) (e : QEntry) : Bool := decide (e.ch ≤ fh) && !failed.contains e.ra

/-- the rollapps marked failed have their next pending index in the oracle -/
def FailedOK (fails : List (Nat × Nat)) (s : St) (failed : List Nat) : Prop :=
  ∀ ra ∈ failed, ∀ r, getRa s ra = some r → (ra, r.lastFin + 1) ∈ fails

theorem finalizeAll_cons (s : St) (fails : List (Nat × Nat)) (e : QEntry) (es : List QEntry) (failed : List Nat) :
    finalizeAll s fails (e :: es) failed =
      if failed.contains e.ra then finalizeAll s fails es failed else
        finalizeAll (finalizeEntry.go fails e s e.idx).1 fails es
          (if (finalizeEntry.go fails e s e.idx).2 then failed else e.ra :: failed) := by
  rw [finalizeAll]
  rfl

theorem finalizeAll_fin (fails : List (Nat × Nat)) (fh : Nat) : ∀ (es : List QEntry) (failed : List Nat) (s : St),
    FinInv s → fh + s.p.dispute ≤ s.h →
    es.filter (fun e => !failed.contains e.ra) = s.queue.filter (dueP fh failed) → FailedOK fails s failed →
    FinInv (finalizeAll s fails es failed) ∧
      ∃ failed', FailedOK fails (finalizeAll s fails es failed) failed' ∧
        (finalizeAll s fails es failed).queue.filter (dueP fh failed') = [] := by
  intro es
  induction es with
  | nil =>
    intro failed s hi _ heq hok
    unfold finalizeAll
    exact ⟨hi, failed, hok, by rw [← heq]; rfl⟩
  | cons e es ih =>
    intro failed s hi hfh heq hok
    rw [finalizeAll_cons]
    by_cases hc : failed.contains e.ra = true
    · rw [if_pos hc]
      apply ih failed s hi hfh _ hok
      rw [← heq, List.filter_cons, if_neg (by rw [hc]; simp)]
    · rw [if_neg hc]
      have hc' : failed.contains e.ra = false := by simpa using hc
      rw [List.filter_cons, if_pos (by rw [hc']; rfl)] at heq
      -- e is the first due entry of a non-failed rollapp
      have hemem : e ∈ s.queue.filter (dueP fh failed) := by rw [← heq]; simp
      obtain ⟨he, hedue⟩ := List.mem_filter.1 hemem
      have hech : e.ch ≤ fh := by unfold dueP at hedue; simp at hedue; exact hedue.1
      have hsf : QSorted (s.queue.filter (dueP fh failed)) := hi.sorted.filter _
      rw [← heq] at hsf
      have htl : ∀ y ∈ es.filter (fun e => !failed.contains e.ra), keyLt e y = true := hsf.head
      have hfirst : ∀ y ∈ s.queue, y.ra = e.ra → e.ch ≤ y.ch := by
        intro y hy hra
        by_cases hyd : y.ch ≤ fh
        · have : y ∈ s.queue.filter (dueP fh failed) := by
            apply List.mem_filter.2
            refine ⟨hy, ?_⟩
            unfold dueP; rw [hra, hc']; simp [hyd]
          rw [← heq] at this
          rcases List.mem_cons.1 this with h1 | h1
          · rw [h1]; exact Nat.le_refl _
          · have := htl y h1
            rw [keyLt_iff] at this; omega
        · omega
      obtain ⟨rest, h2, h3, hmid⟩ := MidInv.start hi he hfirst (by omega)
      obtain ⟨g1, g2, g3, g4⟩ := finalizeEntry_go_fin fails e rest e.idx s hmid h2 h3
      obtain ⟨gp, gh⟩ := finalizeEntry_go_frame fails e e.idx s
      have hKtl : ∀ y ∈ es.filter (fun e => !failed.contains e.ra), ¬ (y.ch = e.ch ∧ y.ra = e.ra) := by
        intro y hy hcc
        have := htl y hy
        rw [keyLt_iff] at this; omega
      have hothers : ∀ failed2, (∀ ra ∈ failed2, ra ∈ failed) → FailedOK fails (finalizeEntry.go fails e s e.idx).1 failed2 := by
        intro failed2 hsub ra hra r hg
        have hne : e.ra ≠ ra := by
          intro hx; subst hx
          have := hsub _ hra
          have : failed.contains e.ra = true := by simpa using this
          rw [hc'] at this; cases this
        rw [finalizeEntry_go_getRa_other fails e ra hne] at hg
        exact hok ra (hsub ra hra) r hg
      cases hres : (finalizeEntry.go fails e s e.idx).2 with
      | true =>
        simp only [if_true]
        apply ih failed _ g1 (by rw [gp, gh]; exact hfh) _ (hothers failed (fun _ h => h))
        rw [g3 hres]
        show _ = ((s.queue.filter (fun x => !(x.ch == e.ch && x.ra == e.ra))).filter (dueP fh failed))
        rw [filter_comm, ← heq, List.filter_cons, if_neg (by simp)]
        symm
        apply List.filter_eq_self.2
        intro y hy
        have := hKtl y hy
        simp only [Bool.not_eq_true', Bool.and_eq_false_iff, beq_eq_false_iff_ne]
        omega
      | false =>
        simp only [Bool.false_eq_true, if_false]
        obtain ⟨l', hq'⟩ := g4 hres
        have hdp : ∀ x : QEntry, dueP fh (e.ra :: failed) x = (dueP fh failed x && !(x.ra == e.ra)) := by
          intro x
          unfold dueP
          rw [List.contains_cons]
          cases decide (x.ch ≤ fh) <;> cases (x.ra == e.ra) <;> cases failed.contains x.ra <;> rfl
        apply ih (e.ra :: failed) _ g1 (by rw [gp, gh]; exact hfh)
        · rw [hq']
          unfold qRewrite
          rw [filter_map_id]
          · have e1 : s.queue.filter (dueP fh (e.ra :: failed)) =
                (s.queue.filter (dueP fh failed)).filter (fun x => !(x.ra == e.ra)) := by
              rw [List.filter_filter]
              apply List.filter_congr
              intro x _; rw [hdp x, Bool.and_comm]
            have e2 : es.filter (fun x => !(e.ra :: failed).contains x.ra) =
                (es.filter (fun x => !failed.contains x.ra)).filter (fun x => !(x.ra == e.ra)) := by
              rw [List.filter_filter]
              apply List.filter_congr
              intro x _
              rw [List.contains_cons]
              cases (x.ra == e.ra) <;> cases failed.contains x.ra <;> rfl
            rw [e1, e2, ← heq, List.filter_cons, if_neg (by simp)]
          · intro x _
            constructor
            · split
              · rfl
              · rfl
            · intro hp
              rw [hdp x] at hp
              have : ¬ x.ra = e.ra := by
                simp only [Bool.and_eq_true, Bool.not_eq_true', beq_eq_false_iff_ne] at hp
                exact hp.2
              simp [this]
        · intro ra hra r hg
          rcases List.mem_cons.1 hra with h1 | h1
          · subst h1; exact g2 hres r hg
          · exact hothers failed (fun _ h => h) ra h1 r hg

end DymVerif.Core
