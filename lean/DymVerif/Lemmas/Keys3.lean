/-
  Lemmas/Keys3 — `PrefixEndBytes` as "increment the last byte" (`incLast`), range scans over components
  joined by the maximal separator 0xFF, and the x/lockup keys: time / duration sub-keys, the shapes of
  `lockRefStoreKey` / `lkFamilyPrefix`, the bounds of the five iterators.
-/
import DymVerif.Lemmas.Keys2
namespace DymVerif.Keys
open DymVerif

/-! ### scans over keys joined with the maximal separator 0xFF (x/lockup) -/

/-- increment the last byte (what `PrefixEndBytes` does to a string that does not end in 0xFF) -/
def incLast : Bytes → Bytes
  | [] => []
  | [c] => [c + 1]
  | c :: c2 :: cs => c :: incLast (c2 :: cs)

theorem prefixEnd_snoc (q : Bytes) (d : Nat) (hd : d ≠ 255) : prefixEnd (q ++ [d]) = some (q ++ [d + 1]) := by
  simp [prefixEnd, List.reverse_append, hd]

theorem incLast_snoc (q : Bytes) (d : Nat) : incLast (q ++ [d]) = q ++ [d + 1] := by
  induction q with
  | nil => rfl
  | cons c cs ih =>
    cases cs with
    | nil => simp [incLast]
    | cons c2 cs => simpa [incLast] using ih

/-- incrementing the last byte of `a` gives the least upper bound of everything whose head (of the length
    of `a`) is `≤ a`: the comparison that makes `PrefixEndBytes` scans inclusive -/
theorem lexLt_incLast (a b r : Bytes) (hl : b.length = a.length) (hne : a ≠ []) :
    lexLt (b ++ r) (incLast a) = !(lexLt a b) := by
  induction a generalizing b with
  | nil => exact absurd rfl hne
  | cons c cs ih =>
    cases b with
    | nil => simp at hl
    | cons y ys =>
      rw [List.cons_append, lexLt_cons c y]
      cases cs with
      | nil =>
        have : ys = [] := List.length_eq_zero_iff.1 (by simpa using hl)
        subst this
        rw [incLast, lexLt_cons, lexLt_nil_right, lexLt_nil_right, Bool.and_false, Bool.and_false, Bool.or_false,
          Bool.or_false, ← decide_not]
        exact decide_eq_decide.2 (by omega)
      | cons c2 cs =>
        rw [incLast, lexLt_cons, ih ys (by simpa using hl) (by simp)]
        rcases Nat.lt_trichotomy c y with h | h | h
        · simp [h, Nat.lt_asymm h, Nat.ne_of_gt h]
        · simp [h]
        · simp [h, Nat.lt_asymm h, Nat.ne_of_lt h, Nat.ne_of_gt h]

theorem prefixEnd_incLast (P x : Bytes) (hne : x ≠ []) (hff : ∀ c ∈ x, c < 255) :
    prefixEnd (P ++ x) = some (P ++ incLast x) := by
  have e : x = x.dropLast ++ [x.getLast hne] := (List.dropLast_concat_getLast hne).symm
  have hl : x.getLast hne ≠ 255 := by
    have := hff _ (List.getLast_mem hne); omega
  rw [e, ← List.append_assoc, prefixEnd_snoc _ _ hl, incLast_snoc, List.append_assoc]

theorem incLast_append (P x : Bytes) (hne : x ≠ []) : incLast (P ++ x) = P ++ incLast x := by
  obtain ⟨q, d, rfl⟩ : ∃ q d, x = q ++ [d] := ⟨_, _, (List.dropLast_concat_getLast hne).symm⟩
  rw [← List.append_assoc, incLast_snoc, incLast_snoc, List.append_assoc]

/-- **range scans with the separator 0xFF**: for components without the byte 0xFF, the range
    `[x ++ FF ++ s, incLast x)` contains `x' ++ FF ++ r` exactly when `x' = x` and `s ≤ r`.  (Keys of
    a component that merely *extends* `x` sort below the start because 0xFF is the largest byte.) -/
theorem sepmax_range (x x' s r : Bytes) (hne : x ≠ []) (hx : ∀ c ∈ x, c < 255) (hx' : ∀ c ∈ x', c < 255) :
    inRange (x ++ 255 :: s) (incLast x) (x' ++ 255 :: r) = (decide (x' = x) && lexLe s r) := by
  induction x generalizing x' with
  | nil => exact absurd rfl hne
  | cons c cs ih =>
    have hc : c < 255 := hx c List.mem_cons_self
    cases cs with
    | nil =>
      simp only [List.cons_append, List.nil_append, incLast, inRange]
      cases x' with
      | nil =>
        rw [List.nil_append, lexLt_cons, lexLt_nil_right, decide_eq_false (by omega : ¬ 255 < c + 1)]
        simp
      | cons c' cs' =>
        rw [List.cons_append, lexLe_cons, lexLt_cons, lexLt_nil_right, Bool.and_false, Bool.or_false]
        rcases Nat.lt_trichotomy c c' with h | h | h
        · rw [decide_eq_false (by omega : ¬ c' < c + 1), Bool.and_false]
          simp [Nat.ne_of_gt h]
        · subst h
          cases cs' with
          | nil => simp [lexLe_cons]
          | cons d ds =>
            have hd : d < 255 := hx' d (List.mem_cons_of_mem _ List.mem_cons_self)
            simp [lexLe_cons, Nat.lt_asymm hd, Nat.ne_of_gt hd]
        · simp [Nat.lt_asymm h, Nat.ne_of_gt h, Nat.ne_of_lt h]
    | cons c2 cs =>
      cases x' with
      | nil =>
        rw [incLast, List.cons_append, List.nil_append, inRange_cons_eq, beq_false_of_ne (Nat.ne_of_lt hc)]
        simp
      | cons c' cs' =>
        show inRange (c :: ((c2 :: cs) ++ 255 :: s)) (c :: incLast (c2 :: cs)) (c' :: (cs' ++ 255 :: r)) = _
        rw [inRange_cons_eq,
          ih cs' (by simp) (fun y hy => hx y (List.mem_cons_of_mem _ hy)) fun y hy => hx' y (List.mem_cons_of_mem _ hy)]
        by_cases h : c = c'
        · subst h; simp
        · simp [h, Ne.symm h]

/-! ### lockup time / duration sub-keys -/

/-- in range, `getTimeKey(t)` is the fixed 9-byte header followed by the 29-byte formatted time -/
theorem lkTimeKey_eq (t : TimeF) (h : t.InRange) : lkTimeKey t = (5 :: be64 29) ++ fmtTime t := by
  simp [lkTimeKey, fmtTime_length t h]

theorem fmtTime_lt255 (t : TimeF) (h : t.InRange) : ∀ c ∈ fmtTime t, c < 255 := by
  intro c hc
  rw [fmtTime_eq t h] at hc
  simp only [List.mem_append, List.mem_singleton] at hc
  have dg : ∀ k n, c ∈ decN k n → c < 255 := fun k n hm => by have := decN_digit k n c hm; omega
  rcases hc with hc | hc | hc | hc | hc | hc | hc | hc | hc | hc | hc | hc | hc
  all_goals first | exact dg _ _ hc | (subst hc; decide)

theorem lkTimeKey_lt255 (t : TimeF) (h : t.InRange) : ∀ c ∈ lkTimeKey t, c < 255 := by
  intro c hc
  rw [lkTimeKey_eq t h] at hc
  simp only [List.cons_append, List.mem_cons, List.mem_append] at hc
  rcases hc with hc | hc | hc
  · subst hc; decide
  · have : ∀ x ∈ be64 29, x < 255 := by decide
    exact this c hc
  · exact fmtTime_lt255 t h c hc

theorem lkTimeKey_ne_nil (t : TimeF) : lkTimeKey t ≠ [] := by simp [lkTimeKey]

theorem fmtTime_ne_nil (t : TimeF) (h : t.InRange) : fmtTime t ≠ [] := fun e =>
  absurd (e ▸ fmtTime_length t h : ([] : Bytes).length = 29) (by decide)

/-- comparison against the incremented formatted time: `t`'s text (followed by anything) is below
    `incLast (fmtTime T)` exactly when `t ≤ T` -/
theorem fmtTime_tail_lt (T t : TimeF) (hT : T.InRange) (ht : t.InRange) (rest : Bytes) :
    lexLt (fmtTime t ++ rest) (incLast (fmtTime T)) = !(lexLt T.fields t.fields) := by
  rw [lexLt_incLast _ _ _ (by rw [fmtTime_length t ht, fmtTime_length T hT]) (fmtTime_ne_nil T hT),
    lexLt_fmtTime T t hT ht]

theorem timeKey_tail_lt (T t : TimeF) (hT : T.InRange) (ht : t.InRange) (rest : Bytes) :
    lexLt (lkTimeKey t ++ rest) (incLast (lkTimeKey T)) = !(lexLt T.fields t.fields) := by
  rw [lkTimeKey_eq T hT, lkTimeKey_eq t ht, incLast_append _ _ (fmtTime_ne_nil T hT), List.append_assoc,
    lexLt_append_left, fmtTime_tail_lt T t hT ht]

theorem lkDurationKey_eq (d : Int) (h : 0 ≤ d) : lkDurationKey d = 6 :: 255 :: be64 d.toNat := by
  have : ¬ d < 0 := by omega
  simp [lkDurationKey, combineKeys, this]

/-- comparison of duration sub-keys followed by anything -/
theorem durKey_tail_le (d d' : Int) (h0 : 0 ≤ d) (h0' : 0 ≤ d') (h : d < 2 ^ 64) (h' : d' < 2 ^ 64)
    (rest : Bytes) : lexLe (lkDurationKey d) (lkDurationKey d' ++ rest) = decide (d ≤ d') := by
  have e := lexLt_append_eqlen (be64 d'.toNat) (be64 d.toNat) rest [] (by rw [be64_length, be64_length])
  rw [List.append_nil, lexLt_nil_right, Bool.and_false, Bool.or_false] at e
  rw [lkDurationKey_eq d h0, lkDurationKey_eq d' h0', lexLe, List.cons_append, List.cons_append, lexLt_cons_self,
    lexLt_cons_self, e, lexLt_be64 _ _ (by omega) (by omega), ← decide_not]
  exact decide_eq_decide.2 (by omega)

/-- a duration sub-key is a prefix of another one followed by anything exactly when the durations agree -/
theorem durKey_isPrefix (d d' : Int) (h0 : 0 ≤ d) (h0' : 0 ≤ d') (h : d < 2 ^ 64) (h' : d' < 2 ^ 64)
    (rest : Bytes) : isPrefix (lkDurationKey d) (lkDurationKey d' ++ rest) = decide (d = d') := by
  rw [lkDurationKey_eq d h0, lkDurationKey_eq d' h0', eqlen_isPrefix _ _ _ (by simp [be64_length])]
  refine decide_eq_decide.2 ⟨fun e => ?_, fun e => e ▸ rfl⟩
  have := be64_inj _ _ (by omega) (by omega) (List.cons.inj (List.cons.inj e).2).2
  omega

/-! ### shapes of the lockup store keys, scan prefixes and iterator bounds

Normal form: the bare family prefix `lkFamilyPrefix u f []`, then the 0xFF-separated components. -/

theorem inRangeO_some (a b k : Bytes) : inRangeO a (some b) k = inRange a b k := rfl

theorem combineKeys_pair (p x : Bytes) : combineKeys [p, x] = (p ++ [255]) ++ x := rfl

theorem combineKeys_snoc (k : Bytes) (ks : List Bytes) (c : Bytes) :
    combineKeys (k :: ks ++ [c]) = (combineKeys (k :: ks) ++ [255]) ++ c := by
  induction ks generalizing k with
  | nil => rfl
  | cons k' ks ih =>
    simp only [List.cons_append, combineKeys, List.append_assoc] at ih ⊢
    rw [ih]

theorem lkFamilyPrefix_cons (u : Bool) (f : Nat) (c : Bytes) (cs : List Bytes) :
    lkFamilyPrefix u f (c :: cs) = lkFamilyPrefix u f [] ++ 255 :: combineKeys (c :: cs) := by
  simp only [lkFamilyPrefix, combineKeys, List.append_assoc, List.cons_append, List.nil_append, List.append_nil]

theorem prefixEnd_lkFamilyPrefix_snoc (u : Bool) (f : Nat) (comps : List Bytes) {dn : Bytes}
    (hne : dn ≠ []) (hd : ∀ c ∈ dn, c < 255) :
    prefixEnd (lkFamilyPrefix u f (comps ++ [dn])) = some ((lkFamilyPrefix u f comps ++ [255]) ++ incLast dn) := by
  rw [show lkFamilyPrefix u f (comps ++ [dn]) = (lkFamilyPrefix u f comps ++ [255]) ++ dn from
    combineKeys_snoc _ ([f] :: comps) dn, prefixEnd_incLast _ _ hne hd]

theorem lockRefStoreKey_family (u : Bool) (f : Nat) (ref : Bytes) (id : Nat) :
    lockRefStoreKey u (f :: 255 :: ref) id = lkFamilyPrefix u f [] ++ 255 :: (ref ++ 255 :: be64 id) := by
  simp only [lockRefStoreKey, lkFamilyPrefix, combineKeys, List.append_assoc, List.cons_append, List.nil_append,
    List.append_nil]

theorem noticeQueueRange_eq (T : TimeF) (hT : T.InRange) :
    noticeQueueRange T = (noticePeriodQueueKey, some (noticePeriodQueueKey ++ incLast (fmtTime T))) :=
  congrArg (Prod.mk _) (prefixEnd_incLast _ _ (fmtTime_ne_nil T hT) (fmtTime_lt255 T hT))

theorem iterBeforeTime_eq (pfx : Bytes) (T : TimeF) (hT : T.InRange) :
    iterBeforeTime pfx T = (pfx, some ((pfx ++ [255]) ++ incLast (lkTimeKey T))) := by
  rw [iterBeforeTime, combineKeys_pair, prefixEnd_incLast _ _ (lkTimeKey_ne_nil T) (lkTimeKey_lt255 T hT)]

theorem iterAfterTime_eq (pfx : Bytes) (T : TimeF) (hT : T.InRange) :
    iterAfterTime pfx T = ((pfx ++ [255]) ++ incLast (lkTimeKey T), prefixEnd pfx) := by
  rw [iterAfterTime, combineKeys_pair, prefixEnd_incLast _ _ (lkTimeKey_ne_nil T) (lkTimeKey_lt255 T hT)]; rfl

theorem iterLongerDuration_eq (pfx : Bytes) (d : Int) :
    iterLongerDuration pfx d = ((pfx ++ [255]) ++ lkDurationKey d, prefixEnd pfx) := rfl

theorem iterDuration_fst (pfx : Bytes) (d : Int) :
    (iterDuration pfx d).1 = (pfx ++ [255]) ++ lkDurationKey d := rfl

end DymVerif.Keys
