/-
  Lemmas/GenEqLC — tie 1 for M-LC (C09, and the light-client clause of C06): what translate/lc.go
  regenerates from /repo's working tree on every check (`Gen/LC.lean`) equals what `Model/LC.lean` was
  written against.
  * translated comparisons that must EQUAL the model's definitions (`…_eq`): CheckCompatibility (state
    root, optional timestamp, next-validators hash — in that order), IsCanonicalClientParamsValid
    (scalars, lengths, element loops over the candidate's lists), the height loop of
    ValidateStateInfoAgainstConsensusStates, the state-info loop of validClient and its break, the range
    ends of pruneSigners (StartExclusive / EndExclusive), `<= lastValidHeight` and `lastValidHeight-1` of
    RollbackCanonicalClient, `GetLatestHeight()+1` of AfterUpdateState, the sanity check of
    ResolveHardFork, the revision and foreign-sequencer comparisons of HandleMsgUpdateClient;
  * every function the model mirrors step by step must have exactly the statement skeleton recorded
    here (`…_skeleton`).
  uint64 arithmetic is translated as wrapping; the lemmas about `±1` carry the no-overflow side condition.
-/
import DymVerif.Gen.LC
import DymVerif.Model.LC
namespace DymVerif.GenEq.LC
open DymVerif DymVerif.LC

/-! ### translated comparisons -/

/-- `CheckCompatibility` (with `compareNextValHash`) is the model's `compat`: same three comparisons, same order -/
theorem checkCompatibility_eq : Gen.LC.checkCompatibility = LC.compat := by
  funext cs root ts q
  unfold Gen.LC.checkCompatibility Gen.LC.compareNextValHash LC.compat
  cases ts with
  | none =>
    by_cases h1 : cs.root = root <;> by_cases h3 : cs.nextVal = valHash q <;> simp [h1, h3]
  | some t =>
    by_cases h1 : cs.root = root <;> by_cases h2 : cs.ts = t <;> by_cases h3 : cs.nextVal = valHash q <;> simp [h1, h2, h3]

theorem idxLoop_eq (g e : List Nat) :
    Gen.LC.idxLoop g e (fun a b => a != b) = (match checkList g e with | .ok => none | r => some r) := by
  induction g generalizing e with
  | nil => simp [Gen.LC.idxLoop, checkList]
  | cons a as ih =>
    cases e with
    | nil => simp [Gen.LC.idxLoop, checkList]
    | cons b bs =>
      unfold Gen.LC.idxLoop checkList
      by_cases h : a = b
      · simp [h, ih]
      · simp [h]

/-- one guard `if … then bad`, on both sides -/
theorem guard_congr {c c' : Prop} [Decidable c] [Decidable c'] (hc : c ↔ c') {x : Option PRes} {y : PRes}
    (h : x = (match y with | .ok => none | r => some r)) :
    (if c then some PRes.bad else x) = (match (if c' then PRes.bad else y) with | .ok => none | r => some r) := by
  by_cases hc' : c'
  · rw [if_pos (hc.2 hc'), if_pos hc']
  · rw [if_neg (mt hc.1 hc'), if_neg hc']; exact h

/-- `IsCanonicalClientParamsValid` is the model's `paramsCheck` (none = `.ok`) -/
theorem paramsValid_eq (p : CParams) (frozen : Bool) :
    Gen.LC.paramsValid p frozen = (match LC.paramsCheck p frozen with | .ok => none | r => some r) := by
  unfold Gen.LC.paramsValid LC.paramsCheck
  have hf : (fun (proofSpec e : Nat) => (!(proofSpec == e)) || (!(proofSpec == e))) = (fun a b => a != b) := by
    funext a b; simp [bne]
  rw [hf, idxLoop_eq, idxLoop_eq]
  refine guard_congr Iff.rfl (guard_congr Iff.rfl (guard_congr Iff.rfl (guard_congr Iff.rfl
    (guard_congr (by cases frozen <;> simp) (guard_congr Iff.rfl ?_)))))
  cases checkList p.specs expSpecs with
  | ok => exact guard_congr Iff.rfl (by cases checkList p.path expPath <;> rfl)
  | _ => rfl

/-- the heights `ValidateStateInfoAgainstConsensusStates` visits are the model's `heightsOf` -/
theorem stateInfoHeights_eq (st : Core.SInfo) : Gen.LC.stateInfoHeights st.start st.last = heightsOf st := rfl

/-- the break of `validClient` is the model's `st.start < base` -/
theorem validLoop_cons (s : St) (cl : Client) (ra base : Nat) (st : Core.SInfo) (rest : List Core.SInfo) (m : Bool) :
    validLoop s cl ra base (st :: rest) m =
      (match validateStateInfo s cl ra st with
       | (_, some e) => (false, some e)
       | (m1, none) =>
         if Gen.LC.validClientStops st.start base then (m || m1, none) else validLoop s cl ra base rest (m || m1)) := by
  rw [validLoop]
  unfold Gen.LC.validClientStops
  generalize validateStateInfo s cl ra st = v
  rcases v with ⟨m1, _ | e⟩
  · by_cases h : st.start < base <;> simp [h]
  · rfl

theorem range_filterMap_getElem? (l : List α) (n : Nat) : (List.range n).filterMap (fun i => l[i]?) = l.take n := by
  induction n with
  | zero => simp
  | succ n ih =>
    rw [List.range_succ, List.filterMap_append, ih, List.take_add_one]
    cases h : l[n]? <;> simp [h]

theorem range_getElem? (l : List α) : (List.range l.length).filterMap (fun i => l[i]?) = l := by
  rw [range_filterMap_getElem?, List.take_length]

/-- `validClient` walks the state infos from index `Index` down to 1 (`GetStateInfo(i)` = `states[i-1]`):
    the model's `states.reverse` -/
theorem validClientIndices_eq (l : List α) :
    (Gen.LC.validClientIndices l.length).filterMap (fun i => l[i - 1]?) = l.reverse := by
  unfold Gen.LC.validClientIndices
  rw [List.filterMap_reverse, List.filterMap_map]
  congr 1
  exact range_getElem? l

/-- `pruneSigners`: `PruneSignersAbove` removes the heights strictly above, `PruneSignersBelow` strictly below -/
theorem pruneAbove_eq (s : St) (c h : Nat) :
    pruneAbove s c h = pruneWhere s c (Gen.LC.pruneRange Gen.LC.pruneAboveFlag h) := rfl
theorem pruneBelow_eq (s : St) (c h : Nat) :
    pruneBelow s c h = pruneWhere s c (Gen.LC.pruneRange Gen.LC.pruneBelowFlag h) := rfl

/-- `RollbackCanonicalClient` keeps the consensus states at or below the last valid height -/
theorem rollbackKeeps_eq (lv : Nat) :
    (fun (x : Nat × Cons) => decide (x.1 ≤ lv)) = (fun x => Gen.LC.rollbackKeeps x.1 lv) := rfl

/-- … and prunes the signers above `lastValidHeight - 1` (uint64: for a last valid height ≥ 1) -/
theorem rollbackPruneAbove_eq (lv : Nat) (h1 : 1 ≤ lv) (h2 : lv < 2 ^ 64) : Gen.LC.rollbackPruneAbove lv = lv - 1 := by
  unfold Gen.LC.rollbackPruneAbove; omega
example : (1 : Nat) ≤ 5 ∧ 5 < 2 ^ 64 := by decide +kernel

theorem rollbackClient_eq (s : St) (ra lv c : Nat) (cl : Client) (h1 : 1 ≤ lv) (h2 : lv < 2 ^ 64) :
    rollbackClient s ra lv c cl =
      (match (cl.cons.filter (fun x => Gen.LC.rollbackKeeps x.1 lv)).getLast? with
       | none => (s, some .forkNoCons)
       | some l =>
         (pruneAbove { (setClient s { cl with cons := cl.cons.filter (fun x => Gen.LC.rollbackKeeps x.1 lv), latest := l.1, frozen := true })
                       with descs := (setClient s { cl with cons := cl.cons.filter (fun x => Gen.LC.rollbackKeeps x.1 lv), latest := l.1, frozen := true }).descs.filter
                                       (fun d => !(d.ra == ra && lv < d.h)) } c (Gen.LC.rollbackPruneAbove lv), none)) := by
  rw [rollbackPruneAbove_eq lv h1 h2]; rfl

/-- `AfterUpdateState` prunes the signers below `GetLatestHeight()+1` -/
theorem afterUpdatePruneBelow_eq (latest : Nat) (h : latest + 1 < 2 ^ 64) : Gen.LC.afterUpdatePruneBelow latest = latest + 1 := by
  unfold Gen.LC.afterUpdatePruneBelow; omega
example : (7 : Nat) + 1 < 2 ^ 64 := by decide +kernel

theorem validateNew_eq (s : St) (ra : Nat) (st : Core.SInfo) (c : Nat) (cl : Client) (h : st.last + 1 < 2 ^ 64) :
    validateNew s ra st c cl =
      (match validateStateInfo s cl ra st with
       | (_, some e) => (s, some e)
       | (_, none) => (pruneBelow s c (Gen.LC.afterUpdatePruneBelow st.last), none)) := by
  rw [afterUpdatePruneBelow_eq _ h]; rfl

/-- the sanity check of `ResolveHardFork` -/
theorem resolveFork_refuses (s : St) (ra : Nat) (st : Core.SInfo) (cl : Client)
    (h : Gen.LC.resolveRefuses st.start cl.latest = true) : resolveFork s ra st cl = (s, some .resolveHeight) := by
  unfold Gen.LC.resolveRefuses at h
  unfold resolveFork
  simp only [decide_eq_true_eq] at h
  simp [h]
example : Gen.LC.resolveRefuses 3 3 = true := by decide +kernel

/-- the two comparisons of `HandleMsgUpdateClient` the model's `handleUpdate` / `foreignSeq` repeat -/
theorem revisionMismatch_eq (a b : Nat) : Gen.LC.revisionMismatch a b = (a != b) := rfl
theorem foreignSeq_eq (s : St) (c : Nat) (q : Core.Seq) :
    foreignSeq s c q = (match lookup s.c2r c with
      | some r => Gen.LC.foreignSequencer true q.rollapp r
      | none => false) := rfl

/-! ### the translated comparisons on concrete inputs -/

example : Gen.LC.checkCompatibility ⟨1, 2, 3⟩ 1 (some 2) 2 = none := by decide +kernel
example : Gen.LC.checkCompatibility ⟨1, 2, 3⟩ 9 (some 9) 9 = some .root := by decide +kernel
example : Gen.LC.checkCompatibility ⟨1, 2, 3⟩ 1 (some 9) 9 = some .ts := by decide +kernel
example : Gen.LC.checkCompatibility ⟨1, 2, 3⟩ 1 none 9 = some .nextVal := by decide +kernel
example : Gen.LC.paramsValid expParams false = none := by decide +kernel
example : Gen.LC.paramsValid expParams true = some .bad := by decide +kernel
example : Gen.LC.paramsValid { expParams with specs := [1] } false = some .bad := by decide +kernel
example : Gen.LC.paramsValid { expParams with path := [1, 2, 3] } false = some .bad := by decide +kernel
example : Gen.LC.paramsValid { expParams with path := [1, 3] } false = some .bad := by decide +kernel
example : Gen.LC.stateInfoHeights 4 6 = [4, 5, 6] := by decide +kernel
example : Gen.LC.validClientIndices 3 = [3, 2, 1] := by decide +kernel
example : Gen.LC.pruneRange Gen.LC.pruneAboveFlag 5 6 = true ∧ Gen.LC.pruneRange Gen.LC.pruneAboveFlag 5 5 = false ∧
    Gen.LC.pruneRange Gen.LC.pruneBelowFlag 5 4 = true ∧ Gen.LC.pruneRange Gen.LC.pruneBelowFlag 5 5 = false := by decide +kernel

/-! ### statement skeletons -/

/-- `CheckCompatibility` (x/lightclient/types) as mirrored by the model -/
theorem checkCompatibility_skeleton : Gen.LC.checkCompatibilitySk =
  ["if !bytes.Equal(ibcState.Root.GetHash(), raState.BlockDescriptor.StateRoot) {",
   "return wrap(ErrStateRootMismatch)",
   "}",
   "if !raState.BlockDescriptor.Timestamp.IsZero() && !ibcState.Timestamp.Equal(raState.BlockDescriptor.Timestamp) {",
   "return wrap(ErrTimestampMismatch)",
   "}",
   "if err := compareNextValHash(ibcState, raState); err != nil {",
   "return wrap(err)",
   "}",
   "return nil"] := rfl

/-- `compareNextValHash` (x/lightclient/types) as mirrored by the model -/
theorem compareNextValHash_skeleton : Gen.LC.compareNextValHashSk =
  ["hash, err := raState.NextBlockSequencer.ValsetHash()",
   "if err != nil {",
   "return errors.Join(err, wrap(gerrc.ErrInternal))",
   "}",
   "if !bytes.Equal(ibcState.NextValidatorsHash, hash) {",
   "return ErrNextValHashMismatch",
   "}",
   "return nil"] := rfl

/-- `IsCanonicalClientParamsValid` (x/lightclient/types) as mirrored by the model -/
theorem isCanonicalClientParamsValid_skeleton : Gen.LC.isCanonicalClientParamsValid =
  ["if got.TrustLevel != expect.TrustLevel {",
   "return errors.New(…)",
   "}",
   "if got.TrustingPeriod != expect.TrustingPeriod {",
   "return errors.New(…)",
   "}",
   "if got.UnbondingPeriod != expect.UnbondingPeriod {",
   "return fmt.Errorf()",
   "}",
   "if got.MaxClockDrift != expect.MaxClockDrift {",
   "return errors.New(…)",
   "}",
   "if got.FrozenHeight != expect.FrozenHeight {",
   "return errors.New(…)",
   "}",
   "if len(got.ProofSpecs) != len(expect.ProofSpecs) {",
   "return errors.New(…)",
   "}",
   "range got.ProofSpecs as i, proofSpec {",
   "if !proofSpec.SpecEquals(expect.ProofSpecs[i]) {",
   "return errors.New(…)",
   "}",
   "if !EqualICS23ProofSpecs(*proofSpec, *expect.ProofSpecs[i]) {",
   "return errors.New(…)",
   "}",
   "}",
   "if len(got.UpgradePath) != len(expect.UpgradePath) {",
   "return errors.New(…)",
   "}",
   "range got.UpgradePath as i, path {",
   "if path != expect.UpgradePath[i] {",
   "return errors.New(…)",
   "}",
   "}",
   "return nil"] := rfl

/-- `EqualICS23ProofSpecs` (x/lightclient/types) as mirrored by the model -/
theorem equalICS23ProofSpecs_skeleton : Gen.LC.equalICS23ProofSpecs =
  ["if proofSpecs1.MaxDepth != proofSpecs2.MaxDepth {",
   "return false",
   "}",
   "if proofSpecs1.MinDepth != proofSpecs2.MinDepth {",
   "return false",
   "}",
   "if proofSpecs1.PrehashKeyBeforeComparison != proofSpecs2.PrehashKeyBeforeComparison {",
   "return false",
   "}",
   "if proofSpecs1.LeafSpec.Hash != proofSpecs2.LeafSpec.Hash {",
   "return false",
   "}",
   "if proofSpecs1.LeafSpec.PrehashKey != proofSpecs2.LeafSpec.PrehashKey {",
   "return false",
   "}",
   "if proofSpecs1.LeafSpec.PrehashValue != proofSpecs2.LeafSpec.PrehashValue {",
   "return false",
   "}",
   "if proofSpecs1.LeafSpec.Length != proofSpecs2.LeafSpec.Length {",
   "return false",
   "}",
   "if !bytes.Equal(proofSpecs1.LeafSpec.Prefix, proofSpecs2.LeafSpec.Prefix) {",
   "return false",
   "}",
   "if len(proofSpecs1.InnerSpec.ChildOrder) != len(proofSpecs2.InnerSpec.ChildOrder) {",
   "return false",
   "}",
   "if !slices.Equal(proofSpecs1.InnerSpec.ChildOrder, proofSpecs2.InnerSpec.ChildOrder) {",
   "return false",
   "}",
   "if proofSpecs1.InnerSpec.ChildSize != proofSpecs2.InnerSpec.ChildSize {",
   "return false",
   "}",
   "if proofSpecs1.InnerSpec.MinPrefixLength != proofSpecs2.InnerSpec.MinPrefixLength {",
   "return false",
   "}",
   "if proofSpecs1.InnerSpec.MaxPrefixLength != proofSpecs2.InnerSpec.MaxPrefixLength {",
   "return false",
   "}",
   "if !bytes.Equal(proofSpecs1.InnerSpec.EmptyChild, proofSpecs2.InnerSpec.EmptyChild) {",
   "return false",
   "}",
   "if proofSpecs1.InnerSpec.Hash != proofSpecs2.InnerSpec.Hash {",
   "return false",
   "}",
   "return true"] := rfl

/-- `ExpectedCanonicalClientParams` (x/lightclient/types) as mirrored by the model -/
theorem expectedCanonicalClientParams_skeleton : Gen.LC.expectedCanonicalClientParams =
  ["return ibctm.ClientState{TrustLevel: ibctm.NewFractionFromTm(math.Fraction{Numerator: 1, Denominator: 3}), TrustingPeriod: expectedTrustPeriod(rollappUnbondingPeriod), UnbondingPeriod: rollappUnbondingPeriod, MaxClockDrift: time.Minute * 70, FrozenHeight: ibcclienttypes.ZeroHeight(), ProofSpecs: commitmenttypes.GetSDKSpecs(), UpgradePath: []string{\"upgrade\", \"upgradedIBCState\"}}"] := rfl

/-- `DefaultExpectedCanonicalClientParams` (x/lightclient/types) as mirrored by the model -/
theorem defaultExpectedCanonicalClientParams_skeleton : Gen.LC.defaultExpectedCanonicalClientParams =
  ["unbondingTime := time.Hour * 24 * 7 * 3",
   "return ExpectedCanonicalClientParams(unbondingTime)"] := rfl

/-- `expectedTrustPeriod` (x/lightclient/types) as mirrored by the model -/
theorem expectedTrustPeriod_skeleton : Gen.LC.expectedTrustPeriod =
  ["temp := unbondingPeriod / 100 * trustPeriodMultiplier",
   "return temp.Truncate(time.Second)"] := rfl

/-- `Keeper.TrySetCanonicalClient` (x/lightclient/keeper) as mirrored by the model -/
theorem trySetCanonicalClient_skeleton : Gen.LC.trySetCanonicalClient =
  ["clientStateI, ok := k.ibcClientKeeper.GetClientState(ctx, clientID)",
   "if !ok {",
   "return wrap(gerrc.ErrNotFound)",
   "}",
   "clientState, ok := clientStateI.(*ibctm.ClientState)",
   "if !ok {",
   "return wrap(gerrc.ErrInvalidArgument)",
   "}",
   "chainID := clientState.ChainId",
   "_, ok = k.rollappKeeper.GetRollapp(ctx, chainID)",
   "if !ok {",
   "return wrap(gerrc.ErrNotFound)",
   "}",
   "rollappID := chainID",
   "_, ok = k.GetCanonicalClient(ctx, rollappID)",
   "if ok {",
   "return wrap(gerrc.ErrAlreadyExists)",
   "}",
   "err := k.validClient(ctx, clientID, clientState, rollappID)",
   "if err != nil {",
   "return wrap(err)",
   "}",
   "call k.SetCanonicalClient(ctx, rollappID, clientID)",
   "return nil"] := rfl

/-- `Keeper.GetCanonicalClient` (x/lightclient/keeper) as mirrored by the model -/
theorem getCanonicalClient_skeleton : Gen.LC.getCanonicalClient =
  ["store := ctx.KVStore(k.storeKey)",
   "bz := store.Get(types.GetRollappClientKey(rollappId))",
   "if bz == nil {",
   "return \"\", false",
   "}",
   "return string(bz), true"] := rfl

/-- `Keeper.SetCanonicalClient` (x/lightclient/keeper) as mirrored by the model -/
theorem setCanonicalClient_skeleton : Gen.LC.setCanonicalClient =
  ["store := ctx.KVStore(k.storeKey)",
   "call store.Set(types.GetRollappClientKey(rollappId), []byte(clientID))",
   "call store.Set(types.CanonicalClientKey(clientID), []byte(rollappId))"] := rfl

/-- `Keeper.GetRollappForClientID` (x/lightclient/keeper) as mirrored by the model -/
theorem getRollappForClientID_skeleton : Gen.LC.getRollappForClientID =
  ["store := ctx.KVStore(k.storeKey)",
   "bz := store.Get(types.CanonicalClientKey(clientID))",
   "if bz == nil {",
   "return \"\", false",
   "}",
   "return string(bz), true"] := rfl

/-- `Keeper.expectedClient` (x/lightclient/keeper) as mirrored by the model -/
theorem expectedClient_skeleton : Gen.LC.expectedClient =
  ["return types.DefaultExpectedCanonicalClientParams()"] := rfl

/-- `Keeper.validClient` (x/lightclient/keeper) as mirrored by the model -/
theorem validClient_skeleton : Gen.LC.validClient =
  ["expClient := k.expectedClient()",
   "if err := types.IsCanonicalClientParamsValid(cs, &expClient); err != nil {",
   "return errors.Join(err, ErrParamsMismatch)",
   "}",
   "sinfo, ok := k.rollappKeeper.GetLatestStateInfoIndex(ctx, rollappId)",
   "if !ok {",
   "return wrap(gerrc.ErrNotFound)",
   "}",
   "baseHeight := k.GetFirstConsensusStateHeight(ctx, clientID)",
   "atLeastOneMatch := false",
   "for i := sinfo.Index; i > 0; i-- {",
   "sInfo, ok := k.rollappKeeper.GetStateInfo(ctx, rollappId, i)",
   "if !ok {",
   "return wrap(gerrc.ErrInternal)",
   "}",
   "matched, err := k.ValidateStateInfoAgainstConsensusStates(ctx, clientID, &sInfo)",
   "if err != nil {",
   "return errors.Join(ErrMismatch, err)",
   "}",
   "if matched {",
   "atLeastOneMatch = true",
   "}",
   "if sInfo.StartHeight < baseHeight {",
   "break",
   "}",
   "}",
   "if !atLeastOneMatch {",
   "return ErrNoMatch",
   "}",
   "return nil"] := rfl

/-- `Keeper.ValidateHeaderAgainstStateInfo` (x/lightclient/keeper) as mirrored by the model -/
theorem validateHeaderAgainstStateInfo_skeleton : Gen.LC.validateHeaderAgainstStateInfo =
  ["bd, ok := sInfo.GetBlockDescriptor(h)",
   "if !ok {",
   "return wrap(gerrc.ErrInternal)",
   "}",
   "nextSeq, err := k.SeqK.RealSequencer(ctx, sInfo.NextSequencerForHeight(h))",
   "if err != nil {",
   "return wrap(errors.Join(err, gerrc.ErrInternal))",
   "}",
   "rollappState := types.RollappState{BlockDescriptor: bd, NextBlockSequencer: nextSeq}",
   "return wrap(types.CheckCompatibility(*consState, rollappState))"] := rfl

/-- `Keeper.ValidateStateInfoAgainstConsensusStates` (x/lightclient/keeper) as mirrored by the model -/
theorem validateStateInfoAgainstConsensusStates_skeleton : Gen.LC.validateStateInfoAgainstConsensusStates =
  ["atLeastOneMatch := false",
   "for h := stateInfo.GetStartHeight(); h <= stateInfo.GetLatestHeight(); h++ {",
   "got, ok := k.getConsensusState(ctx, client, h)",
   "if !ok {",
   "continue",
   "}",
   "err := k.ValidateHeaderAgainstStateInfo(ctx, stateInfo, got, h)",
   "if err != nil {",
   "return false, wrap(err)",
   "}",
   "atLeastOneMatch = true",
   "}",
   "return atLeastOneMatch, nil"] := rfl

/-- `Keeper.getConsensusState` (x/lightclient/keeper) as mirrored by the model -/
theorem getConsensusState_skeleton : Gen.LC.getConsensusState =
  ["cs, _ := k.ibcClientKeeper.GetClientState(ctx, client)",
   "height := ibcclienttypes.NewHeight(cs.GetLatestHeight().GetRevisionNumber(), h)",
   "consensusState, ok := k.ibcClientKeeper.GetClientConsensusState(ctx, client, height)",
   "if !ok {",
   "return nil, false",
   "}",
   "tmConsensusState, ok := consensusState.(*ibctm.ConsensusState)",
   "if !ok {",
   "return nil, false",
   "}",
   "return tmConsensusState, true"] := rfl

/-- `Keeper.GetFirstConsensusStateHeight` (x/lightclient/keeper) as mirrored by the model -/
theorem getFirstConsensusStateHeight_skeleton : Gen.LC.getFirstConsensusStateHeight =
  ["call ibctm.IterateConsensusStateAscending(k.ibcClientKeeper.ClientStore(ctx, clientID), func)",
   "{",
   "first = height.GetRevisionHeight()",
   "return true",
   "}",
   "return first"] := rfl

/-- `rollappHook.AfterUpdateState` (x/lightclient/keeper) as mirrored by the model -/
theorem afterUpdateState_skeleton : Gen.LC.afterUpdateState =
  ["if !hook.k.Enabled() {",
   "return nil",
   "}",
   "rollappID := stateInfoM.Rollapp",
   "stateInfo := &stateInfoM.StateInfo",
   "client, ok := hook.k.GetCanonicalClient(ctx, rollappID)",
   "if !ok {",
   "return nil",
   "}",
   "if hook.k.rollappKeeper.IsFirstHeightOfLatestFork(ctx, rollappID, stateInfoM.Revision, stateInfo.GetStartHeight()) {",
   "err := hook.k.ResolveHardFork(ctx, rollappID)",
   "if err != nil {",
   "return wrap(err)",
   "}",
   "return nil",
   "}",
   "_, err := hook.k.ValidateStateInfoAgainstConsensusStates(ctx, client, stateInfo)",
   "if err != nil {",
   "return wrap(err)",
   "}",
   "if err := hook.k.PruneSignersBelow(ctx, client, stateInfo.GetLatestHeight() + 1); err != nil {",
   "return wrap(err)",
   "}",
   "return nil"] := rfl

/-- `rollappHook.OnHardFork` (x/lightclient/keeper) as mirrored by the model -/
theorem onHardFork_skeleton : Gen.LC.onHardFork =
  ["return hook.k.RollbackCanonicalClient(ctx, rollappId, lastValidHeight)"] := rfl

/-- `Keeper.RollbackCanonicalClient` (x/lightclient/keeper) as mirrored by the model -/
theorem rollbackCanonicalClient_skeleton : Gen.LC.rollbackCanonicalClient =
  ["client, found := k.GetCanonicalClient(ctx, rollappId)",
   "if !found {",
   "return wrap(gerrc.ErrFailedPrecondition)",
   "}",
   "cs := k.ibcClientKeeper.ClientStore(ctx, client)",
   "call IterateConsensusStateDescending(cs, func)",
   "{",
   "if h.GetRevisionHeight() <= lastValidHeight {",
   "lastConsStateHeight = h",
   "return true",
   "}",
   "call deleteConsensusState(cs, h)",
   "call deleteConsensusMetadata(cs, h)",
   "return false",
   "}",
   "err := k.PruneSignersAbove(ctx, client, lastValidHeight - 1)",
   "if err != nil {",
   "return wrap(err)",
   "}",
   "if err := k.freezeClient(cs, lastConsStateHeight); err != nil {",
   "return wrap(err)",
   "}",
   "return nil"] := rfl

/-- `Keeper.ResolveHardFork` (x/lightclient/keeper) as mirrored by the model -/
theorem resolveHardFork_skeleton : Gen.LC.resolveHardFork =
  ["clientID, _ := k.GetCanonicalClient(ctx, rollappID)",
   "clientStore := k.ibcClientKeeper.ClientStore(ctx, clientID)",
   "stateinfo, _ := k.rollappKeeper.GetLatestStateInfo(ctx, rollappID)",
   "height := stateinfo.StartHeight",
   "client := getClientStateTM(clientStore, k.cdc)",
   "clientHeight := client.GetLatestHeight().GetRevisionHeight()",
   "if height <= clientHeight {",
   "return wrap(gerrc.ErrInternal)",
   "}",
   "bd := stateinfo.BDs.BD[0]",
   "nextSeq, err := k.SeqK.RealSequencer(ctx, stateinfo.NextSequencerForHeight(height))",
   "if err != nil {",
   "return wrap(err)",
   "}",
   "valHash, err := nextSeq.ValsetHash()",
   "if err != nil {",
   "return wrap(err)",
   "}",
   "cs := ibctm.ConsensusState{Timestamp: bd.Timestamp, Root: commitmenttypes.NewMerkleRoot(bd.StateRoot), NextValidatorsHash: valHash}",
   "call setConsensusState(clientStore, k.cdc, clienttypes.NewHeight(1, height), &cs)",
   "call setConsensusMetadata(ctx, clientStore, clienttypes.NewHeight(1, height))",
   "call k.unfreezeClient(clientStore, height)",
   "return nil"] := rfl

/-- `Keeper.freezeClient` (x/lightclient/keeper) as mirrored by the model -/
theorem freezeClient_skeleton : Gen.LC.freezeClient =
  ["tmClientState := getClientStateTM(clientStore, k.cdc)",
   "height, ok := heightI.(clienttypes.Height)",
   "if !ok {",
   "return wrap(gerrc.ErrInternal)",
   "}",
   "tmClientState.LatestHeight = height",
   "tmClientState.FrozenHeight = ibctm.FrozenHeight",
   "call setClientState(clientStore, k.cdc, tmClientState)",
   "return nil"] := rfl

/-- `Keeper.unfreezeClient` (x/lightclient/keeper) as mirrored by the model -/
theorem unfreezeClient_skeleton : Gen.LC.unfreezeClient =
  ["tmClientState := getClientStateTM(clientStore, k.cdc)",
   "tmClientState.FrozenHeight = clienttypes.ZeroHeight()",
   "tmClientState.LatestHeight = clienttypes.NewHeight(1, height)",
   "call setClientState(clientStore, k.cdc, tmClientState)"] := rfl

/-- `IterateConsensusStateDescending` (x/lightclient/keeper) as mirrored by the model -/
theorem iterateConsensusStateDescending_skeleton : Gen.LC.iterateConsensusStateDescending =
  ["iterator := storetypes.KVStoreReversePrefixIterator(clientStore, []byte(ibctm.KeyIterateConsensusStatePrefix))",
   "defer iterator.Close()",
   "for ; iterator.Valid(); iterator.Next() {",
   "iterKey := iterator.Key()",
   "height := ibctm.GetHeightFromIterationKey(iterKey)",
   "if cb(height) {",
   "break",
   "}",
   "}"] := rfl

/-- `IBCMessagesDecorator.AnteHandle` (x/lightclient/keeper) as mirrored by the model -/
theorem anteHandle_skeleton : Gen.LC.anteHandle =
  ["msgs := tx.GetMsgs()",
   "if err := checkedMsgsTravelWithIBCOnly(msgs); err != nil {",
   "return ctx, err",
   "}",
   "range msgs as _, m {",
   "switch msg := m.(type) {",
   "case *ibcclienttypes.MsgSubmitMisbehaviour:",
   "if err := i.HandleMsgSubmitMisbehaviour(ctx, msg); err != nil {",
   "return ctx, wrap(err)",
   "}",
   "case *ibcclienttypes.MsgUpdateClient:",
   "if err := i.HandleMsgUpdateClient(ctx, msg); err != nil {",
   "return ctx, wrap(err)",
   "}",
   "case *ibcchanneltypes.MsgChannelOpenAck:",
   "if err := i.HandleMsgChannelOpenAck(ctx, msg); err != nil {",
   "return ctx, wrap(err)",
   "}",
   "default:",
   "continue",
   "}",
   "}",
   "return next(ctx, tx, simulate)"] := rfl

/-- `checkedMsgsTravelWithIBCOnly` (x/lightclient/keeper) as mirrored by `Model/LCTx.mixedRefusal` -/
theorem checkedMsgsTravelWithIBCOnly_skeleton : Gen.LC.checkedMsgsTravelWithIBCOnly =
  ["checked := false",
   "onlyIBC := true",
   "range msgs as _, m {",
   "switch m.(type) {",
   "case *ibcclienttypes.MsgUpdateClient, *ibcclienttypes.MsgSubmitMisbehaviour, *ibcchanneltypes.MsgChannelOpenAck:",
   "checked = true",
   "}",
   "if !strings.HasPrefix(sdk.MsgTypeURL(m), \"/ibc.core.\") {",
   "onlyIBC = false",
   "}",
   "}",
   "if checked && !onlyIBC {",
   "return wrap(gerrc.ErrInvalidArgument)",
   "}",
   "return nil"] := rfl

/-- `IBCMessagesDecorator.HandleMsgUpdateClient` (x/lightclient/keeper) as mirrored by the model -/
theorem handleMsgUpdateClient_skeleton : Gen.LC.handleMsgUpdateClient =
  ["if !i.k.Enabled() {",
   "return nil",
   "}",
   "canonicalRollapp, canonical := i.k.GetRollappForClientID(ctx, msg.ClientId)",
   "header, err := getHeader(msg)",
   "if !canonical && errorsmod.IsOf(err, errIsMisbehaviour) {",
   "return nil",
   "}",
   "if errorsmod.IsOf(err, errNoHeader) {",
   "return nil",
   "}",
   "if err != nil {",
   "return wrap(err)",
   "}",
   "seq, err := i.getSequencer(ctx, header)",
   "err = wrap(err)",
   "if errorsmod.IsOf(err, errProposerMismatch) {",
   "return err",
   "}",
   "if errorsmod.IsOf(err, gerrc.ErrNotFound) {",
   "if !canonical {",
   "return nil",
   "}",
   "return wrap(gerrc.ErrInvalidArgument)",
   "}",
   "if err != nil {",
   "return err",
   "}",
   "if canonical && seq.RollappId != canonicalRollapp {",
   "return wrap(gerrc.ErrInvalidArgument)",
   "}",
   "if canonical {",
   "valHash, err := seq.ValsetHash()",
   "if err != nil {",
   "return wrap(errors.Join(err, gerrc.ErrInternal))",
   "}",
   "if !bytes.Equal(header.Header.ValidatorsHash, valHash) {",
   "return wrap(gerrc.ErrInvalidArgument)",
   "}",
   "}",
   "if !seq.Bonded() {",
   "return wrap(gerrc.ErrInvalidArgument)",
   "}",
   "rollapp, ok := i.raK.GetRollapp(ctx, seq.RollappId)",
   "if !ok {",
   "return wrap(gerrc.ErrInternal)",
   "}",
   "if header.Header.Version.App != rollapp.LatestRevision().Number {",
   "return wrap(gerrc.ErrFailedPrecondition)",
   "}",
   "h := header.GetHeight().GetRevisionHeight()",
   "sInfo, err := i.raK.FindStateInfoByHeight(ctx, rollapp.RollappId, h)",
   "if errorsmod.IsOf(err, gerrc.ErrNotFound) {",
   "err := i.k.SaveSigner(ctx, seq.Address, msg.ClientId, h)",
   "if err != nil {",
   "return wrap(err)",
   "}",
   "return nil",
   "}",
   "if err != nil {",
   "return wrap(err)",
   "}",
   "err = i.k.ValidateHeaderAgainstStateInfo(ctx, sInfo, header.ConsensusState(), h)",
   "if err != nil {",
   "return wrap(err)",
   "}",
   "return nil"] := rfl

/-- `IBCMessagesDecorator.getSequencer` (x/lightclient/keeper) as mirrored by the model -/
theorem getSequencer_skeleton : Gen.LC.getSequencer =
  ["proposerBySignature := header.ValidatorSet.Proposer.GetAddress()",
   "proposerByData := header.Header.ProposerAddress",
   "if !bytes.Equal(proposerBySignature, proposerByData) {",
   "return sequencertypes.Sequencer{}, errProposerMismatch",
   "}",
   "return i.k.SeqK.SequencerByDymintAddr(ctx, proposerByData)"] := rfl

/-- `getHeader` (x/lightclient/keeper) as mirrored by the model -/
theorem getHeader_skeleton : Gen.LC.getHeader =
  ["clientMessage, err := ibcclienttypes.UnpackClientMessage(msg.ClientMessage)",
   "if err != nil {",
   "return nil, wrap(err)",
   "}",
   "_, ok := clientMessage.(*ibctm.Misbehaviour)",
   "if ok {",
   "return nil, errIsMisbehaviour",
   "}",
   "header, ok := clientMessage.(*ibctm.Header)",
   "if !ok {",
   "return nil, errNoHeader",
   "}",
   "return header, nil"] := rfl

/-- `IBCMessagesDecorator.HandleMsgSubmitMisbehaviour` (x/lightclient/keeper) as mirrored by the model -/
theorem handleMsgSubmitMisbehaviour_skeleton : Gen.LC.handleMsgSubmitMisbehaviour =
  ["_, ok := i.k.GetRollappForClientID(ctx, msg.ClientId)",
   "if ok {",
   "return wrap(gerrc.ErrInvalidArgument)",
   "}",
   "return nil"] := rfl

/-- `IBCMessagesDecorator.HandleMsgChannelOpenAck` (x/lightclient/keeper) as mirrored by the model -/
theorem handleMsgChannelOpenAck_skeleton : Gen.LC.handleMsgChannelOpenAck =
  ["if msg.PortId != ibctransfertypes.PortID {",
   "return nil",
   "}",
   "_, connection, err := i.ibcChannelKeeper.GetChannelConnection(ctx, msg.PortId, msg.ChannelId)",
   "if err != nil {",
   "return err",
   "}",
   "rollappID, found := i.k.GetRollappForClientID(ctx, connection.GetClientID())",
   "if !found {",
   "return nil",
   "}",
   "rollapp, found := i.raK.GetRollapp(ctx, rollappID)",
   "if !found {",
   "return wrap(gerrc.ErrInternal)",
   "}",
   "if rollapp.ChannelId != \"\" {",
   "return wrap(gerrc.ErrFailedPrecondition)",
   "}",
   "rollapp.ChannelId = msg.ChannelId",
   "call i.raK.SetRollapp(ctx, rollapp)",
   "return nil"] := rfl

/-- `msgServer.UpdateClient` (x/lightclient/keeper) as mirrored by the model -/
theorem msgUpdateClient_skeleton : Gen.LC.msgUpdateClient =
  ["ctx := sdk.UnwrapSDKContext(goCtx)",
   "payload := msg.Inner",
   "d := NewIBCMessagesDecorator(*m.Keeper, m.ibcClientKeeper, m.ibcChannelK, m.rollappKeeper)",
   "err := d.HandleMsgUpdateClient(ctx, payload)",
   "if err != nil {",
   "return nil, err",
   "}",
   "return m.ibcKeeper.UpdateClient(ctx, payload)"] := rfl

/-- `msgServer.SetCanonicalClient` (x/lightclient/keeper) as mirrored by the model -/
theorem msgSetCanonicalClient_skeleton : Gen.LC.msgSetCanonicalClient =
  ["ctx := sdk.UnwrapSDKContext(goCtx)",
   "if err := m.Keeper.TrySetCanonicalClient(ctx, msg.ClientId); err != nil {",
   "return nil, err",
   "}",
   "return &types.MsgSetCanonicalClientResponse{}, nil"] := rfl

/-- `Keeper.CanUnbond` (x/lightclient/keeper) as mirrored by the model -/
theorem canUnbond_skeleton : Gen.LC.canUnbond =
  ["client, ok := k.GetCanonicalClient(ctx, seq.RollappId)",
   "if !ok {",
   "return nil",
   "}",
   "rng := collections.NewSuperPrefixedTripleRange[string, string, uint64](seq.Address, client)",
   "return k.headerSigners.Walk(ctx, rng, func)",
   "{",
   "return true, wrap(sequencertypes.ErrUnbondNotAllowed)",
   "}"] := rfl

/-- `Keeper.PruneSignersAbove` (x/lightclient/keeper) as mirrored by the model -/
theorem pruneSignersAbove_skeleton : Gen.LC.pruneSignersAbove =
  ["return k.pruneSigners(ctx, client, h, true)"] := rfl

/-- `Keeper.PruneSignersBelow` (x/lightclient/keeper) as mirrored by the model -/
theorem pruneSignersBelow_skeleton : Gen.LC.pruneSignersBelow =
  ["return k.pruneSigners(ctx, client, h, false)"] := rfl

/-- `Keeper.SaveSigner` (x/lightclient/keeper) as mirrored by the model -/
theorem saveSigner_skeleton : Gen.LC.saveSigner =
  ["return errors.Join(k.headerSigners.Set(ctx, collections.Join3(seqAddr, client, h)), k.clientHeightToSigner.Set(ctx, collections.Join(client, h), seqAddr))"] := rfl

/-- `Keeper.RemoveSigner` (x/lightclient/keeper) as mirrored by the model -/
theorem removeSigner_skeleton : Gen.LC.removeSigner =
  ["return errors.Join(k.headerSigners.Remove(ctx, collections.Join3(seqAddr, client, h)), k.clientHeightToSigner.Remove(ctx, collections.Join(client, h)))"] := rfl

/-- `Keeper.GetSigner` (x/lightclient/keeper) as mirrored by the model -/
theorem getSigner_skeleton : Gen.LC.getSigner =
  ["return k.clientHeightToSigner.Get(ctx, collections.Join(client, h))"] := rfl

/-- `Keeper.pruneSigners` (x/lightclient/keeper) as mirrored by the model -/
theorem pruneSigners_skeleton : Gen.LC.pruneSigners =
  ["if isAbove {",
   "rng = collections.NewPrefixedPairRange[string, uint64](client).StartExclusive(h)",
   "} else {",
   "rng = collections.NewPrefixedPairRange[string, uint64](client).EndExclusive(h)",
   "}",
   "seqs := make([]string, 0)",
   "heights := make([]uint64, 0)",
   "if err := k.clientHeightToSigner.Walk(ctx, rng, func); err != nil {",
   "{",
   "seqs = append(seqs, value)",
   "heights = append(heights, key.K2())",
   "return false, nil",
   "}",
   "return wrap(err)",
   "}",
   "for i := 0; i < len(seqs); i++ {",
   "if err := k.RemoveSigner(ctx, seqs[i], client, heights[i]); err != nil {",
   "return wrap(err)",
   "}",
   "}",
   "return nil"] := rfl

/-- `Keeper.HardFork` (x/rollapp/keeper/hard_fork.go) as mirrored by the model -/
theorem rollappHardFork_skeleton : Gen.LC.rollappHardFork =
  ["rollapp, found := k.GetRollapp(ctx, rollappID)",
   "if !found {",
   "return gerrc.ErrNotFound",
   "}",
   "if !k.ForkAllowed(ctx, rollappID, lastValidHeight) {",
   "return wrap(gerrc.ErrFailedPrecondition)",
   "}",
   "lastValidHeight, err := k.RevertPendingStates(ctx, rollappID, lastValidHeight + 1)",
   "if err != nil {",
   "return wrap(err)",
   "}",
   "newRevisionHeight := lastValidHeight + 1",
   "call rollapp.BumpRevision(newRevisionHeight)",
   "call k.ResetLivenessClock(ctx, &rollapp)",
   "call k.SetRollapp(ctx, rollapp)",
   "err = k.hooks.OnHardFork(ctx, rollappID, lastValidHeight)",
   "if err != nil {",
   "return wrap(err)",
   "}",
   "return nil"] := rfl


end DymVerif.GenEq.LC
