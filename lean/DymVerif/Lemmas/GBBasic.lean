/-
  Lemmas/GBBasic — bookkeeping lemmas about M-GB (core Lean only): record lookups under `setRa`, induction over
  `run`, predicates on every record (`AllRa`) and their preservation by `setRa` / append, and what `addBal` /
  `credit` do to the balance of one address (`credit_getBal`).
-/
import DymVerif.Model.GB
namespace DymVerif.GB

theorem vb_sealed (g : GInfo) (b : Bool) : ({ g with sealed := b } : GInfo).vb = g.vb := rfl
theorem emptyGI_vb : emptyGI.vb = none := by decide
theorem launchable_sealed (g : GInfo) (b : Bool) : ({ g with sealed := b } : GInfo).launchable = g.launchable := rfl

theorem getRa_mem {s : St} {i : Nat} {ra : Ra} (h : getRa s i = some ra) : ra ∈ s.ras ∧ ra.id = i := by
  unfold getRa at h
  refine ⟨List.mem_of_find?_eq_some h, ?_⟩
  have := List.find?_some h
  simpa using this

theorem getRa_of_ras {s s' : St} (e : s'.ras = s.ras) (i : Nat) : getRa s' i = getRa s i := by
  unfold getRa; rw [e]

theorem getRa_setRa_map (s : St) (x : Ra) (i : Nat) :
    getRa (setRa s x) i = (getRa s i).map (fun y => if y.id == x.id then x else y) := by
  unfold getRa setRa
  rw [List.find?_map]
  have hcomp : ((fun z : Ra => z.id == i) ∘ fun y : Ra => if (y.id == x.id) = true then x else y) = fun z : Ra => z.id == i := by
    funext y
    simp only [Function.comp]
    by_cases hy : (y.id == x.id) = true
    · simp only [hy, if_true]
      have : y.id = x.id := by simpa using hy
      rw [this]
    · simp [hy]
  rw [hcomp]

theorem getRa_setRa (s : St) (x : Ra) (i : Nat) :
    getRa (setRa s x) i = if i = x.id then (if (getRa s i).isSome then some x else none) else getRa s i := by
  rw [getRa_setRa_map]
  cases h : getRa s i with
  | none => simp
  | some ra =>
    have hid := (getRa_mem h).2
    by_cases hi : i = x.id
    · simp [hi, hid ▸ hi]
    · have : ¬ ra.id = x.id := by rw [hid]; exact hi
      simp [hi, this]

theorem getRa_setRa_self {s : St} {x ra : Ra} (h : getRa s x.id = some ra) : getRa (setRa s x) x.id = some x := by
  rw [getRa_setRa]; simp [h]

theorem getRa_setRa_ne (s : St) (x : Ra) {i : Nat} (h : i ≠ x.id) : getRa (setRa s x) i = getRa s i := by
  rw [getRa_setRa]; simp [h]

theorem mem_setRa {s : St} {x y : Ra} (h : y ∈ (setRa s x).ras) : y = x ∨ y ∈ s.ras := by
  unfold setRa at h
  simp only [List.mem_map] at h
  obtain ⟨z, hz, rfl⟩ := h
  by_cases c : z.id == x.id
  · simp [c]
  · simp [c, hz]

theorem setRa_chans (s : St) (x : Ra) : (setRa s x).chans = s.chans := rfl
theorem setRa_now (s : St) (x : Ra) : (setRa s x).now = s.now := rfl
theorem setRa_nextChan (s : St) (x : Ra) : (setRa s x).nextChan = s.nextChan := rfl

theorem run_induction {P : St → Prop} {s : St} (ops : List Op) (h0 : P s)
    (hs : ∀ s op, op ∈ ops → P s → P (step s op).1) : P (run s ops) := by
  induction ops generalizing s with
  | nil => exact h0
  | cons op ops ih =>
    exact ih (hs s op List.mem_cons_self h0) fun s o ho => hs s o (List.mem_cons_of_mem _ ho)

/-- a predicate on every registered rollapp -/
def AllRa (P : Ra → Prop) (s : St) : Prop := ∀ ra ∈ s.ras, P ra

theorem AllRa.setRa {P : Ra → Prop} {s : St} {x : Ra} (h : AllRa P s) (hx : P x) : AllRa P (setRa s x) := by
  intro y hy
  rcases mem_setRa hy with rfl | hm
  · exact hx
  · exact h y hm

theorem AllRa.get {P : Ra → Prop} {s : St} {i : Nat} {ra : Ra} (h : AllRa P s) (hg : getRa s i = some ra) : P ra :=
  h ra (getRa_mem hg).1

theorem AllRa.append {P : Ra → Prop} {s : St} {x : Ra} (h : AllRa P s) (hx : P x) (s' : St) (e : s'.ras = s.ras ++ [x]) : AllRa P s' := by
  intro y hy
  rw [e] at hy
  rcases List.mem_append.1 hy with hm | hm
  · exact h y hm
  · simp only [List.mem_singleton] at hm
    exact hm ▸ hx

theorem AllRa.of_ras {P : Ra → Prop} {s s' : St} (h : AllRa P s) (e : s'.ras = s.ras) : AllRa P s' := by
  intro y hy; rw [e] at hy; exact h y hy

-- ---------------------------------------------------------------- balances

theorem getBal_addBal (b : List (Nat × Int)) (a : Nat) (v : Int) (x : Nat) :
    getBal (addBal b a v) x = getBal b x + (if x = a then v else 0) := by
  unfold addBal
  split
  · rename_i hany
    unfold getBal
    rw [List.find?_map]
    have hcomp : ((fun z : Nat × Int => z.1 == x) ∘ fun z : Nat × Int => if (z.1 == a) = true then (a, z.2 + v) else z)
        = fun z : Nat × Int => z.1 == x := by
      funext z
      simp only [Function.comp]
      by_cases hz : (z.1 == a) = true
      · have : z.1 = a := by simpa using hz
        simp [hz, this]
      · simp [hz]
    rw [hcomp]
    cases hf : b.find? (fun z => z.1 == x) with
    | some z =>
      have hzx : z.1 = x := by simpa using List.find?_some hf
      by_cases hx : x = a
      · simp [hzx, hx]
      · have : ¬ z.1 = a := by rw [hzx]; exact hx
        simp [this, hx]
    | none =>
      have hx : x ≠ a := by
        intro hxa
        subst hxa
        rw [List.find?_eq_none] at hf
        simp only [List.any_eq_true] at hany
        obtain ⟨z, hz, hza⟩ := hany
        exact hf z hz hza
      simp [hx]
  · rename_i hany
    have hnone : ∀ z ∈ b, z.1 ≠ a := by
      intro z hz hza
      apply hany
      simp only [List.any_eq_true]
      exact ⟨z, hz, by simp [hza]⟩
    unfold getBal
    rw [List.find?_append]
    by_cases hx : x = a
    · subst hx
      have : b.find? (fun z => z.1 == x) = none := by
        rw [List.find?_eq_none]
        intro z hz
        simp [hnone z hz]
      simp [this]
    · cases hf : b.find? (fun z => z.1 == x) with
      | some z => simp [hx]
      | none =>
        have : (a == x) = false := by simp [Ne.symm hx]
        simp [hx, this]

/-- total credited to address `x` by an account list -/
def creditedTo (l : List Acc) (x : Nat) : Int := ((l.filter (fun a => a.addr == x)).map (·.amt)).sum

theorem credit_getBal : ∀ (l : List Acc) (b b' : List (Nat × Int)), credit l b = some b' →
    ∀ x, getBal b' x = getBal b x + creditedTo l x
  | [], b, b', h, x => by
    simp only [credit, Option.some.injEq] at h
    subst h
    simp [creditedTo]
  | a :: as, b, b', h, x => by
    simp only [credit] at h
    split at h
    · exact absurd h (by simp)
    · have ih := credit_getBal as _ b' h x
      rw [ih, getBal_addBal]
      unfold creditedTo
      by_cases hx : a.addr = x
      · subst hx
        simp only [List.filter_cons, beq_self_eq_true, if_true, List.map_cons, List.sum_cons]
        omega
      · have h1 : (a.addr == x) = false := by simp [hx]
        have h2 : ¬ x = a.addr := fun e => hx e.symm
        simp only [List.filter_cons, h1, h2, if_false, Bool.false_eq_true]
        omega

theorem credit_none_iff (l : List Acc) (b : List (Nat × Int)) : credit l b = none ↔ ∃ a ∈ l, blocked a.addr = true := by
  induction l generalizing b with
  | nil => simp [credit]
  | cons a as ih =>
    simp only [credit]
    split
    · rename_i hb
      simp [hb]
    · rename_i hb
      rw [ih]
      simp [hb]

end DymVerif.GB
