/-
  Lemmas/CoreGenesis — export followed by import is the identity on M-Core states with pairwise
  distinct rollapp ids and a consistent notice queue.
-/
import DymVerif.Model.CoreGenesis
import DymVerif.Lemmas.CoreBasic
namespace DymVerif.Core

def IdsDistinct (l : List Rollapp) : Prop := l.Pairwise (fun a b => a.id ≠ b.id)

/-- every notice-queue entry is backed by the sequencer record carrying that notice time -/
def NqOk (s : St) : Prop := ∀ e ∈ s.nq, ∃ q, s.seqs.find? (·.addr == e.2) = some q ∧ q.notice = some e.1

theorem indexed_map (l : List SInfo) (ra : Nat) : (indexed l ra).map (·.2.2) = l := by
  unfold indexed
  simp only [List.map_map]
  have : ((fun x : Nat × Nat × SInfo => x.2.2) ∘ fun x : Nat × SInfo => (ra, x.1 + 1, x.2)) = fun x => x.2 := rfl
  rw [this]
  have h := List.unzip_zip (l₁ := List.range l.length) (l₂ := l) (by simp)
  have := congrArg Prod.snd h
  simpa [List.unzip_eq_map] using this

theorem indexed_filter_same (l : List SInfo) (ra : Nat) : (indexed l ra).filter (fun x => x.1 == ra) = indexed l ra := by
  apply List.filter_eq_self.2
  intro x hx
  unfold indexed at hx
  simp only [List.mem_map] at hx
  obtain ⟨y, _, rfl⟩ := hx
  simp

theorem indexed_filter_other (l : List SInfo) (ra ra' : Nat) (h : ra ≠ ra') : (indexed l ra).filter (fun x => x.1 == ra') = [] := by
  apply List.filter_eq_nil_iff.2
  intro x hx
  unfold indexed at hx
  simp only [List.mem_map] at hx
  obtain ⟨y, _, rfl⟩ := hx
  simp [h]

/-- the state infos of one rollapp in the flat export, under distinct ids -/
theorem stateInfos_of (l : List Rollapp) (hd : IdsDistinct l) (r : Rollapp) (hr : r ∈ l) :
    ((l.flatMap fun x => indexed x.states x.id).filter (fun x => x.1 == r.id)).map (·.2.2) = r.states := by
  induction l with
  | nil => cases hr
  | cons a as ih =>
    have hp := List.pairwise_cons.1 hd
    simp only [List.flatMap_cons, List.filter_append, List.map_append]
    rcases List.mem_cons.1 hr with h1 | h1
    · subst h1
      rw [indexed_filter_same, indexed_map]
      have : (as.flatMap fun x => indexed x.states x.id).filter (fun x => x.1 == r.id) = [] := by
        apply List.filter_eq_nil_iff.2
        intro x hx
        simp only [List.mem_flatMap] at hx
        obtain ⟨y, hy, hxy⟩ := hx
        unfold indexed at hxy
        simp only [List.mem_map] at hxy
        obtain ⟨z, _, rfl⟩ := hxy
        have := hp.1 y hy
        simp; exact fun e => this e.symm
      rw [this]; simp
    · have hne : a.id ≠ r.id := hp.1 r h1
      rw [indexed_filter_other _ _ _ hne]
      simpa using ih hp.2 h1

theorem lookup_filterMap (l : List Rollapp) (hd : IdsDistinct l) (f : Rollapp → Option Nat) (r : Rollapp) (hr : r ∈ l) :
    lookup (l.filterMap fun x => (f x).map fun a => (x.id, a)) r.id = f r := by
  induction l with
  | nil => cases hr
  | cons a as ih =>
    have hp := List.pairwise_cons.1 hd
    rcases List.mem_cons.1 hr with h1 | h1
    · subst h1
      cases hf : f r with
      | some v => simp [List.filterMap_cons, hf, lookup]
      | none =>
        simp only [List.filterMap_cons, hf, Option.map_none]
        unfold lookup
        have : (as.filterMap fun x => (f x).map fun a => (x.id, a)).find? (fun x => x.1 == r.id) = none := by
          apply List.find?_eq_none.2
          intro x hx
          simp only [List.mem_filterMap] at hx
          obtain ⟨y, hy, hxy⟩ := hx
          cases hfy : f y with
          | none => simp [hfy] at hxy
          | some v =>
            simp [hfy] at hxy; subst hxy
            have := hp.1 y hy
            simp; exact fun e => this e.symm
        rw [this]; rfl
    · have hne : a.id ≠ r.id := hp.1 r h1
      cases hf : f a with
      | none => simp only [List.filterMap_cons, hf, Option.map_none]; exact ih hp.2 h1
      | some v =>
        simp only [List.filterMap_cons, hf, Option.map_some]
        unfold lookup
        simp only [List.find?_cons]
        have : ((a.id, v).1 == r.id) = false := by simp [hne]
        rw [this]
        exact ih hp.2 h1

theorem filter_map_eq_filterMap (l : List Rollapp) (p : Rollapp → Bool) (f : Rollapp → Nat) :
    (l.filter p).map (fun x => (x.id, f x)) =
      l.filterMap (fun x => (if p x then some (f x) else none).map fun a => (x.id, a)) := by
  induction l with
  | nil => rfl
  | cons a as ih =>
    simp only [List.filter_cons, List.filterMap_cons]
    cases hpa : p a with
    | true => simp [ih]
    | false => simp [ih]

theorem lookup_filter_map (l : List Rollapp) (hd : IdsDistinct l) (p : Rollapp → Bool) (f : Rollapp → Nat) (r : Rollapp) (hr : r ∈ l) :
    lookup ((l.filter p).map fun x => (x.id, f x)) r.id = if p r then some (f r) else none := by
  rw [filter_map_eq_filterMap]
  exact lookup_filterMap l hd (fun x => if p x then some (f x) else none) r hr

/-- the notice queue is rebuilt from the sequencer records -/
theorem nq_roundtrip (seqs : List Seq) (nq : List (Nat × Addr))
    (h : ∀ e ∈ nq, ∃ q, seqs.find? (·.addr == e.2) = some q ∧ q.notice = some e.1) :
    importNq seqs (nq.map (·.2)) = nq := by
  unfold importNq
  induction nq with
  | nil => rfl
  | cons e es ih =>
    obtain ⟨q, hq, hn⟩ := h e (by simp)
    simp only [List.map_cons, List.filterMap_cons, hq, Option.bind_some, hn, Option.map_some]
    rw [ih (fun x hx => h x (by simp [hx]))]

theorem importRollapp_export (s : St) (hd : IdsDistinct s.ras) (r : Rollapp) (hr : r ∈ s.ras) :
    importRollapp (exportCore s) (gOf r) = r := by
  have h1 := stateInfos_of s.ras hd r hr
  have h2 := lookup_filter_map s.ras hd (fun r => !r.states.isEmpty) (fun r => r.states.length) r hr
  have h3 := lookup_filter_map s.ras hd (fun r => r.lastFin != 0) (fun r => r.lastFin) r hr
  have h4 := lookup_filterMap s.ras hd (fun r => r.proposer) r hr
  have h5 := lookup_filterMap s.ras hd (fun r => r.successor) r hr
  unfold importRollapp exportCore gOf
  cases r with
  | mk id owner minBond launched revs states lastFin tph evH cdStart proposer successor =>
    simp only at h1 h2 h3 h4 h5 ⊢
    simp only [Rollapp.mk.injEq, true_and]
    refine ⟨?_, ?_, h4, h5⟩
    · rw [h1, h2]
      cases states with
      | nil => simp
      | cons a as => simp
    · rw [h3]
      by_cases hl : lastFin = 0
      · simp [hl]
      · simp [hl]

/-- **export, then import, is the identity** on states with distinct rollapp ids and a consistent notice queue -/
theorem reimport_id (s : St) (hd : IdsDistinct s.ras) (hn : NqOk s) : reimport s = s := by
  have hras : (exportCore s).rollapps.map (importRollapp (exportCore s)) = s.ras := by
    show (s.ras.map gOf).map (importRollapp (exportCore s)) = s.ras
    rw [List.map_map]
    calc s.ras.map (importRollapp (exportCore s) ∘ gOf) = s.ras.map id :=
          List.map_congr_left (fun r hr => importRollapp_export s hd r hr)
      _ = s.ras := by simp
  have hnq : importNq (exportCore s).seqs (exportCore s).nq = s.nq := nq_roundtrip s.seqs s.nq hn
  unfold reimport importCore
  rw [hras, hnq]
  cases s; rfl

end DymVerif.Core
