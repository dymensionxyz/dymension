/-
  Lemmas/IncentLiveRun — `LiveS` along WHOLE histories.
  The invariant `NamedS`: every stored stream is not sponsored and each of its records names a slot of the gauge
  table holding a PERPETUAL gauge.  It reads the static part `gstat` (id, perpetual flag) of the gauge table only:
    * blocks (`begin`, `end`) leave `gstat` unchanged (`strDistribute_static`, `incAfterEpochEnd_static`) and write
      streams whose records are those of a stored stream (`core_all`, `startStreams_spq`);
    * messages append gauges or top one up; `createStream` (not sponsored) validates its records (`validateRecs`:
      existing perpetual gauges); `terminateStream` moves references only.
  A perpetual gauge is never finished, hence `NamedS s → LiveS s`.
  Excluded (beyond `Admissible`): creation of a SPONSORED stream — its records are the sponsorship distribution,
  read unvalidated (Props/C15Run: `liveS_sponsored_counterexample`).
-/
import DymVerif.Lemmas.IncentLive
namespace DymVerif.Incent
open DymVerif Coins

/-! ### the static part of the gauge table, the invariant -/

def gstat (gs : List Gauge) : List (Nat × Bool) := gs.map (fun g => (g.id, g.perpetual))

/-- a stream that is not sponsored and whose records name gauges satisfying `Q` -/
def SPQ (Q : Nat → Prop) (st : Stream) : Prop := st.sponsored = false ∧ ∀ r ∈ st.recs, Q r.gauge

/-- gauge id `id` names a slot of the table holding a perpetual gauge -/
def NamedT (t : List (Nat × Bool)) (id : Nat) : Prop := id ≠ 0 ∧ ∃ p, t[id - 1]? = some p ∧ p.2 = true

/-- every stored stream is not sponsored and names perpetual gauges only -/
def NamedS (s : State) : Prop := ∀ st ∈ s.streams, SPQ (NamedT (gstat s.gauges)) st

theorem NamedT_append (t l : List (Nat × Bool)) (id : Nat) (h : NamedT t id) : NamedT (t ++ l) id := by
  obtain ⟨h0, p, hp, hb⟩ := h
  refine ⟨h0, p, ?_, hb⟩
  have hlt : id - 1 < t.length := (List.getElem?_eq_some_iff.1 hp).1
  rw [List.getElem?_append_left hlt]; exact hp

theorem SPQ_mono {Q Q' : Nat → Prop} (h : ∀ id, Q id → Q' id) (st : Stream) (hs : SPQ Q st) : SPQ Q' st :=
  ⟨hs.1, fun r hr => h _ (hs.2 r hr)⟩

theorem NamedS_of_gstat {s s' : State} (h : NamedS s) (hg : gstat s'.gauges = gstat s.gauges) (hs : s'.streams = s.streams) :
    NamedS s' := by
  intro st hst
  rw [hg]; exact h st (hs ▸ hst)

theorem NamedS_same {s s' : State} (h : NamedS s) (hg : s'.gauges = s.gauges) (hs : s'.streams = s.streams) : NamedS s' :=
  NamedS_of_gstat h (by rw [hg]) hs

theorem NamedS_added {s : State} (h : NamedS s) (b : Bank) (gs : List Gauge) :
    NamedS { s with bank := b, gauges := s.gauges ++ gs } := by
  intro st hst
  show SPQ (NamedT (gstat (s.gauges ++ gs))) st
  unfold gstat; rw [List.map_append]
  exact SPQ_mono (NamedT_append _ _) st (h st hst)

/-! ### blocks: `gstat` is a static projection of the gauges, `SPQ Q` a static predicate of the streams -/

theorem SPQ_atEpochEnd (Q : Nat → Prop) (st : Stream) (h : SPQ Q st) : SPQ Q st.atEpochEnd := by
  unfold Stream.atEpochEnd
  split
  · exact h
  · exact h

theorem SPQ_finVal (Q : Nat → Prop) (ee : Bool) (st0 : Stream) (d : Coins) (h : SPQ Q st0) :
    SPQ Q (finVal ee { st0 with distributed := d }) := by
  unfold finVal; split
  · exact SPQ_atEpochEnd Q _ h
  · exact h

theorem strDistribute_named (s : State) (es : List Nat) (streams : List Stream) (maxOps : Nat) (ee : Bool) (s' : State)
    (hi : Inv s) (hin : GoodInput s streams) (hst : ∀ st ∈ streams, StrictInc (st.recs.map (·.gauge)) ∧ st.id < maxU64)
    (h : strDistribute s es streams maxOps ee = .ok s') (hn : NamedS s) : NamedS s' := by
  intro st hm
  rw [show gstat s'.gauges = gstat s.gauges from
    strDistribute_static _ (fun _ _ => rfl) ee (fun _ _ => rfl) hi.ginv.ids h]
  exact core_all (strDistribute_core s _ _ _ _ s' hi.struct hin hst h)
    (strDistribute_streams s _ _ _ _ s' hi.struct hin h).1 _ (SPQ_finVal _ ee) hn st hm

theorem allS_setStream (P : Stream → Prop) (s : State) (v : Stream) (hv : P v) (h : ∀ x ∈ s.streams, P x) :
    ∀ x ∈ (setStream s v).streams, P x := by
  intro x hx
  rcases List.mem_or_eq_of_mem_set hx with h1 | h1
  · exact h x h1
  · rw [h1]; exact hv

theorem SPQ_start (Q : Nat → Prop) (st : Stream) (distr : List Rec) (ec : Coins) (b : Bool) (h : SPQ Q st) :
    SPQ Q { st.retarget distr with epochCoins := ec, ecEmpty := b } := by
  have : st.retarget distr = st := by unfold Stream.retarget; simp [h.1]
  rw [this]; exact h

theorem startStreams_spq (Q : Nat → Prop) : ∀ (l : List Stream) (s s' : State), startStreams l s = .ok s' →
    (∀ x ∈ s.streams, SPQ Q x) → (∀ v ∈ l, SPQ Q v) → ∀ x ∈ s'.streams, SPQ Q x := by
  intro l
  induction l with
  | nil => intro s s' h; simp only [startStreams, Except.ok.injEq] at h; rw [← h]; exact fun hq _ => hq
  | cons st rest ih =>
    intro s s' h
    unfold startStreams at h
    cases hsub : Coins.sub? st.coins st.distributed with
    | none => simp [hsub] at h
    | some remain =>
      simp only [hsub] at h
      by_cases hz : st.numEpochs - st.filled = 0
      · simp [hz] at h
      · simp only [hz, if_false] at h
        refine fun hq hl => ih _ s' h ?_ (fun v hv => hl v (List.mem_cons_of_mem _ hv))
        exact allS_setStream (SPQ Q) s _ (SPQ_start Q st s.distr _ _ (hl st List.mem_cons_self)) hq

theorem mem_activeStreamsFor_streams (s : State) (e : Nat) (v : Stream) (h : v ∈ activeStreamsFor s e) : v ∈ s.streams := by
  unfold activeStreamsFor at h
  exact mem_streamsOf (List.mem_filter.1 h).1

theorem streamerBeforeEpochStart_named (s : State) (e : Nat) (s' : State) (h : streamerBeforeEpochStart s e = .ok s')
    (hn : NamedS s) : NamedS s' := by
  obtain ⟨s1, ha, hst⟩ := streamerBeforeEpochStart_unfold h
  have hfr := activateDue_frame _ ha
  have f1 : s1.streams = s.streams := by rw [hfr]
  have hg : s'.gauges = s.gauges := by rw [(startStreams_frame _ hst).1, hfr]
  intro st hm
  rw [hg]
  exact startStreams_spq _ _ _ _ hst (by rw [f1]; exact hn)
    (fun v hv => hn v (f1 ▸ mem_activeStreamsFor_streams s1 e v hv)) st hm

theorem beginBlock_named (s : State) (dt : Nat) (hi : Inv s) (h : NamedS s) : NamedS (beginBlock s dt) := by
  refine beginBlock_keeps NamedS (fun _ _ h => h) (fun _ _ h => h) ?_ ?_ ?_ s dt hi h
  · exact fun y e s' _ hp h => streamerBeforeEpochStart_named y e s' h hp
  · intro y e s' hy hp h
    rcases streamerAfterEpochEnd_unfold h with e0 | ⟨s1, hd, e0⟩ <;> rw [e0]
    · exact hp
    · exact strDistribute_named y _ _ _ _ s1 hy (activeStreamsFor_good y hy.struct e) (hy.activeFor_static e) hd hp
  · exact fun y e s' hy hp h => NamedS_of_gstat hp
      (incAfterEpochEnd_static _ (fun _ _ => rfl) (fun _ _ => rfl) hy.ginv h) (incAfterEpochEnd_frame y e s' h).1

/-! ### liveness from the invariant, and the messages -/

theorem perpetual_not_finished (g : Gauge) (now : Nat) (h : g.perpetual = true) : g.isFinished now = false := by
  unfold Gauge.isFinished
  rw [h]
  by_cases hn : now < g.start
  · simp [hn]
  · have : g.start ≤ now := by omega
    simp [hn, this]

theorem namedT_gstat (s : State) (id : Nat) :
    NamedT (gstat s.gauges) id ↔ ∃ g, getGauge s id = some g ∧ g.perpetual = true := by
  unfold NamedT gstat getGauge
  constructor
  · rintro ⟨h0, p, hp, hb⟩
    rw [List.getElem?_map] at hp
    obtain ⟨g, hg, rfl⟩ := Option.map_eq_some_iff.1 hp
    exact ⟨g, by rw [if_neg h0]; exact hg, hb⟩
  · rintro ⟨g, hg, hp⟩
    split at hg
    · exact nomatch hg
    · next h0 => exact ⟨h0, _, by rw [List.getElem?_map, hg]; rfl, hp⟩

theorem liveRec_of_named (s : State) (r : Rec) (h : NamedT (gstat s.gauges) r.gauge) : LiveRec s r :=
  let ⟨g, hg, hp⟩ := (namedT_gstat s r.gauge).1 h
  ⟨g, hg, perpetual_not_finished g s.now hp⟩

theorem liveS_of_named (s : State) (h : NamedS s) : LiveS s := by
  intro st hst r hr
  exact liveRec_of_named s r ((h st (mem_streamsOf hst)).2 r hr)

theorem validateRecs_named (s : State) : ∀ (rs : List Rec) (last : Nat) (seen : List Nat), validateRecs s rs last seen = true →
    ∀ r ∈ rs, NamedT (gstat s.gauges) r.gauge := by
  intro rs
  induction rs with
  | nil => intro _ _ _ r hr; simp at hr
  | cons x xs ih =>
    intro last seen h r hr
    unfold validateRecs at h
    split at h
    · simp at h
    · split at h
      · simp at h
      · cases hg : getGauge s x.gauge with
        | none => simp [hg] at h
        | some g =>
          simp only [hg] at h
          by_cases hp : g.perpetual = true
          · simp only [hp, Bool.not_true, Bool.false_eq_true, if_false] at h
            rcases List.mem_cons.1 hr with h1 | h1
            · rw [h1]; exact (namedT_gstat s x.gauge).2 ⟨g, hg, hp⟩
            · exact ih _ _ h r h1
          · have : g.perpetual = false := by simpa using hp
            simp [this] at h

/-- no sponsored stream is created (its records would be the unvalidated sponsorship distribution) -/
def Op.notSponsored : Op → Prop
  | .createStream sp _ _ _ _ _ => sp = false
  | _ => True

instance (op : Op) : Decidable op.notSponsored := by
  cases op <;> (unfold Op.notSponsored; infer_instance)

theorem createStream_named (s : State) (c : Coins) (rs : List Rec) (st e n : Nat) (h : NamedS s) :
    NamedS (createStream s false c rs st e n).2 := by
  rcases createStream_shape s false c rs st e n with e | ⟨hv, u, start', _, _, e⟩
  · rw [e]; exact h
  · rw [e]
    intro x hx
    rcases List.mem_append.1 hx with h1 | h1
    · exact h x h1
    · rw [List.mem_singleton.1 h1]
      exact ⟨rfl, validateRecs_named s rs 0 [] (hv rfl)⟩

theorem terminateStream_named (s : State) (id : Nat) (h : NamedS s) : NamedS (terminateStream s id).2 := by
  rcases terminateStream_shape s id with e | ⟨st, b, _, hm⟩
  · rw [e]; exact h
  · obtain ⟨r, f, _, _, e⟩ := moveToFinished_shape hm
    rw [e]
    cases b <;> exact h

theorem step_named (s : State) (op : Op) (hi : Inv s) (h : NamedS s) (hr : op.noRetarget) (hn : op.notSponsored) :
    NamedS (step s op).2 := by
  have hs := step_shape s op
  generalize (step s op).2 = s' at hs ⊢
  cases hs with
  | inert => exact h
  | locks ls => exact h
  | rollapp r o l => exact h
  | begin dt => exact beginBlock_named s dt hi h
  | endOk _ he => exact strDistribute_named s _ _ _ _ _ hi (activeStreams_good s hi.struct) hi.active_static he h
  | gauges b gs => exact NamedS_added h b gs
  | topUp gid g b c hg =>
    exact NamedS_of_gstat h (map_setGauge _ (s := { s with bank := b }) ((agrees_stored _ hi.ginv.ids hg).congr _ rfl)) rfl
  | createStream sp c rs st e n =>
    have : sp = false := hn
    subst this
    exact createStream_named s c rs st e n h
  | terminateStream id => exact terminateStream_named s id h
  | retarget hno => exact absurd hr hno

theorem init_named (now mi : Nat) : NamedS (init now mi) := by
  intro st hst
  simp [init] at hst

/-- along an admissible history: a predicate `P` that every step keeps in a state satisfying `Inv`, under a side
    condition `C` on the step; `S` is the side condition on the whole history, handed down step by step -/
theorem run_keeps (P : State → Prop) (C : State → Op → Prop) (S : State → List Op → Prop)
    (hS : ∀ s op rest, S s (op :: rest) → C s op ∧ S (step s op).2 rest)
    (hstep : ∀ s op, Inv s → P s → op.noRetarget → C s op → P (step s op).2) :
    ∀ (ops : List Op) (s : State), Inv s → P s → (∀ op ∈ ops, op.wf ∧ op.wfS ∧ op.noRetarget) → S s ops →
      (run s ops).streams.length < maxU64 → Inv (run s ops) ∧ P (run s ops) := by
  intro ops
  induction ops with
  | nil => intro s hi h _ _ _; exact ⟨hi, h⟩
  | cons op rest ih =>
    intro s hi hp hw hs hlen
    unfold run at hlen ⊢
    obtain ⟨w1, w2, w3⟩ := hw op List.mem_cons_self
    have hw' : ∀ o ∈ rest, o.wf ∧ o.wfS ∧ o.noRetarget := fun o ho => hw o (List.mem_cons_of_mem _ ho)
    -- streams are never removed, so the bound on the final length holds after this step already
    have hm := (run_struct_mono rest _ (step_sstep s op hi.struct w1 w2).struct
      (fun o ho => ⟨(hw' o ho).1, (hw' o ho).2.1⟩)).2
    obtain ⟨c1, c2⟩ := hS s op rest hs
    exact ih _ (step_inv s op hi w1 w2 w3 (Nat.lt_of_le_of_lt hm.1 hlen)) (hstep s op hi hp w3 c1) hw' c2 hlen

theorem run_named (ops : List Op) (s : State) (hi : Inv s) (hn : NamedS s)
    (hw : ∀ op ∈ ops, op.wf ∧ op.wfS ∧ op.noRetarget) (hns : ∀ op ∈ ops, op.notSponsored)
    (hlen : (run s ops).streams.length < maxU64) : NamedS (run s ops) :=
  (run_keeps NamedS (fun _ op => op.notSponsored) (fun _ ops => ∀ op ∈ ops, op.notSponsored)
    (fun _ op _ h => ⟨h op List.mem_cons_self, fun o ho => h o (List.mem_cons_of_mem _ ho)⟩)
    step_named ops s hi hn hw hns hlen).2

end DymVerif.Incent
