/-
  Lemmas/GenesisRefOps — the reference-store invariant `RsInv` holds after every history of the
  store's write paths (`rsStep`, all five `RsOp`s), at any clock values.  The invariant is proved in a membership form
  (`RsInvM`) and converted (`RsInvM.toRsInv`).
-/
import DymVerif.Lemmas.GenesisRefs
namespace DymVerif.Genesis
open DymVerif

/-- id `id` is listed under time key `t` -/
def InRefs (r : Refs) (t id : Nat) : Prop := ∃ l, (t, l) ∈ r ∧ id ∈ l

theorem inRefs_iff_look {r : Refs} (hs : Sorted ltNat r) (t id : Nat) : InRefs r t id ↔ id ∈ look t r := by
  constructor
  · rintro ⟨l, hl, hid⟩; rw [look_of_mem hs hl]; exact hid
  · intro h
    have hne : look t r ≠ [] := fun e => by rw [e] at h; cases h
    exact ⟨_, mem_of_look rfl hne, h⟩

theorem inRefs_refAdd {r : Refs} (hs : Sorted ltNat r) (t0 id0 t id : Nat) :
    InRefs (refAdd t0 id0 r) t id ↔ InRefs r t id ∨ (t = t0 ∧ id = id0) := by
  rw [inRefs_iff_look (sorted_refAdd hs _ _), inRefs_iff_look hs, look_refAdd hs]
  by_cases h : t = t0
  · subst h; simp
  · simp [h]

/-! ### `removeValue` -/

theorem swapRemove_spec (l : List Nat) (id : Nat) (hn : l.Nodup) :
    (∀ x, x ∈ swapRemove l id ↔ x ∈ l ∧ x ≠ id) ∧ (swapRemove l id).Nodup := by
  induction l with
  | nil => exact ⟨fun x => ⟨(nomatch ·), (nomatch ·.1)⟩, List.nodup_nil⟩
  | cons y ys ih =>
    rw [List.nodup_cons] at hn
    rw [swapRemove]
    by_cases h : y = id
    · subst h
      rw [if_pos rfl]
      cases hl : ys.getLast? with
      | none =>
        have : ys = [] := List.getLast?_eq_none_iff.1 hl
        subst this
        exact ⟨fun x => by simp, List.nodup_nil⟩
      | some z =>
        obtain ⟨zs, rfl⟩ := List.getLast?_eq_some_iff.1 hl
        rw [List.dropLast_concat]
        have hp : (z :: zs).Perm (zs ++ [z]) := List.perm_append_comm (l₁ := [z])
        refine ⟨fun x => ?_, hp.nodup_iff.2 hn.2⟩
        rw [hp.mem_iff]
        exact ⟨fun hx => ⟨List.mem_cons_of_mem _ hx, fun e' => hn.1 (e' ▸ hx)⟩,
          fun ⟨hx, hne⟩ => (List.mem_cons.1 hx).resolve_left hne⟩
    · rw [if_neg h]
      have ih := ih hn.2
      refine ⟨fun x => ?_, ?_⟩
      · rw [List.mem_cons, ih.1 x, List.mem_cons]
        constructor
        · rintro (rfl | ⟨h1, h2⟩)
          · exact ⟨Or.inl rfl, h⟩
          · exact ⟨Or.inr h1, h2⟩
        · rintro ⟨rfl | h1, h2⟩
          · exact Or.inl rfl
          · exact Or.inr ⟨h1, h2⟩
      · rw [List.nodup_cons]
        exact ⟨fun hm => hn.1 ((ih.1 y).1 hm).1, ih.2⟩

theorem sorted_refDel {r : Refs} (hs : Sorted ltNat r) (t id : Nat) : Sorted ltNat (refDel t id r) := by
  unfold refDel; split
  · exact sorted_kvDel t hs
  · exact sorted_kvSet soNat _ _ hs

theorem noEmpty_refDel {r : Refs} (hs : Sorted ltNat r) (hn : NoEmpty r) (t id : Nat) : NoEmpty (refDel t id r) := by
  unfold refDel
  split
  · intro e he; exact hn e ((mem_kvDel t e).1 he).1
  · rename_i hne
    intro e he
    rcases (mem_kvSet soNat _ _ hs e).1 he with rfl | ⟨h, _⟩
    · intro hnil; apply hne; simp only at hnil; rw [hnil]; rfl
    · exact hn e h

theorem look_refDel {r : Refs} (hs : Sorted ltNat r) (t0 id0 t : Nat) :
    look t (refDel t0 id0 r) = if t = t0 then swapRemove (look t0 r) id0 else look t r := by
  unfold refDel
  by_cases h : t = t0
  · subst h
    rw [if_pos rfl]
    split
    · rename_i he
      have : swapRemove (look t r) id0 = [] := List.isEmpty_iff.1 he
      rw [this]
      exact look_not_key (fun e hm => ((mem_kvDel t e).1 hm).2)
    · unfold look; rw [kvGet_kvSet_self soNat hs]; rfl
  · rw [if_neg h]
    split
    · unfold look
      have hsd := sorted_kvDel (lt := ltNat) t0 hs
      cases hg : kvGet t r with
      | some l =>
        have hm : (t, l) ∈ kvDel t0 r := (mem_kvDel t0 _).2 ⟨kvGet_some hg, h⟩
        rw [(kvGet_eq_some_iff soNat hsd t l).2 hm]
      | none =>
        cases hg' : kvGet t (kvDel t0 r) with
        | none => rfl
        | some l' => exact absurd rfl (kvGet_none hg _ ((mem_kvDel t0 _).1 (kvGet_some hg')).1)
    · unfold look; rw [kvGet_kvSet_ne soNat hs _ h]

theorem inRefs_refDel {r : Refs} (hs : Sorted ltNat r) (t0 id0 t id : Nat) (hnd : (look t0 r).Nodup) :
    InRefs (refDel t0 id0 r) t id ↔ InRefs r t id ∧ ¬ (t = t0 ∧ id = id0) := by
  rw [inRefs_iff_look (sorted_refDel hs _ _), inRefs_iff_look hs, look_refDel hs]
  by_cases h : t = t0
  · subst h
    rw [if_pos rfl, (swapRemove_spec _ id0 hnd).1 id]
    simp
  · simp [h]

/-! ### the invariant in membership form -/

-- from here on `refDel` is used through its lemmas only; left reducible, the unifier unfolds its body each
-- time it compares a record update of `rsStep` with `RefStore.move`
attribute [local irreducible] refDel

/-- what the invariant says of one reference section alone -/
structure RefsOk (r : Refs) : Prop where
  sorted : Sorted ltNat r
  ne : NoEmpty r
  ln : ∀ t, (look t r).Nodup

theorem RefsOk.refAdd {r : Refs} (h : RefsOk r) {t id : Nat} (hfresh : id ∉ look t r) : RefsOk (refAdd t id r) :=
  ⟨sorted_refAdd h.sorted _ _, noEmpty_refAdd h.sorted h.ne _ _, fun t' => by
    rw [look_refAdd h.sorted]
    exact ite_ind (fun _ => List.nodup_append.2 ⟨h.ln _, List.pairwise_singleton _ _,
      fun a ha b hb hab => hfresh (List.mem_singleton.1 hb ▸ hab ▸ ha)⟩) fun _ => h.ln _⟩

theorem RefsOk.refDel {r : Refs} (h : RefsOk r) (t id : Nat) : RefsOk (refDel t id r) :=
  ⟨sorted_refDel h.sorted _ _, noEmpty_refDel h.sorted h.ne _ _, fun t' => by
    rw [look_refDel h.sorted]
    exact ite_ind (fun _ => (swapRemove_spec _ id (h.ln _)).2) fun _ => h.ln _⟩

structure RsInvM (s : RefStore) : Prop where
  si : Sorted ltNat s.items
  ki : Keyed (fun x : Item => x.id) s.items
  ok : ∀ c, RefsOk (s.refs c)
  pts : ∀ c t id, InRefs (s.refs c) t id → ∃ x, (id, x) ∈ s.items ∧ x.start = t
  cov : ∀ e ∈ s.items, ∃ c, InRefs (s.refs c) e.2.start e.1
  one : ∀ c c' t t' id, InRefs (s.refs c) t id → InRefs (s.refs c') t' id → c = c'

theorem RsInvM.time_unique {s : RefStore} (h : RsInvM s) {c c' : Cls} {t t' id : Nat}
    (h1 : InRefs (s.refs c) t id) (h2 : InRefs (s.refs c') t' id) : t = t' := by
  obtain ⟨x, hx, hxt⟩ := h.pts c t id h1
  obtain ⟨x', hx', hxt'⟩ := h.pts c' t' id h2
  have := h.si.eq_of_key soNat hx hx' rfl
  rw [← hxt, ← hxt', (Prod.mk.inj this).2]

theorem nodup_refIds (r : Refs) (hs : Sorted ltNat r) (hl : ∀ e ∈ r, e.2.Nodup)
    (hu : ∀ t t' id, InRefs r t id → InRefs r t' id → t = t') : (refIds r).Nodup := by
  induction r with
  | nil => exact List.nodup_nil
  | cons e1 rest ih =>
    obtain ⟨t1, l1⟩ := e1
    have hs' := sorted_cons.1 hs
    rw [refIds, List.flatMap_cons, List.nodup_append]
    refine ⟨hl _ List.mem_cons_self, ?_, ?_⟩
    · apply ih hs'.2 (fun e he => hl e (List.mem_cons_of_mem _ he))
      intro t t' id ⟨l, hl1, hid⟩ ⟨l', hl2, hid'⟩
      exact hu t t' id ⟨l, List.mem_cons_of_mem _ hl1, hid⟩ ⟨l', List.mem_cons_of_mem _ hl2, hid'⟩
    · intro a ha b hb hab
      subst hab
      obtain ⟨e, he, hae⟩ := mem_refIds.1 hb
      have := hu t1 e.1 a ⟨l1, List.mem_cons_self, ha⟩ ⟨e.2, List.mem_cons_of_mem _ he, hae⟩
      exact soNat.ne_of_lt (hs'.1 e he) this

theorem RsInvM.toRsInv {s : RefStore} (h : RsInvM s) : RsInv s := by
  have hl : ∀ c, ∀ e ∈ s.refs c, e.2.Nodup := by
    intro c e he
    have := (h.ok c).ln e.1
    rwa [look_of_mem (h.ok c).sorted he] at this
  have nd : ∀ c, (refIds (s.refs c)).Nodup := fun c =>
    nodup_refIds (s.refs c) (h.ok c).sorted (hl c) (fun t t' id h1 h2 => h.time_unique h1 h2)
  have disj : ∀ c c', c ≠ c' → ∀ a, a ∈ refIds (s.refs c) → a ∈ refIds (s.refs c') → False := by
    intro c c' hne a ha hb
    obtain ⟨e, he, hae⟩ := mem_refIds.1 ha
    obtain ⟨e', he', hae'⟩ := mem_refIds.1 hb
    exact hne (h.one c c' e.1 e'.1 a ⟨e.2, he, hae⟩ ⟨e'.2, he', hae'⟩)
  refine ⟨h.si, h.ki, fun c => (h.ok c).sorted, fun c => (h.ok c).ne, ?_, ?_, ?_⟩
  · intro c e he id hid
    exact h.pts c e.1 id ⟨e.2, he, hid⟩
  · intro e he
    obtain ⟨c, l, hl', hid⟩ := h.cov e he
    exact ⟨c, mem_refIds.2 ⟨_, hl', hid⟩⟩
  · have na := nd .active
    have nu := nd .upcoming
    have nf := nd .finished
    simp only [RefStore.refs] at na nu nf
    rw [List.nodup_append]
    refine ⟨?_, nf, ?_⟩
    · rw [List.nodup_append]
      exact ⟨na, nu, fun a ha b hb hab => by subst hab; exact disj .active .upcoming (by decide) a ha hb⟩
    · intro a ha b hb hab
      subst hab
      rcases List.mem_append.1 ha with h1 | h1
      · exact disj .active .finished (by decide) a h1 hb
      · exact disj .upcoming .finished (by decide) a h1 hb

/-! ### preservation -/

theorem rsInvM_empty : RsInvM RefStore.empty where
  si := sorted_nil
  ki := fun _ h => by cases h
  ok := fun c => empty_refs c ▸ ⟨sorted_nil, fun _ he => (nomatch he), fun _ => List.nodup_nil⟩
  pts := fun c t id ⟨l, hl, _⟩ => nomatch empty_refs c ▸ hl
  cov := fun _ h => by cases h
  one := fun c _ _ _ _ ⟨l, hl, _⟩ => nomatch empty_refs c ▸ hl

/-- replacing one class's section -/
def RefStore.withRefs (s : RefStore) (c : Cls) (r : Refs) : RefStore :=
  match c with
  | .upcoming => { s with upcoming := r }
  | .active => { s with active := r }
  | .finished => { s with finished := r }

theorem withRefs_refs (s : RefStore) (c c' : Cls) (r : Refs) :
    (s.withRefs c r).refs c' = if c' = c then r else s.refs c' := by
  cases c <;> cases c' <;> simp [RefStore.withRefs, RefStore.refs]

theorem withRefs_items (s : RefStore) (c : Cls) (r : Refs) : (s.withRefs c r).items = s.items := by
  cases c <;> rfl

theorem withRefs_ok {s : RefStore} (h : ∀ c, RefsOk (s.refs c)) (c : Cls) {r : Refs} (hr : RefsOk r) (c' : Cls) :
    RefsOk ((s.withRefs c r).refs c') := by
  rw [withRefs_refs]; exact ite_ind (fun _ => hr) fun _ => h c'

theorem setWithRef_eq (now : Nat) (s : RefStore) (x : Item) :
    s.setWithRef now x =
      ({ s with items := kvSet ltNat x.id x s.items } : RefStore).withRefs (x.cls now) (refAdd x.start x.id (s.refs (x.cls now))) := by
  unfold RefStore.setWithRef
  cases x.cls now <;> rfl

theorem rsInvM_create {s : RefStore} (h : RsInvM s) (now : Nat) (x : Item) (hf : kvHas x.id s.items = false) :
    RsInvM (s.setWithRef now x) := by
  rw [setWithRef_eq]
  have hfresh : ∀ e ∈ s.items, e.1 ≠ x.id := kvHas_false hf
  have hnoref : ∀ c t, ¬ InRefs (s.refs c) t x.id := by
    intro c t hin
    obtain ⟨y, hy, _⟩ := h.pts c t x.id hin
    exact hfresh _ hy rfl
  have hmem := mem_kvSet (β := Item) soNat x.id x h.si
  have hrefs : ∀ c', (RefStore.withRefs { s with items := kvSet ltNat x.id x s.items } (x.cls now)
      (refAdd x.start x.id (s.refs (x.cls now)))).refs c' =
      if c' = x.cls now then refAdd x.start x.id (s.refs (x.cls now)) else s.refs c' := by
    intro c'; rw [withRefs_refs]; split <;> rfl
  have hin : ∀ c' t id, InRefs ((RefStore.withRefs { s with items := kvSet ltNat x.id x s.items } (x.cls now)
      (refAdd x.start x.id (s.refs (x.cls now)))).refs c') t id ↔
      InRefs (s.refs c') t id ∨ (c' = x.cls now ∧ t = x.start ∧ id = x.id) := by
    intro c' t id
    rw [hrefs]
    by_cases hc : c' = x.cls now
    · subst hc; rw [if_pos rfl, inRefs_refAdd (h.ok _).sorted]; simp
    · rw [if_neg hc]; simp [hc]
  constructor
  · rw [withRefs_items]; exact sorted_kvSet soNat _ _ h.si
  · rw [withRefs_items]; exact keyed_kvSet (key := fun y : Item => y.id) soNat h.si h.ki x
  · exact withRefs_ok (s := { s with items := kvSet ltNat x.id x s.items }) h.ok _
      ((h.ok _).refAdd fun hm => hnoref _ _ ((inRefs_iff_look (h.ok _).sorted _ _).2 hm))
  · intro c' t id hi
    rw [withRefs_items]
    rcases (hin c' t id).1 hi with h1 | ⟨_, rfl, rfl⟩
    · obtain ⟨y, hy, hyt⟩ := h.pts c' t id h1
      exact ⟨y, (hmem _).2 (Or.inr ⟨hy, hfresh _ hy⟩), hyt⟩
    · exact ⟨x, (hmem _).2 (Or.inl rfl), rfl⟩
  · intro e he
    rw [withRefs_items] at he
    rcases (hmem e).1 he with rfl | ⟨he', _⟩
    · exact ⟨x.cls now, (hin _ _ _).2 (Or.inr ⟨rfl, rfl, rfl⟩)⟩
    · obtain ⟨c', hc'⟩ := h.cov e he'
      exact ⟨c', (hin _ _ _).2 (Or.inl hc')⟩
  · intro c1 c2 t t' i h1 h2
    rcases (hin c1 t i).1 h1 with a | ⟨ha1, _, ha3⟩ <;> rcases (hin c2 t' i).1 h2 with b | ⟨hb1, _, hb3⟩
    · exact h.one c1 c2 t t' i a b
    · rw [hb3] at a; exact absurd a (hnoref _ _)
    · rw [ha3] at b; exact absurd b (hnoref _ _)
    · rw [ha1, hb1]

/-- moving id `id`, listed under time key `t`, from class `c1` to class `c2` -/
def RefStore.move (s : RefStore) (c1 c2 : Cls) (t id : Nat) : RefStore :=
  (s.withRefs c1 (refDel t id (s.refs c1))).withRefs c2 (refAdd t id (s.refs c2))

theorem rsInvM_move {s : RefStore} (h : RsInvM s) (c1 c2 : Cls) (hne : c1 ≠ c2) (t id : Nat)
    (hin0 : InRefs (s.refs c1) t id) : RsInvM (s.move c1 c2 t id) := by
  have hrefs : ∀ c', (s.move c1 c2 t id).refs c' =
      if c' = c2 then refAdd t id (s.refs c2) else if c' = c1 then refDel t id (s.refs c1) else s.refs c' := by
    intro c'; rw [RefStore.move, withRefs_refs, withRefs_refs]
  have hitems : (s.move c1 c2 t id).items = s.items := by
    rw [RefStore.move, withRefs_items, withRefs_items]
  have hin : ∀ c' t' id', InRefs ((s.move c1 c2 t id).refs c') t' id' ↔
      (InRefs (s.refs c') t' id' ∧ ¬ (c' = c1 ∧ t' = t ∧ id' = id)) ∨ (c' = c2 ∧ t' = t ∧ id' = id) := by
    intro c' t' id'
    rw [hrefs]
    by_cases h2 : c' = c2
    · subst h2
      rw [if_pos rfl, inRefs_refAdd (h.ok _).sorted]
      have : ¬ c' = c1 := fun e => hne e.symm
      simp [this]
    · rw [if_neg h2]
      by_cases h1 : c' = c1
      · subst h1
        rw [if_pos rfl, inRefs_refDel (h.ok _).sorted _ _ _ _ ((h.ok _).ln _)]
        simp [h2]
      · rw [if_neg h1]; simp [h1, h2]
  have hnot2 : ∀ t', ¬ InRefs (s.refs c2) t' id := fun t' hx => hne (h.one c1 c2 t t' id hin0 hx)
  constructor
  · rw [hitems]; exact h.si
  · rw [hitems]; exact h.ki
  · exact withRefs_ok (withRefs_ok h.ok c1 ((h.ok c1).refDel t id)) c2
      ((h.ok c2).refAdd fun hm => hnot2 t ((inRefs_iff_look (h.ok c2).sorted _ _).2 hm))
  · intro c' t' id' hi
    rw [hitems]
    rcases (hin c' t' id').1 hi with ⟨h1, _⟩ | ⟨_, rfl, rfl⟩
    · exact h.pts c' t' id' h1
    · exact h.pts c1 t' id' hin0
  · intro e he
    rw [hitems] at he
    obtain ⟨c', hc'⟩ := h.cov e he
    by_cases hmv : c' = c1 ∧ e.2.start = t ∧ e.1 = id
    · exact ⟨c2, (hin _ _ _).2 (Or.inr ⟨rfl, hmv.2.1, hmv.2.2⟩)⟩
    · exact ⟨c', (hin _ _ _).2 (Or.inl ⟨hc', hmv⟩)⟩
  · intro ca cb ta tb id' ha hb
    rcases (hin ca ta id').1 ha with ⟨a1, a2⟩ | ⟨rfl, rfl, rfl⟩ <;> rcases (hin cb tb id').1 hb with ⟨b1, b2⟩ | ⟨rfl, rfl, hb3⟩
    · exact h.one ca cb ta tb id' a1 b1
    · -- id' = id is listed in class ca (not moved away) and arrives in c2: ca must have been c1 at time t
      subst hb3
      have hc : ca = c1 := h.one ca c1 ta tb id' a1 hin0
      have ht : ta = tb := h.time_unique a1 hin0
      exact absurd ⟨hc, ht, rfl⟩ a2
    · have hc : cb = c1 := h.one cb c1 tb ta id' b1 hin0
      have ht : tb = ta := h.time_unique b1 hin0
      exact absurd ⟨hc, ht, rfl⟩ b2
    · rfl

theorem rsInvM_update {s : RefStore} (h : RsInvM s) (x y : Item) (hg : kvGet y.id s.items = some x) (hst : x.start = y.start) :
    RsInvM { s with items := kvSet ltNat y.id y s.items } := by
  have hx : (y.id, x) ∈ s.items := kvGet_some hg
  have hmem := mem_kvSet (β := Item) soNat y.id y h.si
  refine ⟨sorted_kvSet soNat _ _ h.si, keyed_kvSet (key := fun z : Item => z.id) soNat h.si h.ki y, h.ok, ?_, ?_, h.one⟩
  · intro c t id hi
    obtain ⟨z, hz, hzt⟩ := h.pts c t id hi
    by_cases hid : id = y.id
    · subst hid
      have := h.si.eq_of_key soNat hz hx rfl
      have hzx : z = x := (Prod.mk.inj this).2
      exact ⟨y, (hmem _).2 (Or.inl rfl), by rw [← hst, ← hzx]; exact hzt⟩
    · exact ⟨z, (hmem _).2 (Or.inr ⟨hz, hid⟩), hzt⟩
  · intro e he
    rcases (hmem e).1 he with rfl | ⟨he', _⟩
    · obtain ⟨c, hc⟩ := h.cov _ hx
      simp only at hc
      rw [hst] at hc
      exact ⟨c, hc⟩
    · exact h.cov e he'

/-- the four things a write path does: nothing, file a record under a fresh id, rewrite a record in
    place keeping its start time, move a listed id to another class under the same time key -/
theorem rsStep_cases {P : RefStore → Prop} (now : Nat) (s : RefStore) (h0 : P s)
    (hc : ∀ x, kvHas x.id s.items = false → P (s.setWithRef now x))
    (hu : ∀ x y, kvGet y.id s.items = some x → x.start = y.start → P { s with items := kvSet ltNat y.id y s.items })
    (hm : ∀ c1 c2 t id, c1 ≠ c2 → id ∈ look t (s.refs c1) → P (s.move c1 c2 t id)) (op : RsOp) :
    P (rsStep now s op) := by
  have mv : ∀ c1 c2 t id, c1 ≠ c2 → P (if id ∈ look t (s.refs c1) then s.move c1 c2 t id else s) :=
    fun c1 c2 t id hne => ite_ind (hm c1 c2 t id hne) fun _ => h0
  cases op with
  | create x => exact ite_ind (fun _ => h0) fun h => hc x (Bool.eq_false_iff.2 h)
  | activate id =>
    rw [rsStep]
    cases kvGet id s.items with
    | none => exact h0
    | some x => exact ite_ind (fun _ => h0) fun _ => mv .upcoming .active _ _ (by decide)
  | finish id =>
    rw [rsStep]
    cases kvGet id s.items with
    | none => exact h0
    | some x => exact mv .active .finished _ _ (by decide)
  | update y =>
    rw [rsStep]
    cases hg : kvGet y.id s.items with
    | none => exact h0
    | some x => exact ite_ind (hu x y hg) fun _ => h0
  | terminate id =>
    rw [rsStep]
    cases kvGet id s.items with
    | none => exact h0
    | some x =>
      exact ite_ind (fun _ => mv .active .finished _ _ (by decide)) fun _ =>
        ite_ind (fun _ => mv .upcoming .finished _ _ (by decide)) fun _ => h0

theorem rsInvM_step {s : RefStore} (h : RsInvM s) (now : Nat) (op : RsOp) : RsInvM (rsStep now s op) :=
  rsStep_cases now s h (rsInvM_create h now) (rsInvM_update h)
    (fun c1 c2 t id hne hin => rsInvM_move h c1 c2 hne t id ((inRefs_iff_look (h.ok c1).sorted t id).2 hin)) op

/-- **the reference-store invariant holds in every reachable state** -/
theorem rsInv_run (ops : List (Nat × RsOp)) : RsInv (rsRun ops) := by
  unfold rsRun
  suffices ∀ s, RsInvM s → RsInvM (ops.foldl (fun s o => rsStep o.1 s o.2) s) from (this _ rsInvM_empty).toRsInv
  induction ops with
  | nil => exact fun _ h => h
  | cons o os ih => exact fun s h => ih _ (rsInvM_step h o.1 o.2)

end DymVerif.Genesis
