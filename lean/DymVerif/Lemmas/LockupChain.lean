import DymVerif.Model.LockupChain
import DymVerif.Lemmas.LockupOps
import DymVerif.Lemmas.GenesisKV
/-
  Lemmas/LockupChain — what a restart (ExportGenesis → InitGenesis) does to an M-Lockup state:
  the exported list is a permutation of the lock table, re-inserting it under the id keys rebuilds the
  table, and the accumulation store rebuilt from the per-(denom, duration) cache answers every query
  as the sum over the locks.  Core Lean only.
-/
namespace DymVerif.Lockup

/-! ### the exported list -/

/-- `GetPeriodLocks` lists every lock exactly once (in reference order, not in id order) -/
theorem periodLocks_perm (ls : List Lock) : (periodLocks ls).Perm ls := by
  unfold periodLocks
  refine ((Genesis.sortBy_perm _ _).append (Genesis.sortBy_perm _ _)).trans ?_
  have := List.filter_append_perm (fun l : Lock => !l.isUnlocking) ls
  have e : (fun x : Lock => !(fun l : Lock => !l.isUnlocking) x) = fun l : Lock => l.isUnlocking := by
    funext x; simp
  rw [e] at this
  exact this

/-! ### the lock section of the store: id order -/

/-- the lock list is in id order — the order of the lock section (`lockStoreKey(id)`, big-endian) -/
def IdSorted (ls : List Lock) : Prop := (ls.map (·.id)).Pairwise (· < ·)

theorem idSorted_nil : IdSorted [] := List.Pairwise.nil

theorem IdSorted.nodup {ls : List Lock} (h : IdSorted ls) : (ls.map (·.id)).Nodup :=
  List.Pairwise.imp (fun hlt => Nat.ne_of_lt hlt) h

theorem idSorted_setLock {ls : List Lock} (h : IdSorted ls) (n : Lock) : IdSorted (setLock ls n) := by
  unfold IdSorted; rw [setLock_ids]; exact h

theorem idSorted_delLock {ls : List Lock} (h : IdSorted ls) (id : Nat) : IdSorted (delLock ls id) :=
  List.Pairwise.sublist (List.Sublist.map _ List.filter_sublist) h

theorem idSorted_filter {ls : List Lock} (h : IdSorted ls) (P : Lock → Bool) : IdSorted (ls.filter P) :=
  List.Pairwise.sublist (List.Sublist.map _ List.filter_sublist) h

theorem idSorted_append_fresh {ls : List Lock} (h : IdSorted ls) (n : Lock)
    (hfresh : ∀ x ∈ ls, x.id < n.id) : IdSorted (ls ++ [n]) := by
  unfold IdSorted
  rw [List.map_append, List.pairwise_append]
  refine ⟨h, by simp, ?_⟩
  intro a ha b hb
  rcases List.mem_map.mp ha with ⟨x, hx, rfl⟩
  simp at hb
  subst hb
  exact hfresh x hx

/-- re-inserting any permutation of an id-ordered lock table under the id keys rebuilds the table -/
theorem storeLocks_perm {ls l : List Lock} (hs : IdSorted ls) (hp : l.Perm ls) : storeLocks l = ls := by
  have hsort : Genesis.Sorted Genesis.ltNat (ls.map (fun x : Lock => (x.id, x))) := by
    unfold Genesis.Sorted
    rw [List.pairwise_map]
    unfold IdSorted at hs
    rw [List.pairwise_map] at hs
    exact List.Pairwise.imp (fun h => by simpa [Genesis.ltNat] using h) hs
  have hk : Genesis.Keyed (fun x : Lock => x.id) (ls.map (fun x : Lock => (x.id, x))) := by
    intro e he
    obtain ⟨x, _, rfl⟩ := List.mem_map.1 he
    rfl
  have hexp : Genesis.exportVals (ls.map (fun x : Lock => (x.id, x))) = ls := by
    unfold Genesis.exportVals
    rw [List.map_map]
    exact (List.map_congr_left (fun x _ => rfl)).trans (List.map_id ls)
  unfold storeLocks
  rw [Genesis.importVals_perm Genesis.soNat hsort hk (by rw [hexp]; exact hp), hexp]

/-! ### the accumulation store rebuilt from the cache -/

theorem accQuery_foldl (es acc0 : List AccEntry) (d k : Nat) :
    accQuery (es.foldl (fun acc e => accAdd acc e.denom e.dur e.val) acc0) d k =
      accQuery acc0 d k + accQuery es d k := by
  induction es generalizing acc0 with
  | nil => simp [accQuery]
  | cons e es ih =>
    simp only [List.foldl_cons, ih, accQuery_accAdd, accQuery]
    omega

/-- the order of the `Increase` calls is unobservable -/
theorem accQuery_accFlush (cache : List AccEntry) (d k : Nat) : accQuery (accFlush cache) d k = accQuery cache d k := by
  unfold accFlush
  rw [accQuery_foldl, accQuery_perm (Genesis.sortBy_perm accLt cache)]
  simp [accQuery]

theorem accQuery_foldl_locks (ls : List Lock) (c0 : List AccEntry) (d k : Nat) :
    accQuery (ls.foldl (fun c l => accAdd c l.denom l.duration l.amount) c0) d k =
      accQuery c0 d k + (lockedLonger ls d k : Int) := by
  induction ls generalizing c0 with
  | nil => simp [lockedLonger, total]
  | cons l ls ih =>
    simp only [List.foldl_cons, ih, accQuery_accAdd, lockedLonger, total_cons, weight_longer, ite_cast_zero]
    omega

/-- the cache of `InitializeAllLocks` answers a query with the sum over the listed locks -/
theorem accQuery_accCache (ls : List Lock) (d k : Nat) : accQuery (accCache ls) d k = (lockedLonger ls d k : Int) := by
  unfold accCache
  rw [accQuery_foldl_locks]
  simp [accQuery]

/-- **the accumulation store after `InitializeAllLocks`**: for every denom and duration, the sum of
    the coins of the listed locks with at least that duration — whatever the order of the list and
    however many locks share a (denom, duration) entry -/
theorem initializeAllLocks_acc (ls : List Lock) (d k : Nat) :
    accQuery (initializeAllLocks ls).2 d k = (lockedLonger ls d k : Int) := by
  simp only [initializeAllLocks, accQuery_accFlush, accQuery_accCache]

/-! ### restart -/

theorem restart_locks {s : State} (hs : IdSorted s.locks) :
    (initGenesis s (exportGenesis s)).locks = s.locks := by
  simp only [initGenesis, exportGenesis, initializeAllLocks]
  exact storeLocks_perm hs (periodLocks_perm s.locks)

theorem restart_acc (s : State) (d k : Nat) :
    accQuery (initGenesis s (exportGenesis s)).acc d k = (lockedLonger s.locks d k : Int) := by
  simp only [initGenesis, exportGenesis, initializeAllLocks_acc]
  exact congrArg Int.ofNat (total_perm _ (periodLocks_perm s.locks))

theorem restart_inv {s : State} (h : Inv s) (hs : IdSorted s.locks) : Inv (initGenesis s (exportGenesis s)) := by
  have hl := restart_locks hs
  constructor
  · intro d; rw [hl]; exact h.custody d
  · intro d k; rw [hl]; exact restart_acc s d k
  · rw [hl]; exact h.nodup
  · intro l hm; rw [hl] at hm; exact h.idle l hm
  · intro l hm; rw [hl] at hm; exact h.pos l hm
  · intro l hm; rw [hl] at hm; exact h.ghost l hm

/-! ### every operation keeps the lock table in id order -/

theorem step_idSorted (p : Params) {s : State} (h : Inv s) (hs : IdSorted s.locks) (op : Op) :
    IdSorted (step p s op).1.locks := by
  have hfresh : ∀ x ∈ s.locks, x.id < s.lastId + 1 := fun x hx => Nat.lt_succ_of_le (h.idle x hx).2
  have d := step_did p h op
  generalize step p s op = r at d ⊢
  cases d with
  | rejected | tick | idle => exact hs
  | topup _ _ _ ht =>
    simp only [addToLock, (frame_charge ht).1.locks]
    exact idSorted_setLock hs _
  | created _ _ _ ht =>
    obtain ⟨fr, _⟩ := frame_charge ht
    simp only [createLock, fr.locks, fr.lastId]
    exact idSorted_append_fresh hs _ hfresh
  | split =>
    refine idSorted_append_fresh (idSorted_setLock hs _) _ fun x hx => ?_
    obtain ⟨o, ho, hid⟩ := mem_setLock_old hx
    exact hid ▸ hfresh o ho
  | started | extended => exact idSorted_setLock hs _
  | forcedPart _ _ _ _ ht =>
    simp only [shrinkLock, (fromModule_some ht).1.locks]
    exact idSorted_setLock hs _
  | forced _ _ _ ht =>
    simp only [removeLock, (fromModule_some ht).1.locks]
    exact idSorted_delLock hs _
  | matured _ _ _ _ hlocks => exact hlocks ▸ idSorted_filter hs _

/-! ### the invariant of a chain's whole life -/

/-- M-Lockup's state invariant plus "the lock table is in id order" (what lets a restart rebuild the
    table exactly); the parameters are unconstrained -/
structure CInv (c : Chain) : Prop where
  inv : Inv c.s
  sorted : IdSorted c.s.locks

theorem cinit_cinv (p : Params) (bal : Actor → Denom → Nat) (now height : Nat) : CInv (cinit p bal now height) :=
  ⟨init_inv bal now height, idSorted_nil⟩

/-- a restart leaves everything of the module state but the representation of the accumulation store
    as it was -/
theorem restart_frame {c : Chain} (h : CInv c) :
    (restart c).s.locks = c.s.locks ∧ (restart c).s.lastId = c.s.lastId ∧ (restart c).s.bal = c.s.bal ∧
    (restart c).s.modBal = c.s.modBal ∧ (restart c).s.now = c.s.now ∧ (restart c).s.height = c.s.height :=
  ⟨restart_locks h.sorted, rfl, rfl, rfl, rfl, rfl⟩

theorem restart_cinv {c : Chain} (h : CInv c) : CInv (restart c) :=
  ⟨restart_inv h.inv h.sorted, by rw [(restart_frame h).1]; exact h.sorted⟩

theorem cstep_cinv {c : Chain} (h : CInv c) (op : COp) : CInv (cstep c op).1 := by
  cases op with
  | msg op => exact ⟨step_inv c.p h.inv op, step_idSorted c.p h.inv h.sorted op⟩
  | restart => exact restart_cinv h
  | setParams m f al => exact ⟨h.inv, h.sorted⟩

theorem crun_cinv : ∀ (ops : List COp) {c : Chain}, CInv c → CInv (crun c ops)
  | [], _, h => h
  | op :: ops, _, h => crun_cinv ops (cstep_cinv h op)

/-- the two operations that are not messages or blocks leave the lock table, the id counter, every
    balance and the clock as they were -/
theorem cstep_nonmsg_frame {c : Chain} (h : CInv c) {op : COp} (hop : ∀ o, op ≠ .msg o) :
    (cstep c op).1.s.locks = c.s.locks ∧ (cstep c op).1.s.lastId = c.s.lastId ∧
    (cstep c op).1.s.bal = c.s.bal ∧ (cstep c op).1.s.modBal = c.s.modBal ∧
    (cstep c op).1.s.now = c.s.now ∧ (cstep c op).1.s.height = c.s.height ∧ (cstep c op).2 = .ok 0 := by
  cases op with
  | msg o => exact absurd rfl (hop o)
  | restart => obtain ⟨a, b, c', d, e, f⟩ := restart_frame h; exact ⟨a, b, c', d, e, f, rfl⟩
  | setParams m f al => exact ⟨rfl, rfl, rfl, rfl, rfl, rfl, rfl⟩

end DymVerif.Lockup
