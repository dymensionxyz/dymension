/-
  Lemmas/LCTxGood — the bundled invariant `Good` (Lemmas/LCGood) through a whole TRANSACTION of any number of messages,
  for the decorator with `checkedMsgsTravelWithIBCOnly` (`Model/LCTx.mixedRefusal`): a transaction either
  carries no message the decorator checks — then every message phase preserves `Good` on its own — or consists of ibc
  core messages only — then no message of it changes the descriptors, the designation maps or the rollapp side, so
  what the ante handler established about a header (`HdrOk`) still holds when the header is stored.  The single op is the
  one-message transaction (`step_good`).  At the end the executable coverage check of `Model/LCTx.lean`: `coveredB`
  implies `DescsCovered`, `CoveredRun` implies `SafeRun`.
-/
import DymVerif.Lemmas.LCGood
namespace DymVerif.LC
open DymVerif.Core (Addr NextP)

/-- every header of the transaction that the ante chain let through is `HdrOk` in the state the ante chain leaves -/
theorem anteAll_hdrOk : ∀ (ms : List Op) (s s1 : St), anteAll s ms = (s1, none) →
    ∀ c hd ibc, Op.updateClient c .top hd ibc ∈ ms → HdrOk s1 c hd
  | [], _, _, _ => fun _ _ _ hm => absurd hm (by simp)
  | m :: ms, s, s1, h => by
    intro c hd ibc hm
    unfold anteAll at h
    cases ha : anteMsg s m with
    | mk s' oe =>
      cases oe with
      | some e => simp [ha] at h
      | none =>
        simp only [ha] at h
        have hf : Frame s' s1 := by
          have := (anteAll_frame ms s').1
          rw [h] at this; exact this
        simp only [List.mem_cons] at hm
        rcases hm with rfl | hm
        · -- the head is this header: `handleUpdate` checked it against `s`
          exact (handleUpdate_hdrOk ha).congr hf.c2r hf.descs
        · exact anteAll_hdrOk ms s' s1 h c hd ibc hm

/-- the message phase of one message preserves `Good`, provided a top-level header still has its ante verdict -/
theorem good_execMsg {s : St} (h : Good s) (m : Op) (hs : SafeOp s m)
    (hok : ∀ c hd ibc, m = .updateClient c .top hd ibc → HdrOk s c hd) : Good (execMsg s m).1 := by
  rcases execMsg_cases s m with ⟨e, hk⟩ | ⟨_, e⟩ | ⟨c, cl, hcl, ⟨hd, ibc, rfl, e⟩ | ⟨_, _, _, e⟩⟩ <;> rw [e]
  · exact good_standalone h m hs hk
  · exact h.of_eq rfl rfl rfl rfl rfl
  · exact good_apply h hcl (hok c hd ibc rfl)
  · exact good_freeze h hcl

theorem execMsg_frame_ibc (s : St) (m : Op) (hm : isIbcCore m = true) : Frame s (execMsg s m).1 := by
  rcases execMsg_cases s m with ⟨_, ⟨_, _, rfl⟩ | ⟨_, _, _, _, rfl⟩ | ⟨_, rfl⟩⟩ | ⟨_, e⟩ | ⟨_, _, _, ⟨_, _, _, e⟩ | ⟨_, _, _, e⟩⟩
  · cases hm
  · exact ⟨rfl, rfl, rfl, rfl⟩
  · cases hm
  all_goals rw [e]; exact ⟨rfl, rfl, rfl, rfl⟩

/-- the side condition of `Lemmas/LCGood` (descriptors covered at a designation), message by message through the
    message phase -/
def SafeMsgs : St → List Op → Prop
  | _, [] => True
  | s, m :: ms => SafeOp s m ∧ SafeMsgs (execMsg s m).1 ms

def SafeTx (s : St) (ms : List Op) : Prop := SafeMsgs (anteAll s ms).1 ms

def SafeRunTx : St → List (List Op) → Prop
  | _, [] => True
  | s, t :: ts => SafeTx s t ∧ SafeRunTx (txStep s t).1 ts

theorem mixed_false {ms : List Op} (h : mixedRefusal ms = false) :
    (∀ m ∈ ms, isChecked m = false) ∨ (∀ m ∈ ms, isIbcCore m = true) := by
  unfold mixedRefusal at h
  by_cases ha : ms.any isChecked = true
  · right
    have : ms.all isIbcCore = true := by simpa [ha] using h
    intro m hm
    exact List.all_eq_true.1 this m hm
  · left
    intro m hm
    cases hc : isChecked m with
    | false => rfl
    | true => exact absurd (List.any_eq_true.2 ⟨m, hm, hc⟩) ha

/-- the message phase of a transaction that is not mixed.  The invariant of the loop: `Good`, and every top-level header
    still to come has its ante verdict (`HdrOk`).  The second half passes a message because either no checked message — so no
    header — is to come, or the message is an ibc core message, which leaves what `HdrOk` speaks of alone. -/
theorem good_execAll : ∀ (ms : List Op) (s : St),
    (∀ m ∈ ms, isChecked m = false) ∨ (∀ m ∈ ms, isIbcCore m = true) → Good s → SafeMsgs s ms →
    (∀ c hd ibc, Op.updateClient c .top hd ibc ∈ ms → HdrOk s c hd) → Good (execAll s ms).1
  | [], _, _, h, _, _ => h
  | m :: ms, s, hdich, h, hs, hok => by
    unfold execAll
    have g1 : Good (execMsg s m).1 := good_execMsg h m hs.1 fun c hd ibc e => hok c hd ibc (e ▸ List.mem_cons_self)
    cases hx : execMsg s m with | mk s1 r =>
    rw [hx] at g1
    cases r with
    | ok =>
      refine good_execAll ms s1 (hdich.imp (fun a x hx' => a x (List.mem_cons_of_mem _ hx')) fun a x hx' => a x (List.mem_cons_of_mem _ hx'))
        g1 (by have := hs.2; rw [hx] at this; exact this) fun c hdr ibc hm => ?_
      rcases hdich with hu | hi
      · cases (hu _ (List.mem_cons_of_mem _ hm)).symm.trans (show isChecked (.updateClient c .top hdr ibc) = true from rfl)
      · have hfr := execMsg_frame_ibc s m (hi m List.mem_cons_self)
        rw [hx] at hfr
        exact (hok c hdr ibc (List.mem_cons_of_mem _ hm)).congr hfr.c2r hfr.descs
    | _ => exact h

/-- a whole transaction, of any number of messages, preserves the bundled invariant -/
theorem good_txStep {s : St} (h : Good s) (ms : List Op) (hs : SafeTx s ms) : Good (txStep s ms).1 := by
  rcases txStep_cases s ms with ⟨_, e⟩ | ⟨s1, hmf, ha, e⟩
  · rw [e]; exact h
  · have g1 : Good s1 := by
      have hf := anteAll_frame ms s
      rw [ha] at hf
      exact h.of_frame hf.1 hf.2
    rcases e with e | e <;> rw [e]
    · exact g1
    · exact good_execAll ms s1 (mixed_false hmf) g1 (by unfold SafeTx at hs; rw [ha] at hs; exact hs) (anteAll_hdrOk ms s s1 ha)

theorem runTx_good : ∀ (txs : List (List Op)) (s : St), Good s → SafeRunTx s txs → Good (runTx s txs)
  | [], _, h, _ => h
  | t :: ts, s, h, hs => by
    simp only [runTx, List.foldl_cons]
    exact runTx_good ts _ (good_txStep h t hs.1) hs.2

theorem safeTx_single {s : St} {op : Op} (hs : SafeOp s op) : SafeTx s [op] := by
  cases op with
  | setCanonical c => exact ⟨hs, trivial⟩
  | _ => exact ⟨trivial, trivial⟩

/-- the stand-alone op is the one-message transaction -/
theorem step_good {s : St} (h : Good s) (op : Op) (hs : SafeOp s op) : Good (step s op).1 := by
  rw [← txStep_single]; exact good_txStep h [op] (safeTx_single hs)

theorem run_good : ∀ (ops : List Op) (s : St), Good s → SafeRun s ops → Good (run s ops)
  | [], _, h, _ => h
  | op :: ops, s, h, hs => by
    simp only [run, List.foldl_cons]
    exact run_good ops _ (step_good h op hs.1) hs.2

theorem coveredB_sound {s : St} (h : coveredB s = true) (ra : Nat) : DescsCovered s ra := by
  intro ht d hg
  obtain ⟨hmem, hra, hh⟩ := getDesc_mem hg
  unfold coveredB at h
  have hd := List.all_eq_true.1 h d hmem
  rw [hra] at hd
  cases hr : Core.getRa s.core ra with
  | none => simp [hr] at hd
  | some r =>
    simp only [hr] at hd
    obtain ⟨st, hst, hb⟩ := List.any_eq_true.1 hd
    simp only [Bool.and_eq_true, decide_eq_true_eq] at hb
    exact ⟨r, st, rfl, hst, by omega, by omega⟩

/-- every state along the run satisfies the executable coverage check -/
def CoveredRun : St → List Op → Prop
  | s, [] => coveredB s = true
  | s, op :: ops => coveredB s = true ∧ CoveredRun (step s op).1 ops

theorem safeRun_of_covered : ∀ (ops : List Op) (s : St), CoveredRun s ops → SafeRun s ops
  | [], _, _ => trivial
  | op :: ops, s, h => by
    refine ⟨?_, safeRun_of_covered ops _ h.2⟩
    cases op with
    | setCanonical c => exact fun cl _ => coveredB_sound h.1 cl.chain
    | _ => trivial

end DymVerif.LC
