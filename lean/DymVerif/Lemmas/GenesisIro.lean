/-
  Lemmas/GenesisIro — x/iro: the store invariant of the plan sections (`IroInv`), its preservation by
  the write paths (`iroStep`: CreatePlan with the id counter, any later SetPlan of a stored plan),
  and the genesis round trip under it.
-/
import DymVerif.Lemmas.GenesisKV
namespace DymVerif.Genesis
open DymVerif

theorem planKey_inj {a b : Nat} (h : planKey a = planKey b) : a = b :=
  decKey_inj (List.append_cancel_left h)

theorem plansByRollappKey_inj {a b : Bytes} (h : plansByRollappKey a = plansByRollappKey b) : a = b :=
  List.append_cancel_left h

/-- the counter loop computes the maximum -/
theorem iroInitLastPlanId_eq_maxId (ids : List Nat) : iroInitLastPlanId ids = maxId ids := by
  unfold iroInitLastPlanId maxId
  have : (fun acc id : Nat => if id > acc then id else acc) = Nat.max := by
    funext a b
    exact ite_ind (P := (· = max a b)) (fun h => (Nat.max_eq_right (Nat.le_of_lt h)).symm)
      fun h => (Nat.max_eq_left (Nat.le_of_not_lt h)).symm
  rw [this]

structure IroInv (s : IroState) : Prop where
  sp : Sorted lexLt s.plans
  kp : Keyed (fun p => planKey p.id) s.plans
  sr : Sorted lexLt s.byRollapp
  /-- the by-rollapp section holds exactly one entry per plan -/
  idx : ∀ e, e ∈ s.byRollapp ↔ ∃ x ∈ s.plans, e = (plansByRollappKey x.2.rollapp, x.2.id)
  /-- one plan per rollapp -/
  uniq : ∀ x ∈ s.plans, ∀ y ∈ s.plans, x.2.rollapp = y.2.rollapp → x = y
  /-- the counter is the largest id handed out -/
  ub : ∀ x ∈ s.plans, x.2.id ≤ s.lastPlanId
  att : s.lastPlanId = 0 ∨ ∃ x ∈ s.plans, x.2.id = s.lastPlanId

theorem IroInv.last_eq {s : IroState} (h : IroInv s) : s.lastPlanId = maxId ((exportVals s.plans).map (·.id)) := by
  symm
  apply maxId_eq_of
  · intro id hid
    obtain ⟨p, hp, rfl⟩ := List.mem_map.1 hid
    obtain ⟨e, he, rfl⟩ := List.mem_map.1 hp
    exact h.ub e he
  · rcases h.att with h0 | ⟨x, hx, hxe⟩
    · exact Or.inl h0
    · exact Or.inr (List.mem_map.2 ⟨x.2, List.mem_map.2 ⟨x, hx, rfl⟩, hxe⟩)

/-- **import of ANY permutation of the exported plan list rebuilds the state** -/
theorem iro_import_perm {s : IroState} (h : IroInv s) {l : List Plan} (hp : l.Perm (exportVals s.plans)) :
    importIro { params := s.params, plans := l } = s := by
  have hplans : (l.foldl setPlan { params := s.params, plans := [], byRollapp := [], lastPlanId := 0 }).plans = s.plans := by
    rw [foldl_proj setPlan (·.plans) (fun m p => kvSet lexLt (planKey p.id) (id p) m) fun _ _ => rfl]
    exact importVals_perm soBytes h.sp h.kp hp
  have hidx : (l.foldl setPlan { params := s.params, plans := [], byRollapp := [], lastPlanId := 0 }).byRollapp = s.byRollapp := by
    rw [foldl_proj setPlan (·.byRollapp) (fun m p => kvSet lexLt (plansByRollappKey p.rollapp) p.id m) fun _ _ => rfl]
    refine importWith_ext soBytes h.sr fun e => (h.idx e).trans ⟨?_, ?_⟩
    · rintro ⟨x, hx, rfl⟩
      exact ⟨x.2, hp.mem_iff.2 (List.mem_map.2 ⟨x, hx, rfl⟩), rfl⟩
    · rintro ⟨p, hpl, rfl⟩
      obtain ⟨x, hx, rfl⟩ := List.mem_map.1 (hp.mem_iff.1 hpl)
      exact ⟨x, hx, rfl⟩
  have hlast : iroInitLastPlanId (l.map (·.id)) = s.lastPlanId := by
    rw [iroInitLastPlanId_eq_maxId, maxId_perm (hp.map _), ← h.last_eq]
  exact congr (congr (congr (congrArg IroState.mk (foldl_fixed setPlan (·.params) (fun _ _ => rfl) _ _)) hplans) hidx) hlast

theorem iro_import_export {s : IroState} (h : IroInv s) : importIro (exportIro s) = s :=
  iro_import_perm h (List.Perm.refl _)

/-! ### the invariant holds in every reachable state -/

theorem iroInv_init : IroInv iroInit where
  sp := sorted_nil
  kp := fun _ h => by cases h
  sr := sorted_nil
  idx := fun e => by simp [iroInit]
  uniq := fun _ h => by cases h
  ub := fun _ h => by cases h
  att := Or.inl rfl

/-- `SetPlan` of a plan that is the only one of its rollapp (before and after), with the counter at or
    above every id: the common part of `CreatePlan` and of any later `SetPlan` -/
theorem iroInv_setPlan {s : IroState} (h : IroInv s) (p : Plan) (n : Nat)
    (hr : ∀ x ∈ s.plans, x.2.rollapp = p.rollapp ↔ x.1 = planKey p.id)
    (hn : s.lastPlanId ≤ n) (hp : p.id ≤ n) (hat : n = s.lastPlanId ∨ n = p.id) :
    IroInv (setPlan { s with lastPlanId := n } p) := by
  have hmemP := mem_kvSet (β := Plan) soBytes (planKey p.id) p h.sp
  have hmemR := mem_kvSet (β := Nat) soBytes (plansByRollappKey p.rollapp) p.id h.sr
  constructor
  · exact sorted_kvSet soBytes _ _ h.sp
  · exact keyed_kvSet (key := fun p : Plan => planKey p.id) soBytes h.sp h.kp p
  · exact sorted_kvSet soBytes _ _ h.sr
  · intro e
    show e ∈ kvSet lexLt (plansByRollappKey p.rollapp) p.id s.byRollapp ↔
      ∃ x ∈ kvSet lexLt (planKey p.id) p s.plans, e = (plansByRollappKey x.2.rollapp, x.2.id)
    rw [hmemR e]
    constructor
    · rintro (rfl | ⟨he, hne⟩)
      · exact ⟨_, (hmemP _).2 (Or.inl rfl), rfl⟩
      · obtain ⟨x, hx, rfl⟩ := (h.idx e).1 he
        exact ⟨x, (hmemP _).2 (Or.inr ⟨hx, fun hk => hne (congrArg plansByRollappKey ((hr x hx).2 hk))⟩), rfl⟩
    · rintro ⟨x, hx, rfl⟩
      rcases (hmemP x).1 hx with rfl | ⟨hx', hne⟩
      · exact Or.inl rfl
      · exact Or.inr ⟨(h.idx _).2 ⟨x, hx', rfl⟩, fun he => hne ((hr x hx').1 (plansByRollappKey_inj he))⟩
  · intro x hx y hy hxy
    rcases (hmemP x).1 hx with rfl | ⟨hx', hnx⟩ <;> rcases (hmemP y).1 hy with rfl | ⟨hy', hny⟩
    · rfl
    · exact absurd ((hr y hy').1 hxy.symm) hny
    · exact absurd ((hr x hx').1 hxy) hnx
    · exact h.uniq x hx' y hy' hxy
  · intro x hx
    rcases (hmemP x).1 hx with rfl | ⟨hx', _⟩
    · exact hp
    · exact Nat.le_trans (h.ub x hx') hn
  · rcases hat with rfl | rfl
    · rcases h.att with h0 | ⟨x, hx, hxe⟩
      · exact Or.inl h0
      · right
        by_cases hk : x.1 = planKey p.id
        · exact ⟨_, (hmemP _).2 (Or.inl rfl), (planKey_inj ((h.kp x hx).symm.trans hk)).symm.trans hxe⟩
        · exact ⟨x, (hmemP _).2 (Or.inr ⟨hx, hk⟩), hxe⟩
    · exact Or.inr ⟨_, (hmemP _).2 (Or.inl rfl), rfl⟩

theorem iroInv_create {s : IroState} (h : IroInv s) (r : Bytes) (b : Nat)
    (hf : kvHas (plansByRollappKey r) s.byRollapp = false) :
    IroInv (setPlan { s with lastPlanId := nextPlanId s } ⟨nextPlanId s, r, b⟩) := by
  -- no stored plan has the new plan's rollapp (`hf`) or its id (above the counter)
  refine iroInv_setPlan h ⟨nextPlanId s, r, b⟩ (nextPlanId s) (fun x hx => ⟨fun he => ?_, fun hk => ?_⟩)
    (Nat.le_succ _) (Nat.le_refl _) (Or.inr rfl)
  · exact absurd (congrArg plansByRollappKey he) (kvHas_false hf _ ((h.idx _).2 ⟨x, hx, rfl⟩))
  · have hid : x.2.id = nextPlanId s := planKey_inj ((h.kp x hx).symm.trans hk)
    exact absurd (hid ▸ h.ub x hx) (Nat.not_succ_le_self _)

theorem iroInv_update {s : IroState} (h : IroInv s) (id b : Nat) (p : Plan)
    (hg : kvGet (planKey id) s.plans = some p) : IroInv (setPlan s { p with body := b }) := by
  have hp : (planKey id, p) ∈ s.plans := kvGet_some hg
  have hid : planKey id = planKey p.id := h.kp _ hp
  -- the stored plan with this rollapp, and the one under this key, is `p`
  refine iroInv_setPlan h { p with body := b } s.lastPlanId (fun x hx => ⟨fun he => ?_, fun hk => ?_⟩)
    (Nat.le_refl _) (h.ub _ hp) (Or.inl rfl)
  · exact (congrArg Prod.fst (h.uniq x hx _ hp he)).trans hid
  · exact congrArg (·.2.rollapp) (h.sp.eq_of_key soBytes hx hp (hk.trans hid.symm))

theorem iroInv_step {s : IroState} (h : IroInv s) (op : IroOp) : IroInv (iroStep s op) := by
  cases op with
  | create r b => exact ite_ind (fun _ => h) fun hf => iroInv_create h r b (Bool.eq_false_iff.2 hf)
  | update id b =>
    rw [iroStep]
    cases hg : kvGet (planKey id) s.plans with
    | none => exact h
    | some p => exact iroInv_update h id b p hg
  | setParams p => exact ⟨h.sp, h.kp, h.sr, h.idx, h.uniq, h.ub, h.att⟩

theorem iroInv_run (ops : List IroOp) : IroInv (iroRun ops) := by
  unfold iroRun
  suffices ∀ s, IroInv s → IroInv (ops.foldl iroStep s) from this _ iroInv_init
  induction ops with
  | nil => exact fun _ h => h
  | cons o os ih => exact fun s h => ih _ (iroInv_step h o)

end DymVerif.Genesis
