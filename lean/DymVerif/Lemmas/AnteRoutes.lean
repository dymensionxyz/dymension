/-
  Lemmas/AnteRoutes — helper lemmas about the route model of `NewAnteHandler` (`runDecs`, `runAnte`,
  `rejectFirst`, `ethGuarded`) and about `reach` on transactions without wrappers at the top.
  Core Lean only.
-/
import DymVerif.Lemmas.AnteBasic
namespace DymVerif.Ante

theorem runDecs_nil (c : Config) (rc : Bool) (tx : List Msg) : runDecs c rc [] tx = none := rfl

theorem runDecs_reject (c : Config) (rc : Bool) (ds : List Dec) (tx : List Msg) :
    runDecs c rc (.reject :: ds) tx =
      match anteCheck c tx with
      | some e => some (.ante e)
      | none => runDecs c rc ds tx := rfl

theorem runDecs_ethOnly (c : Config) (rc skip : Bool) (ds : List Dec) (tx : List Msg) :
    runDecs c rc (.ethOnly skip :: ds) tx =
      if skip && rc then runDecs c rc ds tx
      else match tx.find? (fun m => m.ty != tyEthTx) with
        | some m => some (.notEth m.ty)
        | none => runDecs c rc ds tx := rfl

theorem runDecs_setup (c : Config) (rc : Bool) (ds : List Dec) (tx : List Msg) :
    runDecs c rc (.setup :: ds) tx = runDecs c rc ds tx := rfl

theorem runDecs_other (c : Config) (rc : Bool) (ds : List Dec) (tx : List Msg) :
    runDecs c rc (.other :: ds) tx = runDecs c rc ds tx := rfl

/-- a chain that lets the transaction through lets it through after dropping its head -/
theorem runDecs_none_tail {c : Config} {rc : Bool} {d : Dec} {ds : List Dec} {tx : List Msg}
    (h : runDecs c rc (d :: ds) tx = none) : runDecs c rc ds tx = none := by
  cases d with
  | setup => simpa [runDecs_setup] using h
  | other => simpa [runDecs_other] using h
  | reject =>
    rw [runDecs_reject] at h
    cases ha : anteCheck c tx with
    | some e => rw [ha] at h; cases h
    | none => rw [ha] at h; exact h
  | ethOnly skip =>
    rw [runDecs_ethOnly] at h
    by_cases hs : (skip && rc) = true
    · simpa [hs] using h
    · simp only [hs, if_false, Bool.false_eq_true] at h
      cases hf : tx.find? (fun m => m.ty != tyEthTx) with
      | some m => rw [hf] at h; cases h
      | none => rw [hf] at h; exact h

/-- if the chain contains the reject decorator anywhere, an accepted tx passed `anteCheck` -/
theorem runDecs_none_reject {c : Config} {rc : Bool} :
    ∀ (ds : List Dec) (tx : List Msg), runDecs c rc ds tx = none → Dec.reject ∈ ds →
      anteCheck c tx = none := by
  intro ds
  induction ds with
  | nil => intro tx _ hm; cases hm
  | cons d ds ih =>
    intro tx h hm
    cases hm with
    | head =>
      rw [runDecs_reject] at h
      cases ha : anteCheck c tx with
      | some e => rw [ha] at h; cases h
      | none => rfl
    | tail _ hm' => exact ih tx (runDecs_none_tail h) hm'

/-- if the chain contains a decorator that insists on MsgEthereumTx in every mode, every message of
    an accepted tx is a MsgEthereumTx -/
theorem runDecs_none_eth {c : Config} {rc : Bool} :
    ∀ (ds : List Dec) (tx : List Msg), runDecs c rc ds tx = none → Dec.ethOnly false ∈ ds →
      ∀ m ∈ tx, m.ty = tyEthTx := by
  intro ds
  induction ds with
  | nil => intro tx _ hm; cases hm
  | cons d ds ih =>
    intro tx h hm
    cases hm with
    | head =>
      rw [runDecs_ethOnly] at h
      simp only [Bool.false_and, Bool.false_eq_true, if_false] at h
      cases hf : tx.find? (fun m => m.ty != tyEthTx) with
      | some m => rw [hf] at h; cases h
      | none =>
        intro m hmem
        have := List.find?_eq_none.mp hf m hmem
        simpa using this
    | tail _ hm' => exact ih tx (runDecs_none_tail h) hm'

theorem rejectFirst_mem {ds : List Dec} (h : rejectFirst ds = true) : Dec.reject ∈ ds := by
  unfold rejectFirst at h
  have hsub : ∀ x ∈ ds.dropWhile (fun d => d == Dec.setup), x ∈ ds :=
    fun x hx => (List.dropWhile_sublist _).subset hx
  cases hd : ds.dropWhile (fun d => d == Dec.setup) with
  | nil => rw [hd] at h; cases h
  | cons x xs =>
    rw [hd] at h hsub
    cases x with
    | reject => exact hsub _ List.mem_cons_self
    | setup => cases h
    | other => cases h
    | ethOnly s => cases h

/-- (any configuration, any chain) a guarded chain that accepts a transaction has
    either run `anteCheck` on it successfully or seen only MsgEthereumTx messages -/
theorem runDecs_guarded {c : Config} {rc : Bool} {ds : List Dec} {tx : List Msg}
    (hg : (rejectFirst ds || ethGuarded ds) = true) (h : runDecs c rc ds tx = none) :
    anteCheck c tx = none ∨ ∀ m ∈ tx, m.ty = tyEthTx := by
  cases hr : rejectFirst ds with
  | true => exact .inl (runDecs_none_reject ds tx h (rejectFirst_mem hr))
  | false =>
    rw [hr, Bool.false_or] at hg
    exact .inr (runDecs_none_eth ds tx h (by simpa [ethGuarded] using hg))

/-! ## `reach` on a transaction whose top-level messages are no wrappers -/

/-- when no top-level message is a message-carrying wrapper, only the top level is reachable -/
theorem reach_no_wrapper {W : Nat → Option Acc} {tx : List Msg}
    (hw : ∀ m ∈ tx, W m.ty ≠ some .msgs) {p : List Nat} {n : Msg} (hr : reach W tx p = some n) :
    n ∈ tx ∧ p.length = 1 := by
  cases p with
  | nil => simp [reach] at hr
  | cons i rest =>
    cases rest with
    | nil =>
      rw [reach_single] at hr
      exact ⟨List.mem_of_getElem? hr, rfl⟩
    | cons j q =>
      rw [reach_cons2] at hr
      cases hi : tx[i]? with
      | none => rw [hi] at hr; cases hr
      | some x =>
        rw [hi] at hr
        have := hw x (List.mem_of_getElem? hi)
        simp [this] at hr

end DymVerif.Ante
