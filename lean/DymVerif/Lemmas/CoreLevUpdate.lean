/-
  Lemmas/CoreLevUpdate — what an accepted `MsgUpdateState` does to the liveness clock of its rollapp
  and to the dishonor of its proposer.
-/
import DymVerif.Lemmas.CoreLevFrame
namespace DymVerif.Core.LevNs

/-- record and event of the rollapp right after `IndicateLiveness` -/
theorem indicateLiveness_spec {s : St} {id : Nat} {r : Rollapp} (hg : getRa s id = some r) :
    getRa (indicateLiveness s r) id =
      some { r with evH := nextSlashHeight s.p.lsBlocks s.p.lsInterval s.h s.h, cdStart := s.h } ∧
    (nextSlashHeight s.p.lsBlocks s.p.lsInterval s.h s.h, id) ∈ (indicateLiveness s r).lev := by
  constructor
  · rw [getRa_of_ras_eq (indicateLiveness_ras s r)]
    exact getRa_setRa_same_id hg (show r.id = id from getRa_id hg)
  · rw [indicateLiveness_lev, getRa_id hg]
    exact insertSorted_mem_self _ _ _

/-- the rollapp hook `AfterSetRealProposer` on an existing rollapp: the clock restarted, the new proposer
    noted in the latest state info -/
theorem afterSetRealProposer_eq {s : St} {ra : Nat} {a : Addr} {r : Rollapp} (hg : getRa s ra = some r) :
    afterSetRealProposer s ra a =
      setRa (indicateLiveness s r)
        { r with evH := nextSlashHeight s.p.lsBlocks s.p.lsInterval s.h s.h, cdStart := s.h,
                 states := setLastNext r.states (NextP.addr a) } := by
  unfold afterSetRealProposer
  rw [hg]; dsimp only
  rw [(indicateLiveness_spec hg).1]

/-- every accepted update (last or not) restarts the countdown at the current height and schedules
    the one event of the rollapp at the next slash height -/
theorem updateState_clock {s s' : St} {m : UpdMsg} (e : updateState s m = .ok s') :
    ∃ r', getRa s' m.ra = some r' ∧ r'.cdStart = s.h ∧
      r'.evH = nextSlashHeight s.p.lsBlocks s.p.lsInterval s.h s.h ∧ (r'.evH, m.ra) ∈ s'.lev := by
  obtain ⟨r, s3, _, r4, _, _, _, _, _, _, _, h3, rfl, hg4, rfl⟩ := updateState_ok e
  have h3' := seqAfterUpdate_cl (hp_closed s.h s.p)
    (s := setRa s { r with states := r.states ++ [newSInfo s m (updSucc r m)] }) ⟨rfl, rfl⟩ h3
  have sp := indicateLiveness_spec hg4
  refine ⟨_, sp.1, h3'.1, ?_, sp.2⟩
  show nextSlashHeight s3.p.lsBlocks s3.p.lsInterval s3.h s3.h = _
  rw [h3'.1, h3'.2]

/-- an accepted update that is not the proposer's last block: the rollapp record gets the new
    state, the clock is restarted, the proposer's dishonor drops by `min(DishonorStateUpdate, dishonor)` -/
theorem updateState_nonlast {s s' : St} {m : UpdMsg} {r : Rollapp} {q : Seq} (hr : getRa s m.ra = some r)
    (hq : getSeq s m.sender = some q) (hl : m.last = false) (e : updateState s m = .ok s') :
    getRa s' m.ra = some { r with states := r.states ++ [newSInfo s m (NextP.addr m.sender)],
                                  evH := nextSlashHeight s.p.lsBlocks s.p.lsInterval s.h s.h, cdStart := s.h } ∧
    getSeq s' m.sender = some { q with dishonor := q.dishonor - min s.sqp.dishonorSU q.dishonor } ∧
    (nextSlashHeight s.p.lsBlocks s.p.lsInterval s.h s.h, m.ra) ∈ s'.lev := by
  obtain ⟨r0, s3, _, r4, _, hg, _, _, _, _, _, h3, rfl, hg4, rfl⟩ := updateState_ok e
  rw [hr] at hg; injection hg with hg; subst hg
  have hsucc : updSucc r m = NextP.addr m.sender := by unfold updSucc; rw [hl]; rfl
  rw [hsucc, show (NextP.addr m.sender != NextP.addr m.sender) = false by simp] at h3
  -- not the last block: the sequencer hook only lowers the dishonor
  obtain ⟨q', _, hq', rfl, h2⟩ := seqAfterUpdate_ok h3
  rw [show getSeq (setRa s _) m.sender = some q from hq] at hq'
  injection hq' with hq'; subst hq'
  rcases h2 with ⟨_, rfl⟩ | ⟨hb, _⟩
  case inr => cases hb
  have hg4' : getRa (setRa s { r with states := r.states ++ [newSInfo s m (NextP.addr m.sender)] }) m.ra = some r4 := hg4
  rw [getRa_setRa_same_id (r' := { r with states := r.states ++ [newSInfo s m (NextP.addr m.sender)] }) hr
    (show r.id = m.ra from getRa_id hr)] at hg4'
  injection hg4' with hg4'; subst hg4'
  have sp := indicateLiveness_spec hg4
  refine ⟨sp.1, ?_, sp.2⟩
  rw [getSeq_congr (indicateLiveness_seqs _ _).1, ← getSeq_addr hq]
  exact getSeq_setSeq_self (q := { q with dishonor := q.dishonor - min s.sqp.dishonorSU q.dishonor }) (q0 := q)
    (by show getSeq (setRa s _) q.addr = some q; rw [getSeq_addr hq]; exact hq)

end DymVerif.Core.LevNs
