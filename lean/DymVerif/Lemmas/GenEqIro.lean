/-
  Lemmas/GenEqIro — the regenerated translation of the x/iro pure functions (`Gen/Iro.lean`,
  rewritten from /repo's working tree by every check) equals the hand-written model the C13
  theorems are about.  A semantic change to one of these Go functions changes the generated term
  and breaks the corresponding lemma here (this is how the repairs of F5 — exact-spend result scaled by
  the supply decimals — and F16 — truncated vesting ratio — showed up: `iro_tokensForExactIn_eq` and
  `iro_vestedAmt_eq` stopped checking until the model followed).
-/
import DymVerif.Gen.Iro
import DymVerif.Lemmas.IroArith
namespace DymVerif.GenEq
open DymVerif DymVerif.Iro

theorem iro_scaleFromBase_eq : Gen.Iro.scaleFromBase = Iro.scaleFromBase := rfl

theorem iro_scaleToBase_eq : Gen.Iro.scaleToBase = Iro.scaleToBase := rfl

/-- `BondingCurve.Cost` with 18 supply decimals, the integral being the oracle `I` on raw values -/
theorem iro_cost_eq (I : Int → Int) (L : Nat) (x x1 : Int) :
    Gen.Iro.cost (fun d => ⟨I d.raw⟩) 18 L x x1 = Iro.cost I L x x1 := by
  have e0 : pow10 (18 - 18) = 1 := by decide
  simp [Gen.Iro.cost, Iro.cost, Gen.Iro.scaleFromBase, Gen.Iro.scaleToBase, Iro.scaleToBase, e0]

/-- `BondingCurve.TokensForExactInAmount` with 18 supply decimals — including which decimals the
    Newton result is converted with (the supply's) -/
theorem iro_tokensForExactIn_eq (T : Int → Int → Option Int) (L : Nat) (currX spendAmt : Int) :
    Gen.Iro.tokensForExactInAmount T 18 L currX spendAmt = Iro.tokensForExactIn T L currX spendAmt := by
  unfold Gen.Iro.tokensForExactInAmount Iro.tokensForExactIn
  simp only [iro_scaleFromBase_eq, iro_scaleToBase_eq, Dec.one, Int.not_lt]
  by_cases h1 : (Iro.scaleFromBase currX 18).raw < decP
  · simp [h1]
  · by_cases h2 : spendAmt ≤ 0
    · simp [h1, h2]
    · simp only [h1, h2, if_false]
      cases hT : T (Iro.scaleFromBase currX 18).raw (Iro.scaleFromBase spendAmt L).raw <;> rfl

theorem iro_findEquilibrium_eq (m n alloc : Int) (r : Dec) :
    Gen.Iro.findEquilibrium ⟨m⟩ ⟨n⟩ alloc r = Iro.findEquilibrium m n alloc r := by
  unfold Gen.Iro.findEquilibrium Iro.findEquilibrium
  rfl

theorem iro_applyTakerFee_eq : Gen.Iro.applyTakerFee = Iro.applyTakerFee := by
  funext amount fee isAdd
  unfold Gen.Iro.applyTakerFee Iro.applyTakerFee
  simp only [Int.not_lt]

/-- `checkPrecision(N)`: at most `MaxNPrecision` = 3 decimals ⇔ raw value divisible by 10^15 -/
theorem iro_checkPrecision_eq (n : Int) :
    Gen.Iro.checkPrecision ⟨n⟩ = decide (n % 1000000000000000 = 0) := by
  have e : n * (((10 : Int) ^ Gen.Iro.maxNPrecision.toNat) * decP) = (n * 1000) * decP := by
    have : ((10 : Int) ^ Gen.Iro.maxNPrecision.toNat) = 1000 := by decide
    rw [this, Int.mul_assoc]
  simp only [Gen.Iro.checkPrecision, Dec.mul, Dec.ofInt, e, chopRound_mul_decP]
  unfold decP
  by_cases h : n % 1000000000000000 = 0
  · simp [h]; omega
  · simp [h]; omega

/-- `BondingCurve.ValidateBasic` (with non-zero decimals) is the model's `curveValid` -/
theorem iro_validateBasic_eq (m n c : Int) (S L : Nat) (hS : S ≠ 0) (hL : L ≠ 0) :
    Gen.Iro.validateBasic ⟨m⟩ ⟨n⟩ ⟨c⟩ S L = Iro.curveValid m n c := by
  have e2 : (Dec.ofInt Gen.Iro.maxNValue).raw = 2 * decP := by decide
  have hSL : ¬ ((S : Int) = 0 ∨ (L : Int) = 0) := by omega
  rw [Bool.eq_iff_iff]
  -- the chain of early returns is the conjunction of the negated guards
  simp only [Gen.Iro.validateBasic, Iro.curveValid, iro_checkPrecision_eq, e2, hSL, Bool.if_false_left,
    Bool.not_eq_true', decide_eq_false_iff_not, Bool.and_eq_true, decide_eq_true_eq, Bool.or_eq_true,
    beq_iff_eq, if_false, Int.not_lt, Int.not_le, Decidable.not_not, Decidable.not_and_iff_not_or_not,
    and_true, and_assoc]

/-- `IROVestingPlan.VestedAmt`: the model returns `none` exactly where the Go code divides by zero
    (vesting window of length 0 at its single instant), and otherwise the translated value -/
theorem iro_vestedAmt_eq (v : Vest) (now : Int) :
    Iro.vestedAmt v now =
      if 0 < v.amount - v.claimed ∧ v.start ≤ now ∧ now ≤ v.stop ∧ v.stop - v.start = 0 then none
      else some (Gen.Iro.vestedAmt v now) := by
  unfold Iro.vestedAmt Gen.Iro.vestedAmt Iro.vestedTotal
  simp only []
  by_cases h1 : v.amount - v.claimed ≤ 0
  · rw [if_pos h1, if_neg (by omega), if_pos (by omega)]
  · rw [if_neg h1]
    by_cases h2 : now < v.start
    · rw [if_pos h2, if_neg (by omega), if_neg (by omega), if_pos h2]
    · rw [if_neg h2]
      by_cases h3 : v.stop < now
      · rw [if_pos h3, if_neg (by omega), if_neg (by omega), if_neg h2, if_pos h3]
      · rw [if_neg h3]
        by_cases h4 : v.stop - v.start = 0
        · rw [if_pos h4, if_pos (by omega)]
        · rw [if_neg h4, if_neg (by omega), if_neg (by omega), if_neg h2, if_neg h3]

theorem iro_minTokenAllocation_eq : Gen.Iro.minTokenAllocation.raw = 10 * Iro.oneToken := by decide

end DymVerif.GenEq
