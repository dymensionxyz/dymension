/-
  Lemmas/CoreForkQuiet — a rollapp's revisions and latest height change only by an accepted update of
  that rollapp or a fork of that rollapp: every other transition keeps them (`apply_rk`), hence so
  does every op sequence that contains no such transition (`quiet_rk`).
-/
import DymVerif.Lemmas.CoreForkInv3
namespace DymVerif.Core.Fork

/-- rollapp `ra` keeps its revisions and its latest height -/
def RK (ra : Nat) (s s' : St) : Prop :=
  ∀ r, getRa s ra = some r → ∃ r', getRa s' ra = some r' ∧ r'.revs = r.revs ∧ latestHeight r' = latestHeight r

theorem RK.refl (ra : Nat) (s : St) : RK ra s s := fun r h => ⟨r, h, rfl, rfl⟩

theorem RK.trans {ra : Nat} {s1 s2 s3 : St} (a : RK ra s1 s2) (b : RK ra s2 s3) : RK ra s1 s3 := by
  intro r hg
  obtain ⟨r', h1, h2, h3⟩ := a r hg
  obtain ⟨r'', h4, h5, h6⟩ := b r' h1
  exact ⟨r'', h4, h5.trans h2, h6.trans h3⟩

theorem RK.of_getRa {ra : Nat} {s s' : St} (e : getRa s' ra = getRa s ra) : RK ra s s' :=
  fun r h => ⟨r, e.trans h, rfl, rfl⟩

theorem latestHeight_of_map_eraseNext {r r' : Rollapp} (e : r'.states.map eraseNext = r.states.map eraseNext) :
    latestHeight r' = latestHeight r := by
  have key : ∀ x : Rollapp, latestHeight x = ((x.states.map eraseNext).getLast?).map (·.last) := by
    intro x
    unfold latestHeight
    rw [List.getLast?_map]
    cases x.states.getLast? with
    | none => rfl
    | some y => rfl
  rw [key, key, e]

theorem Good.rk {s s' : St} (g : Good s s') (ra : Nat) : RK ra s s' := by
  intro r hg
  obtain ⟨r', h1, h2, _⟩ := g.keep ra r hg
  exact ⟨r', h1, congrArg Prod.fst h2, latestHeight_of_map_eraseNext (congrArg Prod.snd h2)⟩

theorem hardFork_rk {s s' : St} {ra ra' lv : Nat} (hne : ra ≠ ra') (e : hardFork s ra' lv = .ok s') : RK ra s s' :=
  RK.of_getRa (hardFork_getRa_other e hne)

theorem hardForkToLatest_rk {s s' : St} {ra ra' : Nat} (hne : ra ≠ ra') (e : hardForkToLatest s ra' = .ok s') : RK ra s s' := by
  obtain ⟨_, _, _, _, hf⟩ := hardForkToLatest_ok e
  exact hardFork_rk hne hf

theorem finalizeOne_rk {s s' : St} {fails : List (Nat × Nat)} {ra' idx : Nat} (ra : Nat)
    (e : finalizeOne s fails ra' idx = some s') : RK ra s s' := by
  obtain ⟨_, _, r, st, hg, hst, _, rfl⟩ := finalizeOne_ok e
  have hid := getRa_id hg
  by_cases hx : ra = r.id
  · -- the finalized state keeps its heights, so the latest height is the same
    subst hx
    intro r0 hg0
    cases (hid ▸ hg).symm.trans hg0
    refine ⟨_, getRa_setRa_same (s := { s with seqH := _ }) (r := { r with states := _, lastFin := idx }) (hid ▸ hg), rfl, ?_⟩
    unfold latestHeight
    dsimp only
    rw [List.getLast?_eq_getElem?, List.getLast?_eq_getElem?, List.length_set, List.getElem?_set]
    by_cases hi : idx - 1 = r.states.length - 1
    · rw [if_pos hi, ← hi, hst]
      simp [getElem?_lt hst]
      rfl
    · rw [if_neg hi]
  · exact RK.of_getRa (getRa_setRa_other (s := { s with seqH := _ }) hx)

theorem endBlock_rk (ra : Nat) (s : St) (fails : List (Nat × Nat)) : RK ra s (endBlock s fails) :=
  endBlock_ind (P := RK ra s) fails (RK.refl ra s) (fun _ _ _ _ hb e => hb.trans (finalizeOne_rk ra e))
    (fun _ _ hb => hb.trans (RK.of_getRa rfl)) (fun b ra' hb => hb.trans ((handleLivenessEvent_good b ra').rk ra))

theorem onProposerLastBlock_rk {s s' : St} {q : Seq} {ra : Nat} (hne : q.rollapp ≠ ra)
    (e : onProposerLastBlock s q = .ok s') : RK ra s s' := by
  obtain ⟨_, r, s1, hg, rfl, hcase⟩ := onProposerLastBlock_ok e
  have g := handover_good hg
  rcases hcase with ⟨_, hf⟩ | ⟨a, _, rfl⟩
  · exact (g.rk ra).trans (hardForkToLatest_rk (by rw [getRa_id hg]; exact fun hc => hne hc.symm) hf)
  · exact (g.trans (afterSetRealProposer_good _ r.id a)).rk ra

theorem seqAfterUpdate_rk {s s' : St} {m : UpdMsg} {b : Bool} {ra : Nat}
    (hne : ∀ prop, getSeq s m.sender = some prop → prop.rollapp ≠ ra)
    (e : seqAfterUpdate s m b = .ok s') : RK ra s s' := by
  obtain ⟨prop, prop1, hg, rfl, hcase⟩ := seqAfterUpdate_ok e
  have g : Good s (setSeq s { prop with dishonor := prop.dishonor - min s.sqp.dishonorSU prop.dishonor }) :=
    Good.setSeq (q0 := prop) (by show getSeq s prop.addr = some prop; rw [getSeq_addr hg]; exact hg) rfl
  rcases hcase with ⟨_, rfl⟩ | ⟨_, hl⟩
  · exact g.rk ra
  · exact (g.rk ra).trans (onProposerLastBlock_rk
      (q := { prop with dishonor := prop.dishonor - min s.sqp.dishonorSU prop.dishonor }) (hne prop hg) hl)

theorem updateState_rk {s s' : St} {m : UpdMsg} {ra : Nat} (hi : Inv s) (hne : m.ra ≠ ra)
    (e : updateState s m = .ok s') : RK ra s s' := by
  obtain ⟨r, s3, _, r4, _, hg, hpr, _, _, _, _, h3, rfl, hg4, rfl⟩ := updateState_ok e
  have hid := getRa_id hg
  have hsend : SeqOf s m.sender m.ra := by
    have h0 := (hi.j.prop m.ra r hg).1 m.sender hpr
    rw [hid] at h0; exact h0
  have k1 : RK ra s (setRa s { r with states := r.states ++ [newSInfo s m (updSucc r m)] }) :=
    RK.of_getRa (getRa_setRa_other (r := { r with states := r.states ++ [newSInfo s m (updSucc r m)] })
      (by show ra ≠ r.id; rw [hid]; exact fun hc => hne hc.symm))
  have k2 : RK ra (setRa s { r with states := r.states ++ [newSInfo s m (updSucc r m)] }) s3 := by
    apply seqAfterUpdate_rk _ h3
    intro prop hp
    obtain ⟨q, hq, hqr⟩ := hsend
    cases hq.symm.trans (show getSeq s m.sender = some prop from hp)
    rw [hqr]; exact hne
  have k3 : RK ra s3 { s3 with queue := queueAppend s3.queue s3.h m.ra (r.states.length + 1),
                               seqH := addSeqHeights s3.seqH m.sender m.bds } := RK.of_getRa rfl
  exact ((k1.trans k2).trans k3).trans
    (Good.rk (indicateLiveness_good (id := m.ra) (show getRa _ m.ra = some _ from hg4)) ra)

theorem kick_rk {s s' : St} {a : Addr} {ra : Nat} (hi : Inv s) (hne : ∀ q, getSeq s a = some q → q.rollapp ≠ ra)
    (e : kick s a = .ok s') : RK ra s s' := by
  obtain ⟨kicker, r, pa, s3, hk, hg, hpa, _, h3, e'⟩ := kick_ok_elim e
  have k3 : RK ra (abruptRemoveProposer s r.id) s3 :=
    hardForkToLatest_rk (by rw [getRa_id hg]; exact fun hc => hne kicker hk hc.symm) h3
  exact (((abruptRemoveProposer_good s r.id).rk ra).trans k3).trans ((kick_tail_good hi hk h3 e').rk ra)

theorem fraud_rk {s s' : St} {au : Bool} {ra ra' hh rev : Nat} {p rw : Option Addr} (hne : ra' ≠ ra)
    (e : fraud s au ra' hh rev p rw = .ok s') : RK ra s s' := by
  obtain ⟨_, _, r, s1, _, _, h5, h6⟩ := fraud_ok e
  rcases h5 with ⟨_, rfl⟩ | ⟨a, _, h5⟩
  · exact hardFork_rk (fun hc => hne hc.symm) h6
  · exact ((punish_good h5).rk ra).trans (hardFork_rk (fun hc => hne hc.symm) h6)

/-- the transitions that may change rollapp `ra`'s revisions or latest height: an update of `ra`,
    a fraud proposal against `ra`, a kick by a sequencer of `ra`, an obsolete-version marking -/
def touches (s : St) (ra : Nat) : Op → Prop
  | .update m => m.ra = ra
  | .fraud _ ra' _ _ _ _ => ra' = ra
  | .kick a => ∃ q, getSeq s a = some q ∧ q.rollapp = ra
  | .obsolete _ _ => True
  | _ => False

theorem apply_rk {s s' : St} {o : Op} {ra : Nat} (hi : Inv s) (e : apply s o = .ok s') (hq : ¬ touches s ra o) :
    RK ra s s' := by
  cases o with
  | kick a => exact kick_rk hi (fun q hq' hc => hq ⟨q, hq', hc⟩) e
  | update m => exact updateState_rk hi (fun hc => hq hc) e
  | fraud au ra' hh rev p rw => exact fraud_rk (fun hc => hq hc) e
  | obsolete au vs => exact absurd trivial hq
  | end_ f => simp only [apply] at e; cases e; exact endBlock_rk ra s f
  | _ => exact (apply_good hi.cust.nodup e rfl).rk ra

/-- an op sequence in which every op either does not touch `ra` or is rejected -/
inductive Quiet (ra : Nat) : St → List Op → Prop
  | nil (s : St) : Quiet ra s []
  | cons (s : St) (o : Op) (rest : List Op) : (¬ touches s ra o ∨ (step s o).2 ≠ none) →
      Quiet ra (step s o).1 rest → Quiet ra s (o :: rest)

theorem quiet_rk {ra : Nat} {s : St} {ops : List Op} (hi : Inv s) (hq : Quiet ra s ops) :
    RK ra s (ops.foldl (fun s o => (step s o).1) s) ∧ Inv (ops.foldl (fun s o => (step s o).1) s) := by
  induction hq with
  | nil s => exact ⟨RK.refl ra s, hi⟩
  | cons s o rest h1 _ ih =>
    have hi1 : Inv (step s o).1 := step_inv hi
    obtain ⟨k2, i2⟩ := ih hi1
    rw [List.foldl_cons]
    refine ⟨RK.trans ?_ k2, i2⟩
    unfold step
    cases ha : apply s o with
    | ok s1 =>
      dsimp only
      rcases h1 with h1 | h1
      · exact apply_rk hi ha h1
      · exfalso; apply h1; unfold step; rw [ha]
    | error er => exact RK.refl ra s

end DymVerif.Core.Fork
