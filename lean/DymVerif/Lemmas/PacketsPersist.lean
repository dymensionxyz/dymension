/-
  Lemmas/PacketsPersist — a pending packet survives every operation except its own accepted
  finalization and a hard fork whose range contains it: afterwards some packet is stored under the same
  key, PENDING, differing from the old one at most in `target` / `orig` (a fulfilment).
-/
import DymVerif.Lemmas.PacketsStep
import DymVerif.Lemmas.PacketsFork
namespace DymVerif.Packets
open DymVerif DymVerif.Keys

/-- the same packet up to the beneficiary rewrite of a fulfilment -/
def Same (p p' : Packet) : Prop :=
  pkey p' = pkey p ∧ p'.status = .pending ∧ { p' with target := p.target, orig := p.orig } = p

/-- the packet survives in `s'` -/
def Surv (p : Packet) (s' : St) : Prop := ∃ p' ∈ s'.packets, Same p p'

theorem Same.refl {p : Packet} (h : p.status = .pending) : Same p p := ⟨rfl, h, rfl⟩

theorem Same.retarget {p q : Packet} (h : Same p q) (a : Addr) : Same p (retarget q a) := by
  obtain ⟨h1, h2, h3⟩ := h
  refine ⟨?_, h2, ?_⟩
  · rw [← h1]; rfl
  · rw [← h3]; rfl

theorem Surv.of_packets {p : Packet} {s s' : St} (e : s'.packets = s.packets) (h : Surv p s) : Surv p s' := by
  obtain ⟨q, hq, hs⟩ := h; exact ⟨q, e ▸ hq, hs⟩

theorem Surv.of_mem {p : Packet} {s : St} (hp : p ∈ s.packets) (hs : p.status = .pending) : Surv p s := ⟨p, hp, Same.refl hs⟩

/-- storing a packet under another key -/
theorem Surv.setOther {p q : Packet} {s : St} (h : Surv p s) (hk : pkey q ≠ pkey p) : Surv p (setPacket s q) := by
  obtain ⟨p', hp', hs⟩ := h
  exact ⟨p', mem_setPacket.mpr (Or.inr ⟨hp', by rw [hs.1]; exact fun e => hk e.symm⟩), hs⟩

theorem Surv.delOther {p : Packet} {s : St} {k : Bytes} (h : Surv p s) (hk : k ≠ pkey p) : Surv p (delPacket s k) := by
  obtain ⟨p', hp', hs⟩ := h
  refine ⟨p', ?_, hs⟩
  simp only [delPacket, List.mem_filter, bne_iff_ne, ne_eq]
  exact ⟨hp', by rw [hs.1]; exact fun e => hk e.symm⟩

-- ------------------------------------------------------------------ fulfilment

theorem surv_updateTransferAddress {p : Packet} {s s' : St} {k : Bytes} {a : Addr} (hk : KeysNodup s.packets) (h : Surv p s)
    (hu : updateTransferAddress s k a = .ok s') : Surv p s' := by
  obtain ⟨q, hq, hst, rfl⟩ := updateTransferAddress_ok hu
  obtain ⟨hqm, hqk⟩ := getPacket_some hq
  obtain ⟨p', hp', hs⟩ := h
  by_cases e : pkey p' = pkey q
  · have : p' = q := keysNodup_eq hk hqm hp' e
    subst this
    exact ⟨retarget p' a, mem_setPacket.mpr (Or.inl rfl), hs.retarget a⟩
  · refine ⟨p', mem_setPacket.mpr (Or.inr ⟨?_, e⟩), hs⟩
    exact hp'

theorem surv_fulfils {p : Packet} {s s' : St} (hk : KeysNodup s.packets) (h : Surv p s) {id o f c} (hf : FulfilsBy id o f c s s') : Surv p s' := by
  obtain ⟨b, a, l, g, s1, -, -, hu, hs'⟩ := hf
  unfold setOrderFulfilled at hu
  have h1 : Surv p s1 := by
    refine surv_updateTransferAddress ?_ ?_ hu
    · exact hk
    · exact h
  rcases hs' with rfl | ⟨lp, -, rfl⟩
  · exact h1
  · exact h1.of_packets rfl

-- ------------------------------------------------------------------ finalization of another packet

theorem surv_finalizePacket {p : Packet} {s s' : St} {k : Bytes} (h : Surv p s) (hne : k ≠ pkey p)
    (hf : finalizePacket s k = .ok s') : Surv p s' := by
  obtain ⟨q, os, hq, -, -, rfl⟩ := finalizePacket_state hf
  refine Surv.of_packets (s := setPacket (delPacket s (pkey q)) _) rfl (Surv.setOther (Surv.delOther h ?_) ?_)
  · rw [(getPacket_some hq).2]; exact hne
  · -- the finalized key differs from every pending key in its status byte
    intro e
    obtain ⟨p', -, hs⟩ := h
    have := (pkey_eq_parts (e.trans hs.1.symm)).1
    rw [hs.2.1] at this
    cases this

-- ------------------------------------------------------------------ epoch clean-up

theorem surv_deletePacket {p q : Packet} {s : St} (h : Surv p s) (hq : q.status = .finalized) : Surv p (deletePacket s q) := by
  obtain ⟨p', hp', hs⟩ := h
  refine ⟨p', ?_, hs⟩
  rw [deletePacket_packets]
  refine List.mem_filter.mpr ⟨hp', ?_⟩
  simp only [bne_iff_ne, ne_eq]
  intro e
  have := (pkey_eq_parts e).1
  rw [hs.2.1, hq] at this
  cases this

theorem surv_epochCleanup {p : Packet} {s : St} (hk : KeysNodup s.packets) (h : Surv p s) : Surv p (epochCleanup s) :=
  foldl_victims (Q := fun q => q.status = .finalized) deletePacket_packets (fun _ _ h _ hq => surv_deletePacket h hq) _ h
    (fun q hq => ⟨(List.mem_filter.mp hq).1, by simpa using (List.mem_filter.mp hq).2⟩) (List.Pairwise.filter _ hk)

-- ------------------------------------------------------------------ hard fork

theorem surv_onHardFork {p : Packet} {s : St} (rid : Bytes) (lv : Nat) (hp : p ∈ s.packets) (hs : p.status = .pending)
    (hr : forkRange rid lv (pkey p) = false) : Surv p (onHardFork s rid lv) := by
  refine ⟨p, ?_, Same.refl hs⟩
  rw [onHardFork_eq, foldl_revert_packets]
  refine List.mem_filter.mpr ⟨hp, List.all_eq_true.mpr ?_⟩
  intro q hq
  have hqf := (List.mem_filter.mp hq).2
  simp only [bne_iff_ne, ne_eq]
  intro hk
  rw [hk, hqf] at hr
  cases hr

theorem Same.trans {p q r : Packet} (h1 : Same p q) (h2 : Same q r) : Same p r := by
  obtain ⟨a1, a2, a3⟩ := h1
  obtain ⟨b1, b2, b3⟩ := h2
  refine ⟨b1.trans a1, b2, ?_⟩
  rw [← a3, ← b3]

/-- a pending packet survives every write except its own finalization and a fork over its key -/
theorem surv_tr {op : Op} {s s' : St} (t : Tr op s s') (hb : BoundedOp op) (h4 : Inv04 s) (hi : IdxInv s)
    {p : Packet} (hp : p ∈ s.packets) (hs : p.status = .pending) :
    Surv p s' ∨ C04.FinalizesKey s op (pkey p) ∨ C04.ForksKey op (pkey p) := by
  have h := Surv.of_mem hp hs
  induction t with
  | quiet q => exact Or.inl (h.of_packets q.i.packets)
  | @send s1 c b ac k snt _ ih => exact ih.imp_left fun h1 => Surv.of_packets (s := s1) rfl h1
  | consumed u hd q => exact Or.inl (h.of_packets (q.i.packets.trans (dframe_consume s u).1.packets))
  | release u e b ac k hd he hu => exact Or.inl (Surv.of_packets (s := consume s u) rfl (h.of_packets (dframe_consume s u).1.packets))
  | record u q hd hqs hu ho hP hs' =>
    have fi := (dframe_consume s u).1
    obtain ⟨-, -, fresh⟩ := record_fresh h4 hi hd hqs hu (hP hb)
    have h1 := Surv.setOther (s := addByAddr (consume s u) q.target (pkey q)) (h.of_packets fi.packets)
      (fresh p (fi.packets ▸ hp)).symm
    rcases hs' with rfl | ⟨_, _, _, _, _, rfl⟩
    · exact Or.inl h1
    · exact Or.inl (h1.of_packets rfl)
  | finalize k hk hf =>
    by_cases e : k = pkey p
    · exact Or.inr (Or.inl (e ▸ hk))
    · exact Or.inl (surv_finalizePacket h e hf)
  | fulfil _ _ _ _ hf => exact Or.inl (surv_fulfils (InvF.keys h4) h hf)
  | reprice id o q price fee ho hq hpr => exact Or.inl (h.of_packets rfl)
  | epoch => exact Or.inl (surv_epochCleanup (InvF.keys h4) h)
  | fork r rid lv e =>
    by_cases hr : forkRange rid lv (pkey p) = true
    · exact Or.inr (Or.inr ⟨rid, lv, e, hr⟩)
    · exact Or.inl (surv_onHardFork (s := setRa s r) rid lv hp hs (by simpa using hr))

end DymVerif.Packets
