/-
  Lemmas/CoreFinFork — the general hard fork (fraud proposal) keeps the finalization invariant and
  every finalized state: `revertPlan` refuses finalized heights, so the kept index is ≥ lastFin and a
  finalized kept state is never truncated.
-/
import DymVerif.Lemmas.CoreFinSame2
import DymVerif.Lemmas.CoreSearch
namespace DymVerif.Core

/-- what `revertPlan` guarantees about finalization: the kept index is not below the latest finalized
    one, the kept state keeps its finalization fields, and if it is finalized it is kept whole -/
theorem revertPlan_fin {r : Rollapp} {n keep : Nat} {kst : SInfo} (hc : Chain r.states)
    (hpre : ∀ (i : Nat) (st : SInfo), r.states[i]? = some st → (st.finalized = true ↔ i < r.lastFin))
    (hle : r.lastFin ≤ r.states.length) (e : revertPlan r n = .ok (keep, kst)) :
    ∃ st, 1 ≤ keep ∧ r.states[keep - 1]? = some st ∧ r.lastFin ≤ keep ∧ kst.creationHeight = st.creationHeight ∧
      kst.finalized = st.finalized ∧ kst.finalizedAt = st.finalizedAt ∧ (keep ≤ r.lastFin → sKey kst = sKey st) := by
  obtain ⟨i, st, hst, hfound, hsn, hcase⟩ := revertPlan_ok e
  have hwst := hc.wf st (List.mem_of_getElem? hst)
  have hlast := last_of_WF hwst
  have hpos := hwst.num_pos
  have hi : 1 ≤ i := by
    rcases hfound with ⟨hf, _⟩ | ⟨_, hne, rfl⟩
    · exact (findByHeight_ok hf).1
    · exact List.length_pos_iff.2 hne
  -- a state that contains the height was found, so it is not finalized
  have hnf : n ≤ st.start + st.num - 1 → ¬ (i - 1 < r.lastFin) := by
    intro g2 hlt
    have hfin := (hpre (i - 1) st hst).2 hlt
    rcases hfound with ⟨_, h1⟩ | ⟨h2, _⟩
    · rw [h1] at hfin; cases hfin
    · rw [findByHeight_complete hc (i - 1) st hst n hsn g2] at h2; cases h2
  rcases hcase with ⟨h1, hi1, prev, hprev, rfl, rfl⟩ | ⟨hne, hl, rfl, rfl⟩ | ⟨_, hl, rfl, rfl⟩
  · have := hnf (by omega)
    exact ⟨prev, by omega, by rw [show i - 1 - 1 = i - 2 by omega]; exact hprev, by omega, rfl, rfl, rfl, fun _ => rfl⟩
  · have := hnf (by omega)
    exact ⟨st, hi, hst, by omega, rfl, rfl, rfl, fun hh => by omega⟩
  · refine ⟨st, hi, hst, ?_, rfl, rfl, rfl, fun _ => rfl⟩
    rcases hfound with ⟨_, h1⟩ | ⟨_, _, rfl⟩
    · have : ¬ (keep - 1 < r.lastFin) := fun hlt => by
        have := (hpre (keep - 1) st hst).2 hlt
        rw [h1] at this; cases this
      omega
    · exact hle

-- ---------------------------------------------------------------- list facts for the fork

theorem fork_get {α} (l : List α) (k : Nat) (b : α) (hk : k < l.length) (i : Nat) :
    (l.take k ++ [b])[i]? = if i < k then l[i]? else if i = k then some b else none := by
  have hlen : (l.take k).length = k := by rw [List.length_take]; omega
  by_cases h1 : i < k
  · rw [if_pos h1, List.getElem?_append_left (by omega), List.getElem?_take, if_pos h1]
  · rw [if_neg h1, List.getElem?_append_right (by omega), hlen]
    by_cases h2 : i = k
    · rw [if_pos h2, h2]; simp
    · rw [if_neg h2]
      have : i - k = (i - k - 1) + 1 := by omega
      rw [this]; simp

theorem pendingIdx_filter (r : Rollapp) (keep : Nat) (h1 : r.lastFin ≤ keep) (h2 : keep ≤ r.states.length) :
    (pendingIdx r).filter (· ≤ keep) = List.range' (r.lastFin + 1) (keep - r.lastFin) := by
  unfold pendingIdx
  -- split the range at `keep`: the first part passes the filter whole, of the second nothing does
  rw [show r.states.length - r.lastFin = (keep - r.lastFin) + (r.states.length - keep) by omega,
    ← List.range'_append_1, List.filter_append,
    List.filter_eq_self.2 (fun x hx => by rw [List.mem_range'_1] at hx; exact decide_eq_true (by omega)),
    List.filter_eq_nil_iff.2 (fun x hx => by rw [List.mem_range'_1] at hx; simp only [decide_eq_true_eq]; omega),
    List.append_nil]

-- ---------------------------------------------------------------- the state right after the revert

theorem fork_mid {s s1 : St} {ra keep : Nat} {r fr : Rollapp} {st kst : SInfo} (hi : FinInv s) (hg : getRa s ra = some r)
    (h1ras : s1.ras = s.ras) (h1p : s1.p = s.p) (h1h : s1.h = s.h) (h1q : s1.queue = removeIdxAbove s.queue ra keep)
    (hid : fr.id = r.id) (hlf : fr.lastFin = r.lastFin) (hk1 : 1 ≤ keep) (hst : r.states[keep - 1]? = some st)
    (hstates : fr.states = r.states.take (keep - 1) ++ [kst]) (hle : r.lastFin ≤ keep)
    (c1 : kst.creationHeight = st.creationHeight) (c2 : kst.finalized = st.finalized)
    (c3 : kst.finalizedAt = st.finalizedAt) (c4 : keep ≤ r.lastFin → sKey kst = sKey st) :
    FinInv (setRa s1 fr) ∧ Evolves s (setRa s1 fr) ∧ Back s (setRa s1 fr) := by
  have hrid : r.id = ra := getRa_id hg
  have hrmem : r ∈ s.ras := getRa_mem hg
  have old := hi.ras r hrmem
  have hklt : keep - 1 < r.states.length := getElem?_lt hst
  have hget : ∀ i, fr.states[i]? = if i < keep - 1 then r.states[i]? else if i = keep - 1 then some kst else none := by
    intro i; rw [hstates]; exact fork_get _ _ _ hklt i
  have hlen : fr.states.length = keep := by
    rw [hstates, List.length_append, List.length_take]; simp; omega
  have hn1 : IdsNodup s1 := hi.nodup.of_ids (by rw [h1ras])
  refine ⟨?_, ?_, ?_⟩
  · refine ⟨hn1.setRa fr, ?_, ?_, ?_, ?_⟩
    · show QSorted s1.queue
      rw [h1q]; exact removeIdxAbove_sorted _ _ _ hi.sorted
    · intro e he
      have he : e ∈ removeIdxAbove s.queue ra keep := by rw [← h1q]; exact he
      obtain ⟨e0, he0, k1, k2, _, k4, k5⟩ := mem_removeIdxAbove _ _ _ _ he
      show e.ch ≤ s1.h ∧ e.idx ≠ []
      rw [h1h, ← k1]
      refine ⟨(hi.ent e0 he0).1, ?_⟩
      by_cases hra : e.ra = ra
      · exact k4 hra
      · rw [k5 hra]; exact (hi.ent e0 he0).2
    · intro e he
      have he : e ∈ removeIdxAbove s.queue ra keep := by rw [← h1q]; exact he
      obtain ⟨e0, he0, _, k2, _⟩ := mem_removeIdxAbove _ _ _ _ he
      rw [setRa_ids, h1ras, ← k2]; exact hi.qra e0 he0
    · intro r2 hr2
      show RFin s1.queue s1.p.dispute r2
      rw [h1q, h1p]
      rcases mem_setRa_strong hr2 with ⟨hm, hne⟩ | heq
      · rw [h1ras] at hm
        have hne' : r2.id ≠ ra := by rw [hid, hrid] at hne; exact hne
        refine (hi.ras r2 hm).other (flat_removeIdxAbove_other _ _ _ _ hne') (fun e he hra => ?_)
        obtain ⟨e0, he0, _, _, _, _, k5⟩ := mem_removeIdxAbove _ _ _ _ he
        rw [k5 (by rw [hra]; exact hne')]; exact he0
      · subst heq
        have hfl : flat s.queue ra = pendingIdx r := by rw [← hrid]; exact old.flat_eq
        unfold RFin
        rw [hid, hrid, flat_removeIdxAbove_same, hfl, pendingIdx_filter r keep hle (by omega)]
        refine ⟨by rw [hlf, hlen]; exact hle, by unfold pendingIdx; rw [hlf, hlen], ?_, ?_, ?_⟩
        · intro i st' hst'
          rw [hget i] at hst'
          rw [hlf]
          split at hst'
          · exact old.pre i st' hst'
          · split at hst'
            · rename_i _ h2
              injection hst' with hst'; subst hst'
              rw [c2, h2]; exact old.pre _ st hst
            · cases hst'
        · intro e he hra i hii
          obtain ⟨e0, he0, k1, k2, k3, _, _⟩ := mem_removeIdxAbove _ _ _ _ he
          have hra' : e.ra = ra := by rw [hra, hid]; exact hrid
          obtain ⟨hi0, hik⟩ := k3 i hii
          obtain ⟨st1, hst1, hch⟩ := old.ch e0 he0 (by rw [k2, hra', hrid]) i hi0
          have hik := hik hra'
          rw [hget (i - 1)]
          by_cases hlt : i - 1 < keep - 1
          · rw [if_pos hlt]; exact ⟨st1, hst1, by rw [hch, k1]⟩
          · rw [if_neg hlt, if_pos (by omega)]
            have : i - 1 = keep - 1 := by omega
            rw [this, hst] at hst1; injection hst1 with hst1; subst hst1
            exact ⟨kst, rfl, by rw [c1, hch, k1]⟩
        · intro st' hm hf
          rw [hstates] at hm
          rcases List.mem_append.1 hm with hm | hm
          · exact old.notEarly st' (List.mem_of_mem_take hm) hf
          · simp at hm; subst hm
            rw [c1, c3]
            exact old.notEarly st (List.mem_of_getElem? hst) (by rw [← c2]; exact hf)
  · intro r0 hr0
    by_cases h0 : r0.id = ra
    · have : r0 = r := hi.nodup.unique hr0 hrmem (by rw [h0, hrid])
      subst this
      refine ⟨fr, mem_setRa_self (x := r0) (by rw [h1ras]; exact hr0) hid.symm, hid, ?_⟩
      intro i sti hsti hf
      have hlt : i < r0.lastFin := (old.pre i sti hsti).1 hf
      rw [hget i]
      by_cases h2 : i < keep - 1
      · rw [if_pos h2]; exact ⟨sti, hsti, rfl⟩
      · rw [if_neg h2, if_pos (by omega)]
        have : i = keep - 1 := by omega
        rw [this, hst] at hsti; injection hsti with hsti; subst hsti
        exact ⟨kst, rfl, c4 (by omega)⟩
    · refine ⟨r0, mem_setRa_of_ne (by rw [h1ras]; exact hr0) (by rw [hid, hrid]; exact h0), rfl, ?_⟩
      intro i sti hsti _
      exact ⟨sti, hsti, rfl⟩
  · intro r2 hr2 i st' hst' hf
    rcases mem_setRa_strong hr2 with ⟨hm, _⟩ | heq
    · rw [h1ras] at hm; exact ⟨r2, hm, rfl, st', hst', rfl⟩
    · subst heq
      refine ⟨r, hrmem, hid.symm, ?_⟩
      rw [hget i] at hst'
      split at hst'
      · exact ⟨st', hst', rfl⟩
      · split at hst'
        · rename_i _ h2
          injection hst' with hst'; subst hst'
          have : keep - 1 < r.lastFin := (old.pre _ st hst).1 (by rw [← c2]; exact hf)
          exact ⟨st, by rw [h2]; exact hst, (c4 (by omega)).symm⟩
        · cases hst'

theorem hardFork_full {s s' : St} {ra lv : Nat} (e : hardFork s ra lv = .ok s') : Full s s' := by
  intro hc hi
  have hc' := hardFork_chain hc e
  obtain ⟨r, keep, kst, hg, _, _, _, hplan, rfl⟩ := hardFork_ok e
  have old := hi.ras r (getRa_mem hg)
  obtain ⟨st, hk1, hst, hle, c1, c2, c3, c4⟩ := revertPlan_fin (hc.get hg) old.pre old.le hplan
  have hmidc : ChainAll (afterRevert s ra keep r kst) := by
    unfold afterRevert resetClock
    exact RaAll.setRa (hc.ras_eq rfl) (forkedRollapp_chain (hc.get hg) hplan)
  have hmid : FinInv (afterRevert s ra keep r kst) ∧ Evolves s (afterRevert s ra keep r kst) ∧
      Back s (afterRevert s ra keep r kst) := by
    unfold afterRevert resetClock
    exact fork_mid hi hg rfl rfl rfl rfl rfl rfl hk1 hst rfl hle c1 c2 c3 c4
  obtain ⟨p2, s2⟩ := seqOnHardFork_fs _ ra (hmid.1.pre hmidc)
  exact ⟨⟨hc', hmid.1.same s2, hmid.2.1.trans s2.evolves, s2.p⟩, hmid.2.2.trans s2.back⟩

end DymVerif.Core
