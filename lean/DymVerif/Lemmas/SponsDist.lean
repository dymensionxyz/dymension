/-
  Lemmas/SponsDist — the distribution invariant (`distribution = Σ over votes`) and its preservation
  by the two moves of the vote core (`Drop`, `Put`), hence by revoke and by the staking hook for every
  old / new power.
-/
import DymVerif.Lemmas.SponsBasic
import DymVerif.Lemmas.SponsStep
namespace DymVerif.Spons

/-! ### sums over votes -/

def vsum (f : Vote → Int) : List (Nat × Vote) → Int
  | [] => 0
  | x :: xs => f x.2 + vsum f xs

theorem vsum_aerase (f : Vote → Int) {a : Nat} {l : List (Nat × Vote)} {v : Vote}
    (hk : KeysNodup l) (h : alookup a l = some v) : vsum f l = f v + vsum f (aerase a l) := by
  induction l with
  | nil => cases h
  | cons x xs ih =>
    by_cases hx : x.1 = a
    · rw [alookup_cons_eq xs hx] at h; cases h
      rw [aerase_cons_eq xs hx, aerase_of_notin (fun y hy => hx ▸ hk.1 y hy)]; rfl
    · rw [alookup_cons_ne xs hx] at h
      rw [aerase_cons_ne xs hx]
      show f x.2 + vsum f xs = f v + (f x.2 + vsum f (aerase a xs))
      rw [ih hk.2 h]; exact Int.add_left_comm ..

theorem vsum_nonneg (f : Vote → Int) {l : List (Nat × Vote)} (h : ∀ x ∈ l, 0 ≤ f x.2) : 0 ≤ vsum f l := by
  induction l with
  | nil => exact Int.le_refl 0
  | cons x xs ih =>
    exact Int.add_nonneg (h x (List.mem_cons_self ..)) (ih (fun y hy => h y (List.mem_cons_of_mem _ hy)))

/-! ### powers -/

/-- the power vote `v` gives gauge `g` (= `gget v.toDist.gauges g`) -/
def Vote.pow (v : Vote) (g : Nat) : Int := wpow v.vp v.weights g

theorem gget_toDist (v : Vote) (g : Nat) : gget v.toDist.gauges g = v.pow g := gget_applyWeights _ _ _

theorem gget_toDist_negate (v : Vote) (g : Nat) : gget v.toDist.negate.gauges g = - v.pow g :=
  (gget_negate _ g).trans (congrArg _ (gget_toDist v g))

theorem maxW_pos : 0 < maxW := by decide

theorem gpow_nonneg {vp w : Int} (h1 : 0 ≤ vp) (h2 : 0 ≤ w) : 0 ≤ gpow vp w :=
  Int.tdiv_nonneg (Int.mul_nonneg h1 h2) (Int.le_of_lt maxW_pos)

theorem wpow_nonneg {vp : Int} {ws : List GP} (h1 : 0 ≤ vp) (h2 : ∀ w ∈ ws, 0 < w.2) (g : Nat) : 0 ≤ wpow vp ws g := by
  induction ws with
  | nil => exact Int.le_refl 0
  | cons w ws ih =>
    refine Int.add_nonneg ?_ (ih (fun x hx => h2 x (List.mem_cons_of_mem _ hx)))
    split
    · exact gpow_nonneg h1 (Int.le_of_lt (h2 w (List.mem_cons_self ..)))
    · exact Int.le_refl 0

structure VoteOK (v : Vote) : Prop where
  vp : 0 ≤ v.vp
  nodup : Nodup v.weights
  pos : ∀ w ∈ v.weights, 0 < w.2

theorem VoteOK.pow_nonneg {v : Vote} (h : VoteOK v) (g : Nat) : 0 ≤ v.pow g := wpow_nonneg h.vp h.pos g

/-- well-formedness carried along every history -/
structure WF (s : State) : Prop where
  minVP : 0 ≤ s.minVP
  sorted : Sorted s.dist.gauges
  keys : KeysNodup s.votes
  votes : ∀ x ∈ s.votes, VoteOK x.2

/-- **the distribution invariant**: gauge by gauge the distribution is the sum over the current votes
    of the vote's power split by its weights; the total is the sum of the votes' powers -/
structure DistInv (s : State) : Prop where
  gauges : ∀ g, gget s.dist.gauges g = vsum (fun v => v.pow g) s.votes
  vp : s.dist.vp = vsum (·.vp) s.votes

/-- valid weights: what `ValidateGaugeWeights` leaves of `VoteOK` -/
def WeightsOK (ws : List GP) : Prop := Nodup ws ∧ ∀ w ∈ ws, 0 < w.2

theorem validWeights_ok {ws : List GP} (h : validWeights ws = true) : WeightsOK ws := by
  simp only [validWeights, Bool.and_eq_true, List.all_eq_true, decide_eq_true_eq] at h
  exact ⟨Nodup_of_nodupIds h.1.2, fun w hw => (h.1.1 w hw).1⟩

theorem WF.weightsOK {s : State} (wf : WF s) : VotesAll WeightsOK s := fun x hx => ⟨(wf.votes x hx).nodup, (wf.votes x hx).pos⟩

/-! ### applyUpdate -/

theorem applyUpdate_dist (s : State) (u : Dist) : (s.applyUpdate u).dist = u.merge s.dist := rfl
theorem applyUpdate_votes (s : State) (u : Dist) : (s.applyUpdate u).votes = s.votes := rfl
theorem applyUpdate_minVP (s : State) (u : Dist) : (s.applyUpdate u).minVP = s.minVP := rfl

theorem merge_gget {u d : Dist} (hu : Sorted u.gauges) (hd : Sorted d.gauges) (g : Nat)
    (hs : 0 ≤ gget u.gauges g + gget d.gauges g) :
    gget (u.merge d).gauges g = gget u.gauges g + gget d.gauges g :=
  gget_mergeG _ _ _ g hu hd (Nat.le_refl _) hs

theorem merge_sorted {u d : Dist} (hu : Sorted u.gauges) (hd : Sorted d.gauges) : Sorted (u.merge d).gauges :=
  Sorted_mergeG _ _ _ hu hd (Nat.le_refl _)

theorem revokeVote_votes (s : State) (a : Nat) (v : Vote) : (s.revokeVote a v).votes = aerase a s.votes := rfl
theorem revokeVote_dist (s : State) (a : Nat) (v : Vote) : (s.revokeVote a v).dist = v.toDist.negate.merge s.dist := rfl
theorem revokeVote_minVP (s : State) (a : Nat) (v : Vote) : (s.revokeVote a v).minVP = s.minVP := rfl

theorem toDist_sorted {v : Vote} (h : VoteOK v) : Sorted v.toDist.gauges := Sorted_applyWeights h.nodup

/-! ### well-formedness under the two moves, and the invariant on top of it -/

theorem Drop.sorted {s s' : State} {a : Nat} {v : Vote} (h : Drop s s' a v) (wf : WF s) : Sorted v.toDist.negate.gauges :=
  Sorted_negate (toDist_sorted (wf.votes _ (alookup_mem h.had)))

theorem Drop.wf {s s' : State} {a : Nat} {v : Vote} (h : Drop s s' a v) (wf : WF s) : WF s' :=
  ⟨h.minVP ▸ wf.minVP, h.dist ▸ merge_sorted (h.sorted wf) wf.sorted, h.votes ▸ KeysNodup_aerase a wf.keys,
    fun x hx => wf.votes x (mem_aerase.mp (h.votes ▸ hx)).1⟩

theorem Put.voteOK {s s' : State} {a : Nat} {nv : Vote} (h : Put s s' a nv) (w : WeightsOK nv.weights) (wf : WF s) :
    VoteOK nv := ⟨Int.le_trans wf.minVP h.low, w.1, w.2⟩

theorem Put.wf {s s' : State} {a : Nat} {nv : Vote} (h : Put s s' a nv) (w : WeightsOK nv.weights) (wf : WF s) : WF s' := by
  refine ⟨h.minVP ▸ wf.minVP, h.dist ▸ merge_sorted (toDist_sorted (h.voteOK w wf)) wf.sorted,
    h.votes ▸ KeysNodup_aset a nv wf.keys, ?_⟩
  rw [h.votes]; intro x hx
  rcases List.mem_cons.mp hx with rfl | hx
  · exact h.voteOK w wf
  · exact wf.votes x (mem_aerase.mp hx).1

theorem Drop.good {s s' : State} {a : Nat} {v : Vote} (h : Drop s s' a v) (g : WF s ∧ DistInv s) :
    WF s' ∧ DistInv s' := by
  obtain ⟨wf, inv⟩ := g
  have hsum : ∀ g, gget v.toDist.negate.gauges g + gget s.dist.gauges g
      = vsum (fun v => v.pow g) (aerase a s.votes) := by
    intro g
    rw [gget_toDist_negate, inv.gauges g, vsum_aerase _ wf.keys h.had]; exact Int.neg_add_cancel_left ..
  refine ⟨h.wf wf, fun g => ?_, ?_⟩
  · rw [h.dist, h.votes, merge_gget (h.sorted wf) wf.sorted g, hsum]
    rw [hsum]
    exact vsum_nonneg _ (fun x hx => (wf.votes x (mem_aerase.mp hx).1).pow_nonneg g)
  · rw [h.dist, h.votes]
    show -v.vp + s.dist.vp = vsum (·.vp) (aerase a s.votes)
    rw [inv.vp, vsum_aerase _ wf.keys h.had]; exact Int.neg_add_cancel_left ..

/-- the merge is exact here because every sum it forms is non-negative: the new vote's powers and the old sums are -/
theorem Put.good {s s' : State} {a : Nat} {nv : Vote} (h : Put s s' a nv) (w : WeightsOK nv.weights) (g : WF s ∧ DistInv s) :
    WF s' ∧ DistInv s' := by
  obtain ⟨wf, inv⟩ := g
  have ok := h.voteOK w wf
  have herase : aerase a s.votes = s.votes := aerase_of_none h.fresh
  have hnn : ∀ g, 0 ≤ gget nv.toDist.gauges g + gget s.dist.gauges g := by
    intro g; rw [gget_toDist, inv.gauges]
    exact Int.add_nonneg (ok.pow_nonneg g) (vsum_nonneg _ (fun x hx => (wf.votes x hx).pow_nonneg g))
  refine ⟨h.wf w wf, fun g => ?_, ?_⟩
  · rw [h.dist, h.votes, merge_gget (toDist_sorted ok) wf.sorted g (hnn g), gget_toDist, inv.gauges]
    simp only [aset, vsum, herase]
  · rw [h.dist, h.votes]
    show nv.vp + s.dist.vp = _
    rw [inv.vp]; simp only [aset, vsum, herase]

theorem revokeVote_inv {s : State} {a : Nat} {v : Vote} (wf : WF s) (inv : DistInv s)
    (hv : alookup a s.votes = some v) : WF (s.revokeVote a v) ∧ DistInv (s.revokeVote a v) :=
  (Drop.revokeVote hv).good ⟨wf, inv⟩

/-- the hook keeps the invariant for EVERY old/new power: the old contribution leaves, the contribution of the
    new power (same weights) comes in -/
theorem processHook_inv {s : State} {a val : Nat} {v : Vote} {old new : Int} (wf : WF s) (inv : DistInv s)
    (hv : alookup a s.votes = some v) :
    WF (s.processHook a val v old new) ∧ DistInv (s.processHook a val v old new) := by
  have d := revokeVote_inv wf inv hv
  rcases processHook_moves s a val v old new with e | hp
  · rw [e]; exact d
  · exact hp.good (wf.weightsOK _ (alookup_mem hv)) d

end DymVerif.Spons
