/-
  Lemmas/IroPlans — the multi-plan layer M-IRO-PLANS: every slot of a multi-plan history (restarts
  included) is a single-plan history of M-IRO (`slot_run`); the store skeleton keeps `Genesis.IroInv`
  (`tinv_step`), under which a restart is the identity, a new plan's id is fresh, nothing stored is
  ever replaced, and every rollapp's plan id resolves to that rollapp's own plan (`routed_of_inv`).
-/
import DymVerif.Model.IroPlans
import DymVerif.Lemmas.GenesisIro
namespace DymVerif.IroPlans
open DymVerif DymVerif.Iro DymVerif.Genesis

theorem raKey_inj {a b : Nat} (h : raKey a = raKey b) : a = b := by
  unfold raKey at h
  exact decKey_inj (List.cons.inj h).2

theorem raKey_ne_foreign (a b : Nat) : raKey a ≠ foreignKey b := by
  unfold raKey foreignKey
  intro h
  have := (List.cons.inj h).1
  omega

/-! ### slots -/

/-- what one multi-plan op does to slot `k`: the single-plan step of `slotOp`, or nothing -/
theorem mstep_slot (I : Nat → Int → Int) (T : Nat → Int → Int → Option Int) (m : MState) (o : MOp) (k : Nat) :
    (mstep I T m o).1.slot k =
      match slotOp m k o with
      | some op => (step (I k) (T k) (m.slot k) op).1
      | none => m.slot k := by
  cases o with
  | newra => rfl
  | sel j =>
    simp only [mstep, slotOp]
    split <;> rfl
  | restart => rfl
  | on op =>
    simp only [mstep, slotOp]
    by_cases ht : isTime op = true
    · simp [ht]
    · simp only [ht, if_false, Bool.false_eq_true]
      by_cases hk : m.cur = k
      · subst hk
        simp only [ne_eq, not_true_eq_false, if_false]
        by_cases hc : isCreate op = true
        · simp only [hc, if_true]
          by_cases hh : kvHas (plansByRollappKey (raKey m.cur)) m.tab.byRollapp = true
          · simp [hh]
          · simp [hh, updSlot]
        · simp only [hc, if_false, Bool.false_eq_true]
          by_cases hv : (viaStore op && !routed m m.cur) = true
          · simp [hv]
          · simp [hv, updSlot]
      · have hk' : m.cur ≠ k := hk
        simp only [ne_eq, hk', not_false_eq_true, if_true]
        by_cases hc : isCreate op = true
        · simp only [hc, if_true]
          by_cases hh : kvHas (plansByRollappKey (raKey m.cur)) m.tab.byRollapp = true
          · simp [hh]
          · have : k ≠ m.cur := fun e => hk e.symm
            simp [hh, updSlot, this]
        · simp only [hc, if_false, Bool.false_eq_true]
          by_cases hv : (viaStore op && !routed m m.cur) = true
          · simp [hv]
          · have : k ≠ m.cur := fun e => hk e.symm
            simp [hv, updSlot, this]

/-- **every slot of a multi-plan history is a single-plan history** of M-IRO: the messages applied
    to slot `k` are exactly `slotOps … k` -/
theorem slot_run (I : Nat → Int → Int) (T : Nat → Int → Int → Option Int) (k : Nat) (ops : List MOp) :
    ∀ m : MState, (mrun I T m ops).slot k = run (I k) (T k) (m.slot k) (slotOps I T k m ops) := by
  induction ops with
  | nil => intro m; rfl
  | cons o os ih =>
    intro m
    show (mrun I T (mstep I T m o).1 os).slot k = _
    rw [ih, mstep_slot]
    simp only [slotOps]
    cases slotOp m k o <;> rfl

theorem slotOp_restart (m : MState) (k : Nat) : slotOp m k .restart = none := rfl
theorem slotOp_newra (m : MState) (k : Nat) : slotOp m k .newra = none := rfl
theorem slotOp_sel (m : MState) (k j : Nat) : slotOp m k (.sel j) = none := rfl
theorem isTime_of_isCreate {op : Op} (hc : isCreate op = true) : isTime op = false := by
  cases op <;> first | rfl | cases hc

/-- creating a plan for another rollapp does not touch slot `k` -/
theorem slotOp_other_create (m : MState) (k : Nat) (op : Op) (hk : m.cur ≠ k) (hc : isCreate op = true) :
    slotOp m k (.on op) = none := by
  simp [slotOp, isTime_of_isCreate hc, hk]

/-! ### the store -/

/-- the three things a multi-plan op can do to the store -/
theorem mstep_tab (I : Nat → Int → Int) (T : Nat → Int → Int → Option Int) (m : MState) (o : MOp) :
    (mstep I T m o).1.tab = m.tab ∨ (mstep I T m o).1.tab = importIro (exportIro m.tab) ∨
    (kvHas (plansByRollappKey (raKey m.cur)) m.tab.byRollapp = false ∧
      (mstep I T m o).1.tab = iroStep m.tab (.create (raKey m.cur) m.cur)) := by
  cases o with
  | newra => exact Or.inl rfl
  | sel j => simp only [mstep]; split <;> exact Or.inl rfl
  | restart => exact Or.inr (Or.inl rfl)
  | on op =>
    simp only [mstep]
    by_cases ht : isTime op = true
    · simp [ht]
    · simp only [ht, if_false, Bool.false_eq_true]
      by_cases hc : isCreate op = true
      · simp only [hc, if_true]
        by_cases hh : kvHas (plansByRollappKey (raKey m.cur)) m.tab.byRollapp = true
        · simp [hh]
        · simp only [hh, if_false, Bool.false_eq_true]
          by_cases hr : (step (I m.cur) (T m.cur) (m.slot m.cur) op).2 = .ok
          · refine Or.inr (Or.inr ⟨by simpa using hh, ?_⟩)
            simp [hr]
          · simp [hr]
      · simp only [hc, if_false, Bool.false_eq_true]
        by_cases hv : (viaStore op && !routed m m.cur) = true
        · simp [hv]
        · simp [hv]

theorem tinv_step {I : Nat → Int → Int} {T : Nat → Int → Int → Option Int} {m : MState} (o : MOp)
    (h : IroInv m.tab) : IroInv (mstep I T m o).1.tab := by
  rcases mstep_tab I T m o with e | e | ⟨_, e⟩
  · rw [e]; exact h
  · rw [e, iro_import_export h]; exact h
  · rw [e]; exact iroInv_step h _

theorem tinv_run {I : Nat → Int → Int} {T : Nat → Int → Int → Option Int} (ops : List MOp) :
    ∀ m : MState, IroInv m.tab → IroInv (mrun I T m ops).tab := by
  induction ops with
  | nil => intro m h; exact h
  | cons o os ih => intro m h; exact ih _ (tinv_step o h)

/-- the id `GetNextPlanIdAndIncrement` hands out is not in use -/
theorem next_id_fresh {s : IroState} (h : IroInv s) :
    ∀ x ∈ s.plans, x.2.id ≠ nextPlanId s ∧ x.1 ≠ planKey (nextPlanId s) := by
  intro x hx
  have hub := h.ub x hx
  refine ⟨by unfold nextPlanId; omega, ?_⟩
  intro he
  rw [h.kp x hx] at he
  have := planKey_inj he
  unfold nextPlanId at this; omega

/-- `CreatePlan` of a rollapp without a plan keeps every stored plan and every index entry -/
theorem create_keeps {s : IroState} (h : IroInv s) (r : Bytes) (b : Nat)
    (hf : kvHas (plansByRollappKey r) s.byRollapp = false) :
    (∀ x ∈ s.plans, x ∈ (iroStep s (.create r b)).plans) ∧
    (∀ e ∈ s.byRollapp, e ∈ (iroStep s (.create r b)).byRollapp) ∧
    (planKey (nextPlanId s), (⟨nextPlanId s, r, b⟩ : Genesis.Plan)) ∈ (iroStep s (.create r b)).plans ∧
    (plansByRollappKey r, nextPlanId s) ∈ (iroStep s (.create r b)).byRollapp := by
  have e : iroStep s (.create r b) = setPlan { s with lastPlanId := nextPlanId s } ⟨nextPlanId s, r, b⟩ := by
    simp [iroStep, hf]
  rw [e]
  have hmemP := mem_kvSet (β := Genesis.Plan) soBytes (planKey (nextPlanId s)) ⟨nextPlanId s, r, b⟩ h.sp
  have hmemR := mem_kvSet (β := Nat) soBytes (plansByRollappKey r) (nextPlanId s) h.sr
  refine ⟨?_, ?_, ?_, ?_⟩
  · intro x hx
    exact (hmemP x).2 (Or.inr ⟨hx, (next_id_fresh h x hx).2⟩)
  · intro x hx
    exact (hmemR x).2 (Or.inr ⟨hx, kvHas_false hf x hx⟩)
  · exact (hmemP _).2 (Or.inl rfl)
  · exact (hmemR _).2 (Or.inl rfl)

/-- **nothing stored is ever replaced**: every plan record and every by-rollapp entry survives
    every multi-plan op (creation of other plans and restarts included) -/
theorem mstep_keeps {I : Nat → Int → Int} {T : Nat → Int → Int → Option Int} {m : MState} (o : MOp)
    (h : IroInv m.tab) :
    (∀ x ∈ m.tab.plans, x ∈ (mstep I T m o).1.tab.plans) ∧
    (∀ e ∈ m.tab.byRollapp, e ∈ (mstep I T m o).1.tab.byRollapp) := by
  rcases mstep_tab I T m o with e | e | ⟨hf, e⟩
  · rw [e]; exact ⟨fun _ hx => hx, fun _ hx => hx⟩
  · rw [e, iro_import_export h]; exact ⟨fun _ hx => hx, fun _ hx => hx⟩
  · rw [e]
    obtain ⟨h1, h2, _, _⟩ := create_keeps h (raKey m.cur) m.cur hf
    exact ⟨h1, h2⟩

/-- under the store invariant the id known for a rollapp resolves to that rollapp's own plan -/
theorem routed_of_inv {m : MState} (h : IroInv m.tab) (k : Nat) : routed m k = true := by
  unfold routed slotPlanId
  cases hg : kvGet (plansByRollappKey (raKey k)) m.tab.byRollapp with
  | none => rfl
  | some id =>
    simp only []
    have hmem := kvGet_some hg
    obtain ⟨x, hx, hxe⟩ := (h.idx _).1 hmem
    have h1 : plansByRollappKey (raKey k) = plansByRollappKey x.2.rollapp := (Prod.mk.inj hxe).1
    have h2 : id = x.2.id := (Prod.mk.inj hxe).2
    have hkey : x.1 = planKey id := by rw [h.kp x hx, h2]
    have hget : kvGet (planKey id) m.tab.plans = some x.2 :=
      (kvGet_eq_some_iff soBytes h.sp (planKey id) x.2).2 (by rw [← hkey]; exact hx)
    rw [hget]
    simp [plansByRollappKey_inj h1]

/-- so a message for the current slot is never `lost` and always reaches the slot's own world -/
theorem slotOp_cur_of_inv {m : MState} (h : IroInv m.tab) (op : Op) (hc : isCreate op = false) :
    slotOp m m.cur (.on op) = some op := by
  simp only [slotOp]
  by_cases ht : isTime op = true
  · simp [ht]
  · simp [ht, hc, routed_of_inv h]

theorem mstep_on_of_inv {I : Nat → Int → Int} {T : Nat → Int → Int → Option Int} {m : MState}
    (h : IroInv m.tab) (op : Op) (hc : isCreate op = false) (ht : isTime op = false) :
    mstep I T m (.on op) =
      ({ m with slot := updSlot m.slot m.cur (step (I m.cur) (T m.cur) (m.slot m.cur) op).1 },
       .r (step (I m.cur) (T m.cur) (m.slot m.cur) op).2) := by
  simp [mstep, ht, hc, routed_of_inv h]

end DymVerif.IroPlans
