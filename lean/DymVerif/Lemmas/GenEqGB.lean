/-
  Lemmas/GenEqGB — tie 1 for M-GB (C10): what translate/gb.go regenerates from /repo's working tree on
  every check (`Gen/GB.lean`) equals what `Model/GB.lean` was written against.
  * the checks of the genesis-bridge validator are translated guard by guard (order, comparison, error)
    and must EQUAL the model's definitions (`…_eq`): validateAgainstHub (checksum, bech32 prefix, native
    denom, initial supply, accounts), compareGenesisAccounts, validateGenesisTransfer (required /
    unexpected / receiver = HubRecipient / amount = sum of the accounts), Validate (three stages),
    Launchable / IROReady, the transfer-enabled guard of the ICS4 wrapper, the HubRecipient constant;
  * every function the model mirrors step by step must have exactly the statement skeleton recorded
    here (`…_skeleton`): a dropped guard, a reordered effect, a new early return, another argument of a
    keeper call — any edit breaks the corresponding lemma.
-/
import DymVerif.Gen.GB
import DymVerif.Gen.IBC
import DymVerif.Model.GB
namespace DymVerif.GenEq.GB
open DymVerif DymVerif.GB

/-! ### translated checks -/

theorem hubRecipient_eq : Gen.GB.hubRecipient = "dym1mk7pw34ypusacm29m92zshgxee3yreums8avur" ∧
    Gen.GB.hubRecipient = Gen.IBC.hubRecipient := ⟨rfl, rfl⟩

theorem launchable_eq (g : GInfo) : Gen.GB.launchable g = g.launchable := by
  unfold Gen.GB.launchable GInfo.launchable
  cases g.supply <;> rfl

theorem iroReady_eq (g : GInfo) : Gen.GB.iroReady g = g.iroReady := by
  unfold Gen.GB.iroReady GInfo.iroReady
  rw [launchable_eq]

theorem foldl_amt (l : List Acc) (z : Int) : l.foldl (fun total a => total + a.amt) z = z + sumAccs l := by
  induction l generalizing z with
  | nil => simp [sumAccs]
  | cons a as ih => simp only [List.foldl_cons, ih, sumAccs, List.map_cons, List.sum_cons]; omega

/-- `GenesisTransferAmount` is the model's `sumAccs` -/
theorem genesisTransferAmount_eq (hub : GInfo) : Gen.GB.genesisTransferAmount hub = sumAccs hub.accounts := by
  unfold Gen.GB.genesisTransferAmount
  rw [foldl_amt]; omega

/-- `compareGenesisAccounts` succeeds exactly when the model's `compareAccounts` holds -/
theorem compareGenesisAccounts_eq (hub data : List Acc) :
    (Gen.GB.compareGenesisAccounts hub data).isNone = compareAccounts hub data := by
  unfold Gen.GB.compareGenesisAccounts compareAccounts
  -- "some account is not found" is the negation of "every account is found"
  simp only [bne, ← List.not_all_eq_any_not]
  cases hub.length == data.length <;> cases hub.all fun a => data.any fun b => b.addr == a.addr && b.amt == a.amt <;> rfl

/-- the ordered equality checks of `validateAgainstHub` are the model's `againstHub` -/
theorem validateAgainstHub_eq (d hub : GInfo) : Gen.GB.validateAgainstHub d hub = againstHub d hub := by
  unfold Gen.GB.validateAgainstHub againstHub
  rw [← compareGenesisAccounts_eq]
  cases Gen.GB.compareGenesisAccounts hub.accounts d.accounts <;> rfl

/-- `validateGenesisTransfer` is the model's `checkTransfer` -/
theorem validateGenesisTransfer_eq (tr : Option FT) (hub : GInfo) :
    Gen.GB.validateGenesisTransfer tr hub = checkTransfer tr hub := by
  unfold Gen.GB.validateGenesisTransfer checkTransfer Gen.GB.requiresTransfer
  cases tr with
  | none => by_cases h : 0 < hub.accounts.length <;> simp [h]
  | some t =>
    by_cases h : 0 < hub.accounts.length
    · simp only [h, decide_true, Option.isNone_some, Bool.and_false, Bool.false_eq_true, if_false, Bool.not_true,
        Option.isSome_some, Bool.and_true]
      rw [genesisTransferAmount_eq]
      unfold Gen.GB.amountOf
      by_cases hr : t.recv = 0 <;> by_cases hcn : t.canon = true <;> by_cases ha : t.amt = sumAccs hub.accounts <;>
        simp [hr, hcn, ha]
      all_goals exact fun h' => ha h'.symm
    · simp [h]

/-- `GenesisBridgeValidator.Validate` runs the model's three stages in the model's order -/
theorem validate_eq (d : GBData) (hub : GInfo) : Gen.GB.validate d hub = GB.validate d hub := by
  unfold Gen.GB.validate GB.validate
  rw [validateAgainstHub_eq, validateGenesisTransfer_eq]
  cases d.vb <;> simp
  cases againstHub d.gi hub <;> simp
  cases checkTransfer d.tr hub <;> rfl

/-- the guard of `ICS4Wrapper.SendPacket`: unknown rollapp passes, other lookup errors and a zero
    transfer proof height refuse -/
theorem transferAllowed_eq (tph : Nat) :
    Gen.GB.transferAllowed (.error true) = true ∧ Gen.GB.transferAllowed (.error false) = false ∧
    Gen.GB.transferAllowed (.ok tph) = !(tph == 0) := ⟨rfl, rfl, rfl⟩

/-- what `GetRollappByPortChan` answers for a hub channel of the model -/
def lookupOf (s : St) (c : Nat) : Option (Except Bool Nat) :=
  match s.chans.find? (·.1 == c) with
  | none => none
  | some (_, .plain) => some (.error true)
  | some (_, .second _) => some (.error false)
  | some (_, .canon r) => (getRa s r).map (fun ra => .ok ra.tph)

/-- ibc core's own verdict below the genesis-bridge wrapper (`SendPacket`: the channel's client must be active):
    the canonical client of the channel's rollapp is frozen by a hard fork -/
def coreRefuses (s : St) (c : Nat) : Bool :=
  match s.chans.find? (·.1 == c) with
  | some (_, .canon r) => (match getRa s r with | some ra => ra.frozen | none => false)
  | _ => false

theorem sendVerdict_eq (s : St) (x : Option Ra) :
    (match x with
      | none => (s, Res.err)
      | some ra => if ra.tph == 0 then (s, Res.err) else if ra.frozen then (s, .err) else (s, .ok)) =
    (match x.map (fun ra => (Except.ok ra.tph : Except Bool Nat)) with
      | none => (s, Res.err)
      | some l => (s, if Gen.GB.transferAllowed l && !(match x with | some ra => ra.frozen | none => false) then Res.ok else .err)) := by
  cases x with
  | none => rfl
  | some ra =>
    simp only [Option.map_some, Gen.GB.transferAllowed, Gen.GB.isTransferEnabled]
    by_cases h : ra.tph = 0 <;> by_cases hf : ra.frozen = true <;> simp [h, hf]

/-- the model's `stepSend` is the translated guard applied to the model's channel lookup, followed by ibc core's
    test of the client -/
theorem stepSend_eq (s : St) (c : Nat) :
    stepSend s c = match lookupOf s c with
      | none => (s, .err)
      | some l => (s, if Gen.GB.transferAllowed l && !coreRefuses s c then .ok else .err) := by
  unfold stepSend lookupOf coreRefuses
  generalize List.find? (fun x => x.1 == c) s.chans = o
  rcases o with _ | ⟨n, k⟩
  · rfl
  · cases k with
    | plain => rfl
    | second r => rfl
    | canon r => exact sendVerdict_eq s (getRa s r)

/-! ### the translated checks on concrete inputs -/

def gi1 : GInfo := { checksum := 7, pfx := 3, denom := ⟨5, 6, 18⟩, supply := some 100, accounts := [⟨1, 40⟩, ⟨2, 60⟩], sealed := true }

example : Gen.GB.validateAgainstHub gi1 gi1 = none := by decide
example : Gen.GB.validateAgainstHub { gi1 with pfx := 4 } gi1 = some .pfx := by decide
example : Gen.GB.validateAgainstHub { gi1 with checksum := 8, pfx := 4 } gi1 = some .checksum := by decide
example : Gen.GB.validateAgainstHub { gi1 with accounts := [⟨2, 60⟩, ⟨1, 40⟩] } gi1 = none := by decide
example : Gen.GB.validateAgainstHub { gi1 with accounts := [⟨2, 60⟩, ⟨1, 41⟩] } gi1 = some .accounts := by decide
example : Gen.GB.validateGenesisTransfer none gi1 = some .trRequired := by decide
example : Gen.GB.validateGenesisTransfer (some ⟨5, 100, true, 0, true⟩) gi1 = none := by decide
example : Gen.GB.validateGenesisTransfer (some ⟨5, 100, true, 1, true⟩) gi1 = some .trReceiver := by decide
example : Gen.GB.validateGenesisTransfer (some ⟨5, 99, true, 0, true⟩) gi1 = some .trAmount := by decide
example : Gen.GB.validateGenesisTransfer (some ⟨5, 100, false, 0, true⟩) gi1 = some .trAmount := by decide
example : Gen.GB.validateGenesisTransfer (some ⟨5, 100, true, 0, true⟩) { gi1 with accounts := [] } = some .trUnexpected := by decide

/-! ### statement skeletons -/

/-- `AppKeepers.InitTransferStack` (app/transfer_stack.go) as mirrored by the model -/
theorem initTransferStack_skeleton : Gen.GB.initTransferStack =
  ["a.TransferStack = ibctransfer.NewIBCModule(a.TransferKeeper)",
   "a.TransferStack = bridgingfee.NewIBCModule(a.TransferStack.(ibctransfer.IBCModule), *a.RollappKeeper, a.DelayedAckKeeper, a.TransferKeeper, *a.TxFeesKeeper)",
   "a.TransferStack = packetforwardmiddleware.NewIBCMiddleware(a.TransferStack, a.PacketForwardMiddlewareKeeper, 0, packetforwardkeeper.DefaultForwardTransferPacketTimeoutTimestamp)",
   "a.TransferStack = denommetadatamodule.NewIBCModule(a.TransferStack, a.DenomMetadataKeeper, a.RollappKeeper)",
   "call a.DelayedAckMiddleware.Setup(delayedackmodule.WithIBCModule(a.TransferStack), delayedackmodule.WithKeeper(a.DelayedAckKeeper), delayedackmodule.WithRollappKeeper(a.RollappKeeper), delayedackmodule.WithForwardKeeper(a.PacketForwardMiddlewareKeeper))",
   "a.TransferStack = a.DelayedAckMiddleware",
   "a.TransferStack = genesisbridge.NewIBCModule(a.TransferStack, a.RollappKeeper, a.TransferKeeper, a.DenomMetadataKeeper)",
   "ibcRouter := ibcporttypes.NewRouter()",
   "call ibcRouter.AddRoute(ibctransfertypes.ModuleName, a.TransferStack)",
   "call a.IBCKeeper.SetRouter(ibcRouter)"] := rfl

/-- `IBCModule.OnRecvPacket` (x/rollapp/genesisbridge) as mirrored by the model -/
theorem onRecvPacket_skeleton : Gen.GB.onRecvPacket =
  ["ra, err := w.rollappKeeper.GetRollappByPortChan(ctx, packet.GetDestPort(), packet.GetDestChannel())",
   "if errorsmod.IsOf(err, types.ErrRollappNotFound) {",
   "return w.IBCModule.OnRecvPacket(ctx, packet, relayer)",
   "}",
   "if err != nil {",
   "return uevent.NewErrorAcknowledgement(ctx, wrap(err))",
   "}",
   "if ra.IsTransferEnabled() {",
   "return w.IBCModule.OnRecvPacket(ctx, packet, relayer)",
   "}",
   "if err := json.Unmarshal(packet.GetData(), &genesisBridgeData); err != nil {",
   "return uevent.NewErrorAcknowledgement(ctx, wrap(err))",
   "}",
   "err = types.NewGenesisBridgeValidator(genesisBridgeData, ra.GenesisInfo).Validate()",
   "if err != nil {",
   "return uevent.NewErrorAcknowledgement(ctx, wrap(err))",
   "}",
   "if genesisBridgeData.GenesisInfo.NativeDenom.IsSet() {",
   "trace, denom, err := genesisBridgeData.IBCDenom(ra.RollappId, ra.ChannelId)",
   "if err != nil {",
   "return uevent.NewErrorAcknowledgement(ctx, wrap(err))",
   "}",
   "call w.transferKeeper.SetDenomTrace(ctx, trace)",
   "if err := w.denomKeeper.CreateDenomMetadata(ctx, denom); err != nil {",
   "return uevent.NewErrorAcknowledgement(ctx, wrap(err))",
   "}",
   "raDenomOnHUb = denom.Base",
   "}",
   "genesisPackets := genesisBridgeData.GenesisAccPackets()",
   "range genesisPackets as _, data {",
   "if err := w.transferKeeper.OnRecvPacket(ctx, packet, data); err != nil {",
   "return uevent.NewErrorAcknowledgement(ctx, wrap(err))",
   "}",
   "}",
   "err = w.EnableTransfers(ctx, packet, ra, raDenomOnHUb)",
   "if err != nil {",
   "return uevent.NewErrorAcknowledgement(ctx, wrap(err))",
   "}",
   "successAck := channeltypes.NewResultAcknowledgement([]byte{byte(1)})",
   "return successAck"] := rfl

/-- `IBCModule.EnableTransfers` (x/rollapp/genesisbridge) as mirrored by the model -/
theorem enableTransfers_skeleton : Gen.GB.enableTransfers =
  ["height, err := commontypes.UnpackPacketProofHeight(ctx, packet, commontypes.RollappPacket_ON_RECV)",
   "if err != nil {",
   "return wrap(err)",
   "}",
   "ra.GenesisState.TransferProofHeight = height",
   "call w.rollappKeeper.SetRollapp(ctx, *ra)",
   "err = w.rollappKeeper.GetHooks().AfterTransfersEnabled(ctx, ra.RollappId, rollappIBCtrace)",
   "if err != nil {",
   "return wrap(err)",
   "}",
   "return nil"] := rfl

/-- `ICS4Wrapper.SendPacket` (x/rollapp/genesisbridge) as mirrored by the model -/
theorem sendPacket_skeleton : Gen.GB.sendPacket =
  ["if err := w.transferAllowed(ctx, sourcePort, sourceChannel); err != nil {",
   "return 0, wrap(err)",
   "}",
   "return w.ICS4Wrapper.SendPacket(ctx, chanCap, sourcePort, sourceChannel, timeoutHeight, timeoutTimestamp, data)"] := rfl

/-- `ICS4Wrapper.transferAllowed` (x/rollapp/genesisbridge) as mirrored by the model -/
theorem transferAllowed_skeleton : Gen.GB.transferAllowedSk =
  ["ra, err := w.rollappK.GetRollappByPortChan(ctx, sourcePort, sourceChannel)",
   "if err != nil {",
   "if errorsmod.IsOf(err, types.ErrRollappNotFound) {",
   "return nil",
   "}",
   "return wrap(err)",
   "}",
   "if !ra.GenesisState.IsTransferEnabled() {",
   "return wrap(gerrc.ErrFailedPrecondition)",
   "}",
   "return nil"] := rfl

/-- `GenesisInfo.Accounts` (x/rollapp/types) as mirrored by the model -/
theorem giAccounts_skeleton : Gen.GB.giAccounts =
  ["if gi.GenesisAccounts == nil {",
   "return nil",
   "}",
   "return gi.GenesisAccounts.Accounts"] := rfl

/-- `GenesisInfo.RequiresTransfer` (x/rollapp/types) as mirrored by the model -/
theorem giRequiresTransfer_skeleton : Gen.GB.giRequiresTransfer =
  ["return 0 < len(gi.Accounts())"] := rfl

/-- `GenesisInfo.GenesisTransferAmount` (x/rollapp/types) as mirrored by the model -/
theorem giGenesisTransferAmount_skeleton : Gen.GB.giGenesisTransferAmount =
  ["total := math.ZeroInt()",
   "range gi.Accounts() as _, a {",
   "total = total.Add(a.Amount)",
   "}",
   "return total"] := rfl

/-- `GenesisInfo.Launchable` (x/rollapp/types) as mirrored by the model -/
theorem giLaunchable_skeleton : Gen.GB.giLaunchable =
  ["return gi.GenesisChecksum != \"\" && gi.Bech32Prefix != \"\" && !gi.InitialSupply.IsNil()"] := rfl

/-- `GenesisInfo.IROReady` (x/rollapp/types) as mirrored by the model -/
theorem giIROReady_skeleton : Gen.GB.giIROReady =
  ["return gi.Launchable() && gi.NativeDenom.IsSet()"] := rfl

/-- `GenesisInfo.ValidateBasic` (x/rollapp/types) as mirrored by the model -/
theorem giValidateBasic_skeleton : Gen.GB.giValidateBasic =
  ["if gi.Bech32Prefix != \"\" {",
   "if err := validateBech32Prefix(gi.Bech32Prefix); err != nil {",
   "return errors.Join(ErrInvalidBech32Prefix, err)",
   "}",
   "}",
   "if len(gi.GenesisChecksum) > maxGenesisChecksumLength {",
   "return ErrInvalidGenesisChecksum",
   "}",
   "numGenesisAccounts := len(gi.Accounts())",
   "if !gi.NativeDenom.IsSet() {",
   "if !gi.InitialSupply.IsNil() && !gi.InitialSupply.IsZero() {",
   "return wrap(ErrNoNativeTokenRollapp)",
   "}",
   "if numGenesisAccounts > 0 {",
   "return wrap(ErrNoNativeTokenRollapp)",
   "}",
   "return nil",
   "}",
   "if err := gi.NativeDenom.Validate(); err != nil {",
   "return errors.Join(ErrInvalidMetadata, err)",
   "}",
   "if !gi.InitialSupply.IsNil() && gi.InitialSupply.IsNegative() {",
   "return ErrInvalidInitialSupply",
   "}",
   "if numGenesisAccounts > 0 {",
   "if numGenesisAccounts > maxAllowedGenesisAccounts {",
   "return ErrTooManyGenesisAccounts",
   "}",
   "if gi.InitialSupply.IsNil() {",
   "return ErrInvalidInitialSupply",
   "}",
   "total := math.ZeroInt()",
   "accountSet := make(map[string]struct{})",
   "range gi.Accounts() as _, a {",
   "if err := a.ValidateBasic(); err != nil {",
   "return errors.Join(gerrc.ErrInvalidArgument, err)",
   "}",
   "if _, exists := accountSet[a.Address]; exists {",
   "return wrap(gerrc.ErrInvalidArgument)",
   "}",
   "accountSet[a.Address] = struct{}{}",
   "total = total.Add(a.Amount)",
   "}",
   "if total.GT(gi.InitialSupply) {",
   "return ErrInvalidInitialSupply",
   "}",
   "}",
   "return nil"] := rfl

/-- `GenesisAccount.ValidateBasic` (x/rollapp/types) as mirrored by the model -/
theorem genesisAccountValidateBasic_skeleton : Gen.GB.genesisAccountValidateBasic =
  ["if a.Amount.IsNil() || !a.Amount.IsPositive() {",
   "return fmt.Errorf()",
   "}",
   "if _, err := sdk.AccAddressFromBech32(a.Address); err != nil {",
   "return err",
   "}",
   "return nil"] := rfl

/-- `DenomMetadata.IsSet` (x/rollapp/types) as mirrored by the model -/
theorem denomMetadataIsSet_skeleton : Gen.GB.denomMetadataIsSet =
  ["return dm != DenomMetadata{}"] := rfl

/-- `DenomMetadata.Validate` (x/rollapp/types) as mirrored by the model -/
theorem denomMetadataValidate_skeleton : Gen.GB.denomMetadataValidate =
  ["if err := sdk.ValidateDenom(dm.Base); err != nil {",
   "return fmt.Errorf(err)",
   "}",
   "if err := sdk.ValidateDenom(dm.Display); err != nil {",
   "return fmt.Errorf(err)",
   "}",
   "if AllowedDecimals(dm.Exponent) != Decimals18 {",
   "return fmt.Errorf()",
   "}",
   "return nil"] := rfl

/-- `GenesisBridgeData.ValidateBasic` (x/rollapp/types) as mirrored by the model -/
theorem gbdValidateBasic_skeleton : Gen.GB.gbdValidateBasic =
  ["if err := d.GenesisInfo.ValidateBasic(); err != nil {",
   "return wrap(err)",
   "}",
   "if d.GenesisInfo.NativeDenom.IsSet() {",
   "if err := d.NativeDenom.Validate(); err != nil {",
   "return wrap(err)",
   "}",
   "if d.NativeDenom.Base != d.GenesisInfo.NativeDenom.Base {",
   "return fmt.Errorf()",
   "}",
   "valid := false",
   "range d.NativeDenom.DenomUnits as _, unit {",
   "if unit.Denom == d.GenesisInfo.NativeDenom.Display {",
   "if unit.Exponent == d.GenesisInfo.NativeDenom.Exponent {",
   "valid = true",
   "break",
   "}",
   "}",
   "}",
   "if !valid {",
   "return fmt.Errorf()",
   "}",
   "}",
   "if d.GenesisTransfer != nil {",
   "if err := d.GenesisTransfer.ValidateBasic(); err != nil {",
   "return wrap(err)",
   "}",
   "if d.GenesisInfo.NativeDenom.Base != d.GenesisTransfer.Denom {",
   "return wrap(gerrc.ErrFailedPrecondition)",
   "}",
   "}",
   "return nil"] := rfl

/-- `GenesisBridgeData.IBCDenom` (x/rollapp/types) as mirrored by the model -/
theorem gbdIBCDenom_skeleton : Gen.GB.gbdIBCDenom =
  ["m := d.NativeDenom",
   "trace := uibc.GetForeignDenomTrace(channelID, m.Base)",
   "m.Base = trace.IBCDenom()",
   "m.Description = fmt.Sprintf(\"auto-generated ibc denom for rollapp: base: %s: rollapp: %s\", m.GetBase(), rollappID)",
   "range m.DenomUnits as i, u {",
   "if u.Exponent == 0 {",
   "m.DenomUnits[i].Aliases = append(m.DenomUnits[i].Aliases, u.Denom)",
   "m.DenomUnits[i].Denom = m.Base",
   "}",
   "}",
   "if err := m.Validate(); err != nil {",
   "return transfertypes.DenomTrace{}, banktypes.Metadata{}, fmt.Errorf(err)",
   "}",
   "return trace, m, nil"] := rfl

/-- `GenesisBridgeData.GenesisAccPackets` (x/rollapp/types) as mirrored by the model -/
theorem gbdGenesisAccPackets_skeleton : Gen.GB.gbdGenesisAccPackets =
  ["return uslice.Map(d.GenesisInfo.Accounts(), func)",
   "{",
   "return transfertypes.NewFungibleTokenPacketData(d.GenesisTransfer.Denom, acc.Amount.String(), d.GenesisTransfer.Sender, acc.Address, \"\")",
   "}"] := rfl

/-- `GenesisBridgeInfo.Accounts` (x/rollapp/types) as mirrored by the model -/
theorem gbiAccounts_skeleton : Gen.GB.gbiAccounts =
  ["if i.GenesisAccounts == nil {",
   "return nil",
   "}",
   "return i.GenesisAccounts"] := rfl

/-- `GenesisBridgeInfo.ValidateBasic` (x/rollapp/types) as mirrored by the model -/
theorem gbiValidateBasic_skeleton : Gen.GB.gbiValidateBasic =
  ["raGenesisInfo := GenesisInfo{GenesisChecksum: i.GenesisChecksum, Bech32Prefix: i.Bech32Prefix, NativeDenom: i.NativeDenom, InitialSupply: i.InitialSupply, GenesisAccounts: &GenesisAccounts{Accounts: i.GenesisAccounts}}",
   "if !raGenesisInfo.Launchable() {",
   "return fmt.Errorf()",
   "}",
   "return raGenesisInfo.ValidateBasic()"] := rfl

/-- `NewGenesisBridgeValidator` (x/rollapp/types) as mirrored by the model -/
theorem newGenesisBridgeValidator_skeleton : Gen.GB.newGenesisBridgeValidator =
  ["return &GenesisBridgeValidator{rollapp: rollappGenesis, hub: hubGenesis}"] := rfl

/-- `GenesisBridgeValidator.Validate` (x/rollapp/types) as mirrored by the model -/
theorem validatorValidate_skeleton : Gen.GB.validatorValidate =
  ["if err := v.rollapp.ValidateBasic(); err != nil {",
   "return wrap(err)",
   "}",
   "if err := validateAgainstHub(v.rollapp.GenesisInfo, v.hub); err != nil {",
   "return wrap(err)",
   "}",
   "err := v.validateGenesisTransfer()",
   "if err != nil {",
   "return wrap(err)",
   "}",
   "return nil"] := rfl

/-- `validateAgainstHub` (x/rollapp/types) as mirrored by the model -/
theorem validateAgainstHub_skeleton : Gen.GB.validateAgainstHubSk =
  ["if rollapp.GenesisChecksum != hub.GenesisChecksum {",
   "return fmt.Errorf()",
   "}",
   "if rollapp.Bech32Prefix != hub.Bech32Prefix {",
   "return fmt.Errorf()",
   "}",
   "if rollapp.NativeDenom != hub.NativeDenom {",
   "return fmt.Errorf()",
   "}",
   "if !rollapp.InitialSupply.Equal(hub.InitialSupply) {",
   "return fmt.Errorf()",
   "}",
   "err := compareGenesisAccounts(hub.Accounts(), rollapp.Accounts())",
   "if err != nil {",
   "return wrap(err)",
   "}",
   "return nil"] := rfl

/-- `compareGenesisAccounts` (x/rollapp/types) as mirrored by the model -/
theorem compareGenesisAccounts_skeleton : Gen.GB.compareGenesisAccountsSk =
  ["if len(raCommitted) != len(gbData) {",
   "return fmt.Errorf()",
   "}",
   "range raCommitted as _, acc {",
   "found := slices.ContainsFunc(gbData, func)",
   "{",
   "return dataAcc.Address == acc.Address && dataAcc.Amount.Equal(acc.Amount)",
   "}",
   "if !found {",
   "return fmt.Errorf()",
   "}",
   "}",
   "return nil"] := rfl

/-- `GenesisBridgeValidator.validateGenesisTransfer` (x/rollapp/types) as mirrored by the model -/
theorem validateGenesisTransfer_skeleton : Gen.GB.validateGenesisTransferSk =
  ["gTransfer := v.rollapp.GenesisTransfer",
   "requiresTransfer := v.hub.RequiresTransfer()",
   "if requiresTransfer && gTransfer == nil {",
   "return wrap(gerrc.ErrFailedPrecondition)",
   "}",
   "if !requiresTransfer && gTransfer != nil {",
   "return wrap(gerrc.ErrFailedPrecondition)",
   "}",
   "if gTransfer == nil {",
   "return nil",
   "}",
   "if gTransfer.Receiver != HubRecipient {",
   "return wrap(gerrc.ErrFailedPrecondition)",
   "}",
   "expectedAmount := v.hub.GenesisTransferAmount()",
   "if expectedAmount.String() != gTransfer.Amount {",
   "return wrap(gerrc.ErrFailedPrecondition)",
   "}",
   "return nil"] := rfl

/-- `Rollapp.IsTransferEnabled` (x/rollapp/types) as mirrored by the model -/
theorem rollappIsTransferEnabled_skeleton : Gen.GB.rollappIsTransferEnabled =
  ["return r.GenesisState.IsTransferEnabled()"] := rfl

/-- `RollappGenesisState.IsTransferEnabled` (x/rollapp/types) as mirrored by the model -/
theorem genesisStateIsTransferEnabled_skeleton : Gen.GB.genesisStateIsTransferEnabled =
  ["return s.TransferProofHeight != 0"] := rfl

/-- `Rollapp.ValidateBasic` (x/rollapp/types) as mirrored by the model -/
theorem rollappValidateBasic_skeleton : Gen.GB.rollappValidateBasic =
  ["_, err := sdk.AccAddressFromBech32(r.Owner)",
   "if err != nil {",
   "return errors.Join(ErrInvalidCreatorAddress, err)",
   "}",
   "_, err = NewChainID(r.RollappId)",
   "if err != nil {",
   "return err",
   "}",
   "if err = ValidateBasicMinSeqBondCoins(r.MinSequencerBond); err != nil {",
   "return wrap(err)",
   "}",
   "if err = validateInitialSequencer(r.InitialSequencer); err != nil {",
   "return wrap(ErrInvalidInitialSequencer)",
   "}",
   "if err = r.GenesisInfo.ValidateBasic(); err != nil {",
   "return err",
   "}",
   "if r.VmType == 0 {",
   "return ErrInvalidVMType",
   "}",
   "if r.Metadata != nil {",
   "if err = r.Metadata.Validate(); err != nil {",
   "return errors.Join(ErrInvalidMetadata, err)",
   "}",
   "}",
   "if r.Launched && !r.GenesisInfo.Sealed {",
   "return fmt.Errorf()",
   "}",
   "return nil"] := rfl

/-- `MsgCreateRollapp.GetRollapp` (x/rollapp/types) as mirrored by the model -/
theorem msgCreateRollappGetRollapp_skeleton : Gen.GB.msgCreateRollappGetRollapp =
  ["genInfo := GenesisInfo{}",
   "if msg.GenesisInfo != nil {",
   "genInfo = *msg.GenesisInfo",
   "if genInfo.InitialSupply.IsZero() {",
   "genInfo.NativeDenom = DenomMetadata{}",
   "}",
   "}",
   "return NewRollapp(msg.Creator, msg.RollappId, msg.InitialSequencer, msg.MinSequencerBond, msg.VmType, msg.Metadata, genInfo)"] := rfl

/-- `MsgCreateRollapp.ValidateBasic` (x/rollapp/types) as mirrored by the model -/
theorem msgCreateRollappValidateBasic_skeleton : Gen.GB.msgCreateRollappValidateBasic =
  ["if len(msg.Alias) == 0 {",
   "return ErrInvalidAlias",
   "}",
   "rollapp := msg.GetRollapp()",
   "if err := rollapp.ValidateBasic(); err != nil {",
   "return err",
   "}",
   "return nil"] := rfl

/-- `Keeper.GetRollappByPortChan` (x/rollapp/keeper) as mirrored by the model -/
theorem getRollappByPortChan_skeleton : Gen.GB.getRollappByPortChan =
  ["clientID, _, err := k.channelKeeper.GetChannelClientState(ctx, raPortOnHub, raChanOnHub)",
   "if err != nil {",
   "return nil, wrap(err)",
   "}",
   "chainID, ok := k.canonicalClientKeeper.GetRollappForClientID(ctx, clientID)",
   "if !ok {",
   "return nil, wrap(types.ErrRollappNotFound)",
   "}",
   "rollapp, ok := k.GetRollapp(ctx, chainID)",
   "if !ok {",
   "return nil, wrap(gerrc.ErrInternal)",
   "}",
   "if rollapp.ChannelId == \"\" {",
   "return nil, wrap(gerrc.ErrInternal)",
   "}",
   "if rollapp.ChannelId != raChanOnHub {",
   "return nil, wrap(gerrc.ErrInvalidArgument)",
   "}",
   "return &rollapp, nil"] := rfl

/-- `Keeper.CheckAndUpdateRollappFields` (x/rollapp/keeper) as mirrored by the model -/
theorem checkAndUpdateRollappFields_skeleton : Gen.GB.checkAndUpdateRollappFields =
  ["current, found := k.GetRollapp(ctx, update.RollappId)",
   "if !found {",
   "return current, types.ErrRollappNotFound",
   "}",
   "if update.Owner != current.Owner {",
   "return current, sdkerrors.ErrUnauthorized",
   "}",
   "if update.UpdatingImmutableValues() && current.Launched {",
   "return current, types.ErrImmutableFieldUpdateAfterLaunched",
   "}",
   "if update.UpdatingGenesisInfo() && current.GenesisInfo.Sealed {",
   "return current, types.ErrGenesisInfoSealed",
   "}",
   "if update.InitialSequencer != \"\" {",
   "current.InitialSequencer = update.InitialSequencer",
   "}",
   "if types.IsUpdateMinSeqBond(update.MinSequencerBond) {",
   "minSeqBond := *update.MinSequencerBond",
   "if err := k.validMinBond(ctx, minSeqBond); err != nil {",
   "return current, wrap(err)",
   "}",
   "current.MinSequencerBond = sdk.NewCoins(minSeqBond)",
   "}",
   "if update.GenesisInfo != nil {",
   "current.GenesisInfo = *update.GenesisInfo",
   "if update.GenesisInfo.InitialSupply.IsZero() {",
   "current.GenesisInfo.NativeDenom = types.DenomMetadata{}",
   "}",
   "}",
   "if update.Metadata != nil && !update.Metadata.IsEmpty() {",
   "current.Metadata = update.Metadata",
   "}",
   "if err := current.ValidateBasic(); err != nil {",
   "return current, fmt.Errorf(err)",
   "}",
   "return current, nil"] := rfl

/-- `Keeper.SetRollappAsLaunched` (x/rollapp/keeper) as mirrored by the model -/
theorem setRollappAsLaunched_skeleton : Gen.GB.setRollappAsLaunched =
  ["if !rollapp.AllImmutableFieldsAreSet() {",
   "return wrap(gerrc.ErrFailedPrecondition)",
   "}",
   "rollapp.GenesisInfo.Sealed = true",
   "rollapp.Launched = true",
   "call k.SetRollapp(ctx, *rollapp)",
   "return nil"] := rfl

/-- `Keeper.SetIROPlanToRollapp` (x/rollapp/keeper) as mirrored by the model -/
theorem setIROPlanToRollapp_skeleton : Gen.GB.setIROPlanToRollapp =
  ["if rollapp.Launched {",
   "return wrap(gerrc.ErrFailedPrecondition)",
   "}",
   "if rollapp.GenesisInfo.Sealed {",
   "return wrap(gerrc.ErrFailedPrecondition)",
   "}",
   "if !rollapp.GenesisInfo.IROReady() {",
   "return wrap(gerrc.ErrFailedPrecondition)",
   "}",
   "rollapp.GenesisInfo.Sealed = true",
   "preLaunchTime := plan.PreLaunchTime",
   "if !plan.TradingEnabled {",
   "preLaunchTime = ctx.BlockTime().Add(time.Hour * 24 * 365 * 10)",
   "}",
   "rollapp.PreLaunchTime = &preLaunchTime",
   "call k.SetRollapp(ctx, *rollapp)",
   "return nil"] := rfl

/-- `msgServer.UpdateRollappInformation` (x/rollapp/keeper) as mirrored by the model -/
theorem msgUpdateRollappInformation_skeleton : Gen.GB.msgUpdateRollappInformation =
  ["ctx := sdk.UnwrapSDKContext(goCtx)",
   "updated, err := k.CheckAndUpdateRollappFields(ctx, msg)",
   "if err != nil {",
   "return nil, err",
   "}",
   "call k.SetRollapp(ctx, updated)",
   "return &types.MsgUpdateRollappInformationResponse{}, nil"] := rfl

/-- `Keeper.ForceGenesisInfoChange` (x/rollapp/keeper) as mirrored by the model -/
theorem forceGenesisInfoChange_skeleton : Gen.GB.forceGenesisInfoChange =
  ["ctx := sdk.UnwrapSDKContext(goCtx)",
   "if msg.Authority != k.authority {",
   "err := wrap(gerrc.ErrUnauthenticated)",
   "return nil, err",
   "}",
   "if err := msg.ValidateBasic(); err != nil {",
   "err = errors.Join(gerrc.ErrInvalidArgument, err)",
   "return nil, err",
   "}",
   "rollapp, found := k.GetRollapp(ctx, msg.RollappId)",
   "if !found {",
   "err := wrap(types.ErrRollappNotFound)",
   "return nil, err",
   "}",
   "rollapp.GenesisInfo = msg.NewGenesisInfo",
   "rollapp.GenesisInfo.Sealed = true",
   "call k.SetRollapp(ctx, rollapp)",
   "return &types.MsgForceGenesisInfoChangeResponse{}, nil"] := rfl

/-- `msgServer.CreateRollapp` (x/rollapp/keeper) as mirrored by the model -/
theorem msgCreateRollapp_skeleton : Gen.GB.msgCreateRollapp =
  ["ctx := sdk.UnwrapSDKContext(goCtx)",
   "rollappId := types.MustNewChainID(msg.RollappId)",
   "if rollappId.GetRevisionNumber() != 1 {",
   "return nil, wrap(types.ErrInvalidRollappID)",
   "}",
   "if err := k.CheckIfRollappExists(ctx, rollappId); err != nil {",
   "return nil, err",
   "}",
   "if err := k.validMinBond(ctx, msg.MinSequencerBond); err != nil {",
   "return nil, err",
   "}",
   "call k.SetRollapp(ctx, msg.GetRollapp())",
   "creator := sdk.MustAccAddressFromBech32(msg.Creator)",
   "if err := k.hooks.RollappCreated(ctx, msg.RollappId, msg.Alias, creator); err != nil {",
   "return nil, fmt.Errorf(err)",
   "}",
   "return &types.MsgCreateRollappResponse{}, nil"] := rfl

/-- `msgServer.CreateSequencer` (x/sequencer/keeper/msg_server_create.go) as mirrored by the model -/
theorem msgCreateSequencer_skeleton : Gen.GB.msgCreateSequencer =
  ["ctx := sdk.UnwrapSDKContext(goCtx)",
   "rollapp, found := k.rollappKeeper.GetRollapp(ctx, msg.RollappId)",
   "if !found {",
   "return nil, rollapptypes.ErrRollappNotFound",
   "}",
   "if _, err := k.RealSequencer(ctx, msg.Creator); err == nil {",
   "return nil, types.ErrSequencerAlreadyExists",
   "}",
   "pkAddr, err := types.PubKeyAddr(msg.DymintPubKey)",
   "if err != nil {",
   "return nil, wrap(err)",
   "}",
   "if _, err := k.SequencerByDymintAddr(ctx, pkAddr); err == nil {",
   "return nil, wrap(gerrc.ErrAlreadyExists)",
   "}",
   "if err := k.sufficientBond(ctx, msg.RollappId, msg.Bond); err != nil {",
   "return nil, err",
   "}",
   "if err := msg.VMSpecificValidate(rollapp.VmType); err != nil {",
   "return nil, wrap(err)",
   "}",
   "if !rollapp.Launched {",
   "isInitialSeq := slices.Contains(strings.Split(rollapp.InitialSequencer, \",\"), msg.Creator)",
   "anyAllowed := rollapp.InitialSequencer == \"*\"",
   "if !anyAllowed && !isInitialSeq {",
   "return nil, types.ErrNotInitialSequencer",
   "}",
   "if rollapp.PreLaunchTime != nil && rollapp.PreLaunchTime.After(ctx.BlockTime()) {",
   "return nil, types.ErrBeforePreLaunchTime",
   "}",
   "if err := k.rollappKeeper.SetRollappAsLaunched(ctx, &rollapp); err != nil {",
   "return nil, err",
   "}",
   "}",
   "seq := k.NewSequencer(ctx, msg.RollappId)",
   "rewardAddr := msg.RewardAddr",
   "if msg.RewardAddr == \"\" {",
   "rewardAddr = msg.Creator",
   "}",
   "seq.RewardAddr = rewardAddr",
   "seq.DymintPubKey = msg.DymintPubKey",
   "seq.Address = msg.Creator",
   "seq.Status = types.Bonded",
   "seq.Metadata = msg.Metadata",
   "seq.OptedIn = true",
   "call seq.SetWhitelistedRelayers(msg.WhitelistedRelayers)",
   "if err := k.sendToModule(ctx, seq, msg.Bond); err != nil {",
   "return nil, err",
   "}",
   "call k.SetSequencer(ctx, *seq)",
   "if err := k.SetSequencerByDymintAddr(ctx, pkAddr, seq.Address); err != nil {",
   "return nil, wrap(err)",
   "}",
   "proposer := k.GetProposer(ctx, msg.RollappId)",
   "if proposer.Sentinel() {",
   "if err := k.RecoverFromSentinel(ctx, msg.RollappId); err != nil {",
   "return nil, err",
   "}",
   "}",
   "return &types.MsgCreateSequencerResponse{}, nil"] := rfl

/-- `msgServer.CreatePlan` (x/iro/keeper) as mirrored by the model -/
theorem msgCreatePlan_skeleton : Gen.GB.msgCreatePlan =
  ["ctx := sdk.UnwrapSDKContext(goCtx)",
   "rollapp, found := m.Keeper.rk.GetRollapp(ctx, req.RollappId)",
   "if !found {",
   "return nil, wrap(gerrc.ErrNotFound)",
   "}",
   "if rollapp.Owner != req.Owner {",
   "return nil, sdkerrors.ErrUnauthorized",
   "}",
   "params := m.Keeper.GetParams(ctx)",
   "if req.IroPlanDuration < params.MinPlanDuration {",
   "return nil, errors.Join(gerrc.ErrFailedPrecondition, types.ErrInvalidEndTime)",
   "}",
   "if req.LiquidityPart.LT(params.MinLiquidityPart) {",
   "return nil, wrap(gerrc.ErrInvalidArgument)",
   "}",
   "if req.VestingDuration < params.MinVestingDuration {",
   "return nil, wrap(gerrc.ErrInvalidArgument)",
   "}",
   "if req.VestingStartTimeAfterSettlement < params.MinVestingStartTimeAfterSettlement {",
   "return nil, wrap(gerrc.ErrInvalidArgument)",
   "}",
   "if req.IncentivePlanParams.NumEpochsPaidOver < params.IncentivesMinNumEpochsPaidOver {",
   "return nil, errors.Join(gerrc.ErrInvalidArgument, wrap(types.ErrInvalidIncentivePlanParams))",
   "}",
   "if req.IncentivePlanParams.StartTimeAfterSettlement < params.IncentivesMinStartTimeAfterSettlement {",
   "return nil, errors.Join(gerrc.ErrInvalidArgument, wrap(types.ErrInvalidIncentivePlanParams))",
   "}",
   "_, found = m.Keeper.GetPlanByRollapp(ctx, rollapp.RollappId)",
   "if found {",
   "return nil, errors.Join(gerrc.ErrFailedPrecondition, types.ErrPlanExists)",
   "}",
   "found = false",
   "range rollapp.GenesisInfo.Accounts() as _, gAcc {",
   "if gAcc.Address == m.Keeper.GetModuleAccountAddress() {",
   "if !gAcc.Amount.Equal(req.AllocatedAmount) {",
   "return nil, wrap(gerrc.ErrFailedPrecondition)",
   "}",
   "found = true",
   "break",
   "}",
   "}",
   "if !found {",
   "return nil, wrap(gerrc.ErrFailedPrecondition)",
   "}",
   "if req.BondingCurve.RollappDenomDecimals != uint64(rollapp.GenesisInfo.NativeDenom.Exponent) {",
   "return nil, wrap(gerrc.ErrInvalidArgument)",
   "}",
   "liqToken, ok := m.BK.GetDenomMetaData(ctx, req.LiquidityDenom)",
   "if !ok {",
   "return nil, wrap(gerrc.ErrInvalidArgument)",
   "}",
   "exponent := liqToken.DenomUnits[len(liqToken.DenomUnits) - 1].Exponent",
   "if req.BondingCurve.LiquidityDenomDecimals != uint64(exponent) {",
   "return nil, wrap(gerrc.ErrInvalidArgument)",
   "}",
   "if !slices.Contains(m.Keeper.gk.GetParams(ctx).AllowedPoolCreationDenoms, req.LiquidityDenom) {",
   "return nil, wrap(gerrc.ErrFailedPrecondition)",
   "}",
   "planId, err := m.Keeper.CreatePlan(ctx, req.LiquidityDenom, req.AllocatedAmount, req.IroPlanDuration, req.StartTime, req.TradingEnabled, rollapp, req.BondingCurve, req.IncentivePlanParams, req.LiquidityPart, req.VestingDuration, req.VestingStartTimeAfterSettlement)",
   "if err != nil {",
   "return nil, err",
   "}",
   "return &types.MsgCreatePlanResponse{PlanId: planId}, nil"] := rfl

/-- `Keeper.CreatePlan` (x/iro/keeper) as mirrored by the model -/
theorem createPlan_skeleton : Gen.GB.createPlan =
  ["allocation, err := k.MintAllocation(ctx, allocatedAmount, rollapp.RollappId, rollapp.GenesisInfo.NativeDenom.Display, uint64(rollapp.GenesisInfo.NativeDenom.Exponent))",
   "if err != nil {",
   "return \"\", err",
   "}",
   "plan := types.NewPlan(k.GetNextPlanIdAndIncrement(ctx), rollapp.RollappId, liquidityDenom, allocation, curve, planDuration, incentivesParams, liquidityPart, vestingDuration, vestingStartTimeAfterSettlement)",
   "if tradingEnabled {",
   "if startTime.Before(ctx.BlockTime()) {",
   "startTime = ctx.BlockTime()",
   "}",
   "call plan.EnableTradingWithStartTime(startTime)",
   "}",
   "if err := plan.ValidateBasic(); err != nil {",
   "return \"\", errors.Join(gerrc.ErrInvalidArgument, err)",
   "}",
   "err = k.rk.SetIROPlanToRollapp(ctx, &rollapp, plan)",
   "if err != nil {",
   "return \"\", errors.Join(gerrc.ErrFailedPrecondition, err)",
   "}",
   "_, err = k.CreateModuleAccountForPlan(ctx, plan)",
   "if err != nil {",
   "return \"\", err",
   "}",
   "feeAmt := k.GetParams(ctx).CreationFee",
   "if feeAmt.GT(plan.MaxAmountToSell) {",
   "return \"\", wrap(gerrc.ErrInvalidArgument)",
   "}",
   "cost := plan.BondingCurve.Cost(math.ZeroInt(), feeAmt)",
   "if !cost.IsPositive() {",
   "return \"\", wrap(gerrc.ErrInvalidArgument)",
   "}",
   "feeCostLiquidlyCoin := sdk.NewCoin(plan.LiquidityDenom, cost)",
   "err = k.BK.SendCoins(ctx, sdk.MustAccAddressFromBech32(rollapp.Owner), plan.GetAddress(), sdk.NewCoins(feeCostLiquidlyCoin))",
   "if err != nil {",
   "return \"\", err",
   "}",
   "plan.SoldAmt = feeAmt",
   "plan.ClaimedAmt = feeAmt",
   "call k.SetPlan(ctx, plan)",
   "if err != nil {",
   "return \"\", err",
   "}",
   "return fmt.Sprintf(\"%d\", plan.Id), nil"] := rfl

/-- `Keeper.AfterTransfersEnabled` (x/iro/keeper) as mirrored by the model -/
theorem afterTransfersEnabled_skeleton : Gen.GB.afterTransfersEnabled =
  ["return k.Settle(ctx, rollappId, rollappIBCDenom)"] := rfl

/-- `Keeper.Settle` (x/iro/keeper) as mirrored by the model -/
theorem settle_skeleton : Gen.GB.settle =
  ["plan, found := k.GetPlanByRollapp(ctx, rollappId)",
   "if !found {",
   "return nil",
   "}",
   "if plan.IsSettled() {",
   "return wrap(errors.Join(gerrc.ErrInternal, types.ErrPlanSettled))",
   "}",
   "balance := k.BK.GetBalance(ctx, k.AK.GetModuleAddress(types.ModuleName), rollappIBCDenom)",
   "if !balance.Amount.Equal(plan.TotalAllocation.Amount) {",
   "return wrap(gerrc.ErrInternal)",
   "}",
   "iroTokenBalance := k.BK.GetBalance(ctx, k.AK.GetModuleAddress(types.ModuleName), plan.TotalAllocation.Denom)",
   "err := k.BK.BurnCoins(ctx, types.ModuleName, sdk.NewCoins(iroTokenBalance))",
   "if err != nil {",
   "return err",
   "}",
   "raisedLiquidityAmt := k.BK.GetBalance(ctx, plan.GetAddress(), plan.LiquidityDenom).Amount",
   "poolTokens := raisedLiquidityAmt.ToLegacyDec().Mul(plan.LiquidityPart).TruncateInt()",
   "ownerTokens := raisedLiquidityAmt.Sub(poolTokens)",
   "plan.VestingPlan.Amount = ownerTokens",
   "plan.VestingPlan.StartTime = ctx.BlockHeader().Time.Add(plan.VestingPlan.StartTimeAfterSettlement)",
   "plan.VestingPlan.EndTime = plan.VestingPlan.StartTime.Add(plan.VestingPlan.VestingDuration)",
   "plan.SettledDenom = rollappIBCDenom",
   "call k.SetPlan(ctx, plan)",
   "poolID, gaugeID, err := k.bootstrapLiquidityPool(ctx, plan, poolTokens)",
   "if err != nil {",
   "return errors.Join(types.ErrFailedBootstrapLiquidityPool, err)",
   "}",
   "if err != nil {",
   "return err",
   "}",
   "return nil"] := rfl


end DymVerif.GenEq.GB
