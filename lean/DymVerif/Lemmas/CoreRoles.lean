/-
  Lemmas/CoreRoles — the proposer / successor roles invariant of M-Core: definitions, the "frame"
  relation (nothing role-relevant changed), and how the primitive state transformers act on it.
-/
import DymVerif.Lemmas.CoreCustody3
namespace DymVerif.Core.Roles

/-- `find?` by a predicate on a key commutes with any list transformation that preserves the keys -/
theorem find_key_congr {α κ} (k : α → κ) (p : κ → Bool) : ∀ (l l' : List α), l'.map k = l.map k →
    (l'.find? (fun x => p (k x))).map k = (l.find? (fun x => p (k x))).map k := by
  intro l
  induction l with
  | nil => intro l' h; simp at h; subst h; rfl
  | cons x xs ih =>
    intro l' h
    cases l' with
    | nil => simp at h
    | cons y ys =>
      simp only [List.map_cons, List.cons.injEq] at h
      simp only [List.find?_cons, h.1]
      cases p (k x) with
      | true => simp [h.1]
      | false => exact ih ys h.2

theorem mem_key_congr {α κ} (k : α → κ) {l l' : List α} (h : l'.map k = l.map k) {x' : α} (hx : x' ∈ l') :
    ∃ x ∈ l, k x = k x' := by
  have : k x' ∈ l'.map k := List.mem_map.2 ⟨x', hx, rfl⟩
  rw [h] at this
  exact List.mem_map.1 this

-- ---------------------------------------------------------------- uniqueness of ids and addresses

/-- distinct rollapp records have distinct ids -/
def IdsNodup (s : St) : Prop := s.ras.Pairwise (fun a b => a.id ≠ b.id)

theorem IdsNodup.eq_of_mem {s : St} (h : IdsNodup s) {x y : Rollapp} (hx : x ∈ s.ras) (hy : y ∈ s.ras)
    (e : x.id = y.id) : x = y := eq_of_key_eq (fun r : Rollapp => r.id) h hx hy e

theorem getRa_of_mem {s : St} (h : IdsNodup s) {r : Rollapp} (hr : r ∈ s.ras) : getRa s r.id = some r := by
  cases hf : getRa s r.id with
  | none =>
    unfold getRa at hf
    have := List.find?_eq_none.1 hf r hr
    simp at this
  | some r' => rw [h.eq_of_mem (getRa_mem hf) hr (getRa_id hf)]

theorem getSeq_of_mem {s : St} (h : AddrNodup s.seqs) {q : Seq} (hq : q ∈ s.seqs) : getSeq s q.addr = some q := by
  cases hf : getSeq s q.addr with
  | none =>
    unfold getSeq at hf
    have := List.find?_eq_none.1 hf q hq
    simp at this
  | some q' => rw [h.eq_of_mem (getSeq_mem hf) hq (getSeq_addr hf)]

/-- the sequencer list is strictly sorted by address -/
def AddrSorted (l : List Seq) : Prop := l.Pairwise (fun a b => a.addr < b.addr)

theorem AddrSorted.of_addrs_eq {l l' : List Seq} (h : AddrSorted l) (e : l'.map (·.addr) = l.map (·.addr)) : AddrSorted l' :=
  pairwise_key_congr (fun q : Seq => q.addr) (· < ·) h e

theorem sorted_insert (l : List Seq) (x : Seq) (hn : AddrSorted l) (h : ∀ y ∈ l, y.addr ≠ x.addr) :
    AddrSorted (insertSorted (fun a b => decide (a.addr < b.addr)) x l) := by
  unfold AddrSorted
  induction l with
  | nil => simp [insertSorted]
  | cons a as ih =>
    have hp := List.pairwise_cons.1 hn
    have ha : a.addr ≠ x.addr := h a (by simp)
    unfold insertSorted
    by_cases h1 : x.addr < a.addr
    · simp only [h1, decide_true, if_true]
      apply List.pairwise_cons.2
      refine ⟨?_, hn⟩
      intro y hy
      rcases List.mem_cons.1 hy with h3 | h3
      · subst h3; exact h1
      · exact Nat.lt_trans h1 (hp.1 y h3)
    · have h2 : a.addr < x.addr := Nat.lt_of_le_of_ne (Nat.le_of_not_lt h1) ha
      simp only [h1, h2, decide_false, decide_true, Bool.false_eq_true, if_false, if_true]
      apply List.pairwise_cons.2
      refine ⟨?_, ih hp.2 (fun y hy => h y (by simp [hy]))⟩
      intro y hy
      rcases insertSorted_mem _ _ _ _ hy with h3 | h3
      · subst h3; exact h2
      · exact hp.1 y h3

structure Uniq (s : St) : Prop where
  ids : IdsNodup s
  addrs : AddrNodup s.seqs
  sorted : AddrSorted s.seqs

theorem getRa_setRa_other {s : St} {r : Rollapp} {id : Nat} (hne : r.id ≠ id) : getRa (setRa s r) id = getRa s id :=
  getRa_setRa_ne hne

theorem getRa_setRa_same {s : St} {r r0 : Rollapp} (hg : getRa s r.id = some r0) : getRa (setRa s r) r.id = some r :=
  getRa_setRa_self hg

theorem getRa_congr {s s' : St} (e : s'.ras = s.ras) (id : Nat) : getRa s' id = getRa s id := getRa_of_ras_eq e id

theorem ids_setRa (s : St) (r : Rollapp) : (setRa s r).ras.map (·.id) = s.ras.map (·.id) := by
  unfold setRa
  dsimp only
  rw [List.map_map]
  apply List.map_congr_left
  intro x _
  show (if (x.id == r.id) = true then r else x).id = x.id
  split
  · rename_i h; exact (by simpa using h : x.id = r.id).symm
  · rfl

theorem IdsNodup.of_ids_eq {s s' : St} (h : IdsNodup s) (e : s'.ras.map (·.id) = s.ras.map (·.id)) : IdsNodup s' :=
  pairwise_key_congr (fun r : Rollapp => r.id) (· ≠ ·) h e

theorem Uniq.of_setRa {s : St} (h : Uniq s) (r : Rollapp) : Uniq (setRa s r) :=
  ⟨h.ids.of_ids_eq (ids_setRa s r), h.addrs, h.sorted⟩

theorem Uniq.of_setSeq {s : St} (h : Uniq s) (q : Seq) : Uniq (setSeq s q) :=
  ⟨h.ids, h.addrs.of_addrs_eq (addrs_replace s.seqs q), h.sorted.of_addrs_eq (addrs_replace s.seqs q)⟩

theorem Uniq.of_eq {s s' : St} (h : Uniq s) (e1 : s'.ras = s.ras) (e2 : s'.seqs = s.seqs) : Uniq s' :=
  ⟨by unfold IdsNodup; rw [e1]; exact h.ids, by rw [e2]; exact h.addrs, by rw [e2]; exact h.sorted⟩

/-- the role-relevant part of a rollapp record -/
def rkey (r : Rollapp) : Nat × Option Addr × Option Addr := (r.id, r.proposer, r.successor)
/-- the role-relevant part of a sequencer record -/
def skey (q : Seq) : Addr × Nat × Bool × Bool × Option Nat := (q.addr, q.rollapp, q.bonded, q.optedIn, q.notice)

/-- nothing role-relevant differs between the two states -/
structure Frame (s s' : St) : Prop where
  ras : s'.ras.map rkey = s.ras.map rkey
  seqs : s'.seqs.map skey = s.seqs.map skey
  nq : s'.nq = s.nq
  t : s'.t = s.t
  p : pp s' = pp s

theorem Frame.refl (s : St) : Frame s s := ⟨rfl, rfl, rfl, rfl, rfl⟩
theorem Frame.trans {s1 s2 s3 : St} (h1 : Frame s1 s2) (h2 : Frame s2 s3) : Frame s1 s3 :=
  ⟨h2.ras.trans h1.ras, h2.seqs.trans h1.seqs, h2.nq.trans h1.nq, h2.t.trans h1.t, h2.p.trans h1.p⟩

theorem Frame.of_eq {s s' : St} (e1 : s'.ras = s.ras) (e2 : s'.seqs = s.seqs) (e3 : s'.nq = s.nq) (e4 : s'.t = s.t)
    (e5 : pp s' = pp s) : Frame s s' := ⟨by rw [e1], by rw [e2], e3, e4, e5⟩

theorem Frame.ra_map {s s' : St} (h : Frame s s') (id : Nat) : (getRa s' id).map rkey = (getRa s id).map rkey :=
  find_key_congr rkey (fun k => k.1 == id) s.ras s'.ras h.ras

theorem Frame.sq_map {s s' : St} (h : Frame s s') (a : Addr) : (getSeq s' a).map skey = (getSeq s a).map skey :=
  find_key_congr skey (fun k => k.1 == a) s.seqs s'.seqs h.seqs

theorem Frame.ra_some {s s' : St} (h : Frame s s') {id : Nat} {r : Rollapp} (hg : getRa s id = some r) :
    ∃ r', getRa s' id = some r' ∧ r'.id = r.id ∧ r'.proposer = r.proposer ∧ r'.successor = r.successor := by
  have := h.ra_map id
  rw [hg] at this
  cases hg' : getRa s' id with
  | none => rw [hg'] at this; cases this
  | some r' =>
    rw [hg'] at this
    simp only [Option.map_some, Option.some.injEq, rkey, Prod.mk.injEq] at this
    exact ⟨r', rfl, this.1, this.2.1, this.2.2⟩

theorem Frame.ra_some' {s s' : St} (h : Frame s s') {id : Nat} {r' : Rollapp} (hg : getRa s' id = some r') :
    ∃ r, getRa s id = some r ∧ r'.id = r.id ∧ r'.proposer = r.proposer ∧ r'.successor = r.successor := by
  have := h.ra_map id
  rw [hg] at this
  cases hg' : getRa s id with
  | none => rw [hg'] at this; cases this
  | some r =>
    rw [hg'] at this
    simp only [Option.map_some, Option.some.injEq, rkey, Prod.mk.injEq] at this
    exact ⟨r, rfl, this.1, this.2.1, this.2.2⟩

theorem Frame.sq_some {s s' : St} (h : Frame s s') {a : Addr} {q : Seq} (hg : getSeq s a = some q) :
    ∃ q', getSeq s' a = some q' ∧ q'.rollapp = q.rollapp ∧ q'.bonded = q.bonded ∧ q'.optedIn = q.optedIn ∧ q'.notice = q.notice := by
  have := h.sq_map a
  rw [hg] at this
  cases hg' : getSeq s' a with
  | none => rw [hg'] at this; cases this
  | some q' =>
    rw [hg'] at this
    simp only [Option.map_some, Option.some.injEq, skey, Prod.mk.injEq] at this
    exact ⟨q', rfl, this.2.1, this.2.2.1, this.2.2.2.1, this.2.2.2.2⟩

theorem Frame.uniq {s s' : St} (h : Frame s s') (u : Uniq s) : Uniq s' := by
  constructor
  · apply u.ids.of_ids_eq
    have := congrArg (List.map (fun k : Nat × Option Addr × Option Addr => k.1)) h.ras
    simpa [List.map_map, Function.comp_def, rkey] using this
  · apply u.addrs.of_addrs_eq
    have := congrArg (List.map (fun k : Addr × Nat × Bool × Bool × Option Nat => k.1)) h.seqs
    simpa [List.map_map, Function.comp_def, skey] using this
  · apply u.sorted.of_addrs_eq
    have := congrArg (List.map (fun k : Addr × Nat × Bool × Bool × Option Nat => k.1)) h.seqs
    simpa [List.map_map, Function.comp_def, skey] using this

/-- replacing the unique record with a given key by one with the same projection keeps the projection -/
theorem map_replace_key {α κ} (k : α → κ) (key : α → Nat) (l : List α) (r : α)
    (h : ∀ x ∈ l, key x = key r → k x = k r) :
    (l.map (fun x => if key x == key r then r else x)).map k = l.map k := by
  rw [List.map_map]
  apply List.map_congr_left
  intro x hx
  show k (if (key x == key r) = true then r else x) = k x
  split
  · rename_i hc; exact (h x hx (by simpa using hc)).symm
  · rfl

theorem Frame.of_setRa {s : St} {id : Nat} {r r0 : Rollapp} (u : Uniq s) (hg : getRa s id = some r0) (hid : r.id = r0.id)
    (hp : r.proposer = r0.proposer) (hs : r.successor = r0.successor) : Frame s (setRa s r) := by
  refine ⟨?_, rfl, rfl, rfl, rfl⟩
  unfold Core.setRa
  dsimp only
  apply map_replace_key rkey (·.id)
  intro x hx e
  have : x = r0 := u.ids.eq_of_mem hx (getRa_mem hg) (e.trans hid)
  subst this
  simp [rkey, e, hp, hs]

theorem Frame.of_setSeq {s : St} {a : Addr} {q q0 : Seq} (u : Uniq s) (hg : getSeq s a = some q0) (ha : q.addr = q0.addr)
    (h1 : q.rollapp = q0.rollapp) (h2 : q.bonded = q0.bonded) (h3 : q.optedIn = q0.optedIn) (h4 : q.notice = q0.notice) :
    Frame s (setSeq s q) := by
  refine ⟨rfl, ?_, rfl, rfl, rfl⟩
  unfold Core.setSeq
  dsimp only
  apply map_replace_key skey (·.addr)
  intro x hx e
  have : x = q0 := u.addrs.eq_of_mem hx (getSeq_mem hg) (e.trans ha)
  subst this
  simp [skey, e, h1, h2, h3, h4]

/-- a write of a role-equivalent rollapp record on top of role-irrelevant changes -/
theorem Frame.of_setRa_eq {s s1 : St} {id : Nat} {r r0 : Rollapp} (u : Uniq s) (hg : getRa s id = some r0)
    (e1 : s1.ras = s.ras) (e2 : s1.seqs = s.seqs) (e3 : s1.nq = s.nq) (e4 : s1.t = s.t) (e5 : pp s1 = pp s)
    (hid : r.id = r0.id) (hp : r.proposer = r0.proposer) (hs : r.successor = r0.successor) : Frame s (setRa s1 r) :=
  (Frame.of_eq e1 e2 e3 e4 e5).trans (Frame.of_setRa (u.of_eq e1 e2) (by rw [getRa_congr e1]; exact hg) hid hp hs)

theorem getRa_setRa_same' {s : St} {id : Nat} {r r0 : Rollapp} (hg : getRa s id = some r0) (hid : r.id = r0.id) :
    getRa (setRa s r) r.id = some r :=
  getRa_setRa_same (r0 := r0) (by rw [hid, getRa_id hg]; exact hg)

theorem getSeq_setSeq_same' {s : St} {a : Addr} {q q0 : Seq} (hg : getSeq s a = some q0) (ha : q.addr = q0.addr) :
    getSeq (setSeq s q) q.addr = some q :=
  getSeq_setSeq_self (q0 := q0) (by rw [ha, getSeq_addr hg]; exact hg)

/-- a field of the rollapp record `id` after a record has been written -/
theorem getRa_setRa_map {α} (π : Rollapp → α) {s : St} {id0 : Nat} {r r0 : Rollapp} (hg : getRa s id0 = some r0)
    (hid : r.id = r0.id) (id : Nat) :
    (getRa (setRa s r) id).map π = if id = r.id then some (π r) else (getRa s id).map π := by
  by_cases hc : id = r.id
  · subst hc; rw [if_pos rfl, getRa_setRa_same' hg hid]; rfl
  · rw [if_neg hc, getRa_setRa_other (Ne.symm hc)]

/-- `a` is a bonded sequencer of rollapp `id` -/
def BondedOf (s : St) (id : Nat) (a : Addr) : Prop := ∃ q, getSeq s a = some q ∧ q.bonded = true ∧ q.rollapp = id

theorem BondedOf.get {s : St} {id : Nat} {a : Addr} {q : Seq} (h : BondedOf s id a) (hq : getSeq s a = some q) :
    q.bonded = true ∧ q.rollapp = id := by
  obtain ⟨q', hq', hb, hr⟩ := h
  rw [hq] at hq'; cases hq'
  exact ⟨hb, hr⟩

/-- the roles invariant without the "successor only under a proposer" clause (which is broken for a
    moment while a proposer is abruptly removed) -/
structure RolesCore (s : St) : Prop where
  uniq : Uniq s
  prop : ∀ r ∈ s.ras, ∀ a, r.proposer = some a → BondedOf s r.id a
  succ : ∀ r ∈ s.ras, ∀ a, r.successor = some a → BondedOf s r.id a
  succFresh : ∀ r ∈ s.ras, ∀ a, r.successor = some a → ∀ q, getSeq s a = some q → q.notice = none
  ne : ∀ r ∈ s.ras, ∀ a, r.proposer = some a → r.successor ≠ some a
  optOut : ∀ q ∈ s.seqs, q.notice.isSome = true → q.optedIn = false
  nq : ∀ t a, (t, a) ∈ s.nq → ∃ q r, getSeq s a = some q ∧ q.notice = some t ∧ getRa s q.rollapp = some r ∧ r.proposer = some a
  fut : ∀ e ∈ s.nq, s.t < e.1
  np : 0 < s.sqp.noticePeriod

/-- what the roles invariant asks of one rollapp record -/
structure RaRoles (s : St) (r : Rollapp) : Prop where
  prop : ∀ a, r.proposer = some a → BondedOf s r.id a
  succ : ∀ a, r.successor = some a → BondedOf s r.id a
  succFresh : ∀ a, r.successor = some a → ∀ q, getSeq s a = some q → q.notice = none
  ne : ∀ a, r.proposer = some a → r.successor ≠ some a

theorem RolesCore.ra {s : St} (h : RolesCore s) {r : Rollapp} (hr : r ∈ s.ras) : RaRoles s r :=
  ⟨h.prop r hr, h.succ r hr, h.succFresh r hr, h.ne r hr⟩

theorem RolesCore.of_ra {s : St} (uniq : Uniq s) (ra : ∀ r ∈ s.ras, RaRoles s r)
    (optOut : ∀ q ∈ s.seqs, q.notice.isSome = true → q.optedIn = false)
    (nq : ∀ t a, (t, a) ∈ s.nq → ∃ q r, getSeq s a = some q ∧ q.notice = some t ∧ getRa s q.rollapp = some r ∧ r.proposer = some a)
    (fut : ∀ e ∈ s.nq, s.t < e.1) (np : 0 < s.sqp.noticePeriod) : RolesCore s :=
  ⟨uniq, fun r hr => (ra r hr).prop, fun r hr => (ra r hr).succ, fun r hr => (ra r hr).succFresh,
   fun r hr => (ra r hr).ne, optOut, nq, fut, np⟩

/-- the requirement on a rollapp record survives a change of the sequencers under which its role holders stay bonded
    to the rollapp and a successor's record keeps its notice time -/
theorem RaRoles.mono {s s' : St} {x : Rollapp} (h : RaRoles s x)
    (hb : ∀ a, x.proposer = some a ∨ x.successor = some a → BondedOf s x.id a → BondedOf s' x.id a)
    (hn : ∀ a, x.successor = some a → ∀ q', getSeq s' a = some q' → ∃ q, getSeq s a = some q ∧ q'.notice = q.notice) :
    RaRoles s' x := by
  refine ⟨fun a ha => hb a (.inl ha) (h.prop a ha), fun a ha => hb a (.inr ha) (h.succ a ha), ?_, h.ne⟩
  intro a ha q' hq'
  obtain ⟨q, hq, e⟩ := hn a ha q' hq'
  rw [e]; exact h.succFresh a ha q hq

theorem RaRoles.of_seqs {s s' : St} {x : Rollapp} (h : RaRoles s x) (e : s'.seqs = s.seqs) : RaRoles s' x :=
  h.mono (fun _ _ ⟨q, hq, hb⟩ => ⟨q, by rw [getSeq_congr e]; exact hq, hb⟩)
    (fun _ _ q' hq' => ⟨q', by rw [← getSeq_congr e]; exact hq', rfl⟩)

theorem RolesCore.nq_notice {s : St} (h : RolesCore s) {t : Nat} {a : Addr} {q : Seq} (hta : (t, a) ∈ s.nq)
    (hq : getSeq s a = some q) : q.notice = some t := by
  obtain ⟨q', _, hq', hn, _, _⟩ := h.nq t a hta
  rw [hq] at hq'; cases hq'
  exact hn

/-- an opted-in sequencer has not started a notice -/
theorem RolesCore.notice_none {s : St} (h : RolesCore s) {q : Seq} (hq : q ∈ s.seqs) (ho : q.optedIn = true) :
    q.notice = none := by
  cases hn : q.notice with
  | none => rfl
  | some t =>
    have := h.optOut q hq (by rw [hn]; rfl)
    rw [ho] at this; cases this

/-- a successor exists only while there is a proposer -/
def SuccProp (s : St) : Prop := ∀ r ∈ s.ras, r.proposer = none → r.successor = none

structure Roles (s : St) : Prop where
  core : RolesCore s
  sp : SuccProp s

theorem BondedOf.frame {s s' : St} (f : Frame s s') {id : Nat} {a : Addr} (h : BondedOf s id a) : BondedOf s' id a := by
  obtain ⟨q, hq, hb, hr⟩ := h
  obtain ⟨q', hq', e1, e2, _, _⟩ := f.sq_some hq
  exact ⟨q', hq', e2.trans hb, e1.trans hr⟩

theorem RolesCore.frame {s s' : St} (h : RolesCore s) (f : Frame s s') : RolesCore s' := by
  refine .of_ra (f.uniq h.uniq) ?_ ?_ ?_ ?_ ?_
  · intro r' hr'
    obtain ⟨r, hr, e⟩ := mem_key_congr rkey f.ras hr'
    simp only [rkey, Prod.mk.injEq] at e
    have hx := (h.ra hr).mono (s' := s') (fun _ _ hb => hb.frame f) (fun a ha q' hq' => by
      obtain ⟨q, hq, _⟩ := h.succ r hr a ha
      obtain ⟨q'', hq'', _, _, _, e4⟩ := f.sq_some hq
      rw [hq'] at hq''; cases hq''
      exact ⟨q, hq, e4⟩)
    exact ⟨fun a ha => e.1 ▸ hx.prop a (e.2.1.trans ha), fun a ha => e.1 ▸ hx.succ a (e.2.2.trans ha),
      fun a ha => hx.succFresh a (e.2.2.trans ha), fun a ha => e.2.2 ▸ hx.ne a (e.2.1.trans ha)⟩
  · intro q' hq' hn
    obtain ⟨q, hq, e⟩ := mem_key_congr skey f.seqs hq'
    simp only [skey, Prod.mk.injEq] at e
    rw [← e.2.2.2.1]
    exact h.optOut q hq (by rw [e.2.2.2.2]; exact hn)
  · intro t a hta
    rw [f.nq] at hta
    obtain ⟨q, r, hq, hn, hr, hp⟩ := h.nq t a hta
    obtain ⟨q', hq', e1, _, _, e4⟩ := f.sq_some hq
    obtain ⟨r', hr', _, e6, _⟩ := f.ra_some hr
    exact ⟨q', r', hq', e4.trans hn, by rw [e1]; exact hr', e6.trans hp⟩
  · intro e he
    rw [f.nq] at he
    rw [f.t]; exact h.fut e he
  · rw [pp_sqp f.p]; exact h.np

theorem SuccProp.frame {s s' : St} (h : SuccProp s) (f : Frame s s') : SuccProp s' := by
  intro r' hr' hp
  obtain ⟨r, hr, e⟩ := mem_key_congr rkey f.ras hr'
  simp only [rkey, Prod.mk.injEq] at e
  rw [← e.2.2]
  exact h r hr (e.2.1.trans hp)

theorem Roles.frame {s s' : St} (h : Roles s) (f : Frame s s') : Roles s' := ⟨h.core.frame f, h.sp.frame f⟩

end DymVerif.Core.Roles
