/-
  Lemmas/KeysAddr — character classes of the x/dymns validators and the text lemmas behind
  `parse (format …) = …` (Model/KeysAddr).  Core Lean only.
-/
import DymVerif.Model.KeysAddr
namespace DymVerif.Keys
open DymVerif

/-- a chunk of an address: non-empty, every character of `[a-z0-9_-]` -/
def Clean (s : Bytes) : Prop := s ≠ [] ∧ ∀ c ∈ s, isNameC c = true

theorem nameC_not_sep {c : Nat} (h : isNameC c = true) : isSepC c = false := by
  simp [isNameC, isAlnumC, isLowerB, isDigitB, isDashC] at h
  simp [isSepC]; omega

theorem nameC_not_space {c : Nat} (h : isNameC c = true) : isSpaceC c = false := by
  simp [isNameC, isAlnumC, isLowerB, isDigitB, isDashC] at h
  simp [isSpaceC]; omega

theorem nameC_lower {c : Nat} (h : isNameC c = true) : (if 65 ≤ c && c ≤ 90 then c + 32 else c) = c := by
  simp [isNameC, isAlnumC, isLowerB, isDigitB, isDashC] at h
  have : ¬ (65 ≤ c ∧ c ≤ 90) := by omega
  simp [this]

theorem alnum_nameC {c : Nat} (h : isAlnumC c = true) : isNameC c = true := by simp [isNameC, h]

theorem validDymName_clean {s : Bytes} (h : validDymName s = true) : Clean s := by
  simp [validDymName] at h
  obtain ⟨⟨⟨⟨⟨_, hne⟩, hall⟩, _⟩, _⟩, _⟩ := h
  exact ⟨hne, hall⟩

theorem validAlias_clean {s : Bytes} (h : validAlias s = true) : Clean s := by
  simp [validAlias] at h
  obtain ⟨⟨hne, _⟩, hall⟩ := h
  exact ⟨hne, fun c hc => alnum_nameC (hall c hc)⟩

/-- every transition of the chain-id automaton reads a letter, a digit, '-' or '_' -/
theorem chainStep_none {st c : Nat} (hl : isLowerB c = false) (hd : isDigitB c = false) (h1 : c ≠ 45)
    (h2 : c ≠ 95) : chainStep st c = none := by
  unfold chainStep
  split <;> simp only [hl, hd, h1, h2, if_false, Bool.false_eq_true]

theorem chainStep_nameC {st c st' : Nat} (h : chainStep st c = some st') : isNameC c = true := by
  cases hn : isNameC c with
  | true => rfl
  | false =>
    simp only [isNameC, isAlnumC, isDashC, Bool.or_eq_false_iff, beq_eq_false_iff_ne] at hn
    rw [chainStep_none hn.1.1 hn.1.2 hn.2.1 hn.2.2] at h
    cases h

theorem chainRun_nameC : ∀ (s : Bytes) (st st' : Nat), chainRun st s = some st' → ∀ c ∈ s, isNameC c = true
  | [], _, _, _ => by simp
  | x :: xs, st, st', h => by
    simp only [chainRun] at h
    split at h
    · rename_i st1 h1
      intro c hc
      rcases List.mem_cons.mp hc with rfl | hc
      · exact chainStep_nameC h1
      · exact chainRun_nameC xs st1 st' h c hc
    · simp at h

theorem validChainIdFormat_clean {s : Bytes} (h : validChainIdFormat s = true) : Clean s := by
  simp only [validChainIdFormat, Bool.and_eq_true, decide_eq_true_eq] at h
  obtain ⟨⟨h3, _⟩, hm⟩ := h
  refine ⟨by intro e; subst e; simp at h3, ?_⟩
  split at hm
  · rename_i st hr; exact chainRun_nameC s 0 st hr
  · simp at hm

theorem handle_clean {h : Bytes} (hh : (validChainIdFormat h || validAlias h) = true) : Clean h := by
  rcases Bool.or_eq_true _ _ |>.mp hh with h1 | h1
  · exact validChainIdFormat_clean h1
  · exact validAlias_clean h1

/-! ### normalisation is the identity on texts made of chunk characters and separators -/

def TextC (c : Nat) : Prop := isNameC c = true ∨ c = 46 ∨ c = 64

theorem textC_not_space {c : Nat} (h : TextC c) : isSpaceC c = false := by
  rcases h with h | rfl | rfl
  · exact nameC_not_space h
  · decide
  · decide

theorem dropWhile_all_false {p : Nat → Bool} : ∀ {l : Bytes}, (∀ c ∈ l, p c = false) → l.dropWhile p = l
  | [], _ => rfl
  | x :: xs, h => by simp [List.dropWhile, h x (by simp)]

theorem trimSpace_id {w : Bytes} (h : ∀ c ∈ w, isSpaceC c = false) : trimSpace w = w := by
  unfold trimSpace
  rw [dropWhile_all_false h, dropWhile_all_false (by simpa using h)]
  simp

theorem asciiLower_id : ∀ {w : Bytes}, (∀ c ∈ w, TextC c) → asciiLower w = w
  | [], _ => rfl
  | x :: xs, h => by
    have hx : (if 65 ≤ x && x ≤ 90 then x + 32 else x) = x := by
      rcases h x (by simp) with h1 | rfl | rfl
      · exact nameC_lower h1
      · decide
      · decide
    have := asciiLower_id (w := xs) (fun c hc => h c (by simp [hc]))
    simp only [asciiLower, List.map_cons] at this ⊢
    rw [hx, this]

theorem clean_trim {s : Bytes} (h : Clean s) : trimSpace s = s :=
  trimSpace_id (fun c hc => nameC_not_space (h.2 c hc))

/-! ### cutting a glued text gives back the chunks -/

theorem splitSeps_fst_ne_nil : ∀ w : Bytes, (splitSeps w).1 ≠ []
  | [] => by simp [splitSeps]
  | c :: cs => by
    have := splitSeps_fst_ne_nil cs
    simp only [splitSeps]
    split
    · simp
    · split <;> simp

theorem splitSeps_nosep : ∀ {f : Bytes}, (∀ c ∈ f, isSepC c = false) → splitSeps f = ([f], [])
  | [], _ => rfl
  | x :: xs, h => by
    have ih := splitSeps_nosep (f := xs) (fun c hc => h c (by simp [hc]))
    simp [splitSeps, h x (by simp), ih]

theorem splitSeps_glue : ∀ {f : Bytes} (s : Nat) (w : Bytes), (∀ c ∈ f, isSepC c = false) → isSepC s = true →
    splitSeps (f ++ s :: w) = (f :: (splitSeps w).1, s :: (splitSeps w).2)
  | [], s, w, _, hs => by simp [splitSeps, hs]
  | x :: xs, s, w, h, hs => by
    have ih := splitSeps_glue (f := xs) s w (fun c hc => h c (by simp [hc])) hs
    simp [splitSeps, h x (by simp), ih]

/-- `p₁ "." p₂ "." … tail` -/
def glueDots : List Bytes → Bytes → Bytes
  | [], tail => tail
  | p :: ps, tail => p ++ 46 :: glueDots ps tail

theorem clean_nosep {s : Bytes} (h : Clean s) : ∀ c ∈ s, isSepC c = false :=
  fun c hc => nameC_not_sep (h.2 c hc)

theorem splitSeps_glueDots (parts : List Bytes) (name h : Bytes) (last : Nat)
    (hp : ∀ p ∈ parts, Clean p) (hn : Clean name) (hh : Clean h) (hl : isSepC last = true) :
    splitSeps (glueDots parts (name ++ last :: h)) =
      (parts ++ [name, h], List.replicate parts.length 46 ++ [last]) := by
  induction parts with
  | nil =>
    simp only [glueDots, List.nil_append, List.length_nil, List.replicate_zero]
    rw [splitSeps_glue last h (clean_nosep hn) hl, splitSeps_nosep (clean_nosep hh)]
  | cons p ps ih =>
    simp only [glueDots]
    rw [splitSeps_glue 46 _ (clean_nosep (hp p (by simp))) (by decide), ih (fun q hq => hp q (by simp [hq]))]
    simp [List.replicate_succ]

theorem joinDot_ne_nil : ∀ {parts : List Bytes}, parts ≠ [] → (∀ p ∈ parts, Clean p) → joinDot parts ≠ []
  | [], h, _ => absurd rfl h
  | [p], _, hp => by simpa [joinDot] using (hp p (by simp)).1
  | p :: q :: r, _, _ => by simp [joinDot]

theorem glueDots_joinDot : ∀ (parts : List Bytes) (tail : Bytes), parts ≠ [] → (∀ p ∈ parts, Clean p) →
    joinDot parts ++ 46 :: tail = glueDots parts tail
  | [], _, h, _ => absurd rfl h
  | [p], tail, _, _ => by simp [joinDot, glueDots]
  | p :: q :: r, tail, _, hp => by
    have ih := glueDots_joinDot (q :: r) tail (by simp) (fun x hx => hp x (by simp [hx]))
    simp only [joinDot, glueDots] at ih ⊢
    rw [← ih]; simp

/-- the formatter's text, as glued chunks (either spelling of the last separator) -/
theorem format_eq_glue (parts : List Bytes) (name h : Bytes) (last : Nat) (hp : ∀ p ∈ parts, Clean p) :
    (if (joinDot parts).isEmpty then [] else joinDot parts ++ [46]) ++ name ++ last :: h =
      glueDots parts (name ++ last :: h) := by
  cases parts with
  | nil => simp [joinDot, glueDots]
  | cons p ps =>
    have hne := joinDot_ne_nil (parts := p :: ps) (by simp) hp
    have : (joinDot (p :: ps)).isEmpty = false := by
      cases hj : joinDot (p :: ps) with
      | nil => exact absurd hj hne
      | cons _ _ => rfl
    rw [this, ← glueDots_joinDot (p :: ps) _ (by simp) hp]
    simp

theorem glueDots_textC (parts : List Bytes) (tail : Bytes) (hp : ∀ p ∈ parts, Clean p) (ht : ∀ c ∈ tail, TextC c) :
    ∀ c ∈ glueDots parts tail, TextC c := by
  induction parts with
  | nil => simpa [glueDots] using ht
  | cons p ps ih =>
    intro c hc
    simp only [glueDots, List.mem_append, List.mem_cons] at hc
    rcases hc with hc | rfl | hc
    · exact Or.inl ((hp p (by simp)).2 c hc)
    · exact Or.inr (Or.inl rfl)
    · exact ih (fun q hq => hp q (by simp [hq])) c hc

/-! ### the formatter's text `glueDots parts (name ++ last :: h)` and its chunks -/

theorem glued_textC (parts : List Bytes) (name h : Bytes) (last : Nat) (hl : last = 46 ∨ last = 64)
    (hp : ∀ p ∈ parts, Clean p) (hn : Clean name) (hh : Clean h) :
    ∀ c ∈ glueDots parts (name ++ last :: h), TextC c := by
  apply glueDots_textC parts _ hp
  intro c hc
  simp only [List.mem_append, List.mem_cons] at hc
  rcases hc with hc | rfl | hc
  · exact Or.inl (hn.2 c hc)
  · exact Or.inr hl
  · exact Or.inl (hh.2 c hc)

theorem chunks_clean (parts : List Bytes) (name h : Bytes) (hp : ∀ p ∈ parts, Clean p) (hn : Clean name)
    (hh : Clean h) : ∀ f ∈ parts ++ [name, h], Clean f := by
  intro f hf
  simp only [List.mem_append, List.mem_cons, List.not_mem_nil, or_false] at hf
  rcases hf with hf | rfl | rfl
  · exact hp f hf
  · exact hn
  · exact hh

theorem clean_not_empty {f : Bytes} (h : Clean f) : f.isEmpty = false := by
  cases f with
  | nil => exact absurd rfl h.1
  | cons _ _ => rfl

/-- chunks carry no surrounding white space -/
theorem clean_any_trim {l : List Bytes} (h : ∀ f ∈ l, Clean f) : l.any (fun f => trimSpace f != f) = false := by
  rw [List.any_eq_false]
  intro f hf
  simp [clean_trim (h f hf)]

end DymVerif.Keys
