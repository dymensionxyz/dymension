/-
  Lemmas/AnteBasic — helper lemmas about M-Ante (`checkMsg`/`checkMsgs`/`reach`) and M-Guards.
  Core Lean only.
-/
import DymVerif.Model.Ante
namespace DymVerif.Ante

theorem checkMsgs_nil (c : Config) (d : Nat) : checkMsgs c d [] = none := by
  simp [checkMsgs]

theorem checkMsgs_cons (c : Config) (d : Nat) (m : Msg) (ms : List Msg) :
    checkMsgs c d (m :: ms) =
      match checkMsg c d m with
      | some e => some e
      | none => checkMsgs c d ms := by
  rw [checkMsgs]; rfl

theorem checkMsg_node (c : Config) (d ty : Nat) (inner : List Msg) (auth : Nat) (bad : Bool) :
    checkMsg c d (.node ty inner auth bad) =
      if c.maxDepth ≤ d then some .deep
      else if c.typeRejects.contains ty then some (.invalidType ty)
      else if blocked c ty d then some (.disabled ty)
      else match accOf c ty with
        | some .msgs => if bad then some .unpack else checkMsgs c (d + 1) inner
        | some .grant =>
            if bad then some .unpack
            else if blocked c auth d then some (.disabledGrant auth) else none
        | none => none := by
  rw [checkMsg]; rfl

theorem checkMsgs_none_mem {c : Config} {d : Nat} {ms : List Msg}
    (h : checkMsgs c d ms = none) : ∀ m ∈ ms, checkMsg c d m = none := by
  induction ms with
  | nil => intro m hm; cases hm
  | cons x xs ih =>
    rw [checkMsgs_cons] at h
    intro m hm
    cases hx : checkMsg c d x with
    | some e => rw [hx] at h; cases h
    | none =>
      rw [hx] at h
      cases hm with
      | head => exact hx
      | tail _ hm' => exact ih h m hm'

theorem checkMsgs_none_of_mem {c : Config} {d : Nat} {ms : List Msg}
    (h : ∀ m ∈ ms, checkMsg c d m = none) : checkMsgs c d ms = none := by
  induction ms with
  | nil => exact checkMsgs_nil c d
  | cons x xs ih =>
    rw [checkMsgs_cons, h x (List.mem_cons_self)]
    exact ih (fun m hm => h m (List.mem_cons_of_mem _ hm))

theorem checkMsgs_none_getElem? {c : Config} {d : Nat} {ms : List Msg}
    (h : checkMsgs c d ms = none) {i : Nat} {m : Msg} (hi : ms[i]? = some m) :
    checkMsg c d m = none :=
  checkMsgs_none_mem h m (List.mem_of_getElem? hi)

/-- what acceptance of one message means, clause by clause -/
structure Accepted (c : Config) (d : Nat) (m : Msg) : Prop where
  depth : d < c.maxDepth
  notTypeRejected : m.ty ∉ c.typeRejects
  notBlocked : blocked c m.ty d = false
  msgs : accOf c m.ty = some .msgs → m.bad = false ∧ checkMsgs c (d + 1) m.inner = none
  grant : accOf c m.ty = some .grant → m.bad = false ∧ blocked c m.auth d = false

theorem checkMsg_none {c : Config} {d : Nat} {m : Msg} (h : checkMsg c d m = none) :
    Accepted c d m := by
  cases m with
  | node ty inner auth bad =>
    rw [checkMsg_node] at h
    by_cases h1 : c.maxDepth ≤ d
    · rw [if_pos h1] at h; cases h
    rw [if_neg h1] at h
    by_cases h2 : c.typeRejects.contains ty = true
    · rw [if_pos h2] at h; cases h
    rw [if_neg h2] at h
    by_cases h3 : blocked c ty d = true
    · rw [if_pos h3] at h; cases h
    rw [if_neg h3] at h
    refine ⟨Nat.lt_of_not_le h1, fun hm => h2 (List.contains_iff_mem.2 hm), Bool.eq_false_iff.2 h3,
      fun ha => ?_, fun ha => ?_⟩
    · rw [show accOf c ty = _ from ha] at h
      dsimp only at h
      by_cases hb : bad = true
      · rw [if_pos hb] at h; cases h
      · rw [if_neg hb] at h; exact ⟨Bool.eq_false_iff.2 hb, h⟩
    · rw [show accOf c ty = _ from ha] at h
      dsimp only at h
      by_cases hb : bad = true
      · rw [if_pos hb] at h; cases h
      rw [if_neg hb] at h
      by_cases h4 : blocked c auth d = true
      · rw [if_pos h4] at h; cases h
      · exact ⟨Bool.eq_false_iff.2 hb, Bool.eq_false_iff.2 h4⟩

/-- an accepted wrapper, of either kind, could be unpacked -/
theorem Accepted.readable {c : Config} {d : Nat} {m : Msg} (h : Accepted c d m)
    (hw : accOf c m.ty ≠ none) : m.bad = false := by
  cases ha : accOf c m.ty with
  | none => exact absurd ha hw
  | some a =>
    cases a with
    | msgs => exact (h.msgs ha).1
    | grant => exact (h.grant ha).1

theorem checkMsg_none_of {c : Config} {d : Nat} {m : Msg} (h : Accepted c d m) :
    checkMsg c d m = none := by
  cases m with
  | node ty inner auth bad =>
    obtain ⟨h1, h2, h3, h4, h5⟩ := h
    simp only [Msg.ty, Msg.bad, Msg.inner, Msg.auth] at h2 h3 h4 h5
    rw [checkMsg_node]
    have h1' : ¬ c.maxDepth ≤ d := by omega
    simp only [h1', h2, h3, if_false, Bool.false_eq_true, List.contains_iff_mem]
    cases ha : accOf c ty with
    | none => rfl
    | some a =>
      cases a with
      | msgs => have := h4 ha; simp [this.1, this.2]
      | grant => have := h5 ha; simp [this.1, this.2]

/-! ## paths -/

theorem reach_single (W : Nat → Option Acc) (ms : List Msg) (i : Nat) :
    reach W ms [i] = ms[i]? := rfl

theorem reach_cons2 (W : Nat → Option Acc) (ms : List Msg) (i j : Nat) (p : List Nat) :
    reach W ms (i :: j :: p) =
      match ms[i]? with
      | some m => if W m.ty = some .msgs then reach W m.inner (j :: p) else none
      | none => none := rfl

theorem reach_length_pos {W : Nat → Option Acc} {ms : List Msg} {p : List Nat} {m : Msg}
    (h : reach W ms p = some m) : 0 < p.length := by
  cases p with
  | nil => simp [reach] at h
  | cons _ _ => exact Nat.succ_pos _

/-- Central lemma: in an accepted list, every node reachable through the checker's own wrapper
    edges is itself accepted at its depth. -/
theorem accepted_path (c : Config) :
    ∀ (p : List Nat) (d : Nat) (ms : List Msg) (m : Msg),
      checkMsgs c d ms = none → reach (accOf c) ms p = some m →
      Accepted c (d + (p.length - 1)) m := by
  intro p
  induction p with
  | nil => intro d ms m _ h; simp [reach] at h
  | cons i rest ih =>
    intro d ms m hacc hr
    cases rest with
    | nil => exact checkMsg_none (checkMsgs_none_getElem? hacc hr)
    | cons j p =>
      rw [reach_cons2] at hr
      cases hi : ms[i]? with
      | none => rw [hi] at hr; cases hr
      | some x =>
        rw [hi] at hr
        dsimp only at hr
        by_cases hw : accOf c x.ty = some .msgs
        · rw [if_pos hw] at hr
          have hx := checkMsg_none (checkMsgs_none_getElem? hacc hi)
          have := ih (d + 1) x.inner m (hx.msgs hw).2 hr
          rwa [Nat.add_assoc, Nat.add_comm 1] at this
        · rw [if_neg hw] at hr; cases hr

/-! ## blocked -/

theorem blocked_of_rule {c : Config} {r : Rule} (hr : r ∈ c.rules) {ty d : Nat}
    (ht : ty ∈ r.tys) (hd : r.depthMin ≤ d) : blocked c ty d = true := by
  simp only [blocked, List.any_eq_true]
  refine ⟨r, hr, ?_⟩
  simp [Rule.hits, ht, hd]

theorem blocked_eq_false_of_not_listed {c : Config} {ty : Nat} (h : ∀ r ∈ c.rules, ty ∉ r.tys)
    (d : Nat) : blocked c ty d = false := by
  simp only [blocked, List.any_eq_false, Rule.hits, Bool.and_eq_true, List.contains_iff_mem]
  exact fun r hr hh => h r hr hh.1

theorem blocked_mono {c : Config} {ty d d' : Nat} (h : blocked c ty d = true) (hd : d ≤ d') :
    blocked c ty d' = true := by
  simp only [blocked, List.any_eq_true] at h ⊢
  obtain ⟨r, hr, hh⟩ := h
  refine ⟨r, hr, ?_⟩
  simp only [Rule.hits, Bool.and_eq_true, decide_eq_true_eq] at hh ⊢
  exact ⟨hh.1, by omega⟩

/-! ## M-Guards -/

theorem gstep_rejected {s : Owners} {a : Attempt} (h : passes s a = false) :
    gstep s a = (s, false) := by
  simp [gstep, h]

theorem gstep_accepted_passes {s : Owners} {a : Attempt} (h : (gstep s a).2 = true) :
    passes s a = true ∧ a.valid = true := by
  unfold gstep at h
  by_cases hp : (passes s a && a.valid) = true
  · simpa using hp
  · simp [hp] at h

theorem grun_nil (s : Owners) : grun s [] = s := rfl
theorem grun_cons (s : Owners) (a : Attempt) (as : List Attempt) :
    grun s (a :: as) = grun (gstep s a).1 as := rfl

/-- a run of rejected attempts leaves the owners as they are -/
theorem grun_rejected {s : Owners} : ∀ {ops : List Attempt},
    (∀ a ∈ ops, gstep s a = (s, false)) → grun s ops = s
  | [], _ => rfl
  | a :: as, h => by
    rw [grun_cons, h a List.mem_cons_self]
    exact grun_rejected fun b hb => h b (List.mem_cons_of_mem _ hb)

/-- a signer other than the authority does not pass an authority guard of either kind -/
theorem non_authority_rejected (s : Owners) (a : Attempt)
    (hg : a.entry.guard = .authority ∨ a.entry.guard = .govRouted) (hs : a.signer ≠ .authority) :
    gstep s a = (s, false) := by
  apply gstep_rejected
  rcases hg with h | h <;> simp [passes, h, hs]

/-- an owner guard (of either kind) lets through exactly the current owner of the targeted object -/
theorem passes_owner {s : Owners} {a : Attempt} (hg : a.entry.guard = .owner ∨ a.entry.guard = .self) :
    passes s a = true ↔ ∃ x, a.signer = .actor x ∧ ownerOf s a.obj = some x := by
  have : passes s a = match ownerOf s a.obj, a.signer with
      | some o, .actor x => decide (o = x)
      | _, _ => false := by
    rcases hg with h | h <;> simp only [passes, h] <;> rfl
  rw [this]
  cases ownerOf s a.obj <;> cases a.signer <;> simp [eq_comm]

/-! ## the converse: a rejection is always caused by a reachable offending node -/

/-- why a node makes the check fail with error `e` at depth `d` -/
inductive Offends (c : Config) (d : Nat) (m : Msg) : Err → Prop
  | deep : c.maxDepth ≤ d → Offends c d m .deep
  | invalidType : m.ty ∈ c.typeRejects → Offends c d m (.invalidType m.ty)
  | disabled : blocked c m.ty d = true → Offends c d m (.disabled m.ty)
  | unpack : accOf c m.ty ≠ none → m.bad = true → Offends c d m .unpack
  | grant : accOf c m.ty = some .grant → blocked c m.auth d = true →
      Offends c d m (.disabledGrant m.auth)

theorem reach_shift (W : Nat → Option Acc) (m : Msg) (ms : List Msg) (i : Nat) (p : List Nat) :
    reach W (m :: ms) ((i + 1) :: p) = reach W ms (i :: p) := by
  cases p <;> rfl

theorem reach_head_descend (W : Nat → Option Acc) (m : Msg) (ms : List Msg) (j : Nat) (p : List Nat)
    (hw : W m.ty = some .msgs) :
    reach W (m :: ms) (0 :: j :: p) = reach W m.inner (j :: p) :=
  (reach_cons2 ..).trans (if_pos hw)

mutual
theorem checkMsg_some (c : Config) : ∀ (m : Msg) (d : Nat) (e : Err), checkMsg c d m = some e →
    ∃ p n, reach (accOf c) [m] (0 :: p) = some n ∧ Offends c (d + p.length) n e
  | .node ty inner auth bad, d, e, h => by
    have here : Offends c d (.node ty inner auth bad) e →
        ∃ p n, reach (accOf c) [.node ty inner auth bad] (0 :: p) = some n ∧ Offends c (d + p.length) n e :=
      fun ho => ⟨[], _, rfl, ho⟩
    rw [checkMsg_node] at h
    by_cases h1 : c.maxDepth ≤ d
    · rw [if_pos h1] at h; cases h; exact here (.deep h1)
    rw [if_neg h1] at h
    by_cases h2 : c.typeRejects.contains ty = true
    · rw [if_pos h2] at h; cases h; exact here (.invalidType (List.contains_iff_mem.1 h2))
    rw [if_neg h2] at h
    by_cases h3 : blocked c ty d = true
    · rw [if_pos h3] at h; cases h; exact here (.disabled h3)
    rw [if_neg h3] at h
    cases ha : accOf c ty with
    | none => rw [ha] at h; cases h
    | some a =>
      have hw : accOf c (Msg.node ty inner auth bad).ty ≠ none := fun e => by cases ha.symm.trans e
      rw [ha] at h
      by_cases hb : bad = true
      · cases a <;> (dsimp only at h; rw [if_pos hb] at h; cases h; exact here (.unpack hw hb))
      cases a with
      | msgs =>
        dsimp only at h
        rw [if_neg hb] at h
        obtain ⟨i, p, n, hr, ho⟩ := checkMsgs_some c inner (d + 1) e h
        refine ⟨i :: p, n, (reach_head_descend _ _ _ _ _ ha).trans hr, ?_⟩
        rwa [List.length_cons, ← Nat.add_assoc, Nat.add_right_comm]
      | grant =>
        dsimp only at h
        rw [if_neg hb] at h
        by_cases h4 : blocked c auth d = true
        · rw [if_pos h4] at h; cases h; exact here (.grant ha h4)
        · rw [if_neg h4] at h; cases h
theorem checkMsgs_some (c : Config) : ∀ (ms : List Msg) (d : Nat) (e : Err), checkMsgs c d ms = some e →
    ∃ i p n, reach (accOf c) ms (i :: p) = some n ∧ Offends c (d + p.length) n e
  | [], d, e, h => by simp [checkMsgs_nil] at h
  | m :: ms, d, e, h => by
    rw [checkMsgs_cons] at h
    cases hm : checkMsg c d m with
    | some e' =>
      rw [hm] at h
      simp only [Option.some.injEq] at h
      subst h
      obtain ⟨p, n, hr, ho⟩ := checkMsg_some c m d e' hm
      refine ⟨0, p, n, ?_, ho⟩
      cases p with
      | nil => simpa [reach_single] using hr
      | cons j q =>
        rw [reach_cons2] at hr ⊢
        simpa using hr
    | none =>
      rw [hm] at h
      obtain ⟨i, p, n, hr, ho⟩ := checkMsgs_some c ms d e h
      exact ⟨i + 1, p, n, by rw [reach_shift]; exact hr, ho⟩
end

end DymVerif.Ante
