/-
  Lemmas/CoreLevFrame — frames for the liveness view of a rollapp (`evH`, `cdStart`, `proposer`):
  `RaFrame g` (field `g` of every record unchanged), `LFrame` through block processing, height and
  parameters through messages, the grid invariant (`evH = cdStart + LivenessSlashBlocks + j · LivenessSlashInterval`), and what ONE
  `handleLivenessEvent` does: to its own rollapp (`fired`), to the other rollapps, to the proposers.
-/
import DymVerif.Lemmas.CoreLevInv
namespace DymVerif.Core.LevNs

/-- field `g` of every rollapp record is unchanged -/
def RaFrame {β : Type} (g : Rollapp → β) (s s' : St) : Prop := ∀ id, (getRa s' id).map g = (getRa s id).map g

theorem RaFrame.refl {β : Type} (g : Rollapp → β) (s : St) : RaFrame g s s := fun _ => rfl
theorem RaFrame.trans {β : Type} {g : Rollapp → β} {a b c : St} (h1 : RaFrame g a b) (h2 : RaFrame g b c) :
    RaFrame g a c := fun x => (h2 x).trans (h1 x)
theorem RaFrame.of_ras {β : Type} (g : Rollapp → β) {s s' : St} (e : s'.ras = s.ras) : RaFrame g s s' := by
  intro id; rw [getRa_of_ras_eq e]

theorem RaFrame.setRa {β : Type} {g : Rollapp → β} {s : St} {id : Nat} {r r' : Rollapp} (hg : getRa s id = some r)
    (hid : r'.id = r.id) (hl : g r' = g r) : RaFrame g s (setRa s r') := by
  have hid' : r'.id = id := hid.trans (getRa_id hg)
  intro id'
  by_cases hc : id' = id
  · subst hc; rw [getRa_setRa_same_id hg hid', hg]; simp [hl]
  · rw [getRa_setRa_ne (by rw [hid']; exact fun e => hc e.symm)]

/-- a frame for `g` is one for everything read off `g` -/
theorem RaFrame.comp {β γ : Type} {g : Rollapp → β} {s s' : St} (h : RaFrame g s s') (k : β → γ) :
    RaFrame (fun r => k (g r)) s s' := by
  intro id
  have := congrArg (Option.map k) (h id)
  rw [Option.map_map, Option.map_map] at this
  exact this

/-- the liveness view of a rollapp record -/
def liv (r : Rollapp) : Nat × Nat × Option Addr := (r.evH, r.cdStart, r.proposer)

/-- the liveness-relevant parts of two states agree (height aside) -/
structure LFrame (s s' : St) : Prop where
  lev : s'.lev = s.lev
  seqs : s'.seqs = s.seqs
  modBal : s'.modBal = s.modBal
  burned : s'.burned = s.burned
  p : pp s' = pp s
  ra : ∀ id, (getRa s' id).map liv = (getRa s id).map liv

theorem LFrame.refl (s : St) : LFrame s s := ⟨rfl, rfl, rfl, rfl, rfl, fun _ => rfl⟩

theorem LFrame.trans {a b c : St} (h1 : LFrame a b) (h2 : LFrame b c) : LFrame a c :=
  ⟨h2.lev.trans h1.lev, h2.seqs.trans h1.seqs, h2.modBal.trans h1.modBal, h2.burned.trans h1.burned,
   h2.p.trans h1.p, fun id => (h2.ra id).trans (h1.ra id)⟩

theorem LFrame.of_ras {s s' : St} (e1 : s'.ras = s.ras) (e2 : s'.lev = s.lev) (e3 : s'.seqs = s.seqs)
    (e4 : s'.modBal = s.modBal) (e5 : s'.burned = s.burned) (e6 : pp s' = pp s) : LFrame s s' :=
  ⟨e2, e3, e4, e5, e6, fun id => by rw [getRa_of_ras_eq e1]⟩

theorem LFrame.setRa {s : St} {id : Nat} {r r' : Rollapp} (hg : getRa s id = some r) (hid : r'.id = r.id)
    (hl : liv r' = liv r) : LFrame s (setRa s r') :=
  ⟨rfl, rfl, rfl, rfl, rfl, RaFrame.setRa hg hid hl⟩

theorem LFrame.getSeq {s s' : St} (h : LFrame s s') (a : Addr) : getSeq s' a = getSeq s a :=
  getSeq_congr h.seqs a

theorem map_liv_some {s : St} {ra : Nat} {v : Nat × Nat × Option Addr} (h : (getRa s ra).map liv = some v) :
    ∃ r, getRa s ra = some r ∧ r.evH = v.1 ∧ r.cdStart = v.2.1 ∧ r.proposer = v.2.2 := by
  obtain ⟨r, hg, rfl⟩ := Option.map_eq_some_iff.1 h
  exact ⟨r, hg, rfl, rfl, rfl⟩

theorem beginBlock_frame (s : St) (dt : Nat) : LFrame s (beginBlock s dt) ∧ (beginBlock s dt).h = s.h + 1 :=
  beginBlock_ind (P := fun x => LFrame s x ∧ x.h = s.h + 1) s dt ⟨LFrame.of_ras rfl rfl rfl rfl rfl rfl, rfl⟩
    (fun _ _ hb => ⟨hb.1.trans (LFrame.of_ras rfl rfl rfl rfl rfl rfl), hb.2⟩)
    (fun _ _ _ _ hb hg => ⟨hb.1.trans (LFrame.setRa hg rfl rfl), hb.2⟩)

theorem finalizeOne_frame {s s' : St} {fails : List (Nat × Nat)} {ra idx : Nat}
    (e : finalizeOne s fails ra idx = some s') : LFrame s s' ∧ s'.h = s.h := by
  obtain ⟨_, _, r, st, hg, _, _, rfl⟩ := finalizeOne_ok e
  have f1 : LFrame s { s with seqH := s.seqH.filter (fun p => !(p.1 == st.creator && st.bds.any (·.height == p.2))) } :=
    LFrame.of_ras rfl rfl rfl rfl rfl rfl
  exact ⟨f1.trans (LFrame.setRa (r := r) hg rfl rfl), rfl⟩

theorem finalizeRollappStates_frame (s : St) (f : List (Nat × Nat)) :
    LFrame s (finalizeRollappStates s f) ∧ (finalizeRollappStates s f).h = s.h :=
  finalizeRollappStates_ind (P := fun x => LFrame s x ∧ x.h = s.h) f ⟨LFrame.refl s, rfl⟩
    (fun _ _ _ _ h e => ⟨h.1.trans (finalizeOne_frame e).1, (finalizeOne_frame e).2.trans h.2⟩)
    (fun _ _ h => ⟨h.1.trans (LFrame.of_ras rfl rfl rfl rfl rfl rfl), h.2⟩)

theorem hp_closed (h0 : Nat) (p0 : Params) : LClosed (fun x => x.h = h0 ∧ x.p = p0) where
  of_same := fun h hs => ⟨hs.2.2.1.trans h.1, hs.peq.trans h.2⟩
  set_same := fun h _ _ _ _ => h
  indicate := fun h _ => ⟨(indicateLiveness_h _ _).trans h.1, (indicateLiveness_p _ _).trans h.2⟩
  reset := fun h _ _ _ => h
  create := fun h _ => h

/-- messages change neither the hub height nor the parameters -/
theorem apply_msg_hp {s s' : St} {o : Op} (e : apply s o = .ok s') (hm : o.isMsg = true) :
    s'.h = s.h ∧ s'.p = s.p :=
  apply_msg_cl (hp_closed s.h s.p) ⟨rfl, rfl⟩ e hm

theorem endBlock_hp (s : St) (f : List (Nat × Nat)) : (endBlock s f).h = s.h ∧ pp (endBlock s f) = pp s := by
  obtain ⟨ff, hf⟩ := finalizeRollappStates_frame s f
  unfold endBlock
  exact ⟨(checkLiveness_hp _).1.trans hf, (checkLiveness_hp _).2.trans ff.p⟩

theorem endBlock_h (s : St) (f : List (Nat × Nat)) : (endBlock s f).h = s.h := (endBlock_hp s f).1

theorem step_p (s : St) (o : Op) : (step s o).1.p = s.p := by
  unfold step
  split
  · rename_i s' e
    rcases apply_cases e with hm | ⟨dt, rfl, rfl⟩ | ⟨f, rfl, rfl⟩
    · exact (apply_msg_hp e hm).2
    · exact pp_p (beginBlock_frame s dt).1.p
    · exact pp_p (endBlock_hp s f).2
  · rfl

theorem run_p (p : Params) (ops : List Op) : (run p ops).p = p := by
  unfold run
  exact foldl_inv (fun x : St => x.p = p) _ _ _ rfl (fun b o hb => by rw [step_p]; exact hb)

/-- the hub height is positive and every scheduled event lies ON the slash grid of its rollapp's current
    countdown start -/
structure Grid (s : St) : Prop where
  hpos : 1 ≤ s.h
  ev : ∀ r ∈ s.ras, r.evH = 0 ∨ ∃ j, r.evH = r.cdStart + s.p.lsBlocks + j * s.p.lsInterval

/-- for arbitrary interleavings of messages and blocks -/
theorem run_grid (p : Params) (ops : List Op) : Grid (run p ops) :=
  have h := run_clock (G := fun h _ => 1 ≤ h) (C := fun _ p e c => e = 0 ∨ ∃ j, e = c + p.lsBlocks + j * p.lsInterval)
    (fun _ _ _ => Or.inl rfl) (fun _ _ _ _ => Or.inr (nextSlashHeight_grid _ _ _ _))
    (fun _ _ h => ⟨Nat.le_succ_of_le h, fun _ _ h => h⟩)
    (p := p) (Nat.le_refl 1) ops
  ⟨h.1, h.2⟩

/-- no event earlier than `LivenessSlashBlocks` after the countdown start -/
theorem Grid.window {s : St} (h : Grid s) {r : Rollapp} (hr : r ∈ s.ras) : r.evH = 0 ∨ r.cdStart + s.p.lsBlocks ≤ r.evH :=
  (h.ev r hr).imp id (fun ⟨_, hj⟩ => hj ▸ Nat.le_add_right _ _)

/-- the proposer's record after one liveness slash -/
def slashOnce (p : SeqParams) (q : Seq) : Seq :=
  { q with tokens := q.tokens - livSlashAmt p q.tokens, dishonor := q.dishonor + p.dishonorL }

/-- the record after its liveness event fired at the height of `s` -/
def fired (s : St) (r : Rollapp) : Rollapp :=
  { r with evH := nextSlashHeight s.p.lsBlocks s.p.lsInterval s.h r.cdStart }

/-- a liveness event reschedules its own rollapp from the record's countdown start -/
theorem handleLivenessEvent_getRa_self {s : St} {ra : Nat} (hc : Cust s) :
    getRa (handleLivenessEvent s ra) ra = (getRa s ra).map (fired s) := by
  cases hg : getRa s ra with
  | none => unfold handleLivenessEvent; rw [hg]; exact hg
  | some r =>
    obtain ⟨s1, hs⟩ := slashLiveness_accepts hc r
    have hsame := slashLiveness_same hs
    have hg1 : getRa s1 ra = some r := by rw [getRa_of_ras_eq hsame.1]; exact hg
    rw [handleLivenessEvent_eq hg hs]
    show _ = some { r with evH := nextSlashHeight s.p.lsBlocks s.p.lsInterval s.h r.cdStart }
    rw [← hsame.2.2.1, ← hsame.peq]
    generalize nextSlashHeight s1.p.lsBlocks s1.p.lsInterval s1.h r.cdStart = n
    exact getRa_setRa_same_id (s := { s1 with lev := _ }) (r' := { r with evH := n }) hg1 (show r.id = ra from getRa_id hg)

/-- … and slashes its real proposer: exactly `livSlashAmt` leaves the bond and the module account and is burned -/
theorem handleLivenessEvent_self {s : St} {ra : Nat} {r : Rollapp} {a : Addr} {q : Seq} (hc : Cust s)
    (hg : getRa s ra = some r) (hp : r.proposer = some a) (hq : getSeq s a = some q) :
    getSeq (handleLivenessEvent s ra) a = some (slashOnce s.sqp q) ∧
    (handleLivenessEvent s ra).modBal + livSlashAmt s.sqp q.tokens = s.modBal ∧
    (handleLivenessEvent s ra).burned = s.burned + livSlashAmt s.sqp q.tokens := by
  have hspec := slashLiveness_spec hc hp hq
  have hqa : q.addr = a := getSeq_addr hq
  have hmod : livSlashAmt s.sqp q.tokens ≤ s.modBal := by
    have := tokSum_ge_mem (getSeq_mem hq); rw [← hc.bal] at this
    have := livSlashAmt_le s.sqp q.tokens; omega
  rw [handleLivenessEvent_eq hg hspec]
  refine ⟨?_, ?_, rfl⟩
  · show getSeq (setSeq { s with modBal := _, burned := _ } (slashOnce s.sqp q)) a = some (slashOnce s.sqp q)
    rw [← hqa]
    exact getSeq_setSeq_self (q := slashOnce s.sqp q) (q0 := q) (by show getSeq _ q.addr = some q; rw [hqa]; exact hq)
  · show s.modBal - livSlashAmt s.sqp q.tokens + livSlashAmt s.sqp q.tokens = s.modBal
    omega

/-- a liveness slash of a rollapp whose proposer is not `a` leaves `a`'s record alone -/
theorem slashLiveness_getSeq_other {s s1 : St} {r : Rollapp} {a : Addr} (hne : r.proposer ≠ some a)
    (e : slashLiveness s r = .ok s1) : getSeq s1 a = getSeq s a := by
  rcases slashLiveness_ok e with ⟨_, rfl⟩ | ⟨a', q, s2, q2, hp, hq, hsl, rfl⟩
  · rfl
  · have hm := Fork.slash_money hsl
    have hne' : q2.addr ≠ a := by
      rw [hm.addr, getSeq_addr hq]
      intro hc; apply hne; rw [hp, hc]
    rw [getSeq_setSeq_other (q := { q2 with dishonor := q2.dishonor + s2.sqp.dishonorL }) hne']
    exact getSeq_congr hm.seqs a

/-- `a` is the proposer of rollapp `ra` -/
def Proposes (s : St) (a : Addr) (ra : Nat) : Prop := ∃ r, getRa s ra = some r ∧ r.proposer = some a

/-- `a` proposes for no rollapp other than `ra` -/
def Uniq (s : St) (a : Addr) (ra : Nat) : Prop :=
  ∀ id r, getRa s id = some r → r.proposer = some a → id = ra

theorem Proposes.frame {s s' : St} {a : Addr} {ra : Nat} (f : RaFrame (·.proposer) s s') :
    Proposes s' a ra ↔ Proposes s a ra := by
  have h : ∀ x : St, Proposes x a ra ↔ (getRa x ra).map (·.proposer) = some (some a) :=
    fun x => Option.map_eq_some_iff.symm
  rw [h, h, f ra]

theorem Uniq.frame {s s' : St} {a : Addr} {ra : Nat} (h : Uniq s a ra) (f : RaFrame (·.proposer) s s') : Uniq s' a ra := by
  intro id r hg hp
  obtain ⟨r0, hg0, hp0⟩ := (Proposes.frame f).1 ⟨r, hg, hp⟩
  exact h id r0 hg0 hp0

theorem LFrame.proposer {s s' : St} (f : LFrame s s') : RaFrame (·.proposer) s s' :=
  RaFrame.comp (g := liv) f.ra (·.2.2)

theorem handleLivenessEvent_proposer (s : St) (ra : Nat) : RaFrame (·.proposer) s (handleLivenessEvent s ra) := by
  rcases handleLivenessEvent_shape s ra with hE | ⟨r, s1, hg, hs, hE⟩
  · rw [hE]; exact RaFrame.refl _ _
  · have hg1 : getRa s1 ra = some r := by rw [getRa_of_ras_eq (slashLiveness_same hs).1]; exact hg
    rw [hE]
    exact (RaFrame.of_ras (s' := { s1 with lev := _ }) _ (slashLiveness_same hs).1).trans
      (RaFrame.setRa (s := { s1 with lev := _ }) hg1 rfl rfl)

/-- an event of a rollapp whose proposer is not `a` leaves `a`'s record alone -/
theorem handleLivenessEvent_getSeq_ne {s : St} {a : Addr} {ra : Nat} (h : ¬ Proposes s a ra) :
    getSeq (handleLivenessEvent s ra) a = getSeq s a := by
  rcases handleLivenessEvent_shape s ra with hE | ⟨r, s1, hg, hs, hE⟩
  · rw [hE]
  · rw [hE]; exact (slashLiveness_getSeq_other (fun hp => h ⟨r, hg, hp⟩) hs :)

end DymVerif.Core.LevNs
