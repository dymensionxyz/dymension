/-
  Lemmas/CoreBasic — frame lemmas for M-Core: how the primitive state transformers act on the
  components of the state, what a lookup by id / address returns after a record is written or inserted,
  and the generic "for all rollapps" invariant machinery.
-/
import DymVerif.Model.Core
namespace DymVerif.Core

-- ---------------------------------------------------------------- accessors

theorem getRa_mem {s : St} {id : Nat} {r : Rollapp} (h : getRa s id = some r) : r ∈ s.ras := by
  unfold getRa at h; exact List.mem_of_find?_eq_some h

theorem getRa_id {s : St} {id : Nat} {r : Rollapp} (h : getRa s id = some r) : r.id = id := by
  unfold getRa at h
  have := List.find?_some h
  simpa using this

theorem mem_setRa {s : St} {r0 r : Rollapp} (h : r ∈ (setRa s r0).ras) : r ∈ s.ras ∨ r = r0 := by
  unfold setRa at h
  simp only [List.mem_map] at h
  obtain ⟨x, hx, rfl⟩ := h
  by_cases hc : (x.id == r0.id) = true
  · simp [hc]
  · simp [hc, hx]

theorem mem_setRa_strong {s : St} {r0 r : Rollapp} (h : r ∈ (setRa s r0).ras) :
    (r ∈ s.ras ∧ r.id ≠ r0.id) ∨ r = r0 := by
  unfold setRa at h
  simp only [List.mem_map] at h
  obtain ⟨x, hx, rfl⟩ := h
  by_cases hc : (x.id == r0.id) = true
  · simp [hc]
  · left
    have : ¬ x.id = r0.id := by simpa using hc
    simp [hc, hx, this]

theorem mem_setRa_of_ne {s : St} {r0 r : Rollapp} (h : r ∈ s.ras) (hne : r.id ≠ r0.id) : r ∈ (setRa s r0).ras := by
  unfold setRa
  simp only [List.mem_map]
  refine ⟨r, h, ?_⟩
  have : (r.id == r0.id) = false := by simpa using hne
  simp [this]

theorem mem_setRa_self {s : St} {r0 x : Rollapp} (h : x ∈ s.ras) (hid : x.id = r0.id) : r0 ∈ (setRa s r0).ras := by
  unfold setRa
  simp only [List.mem_map]
  refine ⟨x, h, ?_⟩
  simp [hid]

theorem setRa_ids (s : St) (r0 : Rollapp) : (setRa s r0).ras.map (·.id) = s.ras.map (·.id) := by
  unfold setRa
  simp only [List.map_map]
  apply List.map_congr_left
  intro x _
  simp only [Function.comp]
  split
  · rename_i hc; exact (by simpa using hc : x.id = r0.id).symm
  · rfl

theorem getSeq_mem {s : St} {a : Addr} {q : Seq} (h : getSeq s a = some q) : q ∈ s.seqs := by
  unfold getSeq at h; exact List.mem_of_find?_eq_some h

theorem getSeq_addr {s : St} {a : Addr} {q : Seq} (h : getSeq s a = some q) : q.addr = a := by
  unfold getSeq at h
  have := List.find?_some h
  simpa using this

theorem mem_setSeq {s : St} {q0 q : Seq} (h : q ∈ (setSeq s q0).seqs) : q ∈ s.seqs ∨ q = q0 := by
  unfold setSeq at h
  simp only [List.mem_map] at h
  obtain ⟨x, hx, rfl⟩ := h
  by_cases hc : (x.addr == q0.addr) = true
  · simp [hc]
  · simp [hc, hx]

@[simp] theorem setRa_seqs (s : St) (r : Rollapp) : (setRa s r).seqs = s.seqs := rfl
@[simp] theorem setRa_queue (s : St) (r : Rollapp) : (setRa s r).queue = s.queue := rfl
@[simp] theorem setRa_seqH (s : St) (r : Rollapp) : (setRa s r).seqH = s.seqH := rfl
@[simp] theorem setRa_lev (s : St) (r : Rollapp) : (setRa s r).lev = s.lev := rfl
@[simp] theorem setRa_h (s : St) (r : Rollapp) : (setRa s r).h = s.h := rfl
@[simp] theorem setRa_t (s : St) (r : Rollapp) : (setRa s r).t = s.t := rfl
@[simp] theorem setRa_p (s : St) (r : Rollapp) : (setRa s r).p = s.p := rfl
@[simp] theorem setRa_sqp (s : St) (r : Rollapp) : (setRa s r).sqp = s.sqp := rfl
@[simp] theorem setRa_modBal (s : St) (r : Rollapp) : (setRa s r).modBal = s.modBal := rfl
@[simp] theorem setRa_bal (s : St) (r : Rollapp) : (setRa s r).bal = s.bal := rfl
@[simp] theorem setRa_nq (s : St) (r : Rollapp) : (setRa s r).nq = s.nq := rfl
@[simp] theorem setRa_burned (s : St) (r : Rollapp) : (setRa s r).burned = s.burned := rfl
@[simp] theorem setRa_obsolete (s : St) (r : Rollapp) : (setRa s r).obsolete = s.obsolete := rfl
@[simp] theorem setSeq_ras (s : St) (q : Seq) : (setSeq s q).ras = s.ras := rfl
@[simp] theorem setSeq_queue (s : St) (q : Seq) : (setSeq s q).queue = s.queue := rfl
@[simp] theorem setSeq_seqH (s : St) (q : Seq) : (setSeq s q).seqH = s.seqH := rfl
@[simp] theorem setSeq_lev (s : St) (q : Seq) : (setSeq s q).lev = s.lev := rfl
@[simp] theorem setSeq_h (s : St) (q : Seq) : (setSeq s q).h = s.h := rfl
@[simp] theorem setSeq_t (s : St) (q : Seq) : (setSeq s q).t = s.t := rfl
@[simp] theorem setSeq_p (s : St) (q : Seq) : (setSeq s q).p = s.p := rfl
@[simp] theorem setSeq_sqp (s : St) (q : Seq) : (setSeq s q).sqp = s.sqp := rfl
@[simp] theorem setSeq_modBal (s : St) (q : Seq) : (setSeq s q).modBal = s.modBal := rfl
@[simp] theorem setSeq_bal (s : St) (q : Seq) : (setSeq s q).bal = s.bal := rfl
@[simp] theorem setSeq_nq (s : St) (q : Seq) : (setSeq s q).nq = s.nq := rfl
@[simp] theorem setSeq_burned (s : St) (q : Seq) : (setSeq s q).burned = s.burned := rfl
@[simp] theorem setSeq_obsolete (s : St) (q : Seq) : (setSeq s q).obsolete = s.obsolete := rfl

theorem getBal_setBal (b : List (Addr × Nat)) (a : Addr) (v : Nat) : getBal (setBal b a v) a = v := by
  unfold getBal setBal
  by_cases h : b.any (·.1 == a) = true
  · rw [if_pos h]
    induction b with
    | nil => simp at h
    | cons x xs ih =>
      simp only [List.map_cons, List.find?_cons]
      by_cases hx : (x.1 == a) = true
      · simp [hx]
      · simp only [hx]
        simp only [Bool.false_eq_true, if_false]
        simp only [hx]
        have : xs.any (·.1 == a) = true := by simpa [hx] using h
        exact ih this
  · rw [if_neg h]
    have hn : b.find? (·.1 == a) = none := by
      apply List.find?_eq_none.2
      intro x hx hc
      exact h (List.any_eq_true.2 ⟨x, hx, hc⟩)
    rw [List.find?_append, hn]; simp

-- ---------------------------------------------------------------- list facts

theorem getElem?_lt {α} {l : List α} {i : Nat} {a : α} (h : l[i]? = some a) : i < l.length :=
  (List.getElem?_eq_some_iff.1 h).1

theorem foldl_inv {α β} (P : β → Prop) (f : β → α → β) (l : List α) (b : β) (hb : P b)
    (hf : ∀ b a, P b → P (f b a)) : P (l.foldl f b) :=
  List.foldlRecOn l f hb (fun b hb a _ => hf b a hb)

theorem pairwise_unique {α} {R : α → α → Prop} {l : List α} (h : l.Pairwise R) {a b : α} (ha : a ∈ l) (hb : b ∈ l)
    (hab : ¬ R a b) (hba : ¬ R b a) : a = b := by
  induction l with
  | nil => cases ha
  | cons x xs ih =>
    have hp := List.pairwise_cons.1 h
    rcases List.mem_cons.1 ha with h1 | h1
    · rcases List.mem_cons.1 hb with h2 | h2
      · rw [h1, h2]
      · subst h1; exact absurd (hp.1 b h2) hab
    · rcases List.mem_cons.1 hb with h2 | h2
      · subst h2; exact absurd (hp.1 a h1) hba
      · exact ih hp.2 h1 h2

/-- where `insertSorted` puts the new element: after a prefix of smaller elements, in front of the first
    larger one, or in the place of the first one that is neither (same key) -/
theorem insertSorted_eq {α} (lt : α → α → Bool) (x : α) (l : List α) :
    ∃ l₁ l₂, insertSorted lt x l = l₁ ++ x :: l₂ ∧ (∀ z ∈ l₁, lt x z = false ∧ lt z x = true) ∧
      ((l = l₁ ++ l₂ ∧ ∀ y ∈ l₂.head?, lt x y = true) ∨
       (∃ y, l = l₁ ++ y :: l₂ ∧ lt x y = false ∧ lt y x = false)) := by
  induction l with
  | nil => exact ⟨[], [], rfl, by simp, Or.inl ⟨rfl, by simp⟩⟩
  | cons y ys ih =>
    unfold insertSorted
    cases h1 : lt x y with
    | true => exact ⟨[], y :: ys, by simp, by simp, Or.inl ⟨rfl, by simpa using h1⟩⟩
    | false =>
      cases h2 : lt y x with
      | true =>
        obtain ⟨l₁, l₂, e, hl, hc⟩ := ih
        refine ⟨y :: l₁, l₂, by simp [e], ?_, ?_⟩
        · intro z hz
          rcases List.mem_cons.1 hz with rfl | hz
          · exact ⟨h1, h2⟩
          · exact hl z hz
        · rcases hc with ⟨rfl, h⟩ | ⟨w, rfl, h⟩
          · exact Or.inl ⟨rfl, h⟩
          · exact Or.inr ⟨w, rfl, h⟩
      | false => exact ⟨[], ys, by simp, by simp, Or.inr ⟨y, rfl, h1, h2⟩⟩

/-- if every element compares with the new one, nothing is replaced: the new element goes in the middle -/
theorem insertSorted_fresh {α} (lt : α → α → Bool) (x : α) (l : List α) (h : ∀ y ∈ l, lt x y = true ∨ lt y x = true) :
    ∃ l₁ l₂, l = l₁ ++ l₂ ∧ insertSorted lt x l = l₁ ++ x :: l₂ ∧ (∀ z ∈ l₁, lt z x = true) ∧
      ∀ y ∈ l₂.head?, lt x y = true := by
  obtain ⟨l₁, l₂, e, hl, ⟨rfl, hh⟩ | ⟨y, rfl, h1, h2⟩⟩ := insertSorted_eq lt x l
  · exact ⟨l₁, l₂, rfl, e, fun z hz => (hl z hz).2, hh⟩
  · rcases h y (by simp) with h3 | h3
    · rw [h1] at h3; cases h3
    · rw [h2] at h3; cases h3

theorem insertSorted_mem' {α} (lt : α → α → Bool) (x : α) (l : List α) (y : α)
    (h : y ∈ insertSorted lt x l) : y = x ∨ y ∈ l := by
  obtain ⟨l₁, l₂, e, _, ⟨rfl, _⟩ | ⟨z, rfl, _⟩⟩ := insertSorted_eq lt x l
  all_goals
    rw [e] at h
    simp only [List.mem_append, List.mem_cons] at h ⊢
    rcases h with h | h | h
  · exact Or.inr (Or.inl h)
  · exact Or.inl h
  · exact Or.inr (Or.inr h)
  · exact Or.inr (Or.inl h)
  · exact Or.inl h
  · exact Or.inr (Or.inr (Or.inr h))

theorem insertSorted_mem {α} (lt : α → α → Bool) (x : α) (l : List α) (y : α)
    (h : y ∈ insertSorted lt x l) : y = x ∨ y ∈ l := insertSorted_mem' lt x l y h

theorem insertSorted_mem_self {α} (lt : α → α → Bool) (x : α) (l : List α) : x ∈ insertSorted lt x l := by
  obtain ⟨l₁, l₂, e, _⟩ := insertSorted_eq lt x l
  rw [e]; simp

/-- only an element that compares neither way with the new one can be dropped -/
theorem insertSorted_mem_of_mem {α} (lt : α → α → Bool) (x : α) {l : List α} {y : α} (hy : y ∈ l) :
    y ∈ insertSorted lt x l ∨ (lt x y = false ∧ lt y x = false) := by
  obtain ⟨l₁, l₂, e, _, ⟨rfl, _⟩ | ⟨z, rfl, hz⟩⟩ := insertSorted_eq lt x l
  all_goals
    rw [e]
    simp only [List.mem_append, List.mem_cons] at hy ⊢
  · rcases hy with h | h
    · exact Or.inl (Or.inl h)
    · exact Or.inl (Or.inr (Or.inr h))
  · rcases hy with h | rfl | h
    · exact Or.inl (Or.inl h)
    · exact Or.inr hz
    · exact Or.inl (Or.inr (Or.inr h))

-- ---------------------------------------------------------------- lookup by key after a write

/-- a map that keeps keys commutes with the lookup of a key -/
theorem find?_map_key {α} (key : α → Nat) (f : α → α) (hf : ∀ x, key (f x) = key x) (k : Nat) (l : List α) :
    (l.map f).find? (fun x => key x == k) = (l.find? (fun x => key x == k)).map f := by
  induction l with
  | nil => rfl
  | cons x xs ih =>
    simp only [List.map_cons, List.find?_cons, hf]
    cases (key x == k) with
    | true => rfl
    | false => exact ih

/-- replacing the elements that have the key of `r` by `r` (`setRa`, `setSeq`) -/
theorem find?_replace {α} (key : α → Nat) (r : α) (k : Nat) (l : List α) :
    (l.map (fun x => if key x == key r then r else x)).find? (fun x => key x == k) =
      (l.find? (fun x => key x == k)).map (fun x => if key x == key r then r else x) := by
  apply find?_map_key
  intro x
  by_cases h : (key x == key r) = true
  · rw [if_pos h]; exact (beq_iff_eq.1 h).symm
  · rw [if_neg h]

theorem find?_replace_self {α} (key : α → Nat) (r : α) (l : List α) {r0 : α}
    (hg : l.find? (fun x => key x == key r) = some r0) :
    (l.map (fun x => if key x == key r then r else x)).find? (fun x => key x == key r) = some r := by
  rw [find?_replace, hg]
  have : (key r0 == key r) = true := List.find?_some (p := fun x => key x == key r) hg
  simp only [Option.map_some, this, if_true]

theorem find?_replace_ne {α} (key : α → Nat) (r : α) (k : Nat) (hne : key r ≠ k) (l : List α) :
    (l.map (fun x => if key x == key r then r else x)).find? (fun x => key x == k) = l.find? (fun x => key x == k) := by
  rw [find?_replace]
  cases hg : l.find? (fun x => key x == k) with
  | none => rfl
  | some x =>
    have hx : key x = k := beq_iff_eq.1 (List.find?_some (p := fun x => key x == k) hg)
    have : (key x == key r) = false := beq_false_of_ne (by rw [hx]; exact Ne.symm hne)
    simp only [Option.map_some, this, Bool.false_eq_true, if_false]

/-- insertion into a list sorted by key (`createRollapp`, `createSeq`): other keys are looked up as before -/
theorem find?_insertSorted_ne {α} (key : α → Nat) (x : α) (k : Nat) (hne : key x ≠ k) (l : List α) :
    (insertSorted (fun a b => decide (key a < key b)) x l).find? (fun y => key y == k) =
      l.find? (fun y => key y == k) := by
  have hx : (key x == k) = false := beq_false_of_ne hne
  obtain ⟨l₁, l₂, e, _, ⟨rfl, _⟩ | ⟨y, rfl, h1, h2⟩⟩ := insertSorted_eq _ x l
  · rw [e, List.find?_append, List.find?_append, List.find?_cons, hx]
  · have hy : (key y == k) = false :=
      beq_false_of_ne (by have := of_decide_eq_false h1; have := of_decide_eq_false h2; omega)
    rw [e, List.find?_append, List.find?_append, List.find?_cons, List.find?_cons, hx, hy]

/-- … and the key of the inserted element finds it -/
theorem find?_insertSorted_self {α} (key : α → Nat) (x : α) (l : List α) (_hfresh : ∀ y ∈ l, key y ≠ key x) :
    (insertSorted (fun a b => decide (key a < key b)) x l).find? (fun y => key y == key x) = some x := by
  obtain ⟨l₁, l₂, e, hl, _⟩ := insertSorted_eq (fun a b => decide (key a < key b)) x l
  have h1 : l₁.find? (fun y => key y == key x) = none :=
    List.find?_eq_none.2 (fun z hz => by have := of_decide_eq_true (hl z hz).2; simp; omega)
  rw [e, List.find?_append, h1, List.find?_cons, beq_self_eq_true]
  rfl

theorem getRa_of_ras_eq {s s' : St} (e : s'.ras = s.ras) (id : Nat) : getRa s' id = getRa s id := by
  unfold getRa; rw [e]

theorem getRa_setRa (s : St) (r : Rollapp) (id : Nat) :
    getRa (setRa s r) id = (getRa s id).map (fun x => if x.id == r.id then r else x) :=
  find?_replace (fun x : Rollapp => x.id) r id s.ras

/-- writing a record back under its own id: it is what a lookup returns -/
theorem getRa_setRa_self {s : St} {r r0 : Rollapp} (hg : getRa s r.id = some r0) : getRa (setRa s r) r.id = some r :=
  find?_replace_self (fun x : Rollapp => x.id) r s.ras hg

theorem getRa_setRa_ne {s : St} {r : Rollapp} {id : Nat} (hne : r.id ≠ id) : getRa (setRa s r) id = getRa s id :=
  find?_replace_ne (fun x : Rollapp => x.id) r id hne s.ras

theorem getSeq_setSeq (s : St) (q : Seq) (a : Addr) :
    getSeq (setSeq s q) a = (getSeq s a).map (fun x => if x.addr == q.addr then q else x) :=
  find?_replace (fun x : Seq => x.addr) q a s.seqs

theorem getSeq_congr {s s' : St} (e : s'.seqs = s.seqs) (a : Addr) : getSeq s' a = getSeq s a := by
  unfold getSeq; rw [e]

theorem getSeq_setSeq_self {s : St} {q q0 : Seq} (hg : getSeq s q.addr = some q0) : getSeq (setSeq s q) q.addr = some q :=
  find?_replace_self (fun x : Seq => x.addr) q s.seqs hg

theorem getSeq_setSeq_ne {s : St} {q : Seq} {a : Addr} (hne : q.addr ≠ a) : getSeq (setSeq s q) a = getSeq s a :=
  find?_replace_ne (fun x : Seq => x.addr) q a hne s.seqs

theorem find_map_addr (l : List Seq) (f : Seq → Seq) (hf : ∀ x, (f x).addr = x.addr) (a : Addr) :
    (l.map f).find? (·.addr == a) = (l.find? (·.addr == a)).map f :=
  find?_map_key (fun x : Seq => x.addr) f hf a l

theorem getSeq_mapSeqs (s : St) (f : Seq → Seq) (hf : ∀ x, (f x).addr = x.addr) (a : Addr) :
    getSeq { s with seqs := s.seqs.map f } a = (getSeq s a).map f := by
  unfold getSeq; exact find_map_addr _ f hf a

/-- a second write under the same id overwrites the first -/
theorem setRa_setRa (s : St) {r r' : Rollapp} (hid : r.id = r'.id) : setRa (setRa s r) r' = setRa s r' := by
  unfold setRa
  simp only [List.map_map]
  congr 1
  apply List.map_congr_left
  intro x _
  show (if (if x.id == r.id then r else x).id == r'.id then r' else (if x.id == r.id then r else x)) = _
  by_cases h : (x.id == r.id) = true
  · rw [if_pos h, if_pos (by rw [hid]; exact beq_self_eq_true _), if_pos (by rw [← hid]; exact h)]
  · rw [if_neg h]

theorem getRa_insertSorted_ne {s : St} {r : Rollapp} {id : Nat} (hne : r.id ≠ id) :
    getRa { s with ras := insertSorted (fun x y => decide (x.id < y.id)) r s.ras } id = getRa s id :=
  find?_insertSorted_ne (fun x : Rollapp => x.id) r id hne s.ras

theorem getRa_insertSorted_self {s : St} {r : Rollapp} (hfresh : ∀ y ∈ s.ras, y.id ≠ r.id) :
    getRa { s with ras := insertSorted (fun x y => decide (x.id < y.id)) r s.ras } r.id = some r :=
  find?_insertSorted_self (fun x : Rollapp => x.id) r s.ras hfresh

theorem getSeq_insertSorted_ne {s : St} {q : Seq} {a : Addr} (hne : q.addr ≠ a) :
    getSeq { s with seqs := insertSorted (fun x y => decide (x.addr < y.addr)) q s.seqs } a = getSeq s a :=
  find?_insertSorted_ne (fun x : Seq => x.addr) q a hne s.seqs

theorem getSeq_insertSorted_self {s : St} {q : Seq} (hfresh : ∀ y ∈ s.seqs, y.addr ≠ q.addr) :
    getSeq { s with seqs := insertSorted (fun x y => decide (x.addr < y.addr)) q s.seqs } q.addr = some q :=
  find?_insertSorted_self (fun x : Seq => x.addr) q s.seqs hfresh

-- ---------------------------------------------------------------- "for all rollapps" invariants

/-- `RaAll Q s`: every rollapp record of the state satisfies `Q` -/
def RaAll (Q : Rollapp → Prop) (s : St) : Prop := ∀ r ∈ s.ras, Q r

theorem RaAll.setRa {Q : Rollapp → Prop} {s : St} {r : Rollapp} (h : RaAll Q s) (hr : Q r) :
    RaAll Q (setRa s r) := by
  intro x hx
  rcases mem_setRa hx with h1 | h1
  · exact h x h1
  · exact h1 ▸ hr

theorem RaAll.get {Q : Rollapp → Prop} {s : St} {id : Nat} {r : Rollapp} (h : RaAll Q s)
    (hg : getRa s id = some r) : Q r := h r (getRa_mem hg)

theorem RaAll.of_ras_eq {Q : Rollapp → Prop} {s s' : St} (h : RaAll Q s) (e : s'.ras = s.ras) :
    RaAll Q s' := by
  intro r hr; rw [e] at hr; exact h r hr

theorem RaAll.insert {Q : Rollapp → Prop} {s : St} {r : Rollapp} (h : RaAll Q s) (hr : Q r) :
    RaAll Q { s with ras := insertSorted (fun x y => decide (x.id < y.id)) r s.ras } := by
  intro x hx
  rcases insertSorted_mem' _ _ _ _ hx with h1 | h1
  · exact h1 ▸ hr
  · exact h x h1

-- ---------------------------------------------------------------- from accepted ops to reachable states

theorem step_of_apply {P : St → Prop} {s : St} {o : Op} (h : P s) (hs : ∀ s', apply s o = .ok s' → P s') : P (step s o).1 := by
  unfold step
  split
  · rename_i s' e; exact hs s' e
  · exact h

/-- what holds initially and across every accepted op of the sequence holds in the state reached -/
theorem run_of_apply {P : St → Prop} {p : Params} {ops : List Op} (h0 : P (init p))
    (hs : ∀ {s s' : St} {o : Op}, o ∈ ops → P s → apply s o = .ok s' → P s') : P (run p ops) :=
  List.foldlRecOn ops _ h0 (fun _ hb o ho => step_of_apply hb (fun _ => hs ho hb))

-- ---------------------------------------------------------------- the standalone punish proposal

/-- an accepted `PunishSequencerProposal` came from the governance authority and is exactly
    `PunishSequencer` (no fork, no role change) -/
theorem punishProposal_ok {s s' : St} {au : Bool} {a : Addr} {rw : Option Addr}
    (e : punishProposal s au a rw = .ok s') : au = true ∧ punish s a rw = .ok s' := by
  unfold punishProposal at e
  cases au with
  | false => simp at e
  | true => exact ⟨rfl, by simpa using e⟩

-- ---------------------------------------------------------------- ownership transfer

/-- an accepted `MsgTransferOwnership`: signed by the current owner, to a different, non-blocked address;
    only the `owner` field of that one rollapp record changes -/
theorem transferOwner_ok {s s' : St} {sg : Addr} {ra : Nat} {no : Addr}
    (e : transferOwner s sg ra no = .ok s') :
    ∃ r, getRa s ra = some r ∧ r.owner = sg ∧ r.owner ≠ no ∧ blockedAddr no = false ∧
      s' = setRa s { r with owner := no } := by
  unfold transferOwner at e
  cases hg : getRa s ra with
  | none => rw [hg] at e; cases e
  | some r =>
    rw [hg] at e
    dsimp only at e
    by_cases h1 : (r.owner != sg) = true
    · rw [if_pos h1] at e; cases e
    rw [if_neg h1] at e
    by_cases h2 : (r.owner == no) = true
    · rw [if_pos h2] at e; cases e
    rw [if_neg h2] at e
    cases h3 : blockedAddr no
    case true => rw [h3, if_pos rfl] at e; cases e
    rw [h3, if_neg (by simp)] at e
    cases e
    exact ⟨r, rfl, by simpa using h1, by simpa using h2, rfl, rfl⟩

-- ---------------------------------------------------------------- sequencer parameters

/-- both parameter sets of the state: the genesis set (whose x/rollapp part the handlers read) and the
    x/sequencer set in force.  The frame relations (`Roles.Frame`, `LevNs.SameL`, `LevNs.LFrame`) carry
    `pp s' = pp s`: every transition except `setSeqParams` keeps both. -/
def pp (s : St) : Params × SeqParams := (s.p, s.sqp)

theorem pp_p {s s' : St} (h : pp s' = pp s) : s'.p = s.p := congrArg Prod.fst h
theorem pp_sqp {s s' : St} (h : pp s' = pp s) : s'.sqp = s.sqp := congrArg Prod.snd h

/-- an accepted x/sequencer `MsgUpdateParams`: from the authority, with a positive notice period and a
    non-zero kick threshold; only the sequencer parameter set changes -/
theorem setSeqParams_ok {s s' : St} {au : Bool} {sp : SeqParams} (e : setSeqParams s au sp = .ok s') :
    au = true ∧ 0 < sp.noticePeriod ∧ 0 < sp.kickThr ∧ s' = { s with sqp := sp } := by
  unfold setSeqParams at e
  cases au with
  | false => cases e
  | true =>
    rw [if_neg (by simp)] at e
    by_cases h2 : sp.noticePeriod = 0
    · rw [if_pos h2] at e; cases e
    rw [if_neg h2] at e
    by_cases h3 : (decide (sp.lsMul.raw < 0) || decide (1000000000000000000 < sp.lsMul.raw)) = true
    · rw [if_pos h3] at e; cases e
    rw [if_neg h3] at e
    by_cases h4 : sp.kickThr = 0
    · rw [if_pos h4] at e; cases e
    rw [if_neg h4] at e
    cases e
    exact ⟨rfl, Nat.pos_of_ne_zero h2, Nat.pos_of_ne_zero h4, rfl⟩

/-- a rejected op leaves the state as it was -/
theorem step_error_fst {s : St} {o : Op} {e : Err} (h : (step s o).2 = some e) : (step s o).1 = s := by
  unfold step at *
  cases h' : apply s o with
  | ok s' => rw [h'] at h; cases h
  | error e' => rfl

/-- `Q` only looks at the `states` field -/
def StatesOnly (Q : Rollapp → Prop) : Prop := ∀ r r' : Rollapp, r'.states = r.states → Q r → Q r'

end DymVerif.Core
