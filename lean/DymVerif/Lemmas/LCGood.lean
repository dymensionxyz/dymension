/-
  Lemmas/LCGood — the bundled invariant of M-LC (designation maps, client well-formedness, agreement, gap-free
  rollapp side) and its preservation by the pieces a message is made of: a Core op, a client creation and a designation
  (`good_standalone`; the designation under the side condition `SafeOp`), storing a header whose ante verdict holds
  (`good_apply`), freezing a client (`good_freeze`).  Lemmas/LCTxGood puts them together.
-/
import DymVerif.Lemmas.LCDesig
namespace DymVerif.LC
open DymVerif.Core (Addr NextP)

structure Good (s : St) : Prop where
  maps : MapsInv s
  clients : ClientsOk s
  agree : AgreeInv s
  chain : CoreChain s

/-- every descriptor M-LC holds for the rollapp lies inside one of the rollapp's state infos (the
    descriptor table is M-LC's copy of the descriptors stored in the state infos of M-Core) -/
def DescsCovered (s : St) (ra : Nat) : Prop :=
  ∀ h d, getDesc s ra h = some d → ∃ r st, Core.getRa s.core ra = some r ∧ st ∈ r.states ∧ st.start ≤ h ∧ h ≤ st.last

/-- the side condition: at a designation the descriptor table is covered by the state infos -/
def SafeOp (s : St) : Op → Prop
  | .setCanonical c => ∀ cl, getClient s c = some cl → DescsCovered s cl.chain
  | _ => True

theorem Good.of_eq {s s' : St} (h : Good s) (e1 : s'.clients = s.clients) (e2 : s'.descs = s.descs) (e3 : s'.r2c = s.r2c) (e4 : s'.c2r = s.c2r)
    (e5 : s'.core = s.core) : Good s' :=
  ⟨h.maps.of_eq e3 e4 e1, h.clients.of_eq e1, (h.agree.toEx _ |>.of_eq e1 e2 e3).toInv, by unfold CoreChain; rw [e5]; exact h.chain⟩

theorem Good.of_frame {s s' : St} (h : Good s) (hf : Frame s s') (hc : s'.clients = s.clients) : Good s' :=
  h.of_eq hc hf.descs hf.r2c hf.c2r hf.core

theorem clientsOk_agree_coreOp {s : St} (h : Good s) (o : Core.Op) (ds : List (Nat × Option Nat)) :
    ClientsOk (coreOp s o ds).1 ∧ AgreeInv (coreOp s o ds).1 := by
  rcases coreOp_cases s o ds with ⟨e, _⟩ | ⟨core1, s2, s3, hst, hfin⟩
  · rw [e]; exact ⟨h.clients, h.agree⟩
  · have g1 : ClientsOk { s with core := core1 } ∧ AgreeInv { s with core := core1 } :=
      ⟨h.clients.of_eq rfl, (h.agree.toEx _ |>.of_eq rfl rfl rfl).toInv⟩
    rcases hfin with ⟨m, r, st, s4, rfl, _, _, hst', hn, ha, e⟩ | ⟨hno, e⟩ <;> rw [e]
    · -- the new descriptors are exempt until the hook has compared them with the optimistic consensus states
      obtain ⟨a1, a3, _⟩ := withDescs_update hst.descs g1.2
      obtain ⟨b1, b2⟩ := applyForks_props (newForks s.core core1) s2 a1 (g1.1.of_eq a3)
      rw [hst.forks] at b1 b2
      exact (afterUpdate_agree (h.maps.of_shape hst.frame.2.1) b2 b1 hst' hn ha).symm
    · have e2 : s2 = { s with core := core1 } := by
        rcases withDescs_cases hst.descs with ⟨_, e⟩ | ⟨m, hm, _⟩
        · exact e
        · exact absurd hm (hno m)
      subst e2
      obtain ⟨b1, b2⟩ := applyForks_props (E := fun _ _ => False) (newForks s.core core1) _ (g1.2.toEx _) g1.1
      rw [hst.forks] at b1 b2
      exact ⟨b2, b1.toInv⟩

theorem clientsOk_agree_createClient {s : St} (h : Good s) (chain : Nat) (p : CParams) (ht : Nat) (cs : Cons) :
    ClientsOk (createClient s chain p ht cs).1 ∧ AgreeInv (createClient s chain p ht cs).1 := by
  refine ⟨?_, ?_⟩
  · intro x hx
    simp only [createClient, List.mem_append, List.mem_singleton] at hx
    rcases hx with hx | rfl
    · exact h.clients x hx
    · refine ⟨by simp [SortedCons], ?_⟩
      intro y hy
      simp only [List.mem_singleton] at hy
      subst hy; exact Nat.le_refl _
  · intro r c cl hh cs' d a b g f
    have a' : lookup s.r2c r = some c := a
    obtain ⟨cl0, g0, _⟩ := h.maps.canon_client c r (h.maps.r2c_c2r r c a')
    have : getClient (createClient s chain p ht cs).1 c = some cl0 := by
      rw [getClient_append s _ c _ rfl, g0]; rfl
    rw [this] at b
    simp only [Option.some.injEq] at b
    subst b
    exact h.agree r c cl0 hh cs' d a' g0 g f

theorem clientsOk_agree_setCanonical {s : St} (h : Good s) (c : Nat) (hs : SafeOp s (.setCanonical c)) :
    ClientsOk (setCanonical s c).1 ∧ AgreeInv (setCanonical s c).1 := by
  rcases setCanonical_cases s c with ⟨_, e⟩ | ⟨cl, r0, hcl, hr0, hnone, _, hv, e⟩ <;> rw [e]
  · exact ⟨h.clients, h.agree⟩
  · refine ⟨h.clients.of_eq rfl, ?_⟩
    intro r c0 cl0 hh cs d a b g f
    have b' : getClient s c0 = some cl0 := b
    have f' : getDesc s r hh = some d := f
    rcases lookup_append_single_some a with ho | ⟨_, rfl, rfl⟩
    · exact h.agree r c0 cl0 hh cs d ho b' g f'
    · rw [hcl] at b'; cases b'
      -- the loop of validClient has looked at every state info that contains a consensus state
      obtain ⟨r1, st, hr1, hst, h1, h2⟩ := hs cl hcl hh d f'
      rw [hr0] at hr1; cases hr1
      obtain ⟨d', hd', hag⟩ := validLoop_all (h.chain r0 (Core.getRa_mem hr0)) hv st hst hh cs h1 h2 g
      rw [f'] at hd'; cases hd'
      exact hag

/-- the three messages whose message phase is the stand-alone op -/
theorem good_standalone {s : St} (h : Good s) (m : Op) (hs : SafeOp s m)
    (hm : (∃ o ds, m = .core o ds) ∨ (∃ ch p h c, m = .createClient ch p h c) ∨ ∃ c, m = .setCanonical c) : Good (step s m).1 := by
  suffices key : ClientsOk (step s m).1 ∧ AgreeInv (step s m).1 from
    ⟨step_mapsInv h.maps m, key.1, key.2, step_coreChain h.chain m⟩
  rcases hm with ⟨o, ds, rfl⟩ | ⟨ch, p, ht, cs, rfl⟩ | ⟨c, rfl⟩
  · exact clientsOk_agree_coreOp h o ds
  · exact clientsOk_agree_createClient h ch p ht cs
  · rw [step_setCanonical_fst]; exact clientsOk_agree_setCanonical h c hs

/-- what the ante check of a header establishes and the message phase relies on: on a canonical client the header
    agrees with the descriptor of its height, if there is one -/
def HdrOk (s : St) (c : Nat) (hd : Hdr) : Prop :=
  ∀ r, lookup s.c2r c = some r → ∀ d, getDesc s r hd.h = some d → Agrees hd.cons d

theorem HdrOk.congr {s s' : St} {c : Nat} {hd : Hdr} (h : HdrOk s c hd) (e1 : s'.c2r = s.c2r) (e2 : s'.descs = s.descs) :
    HdrOk s' c hd := by
  intro r hr d hd'
  rw [e1] at hr
  rw [getDesc_congr e2] at hd'
  exact h r hr d hd'

theorem handleUpdate_hdrOk {s s1 : St} {c : Nat} {hd : Hdr} (h : handleUpdate s c hd = (s1, none)) : HdrOk s1 c hd := by
  have hchk := handleUpdate_ok h
  obtain ⟨hf, _⟩ := handleUpdate_frame h
  have h0 : HdrOk s c hd := fun r hr d hd' => by
    obtain ⟨_, _, _, _, _, _, _, hag⟩ := hchk r hr
    exact hag d hd'
  exact h0.congr hf.c2r hf.descs

/-- rewriting one client: its identity and chain stay, it is well-formed, and if it is canonical its consensus
    states agree with the descriptors -/
theorem good_setClient_of {s : St} (h : Good s) {c : Nat} {cl new : Client} (hcl : getClient s c = some cl)
    (hid : new.id = c) (hch : new.chain = cl.chain) (hok : ClientOk new)
    (hag : ∀ r, lookup s.r2c r = some c → ∀ ht cs d, getCons new ht = some cs → getDesc s r ht = some d → Agrees cs d) :
    Good (setClient s new) := by
  have hget : getClient s new.id = some cl := by rw [hid]; exact hcl
  exact ⟨h.maps.of_shape (Shape.setClient hget hch), ClientsOk.setClient h.clients hok,
    ((h.agree.toEx _).setClient new fun r a ht cs d g f => Or.inr (hag r (hid ▸ a) ht cs d g f)).toInv, h.chain⟩

theorem good_freeze {s : St} (h : Good s) {c : Nat} {cl : Client} (hcl : getClient s c = some cl) :
    Good (setClient s { cl with frozen := true }) := by
  have hok := h.clients cl (getClient_mem hcl)
  have hid : cl.id = c := getClient_id hcl
  exact good_setClient_of h hcl hid rfl ⟨hok.sorted, hok.le⟩
    (fun r a ht cs d g f => h.agree r c cl ht cs d a hcl g f)

/-- storing a header whose ante verdict still holds -/
theorem good_apply {s : St} (h : Good s) {c : Nat} {cl : Client} {hd : Hdr} (hcl : getClient s c = some cl)
    (hok : HdrOk s c hd) : Good (setClient s (ibcApply cl hd)) := by
  refine good_setClient_of h hcl ((ibcApply_id cl hd).trans (getClient_id hcl)) (ibcApply_chain cl hd)
    (clientOk_ibcApply (h.clients cl (getClient_mem hcl)) hd) ?_
  intro r a ht cs d g f
  rcases getCons_ibcApply g with g' | ⟨eh, ec⟩
  · exact h.agree r c cl ht cs d a hcl g' f
  · subst eh; subst ec
    exact hok r (h.maps.r2c_c2r r c a) d f

theorem init_good (p : Core.Params) : Good (init p) :=
  ⟨init_mapsInv p, fun _ h => by simp [init] at h, fun _ _ _ _ _ _ a => by simp [init, lookup] at a, init_coreChain p⟩

/-- every op of the run satisfies its side condition in the state it is applied to -/
def SafeRun : St → List Op → Prop
  | _, [] => True
  | s, op :: ops => SafeOp s op ∧ SafeRun (step s op).1 ops

end DymVerif.LC
