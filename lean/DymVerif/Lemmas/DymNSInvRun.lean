/-
  Lemmas/DymNSInvRun — the invariant holds at the start, survives every operation, and so holds along
  every run; induction over a run for properties carried along with it.
-/
import DymVerif.Lemmas.DymNSAlias
namespace DymVerif.DymNS
open AMap

theorem init_inv : Inv State.init := by
  refine { wfN := by simp [State.init, NoDupKeys], wfA := by simp [State.init, NoDupKeys],
           wfB := by simp [State.init, NoDupKeys], esc := rfl, idx := ?_, ali := ?_, so := ?_, boK := ?_ }
  · refine ⟨fun a n => ?_, fun x n => ?_, fun b n => ?_⟩ <;> simp [State.init, Idx.lookup, NameStore.get]
  · refine ⟨fun l c => ?_, fun l c => ?_⟩ <;> simp [State.init, AliasStore.aliases]
  · intro n so h; simp [State.init] at h
  · intro i b h; simp [State.init] at h

theorem start_inv (p : Params) (t : Nat) : Inv (State.start p t) :=
  init_inv.frame _ _ _

theorem start_getName (p : Params) (t : Nat) (n : Name) : getName (State.start p t) n = none := rfl

theorem exec_inv {s s' : State} {op : Op} (hI : Inv s) (h : exec s op = .ok s') : Inv s' := by
  cases exec_step h with
  | fund | advance | trading | setChainAliases | updateAliases | setParams => exact hI.frame _ _ _
  | migrate m =>
    refine { wfN := hI.wfN, wfA := hI.wfA, wfB := hI.wfB, esc := hI.esc,
             idx := NameStore.idxOK_migrate s.now m hI.idx, ali := hI.ali, so := ?_, boK := hI.boK }
    intro n so hso
    obtain ⟨d, hd, hlt⟩ := hI.so n so hso
    refine ⟨migName s.now m d, ?_, by simpa using hlt⟩
    show (s.ns.mapRecords (migName s.now m)).get n = _
    rw [NameStore.get_mapRecords, hd]; rfl
  | registerPrune a n => exact replaceNameT_inv n _ (payAndBurnT_inv a _ hI)
  | registerExtend a n dur pay c _ _ hk =>
    obtain ⟨d, hd, _, _, hrec⟩ := regPlan_keep hk
    rw [hrec]
    exact setName_same_inv (payAndBurnT_inv a _ hI) hd rfl rfl (Nat.le_add_right _ _)
  | transfer n => exact replaceNameT_inv n _ hI
  | setController n c hd | updateDetails n c cl cc hd => exact setName_same_inv hI hd rfl rfl (Nat.le_refl _)
  | resolveSet _ _ _ _ _ hd | resolveDelete _ _ _ _ hd | updateDetailsClear _ _ _ _ hd =>
    exact setConfigChanged_inv hI hd rfl rfl
  | @sellName d n mn sl hd he hso hlt =>
    refine { wfN := noDup_set _ _ _ hI.wfN, wfA := hI.wfA, wfB := hI.wfB, esc := ?_, idx := hI.idx, ali := hI.ali,
             so := ?_, boK := hI.boK }
    · have := esc_setNameSO hI n ⟨d.owner, s.now + s.p.soDur, mn, sl, none⟩
      rw [show nameBid s n = none by simp [nameBid, hso]] at this
      exact this
    · intro m so hm
      simp only [AMap.get_set] at hm
      split at hm
      · rename_i hmn; subst hmn; injection hm with hm; subst hm
        exact ⟨_, hd, hlt, rfl, by intro b hb; cases hb⟩
      · exact hI.so m so hm
  | cancelSellName n _ hso hb => exact dropNameSO_inv n hI (ob := none) (by simp [nameBid, hso, hb])
  | completeRefund a n _ hso hb => exact dropNameSO_inv n hI (ob := some _) (by simp [nameBid, hso, hb])
  | completeSale a n _ hso hb => exact completeNameSOT_inv hI hso hb
  | bid a n o hd hne hso =>
    exact bidStateN_inv a o hI hso (fun d' hd' => by rw [show s.ns.get n = _ from hd] at hd'; cases hd'; exact hne.symm)
  | @bidSale d so a n o hd hne hso =>
    exact completeNameSOT_inv (so := { so with bid := some ⟨a, o, 0⟩ })
      (bidStateN_inv a o hI hso (fun d' hd' => by rw [show s.ns.get n = _ from hd] at hd'; cases hd'; exact hne.symm))
      (by simp [bidStateN]) rfl
  | offerName _ _ _ _ _ _ _ hp | offerAlias _ _ _ _ _ _ _ _ hp => exact placedBO_inv hI hp
  | cancelOffer _ _ hg => exact boRemoved_inv _ hI hg
  | acceptName _ _ hg => exact replaceNameT_inv _ _ (boRemoved_inv _ hI hg)
  | acceptAlias _ _ hg _ hsrc _ hdst => exact alChanged_inv (boRemoved_inv _ hI hg) (aliasOK_moved hI.ali hsrc hdst)
  | counter _ _ _ _ hg => exact sameOfferBO_inv hI hg rfl
  | createRollapp a c hrp l _ _ h3 =>
    have hI1 : Inv (withRollapp s c ⟨a, hrp⟩) := alChanged_inv hI (aliasOK_addRollapp c ⟨a, hrp⟩ hI.ali)
    exact alChanged_inv (payAndBurnT_inv a _ hI1)
      (aliasOK_setAliasT hI1.ali (by simp [withRollapp, AliasStore.isRollapp]) h3)
  | registerAlias c l pay hr _ h3 =>
    exact alChanged_inv (payAndBurnT_inv _ _ hI) (aliasOK_setAliasT hI.ali (by simp [AliasStore.isRollapp, hr]) h3)
  | @sellAlias src r l mn sl _ _ hso =>
    refine { wfN := hI.wfN, wfA := noDup_set _ _ _ hI.wfA, wfB := hI.wfB, esc := ?_, idx := hI.idx, ali := hI.ali,
             so := hI.so, boK := hI.boK }
    have := esc_setAliasSO hI l ⟨r.owner, s.now + s.p.soDur, mn, sl, none⟩
    rw [show aliasBid s l = none by simp [aliasBid, hso]] at this
    exact this
  | cancelSellAlias a l hso hb => exact dropAliasSO_inv l hI (ob := none) (by simp [aliasBid, hso, hb])
  | completeAliasRefund a l hso hb => exact dropAliasSO_inv l hI (ob := some _) (by simp [aliasBid, hso, hb])
  | completeAliasSale a l hso hb _ _ hsrc _ hdst => exact aliasSoldT_inv hI hso hb hsrc hdst
  | bidAlias a l o dst hso => exact bidStateA_inv a o dst hI hso
  | @bidAliasSale so src r a l o dst hso _ _ _ hsrc _ hdst =>
    exact aliasSoldT_inv (so := { so with bid := some ⟨a, o, dst⟩ }) (bidStateA_inv a o dst hI hso) (by simp [bidStateA]) rfl
      (by rwa [bidStateA_al]) (by simpa [isRollapp, bidStateA_al] using hdst)
  | transferRollapp c b => exact alChanged_inv hI (aliasOK_addRollapp c _ hI.ali)

theorem step_inv {s : State} (op : Op) (hI : Inv s) : Inv (step s op) := by
  unfold step
  cases h : exec s op with
  | ok s' => exact exec_inv hI h
  | error e => exact hI

theorem run_inv {s : State} (ops : List Op) (hI : Inv s) : Inv (run s ops) := by
  induction ops generalizing s with
  | nil => exact hI
  | cons op ops ih => exact ih (step_inv op hI)

/-- induction over a run for a property `P` kept by every accepted operation that satisfies `Q`,
    in the presence of the invariant -/
theorem run_induct {P : State → Prop} {Q : Op → Prop}
    (hstep : ∀ {s s' : State} {op : Op}, Inv s → P s → Q op → exec s op = .ok s' → P s')
    {s : State} (ops : List Op) (hI : Inv s) (hP : P s) (hQ : ∀ op ∈ ops, Q op) : P (run s ops) := by
  induction ops generalizing s with
  | nil => exact hP
  | cons op ops ih =>
    refine ih (step_inv op hI) ?_ (fun o ho => hQ o (List.mem_cons_of_mem _ ho))
    unfold step
    cases h : exec s op with
    | ok s' => exact hstep hI hP (hQ op (List.mem_cons_self ..)) h
    | error e => exact hP

end DymVerif.DymNS
