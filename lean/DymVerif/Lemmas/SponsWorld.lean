/-
  Lemmas/SponsWorld — the world-building invariant: gauge ids are bounded by `LastGaugeID` (so every
  created gauge is fresh), every rollapp gauge belongs to a rollapp with an endorsement, every
  endorsement names exactly one rollapp gauge (`RaGauge`) and its total shares are exact (`ShareInv`),
  and votes only weigh existing gauges.  It holds in the genesis state and is kept by EVERY op
  (creation of gauges / rollapps, MsgUpdateParams included), so `RaGauge` / `ShareInv` need not be
  assumed.
-/
import DymVerif.Lemmas.SponsShares
namespace DymVerif.Spons

structure World (s : State) : Prop where
  bound : ∀ i ∈ s.gauges.map (·.id), i ≤ s.lastGauge
  ra_endo : ∀ g r, raOf s.gauges g = some r → (s.endorsement? r).isSome
  endo : ∀ r e, s.endorsement? r = some e → RaGauge s r e.gaugeId ∧ ShareInv s r e.gaugeId
  wbound : ∀ x ∈ s.votes, ∀ w ∈ x.2.weights, w.1 ≤ s.lastGauge

theorem init_world (ma mv : Int) : World (State.init ma mv) := by
  refine ⟨?_, ?_, ?_, ?_⟩
  · intro i hi; cases hi
  · intro g r h; cases h
  · intro r e h; cases h
  · intro x hx; cases hx

/-! ### the votes' weights -/

/-- accepted weights name existing gauges -/
theorem validateWeights_ok {s : State} {ws : List GP} (h : validateWeights s ws = none) :
    ∀ w ∈ ws, (s.gauge? w.1).isSome := by
  induction ws with
  | nil => intro w hw; cases hw
  | cons w ws ih =>
    unfold validateWeights at h
    split at h
    · cases h
    split at h
    · cases h
    · rename_i g hg
      split at h
      · cases h
      · intro x hx
        rcases List.mem_cons.mp hx with rfl | hx
        · rw [hg]; rfl
        · exact ih h x hx

theorem vote_weights_exist {s s' : State} {a : Nat} {ws : List GP} (hv : s.vote a ws = .ok s') :
    ∀ w ∈ ws, (s.gauge? w.1).isSome :=
  validateWeights_ok (vote_ok hv).2.1

theorem gauge?_bound {s : State} (hb : ∀ i ∈ s.gauges.map (·.id), i ≤ s.lastGauge) {gid : Nat}
    (h : (s.gauge? gid).isSome) : gid ≤ s.lastGauge := by
  cases hg : s.gauge? gid with
  | none => rw [hg] at h; cases h
  | some g =>
    have hm := List.mem_of_find?_eq_some hg
    have hid : g.id = gid := gauge?_id hg
    rw [← hid]
    exact hb g.id (List.mem_map.mpr ⟨g, hm, rfl⟩)

/-- the votes' weights stay within `n` under every op (the op's own effect on `lastGauge` aside) -/
theorem step_votesAll {s : State} {op : Op} {n : Nat} (hb : ∀ i ∈ s.gauges.map (·.id), i ≤ s.lastGauge)
    (hn : s.lastGauge ≤ n) (h : VotesAll (fun ws => ∀ w ∈ ws, w.1 ≤ n) s) :
    VotesAll (fun ws => ∀ w ∈ ws, w.1 ≤ n) (step s op).1 :=
  (step_core_ind (P := fun _ => True) op h trivial
    (fun _ _ _ _ hv w hw => Nat.le_trans (gauge?_bound hb (vote_weights_exist hv w hw)) hn)
    (fun _ _ => trivial) (fun _ _ => trivial) (fun _ _ _ => trivial) (fun _ _ _ _ => trivial)).1

/-! ### a fresh gauge has no power in any vote -/

theorem vsum_pow_fresh {l : List (Nat × Vote)} {g : Nat} (h : ∀ x ∈ l, ∀ w ∈ x.2.weights, w.1 ≠ g) :
    vsum (fun v => v.pow g) l = 0 := by
  induction l with
  | nil => rfl
  | cons x xs ih =>
    simp only [vsum]
    rw [ih (fun y hy => h y (by simp [hy]))]
    show wpow x.2.vp x.2.weights g + 0 = 0
    rw [wpow_absent (h x (by simp))]; rfl

/-! ### the invariant is kept by every op -/

theorem find_none_of_bound {s : State} (hb : ∀ i ∈ s.gauges.map (·.id), i ≤ s.lastGauge) :
    s.gauges.find? (·.id == s.lastGauge + 1) = none := by
  cases hf : s.gauges.find? (·.id == s.lastGauge + 1) with
  | none => rfl
  | some g =>
    have hm := List.mem_of_find?_eq_some hf
    have hid : g.id = s.lastGauge + 1 := by have := List.find?_some hf; simpa using this
    exact absurd (hid ▸ hb g.id (List.mem_map.mpr ⟨g, hm, rfl⟩)) (Nat.not_succ_le_self _)

theorem bound_append {s : State} (w : World s) (ng : Gauge) (hid : ng.id = s.lastGauge + 1) :
    ∀ i ∈ (s.gauges ++ [ng]).map (·.id), i ≤ s.lastGauge + 1 := by
  intro i hi
  rw [List.map_append, List.mem_append] at hi
  rcases hi with hi | hi
  · exact Nat.le_succ_of_le (w.bound i hi)
  · rw [List.map_singleton, List.mem_singleton] at hi
    rw [hi, hid]; exact Nat.le_refl _

theorem addGauge_world {s s1 : State} {g : Gauge} (w : World s) (h : s.addGauge g = .ok s1) : World s1 := by
  have hra := (addGauge_ra h).1
  have hsh := fun r gid => addGauge_share (r := r) (gid := gid) h
  obtain ⟨⟨inc, rfl⟩, _, _⟩ := addGauge_ok h
  exact ⟨bound_append w _ rfl, fun gid r hr => w.ra_endo gid r (hra gid ▸ hr),
    fun r e he => (hsh r e.gaugeId (w.endo r e he).1 (w.endo r e he).2).symm,
    fun x hx wt hw => Nat.le_succ_of_le (w.wbound x hx wt hw)⟩

/-- the RollappCreated hook: the new rollapp's gauge has the fresh id, which no vote weighs yet -/
theorem addRollapp_world {s s1 : State} {r' : Nat} (w : World s) (h : s.addRollapp r' = .ok s1) : World s1 := by
  have hshare := fun r gid hg hs => addRollapp_share (r := r) (gid := gid) h hg hs
  obtain ⟨hnone, rfl⟩ := addRollapp_ok h
  have hnone' : s.endorsements.find? (·.r == r') = none := hnone
  -- lookups in the two extended tables
  have hra : ∀ g, raOf (s.gauges ++ [({ id := s.lastGauge + 1, kind := .rollapp r', perpetual := true } : Gauge)]) g
      = if g = s.lastGauge + 1 then some r' else raOf s.gauges g := by
    intro g
    rw [raOf_append]
    by_cases hg : g = s.lastGauge + 1
    · rw [hg, find_none_of_bound w.bound, if_pos rfl, if_pos rfl]; rfl
    · rw [if_neg hg]
      cases hf : s.gauges.find? (·.id == g) with
      | some x => rfl
      | none => rw [raOf_eq_kindRa, hf]; exact if_neg (Ne.symm hg)
  have hen := find_append_fresh s.endorsements ⟨r', s.lastGauge + 1, 0, 0⟩ hnone'
  refine ⟨bound_append w _ rfl, fun gid r hgr => ?_, fun r e he => ?_,
    fun x hx wt hw => Nat.le_succ_of_le (w.wbound x hx wt hw)⟩
  · have hgr' := (hra gid).symm.trans hgr
    show ((s.endorsements ++ [(⟨r', s.lastGauge + 1, 0, 0⟩ : Endorsement)]).find? (·.r == r)).isSome
    rw [hen]
    by_cases hr : r = r'
    · rw [if_pos hr]; rfl
    · rw [if_neg hr]
      split at hgr'
      · exact absurd (Option.some.inj hgr').symm hr
      · exact w.ra_endo gid r hgr'
  · have he' := (hen r).symm.trans he
    by_cases hr : r = r'
    · rw [if_pos hr] at he'; cases he'; subst hr
      refine ⟨⟨fun g => ?_, ?_⟩, ?_⟩
      · show raOf (s.gauges ++ [_]) g = some r ↔ g = s.lastGauge + 1
        rw [hra]
        refine ⟨fun h1 => ?_, fun h1 => if_pos h1⟩
        split at h1
        · assumption
        · have := w.ra_endo g r h1
          rw [hnone] at this; cases this
      · show ((s.endorsements ++ [_]).find? (fun e : Endorsement => e.r == r)).isSome
        rw [hen, if_pos rfl]; rfl
      · show totalOf (s.endorsements ++ [_]) r = vsum (fun v => v.pow (s.lastGauge + 1)) s.votes
        unfold totalOf
        rw [hen, if_pos rfl]
        exact (vsum_pow_fresh (fun x hx wt hw => Nat.ne_of_lt (Nat.lt_succ_of_le (w.wbound x hx wt hw)))).symm
    · rw [if_neg hr] at he'
      have := w.endo r e he'
      have := hshare r e.gaugeId this.1 this.2
      exact ⟨this.2, this.1⟩

theorem step_world {s : State} {op : Op} (wf : WF s) (w : World s) : World (step s op).1 := by
  by_cases ha : isAdd op = true
  · refine step_cases (P := World) s op w ?_
    cases op with
    | addGauge g => exact fun s1 h => addGauge_world w h
    | addRollapp r' => exact fun s1 h => addRollapp_world w h
    | _ => cases ha
  · have hf := step_frame0 (s := s) (op := op) (by simpa using ha)
    refine ⟨fun i hi => ?_, fun gid r hra => ?_, fun r e he => ?_, fun x hx wt hw => ?_⟩
    · rw [hf.ids] at hi
      rw [hf.last]
      exact w.bound i hi
    · rw [raOf_of_gk0 hf.gk] at hra
      rw [endo_isSome_of_ek hf.ek]
      exact w.ra_endo gid r hra
    · obtain ⟨e0, he0, hk⟩ := some_of_map_eq (hf.ek r).symm he
      have := step_share (op := op) wf (w.endo r e0 he0).1 (w.endo r e0 he0).2
      rw [← (Prod.mk.inj hk).2]
      exact ⟨this.2, this.1⟩
    · rw [hf.last]
      exact step_votesAll (op := op) (n := s.lastGauge) w.bound (Nat.le_refl _) w.wbound x hx wt hw

end DymVerif.Spons
