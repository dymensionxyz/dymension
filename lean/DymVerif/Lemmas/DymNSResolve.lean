/-
  Lemmas/DymNSResolve — forward and reverse resolution against the records.
-/
import DymVerif.Lemmas.DymNSInv
namespace DymVerif.DymNS
open AMap

theorem addr_ext {x y : Addr} (h1 : x.hrp = y.hrp) (h2 : x.acct = y.acct) : x = y := by
  cases x; cases y; simp only at h1 h2; rw [h1, h2]

theorem mem_revConfigs_of_mem {d : DymName} {c : Config} (h : c ∈ d.configs) : c ∈ d.revConfigs := by
  unfold DymName.revConfigs
  split
  · exact h
  · exact List.mem_append_left _ h

/-- a config the reverse mapping works on is a stored one, or the implicit default record of a name
    without an explicit one -/
theorem of_mem_revConfigs {d : DymName} {c : Config} (h : c ∈ d.revConfigs) :
    c ∈ d.configs ∨ (d.configs.any Config.isDefault = false ∧ c = ⟨0, 0, hostAddr d.owner⟩) := by
  unfold DymName.revConfigs at h
  split at h
  · exact Or.inl h
  · rename_i hnd
    rcases List.mem_append.mp h with h | h
    · exact Or.inl h
    · exact Or.inr ⟨by simpa using hnd, by simpa using h⟩

theorem mem_liveNames {s : State} {l : List Name} {n : Name} {d : DymName} (hn : n ∈ l)
    (hl : getNameLive s n = some d) : (n, d) ∈ liveNames s l := by
  unfold liveNames
  rw [List.mem_filterMap]
  exact ⟨n, hn, by simp [hl]⟩

theorem of_mem_liveNames {s : State} {l : List Name} {n : Name} {d : DymName} (h : (n, d) ∈ liveNames s l) :
    n ∈ l ∧ getNameLive s n = some d := by
  unfold liveNames at h
  rw [List.mem_filterMap] at h
  obtain ⟨m, hm, he⟩ := h
  cases hg : getNameLive s m with
  | none => simp [hg] at he
  | some d' =>
    simp only [hg, Option.map_some, Option.some.injEq, Prod.mk.injEq] at he
    obtain ⟨rfl, rfl⟩ := he
    exact ⟨hm, hg⟩

/-- **reverse resolution is complete for the stored address records**: every record
    `path.name@chain -> value` of a live name is found when `value` is reverse-resolved on `chain` -/
theorem revByConfig_complete {s : State} (hI : IdxOK s.ns) {n : Name} {d : DymName} {c : Config}
    (hl : getNameLive s n = some d) (hc : c ∈ d.configs) : (c.path, n) ∈ revByConfig s c.value (cfgText c.chain) := by
  have hd : getName s n = some d := by
    unfold getNameLive at hl
    cases hg : getName s n with
    | none => simp [hg] at hl
    | some d' =>
      simp only [hg] at hl
      split at hl
      · cases hl
      · injection hl with hl; subst hl; rfl
  have hr := mem_revConfigs_of_mem hc
  have hidx : n ∈ s.ns.cfgIdx.lookup c.value :=
    (hI.cfg c.value n).mpr ⟨d, hd, List.mem_map.mpr ⟨c, hr, rfl⟩⟩
  unfold revByConfig
  rw [List.mem_flatMap]
  refine ⟨(n, d), mem_liveNames hidx hl, ?_⟩
  simp only [List.mem_map, List.mem_filter]
  exact ⟨c, ⟨hr, by simp⟩, rfl⟩

theorem reverse_complete {s : State} (hI : IdxOK s.ns) {n : Name} {d : DymName} {c : Config}
    (hl : getNameLive s n = some d) (hc : c ∈ d.configs) :
    (c.path, n, prettyChain s (cfgText c.chain)) ∈ reverse s c.value (cfgText c.chain) := by
  have h := revByConfig_complete hI hl hc
  have hne : (revByConfig s c.value (cfgText c.chain)).isEmpty = false := by
    cases hx : revByConfig s c.value (cfgText c.chain) with
    | nil => rw [hx] at h; cases h
    | cons a l => rfl
  unfold reverse reverseRaw
  simp only [hne, Bool.not_false, if_true]
  exact List.mem_map.mpr ⟨(c.path, n), h, rfl⟩

/-! ### soundness of the configured-address stage -/

theorem prettyChain_chain {s : State} {wc c : Chain} (h : prettyChain s wc = .chain c) : c = wc := by
  unfold prettyChain at h
  split at h
  · cases h
  · injection h with h; exact h.symm

/-- the identities (chain, path) of the stored records are pairwise distinct — what
    `DymName.Validate` enforces on every write -/
def CfgUniq (d : DymName) : Prop :=
  ∀ c ∈ d.configs, ∀ c' ∈ d.configs, c.chain = c'.chain → c.path = c'.path → c = c'

theorem findConfig_of_mem {d : DymName} {c : Config} (hU : CfgUniq d) (hc : c ∈ d.configs) :
    findConfig d c.chain c.path = some c.value := by
  unfold findConfig
  cases hf : d.configs.find? (sameId · c.chain c.path) with
  | none =>
    have := List.find?_eq_none.mp hf c hc
    simp [sameId] at this
  | some c0 =>
    have hm := List.mem_of_find?_eq_some hf
    have hp := List.find?_some hf
    simp only [sameId, Bool.decide_and, Bool.and_eq_true, decide_eq_true_eq] at hp
    have := hU c0 hm c hc hp.1 hp.2
    subst this; rfl

theorem findConfig_none_of_no_default {d : DymName} (h : d.configs.any Config.isDefault = false) :
    findConfig d 0 0 = none := by
  unfold findConfig
  have : d.configs.find? (sameId · 0 0) = none := by
    rw [List.find?_eq_none]
    intro c hc
    have := List.any_eq_false.mp h c hc
    simpa [sameId, Config.isDefault] using this
  rw [this]; rfl

/-- a candidate of the configured-address stage comes from a record of a live name -/
theorem of_mem_revByConfig {s : State} {addr : Addr} {wc : Chain} {p : Path} {n : Name}
    (h : (p, n) ∈ revByConfig s addr wc) :
    ∃ d c, getNameLive s n = some d ∧ c ∈ d.revConfigs ∧ c.value = addr ∧ cfgText c.chain = wc ∧ c.path = p := by
  unfold revByConfig at h
  rw [List.mem_flatMap] at h
  obtain ⟨⟨m, d⟩, hl, hm⟩ := h
  simp only [List.mem_map, List.mem_filter, decide_eq_true_eq, Prod.mk.injEq] at hm
  obtain ⟨c, ⟨hc, hv, hch⟩, hp, rfl⟩ := hm
  exact ⟨d, c, (of_mem_liveNames hl).2, hc, hv, hch, hp⟩

/-- forward resolution of `path.name@c` for a live record `d` once the handle is known to stand for chain `c`:
    the stored record, else the default rule -/
def resolveOn (s : State) (d : DymName) (c : Chain) (path : Path) : Option Addr :=
  match findConfig d c path with
  | some v => some v
  | none =>
    if path ≠ 0 then none
    else if c = 0 then some (hostAddr d.owner)
    else if !isRollapp s c then none
    else if rollappHrp s c = 0 then none
    else some ⟨rollappHrp s c, match findConfig d 0 0 with | some v => v.acct | none => d.owner⟩

/-- through the pretty handle of `wc`, forward resolution works on chain `wc` -/
theorem resolve_pretty {s : State} {p : Path} {n : Name} {d : DymName} {wc : Chain} (hl : getNameLive s n = some d)
    (hH : handleChain s (prettyChain s wc) = some wc) : resolve s p n (prettyChain s wc) = resolveOn s d wc p := by
  unfold resolve resolveOn
  simp only [hl]
  cases hh : prettyChain s wc with
  | chain c' =>
    have := prettyChain_chain hh; subst this
    rw [hh] at hH
    simp only [hH]
    cases hf : findConfig d c' p <;> simp only [hf] <;> rfl
  | alias l =>
    rw [hh] at hH
    simp only [hH]
    rfl

/-- no address record of the name is stored under the literal host chain-id (`hostLit`) -/
def NoLitName (s : State) (n : Name) : Prop :=
  ∀ d, getNameLive s n = some d → ∀ c ∈ d.configs, c.chain ≠ hostLit

/-- **candidates found through a stored record resolve back to the queried address** (given that
    the pretty handle of the working chain translates back to it) — *provided* the record is not one
    stored under the literal host chain-id (`hNL`), which only a chain-id migration onto the host
    chain-id can create: forward resolution never looks such a record up -/
theorem revByConfig_sound {s : State} {addr : Addr} {wc : Chain} {p : Path} {n : Name}
    (hU : ∀ d, getNameLive s n = some d → CfgUniq d)
    (hNL : NoLitName s n)
    (hH : handleChain s (prettyChain s wc) = some wc)
    (h : (p, n) ∈ revByConfig s addr wc) : resolve s p n (prettyChain s wc) = some addr := by
  obtain ⟨d, c, hl, hc, rfl, hch, rfl⟩ := of_mem_revByConfig h
  have hcl : c.chain ≠ hostLit := by
    rcases of_mem_revConfigs hc with hc | ⟨_, rfl⟩
    · exact hNL d hl c hc
    · simp [hostLit]
  have hcw : c.chain = wc := by rw [← hch]; simp [cfgText, hcl]
  subst hcw
  have hu := hU d hl
  -- the record found at (chain, path) of c is c's value, or c is the implicit default record
  have key : findConfig d c.chain c.path = some c.value ∨
      (findConfig d c.chain c.path = none ∧ c.chain = 0 ∧ c.path = 0 ∧ c.value = hostAddr d.owner) := by
    rcases of_mem_revConfigs hc with hc | ⟨hnd, rfl⟩
    · exact Or.inl (findConfig_of_mem hu hc)
    · exact Or.inr ⟨findConfig_none_of_no_default hnd, rfl, rfl, rfl⟩
  rw [resolve_pretty hl hH]
  unfold resolveOn
  rcases key with hk | ⟨hk, h0, hp0, hv⟩
  · simp [hk]
  · rw [h0, hp0] at hk
    simp [hk, hp0, h0, hv]

/-! ### the fallback stage -/

theorem of_mem_revByFallback {s : State} {addr : Addr} {p : Path} {n : Name} (h : (p, n) ∈ revByFallback s addr) :
    p = 0 ∧ ∃ d, getNameLive s n = some d ∧ ∃ c ∈ d.revConfigs, c.isDefault = true ∧ c.value.acct = addr.acct := by
  unfold revByFallback at h
  rw [List.mem_filterMap] at h
  obtain ⟨⟨m, d⟩, hl, hm⟩ := h
  cases hf : d.revConfigs.filter (fun c => c.isDefault ∧ c.value.acct = addr.acct) with
  | nil => simp only [hf, List.isEmpty_nil, if_true] at hm; cases hm
  | cons c rest =>
    simp only [hf, List.isEmpty_cons, Bool.false_eq_true, if_false, Option.some.injEq, Prod.mk.injEq] at hm
    obtain ⟨rfl, rfl⟩ := hm
    have hc : c ∈ d.revConfigs.filter (fun c => c.isDefault ∧ c.value.acct = addr.acct) := by rw [hf]; simp
    rw [List.mem_filter] at hc
    exact ⟨rfl, d, (of_mem_liveNames hl).2, c, hc.1, by simpa using hc.2⟩

/-- what the default rule of forward resolution starts from — the default record's value, else the owner's
    host address — is the value of the default record the reverse mapping works on -/
theorem default_value {d : DymName} {c : Config} (hU : CfgUniq d) (hc : c ∈ d.revConfigs) (hd : c.isDefault = true) :
    (findConfig d 0 0).getD (hostAddr d.owner) = c.value := by
  have hid : c.chain = 0 ∧ c.path = 0 := by simpa [Config.isDefault] using hd
  rcases of_mem_revConfigs hc with hc | ⟨hnd, rfl⟩
  · have := findConfig_of_mem hU hc
    rw [hid.1, hid.2] at this
    rw [this]; rfl
  · rw [findConfig_none_of_no_default hnd]; rfl

/-- the account the RollApp fallback converts: the default record's, else the owner's -/
theorem default_acct {d : DymName} {c : Config} (hU : CfgUniq d) (hc : c ∈ d.revConfigs) (hd : c.isDefault = true) :
    (match findConfig d 0 0 with | some v => v.acct | none => d.owner) = c.value.acct := by
  rw [← default_value hU hc hd]
  cases findConfig d 0 0 <;> rfl

/-- **the host-chain fallback stage is sound**: a fallback candidate on the host chain, queried with a
    host-format address, resolves back to it — given that host-chain records carry the host prefix (`hP`) -/
theorem revByFallback_host_sound {s : State} {addr : Addr} {p : Path} {n : Name}
    (hU : ∀ d, getNameLive s n = some d → CfgUniq d)
    (hP : ∀ d, getNameLive s n = some d → ∀ c ∈ d.configs, c.chain = 0 → c.value.hrp = 0)
    (hH : handleChain s (prettyChain s 0) = some 0)
    (hfmt : addr.hrp = 0)
    (h : (p, n) ∈ revByFallback s addr) : resolve s p n (prettyChain s 0) = some addr := by
  obtain ⟨rfl, d, hl, c, hc, hd, hacct⟩ := of_mem_revByFallback h
  have hid : c.chain = 0 ∧ c.path = 0 := by simpa [Config.isDefault] using hd
  have hh : c.value.hrp = 0 := by
    rcases of_mem_revConfigs hc with hc | ⟨_, rfl⟩
    · exact hP d hl c hc hid.1
    · rfl
  have key := default_value (hU d hl) hc hd
  rw [addr_ext (hh.trans hfmt.symm) hacct] at key
  rw [resolve_pretty hl hH]
  unfold resolveOn
  cases hf : findConfig d 0 0 <;> simpa [hf] using key

/-- **resolve_agree_partial (fallback stage)**: a fallback candidate on a RollApp that declares a
    bech32 prefix resolves back to the queried address — *provided* the name has no explicit record
    for that RollApp (`hNo`), the hypothesis the code as it is violates -/
theorem revByFallback_sound_partial {s : State} {addr : Addr} {wc : Chain} {p : Path} {n : Name}
    (hU : ∀ d, getNameLive s n = some d → CfgUniq d)
    (hH : handleChain s (prettyChain s wc) = some wc)
    (hwc : wc ≠ 0) (hR : isRollapp s wc = true) (hpre : rollappHrp s wc ≠ 0) (hfmt : addr.hrp = rollappHrp s wc)
    (hNo : ∀ d, getNameLive s n = some d → findConfig d wc 0 = none)
    (h : (p, n) ∈ revByFallback s addr) : resolve s p n (prettyChain s wc) = some addr := by
  obtain ⟨rfl, d, hl, c, hc, hd, hacct⟩ := of_mem_revByFallback h
  have hto := default_acct (hU d hl) hc hd
  have hno := hNo d hl
  rw [resolve_pretty hl hH]
  unfold resolveOn
  simp only [hno, ne_eq, not_true_eq_false, if_false, hwc, hR, Bool.not_true, Bool.false_eq_true, hpre, hto, hacct]
  exact congrArg some (addr_ext hfmt.symm rfl)

/-! ### the pretty handle of a chain translates back to the chain -/

/-- no alias is listed for two different chain-ids in the params (`validateAliasesOfChainIds`) -/
def ParamsWF (p : Params) : Prop :=
  ∀ r ∈ p.chainAliases, ∀ r' ∈ p.chainAliases, ∀ l, l ∈ r.2 → l ∈ r'.2 → r.1 = r'.1

theorem handle_roundtrip {s : State} (wc : Chain) (hP : ParamsWF s.p) (hA : AliasOK s.al) :
    handleChain s (prettyChain s wc) = some wc := by
  unfold prettyChain
  cases he : effectiveAliases s wc with
  | nil =>
    simp only
    unfold handleChain resolveHandle
    by_cases h0 : wc = 0
    · subst h0; simp
    · have hne : ¬ (Handle.chain wc = Handle.chain 0) := fun e => h0 (by injection e)
      simp only [hne, if_false]
      cases hf : s.p.chainAliases.find? (fun r => decide (Handle.chain wc = Handle.chain r.1) || false) with
      | none =>
        simp only
        cases hr : isRollapp s wc <;> simp
      | some r =>
        have := List.find?_some hf
        simp only [Bool.or_false, decide_eq_true_eq] at this
        injection this with this
        simp [this]
  | cons l rest =>
    simp only
    have hl : l ∈ effectiveAliases s wc := by rw [he]; simp
    unfold handleChain resolveHandle
    have hne : ¬ (Handle.alias l = Handle.chain 0) := fun e => by cases e
    simp only [hne, if_false]
    -- `l` is listed for `wc` in the params, or it is an unreserved alias of the RollApp `wc`
    have hcase : (∃ r0 ∈ s.p.chainAliases, r0.1 = wc ∧ l ∈ r0.2) ∨
        l ∈ (aliasesOf s wc).filter (fun l => !reserved s.p l) := by
      unfold effectiveAliases at hl
      cases hfp : s.p.chainAliases.find? (fun r => r.1 = wc) with
      | some r0 =>
        simp only [hfp] at hl
        by_cases hin : l ∈ r0.2
        · exact Or.inl ⟨r0, List.mem_of_find?_eq_some hfp, by simpa using List.find?_some hfp, hin⟩
        · split at hl
          · exact Or.inr ((List.mem_append.mp hl).resolve_left hin)
          · exact absurd hl hin
      | none =>
        simp only [hfp] at hl
        split at hl
        · exact Or.inr (by simpa using hl)
        · simp at hl
    rcases hcase with ⟨r0, hr0, hr0c, hin⟩ | hl'
    · cases hf : s.p.chainAliases.find? (fun r => decide (Handle.alias l = Handle.chain r.1) || r.2.contains l) with
      | none =>
        have := List.find?_eq_none.mp hf r0 hr0
        simp [hin] at this
      | some r1 =>
        have hin1 : l ∈ r1.2 := by simpa using List.find?_some hf
        have := hP r1 (List.mem_of_find?_eq_some hf) r0 hr0 l hin1 hin
        simp [this, hr0c]
    · rw [List.mem_filter] at hl'
      have hres : reserved s.p l = false := by simpa using hl'.2
      have hf : s.p.chainAliases.find? (fun r => decide (Handle.alias l = Handle.chain r.1) || r.2.contains l) = none := by
        rw [List.find?_eq_none]
        intro r hr
        have hres' : ∀ (a : Chain) (b : List AliasId), (a, b) ∈ s.p.chainAliases → ¬ l ∈ b := by
          simpa [reserved] using hres
        have := hres' r.1 r.2 hr
        simp [this]
      simp only [hf]
      have := (hA.iff l wc).mpr hl'.1
      simp [this]

end DymVerif.DymNS
