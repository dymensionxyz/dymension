/-
  Lemmas/CoreFinUpdate — `MsgUpdateState` keeps the finalization invariant: the new state is appended
  first, the sequencer hook (possibly a fork to the latest height, which prunes nothing) runs in
  between, and the new index is queued last under (hub height, rollapp).
-/
import DymVerif.Lemmas.CoreFinSame2
namespace DymVerif.Core

theorem pendingIdx_append (r : Rollapp) (new : SInfo) (hle : r.lastFin ≤ r.states.length) :
    pendingIdx { r with states := r.states ++ [new] } = pendingIdx r ++ [r.states.length + 1] := by
  unfold pendingIdx
  simp only [List.length_append, List.length_cons, List.length_nil]
  rw [show r.states.length + (0 + 1) - r.lastFin = (r.states.length - r.lastFin) + 1 by omega, List.range'_1_concat]
  congr 2
  omega

/-- the per-rollapp invariant after appending the new state and queueing its index -/
theorem update_core {s : St} {ra : Nat} {r : Rollapp} {new : SInfo} (hi : FinInv s) (hg : getRa s ra = some r)
    (hnf : new.finalized = false) (hch : new.creationHeight = s.h) :
    ∀ r2 ∈ (setRa s { r with states := r.states ++ [new] }).ras,
      RFin (queueAppend s.queue s.h ra (r.states.length + 1)) s.p.dispute r2 := by
  have hrid : r.id = ra := getRa_id hg
  have old := hi.ras r (getRa_mem hg)
  intro r2 hr2
  rcases mem_setRa_strong hr2 with ⟨hm, hne⟩ | heq
  · have hne' : r2.id ≠ ra := by rw [← hrid]; exact hne
    refine (hi.ras r2 hm).other (flat_queueAppend_other _ _ _ _ _ hne') (fun e he hra => ?_)
    rcases mem_queueAppend _ _ _ _ _ he with ⟨_, k2, _⟩ | hq
    · exact absurd (k2.symm.trans hra).symm hne'
    · exact hq
  · subst heq
    have hfl : flat s.queue ra = pendingIdx r := by rw [← hrid]; exact old.flat_eq
    have hb : ∀ e ∈ s.queue, e.ra = ra → e.ch ≤ s.h := fun e he _ => (hi.ent e he).1
    unfold RFin
    show RFinL (flat _ r.id) _ _ _
    rw [hrid, flat_queueAppend_same _ _ _ _ hi.sorted hb, hfl]
    refine ⟨?_, (pendingIdx_append r new old.le).symm, ?_, ?_, ?_⟩
    · show r.lastFin ≤ (r.states ++ [new]).length
      have := old.le; simp; omega
    · intro i st hst
      show st.finalized = true ↔ i < r.lastFin
      have hst : (r.states ++ [new])[i]? = some st := hst
      by_cases hlt : i < r.states.length
      · rw [List.getElem?_append_left hlt] at hst
        exact old.pre i st hst
      · have hi2 := getElem?_lt hst
        simp at hi2
        have : i = r.states.length := by omega
        subst this
        simp at hst; subst hst
        rw [hnf]
        have := old.le
        constructor
        · intro hx; cases hx
        · intro hx; omega
    · intro e he hra i hii
      show ∃ st, (r.states ++ [new])[i - 1]? = some st ∧ st.creationHeight = e.ch
      have hra : e.ra = ra := hra
      have hold : ∀ e0 ∈ s.queue, e0.ra = ra → i ∈ e0.idx →
          ∃ st, (r.states ++ [new])[i - 1]? = some st ∧ st.creationHeight = e0.ch := by
        intro e0 he0 hra0 hi0
        obtain ⟨st, hst, hc⟩ := old.ch e0 he0 (by rw [hra0, hrid]) i hi0
        exact ⟨st, by rw [List.getElem?_append_left (getElem?_lt hst)]; exact hst, hc⟩
      rcases mem_queueAppend _ _ _ _ _ he with ⟨k1, k2, _, k4⟩ | hq
      · rcases k4 i hii with h1 | ⟨e0, he0, j1, j2, j3⟩
        · subst h1
          exact ⟨new, by simp, hch.trans k1.symm⟩
        · obtain ⟨st, h1, h2⟩ := hold e0 he0 (by rw [j2]; exact hra) j3
          exact ⟨st, h1, by rw [h2, j1]⟩
      · exact hold e hq hra hii
    · intro st hm hf
      have hm : st ∈ r.states ++ [new] := hm
      rcases List.mem_append.1 hm with h1 | h1
      · exact old.notEarly st h1 hf
      · simp at h1; subst h1; rw [hnf] at hf; cases hf

theorem append_evolves {s : St} {ra : Nat} {r : Rollapp} {new : SInfo} (hn : IdsNodup s) (hg : getRa s ra = some r) :
    Evolves s (setRa s { r with states := r.states ++ [new] }) := by
  intro r0 hr0
  by_cases h0 : r0.id = r.id
  · have : r0 = r := hn.unique hr0 (getRa_mem hg) h0
    subst this
    refine ⟨_, mem_setRa_self (x := r0) hr0 rfl, rfl, ?_⟩
    intro i st hst _
    exact ⟨st, by
      show (r0.states ++ [new])[i]? = some st
      rw [List.getElem?_append_left (getElem?_lt hst)]; exact hst, rfl⟩
  · exact ⟨r0, mem_setRa_of_ne hr0 h0, rfl, fun i st hst _ => ⟨st, hst, rfl⟩⟩

theorem append_back {s : St} {r : Rollapp} {new : SInfo} (hnf : new.finalized = false) (hr : r ∈ s.ras) :
    Back s (setRa s { r with states := r.states ++ [new] }) := by
  intro r2 hr2 i st' hst' hf
  rcases mem_setRa_strong hr2 with ⟨hm, _⟩ | heq
  · exact ⟨r2, hm, rfl, st', hst', rfl⟩
  · subst heq
    refine ⟨r, hr, rfl, ?_⟩
    have hst' : (r.states ++ [new])[i]? = some st' := hst'
    by_cases hlt : i < r.states.length
    · rw [List.getElem?_append_left hlt] at hst'; exact ⟨st', hst', rfl⟩
    · have hi2 := getElem?_lt hst'
      simp at hi2
      have : i = r.states.length := by omega
      subst this
      simp at hst'; subst hst'
      rw [hnf] at hf; cases hf

theorem updateState_full {s s' : St} {m : UpdMsg} (e : updateState s m = .ok s') : Full s s' := by
  intro hc hi
  have hc' := updateState_chain hc e
  obtain ⟨r, s3, s4, r4, hvb, hg, _, _, _, hpre, _, h3, rfl, hg4, rfl⟩ := updateState_ok e
  have hrid : r.id = m.ra := getRa_id hg
  have hc2 : ChainAll (setRa s { r with states := r.states ++ [newSInfo s m (updSucc r m)] }) :=
    hc.setRa (chainClosed.append s m _ (hc.get hg) hvb hpre)
  have hq2 : QBound (setRa s { r with states := r.states ++ [newSInfo s m (updSucc r m)] }) := by
    intro r2 hr2 e he hra
    have he : e ∈ s.queue := he
    rcases mem_setRa_strong hr2 with ⟨hm, _⟩ | heq
    · exact hi.qbound r2 hm e he hra
    · subst heq
      have := hi.qbound r (getRa_mem hg) e he hra
      refine ⟨this.1, fun i hii => ?_⟩
      have := this.2 i hii
      show i ≤ (r.states ++ [_]).length
      simp; omega
  obtain ⟨p3, s23⟩ := seqAfterUpdate_fs h3 ⟨hi.nodup.setRa _, hc2, hq2⟩
  have hq3 : s3.queue = s.queue := s23.queue
  have hh3 : s3.h = s.h := s23.h
  have hp3 : s3.p = s.p := s23.p
  have hcore := update_core (new := newSInfo s m (updSucc r m)) hi hg rfl rfl
  have hi4 : FinInv { s3 with queue := queueAppend s3.queue s3.h m.ra (r.states.length + 1),
                              seqH := addSeqHeights s3.seqH m.sender m.bds } := by
    refine ⟨p3.nodup.of_ids rfl, ?_, ?_, ?_, ?_⟩
    · exact queueAppend_sorted _ _ _ _ (by rw [hq3]; exact hi.sorted)
    · intro e he
      show e.ch ≤ s3.h ∧ e.idx ≠ []
      rcases mem_queueAppend _ _ _ _ _ he with ⟨k1, _, k3, _⟩ | hq
      · exact ⟨by rw [k1]; exact Nat.le_refl _, by intro hx; rw [hx] at k3; cases k3⟩
      · rw [hq3] at hq; rw [hh3]; exact hi.ent e hq
    · intro e he
      show e.ra ∈ s3.ras.map (·.id)
      rw [s23.ids, setRa_ids]
      rcases mem_queueAppend _ _ _ _ _ he with ⟨_, k2, _⟩ | hq
      · rw [k2, ← hrid]; exact List.mem_map.2 ⟨r, getRa_mem hg, rfl⟩
      · rw [hq3] at hq; exact hi.qra e hq
    · intro r5 hr5
      have hr5 : r5 ∈ s3.ras := hr5
      obtain ⟨r2, hr2, hk⟩ := s23.mem_back hr5
      show RFin (queueAppend s3.queue s3.h m.ra (r.states.length + 1)) s3.p.dispute r5
      rw [hq3, hh3, hp3]
      exact (hcore r2 hr2).congr hk.symm
  have hc4 : ChainAll { s3 with queue := queueAppend s3.queue s3.h m.ra (r.states.length + 1),
                                 seqH := addSeqHeights s3.seqH m.sender m.bds } := p3.chain.ras_eq rfl
  obtain ⟨_, s45⟩ := indicateLiveness_fs hg4 (hi4.pre hc4)
  refine ⟨⟨hc', hi4.same s45, ?_, s45.p.trans hp3⟩, ?_⟩
  · exact (append_evolves hi.nodup hg).trans (s23.evolves.trans
      ((Evolves.of_ras_eq (s := s3) rfl).trans s45.evolves))
  · exact (append_back rfl (getRa_mem hg)).trans (s23.back.trans
      ((Back.of_ras_eq (s := s3) rfl).trans s45.back))

end DymVerif.Core
