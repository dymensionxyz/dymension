/-
  Lemmas/LCPhase — what one message does to the state, said once per phase of a transaction: the ante phase
  (`anteMsg_fst`) and the message phase (`execMsg_cases`).  The stand-alone op `LC.step` is the one-message transaction
  (`txStep_single`), so it is its ante phase followed, or not, by its message phase (`step_phases`); what an op that is
  not a Core op leaves alone (`Light`) is read off the two phases.
-/
import DymVerif.Lemmas.LCTx
namespace DymVerif.LC
open DymVerif.Core (Addr NextP)

/-- the ante phase of one message: nothing, or the signer of an optimistic header recorded, or the canonical channel
    of a rollapp recorded -/
theorem anteMsg_fst (s : St) (m : Op) :
    (anteMsg s m).1 = s ∨ (∃ c hd ibc a, m = .updateClient c .top hd ibc ∧ (anteMsg s m).1 = saveSigner s c hd.h a) ∨
    ∃ ch ibc c r, m = .chanAck ch .ack ibc ∧ s.chans.find? (·.id == ch) = some c ∧ lookup s.c2r c.client = some r ∧
      (anteMsg s m).1 = { s with chanOf := s.chanOf ++ [(r, ch)] } := by
  cases m with
  | updateClient c w hd ibc =>
    cases w with
    | top =>
      rcases handleUpdate_fst (oe := (handleUpdate s c hd).2) rfl with e | ⟨a, e⟩
      · exact .inl e
      · exact .inr (.inl ⟨c, hd, ibc, a, rfl, e⟩)
    | _ => exact .inl rfl
  | misbehaviour c k ibc =>
    left
    generalize hx : anteMsg s (.misbehaviour c k ibc) = x
    unfold anteMsg at hx; dsimp only at hx
    cases hcl : getClient s c with
    | none => rw [hcl] at hx; subst hx; rfl
    | some cl =>
      rw [hcl] at hx
      cases k <;> dsimp only at hx <;> first | (subst hx; rfl) | (rcases ite_eq_cases hx with ⟨-, rfl⟩ | ⟨-, rfl⟩ <;> rfl)
  | chanAck ch w ibc =>
    cases w with
    | ack =>
      generalize hx : anteMsg s (.chanAck ch .ack ibc) = x
      unfold anteMsg at hx; dsimp only at hx
      cases hf : s.chans.find? (·.id == ch) with
      | none => rw [hf] at hx; subst hx; exact .inl rfl
      | some c =>
        rw [hf] at hx; dsimp only at hx
        cases hl : lookup s.c2r c.client with
        | none => rw [hl] at hx; subst hx; exact .inl rfl
        | some r =>
          rw [hl] at hx
          rcases ite_eq_cases hx with ⟨-, rfl⟩ | ⟨-, rfl⟩
          · exact .inl rfl
          · exact .inr (.inr ⟨ch, ibc, c, r, rfl, hf, hl, rfl⟩)
    | _ => exact .inl rfl
  | _ => exact .inl rfl

/-- the message phase: a Core op, a client creation and a designation are the stand-alone ops; every other message
    rewrites the channel table, stores a header in a client or freezes a client -/
theorem execMsg_cases (s : St) (m : Op) :
    (execMsg s m = step s m ∧ ((∃ o ds, m = .core o ds) ∨ (∃ ch p h c, m = .createClient ch p h c) ∨ ∃ c, m = .setCanonical c)) ∨
    (∃ cs, (execMsg s m).1 = { s with chans := cs }) ∨
    ∃ c cl, getClient s c = some cl ∧
      ((∃ hd ibc, m = .updateClient c .top hd ibc ∧ (execMsg s m).1 = setClient s (ibcApply cl hd)) ∨
       (∃ k ibc, m = .misbehaviour c k ibc ∧ (execMsg s m).1 = setClient s { cl with frozen := true })) := by
  cases m with
  | core o ds => exact .inl ⟨rfl, .inl ⟨o, ds, rfl⟩⟩
  | createClient ch p h c => exact .inl ⟨rfl, .inr (.inl ⟨ch, p, h, c, rfl⟩)⟩
  | setCanonical c => exact .inl ⟨rfl, .inr (.inr ⟨c, rfl⟩)⟩
  | chanInit c => obtain ⟨cs, e⟩ := chanInit_fst s c; exact .inr (.inl ⟨cs, e⟩)
  | updateClient c w hd ibc =>
    cases w with
    | top =>
      generalize hx : execMsg s (.updateClient c .top hd ibc) = x
      unfold execMsg at hx; dsimp only at hx
      cases hcl : getClient s c with
      | none => rw [hcl] at hx; subst hx; exact .inr (.inl ⟨_, rfl⟩)
      | some cl =>
        rw [hcl] at hx
        rcases ite_eq_cases hx with ⟨-, rfl⟩ | ⟨-, rfl⟩
        · exact .inr (.inr ⟨c, cl, hcl, .inl ⟨hd, ibc, rfl, rfl⟩⟩)
        · exact .inr (.inl ⟨_, rfl⟩)
    | _ => exact .inr (.inl ⟨_, rfl⟩)
  | misbehaviour c k ibc =>
    generalize hx : execMsg s (.misbehaviour c k ibc) = x
    unfold execMsg at hx; dsimp only at hx
    cases hcl : getClient s c with
    | none => rw [hcl] at hx; subst hx; exact .inr (.inl ⟨_, rfl⟩)
    | some cl =>
      rw [hcl] at hx
      -- the evidence freezes the client if it verifies and came by one of the two top-level routes
      cases ibc <;> cases k <;> subst hx <;>
        first
        | exact .inr (.inl ⟨_, rfl⟩)
        | exact .inr (.inr ⟨c, cl, hcl, .inr ⟨_, _, rfl, rfl⟩⟩)
  | chanAck ch w ibc =>
    generalize hx : execMsg s (.chanAck ch w ibc) = x
    unfold execMsg at hx; dsimp only at hx
    cases hf : s.chans.find? (·.id == ch) with
    | none => rw [hf] at hx; cases w <;> subst hx <;> exact .inr (.inl ⟨_, rfl⟩)
    | some c => rw [hf] at hx; rcases ite_eq_cases hx with ⟨-, rfl⟩ | ⟨-, rfl⟩ <;> exact .inr (.inl ⟨_, rfl⟩)

/-- a stand-alone op is its ante phase followed (or not) by its message phase -/
theorem step_phases (s : St) (op : Op) :
    (step s op).1 = s ∨ (step s op).1 = (anteMsg s op).1 ∨ (step s op).1 = (execMsg (anteMsg s op).1 op).1 := by
  rw [← txStep_single, txStep_one]
  cases nestedRefusal s op with
  | some e => exact .inl rfl
  | none =>
    cases signerRefusal s op with
    | some e => exact .inl rfl
    | none =>
      dsimp only
      rcases anteMsg s op with ⟨s1, _ | e⟩
      · dsimp only
        rcases execMsg s1 op with ⟨s2, _ | _ | _⟩
        · exact .inr (.inr rfl)
        · exact .inr (.inl rfl)
        · exact .inr (.inl rfl)
      · exact .inl rfl

theorem anteMsg_frame (s : St) (m : Op) : Frame s (anteMsg s m).1 ∧ (anteMsg s m).1.clients = s.clients := by
  rcases anteMsg_fst s m with e | ⟨_, _, _, _, _, e⟩ | ⟨_, _, _, _, _, _, _, e⟩ <;> rw [e] <;> exact ⟨⟨rfl, rfl, rfl, rfl⟩, rfl⟩

theorem anteAll_frame : ∀ (ms : List Op) (s : St), Frame s (anteAll s ms).1 ∧ (anteAll s ms).1.clients = s.clients
  | [], s => ⟨Frame.refl s, rfl⟩
  | m :: ms, s => by
    unfold anteAll
    cases h : anteMsg s m with
    | mk s1 oe =>
      cases oe with
      | some e => exact ⟨Frame.refl s, rfl⟩
      | none =>
        simp only
        have h1 := anteMsg_frame s m
        rw [h] at h1
        have h2 := anteAll_frame ms s1
        exact ⟨h1.1.trans h2.1, h2.2.trans h1.2⟩

/-- what a message that is not a Core op does, in either phase: descriptors and rollapp side stay, the designation maps and
    the canonical-channel map grow at their ends, signer records are only added -/
structure Light (s s' : St) : Prop where
  descs : s'.descs = s.descs
  core : s'.core = s.core
  maps : ∃ l1 l2 l3, s'.r2c = s.r2c ++ l1 ∧ s'.c2r = s.c2r ++ l2 ∧ s'.chanOf = s.chanOf ++ l3
  signers : ∀ t ∈ s.signerSet, t ∈ s'.signerSet

theorem Light.of_eq {s s' : St} (e1 : s'.descs = s.descs) (e2 : s'.core = s.core) (e3 : s'.r2c = s.r2c) (e4 : s'.c2r = s.c2r)
    (e5 : s'.chanOf = s.chanOf) (e6 : s'.signerSet = s.signerSet) : Light s s' :=
  ⟨e1, e2, ⟨[], [], [], by rw [e3, List.append_nil], by rw [e4, List.append_nil], by rw [e5, List.append_nil]⟩, fun t ht => e6 ▸ ht⟩

theorem Light.trans {a b c : St} (h1 : Light a b) (h2 : Light b c) : Light a c := by
  obtain ⟨l1, l2, l3, e1, e2, e3⟩ := h1.maps
  obtain ⟨m1, m2, m3, f1, f2, f3⟩ := h2.maps
  exact ⟨h2.descs.trans h1.descs, h2.core.trans h1.core,
    ⟨l1 ++ m1, l2 ++ m2, l3 ++ m3, by rw [f1, e1, List.append_assoc], by rw [f2, e2, List.append_assoc], by rw [f3, e3, List.append_assoc]⟩,
    fun t ht => h2.signers t (h1.signers t ht)⟩

theorem anteMsg_light (s : St) (m : Op) : Light s (anteMsg s m).1 := by
  rcases anteMsg_fst s m with e | ⟨_, _, _, _, _, e⟩ | ⟨_, _, _, _, _, _, _, e⟩ <;> rw [e]
  · exact .of_eq rfl rfl rfl rfl rfl rfl
  · exact ⟨rfl, rfl, ⟨[], [], [], (List.append_nil _).symm, (List.append_nil _).symm, (List.append_nil _).symm⟩, saveSigner_sub s _ _ _⟩
  · exact ⟨rfl, rfl, ⟨[], [], [_], (List.append_nil _).symm, (List.append_nil _).symm, rfl⟩, fun _ ht => ht⟩

theorem execMsg_light (s : St) (m : Op) (hop : ∀ o ds, m ≠ .core o ds) : Light s (execMsg s m).1 := by
  rcases execMsg_cases s m with ⟨e, ⟨o, ds, rfl⟩ | ⟨_, _, _, _, rfl⟩ | ⟨c, rfl⟩⟩ | ⟨_, e⟩ | ⟨_, _, _, ⟨_, _, _, e⟩ | ⟨_, _, _, e⟩⟩
  · exact absurd rfl (hop o ds)
  · exact .of_eq rfl rfl rfl rfl rfl rfl
  · rw [e, step_setCanonical_fst]
    rcases setCanonical_cases s c with ⟨_, e⟩ | ⟨_, _, _, _, _, _, _, e⟩ <;> rw [e]
    · exact .of_eq rfl rfl rfl rfl rfl rfl
    · exact ⟨rfl, rfl, ⟨[_], [_], [], rfl, rfl, (List.append_nil _).symm⟩, fun _ ht => ht⟩
  all_goals rw [e]; exact .of_eq rfl rfl rfl rfl rfl rfl

theorem step_light (s : St) (op : Op) (hop : ∀ o ds, op ≠ .core o ds) : Light s (step s op).1 := by
  rcases step_phases s op with e | e | e <;> rw [e]
  · exact .of_eq rfl rfl rfl rfl rfl rfl
  · exact anteMsg_light s op
  · exact (anteMsg_light s op).trans (execMsg_light _ op hop)

/-- only a Core op touches the descriptor table and the rollapp side -/
theorem step_descs_core (s : St) (op : Op) (hop : ∀ o ds, op ≠ .core o ds) :
    (step s op).1.descs = s.descs ∧ (step s op).1.core = s.core :=
  ⟨(step_light s op hop).descs, (step_light s op hop).core⟩

/-- only a Core op removes a signer record -/
theorem step_signers_sub (s : St) (op : Op) (hop : ∀ o ds, op ≠ .core o ds) (t : Addr × Nat × Nat) (ht : t ∈ s.signerSet) :
    t ∈ (step s op).1.signerSet := (step_light s op hop).signers t ht

/-- an op leaves the designation maps and the canonical-channel map alone or appends to them -/
theorem step_maps (s : St) (op : Op) :
    ∃ l1 l2 l3, (step s op).1.r2c = s.r2c ++ l1 ∧ (step s op).1.c2r = s.c2r ++ l2 ∧ (step s op).1.chanOf = s.chanOf ++ l3 := by
  by_cases hop : ∃ o ds, op = .core o ds
  · obtain ⟨o, ds, rfl⟩ := hop
    have h := shape_coreOp s o ds
    exact ⟨[], [], [], by rw [List.append_nil]; exact h.r2c, by rw [List.append_nil]; exact h.c2r, by rw [List.append_nil]; exact h.chanOf⟩
  · exact (step_light s op fun o ds e => hop ⟨o, ds, e⟩).maps

end DymVerif.LC
