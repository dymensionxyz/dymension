/-
  Lemmas/CoreLevSched — the liveness schedule.  The block end in closed form: `checkLiveness` / `endBlock`
  fire exactly the events queued at the current height, each rollapp rescheduled from its own countdown
  start, its proposer slashed once (`foldl_due`, `endBlock_liv`, `endBlock_slashed`, `endBlock_spared`).
  The timer invariant `Tm` (with consecutive blocks every event sits exactly at the next slash height of
  its rollapp, or — inside a block — at the current height) along runs (`run_lct`).  One idle block, and
  any number of idle blocks.
-/
import DymVerif.Lemmas.CoreLevFrame
namespace DymVerif.Core.LevNs

/-- an event is queued at the current height for a rollapp iff its record carries that height -/
theorem due_iff {s : St} (hl : Lev s) (hp : 1 ≤ s.h) {ra : Nat} {r : Rollapp} (hg : getRa s ra = some r) :
    (s.h, ra) ∈ s.lev ↔ r.evH = s.h := by
  constructor
  · intro hm; exact (hl.ev_height hg hm rfl).symm
  · intro he
    rcases hl.ra_ev r (getRa_mem hg) with h1 | h1
    · omega
    · rw [he, getRa_id hg] at h1; exact h1

/-- handling the events of distinct rollapps `ids`: exactly these rollapps are rescheduled, each from its own
    countdown start; a sequencer that proposes for at most `ra` is slashed once if `ra` is among them and it
    does propose for it, and is left alone otherwise.  (An event leaves height, parameters, the other records
    and every proposer as they are, so what the later events meet is what the closed form says.) -/
theorem foldl_due : ∀ (ids : List Nat) (x : St), ids.Nodup → Cust x →
    (∀ id, getRa (ids.foldl handleLivenessEvent x) id = if id ∈ ids then (getRa x id).map (fired x) else getRa x id) ∧
    (∀ a ra, Uniq x a ra →
      (∀ q, getSeq x a = some q → ra ∈ ids ∧ Proposes x a ra →
        getSeq (ids.foldl handleLivenessEvent x) a = some (slashOnce x.sqp q)) ∧
      (¬ (ra ∈ ids ∧ Proposes x a ra) → getSeq (ids.foldl handleLivenessEvent x) a = getSeq x a)) := by
  intro ids
  induction ids with
  | nil => intro x _ _; exact ⟨fun _ => rfl, fun _ _ _ => ⟨fun _ _ h => absurd h.1 List.not_mem_nil, fun _ => rfl⟩⟩
  | cons i ids ih =>
    intro x hn hc
    obtain ⟨hi, hn⟩ := List.nodup_cons.1 hn
    obtain ⟨hh, hp⟩ := handleLivenessEvent_hp x i
    have hfr := handleLivenessEvent_proposer x i
    obtain ⟨i1, i2⟩ := ih (handleLivenessEvent x i) hn (handleLivenessEvent_cust hc)
    rw [List.foldl_cons]
    constructor
    · intro id
      rw [i1 id, show fired (handleLivenessEvent x i) = fired x by unfold fired; rw [hh, pp_p hp]]
      by_cases hid : i = id
      · subst hid; rw [if_neg hi, if_pos List.mem_cons_self, handleLivenessEvent_getRa_self hc]
      · rw [handleLivenessEvent_getRa_other hid]
        simp only [List.mem_cons, show id ≠ i from fun e => hid e.symm, false_or]
    · intro a ra hu
      obtain ⟨j1, j2⟩ := i2 a ra (hu.frame hfr)
      rw [Proposes.frame hfr] at j1 j2
      rw [pp_sqp hp] at j1
      by_cases hP : ra = i ∧ Proposes x a ra
      · -- this event is the one that slashes `a`; no later one does
        obtain ⟨rfl, r, hg, hpr⟩ := hP
        refine ⟨fun q hq _ => ?_, fun h => absurd ⟨List.mem_cons_self, r, hg, hpr⟩ h⟩
        rw [j2 (fun h => hi h.1), (handleLivenessEvent_self hc hg hpr hq).1]
      · have hq' : getSeq (handleLivenessEvent x i) a = getSeq x a :=
          handleLivenessEvent_getSeq_ne (fun ⟨r, hg, hpr⟩ => hP ⟨(hu i r hg hpr).symm, hu i r hg hpr ▸ ⟨r, hg, hpr⟩⟩)
        have hiff : (ra ∈ i :: ids ∧ Proposes x a ra) ↔ (ra ∈ ids ∧ Proposes x a ra) :=
          ⟨fun h => ⟨(List.mem_cons.1 h.1).elim (fun e => absurd ⟨e, h.2⟩ hP) id, h.2⟩,
           fun h => ⟨List.mem_cons_of_mem _ h.1, h.2⟩⟩
        rw [hiff, ← hq']; exact ⟨j1, j2⟩

/-- **the block end on the rollapp records**: exactly the rollapps with an event queued at the current height
    are rescheduled, each from its own countdown start -/
theorem checkLiveness_getRa {s : St} (hl : Lev s) (hc : Cust s) (id : Nat) :
    getRa (checkLiveness s) id = if (s.h, id) ∈ s.lev then (getRa s id).map (fired s) else getRa s id := by
  rw [checkLiveness_eq, (foldl_due (due s) s (due_nodup hl) hc).1 id]
  simp only [mem_due]

/-- **the block end on a sequencer record**: a sequencer that proposes for no rollapp other than `ra` is
    slashed once if it proposes for `ra` and `ra`'s event is queued at the current height … -/
theorem checkLiveness_slashed {s : St} (hl : Lev s) (hc : Cust s) {a : Addr} {ra : Nat} {q : Seq} (hu : Uniq s a ra)
    (hq : getSeq s a = some q) (hm : (s.h, ra) ∈ s.lev) (hp : Proposes s a ra) :
    getSeq (checkLiveness s) a = some (slashOnce s.sqp q) := by
  rw [checkLiveness_eq]
  exact ((foldl_due (due s) s (due_nodup hl) hc).2 a ra hu).1 q hq ⟨mem_due.2 hm, hp⟩

/-- … and is left alone otherwise -/
theorem checkLiveness_spared {s : St} (hl : Lev s) (hc : Cust s) {a : Addr} {ra : Nat} (hu : Uniq s a ra)
    (h : ¬ ((s.h, ra) ∈ s.lev ∧ Proposes s a ra)) : getSeq (checkLiveness s) a = getSeq s a := by
  rw [checkLiveness_eq]
  exact ((foldl_due (due s) s (due_nodup hl) hc).2 a ra hu).2 (fun h' => h ⟨mem_due.1 h'.1, h'.2⟩)

/-- the liveness view after the event fired at the height of `s` -/
def firedLiv (s : St) (v : Nat × Nat × Option Addr) : Nat × Nat × Option Addr :=
  (nextSlashHeight s.p.lsBlocks s.p.lsInterval s.h v.2.1, v.2.1, v.2.2)

/-- **a block end on the liveness view of a rollapp**: fired iff its event is queued at the current height
    (finalization rewrites other fields of the records, so only the view has a closed form) -/
theorem endBlock_liv {s : St} (f : List (Nat × Nat)) (hl : Lev s) (hc : Cust s) (id : Nat) :
    (getRa (endBlock s f) id).map liv =
      if (s.h, id) ∈ s.lev then ((getRa s id).map liv).map (firedLiv s) else (getRa s id).map liv := by
  obtain ⟨ff, hf⟩ := finalizeRollappStates_frame s f
  unfold endBlock
  rw [checkLiveness_getRa (finalizeRollappStates_cl lev_closed hl) (hc.of_eq ff.seqs ff.modBal), hf, ff.lev, ← ff.ra id]
  split
  · rw [Option.map_map, Option.map_map]
    unfold firedLiv; rw [← pp_p ff.p, ← hf]; rfl
  · rfl

/-- **a block end on a sequencer that proposes at most for `ra`**: slashed once if it does and `ra`'s event is
    queued at the current height … -/
theorem endBlock_slashed {s : St} (f : List (Nat × Nat)) (hl : Lev s) (hc : Cust s) {a : Addr} {ra : Nat} {q : Seq}
    (hu : Uniq s a ra) (hq : getSeq s a = some q) (hm : (s.h, ra) ∈ s.lev) (hp : Proposes s a ra) :
    getSeq (endBlock s f) a = some (slashOnce s.sqp q) := by
  obtain ⟨ff, hf⟩ := finalizeRollappStates_frame s f
  unfold endBlock
  rw [checkLiveness_slashed (finalizeRollappStates_cl lev_closed hl) (hc.of_eq ff.seqs ff.modBal) (hu.frame ff.proposer)
    (by rw [ff.getSeq]; exact hq) (by rw [hf, ff.lev]; exact hm) ((Proposes.frame ff.proposer).2 hp), pp_sqp ff.p]

/-- … and left alone otherwise -/
theorem endBlock_spared {s : St} (f : List (Nat × Nat)) (hl : Lev s) (hc : Cust s) {a : Addr} {ra : Nat}
    (hu : Uniq s a ra) (h : ¬ ((s.h, ra) ∈ s.lev ∧ Proposes s a ra)) : getSeq (endBlock s f) a = getSeq s a := by
  obtain ⟨ff, hf⟩ := finalizeRollappStates_frame s f
  unfold endBlock
  rw [checkLiveness_spared (finalizeRollappStates_cl lev_closed hl) (hc.of_eq ff.seqs ff.modBal) (hu.frame ff.proposer)
    (by rw [hf, ff.lev, Proposes.frame ff.proposer]; exact h), ff.getSeq]

theorem endBlock_proposer (s : St) (f : List (Nat × Nat)) : RaFrame (·.proposer) s (endBlock s f) := by
  unfold endBlock; rw [checkLiveness_eq]
  exact foldl_inv (fun x : St => RaFrame (·.proposer) s x) _ _ _ (finalizeRollappStates_frame s f).1.proposer
    (fun b e hb => hb.trans (handleLivenessEvent_proposer b e))

/-- the timer of every rollapp: the countdown started in the past, and the event (if any) sits exactly at
    the next slash height — or, inside a block (`b = true`), at the current height, where the block end
    will fire it -/
structure Tm (b : Bool) (s : St) : Prop where
  iv : 1 ≤ s.p.lsInterval
  tm : ∀ r ∈ s.ras, r.cdStart ≤ s.h ∧
    (r.evH = 0 ∨ r.evH = nextSlashHeight s.p.lsBlocks s.p.lsInterval s.h r.cdStart ∨ (b = true ∧ r.evH = s.h))

theorem tm_closed (b : Bool) : LClosed (Tm b) :=
  (clock_closed (fun _ p => 1 ≤ p.lsInterval)
    (fun h p e c => c ≤ h ∧ (e = 0 ∨ e = nextSlashHeight p.lsBlocks p.lsInterval h c ∨ (b = true ∧ e = h)))
    (fun _ _ _ => ⟨Nat.le_refl _, Or.inr (Or.inl rfl)⟩) (fun _ _ => ⟨Nat.le_refl _, Or.inl rfl⟩)
    (fun _ _ => ⟨Nat.zero_le _, Or.inl rfl⟩)).congr (fun _ => ⟨fun h => ⟨h.iv, h.tm⟩, fun h => ⟨h.1, h.2⟩⟩)

theorem Tm.between {s : St} (h : Tm false s) {r : Rollapp} (hr : r ∈ s.ras) :
    r.evH = 0 ∨ r.evH = nextSlashHeight s.p.lsBlocks s.p.lsInterval s.h r.cdStart :=
  (h.tm r hr).2.imp id (fun h => h.elim id (fun h => nomatch h.1))

/-- events are never in the past, and between blocks strictly in the future -/
theorem Tm.future {b : Bool} {s : St} (h : Tm b s) {r : Rollapp} (hr : r ∈ s.ras) :
    r.evH = 0 ∨ s.h < r.evH ∨ (b = true ∧ r.evH = s.h) := by
  obtain ⟨hcd, h1 | h1 | h1⟩ := h.tm r hr
  · exact Or.inl h1
  · exact Or.inr (Or.inl (h1 ▸ nextSlashHeight_future s.p.lsBlocks s.p.lsInterval s.h r.cdStart h.iv hcd))
  · exact Or.inr (Or.inr h1)

/-- the height bump: an event one block away becomes due, every other one stays the next slash height -/
theorem beginBlock_tm {s : St} {dt : Nat} (h : Tm false s) : Tm true (beginBlock s dt) := by
  apply beginBlock_cl (tm_closed true)
  refine ⟨h.iv, fun r hr => ?_⟩
  obtain ⟨hcd, hev⟩ := h.tm r hr
  refine ⟨Nat.le_succ_of_le hcd, ?_⟩
  show r.evH = 0 ∨ r.evH = nextSlashHeight s.p.lsBlocks s.p.lsInterval (s.h + 1) r.cdStart ∨ (true = true ∧ r.evH = s.h + 1)
  have hfut := nextSlashHeight_future s.p.lsBlocks s.p.lsInterval s.h r.cdStart h.iv hcd
  rcases hev with h1 | h1 | ⟨h1, _⟩
  · exact Or.inl h1
  · by_cases hE : r.evH = s.h + 1
    · exact Or.inr (Or.inr ⟨rfl, hE⟩)
    · right; left
      rw [nextSlashHeight_stable _ _ _ _ h.iv hcd (by omega)]; exact h1
  · cases h1

/-- the block end fires every event of the current height: afterwards every event is at its next slash height -/
theorem checkLiveness_tm {s : St} {b : Bool} (hl : Lev s) (hc : Cust s) (hi : IdsNodup s) (h : Tm b s) :
    Tm false (checkLiveness s) := by
  have hi' : IdsNodup (checkLiveness s) := by
    rw [checkLiveness_eq]; exact foldl_inv IdsNodup _ _ _ hi (fun _ _ hb => handleLivenessEvent_ids hb)
  refine ⟨by rw [pp_p (checkLiveness_hp s).2]; exact h.iv, fun x hx => ?_⟩
  have hx := hi'.getRa_of_mem hx
  rw [checkLiveness_getRa hl hc] at hx
  rw [(checkLiveness_hp s).1, pp_p (checkLiveness_hp s).2]
  by_cases hm : (s.h, x.id) ∈ s.lev
  · rw [if_pos hm] at hx
    obtain ⟨r, hg, rfl⟩ := Option.map_eq_some_iff.1 hx
    exact ⟨(h.tm r (getRa_mem hg)).1, Or.inr (Or.inl rfl)⟩
  · rw [if_neg hm] at hx
    obtain ⟨hcd, h1 | h1 | ⟨_, h1⟩⟩ := h.tm x (getRa_mem hx)
    · exact ⟨hcd, Or.inl h1⟩
    · exact ⟨hcd, Or.inr (Or.inl h1)⟩
    · -- an event at the current height would be queued (`Lev`), hence fired
      exact ⟨hcd, Or.inl ((hl.ra_ev x (getRa_mem hx)).elim id (fun h2 => absurd (h1 ▸ h2) hm))⟩

theorem endBlock_tm {s : St} {b : Bool} {f : List (Nat × Nat)} (hl : Lev s) (hc : Cust s) (hi : IdsNodup s) (h : Tm b s) :
    Tm false (endBlock s f) := by
  obtain ⟨ff, _⟩ := finalizeRollappStates_frame s f
  unfold endBlock
  exact checkLiveness_tm (finalizeRollappStates_cl lev_closed hl) (hc.of_eq ff.seqs ff.modBal)
    (finalizeRollappStates_cl ids_closed hi) (finalizeRollappStates_cl (tm_closed b) h)

/-- what every reachable state carries; the timers as long as blocks were consecutive (`ph = some b`, `b`:
    inside a block) -/
structure LCT (s : St) (ph : Option Bool) : Prop where
  lev : Lev s
  cust : Cust s
  ids : IdsNodup s
  tm : ∀ b, ph = some b → Tm b s

theorem step_lct {s : St} {ph : Option Bool} {o : Op} (h : LCT s ph) : LCT (step s o).1 (phaseStep ph o) := by
  refine ⟨step_lev h.lev, step_cust h.cust, ?_, ?_⟩
  · unfold step; split
    · rename_i s' e; exact apply_ids h.ids e
    · exact h.ids
  intro b' hb'
  cases ph with
  | none => cases hb'
  | some b =>
    have ht := h.tm b rfl
    cases hm : o.isMsg with
    | true =>
      rw [phaseStep_msg hm] at hb'; obtain rfl : b = b' := Option.some.inj hb'
      unfold step; split
      · rename_i s' e; exact apply_msg_cl (tm_closed b) ht e hm
      · exact ht
    | false =>
      cases o with
      | begin_ dt =>
        cases b with
        | true => cases hb'
        | false => obtain rfl : true = b' := Option.some.inj hb'; exact beginBlock_tm ht
      | end_ f => obtain rfl : false = b' := Option.some.inj hb'; exact endBlock_tm h.lev h.cust h.ids ht
      | _ => cases hm

theorem run_lct (p : Params) (hI : 1 ≤ p.lsInterval) (ops : List Op) :
    LCT (run p ops) (ops.foldl phaseStep (some false)) := by
  unfold run
  suffices ∀ (s : St) (ph : Option Bool), LCT s ph → LCT (ops.foldl (fun s o => (step s o).1) s) (ops.foldl phaseStep ph) from
    this _ _ ⟨init_lev p, ⟨List.Pairwise.nil, rfl⟩, List.Pairwise.nil, fun _ _ => ⟨hI, fun r hr => nomatch hr⟩⟩
  induction ops with
  | nil => intro s ph h; exact h
  | cons o os ih => intro s ph h; exact ih _ _ (step_lct h)

/-- the proposer's record after the idle block that starts (between blocks) at height `H`:
    slashed iff the event computed at `H` is due at `H + 1` -/
def idleBlock (p : Params) (sp : SeqParams) (c H : Nat) (q : Seq) : Seq :=
  if nextSlashHeight p.lsBlocks p.lsInterval H c = H + 1 then slashOnce sp q else q

/-- the proposer's record after `k` idle blocks starting between blocks at height `H` -/
def idleSeq (p : Params) (sp : SeqParams) (c : Nat) : Nat → Nat → Seq → Seq
  | _, 0, q => q
  | H, k + 1, q => idleSeq p sp c (H + 1) k (idleBlock p sp c H q)

/-- between blocks, with consecutive blocks so far: rollapp `ra` has countdown start `c`, real proposer `a`
    (who proposes for no other rollapp) with record `q`, and its event at the next slash height -/
structure IdleInv (a : Addr) (ra c : Nat) (q : Seq) (s : St) : Prop where
  lct : LCT s (some false)
  uniq : Uniq s a ra
  ra : (getRa s ra).map liv = some (nextSlashHeight s.p.lsBlocks s.p.lsInterval s.h c, c, some a)
  seq : getSeq s a = some q

theorem step_end (s : St) (f : List (Nat × Nat)) : (step s (.end_ f)).1 = endBlock s f := rfl
theorem step_begin (s : St) (dt : Nat) : (step s (.begin_ dt)).1 = beginBlock s dt := rfl

theorem block_idle {a : Addr} {ra c : Nat} {q : Seq} {s : St} (dt : Nat) (f : List (Nat × Nat))
    (h : IdleInv a ra c q s) :
    IdleInv a ra c (idleBlock s.p s.sqp c s.h q) (endBlock (beginBlock s dt) f) ∧
    (endBlock (beginBlock s dt) f).h = s.h + 1 ∧ pp (endBlock (beginBlock s dt) f) = pp s := by
  obtain ⟨fb, hb⟩ := beginBlock_frame s dt
  have ht := h.lct.tm _ rfl
  have h1 := step_lct (o := .begin_ dt) h.lct
  rw [step_begin] at h1
  have h2 := step_lct (o := .end_ f) h1
  rw [step_end] at h2
  have u1 : Uniq (beginBlock s dt) a ra := h.uniq.frame fb.proposer
  have ra1 := (fb.ra ra).trans h.ra
  have seq1 : getSeq (beginBlock s dt) a = some q := by rw [fb.getSeq]; exact h.seq
  obtain ⟨r0, hg0, _, hcd0, _⟩ := map_liv_some h.ra
  have hcs : c ≤ s.h := by have := (ht.tm r0 (getRa_mem hg0)).1; rw [hcd0] at this; exact this
  have hfutE := nextSlashHeight_future s.p.lsBlocks s.p.lsInterval s.h c ht.iv hcs
  obtain ⟨r1, hg1, he1, _, hp1⟩ := map_liv_some ra1
  have hh : (endBlock (beginBlock s dt) f).h = s.h + 1 := (endBlock_hp _ f).1.trans hb
  have hpp : pp (endBlock (beginBlock s dt) f) = pp s := (endBlock_hp _ f).2.trans fb.p
  -- the event is due at this block's end iff the next slash height was the very next height
  have hdue : ((beginBlock s dt).h, ra) ∈ (beginBlock s dt).lev ↔
      nextSlashHeight s.p.lsBlocks s.p.lsInterval s.h c = s.h + 1 := by
    rw [due_iff h1.lev (by rw [hb]; exact Nat.le_add_left 1 s.h) hg1, he1, hb]
  refine ⟨⟨h2, u1.frame (endBlock_proposer _ f), ?_, ?_⟩, hh, hpp⟩
  · rw [endBlock_liv f h1.lev h1.cust ra, ra1, hh, pp_p hpp]
    by_cases hE : nextSlashHeight s.p.lsBlocks s.p.lsInterval s.h c = s.h + 1
    · rw [if_pos (hdue.2 hE)]; unfold firedLiv; rw [pp_p fb.p, hb]; rfl
    · rw [if_neg (mt hdue.1 hE), nextSlashHeight_stable _ _ _ _ ht.iv hcs (Nat.lt_of_le_of_ne hfutE (Ne.symm hE))]
  · unfold idleBlock
    by_cases hE : nextSlashHeight s.p.lsBlocks s.p.lsInterval s.h c = s.h + 1
    · rw [if_pos hE, endBlock_slashed f h1.lev h1.cust u1 seq1 (hdue.2 hE) ⟨r1, hg1, hp1⟩, pp_sqp fb.p]
    · rw [if_neg hE, endBlock_spared f h1.lev h1.cust u1 (fun h => hE (hdue.1 h.1)), seq1]

/-- `k` blocks without messages: `begin_ dt`, `end_ f` for each `(dt, f)` -/
def runBlocks (s : St) (bs : List (Nat × List (Nat × Nat))) : St :=
  bs.foldl (fun s b => endBlock (beginBlock s b.1) b.2) s

def blockOps (bs : List (Nat × List (Nat × Nat))) : List Op := bs.flatMap (fun b => [.begin_ b.1, .end_ b.2])

theorem runBlocks_eq_steps (bs : List (Nat × List (Nat × Nat))) (s : St) :
    (blockOps bs).foldl (fun s o => (step s o).1) s = runBlocks s bs := by
  induction bs generalizing s with
  | nil => rfl
  | cons b bs ih =>
    unfold blockOps runBlocks
    rw [List.flatMap_cons, List.foldl_append, List.foldl_cons, List.foldl_cons, List.foldl_nil, List.foldl_cons,
      step_begin, step_end]
    exact ih _

theorem runBlocks_cons (s : St) (b : Nat × List (Nat × Nat)) (bs : List (Nat × List (Nat × Nat))) :
    runBlocks s (b :: bs) = runBlocks (endBlock (beginBlock s b.1) b.2) bs := by
  unfold runBlocks; rw [List.foldl_cons]

theorem blocks_idle {a : Addr} {ra c : Nat} : ∀ (bs : List (Nat × List (Nat × Nat))) (s : St) (q : Seq),
    IdleInv a ra c q s →
    IdleInv a ra c (idleSeq s.p s.sqp c s.h bs.length q) (runBlocks s bs) ∧
    (runBlocks s bs).h = s.h + bs.length ∧ pp (runBlocks s bs) = pp s := by
  intro bs
  induction bs with
  | nil => intro s q h; exact ⟨h, rfl, rfl⟩
  | cons b bs ih =>
    intro s q h
    obtain ⟨h1, hh, hp⟩ := block_idle b.1 b.2 h
    obtain ⟨i1, ih2, ip⟩ := ih _ _ h1
    rw [hh, pp_p hp, pp_sqp hp] at i1
    rw [runBlocks_cons]
    exact ⟨i1, by rw [ih2, hh, List.length_cons, Nat.add_assoc, Nat.add_comm 1], ip.trans hp⟩

end DymVerif.Core.LevNs
