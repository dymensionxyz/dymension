/-
  Lemmas/LCInv — the designation maps of M-LC: the invariant that the two store maps are mutually inverse and point at
  existing clients of the right chain (`MapsInv`), through every message phase, op and transaction, with no side condition;
  and that an entry, once made, stays.
-/
import DymVerif.Lemmas.LCPhase
namespace DymVerif.LC
open DymVerif.Core (Addr NextP)

structure MapsInv (s : St) : Prop where
  c2r_r2c : ∀ c r, lookup s.c2r c = some r → lookup s.r2c r = some c
  r2c_c2r : ∀ r c, lookup s.r2c r = some c → lookup s.c2r c = some r
  canon_client : ∀ c r, lookup s.c2r c = some r → ∃ cl, getClient s c = some cl ∧ cl.chain = r

theorem MapsInv.of_shape {s s' : St} (h : MapsInv s) (hs : Shape s s') : MapsInv s' := by
  refine ⟨?_, ?_, ?_⟩
  · intro c r hc; rw [hs.c2r] at hc; rw [hs.r2c]; exact h.c2r_r2c c r hc
  · intro r c hr; rw [hs.r2c] at hr; rw [hs.c2r]; exact h.r2c_c2r r c hr
  · intro c r hc
    rw [hs.c2r] at hc
    obtain ⟨cl, g, e⟩ := h.canon_client c r hc
    obtain ⟨cl', g', e'⟩ := hs.client c cl g
    exact ⟨cl', g', e'.trans e⟩

theorem MapsInv.of_eq {s s' : St} (h : MapsInv s) (e1 : s'.r2c = s.r2c) (e2 : s'.c2r = s.c2r) (e3 : s'.clients = s.clients) : MapsInv s' := by
  refine ⟨?_, ?_, ?_⟩
  · intro c r hc; rw [e2] at hc; rw [e1]; exact h.c2r_r2c c r hc
  · intro r c hr; rw [e1] at hr; rw [e2]; exact h.r2c_c2r r c hr
  · intro c r hc
    rw [e2] at hc
    obtain ⟨cl, g, e⟩ := h.canon_client c r hc
    exact ⟨cl, by rw [getClient_congr e3]; exact g, e⟩

theorem mapsInv_setCanonical {s : St} (h : MapsInv s) (c : Nat) : MapsInv (setCanonical s c).1 := by
  rcases setCanonical_cases s c with ⟨_, e⟩ | ⟨cl, r, hcl, _, hnone, _, _, e⟩
  · rw [e]; exact h
  · rw [e]
    have hc2r_none : lookup s.c2r c = none := by
      cases hl : lookup s.c2r c with
      | none => rfl
      | some r0 =>
        obtain ⟨cl0, g0, e0⟩ := h.canon_client c r0 hl
        rw [hcl] at g0; cases g0
        have := h.c2r_r2c c r0 hl
        rw [← e0, hnone] at this
        exact absurd this (by simp)
    refine ⟨?_, ?_, ?_⟩
    · intro c' r' hc'
      rcases lookup_append_single_some hc' with ho | ⟨_, rfl, rfl⟩
      · exact lookup_append_left (h.c2r_r2c c' r' ho)
      · show lookup (s.r2c ++ [(cl.chain, c)]) cl.chain = some c
        rw [lookup_append_single hnone]; simp
    · intro r' c' hr'
      rcases lookup_append_single_some hr' with ho | ⟨_, rfl, rfl⟩
      · exact lookup_append_left (h.r2c_c2r r' c' ho)
      · show lookup (s.c2r ++ [(c, cl.chain)]) c = some cl.chain
        rw [lookup_append_single hc2r_none]; simp
    · intro c' r' hc'
      show ∃ cl', getClient s c' = some cl' ∧ cl'.chain = r'
      rcases lookup_append_single_some hc' with ho | ⟨_, rfl, rfl⟩
      · exact h.canon_client c' r' ho
      · exact ⟨cl, hcl, rfl⟩

theorem mapsInv_createClient {s : St} (h : MapsInv s) (chain : Nat) (p : CParams) (ht : Nat) (cs : Cons) :
    MapsInv (createClient s chain p ht cs).1 := by
  unfold createClient
  refine ⟨h.c2r_r2c, h.r2c_c2r, ?_⟩
  intro c r hc
  obtain ⟨cl, g, e⟩ := h.canon_client c r hc
  refine ⟨cl, ?_, e⟩
  rw [getClient_append s _ c _ rfl, g]
  rfl

theorem execMsg_mapsInv {s : St} (h : MapsInv s) (m : Op) : MapsInv (execMsg s m).1 := by
  rcases execMsg_cases s m with ⟨e, ⟨o, ds, rfl⟩ | ⟨ch, p, ht, cs, rfl⟩ | ⟨c, rfl⟩⟩ | ⟨_, e⟩ | ⟨c, cl, hcl, ⟨hd, _, _, e⟩ | ⟨_, _, _, e⟩⟩ <;> rw [e]
  · exact h.of_shape (shape_coreOp s o ds)
  · exact mapsInv_createClient h ch p ht cs
  · rw [step_setCanonical_fst]; exact mapsInv_setCanonical h c
  · exact h.of_eq rfl rfl rfl
  · exact h.of_shape (Shape.setClient (old := cl) (by rw [ibcApply_id, getClient_id hcl]; exact hcl) (ibcApply_chain cl hd))
  · exact h.of_shape (Shape.setClient (old := cl) (by rw [getClient_id hcl]; exact hcl) rfl)

theorem step_mapsInv {s : St} (h : MapsInv s) (op : Op) : MapsInv (step s op).1 := by
  have ha : MapsInv (anteMsg s op).1 := h.of_eq (anteMsg_frame s op).1.r2c (anteMsg_frame s op).1.c2r (anteMsg_frame s op).2
  rcases step_phases s op with e | e | e <;> rw [e]
  · exact h
  · exact ha
  · exact execMsg_mapsInv ha op

theorem init_mapsInv (p : Core.Params) : MapsInv (init p) :=
  ⟨fun _ _ h => by simp [init, lookup] at h, fun _ _ h => by simp [init, lookup] at h, fun _ _ h => by simp [init, lookup] at h⟩

theorem run_mapsInv {s : St} (h : MapsInv s) (ops : List Op) : MapsInv (run s ops) :=
  run_preserves (P := MapsInv) (fun _ op h => step_mapsInv h op) ops s h

theorem execAll_mapsInv : ∀ (ms : List Op) (s : St), MapsInv s → MapsInv (execAll s ms).1
  | [], _, h => h
  | m :: ms, s, h => by
    unfold execAll
    have h1 := execMsg_mapsInv h m
    cases hx : execMsg s m with | mk s1 r =>
    rw [hx] at h1
    cases r with
    | ok => exact execAll_mapsInv ms s1 h1
    | _ => exact h

/-- the designation maps stay mutually inverse through a whole transaction, whatever its messages -/
theorem txStep_mapsInv {s : St} (h : MapsInv s) (ms : List Op) : MapsInv (txStep s ms).1 := by
  rcases txStep_cases s ms with ⟨_, e⟩ | ⟨s1, _, ha, e⟩
  · rw [e]; exact h
  · have h1 : MapsInv s1 := by
      have hf := anteAll_frame ms s
      rw [ha] at hf
      exact h.of_eq hf.1.r2c hf.1.c2r hf.2
    rcases e with e | e <;> rw [e]
    · exact h1
    · exact execAll_mapsInv ms s1 h1

theorem runTx_mapsInv : ∀ (txs : List (List Op)) (s : St), MapsInv s → MapsInv (runTx s txs)
  | [], _, h => h
  | t :: ts, s, h => runTx_mapsInv ts _ (txStep_mapsInv h t)

/-- the designation of a rollapp / of a client never changes once made -/
theorem run_r2c_stable (ops : List Op) (s : St) (r c : Nat) (h : lookup s.r2c r = some c) : lookup (run s ops).r2c r = some c :=
  run_preserves (P := fun s => lookup s.r2c r = some c) (fun s op h => by
    obtain ⟨_, _, _, e, _⟩ := step_maps s op
    rw [e]; exact lookup_append_left h) ops s h

theorem run_c2r_stable (ops : List Op) (s : St) (r c : Nat) (h : lookup s.c2r c = some r) : lookup (run s ops).c2r c = some r :=
  run_preserves (P := fun s => lookup s.c2r c = some r) (fun s op h => by
    obtain ⟨_, _, _, _, e, _⟩ := step_maps s op
    rw [e]; exact lookup_append_left h) ops s h

end DymVerif.LC
