/-
  Lemmas/CoreLevWalk — one walk through every handler of M-Core for all predicates that are closed
  under the primitive ways the model touches the liveness fields (`evH`, `cdStart`, `lev`, `h`, `p`):
  every message handler, `beginBlock`'s successor choice and `finalizeRollappStates` preserve such a
  predicate.  The invariants of `CoreLevInv` are instances.
-/
import DymVerif.Lemmas.CoreLevBasic
namespace DymVerif.Core.LevNs

/-- the parts of the state the liveness invariants read are equal -/
def SameL (s s' : St) : Prop := s'.ras = s.ras ∧ s'.lev = s.lev ∧ s'.h = s.h ∧ s'.p = s.p

theorem SameL.peq {s s' : St} (h : SameL s s') : s'.p = s.p := h.2.2.2

theorem SameL.refl (s : St) : SameL s s := ⟨rfl, rfl, rfl, rfl⟩
theorem SameL.trans {a b c : St} (h1 : SameL a b) (h2 : SameL b c) : SameL a c :=
  ⟨h2.1.trans h1.1, h2.2.1.trans h1.2.1, h2.2.2.1.trans h1.2.2.1, h2.2.2.2.trans h1.2.2.2⟩

/-- closure of a state predicate under the primitive liveness-relevant transformers -/
structure LClosed (P : St → Prop) : Prop where
  of_same : ∀ {s s' : St}, P s → SameL s s' → P s'
  set_same : ∀ {s : St} {id : Nat} {r r' : Rollapp}, P s → getRa s id = some r → r'.id = r.id →
    r'.evH = r.evH → r'.cdStart = r.cdStart → P (setRa s r')
  indicate : ∀ {s : St} {id : Nat} {r : Rollapp}, P s → getRa s id = some r → P (indicateLiveness s r)
  reset : ∀ {s : St} {id : Nat} {r r' : Rollapp}, P s → getRa s id = some r → r'.id = r.id →
    r'.evH = r.evH → P (setRa (resetClock s r').1 (resetClock s r').2)
  create : ∀ {s : St} {id : Nat} {o : Addr} {mb : Nat}, P s → getRa s id = none →
    P { s with ras := insertSorted (fun x y => decide (x.id < y.id)) (newRollapp id o mb) s.ras }

theorem _root_.DymVerif.Core.Fork.MoneyOnly.same {s s1 : St} {q q1 : Seq} (h : Fork.MoneyOnly s s1 q q1) : SameL s s1 := by
  obtain ⟨⟨_, _, _, rfl⟩, _⟩ := h; exact ⟨rfl, rfl, rfl, rfl⟩

theorem removeFromNoticeQueue_same (s : St) (q : Seq) : SameL s (removeFromNoticeQueue s q) := by
  unfold removeFromNoticeQueue; split <;> exact ⟨rfl, rfl, rfl, rfl⟩

theorem slashLiveness_same {s s1 : St} {r : Rollapp} (e : slashLiveness s r = .ok s1) : SameL s s1 := by
  rcases slashLiveness_ok e with ⟨_, rfl⟩ | ⟨_, _, _, _, _, _, hs, rfl⟩
  · exact SameL.refl _
  · exact (Fork.slash_money hs).same.trans ⟨rfl, rfl, rfl, rfl⟩

theorem slashLiveness_sqp {s s1 : St} {r : Rollapp} (e : slashLiveness s r = .ok s1) : s1.sqp = s.sqp := by
  rcases slashLiveness_ok e with ⟨_, rfl⟩ | ⟨_, _, _, _, _, _, hs, rfl⟩
  · rfl
  · exact (Fork.slash_money hs).sqp

section
variable {P : St → Prop}

theorem afterSetRealProposer_cl (hc : LClosed P) {s : St} {ra : Nat} {a : Addr} (h : P s) :
    P (afterSetRealProposer s ra a) := by
  unfold afterSetRealProposer
  split
  · exact h
  · rename_i r hg
    have h1 := hc.indicate h hg
    split
    · exact h1
    · rename_i r1 hg1
      exact hc.set_same h1 hg1 rfl rfl rfl

theorem recoverFromSentinel_cl (hc : LClosed P) {s s' : St} {ra : Nat} (h : P s)
    (e : recoverFromSentinel s ra = .ok s') : P s' := by
  obtain ⟨r, a, hg, _, _, rfl⟩ := recoverFromSentinel_ok e
  exact afterSetRealProposer_cl hc (hc.set_same h hg rfl rfl rfl)

/-- what `abruptRemoveProposer` and the fork hook of x/sequencer write keeps a closed predicate -/
theorem LClosed.role (hc : LClosed P) (ra : Nat) : RoleClosed P ra where
  clearProposer := fun hg h => hc.set_same h hg rfl rfl rfl
  clearSuccessor := fun hg h => hc.set_same h hg rfl rfl rfl
  unbond := fun _ h => hc.of_same h ⟨rfl, rfl, rfl, rfl⟩
  optOut := fun h => hc.of_same h ⟨rfl, rfl, rfl, rfl⟩
  nq := fun q h => hc.of_same h (removeFromNoticeQueue_same _ q)

theorem abruptRemoveProposer_cl (hc : LClosed P) {s : St} {ra : Nat} (h : P s) : P (abruptRemoveProposer s ra) :=
  (hc.role ra).abruptRemoveProposer h

theorem hardFork_cl (hc : LClosed P) {s s' : St} {ra lv : Nat} (h : P s) (e : hardFork s ra lv = .ok s') : P s' := by
  obtain ⟨r, keep, kst, hg, _, _, _, _, rfl⟩ := hardFork_ok e
  apply (hc.role ra).seqOnHardFork
  have h1 : P { s with queue := removeIdxAbove s.queue ra keep,
                       seqH := pruneSeqHeights s.seqH (kst.creator :: (r.states.drop keep).map (·.creator)) kst.last } :=
    hc.of_same h ⟨rfl, rfl, rfl, rfl⟩
  exact hc.reset (r := r) (r' := forkedRollapp r keep kst) h1 hg rfl rfl

theorem hardForkToLatest_cl (hc : LClosed P) {s s' : St} {ra : Nat} (h : P s) (e : hardForkToLatest s ra = .ok s') : P s' := by
  obtain ⟨_, _, _, _, hf⟩ := hardForkToLatest_ok e
  exact hardFork_cl hc h hf

theorem onProposerLastBlock_cl (hc : LClosed P) {s s' : St} {q : Seq} (h : P s)
    (e : onProposerLastBlock s q = .ok s') : P s' := by
  obtain ⟨_, r, _, hg, rfl, h2⟩ := onProposerLastBlock_ok e
  have h1 : P (setRa s { r with successor := none, proposer := r.successor }) := hc.set_same h hg rfl rfl rfl
  rcases h2 with ⟨_, hf⟩ | ⟨a, _, rfl⟩
  · exact hardForkToLatest_cl hc h1 hf
  · exact afterSetRealProposer_cl hc h1

theorem seqAfterUpdate_cl (hc : LClosed P) {s s' : St} {m : UpdMsg} {b : Bool} (h : P s)
    (e : seqAfterUpdate s m b = .ok s') : P s' := by
  obtain ⟨_, _, _, rfl, h2⟩ := seqAfterUpdate_ok e
  have h1 : ∀ q : Seq, P (setSeq s q) := fun q => hc.of_same h ⟨rfl, rfl, rfl, rfl⟩
  rcases h2 with ⟨_, rfl⟩ | ⟨_, e⟩
  · exact h1 _
  · exact onProposerLastBlock_cl hc (h1 _) e

theorem updateState_cl (hc : LClosed P) {s s' : St} {m : UpdMsg} (h : P s) (e : updateState s m = .ok s') : P s' := by
  obtain ⟨r, s3, _, r4, _, hg, _, _, _, _, _, h3, rfl, hg4, rfl⟩ := updateState_ok e
  have hnew : P (setRa s { r with states := r.states ++ [newSInfo s m (updSucc r m)] }) := hc.set_same h hg rfl rfl rfl
  exact hc.indicate (hc.of_same (seqAfterUpdate_cl hc hnew h3) ⟨rfl, rfl, rfl, rfl⟩) hg4

theorem punish_cl (hc : LClosed P) {s s' : St} {a : Addr} {rw : Option Addr} (h : P s) (e : punish s a rw = .ok s') : P s' := by
  obtain ⟨_, _, _, _, hs, rfl⟩ := punish_ok e
  exact hc.of_same h ((Fork.slash_money hs).same.trans ⟨rfl, rfl, rfl, rfl⟩)

/-- the op is a message (not a block boundary) -/
def _root_.DymVerif.Core.Op.isMsg : Op → Bool
  | .begin_ _ => false
  | .end_ _ => false
  | _ => true

/-- every accepted message preserves a closed predicate -/
theorem apply_msg_cl (hc : LClosed P) {s s' : St} {o : Op} (h : P s) (e : apply s o = .ok s')
    (hm : o.isMsg = true) : P s' := by
  have money : ∀ {s1 : St} {q q1 : Seq} (q' : Seq), Fork.MoneyOnly s s1 q q1 → P (setSeq s1 q') :=
    fun _ hm => hc.of_same h (hm.same.trans ⟨rfl, rfl, rfl, rfl⟩)
  cases o with
  | createRollapp id owner mb =>
    obtain ⟨hnone, rfl⟩ := apply_createRollapp_ok e
    exact hc.create h hnone
  | bridge ra hh =>
    obtain ⟨r, _, hg, _, _, _, _, rfl⟩ := apply_bridge_ok e
    exact hc.set_same h hg rfl rfl rfl
  | fund a amt => simp only [apply] at e; injection e with e; subst e; exact hc.of_same h ⟨rfl, rfl, rfl, rfl⟩
  | createSeq a ra b d =>
    obtain ⟨r, s1, q1, hg, _, _, _, _, hs, _, _, h2⟩ := createSeq_ok e
    have h0 : P (if r.launched = true then s else setRa s { r with launched := true }) := by
      split
      · exact h
      · exact hc.set_same h hg rfl rfl rfl
    have h3 : P (addSeq s1 q1) := hc.of_same h0 ((Fork.sendToModule_money hs).same.trans ⟨rfl, rfl, rfl, rfl⟩)
    rcases h2 with ⟨_, rfl⟩ | ⟨_, e⟩
    · exact h3
    · exact recoverFromSentinel_cl hc h3 e
  | bondInc a amt d =>
    obtain ⟨_, _, _, _, _, _, hs, rfl⟩ := increaseBond_ok e
    exact money _ (Fork.sendToModule_money hs)
  | bondDec a amt =>
    obtain ⟨_, _, _, _, _, hs, rfl⟩ := decreaseBond_ok e
    exact money _ (Fork.tryUnbond_money hs)
  | unbond a =>
    obtain ⟨_, _, _, _, _, h2⟩ := unbond_ok e
    rcases h2 with ⟨_, _, _, rfl⟩ | ⟨_, _, _, hs, rfl⟩
    · exact hc.of_same h ⟨rfl, rfl, rfl, rfl⟩
    · exact money _ (Fork.tryUnbond_money hs)
  | optIn a v =>
    obtain ⟨q, _, _, _, _, h2⟩ := optIn_ok e
    have h1 : P (setSeq s { q with optedIn := v }) := hc.of_same h ⟨rfl, rfl, rfl, rfl⟩
    rcases h2 with ⟨_, rfl⟩ | ⟨_, e⟩
    · exact h1
    · exact recoverFromSentinel_cl hc h1 e
  | kick a =>
    obtain ⟨kicker, r, _, _, s3, _, _, _, _, _, _, _, _, h3, e⟩ := kick_ok e
    have h4 : P (setSeq s3 { kicker with optedIn := true }) :=
      hc.of_same (hardForkToLatest_cl hc (abruptRemoveProposer_cl hc h) h3) ⟨rfl, rfl, rfl, rfl⟩
    exact recoverFromSentinel_cl hc h4 e
  | update m => exact updateState_cl hc h e
  | fraud au ra hh rev p rw =>
    obtain ⟨_, _, _, s1, _, _, h5, h6⟩ := fraud_ok e
    refine hardFork_cl hc ?_ h6
    rcases h5 with ⟨_, rfl⟩ | ⟨a, _, h5⟩
    · exact h
    · exact punish_cl hc h h5
  | obsolete au vs =>
    exact (markObsolete_ind e (fun _ => hc.of_same h ⟨rfl, rfl, rfl, rfl⟩)
      (fun _ _ _ hb hf => hardForkToLatest_cl hc hb hf)).2.2
  | punish au a rw => exact punish_cl hc h (punishProposal_ok e).2
  | transferOwner sg ra' no =>
    obtain ⟨r, hg, _, _, _, rfl⟩ := transferOwner_ok e
    exact hc.set_same h hg rfl rfl rfl
  | setSeqParams au sp =>
    obtain ⟨_, hnp, _, rfl⟩ := setSeqParams_ok e
    exact hc.of_same h ⟨rfl, rfl, rfl, rfl⟩
  | begin_ dt => cases hm
  | end_ f => cases hm

/-- `beginBlock` after the height/time bump: only successors and the notice queue change -/
theorem beginBlock_cl (hc : LClosed P) {s : St} {dt : Nat} (h : P { s with h := s.h + 1, t := s.t + dt }) :
    P (beginBlock s dt) :=
  beginBlock_ind s dt h (fun _ _ hb => hc.of_same hb ⟨rfl, rfl, rfl, rfl⟩)
    (fun _ _ _ _ hb hg => hc.set_same hb hg rfl rfl rfl)

theorem finalizeOne_cl (hc : LClosed P) {s s' : St} {fails : List (Nat × Nat)} {ra idx : Nat} (h : P s)
    (e : finalizeOne s fails ra idx = some s') : P s' := by
  obtain ⟨_, _, r, st, hg, _, _, rfl⟩ := finalizeOne_ok e
  have h1 : P { s with seqH := s.seqH.filter (fun p => !(p.1 == st.creator && st.bds.any (·.height == p.2))) } :=
    hc.of_same h ⟨rfl, rfl, rfl, rfl⟩
  exact hc.set_same h1 hg rfl rfl rfl

theorem finalizeRollappStates_cl (hc : LClosed P) {s : St} {fails : List (Nat × Nat)} (h : P s) :
    P (finalizeRollappStates s fails) :=
  finalizeRollappStates_ind fails h (fun _ _ _ _ h e => finalizeOne_cl hc h e) (fun _ _ h => hc.of_same h ⟨rfl, rfl, rfl, rfl⟩)

end

end DymVerif.Core.LevNs
