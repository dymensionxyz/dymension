/-
  Lemmas/DymNSAliasSO — open alias sell orders and the RollApp they hang on.
  `ASOOK false`: every open alias sell order is on an alias that is attached to a registered RollApp
  (so a completion always finds the account to pay) — for every history.
  `ASOOK true`: moreover the order was placed by that RollApp's current owner — for every history
  without a RollApp ownership transfer (`Op.transferRollapp`); a transfer hands the open orders over
  to the new owner as they are.
-/
import DymVerif.Lemmas.DymNSFrame
import DymVerif.Lemmas.DymNSInvRun
namespace DymVerif.DymNS
open AMap

def ASOOK (strict : Bool) (s : State) : Prop :=
  ∀ l so, AMap.get s.aliasSO l = some so →
    ∃ src r, AMap.get s.al.aliasTo l = some src ∧ AMap.get s.al.rollapps src = some r ∧ (strict = true → so.seller = r.owner)

theorem asook_congr {b : Bool} {s t : State} (h : alPart t = alPart s) (hs : ASOOK b s) : ASOOK b t := by
  simp only [alPart, Prod.mk.injEq] at h
  intro l so hm
  rw [h.2] at hm
  rw [h.1]
  exact hs l so hm

/-- orders only disappear or keep their seller; the aliases that still have an order stay attached
    where they were; RollApps stay (with their owner, in the strict reading) -/
theorem asook_step {b : Bool} {s t : State} (hA : ASOOK b s)
    (hso : ∀ l so, AMap.get t.aliasSO l = some so → ∃ so0, AMap.get s.aliasSO l = some so0 ∧ so0.seller = so.seller)
    (hto : ∀ l so, AMap.get t.aliasSO l = some so → AMap.get t.al.aliasTo l = AMap.get s.al.aliasTo l)
    (hro : ∀ c r, AMap.get s.al.rollapps c = some r →
      ∃ r', AMap.get t.al.rollapps c = some r' ∧ (b = true → r'.owner = r.owner)) : ASOOK b t := by
  intro l so hm
  obtain ⟨so0, h0, hsel⟩ := hso l so hm
  obtain ⟨src, r, h1, h2, h3⟩ := hA l so0 h0
  obtain ⟨r', h4, h5⟩ := hro src r h2
  exact ⟨src, r', by rw [hto l so hm]; exact h1, h4, fun hb => by rw [← hsel, h3 hb, h5 hb]⟩

/-! ### the alias store away from one alias -/

/-- `al'` has the RollApps of `al` and attaches every alias other than `l` where `al` does -/
def AlSameBut (al al' : AliasStore) (l : AliasId) : Prop :=
  al'.rollapps = al.rollapps ∧ ∀ l', l' ≠ l → AMap.get al'.aliasTo l' = AMap.get al.aliasTo l'

theorem alSameBut_setAliasT (al : AliasStore) (c : Chain) (l : AliasId) : AlSameBut al (al.setAliasT c l) l :=
  ⟨rfl, fun l' h => by simp [AliasStore.setAliasT, AMap.get_set, h]⟩

theorem alSameBut_removeAliasT (al : AliasStore) (c : Chain) (l : AliasId) : AlSameBut al (al.removeAliasT c l) l :=
  ⟨rfl, fun l' h => by simp [AliasStore.removeAliasT, AMap.get_del, h]⟩

theorem AlSameBut.trans {al al' al'' : AliasStore} {l : AliasId} (h1 : AlSameBut al al' l) (h2 : AlSameBut al' al'' l) :
    AlSameBut al al'' l :=
  ⟨h2.1.trans h1.1, fun l' h => (h2.2 l' h).trans (h1.2 l' h)⟩

theorem alSameBut_moved (al : AliasStore) (src dst : Chain) (l : AliasId) :
    AlSameBut al ((al.removeAliasT src l).setAliasT dst l) l :=
  (alSameBut_removeAliasT al src l).trans (alSameBut_setAliasT _ dst l)

/-- the alias store changes away from the aliases that keep an order; orders only disappear or keep
    their seller -/
theorem asook_alSameBut {b : Bool} {s t : State} {l : AliasId} (hA : ASOOK b s) (hal : AlSameBut s.al t.al l)
    (hso : ∀ l' so, AMap.get t.aliasSO l' = some so → l' ≠ l ∧ ∃ so0, AMap.get s.aliasSO l' = some so0 ∧ so0.seller = so.seller) :
    ASOOK b t :=
  asook_step hA (fun l' so hm => (hso l' so hm).2) (fun l' so hm => hal.2 l' (hso l' so hm).1)
    (fun c r hr => ⟨r, by rw [hal.1]; exact hr, fun _ => rfl⟩)

/-! ### the blocks of the alias operations -/

/-- an alias order is dropped (cancelled, or its bid refunded); everything else of `alPart` stays -/
theorem dropAliasSO_asook {b : Bool} {s t : State} {l : AliasId} (hA : ASOOK b s) (hal : t.al = s.al)
    (hso : t.aliasSO = AMap.del s.aliasSO l) : ASOOK b t := by
  refine asook_step hA (fun l' so hm => ?_) (fun l' so hm => by rw [hal]) (fun c r hr => ⟨r, by rw [hal]; exact hr, fun _ => rfl⟩)
  rw [hso, AMap.get_del] at hm
  split at hm
  · cases hm
  · exact ⟨so, hm, rfl⟩

theorem aliasSoldT_asook {b : Bool} {t : State} (l : AliasId) (src : Chain) (r : Rollapp) (bid : Bid) (hA : ASOOK b t) :
    ASOOK b (aliasSoldT t l src r bid) := by
  refine asook_alSameBut (l := l) hA (alSameBut_moved _ _ _ l) (fun l' so hm => ?_)
  simp only [aliasSoldT, fromModuleT, AMap.get_del] at hm
  split at hm
  · cases hm
  · rename_i hne; exact ⟨hne, so, hm, rfl⟩

/-- a recorded bid keeps the seller of the order -/
theorem bidStateA_asook {b : Bool} {s : State} {l : AliasId} {so : SellOrder} (a : Acct) (offer : Nat) (dst : Chain)
    (hA : ASOOK b s) (hso : AMap.get s.aliasSO l = some so) : ASOOK b (bidStateA s so a offer l dst) := by
  rw [bidStateA, takeBidT_eq]
  refine asook_step hA (fun l' so' hm => ?_) (fun l' so' hm => rfl) (fun c r hr => ⟨r, hr, fun _ => rfl⟩)
  simp only [AMap.get_set] at hm
  split at hm
  · rename_i hl; subst hl
    injection hm with hm; subst hm
    exact ⟨_, hso, rfl⟩
  · exact ⟨so', hm, rfl⟩

/-- a fresh alias is attached: it has no order yet -/
theorem setAliasT_asook {b : Bool} {s : State} {c : Chain} {l : AliasId} (t : State) (hA : ASOOK b s)
    (hn : AMap.get s.al.aliasTo l = none) (hal : t.al = s.al.setAliasT c l) (hso : t.aliasSO = s.aliasSO) : ASOOK b t := by
  refine asook_alSameBut (l := l) hA (by rw [hal]; exact alSameBut_setAliasT _ c l) (fun l' so hm => ?_)
  rw [hso] at hm
  refine ⟨fun e => ?_, so, hm, rfl⟩
  subst e
  obtain ⟨src, r, h1, _, _⟩ := hA l' so hm
  rw [h1] at hn; cases hn

theorem start_asook (b : Bool) (p : Params) (t : Nat) : ASOOK b (State.start p t) := by
  intro l so h; simp [State.start, State.init] at h

theorem exec_asook {b : Bool} {s s' : State} {op : Op} (hA : ASOOK b s)
    (hop : b = true → ∀ x c y, op ≠ .transferRollapp x c y) (h : exec s op = .ok s') : ASOOK b s' := by
  cases exec_step h with
  | createRollapp a c hp l hnew _ h3 =>
    refine setAliasT_asook (s := withRollapp s c ⟨a, hp⟩) _ ?_ h3 rfl rfl
    refine asook_step hA (fun l' so hm => ⟨so, hm, rfl⟩) (fun l' so hm => rfl) (fun c' r hr => ⟨r, ?_, fun _ => rfl⟩)
    have hne : c' ≠ c := by
      intro e; subst e
      simp [isRollapp, hr] at hnew
    simp [withRollapp, AMap.get_set, hne, hr]
  | registerAlias _ _ _ _ _ h3 => exact setAliasT_asook _ hA h3 rfl rfl
  | @sellAlias src r l mn sl hsrc hr =>
    intro l' so' hm
    simp only [AMap.get_set] at hm
    split at hm
    · rename_i hl; subst hl
      injection hm with hm; subst hm
      exact ⟨_, r, hsrc, hr, fun _ => rfl⟩
    · exact hA l' so' hm
  | cancelSellAlias a l | completeAliasRefund a l => exact dropAliasSO_asook (l := l) hA rfl rfl
  | completeAliasSale => exact aliasSoldT_asook _ _ _ _ hA
  | bidAlias a l offer dst hso => exact bidStateA_asook a offer dst hA hso
  | bidAliasSale a l offer dst hso => exact aliasSoldT_asook _ _ _ _ (bidStateA_asook a offer dst hA hso)
  | @acceptAlias bo src r pfx id _ _ _ _ _ hnone =>
    -- the alias that moves has no sell order
    refine asook_alSameBut (l := bo.asset) hA (alSameBut_moved _ _ _ _) (fun l' so hso => ?_)
    have hso' : AMap.get s.aliasSO l' = some so := hso
    refine ⟨fun e => ?_, so, hso', rfl⟩
    subst e
    rw [hnone] at hso'; cases hso'
  | acceptName => exact asook_congr (far_and (farPart_replaceNameT _ _ _)).2 (asook_congr (s := s) rfl hA)
  | counter => exact asook_congr rfl hA
  | @transferRollapp r c y hr =>
    -- every order stays attached; in the strict reading the operation is excluded
    cases b
    · refine asook_step hA (fun l' so hm => ⟨so, hm, rfl⟩) (fun l' so hm => rfl) (fun c' r' hr' => ?_)
      by_cases hc : c' = c
      · subst hc
        exact ⟨{ r with owner := y }, by simp [withRollapp], fun e => by cases e⟩
      · exact ⟨r', by simp [withRollapp, AMap.get_set, hc, hr'], fun _ => rfl⟩
    · exact absurd rfl (hop rfl _ c y)
  | _ => exact asook_congr (exec_frames h).2.2 hA

theorem run_asook {b : Bool} {s : State} (ops : List Op) (hI : Inv s) (hA : ASOOK b s)
    (hops : b = true → ∀ op ∈ ops, ∀ x c y, op ≠ .transferRollapp x c y) : ASOOK b (run s ops) :=
  run_induct (Q := fun op => b = true → ∀ x c y, op ≠ .transferRollapp x c y)
    (fun _ hA hop h => exec_asook hA hop h) ops hI hA (fun op ho hb => hops hb op ho)

end DymVerif.DymNS
