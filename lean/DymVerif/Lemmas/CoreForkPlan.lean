/-
  Lemmas/CoreForkPlan — what `revertPlan` (RevertPendingStates + UpdateLastStateInfo) decides, under
  the chain invariant: which state is kept, how it is truncated, the new latest height
  h' = min (n - 1) (previous latest height) for a fork whose first removed height is n, and the
  complete list of refusals.
-/
import DymVerif.Lemmas.CoreFork
import DymVerif.Lemmas.CoreSearch
namespace DymVerif.Core.Fork

theorem _root_.DymVerif.Core.SInfo.WF.last_eq {st : SInfo} (hw : st.WF) : st.last = st.start + st.num - 1 := by
  unfold SInfo.last; rw [if_pos (Nat.lt_of_lt_of_le hw.num_pos (Nat.le_add_left ..))]

/-- the subtraction-free form of `last_eq`: the one to hand to `omega` -/
theorem _root_.DymVerif.Core.SInfo.WF.last_succ {st : SInfo} (hw : st.WF) : st.last + 1 = st.start + st.num := by
  rw [hw.last_eq]; exact Nat.sub_add_cancel (Nat.le_trans hw.num_pos (Nat.le_add_left ..))

theorem _root_.DymVerif.Core.SInfo.WF.start_le_last {st : SInfo} (hw : st.WF) : st.start ≤ st.last := by
  have := hw.last_succ; have := hw.num_pos; omega

/-- every state ends at or before the end of the latest one -/
theorem _root_.DymVerif.Core.Chain.le_last {l : List SInfo} (hc : Chain l) {x : SInfo} (hl : l.getLast? = some x) :
    ∀ (i : Nat) (st : SInfo), l[i]? = some st → st.start + st.num ≤ x.start + x.num := by
  intro i st hst
  rw [List.getLast?_eq_getElem?] at hl
  have hi := getElem?_lt hst
  rcases Nat.lt_or_ge i (l.length - 1) with h1 | h1
  · have := hc.mono' i (l.length - 1) st x h1 hst hl
    have := (hc.wf x (List.mem_of_getElem? hl)).num_pos
    omega
  · cases (by omega : i = l.length - 1)
    cases hst.symm.trans hl
    exact Nat.le_refl _

theorem _root_.DymVerif.Core.Chain.last_le_last {l : List SInfo} (hc : Chain l) {x : SInfo} (hl : l.getLast? = some x)
    {i : Nat} {st : SInfo} (hst : l[i]? = some st) : st.last ≤ x.last := by
  have := hc.le_last hl i st hst
  have := (hc.wf st (List.mem_of_getElem? hst)).last_succ
  have := (hc.wf x (List.mem_of_getLast? hl)).last_succ
  omega

/-- every state starts at or after the first one -/
theorem _root_.DymVerif.Core.Chain.first_le {l : List SInfo} (hc : Chain l) {f : SInfo} (hf : l[0]? = some f) :
    ∀ (i : Nat) (st : SInfo), l[i]? = some st → f.start ≤ st.start := by
  intro i st hst
  rcases Nat.eq_zero_or_pos i with h0 | h0
  · subst h0; cases hf.symm.trans hst; exact Nat.le_refl _
  · have := hc.mono' 0 i f st h0 hf hst
    omega

theorem nonempty_first_last {α : Type _} {l : List α} {i : Nat} {a : α} (h : l[i]? = some a) :
    ∃ f x, l[0]? = some f ∧ l.getLast? = some x := by
  have h0 : 0 < l.length := Nat.lt_of_le_of_lt (Nat.zero_le i) (getElem?_lt h)
  have h1 : l.length - 1 < l.length := Nat.sub_lt h0 Nat.one_pos
  exact ⟨l[0]'h0, l[l.length - 1]'h1, List.getElem?_eq_getElem h0,
    List.getLast?_eq_getElem?.trans (List.getElem?_eq_getElem h1)⟩

/-- every height between the first recorded start and the latest height lies in some state -/
theorem _root_.DymVerif.Core.Chain.contains_of_range {l : List SInfo} (hc : Chain l) {f x : SInfo} (hf : l[0]? = some f)
    (hl : l.getLast? = some x) {h : Nat} (h1 : f.start ≤ h) (h2 : h ≤ x.last) :
    ∃ (k : Nat) (c : SInfo), l[k]? = some c ∧ c.start ≤ h ∧ h ≤ c.last := by
  obtain ⟨k, c, _, hk, a, b⟩ := hc.container f hf h h1 (l.length - 1) x (List.getLast?_eq_getElem?.symm.trans hl)
    ((hc.wf x (List.mem_of_getLast? hl)).last_eq ▸ h2)
  exact ⟨k, c, hk, a, (hc.wf c (List.mem_of_getElem? hk)).last_eq ▸ b⟩

/-- a height nobody contains lies below the first recorded state or above the latest one -/
theorem findByHeight_none_cases {r : Rollapp} (hc : Chain r.states) {n : Nat} (hnone : findByHeight r n = none)
    {f l : SInfo} (hf : r.states[0]? = some f) (hl : r.states.getLast? = some l) : n < f.start ∨ l.last < n := by
  rcases Nat.lt_or_ge n f.start with h1 | h1
  · exact Or.inl h1
  · rcases Nat.lt_or_ge l.last n with h2 | h2
    · exact Or.inr h2
    · obtain ⟨k, st, hk, hs1, hs2⟩ := hc.contains_of_range hf hl h1 h2
      rw [findByHeight_complete hc k st hk n hs1 ((hc.wf st (List.mem_of_getElem? hk)).last_eq ▸ hs2)] at hnone
      cases hnone

/-- two states containing the same height are the same position -/
theorem _root_.DymVerif.Core.Chain.container_unique {l : List SInfo} (hc : Chain l) {i j n : Nat} {a b : SInfo}
    (ha : l[i]? = some a) (hb : l[j]? = some b) (ha1 : a.start ≤ n) (ha2 : n ≤ a.last)
    (hb1 : b.start ≤ n) (hb2 : n ≤ b.last) : i = j := by
  have := (hc.wf a (List.mem_of_getElem? ha)).last_succ
  have := (hc.wf b (List.mem_of_getElem? hb)).last_succ
  rcases Nat.lt_trichotomy i j with h | h | h
  · have := hc.mono' i j a b h ha hb; omega
  · exact h
  · have := hc.mono' j i b a h hb ha; omega

/-- first step of `revertPlan`: the index of the state the fork height falls into (refused when that
    state is finalized), or the latest index when no state contains it -/
def planFound (r : Rollapp) (n : Nat) : M Nat :=
  match findByHeight r n with
  | some i =>
    match r.states[i - 1]? with
    | some st => if st.finalized then .error .finalizedHeight else .ok i
    | none => .error .internal
  | none => if r.states.isEmpty then .error .noState else .ok r.states.length

/-- second step: which state is kept and with what contents -/
def planOf (r : Rollapp) (n i : Nat) : M (Nat × SInfo) :=
  match r.states[i - 1]? with
  | none => .error .internal
  | some st =>
    if n < st.start then .error .internal else
    if st.start = n then
      match (if i ≤ 1 then none else r.states[i - 2]?) with
      | none => .error .noState
      | some prev => .ok (i - 1, { prev with next := NextP.empty })
    else if n ≤ st.last then
      .ok (i, { st with num := n - st.start, bds := st.bds.take (n - st.start), next := NextP.empty })
    else .ok (i, { st with next := NextP.empty })

theorem revertPlan_eq (r : Rollapp) (n : Nat) :
    revertPlan r n = (match planFound r n with | .error e => .error e | .ok i => planOf r n i) := rfl

/-- the first step, case by case: refused for want of states or because the state containing `n` is finalized; else
    the index `i` of the state containing `n`, or the latest index when no state contains `n` — either way every
    state that contains `n` is unfinalized -/
theorem planFound_cases {r : Rollapp} (n : Nat) (hc : Chain r.states) :
    (r.states = [] ∧ planFound r n = .error .noState) ∨
    (∃ (i : Nat) (st : SInfo), r.states[i]? = some st ∧ st.start ≤ n ∧ n ≤ st.last ∧ st.finalized = true ∧
      planFound r n = .error .finalizedHeight) ∨
    (∃ i st l f, planFound r n = .ok i ∧ r.states[i - 1]? = some st ∧ r.states.getLast? = some l ∧
      r.states[0]? = some f ∧ 1 ≤ i ∧
      (∀ (j : Nat) (x : SInfo), r.states[j]? = some x → x.start ≤ n → n ≤ x.last → x.finalized = false) ∧
      ((st.start ≤ n ∧ n ≤ st.last) ∨ (i = r.states.length ∧ (l.last < n ∨ n < f.start)))) := by
  generalize hp : planFound r n = p
  unfold planFound at hp
  cases hj : findByHeight r n with
  | some j =>
    obtain ⟨st, hst, hcont⟩ := findByHeight_sound r n j hj
    rw [hj] at hp
    dsimp only at hp
    rw [hst] at hp
    dsimp only at hp
    have hcc : st.start ≤ n ∧ n ≤ st.last := by simpa [SInfo.contains] using hcont
    cases hfin : st.finalized with
    | true =>
      rw [hfin, if_pos rfl] at hp
      exact Or.inr (Or.inl ⟨j - 1, st, hst, hcc.1, hcc.2, hfin, hp.symm⟩)
    | false =>
      rw [hfin, if_neg (by decide)] at hp
      obtain ⟨f, l, hf, hl⟩ := nonempty_first_last hst
      -- the search returns the position of `st` plus one
      have hpos : 1 ≤ j := by
        have := findByHeight_complete hc (j - 1) st hst n hcc.1 ((hc.wf st (List.mem_of_getElem? hst)).last_eq ▸ hcc.2)
        have := Option.some.inj (hj.symm.trans this)
        omega
      refine Or.inr (Or.inr ⟨j, st, l, f, hp.symm, hst, hl, hf, hpos, ?_, Or.inl hcc⟩)
      intro k x hx hx1 hx2
      cases hc.container_unique hx hst hx1 hx2 hcc.1 hcc.2
      cases hx.symm.trans hst
      exact hfin
  | none =>
    rw [hj] at hp
    dsimp only at hp
    cases hs : r.states with
    | nil => rw [hs] at hp; exact Or.inl ⟨rfl, hp.symm⟩
    | cons a t =>
      have hemp : r.states.isEmpty = false := by rw [hs]; rfl
      rw [hemp, if_neg (by decide)] at hp
      rw [← hs]
      have hlen : 0 < r.states.length := by rw [hs]; exact Nat.succ_pos _
      have hll : r.states[r.states.length - 1]? = some (r.states[r.states.length - 1]'(Nat.sub_lt hlen Nat.one_pos)) :=
        List.getElem?_eq_getElem _
      obtain ⟨f, l, hf, hl⟩ := nonempty_first_last hll
      refine Or.inr (Or.inr ⟨_, l, l, f, hp.symm, List.getLast?_eq_getElem?.symm.trans hl, hl, hf, hlen, ?_,
        Or.inr ⟨rfl, (findByHeight_none_cases hc hj hf hl).symm⟩⟩)
      intro k x hx hx1 hx2
      have := hc.first_le hf k x hx
      have := hc.last_le_last hl hx
      have := findByHeight_none_cases hc hj hf hl
      omega

/-- everything a successful plan says, with `st` the state at the kept index before the fork and `l`
    the latest state before the fork -/
structure PlanSpec (r : Rollapp) (n keep : Nat) (kst st l : SInfo) : Prop where
  keep_pos : 1 ≤ keep
  hst : r.states[keep - 1]? = some st
  hl : r.states.getLast? = some l
  /-- the kept state is the old one cut down to the heights ≤ h' with `NextProposer` cleared -/
  kst_eq : kst = { st with num := kst.last + 1 - st.start, bds := st.bds.take (kst.last + 1 - st.start), next := NextP.empty }
  h_lo : st.start ≤ kst.last
  h_hi : kst.last ≤ st.last
  /-- the new latest height -/
  h_min : kst.last = min (n - 1) l.last
  /-- a state that loses heights was not finalized -/
  trunc_unfin : kst.last < st.last → st.finalized = false
  /-- the state containing the first removed height was not finalized -/
  hit_unfin : ∀ (j : Nat) (x : SInfo), r.states[j]? = some x → x.start ≤ n → n ≤ x.last → x.finalized = false

theorem take_num_bds {st : SInfo} (hw : st.WF) : st.bds.take st.num = st.bds := by
  rw [← hw.bds_len, List.take_length]

/-- `st` cut down to the heights ≤ `m`, `NextProposer` cleared: the form of every kept state -/
def cut (st : SInfo) (m : Nat) : SInfo :=
  { st with num := m + 1 - st.start, bds := st.bds.take (m + 1 - st.start), next := NextP.empty }

theorem cut_last {st : SInfo} {m : Nat} (h : st.start ≤ m) : (cut st m).last = m := by
  unfold cut SInfo.last; dsimp only
  rw [Nat.add_sub_cancel' (Nat.le_succ_of_le h), if_pos (Nat.succ_pos m)]; rfl

/-- cutting at the own last height only clears `NextProposer` -/
theorem cut_self {st : SInfo} (hw : st.WF) : cut st st.last = { st with next := NextP.empty } := by
  unfold cut; rw [hw.last_succ, Nat.add_sub_cancel_left, take_num_bds hw]

theorem cut_pred {st : SInfo} {n : Nat} (h : st.start < n) :
    cut st (n - 1) = { st with num := n - st.start, bds := st.bds.take (n - st.start), next := NextP.empty } := by
  unfold cut; rw [Nat.sub_add_cancel (Nat.lt_of_le_of_lt (Nat.zero_le _) h)]

theorem PlanSpec.of_cut {r : Rollapp} {n keep m : Nat} {st l : SInfo} (hk : 1 ≤ keep) (hst : r.states[keep - 1]? = some st)
    (hl : r.states.getLast? = some l) (hlo : st.start ≤ m) (hhi : m ≤ st.last) (hmin : m + 1 = n ∧ m ≤ l.last ∨ m = l.last ∧ l.last < n)
    (htr : m < st.last → st.finalized = false)
    (hhit : ∀ (j : Nat) (x : SInfo), r.states[j]? = some x → x.start ≤ n → n ≤ x.last → x.finalized = false) :
    PlanSpec r n keep (cut st m) st l := by
  have hm := cut_last hlo
  have hmin' : m = min (n - 1) l.last := by
    rcases hmin with ⟨rfl, h2⟩ | ⟨rfl, h2⟩
    · exact (Nat.min_eq_left h2).symm
    · exact (Nat.min_eq_right (Nat.le_sub_one_of_lt h2)).symm
  exact ⟨hk, hst, hl, by rw [hm]; rfl, by rw [hm]; exact hlo, by rw [hm]; exact hhi, by rw [hm]; exact hmin',
    by rw [hm]; exact htr, hhit⟩

/-- the second step, case by case: two refusals and three ways to succeed -/
theorem planOf_cases {r : Rollapp} {n i : Nat} {st : SInfo} (hst : r.states[i - 1]? = some st) :
    (n < st.start ∧ planOf r n i = .error .internal) ∨
    (st.start = n ∧ (i ≤ 1 ∨ r.states[i - 2]? = none) ∧ planOf r n i = .error .noState) ∨
    (st.start = n ∧ ∃ k prev, i = k + 2 ∧ r.states[k]? = some prev ∧
      planOf r n i = .ok (k + 1, { prev with next := NextP.empty })) ∨
    (st.start < n ∧ n ≤ st.last ∧ planOf r n i = .ok (i, cut st (n - 1))) ∨
    (st.last < n ∧ planOf r n i = .ok (i, { st with next := NextP.empty })) := by
  generalize hp : planOf r n i = p
  unfold planOf at hp
  rw [hst] at hp
  dsimp only at hp
  by_cases h1 : n < st.start
  · rw [if_pos h1] at hp; exact Or.inl ⟨h1, hp.symm⟩
  · rw [if_neg h1] at hp
    by_cases h2 : st.start = n
    · rw [if_pos h2] at hp
      by_cases h3 : i ≤ 1
      · rw [if_pos h3] at hp; exact Or.inr (Or.inl ⟨h2, Or.inl h3, hp.symm⟩)
      · rw [if_neg h3] at hp
        cases hprev : r.states[i - 2]? with
        | none => rw [hprev] at hp; exact Or.inr (Or.inl ⟨h2, Or.inr rfl, hp.symm⟩)
        | some prev =>
          rw [hprev] at hp
          obtain ⟨k, rfl⟩ : ∃ k, i = k + 2 := ⟨i - 2, by omega⟩
          exact Or.inr (Or.inr (Or.inl ⟨h2, k, prev, rfl, hprev, hp.symm⟩))
    · rw [if_neg h2] at hp
      have h4 : st.start < n := by omega
      by_cases h3 : n ≤ st.last
      · rw [if_pos h3, ← cut_pred h4] at hp; exact Or.inr (Or.inr (Or.inr (Or.inl ⟨h4, h3, hp.symm⟩)))
      · rw [if_neg h3] at hp; exact Or.inr (Or.inr (Or.inr (Or.inr ⟨by omega, hp.symm⟩)))

theorem revertPlan_spec {r : Rollapp} {n keep : Nat} {kst : SInfo} (hc : Chain r.states)
    (e : revertPlan r n = .ok (keep, kst)) : ∃ st l, PlanSpec r n keep kst st l := by
  rw [revertPlan_eq] at e
  rcases planFound_cases n hc with ⟨_, hfound⟩ | ⟨_, _, _, _, _, _, hfound⟩ | ⟨i, st, l, f, hfound, hst, hl, hf, hi, hhit, hcase⟩ <;>
    rw [hfound] at e
  · cases e
  · cases e
  · dsimp only at e
    have hw := hc.wf st (List.mem_of_getElem? hst)
    have hsl := hc.last_le_last hl hst
    rcases planOf_cases (n := n) hst with ⟨_, h⟩ | ⟨_, _, h⟩ | ⟨hs, k, prev, rfl, hprev, h⟩ | ⟨hs, hn, h⟩ | ⟨hn, h⟩ <;>
      cases h.symm.trans e
    · -- on the first height of state k + 2: the previous state is kept as it is
      have hwp := hc.wf prev (List.mem_of_getElem? hprev)
      rw [← cut_self hwp]
      exact ⟨prev, l, .of_cut (Nat.succ_pos k) hprev hl hwp.start_le_last (Nat.le_refl _)
        (.inl ⟨hwp.last_succ.trans ((hc.link k prev st hprev hst).symm.trans hs), hc.last_le_last hl hprev⟩)
        (fun h => absurd h (Nat.lt_irrefl _)) hhit⟩
    · -- inside state i: it is truncated
      exact ⟨st, l, .of_cut hi hst hl (Nat.le_sub_one_of_lt hs) (Nat.le_trans (Nat.sub_le ..) hn)
        (.inl ⟨Nat.sub_add_cancel (Nat.lt_of_le_of_lt (Nat.zero_le _) hs), Nat.le_trans (Nat.sub_le ..) (Nat.le_trans hn hsl)⟩)
        (fun _ => hhit _ st hst (Nat.le_of_lt hs) hn) hhit⟩
    · -- beyond the latest height: all states are kept
      rcases hcase with ⟨_, h2⟩ | ⟨rfl, _⟩
      · exact absurd hn (Nat.not_lt.2 h2)
      · cases hst.symm.trans (List.getLast?_eq_getElem?.symm.trans hl)
        rw [← cut_self hw]
        exact ⟨st, st, .of_cut hi hst hl hw.start_le_last (Nat.le_refl _) (.inr ⟨rfl, hn⟩)
          (fun h => absurd h (Nat.lt_irrefl _)) hhit⟩

namespace PlanSpec
variable {r : Rollapp} {n keep : Nat} {kst st l : SInfo}

theorem kst_creator (h : PlanSpec r n keep kst st l) : kst.creator = st.creator := by rw [h.kst_eq]
theorem kst_start (h : PlanSpec r n keep kst st l) : kst.start = st.start := by rw [h.kst_eq]
theorem kst_finalized (h : PlanSpec r n keep kst st l) : kst.finalized = st.finalized := by rw [h.kst_eq]
theorem kst_next (h : PlanSpec r n keep kst st l) : kst.next = NextP.empty := by rw [h.kst_eq]

/-- every removed state (index above `keep`) lies entirely above the new latest height -/
theorem above (h : PlanSpec r n keep kst st l) (hc : Chain r.states) :
    ∀ (j : Nat) (x : SInfo), keep ≤ j → r.states[j]? = some x → kst.last < x.start := by
  intro j x hj hx
  have hw := hc.wf st (List.mem_of_getElem? h.hst)
  have := hc.mono' (keep - 1) j st x (by have := h.keep_pos; omega) h.hst hx
  have := h.h_hi
  rw [hw.last_eq] at this
  have := hw.num_pos
  omega

/-- every state strictly below the kept index lies entirely below the kept state -/
theorem below (h : PlanSpec r n keep kst st l) (hc : Chain r.states) :
    ∀ (j : Nat) (x : SInfo), j + 1 < keep → r.states[j]? = some x → x.last < st.start := by
  intro j x hj hx
  have hw := hc.wf x (List.mem_of_getElem? hx)
  have := hc.mono' j (keep - 1) x st (by omega) hx h.hst
  rw [hw.last_eq]
  have := hw.num_pos
  omega

theorem kst_num (h : PlanSpec r n keep kst st l) : kst.num = kst.last + 1 - st.start := by
  have := h.kst_eq
  generalize kst.last + 1 - st.start = m at this
  rw [this]

theorem kst_num_le (h : PlanSpec r n keep kst st l) (hc : Chain r.states) : 1 ≤ kst.num ∧ kst.num ≤ st.num := by
  have hw := hc.wf st (List.mem_of_getElem? h.hst)
  have := h.kst_num
  have := h.h_lo
  have := h.h_hi
  rw [hw.last_eq] at this
  have := hw.num_pos
  omega

/-- a fork beyond the latest height keeps every state and only clears the last `NextProposer` -/
theorem beyond (h : PlanSpec r n keep kst st l) (hc : Chain r.states) (hn : l.last < n) :
    keep = r.states.length ∧ kst = { l with next := NextP.empty } := by
  have hwl := hc.wf l (List.mem_of_getLast? h.hl)
  have hll := List.getLast?_eq_getElem?.symm.trans h.hl
  have hkl : kst.last = l.last := h.h_min.trans (Nat.min_eq_right (Nat.le_sub_one_of_lt hn))
  have hlen := getElem?_lt h.hst
  have hkeep : keep = r.states.length := by
    rcases Nat.lt_or_ge keep r.states.length with h1 | h1
    · have := h.above hc (r.states.length - 1) l (by omega) hll
      have := hwl.start_le_last
      omega
    · have := h.keep_pos; omega
  subst hkeep
  cases h.hst.symm.trans hll
  have hk := h.kst_eq
  rw [hkl] at hk
  exact ⟨rfl, hk.trans (cut_self hwl)⟩

end PlanSpec

/-- every way `revertPlan` can refuse, under the chain invariant -/
theorem revertPlan_refusals {r : Rollapp} {n : Nat} {e : Err} (hc : Chain r.states)
    (h : revertPlan r n = .error e) :
    (e = .noState ∧ r.states = []) ∨
    (e = .finalizedHeight ∧ ∃ (i : Nat) (st : SInfo), r.states[i]? = some st ∧ st.start ≤ n ∧ n ≤ st.last ∧ st.finalized = true) ∨
    (e = .noState ∧ ∃ f, r.states[0]? = some f ∧ f.start = n ∧ f.finalized = false) ∨
    (e = .internal ∧ ∃ f, r.states[0]? = some f ∧ n < f.start) := by
  rw [revertPlan_eq] at h
  rcases planFound_cases n hc with ⟨hs, hfound⟩ | ⟨i, st, hst, h1, h2, hfin, hfound⟩ |
      ⟨i, st, l, f, hfound, hst, hl, hf, hi, hhit, hcase⟩ <;>
    rw [hfound] at h
  · cases h; exact Or.inl ⟨rfl, hs⟩
  · cases h; exact Or.inr (Or.inl ⟨rfl, i, st, hst, h1, h2, hfin⟩)
  · dsimp only at h
    have hw := hc.wf st (List.mem_of_getElem? hst)
    rcases planOf_cases (n := n) hst with ⟨hlt, h'⟩ | ⟨hs, hprev, h'⟩ | ⟨_, _, _, _, _, h'⟩ | ⟨_, _, h'⟩ | ⟨_, h'⟩ <;>
      cases h'.symm.trans h
    · -- below the first recorded height
      refine Or.inr (Or.inr (Or.inr ⟨rfl, f, hf, ?_⟩))
      rcases hcase with ⟨h1, _⟩ | ⟨rfl, h1 | h1⟩
      · omega
      · cases hst.symm.trans (List.getLast?_eq_getElem?.symm.trans hl)
        have := hw.start_le_last
        omega
      · exact h1
    · -- the first height of the first state: no previous state to keep
      have hi1 : i = 1 := by
        rcases hprev with h1 | h1
        · omega
        · have := getElem?_lt hst
          rcases Nat.lt_or_ge (i - 2) r.states.length with h2 | h2
          · rw [List.getElem?_eq_getElem h2] at h1; cases h1
          · omega
      subst hi1
      cases hf.symm.trans hst
      exact Or.inr (Or.inr (Or.inl ⟨rfl, _, hst, hs, hhit 0 _ hst (Nat.le_of_eq hs) (hs ▸ hw.start_le_last)⟩))

/-- a fork whose first removed height lies in a finalized state is refused -/
theorem revertPlan_finalized {r : Rollapp} {n i : Nat} {st : SInfo} (hc : Chain r.states)
    (hst : r.states[i]? = some st) (h1 : st.start ≤ n) (h2 : n ≤ st.last) (hfin : st.finalized = true) :
    revertPlan r n = .error .finalizedHeight := by
  have hw := hc.wf st (List.mem_of_getElem? hst)
  have hfind := findByHeight_complete hc i st hst n h1 (by rw [← hw.last_eq]; exact h2)
  rw [revertPlan_eq]
  unfold planFound
  rw [hfind]
  dsimp only
  rw [show i + 1 - 1 = i by omega, hst]
  dsimp only
  rw [if_pos hfin]

theorem revertPlan_noState {r : Rollapp} {n : Nat} (h : r.states = []) : revertPlan r n = .error .noState := by
  have : planFound r n = .error .noState := by
    unfold planFound findByHeight
    rw [h]
    by_cases hn : n = 0 <;> simp [hn]
  rw [revertPlan_eq, this]

end DymVerif.Core.Fork
