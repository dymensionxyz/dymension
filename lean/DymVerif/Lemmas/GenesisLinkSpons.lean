/-
  Lemmas/GenesisLinkSpons — x/sponsorship: C18's store invariant `SponsInv` PROVED for the projection
  `toSponsState` of every M-Spons state in which power records exist only for voters (`DvpClean`, a
  conjunct of M-Spons' `Tracked`, kept by every slash-free history whose staking ops are faithful:
  `power_tracks_staking_partial`, C16).  M-Spons keeps votes and per-validator powers as association
  lists; the projection rebuilds them as KV sections from the first entry of every key.
-/
import DymVerif.Lemmas.SponsRun
import DymVerif.Lemmas.GenesisSpons
import DymVerif.Lemmas.GenesisLinkLC
namespace DymVerif.GenesisLink
open DymVerif DymVerif.Genesis

theorem mem_firstsBy_alookup {κ β κ' : Type} [DecidableEq κ] [DecidableEq κ'] (enc : κ → κ')
    (hinj : ∀ a b, enc a = enc b → a = b) (l : List (κ × β)) (e : κ × β) :
    e ∈ firstsBy (fun x : κ × β => enc x.1) l ↔ Spons.alookup e.1 l = some e.2 :=
  mem_firstsBy_lookup enc hinj (fun l k => Spons.alookup k l) (fun _ => rfl) (fun _ _ _ => rfl) l e

/-! ### the projection -/

def voterKey (e : Nat × Spons.Vote) : Bytes := [e.1]
def dvpKey (e : (Nat × Nat) × Int) : Bytes × Bytes := ([e.1.1], [e.1.2])

/-- M-Spons' module state as C18's `SponsState` -/
def toSponsState (params : Nat) (s : Spons.State) : SponsState :=
  { params := params,
    votes := importWith lexLt voterKey (·.2) (firstsBy voterKey s.votes),
    dvp := importWith ltBB dvpKey (·.2) (firstsBy dvpKey s.dvp),
    dist := s.dist,
    endorsements := s.endorsements.map fun e => ([e.r], e.gaugeId),
    blacklist := s.blacklist.map fun a => [a] }

theorem mem_toSpons_votes (params : Nat) (s : Spons.State) (e : Bytes × Spons.Vote) :
    e ∈ (toSponsState params s).votes ↔ ∃ a v, Spons.alookup a s.votes = some v ∧ e = ([a], v) := by
  show e ∈ importWith lexLt voterKey (·.2) (firstsBy voterKey s.votes) ↔ _
  rw [mem_importWith soBytes _ _ _ (firstsBy_nodup _ s.votes)]
  have hinj : ∀ a b : Nat, ([a] : Bytes) = [b] → a = b := fun a b h => by injection h
  constructor
  · rintro ⟨x, hx, rfl⟩
    exact ⟨x.1, x.2, (mem_firstsBy_alookup (fun a : Nat => ([a] : Bytes)) hinj s.votes x).1 hx, rfl⟩
  · rintro ⟨a, v, hl, rfl⟩
    exact ⟨(a, v), (mem_firstsBy_alookup (fun a : Nat => ([a] : Bytes)) hinj s.votes (a, v)).2 hl, rfl⟩

/-- **`SponsInv` from `DvpClean`** -/
theorem sponsInv_of_clean (params : Nat) {s : Spons.State} (hc : Spons.DvpClean s) :
    SponsInv (toSponsState params s) where
  sv := sorted_importWith soBytes _ _ _
  sd := sorted_importWith (soPair soBytes soBytes) _ _ _
  own := by
    intro e he
    have he' : e ∈ importWith ltBB dvpKey (·.2) (firstsBy dvpKey s.dvp) := he
    rw [mem_importWith (soPair soBytes soBytes) _ _ _ (firstsBy_nodup _ s.dvp)] at he'
    obtain ⟨x, hx, rfl⟩ := he'
    have hp : Spons.alookup x.1 s.dvp = some x.2 :=
      (mem_firstsBy_alookup (fun k : Nat × Nat => (([k.1], [k.2]) : Bytes × Bytes))
        (fun _ _ h => Prod.ext (List.head_eq_of_cons_eq (congrArg Prod.fst h)) (List.head_eq_of_cons_eq (congrArg Prod.snd h)))
        s.dvp x).1 hx
    cases hv : Spons.alookup x.1.1 s.votes with
    | none =>
      have := hc x.1.1 x.1.2 hv
      rw [show ((x.1.1, x.1.2) : Nat × Nat) = x.1 from rfl, hp] at this
      cases this
    | some v =>
      exact ⟨v, (mem_toSpons_votes params s _).2 ⟨x.1.1, v, hv, rfl⟩⟩

end DymVerif.GenesisLink
