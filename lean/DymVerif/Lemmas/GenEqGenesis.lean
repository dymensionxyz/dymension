/-
  Lemmas/GenEqGenesis — tie 1 for the genesis models (C18): what translate/genesis.go regenerates
  from /repo's working tree on every check (`Gen/Genesis.lean`) equals what the models of
  `Model/Genesis.lean` and, for x/rollapp and x/sequencer, `Model/CoreGenesis.lean` were written against.
  * the computed pieces of InitGenesis — the x/iro id-counter loop, the pending-by-address switch of
    x/delayedack, the base64 encode / decode of the eibc tracking key, x/streamer's comparison
    function, the distribution recomputation of x/sponsorship — are translated statement by statement
    into Lean definitions that must EQUAL the model's (`…_eq`);
  * every InitGenesis / ExportGenesis of the property's anchor list, and the keeper helpers the models
    mirror directly, must have exactly the statement skeleton recorded here (`…Skeleton_eq`): a changed
    guard, a dropped or reordered write, another getter in the exported GenesisState, a new loop — any
    edit breaks the corresponding lemma (the check then searches for a failing input; a behaviour
    preserving rewrite ends as `no-failing-input-found`).
-/
import DymVerif.Gen.Genesis
namespace DymVerif.GenEq.Genesis
open DymVerif DymVerif.Genesis

/-! ### computed pieces -/

/-- the id-counter loop of x/iro InitGenesis is the model's (and therefore computes the maximum:
    `iroInitLastPlanId_eq_maxId`) -/
theorem iroInitLastPlanId_eq : Gen.Genesis.iroInitLastPlanId = Genesis.iroInitLastPlanId := rfl

theorem daIndexAddr_eq : Gen.Genesis.daIndexAddr = Genesis.daIndexAddr := by
  funext t r s; cases t <;> rfl

theorem eibcEncodeKey_eq : Gen.Genesis.eibcEncodeKey = Genesis.eibcEncodeKey := rfl

theorem eibcDecodeKey_eq : Gen.Genesis.eibcDecodeKey = Genesis.eibcDecodeKey := by
  funext k
  unfold Gen.Genesis.eibcDecodeKey Genesis.eibcDecodeKey
  split
  · cases b64dec k <;> rfl
  · rfl

/-- `slices.SortFunc(streams, CmpStreams)` orders by the model's `ltStream` -/
theorem strCmp_eq (a b : Item) : decide (Gen.Genesis.strCmp a.id b.id < 0) = ltStream a b := by
  unfold Gen.Genesis.strCmp ltStream
  by_cases h : a.id < b.id
  · simp [h]
  · by_cases h2 : a.id > b.id <;> simp [h, h2]

theorem strCmp_zero_iff (a b : Nat) : Gen.Genesis.strCmp a b = 0 ↔ a = b := by
  unfold Gen.Genesis.strCmp
  by_cases h : a < b
  · simp [h]; omega
  · by_cases h2 : a > b
    · simp [h, h2]; omega
    · simp [h, h2]; omega

theorem sponsInitDist_eq : Gen.Genesis.sponsInitDist = Genesis.sponsInitDist := rfl

/-! ### statement skeletons -/

/-- `x/rollapp InitGenesis` as mirrored by the model -/
theorem rollappInitSkeleton_eq : Gen.Genesis.rollappInitSkeleton =
  ["range genState.RollappList as _, elem {",
   "call k.SetRollapp(ctx, elem)",
   "}",
   "range genState.StateInfoList as _, elem {",
   "call k.SetStateInfo(ctx, elem)",
   "}",
   "range genState.LatestStateInfoIndexList as _, elem {",
   "call k.SetLatestStateInfoIndex(ctx, elem)",
   "}",
   "range genState.LatestFinalizedStateIndexList as _, elem {",
   "call k.SetLatestFinalizedStateIndex(ctx, elem)",
   "}",
   "range genState.BlockHeightToFinalizationQueueList as _, elem {",
   "call k.MustSetFinalizationQueue(ctx, elem)",
   "}",
   "range genState.LivenessEvents as _, elem {",
   "call k.PutLivenessEvent(ctx, elem)",
   "}",
   "range genState.AppList as _, elem {",
   "call k.SetApp(ctx, elem)",
   "}",
   "range genState.RegisteredDenoms as _, elem {",
   "range elem.Denoms as _, denom {",
   "err := k.SetRegisteredDenom(ctx, elem.RollappId, denom)",
   "if err != nil {",
   "panic",
   "}",
   "}",
   "}",
   "range genState.SequencerHeightPairs as _, elem {",
   "err := k.SaveSequencerHeight(ctx, elem.Sequencer, elem.Height)",
   "if err != nil {",
   "panic",
   "}",
   "}",
   "range genState.ObsoleteDrsVersions as _, elem {",
   "err := k.SetObsoleteDRSVersion(ctx, elem)",
   "if err != nil {",
   "panic",
   "}",
   "}",
   "call k.SetParams(ctx, genState.Params)"] := rfl

/-- `x/rollapp ExportGenesis` as mirrored by the model -/
theorem rollappExportSkeleton_eq : Gen.Genesis.rollappExportSkeleton =
  ["genesis := types.DefaultGenesis()",
   "genesis.Params = k.GetParams(ctx)",
   "genesis.RollappList = k.GetAllRollapps(ctx)",
   "genesis.StateInfoList = k.GetAllStateInfo(ctx)",
   "genesis.LatestStateInfoIndexList = k.GetAllLatestStateInfoIndex(ctx)",
   "genesis.LatestFinalizedStateIndexList = k.GetAllLatestFinalizedStateIndex(ctx)",
   "finalizationQueue, err := k.GetEntireFinalizationQueue(ctx)",
   "if err != nil {",
   "panic",
   "}",
   "genesis.BlockHeightToFinalizationQueueList = finalizationQueue",
   "genesis.LivenessEvents = k.GetLivenessEvents(ctx, nil)",
   "apps := k.GetRollappApps(ctx, \"\")",
   "var appList []types.App",
   "range apps as _, app {",
   "appList = append(appList, *app)",
   "}",
   "genesis.AppList = appList",
   "var registeredRollappDenoms []types.RollappRegisteredDenoms",
   "range genesis.RollappList as _, rollapp {",
   "denoms, err := k.GetAllRegisteredDenoms(ctx, rollapp.RollappId)",
   "if err != nil {",
   "panic",
   "}",
   "registeredRollappDenoms = append(registeredRollappDenoms, types.RollappRegisteredDenoms{ RollappId: rollapp.RollappId, Denoms: denoms, })",
   "}",
   "genesis.RegisteredDenoms = registeredRollappDenoms",
   "genesis.SequencerHeightPairs, err = k.AllSequencerHeightPairs(ctx)",
   "if err != nil {",
   "panic",
   "}",
   "drsVersions, err := k.GetAllObsoleteDRSVersions(ctx)",
   "if err != nil {",
   "panic",
   "}",
   "genesis.ObsoleteDrsVersions = drsVersions",
   "return genesis"] := rfl

/-- `x/sequencer InitGenesis` as mirrored by the model -/
theorem sequencerInitSkeleton_eq : Gen.Genesis.sequencerInitSkeleton =
  ["call k.SetParams(ctx, genState.Params)",
   "range genState.SequencerList as _, elem {",
   "call k.SetSequencer(ctx, elem)",
   "err := k.SetSequencerByDymintAddr(ctx, elem.MustProposerAddr(), elem.Address)",
   "if err != nil {",
   "panic",
   "}",
   "}",
   "range genState.NoticeQueue as _, s {",
   "seq := k.GetSequencer(ctx, s)",
   "call k.AddToNoticeQueue(ctx, seq)",
   "}",
   "range genState.GenesisProposers as _, elem {",
   "call k.SetProposer(ctx, elem.RollappId, elem.Address)",
   "}",
   "range genState.GenesisSuccessors as _, elem {",
   "call k.SetSuccessor(ctx, elem.RollappId, elem.Address)",
   "}"] := rfl

/-- `x/sequencer ExportGenesis` as mirrored by the model -/
theorem sequencerExportSkeleton_eq : Gen.Genesis.sequencerExportSkeleton =
  ["genesis := types.GenesisState{}",
   "genesis.Params = k.GetParams(ctx)",
   "genesis.SequencerList = k.AllSequencers(ctx)",
   "proposers := k.AllProposers(ctx)",
   "range proposers as _, proposer {",
   "if proposer.Sentinel() {",
   "continue",
   "}",
   "genesis.GenesisProposers = append(genesis.GenesisProposers, types.GenesisProposer{ RollappId: proposer.RollappId, Address: proposer.Address, })",
   "}",
   "elems := k.AllSuccessors(ctx)",
   "range elems as _, elem {",
   "if elem.Sentinel() {",
   "continue",
   "}",
   "genesis.GenesisSuccessors = append(genesis.GenesisSuccessors, types.GenesisProposer{ RollappId: elem.RollappId, Address: elem.Address, })",
   "}",
   "notice, err := k.NoticeQueue(ctx, nil)",
   "if err != nil {",
   "panic",
   "}",
   "range notice as _, seq {",
   "genesis.NoticeQueue = append(genesis.NoticeQueue, seq.Address)",
   "}",
   "return &genesis"] := rfl

/-- `x/delayedack InitGenesis` as mirrored by the model -/
theorem delayedackInitSkeleton_eq : Gen.Genesis.delayedackInitSkeleton =
  ["call k.SetParams(ctx, genState.Params)",
   "range genState.RollappPackets as _, packet {",
   "transferPacketData := packet.MustGetTransferPacketData()",
   "if packet.Status == commontypes.Status_PENDING {",
   "switch packet.Type {",
   "case commontypes.RollappPacket_ON_RECV:",
   "call k.MustSetPendingPacketByAddress(ctx, transferPacketData.Receiver, packet.RollappPacketKey())",
   "case commontypes.RollappPacket_ON_ACK, commontypes.RollappPacket_ON_TIMEOUT:",
   "call k.MustSetPendingPacketByAddress(ctx, transferPacketData.Sender, packet.RollappPacketKey())",
   "case commontypes.RollappPacket_UNDEFINED:",
   "panic",
   "}",
   "}",
   "call k.SetRollappPacket(ctx, packet)",
   "}"] := rfl

/-- `x/delayedack ExportGenesis` as mirrored by the model -/
theorem delayedackExportSkeleton_eq : Gen.Genesis.delayedackExportSkeleton =
  ["return types.GenesisState {",
   "Params = k.GetParams(ctx)",
   "RollappPackets = k.GetAllRollappPackets(ctx)",
   "}"] := rfl

/-- `x/eibc InitGenesis` as mirrored by the model -/
theorem eibcInitSkeleton_eq : Gen.Genesis.eibcInitSkeleton =
  ["call k.SetParams(ctx, genState.Params)",
   "range genState.DemandOrders as _, demandOrder {",
   "demandOrderCopy := demandOrder",
   "if demandOrderCopy.TrackingPacketKey != \"\" {",
   "decodedKey, err := base64.StdEncoding.DecodeString(demandOrderCopy.TrackingPacketKey)",
   "if err != nil {",
   "panic",
   "}",
   "demandOrderCopy.TrackingPacketKey = string(decodedKey)",
   "}",
   "err := k.SetDemandOrder(ctx, &demandOrderCopy)",
   "if err != nil {",
   "panic",
   "}",
   "}"] := rfl

/-- `x/eibc ExportGenesis` as mirrored by the model -/
theorem eibcExportSkeleton_eq : Gen.Genesis.eibcExportSkeleton =
  ["genesis := types.DefaultGenesis()",
   "genesis.Params = k.GetParams(ctx)",
   "allDemandOrders, err := k.ListAllDemandOrders(ctx)",
   "if err != nil {",
   "panic",
   "}",
   "genesis.DemandOrders = make([]types.DemandOrder, len(allDemandOrders))",
   "range allDemandOrders as i, order {",
   "orderCopy := *order",
   "if orderCopy.TrackingPacketKey != \"\" {",
   "encodedKey := base64.StdEncoding.EncodeToString([]byte(orderCopy.TrackingPacketKey))",
   "orderCopy.TrackingPacketKey = encodedKey",
   "}",
   "genesis.DemandOrders[i] = orderCopy",
   "}",
   "return genesis"] := rfl

/-- `x/dymns InitGenesis` as mirrored by the model -/
theorem dymnsInitSkeleton_eq : Gen.Genesis.dymnsInitSkeleton =
  ["call mustNoError(k.SetParams(ctx, genState.Params))",
   "range genState.DymNames as _, dymName {",
   "call mustNoError(k.SetDymName(ctx, dymName))",
   "call mustNoError(k.AfterDymNameOwnerChanged(ctx, dymName.Name))",
   "call mustNoError(k.AfterDymNameConfigChanged(ctx, dymName.Name))",
   "}",
   "range genState.SellOrderBids as _, bid {",
   "call mustNoError(k.GenesisRefundBid(ctx, bid))",
   "}",
   "range genState.BuyOrders as _, offer {",
   "call mustNoError(k.GenesisRefundBuyOrder(ctx, offer))",
   "}",
   "range genState.AliasesOfRollapps as _, aliasesOfRollApp {",
   "range aliasesOfRollApp.Aliases as _, alias {",
   "call mustNoError(k.SetAliasForRollAppId(ctx, aliasesOfRollApp.ChainId, alias))",
   "}",
   "}"] := rfl

/-- `x/dymns ExportGenesis` as mirrored by the model -/
theorem dymnsExportSkeleton_eq : Gen.Genesis.dymnsExportSkeleton =
  ["if ctx.BlockTime().Unix() <= 0 {",
   "ctx = ctx.WithBlockTime(time.Now().UTC())",
   "}",
   "params := k.GetParams(ctx)",
   "collectExpiredDymNamesExpiredFromEpoch := ctx.BlockTime().Add(-1 * params.Misc.GracePeriodDuration).Unix()",
   "dymNames := k.GetAllDymNames(ctx)",
   "var nonExpiredDymNameAndWithinGracePeriod []dymnstypes.DymName",
   "range dymNames as _, dymName {",
   "if dymName.ExpireAt < collectExpiredDymNamesExpiredFromEpoch {",
   "continue",
   "}",
   "nonExpiredDymNameAndWithinGracePeriod = append(nonExpiredDymNameAndWithinGracePeriod, dymName)",
   "}",
   "var nonRefundedBids []dymnstypes.SellOrderBid",
   "range k.GetAllSellOrders(ctx) as _, bid {",
   "if bid.HighestBid == nil {",
   "continue",
   "}",
   "nonRefundedBids = append(nonRefundedBids, *bid.HighestBid)",
   "}",
   "var nonRefundedBuyOrders []dymnstypes.BuyOrder",
   "range k.GetAllBuyOrders(ctx) as _, offer {",
   "truncatedOffer := offer",
   "truncatedOffer.CounterpartyOfferPrice = nil",
   "nonRefundedBuyOrders = append(nonRefundedBuyOrders, truncatedOffer)",
   "}",
   "aliasesOfRollApps := k.GetAllRollAppsWithAliases(ctx)",
   "return dymnstypes.GenesisState {",
   "Params = params",
   "DymNames = nonExpiredDymNameAndWithinGracePeriod",
   "SellOrderBids = nonRefundedBids",
   "BuyOrders = nonRefundedBuyOrders",
   "AliasesOfRollapps = aliasesOfRollApps",
   "}"] := rfl

/-- `x/dymns Keeper.GenesisRefundBid` as mirrored by the model -/
theorem dymnsGenesisRefundBidSkeleton_eq : Gen.Genesis.dymnsGenesisRefundBidSkeleton =
  ["soBid.Params = nil",
   "return k.refundBid(ctx, soBid, dymnstypes.TypeName, true)"] := rfl

/-- `x/dymns Keeper.GenesisRefundBuyOrder` as mirrored by the model -/
theorem dymnsGenesisRefundBuyOrderSkeleton_eq : Gen.Genesis.dymnsGenesisRefundBuyOrderSkeleton =
  ["return k.refundBuyOrder(ctx, offer, true)"] := rfl

/-- `x/dymns Keeper.refundBid` as mirrored by the model -/
theorem dymnsRefundBidSkeleton_eq : Gen.Genesis.dymnsRefundBidSkeleton =
  ["err := soBid.Validate(assetType)",
   "if err != nil {",
   "return err",
   "}",
   "if genesis {",
   "err := k.bankKeeper.MintCoins(ctx, dymnstypes.ModuleName, sdk.Coins{soBid.Price})",
   "if err != nil {",
   "return err",
   "}",
   "}",
   "err := k.bankKeeper.SendCoinsFromModuleToAccount(ctx, dymnstypes.ModuleName, sdk.MustAccAddressFromBech32(soBid.Bidder), sdk.Coins{soBid.Price})",
   "if err != nil {",
   "return err",
   "}",
   "call ctx.EventManager().EmitEvent(sdk.NewEvent(dymnstypes.EventTypeSoRefundBid, sdk.NewAttribute(dymnstypes.AttributeKeySoRefundBidder, soBid.Bidder), sdk.NewAttribute(dymnstypes.AttributeKeySoRefundAmount, soBid.Price.String())))",
   "return nil"] := rfl

/-- `x/dymns Keeper.refundBuyOrder` as mirrored by the model -/
theorem dymnsRefundBuyOrderSkeleton_eq : Gen.Genesis.dymnsRefundBuyOrderSkeleton =
  ["err := offer.Validate()",
   "if err != nil {",
   "return err",
   "}",
   "if genesis {",
   "err := k.bankKeeper.MintCoins(ctx, dymnstypes.ModuleName, sdk.Coins{offer.OfferPrice})",
   "if err != nil {",
   "return err",
   "}",
   "}",
   "err := k.bankKeeper.SendCoinsFromModuleToAccount(ctx, dymnstypes.ModuleName, sdk.MustAccAddressFromBech32(offer.Buyer), sdk.Coins{offer.OfferPrice})",
   "if err != nil {",
   "return err",
   "}",
   "call ctx.EventManager().EmitEvent(sdk.NewEvent(dymnstypes.EventTypeBoRefundOffer, sdk.NewAttribute(dymnstypes.AttributeKeyBoRefundBuyer, offer.Buyer), sdk.NewAttribute(dymnstypes.AttributeKeyBoRefundAmount, offer.OfferPrice.String())))",
   "return nil"] := rfl

/-- `x/lightclient Keeper.InitGenesis` as mirrored by the model -/
theorem lightclientInitSkeleton_eq : Gen.Genesis.lightclientInitSkeleton =
  ["err := genesisState.Validate()",
   "if err != nil {",
   "panic",
   "}",
   "range genesisState.GetCanonicalClients() as _, client {",
   "call k.SetCanonicalClient(ctx, client.RollappId, client.IbcClientId)",
   "}",
   "range genesisState.HeaderSigners as _, signer {",
   "err := k.SaveSigner(ctx, signer.SequencerAddress, signer.ClientId, signer.Height)",
   "if err != nil {",
   "panic",
   "}",
   "}"] := rfl

/-- `x/lightclient Keeper.ExportGenesis` as mirrored by the model -/
theorem lightclientExportSkeleton_eq : Gen.Genesis.lightclientExportSkeleton =
  ["clients := k.GetAllCanonicalClients(ctx)",
   "ret := types.GenesisState{ CanonicalClients: clients, }",
   "err := k.headerSigners.Walk(ctx, nil, func)",
   "{",
   "ret.HeaderSigners = append(ret.HeaderSigners, types.HeaderSignerEntry{ SequencerAddress: key.K1(), ClientId: key.K2(), Height: key.K3(), })",
   "return false, nil",
   "}",
   "if err != nil {",
   "panic",
   "}",
   "return ret"] := rfl

/-- `x/lightclient Keeper.SetCanonicalClient` as mirrored by the model -/
theorem lightclientSetCanonicalClientSkeleton_eq : Gen.Genesis.lightclientSetCanonicalClientSkeleton =
  ["store := ctx.KVStore(k.storeKey)",
   "call store.Set(types.GetRollappClientKey(rollappId), []byte(clientID))",
   "call store.Set(types.CanonicalClientKey(clientID), []byte(rollappId))"] := rfl

/-- `x/lightclient Keeper.SaveSigner` as mirrored by the model -/
theorem lightclientSaveSignerSkeleton_eq : Gen.Genesis.lightclientSaveSignerSkeleton =
  ["return errors.Join(k.headerSigners.Set(ctx, collections.Join3(seqAddr, client, h)), k.clientHeightToSigner.Set(ctx, collections.Join(client, h), seqAddr))"] := rfl

/-- `x/lightclient GenesisState.Validate` as mirrored by the model -/
theorem lightclientValidateSkeleton_eq : Gen.Genesis.lightclientValidateSkeleton =
  ["range g.CanonicalClients as _, client {",
   "if client.RollappId == \"\" {",
   "return fmt.Errorf(…)",
   "}",
   "if client.IbcClientId == \"\" {",
   "return fmt.Errorf(…)",
   "}",
   "}",
   "return nil"] := rfl

/-- `x/iro InitGenesis` as mirrored by the model -/
theorem iroInitSkeleton_eq : Gen.Genesis.iroInitSkeleton =
  ["moduleAcc := k.AK.GetModuleAccount(ctx, types.ModuleName)",
   "if moduleAcc == nil {",
   "panic",
   "}",
   "call k.SetParams(ctx, genState.Params)",
   "lastPlanId := uint64(0)",
   "range genState.Plans as _, plan {",
   "call k.SetPlan(ctx, plan)",
   "if plan.Id > lastPlanId {",
   "lastPlanId = plan.Id",
   "}",
   "}",
   "call k.SetLastPlanId(ctx, lastPlanId)"] := rfl

/-- `x/iro ExportGenesis` as mirrored by the model -/
theorem iroExportSkeleton_eq : Gen.Genesis.iroExportSkeleton =
  ["genesis := types.GenesisState{}",
   "genesis.Params = k.GetParams(ctx)",
   "genesis.Plans = append(genesis.Plans, k.GetAllPlans(ctx, false))",
   "return &genesis"] := rfl

/-- `x/iro Keeper.SetPlan` as mirrored by the model -/
theorem iroSetPlanSkeleton_eq : Gen.Genesis.iroSetPlanSkeleton =
  ["store := ctx.KVStore(k.storeKey)",
   "b := k.cdc.MustMarshal(&plan)",
   "call store.Set(types.PlanKey(fmt.Sprintf(…)), b)",
   "planByRollappKey := types.PlansByRollappKey(plan.RollappId)",
   "call store.Set(planByRollappKey, []byte(fmt.Sprintf(…)))"] := rfl

/-- `x/iro Keeper.GetNextPlanIdAndIncrement` as mirrored by the model -/
theorem iroNextPlanIdSkeleton_eq : Gen.Genesis.iroNextPlanIdSkeleton =
  ["lastPlanId := k.GetLastPlanId(ctx)",
   "call k.SetLastPlanId(ctx, lastPlanId + 1)",
   "return lastPlanId + 1"] := rfl

/-- `x/lockup Keeper.InitGenesis` as mirrored by the model -/
theorem lockupInitSkeleton_eq : Gen.Genesis.lockupInitSkeleton =
  ["call k.SetParams(ctx, types.DefaultParams())",
   "call k.SetLastLockID(ctx, genState.LastLockId)",
   "err := k.InitializeAllLocks(ctx, genState.Locks)",
   "if err != nil {",
   "return",
   "}"] := rfl

/-- `x/lockup Keeper.ExportGenesis` as mirrored by the model -/
theorem lockupExportSkeleton_eq : Gen.Genesis.lockupExportSkeleton =
  ["locks, err := k.GetPeriodLocks(ctx)",
   "if err != nil {",
   "panic",
   "}",
   "return types.GenesisState {",
   "LastLockId = k.GetLastLockID(ctx)",
   "Locks = locks",
   "}"] := rfl

/-- `x/lockup Keeper.GetPeriodLocks` as mirrored by the model -/
theorem lockupGetPeriodLocksSkeleton_eq : Gen.Genesis.lockupGetPeriodLocksSkeleton =
  ["unlockings := k.getLocksFromIterator(ctx, k.LockIterator(ctx, true))",
   "notUnlockings := k.getLocksFromIterator(ctx, k.LockIterator(ctx, false))",
   "return combineLocks(notUnlockings, unlockings), nil"] := rfl

/-- `x/lockup combineLocks` as mirrored by the model -/
theorem lockupCombineLocksSkeleton_eq : Gen.Genesis.lockupCombineLocksSkeleton =
  ["return append(pl1, pl2)"] := rfl

/-- `x/incentives Keeper.InitGenesis` as mirrored by the model -/
theorem incentivesInitSkeleton_eq : Gen.Genesis.incentivesInitSkeleton =
  ["call k.SetParams(ctx, genState.Params)",
   "call k.SetLockableDurations(ctx, genState.LockableDurations)",
   "range genState.Gauges as _, gauge {",
   "gauge := gauge",
   "err := k.SetGaugeWithRefKey(ctx, &gauge)",
   "if err != nil {",
   "panic",
   "}",
   "}",
   "call k.SetLastGaugeID(ctx, genState.LastGaugeId)"] := rfl

/-- `x/incentives Keeper.ExportGenesis` as mirrored by the model -/
theorem incentivesExportSkeleton_eq : Gen.Genesis.incentivesExportSkeleton =
  ["return types.GenesisState {",
   "Params = k.GetParams(ctx)",
   "LockableDurations = k.GetLockableDurations(ctx)",
   "Gauges = k.GetNotFinishedGauges(ctx)",
   "LastGaugeId = k.GetLastGaugeID(ctx)",
   "}"] := rfl

/-- `x/incentives Keeper.SetGaugeWithRefKey` as mirrored by the model -/
theorem incentivesSetGaugeWithRefKeySkeleton_eq : Gen.Genesis.incentivesSetGaugeWithRefKeySkeleton =
  ["err := k.setGauge(ctx, gauge)",
   "if err != nil {",
   "return err",
   "}",
   "curTime := ctx.BlockTime()",
   "timeKey := getTimeKey(gauge.StartTime)",
   "activeOrUpcomingGauge := gauge.IsActiveGauge(curTime) || gauge.IsUpcomingGauge(curTime)",
   "if gauge.IsUpcomingGauge(curTime) {",
   "combinedKeys := combineKeys(types.KeyPrefixUpcomingGauges, timeKey)",
   "return k.CreateGaugeRefKeys(ctx, gauge, combinedKeys, activeOrUpcomingGauge)",
   "} else if gauge.IsActiveGauge(curTime) {",
   "combinedKeys := combineKeys(types.KeyPrefixActiveGauges, timeKey)",
   "return k.CreateGaugeRefKeys(ctx, gauge, combinedKeys, activeOrUpcomingGauge)",
   "} else {",
   "combinedKeys := combineKeys(types.KeyPrefixFinishedGauges, timeKey)",
   "return k.CreateGaugeRefKeys(ctx, gauge, combinedKeys, activeOrUpcomingGauge)",
   "}"] := rfl

/-- `x/incentives Keeper.GetNotFinishedGauges` as mirrored by the model -/
theorem incentivesNotFinishedSkeleton_eq : Gen.Genesis.incentivesNotFinishedSkeleton =
  ["return append(k.GetActiveGauges(ctx), k.GetUpcomingGauges(ctx))"] := rfl

/-- `x/incentives Gauge.IsUpcomingGauge` as mirrored by the model -/
theorem incentivesIsUpcomingSkeleton_eq : Gen.Genesis.incentivesIsUpcomingSkeleton =
  ["return curTime.Before(gauge.StartTime)"] := rfl

/-- `x/incentives Gauge.IsActiveGauge` as mirrored by the model -/
theorem incentivesIsActiveSkeleton_eq : Gen.Genesis.incentivesIsActiveSkeleton =
  ["if (curTime.After(gauge.StartTime) || curTime.Equal(gauge.StartTime)) && (gauge.IsPerpetual || gauge.FilledEpochs < gauge.NumEpochsPaidOver) {",
   "return true",
   "}",
   "return false"] := rfl

/-- `x/streamer Keeper.InitGenesis` as mirrored by the model -/
theorem streamerInitSkeleton_eq : Gen.Genesis.streamerInitSkeleton =
  ["recipientAcc := k.ak.GetModuleAccount(ctx, types.ModuleName)",
   "if recipientAcc == nil {",
   "panic",
   "}",
   "call k.SetParams(ctx, genState.Params)",
   "call slices.SortFunc(genState.Streams, CmpStreams)",
   "range genState.Streams as _, stream {",
   "err := k.SetStreamWithRefKey(ctx, &stream)",
   "if err != nil {",
   "panic",
   "}",
   "}",
   "call k.SetLastStreamID(ctx, genState.LastStreamId)",
   "range k.ek.AllEpochInfos(ctx) as _, epoch {",
   "err := k.SaveEpochPointer(ctx, types.NewEpochPointer(epoch.Identifier, epoch.Duration))",
   "if err != nil {",
   "panic",
   "}",
   "}",
   "range genState.EpochPointers as _, pointer {",
   "err := k.SaveEpochPointer(ctx, pointer)",
   "if err != nil {",
   "panic",
   "}",
   "}"] := rfl

/-- `x/streamer Keeper.ExportGenesis` as mirrored by the model -/
theorem streamerExportSkeleton_eq : Gen.Genesis.streamerExportSkeleton =
  ["pointers, err := k.GetAllEpochPointers(ctx)",
   "if err != nil {",
   "panic",
   "}",
   "return types.GenesisState {",
   "Params = k.GetParams(ctx)",
   "Streams = k.GetNotFinishedStreams(ctx)",
   "LastStreamId = k.GetLastStreamID(ctx)",
   "EpochPointers = pointers",
   "}"] := rfl

/-- `x/streamer Keeper.SetStreamWithRefKey` as mirrored by the model -/
theorem streamerSetStreamWithRefKeySkeleton_eq : Gen.Genesis.streamerSetStreamWithRefKeySkeleton =
  ["err := k.SetStream(ctx, stream)",
   "if err != nil {",
   "return err",
   "}",
   "curTime := ctx.BlockTime()",
   "timeKey := getTimeKey(stream.StartTime)",
   "if stream.IsUpcomingStream(curTime) {",
   "combinedKeys := combineKeys(types.KeyPrefixUpcomingStreams, timeKey)",
   "return k.CreateStreamRefKeys(ctx, stream, combinedKeys)",
   "} else if stream.IsActiveStream(curTime) {",
   "combinedKeys := combineKeys(types.KeyPrefixActiveStreams, timeKey)",
   "return k.CreateStreamRefKeys(ctx, stream, combinedKeys)",
   "} else {",
   "combinedKeys := combineKeys(types.KeyPrefixFinishedStreams, timeKey)",
   "return k.CreateStreamRefKeys(ctx, stream, combinedKeys)",
   "}"] := rfl

/-- `x/streamer Keeper.GetNotFinishedStreams` as mirrored by the model -/
theorem streamerNotFinishedSkeleton_eq : Gen.Genesis.streamerNotFinishedSkeleton =
  ["return append(k.GetActiveStreams(ctx), k.GetUpcomingStreams(ctx))"] := rfl

/-- `x/streamer Stream.IsUpcomingStream` as mirrored by the model -/
theorem streamerIsUpcomingSkeleton_eq : Gen.Genesis.streamerIsUpcomingSkeleton =
  ["return curTime.Before(stream.StartTime)"] := rfl

/-- `x/streamer Stream.IsActiveStream` as mirrored by the model -/
theorem streamerIsActiveSkeleton_eq : Gen.Genesis.streamerIsActiveSkeleton =
  ["if (curTime.After(stream.StartTime) || curTime.Equal(stream.StartTime)) && (stream.FilledEpochs < stream.NumEpochsPaidOver) {",
   "return true",
   "}",
   "return false"] := rfl

/-- `x/streamer NewEpochPointer` as mirrored by the model -/
theorem streamerNewEpochPointerSkeleton_eq : Gen.Genesis.streamerNewEpochPointerSkeleton =
  ["return EpochPointer {",
   "StreamId = MinStreamID",
   "GaugeId = MinGaugeID",
   "EpochIdentifier = epochIdentifier",
   "EpochDuration = epochDuration",
   "}"] := rfl

/-- `x/sponsorship Keeper.ImportGenesis` as mirrored by the model -/
theorem sponsorshipInitSkeleton_eq : Gen.Genesis.sponsorshipInitSkeleton =
  ["err := k.SetParams(ctx, genState.Params)",
   "if err != nil {",
   "return fmt.Errorf(…)",
   "}",
   "distr := types.NewDistribution()",
   "range genState.VoterInfos as _, i {",
   "voterAddr, errX := sdk.AccAddressFromBech32(i.Voter)",
   "if errX != nil {",
   "return fmt.Errorf(…)",
   "}",
   "range i.Validators as _, v {",
   "valAddr, err := sdk.ValAddressFromBech32(v.Validator)",
   "if err != nil {",
   "return fmt.Errorf(…)",
   "}",
   "err = k.SaveDelegatorValidatorPower(ctx, voterAddr, valAddr, v.Power)",
   "if err != nil {",
   "return fmt.Errorf(…)",
   "}",
   "}",
   "err := k.SaveVote(ctx, voterAddr, i.Vote)",
   "if err != nil {",
   "return fmt.Errorf(…)",
   "}",
   "distr = distr.Merge(i.Vote.ToDistribution())",
   "}",
   "err = k.SaveDistribution(ctx, distr)",
   "if err != nil {",
   "return fmt.Errorf(…)",
   "}",
   "return nil"] := rfl

/-- `x/sponsorship Keeper.ExportGenesis` as mirrored by the model -/
theorem sponsorshipExportSkeleton_eq : Gen.Genesis.sponsorshipExportSkeleton =
  ["var infos []types.VoterInfo",
   "const Break = true",
   "const Continue = false",
   "err := k.IterateVotes(ctx, func)",
   "{",
   "var vals []types.ValidatorVotingPower",
   "err := k.IterateDelegatorValidatorPower(ctx, voterAddr, func)",
   "{",
   "vals = append(vals, types.ValidatorVotingPower{ Validator: valAddr.String(), Power: power, })",
   "return Continue, nil",
   "}",
   "if err != nil {",
   "return Break, err",
   "}",
   "infos = append(infos, types.VoterInfo{ Voter: voterAddr.String(), Vote: vote, Validators: vals, })",
   "return Continue, nil",
   "}",
   "if err != nil {",
   "return types.GenesisState{}, fmt.Errorf(…)",
   "}",
   "params, err := k.GetParams(ctx)",
   "if err != nil {",
   "return types.GenesisState{}, fmt.Errorf(…)",
   "}",
   "return types.GenesisState {",
   "Params = params",
   "VoterInfos = infos",
   "}, nil"] := rfl

/-- `x/app App.ExportAppStateAndValidators` as mirrored by the model -/
theorem appExportSkeleton_eq : Gen.Genesis.appExportSkeleton =
  ["ctx := app.NewContextLegacy(true, cmtproto.Header{Height: app.LastBlockHeight()})",
   "height := app.LastBlockHeight() + 1",
   "if forZeroHeight {",
   "height = 0",
   "call app.prepForZeroHeightGenesis(ctx, jailAllowedAddrs)",
   "}",
   "genState, err := app.mm.ExportGenesisForModules(ctx, app.appCodec, modulesToExport)",
   "if err != nil {",
   "return servertypes.ExportedApp{}, err",
   "}",
   "appState, err := json.MarshalIndent(genState, \"\", \" \")",
   "if err != nil {",
   "return servertypes.ExportedApp{}, err",
   "}",
   "validators, err := staking.WriteValidators(ctx, app.StakingKeeper)",
   "if err != nil {",
   "return servertypes.ExportedApp{}, err",
   "}",
   "return servertypes.ExportedApp {",
   "AppState = appState",
   "Validators = validators",
   "Height = height",
   "ConsensusParams = app.BaseApp.GetConsensusParams(ctx)",
   "}, nil"] := rfl

end DymVerif.GenEq.Genesis
