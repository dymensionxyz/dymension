/-
  Lemmas/PacketsEibc2 — decomposition of the successful eIBC messages into their steps
  (direct, on-demand LP, authorised through a grant; fee update), what a grant's `Accept` checked, and
  the shape the three fulfilment messages share (`FulfilsBy`: order, recorded fulfiller and beneficiary as
  parameters), through which the invariants and the clauses of C05 treat them.
-/
import DymVerif.Lemmas.PacketsEibc
namespace DymVerif.Packets
open DymVerif DymVerif.Keys

theorem msgFulfill_ok {s s' : St} {a : Addr} {id : Bytes} {fee : Int} (h : msgFulfill s a id fee = .ok s') :
    ∃ o, getOutstanding s id = .ok o ∧ o.fee = fee ∧ fulfillCore s o a = .ok s' := by
  unfold msgFulfill at h
  obtain ⟨_, h⟩ := guard_ok h
  split at h
  · cases h
  · rename_i o ho
    obtain ⟨hfee, h⟩ := guard_ok h
    exact ⟨o, ho, by simpa using hfee, h⟩

theorem msgUpdateFee_ok {s s' : St} {a : Addr} {id : Bytes} {fee : Int} (h : msgUpdateFee s a id fee = .ok s') :
    0 ≤ fee ∧ ∃ o p price, getOutstanding s id = .ok o ∧ a = o.recipient ∧ getPacket s o.trackingKey = some p ∧
      calcPrice p.amount fee (if p.ptype == .onRecv then s.bridgingFee else Dec.zero) = .ok price ∧
      s' = setOrder s { o with fee := fee, price := price, amount := p.amount, withBf := p.ptype == .onRecv } := by
  unfold msgUpdateFee at h
  obtain ⟨hneg, h⟩ := guard_ok h
  split at h
  · cases h
  · rename_i o ho
    obtain ⟨hrec, h⟩ := guard_ok h
    split at h
    · cases h
    · rename_i p hp
      split at h
      · cases h
      · rename_i price hc
        cases h
        exact ⟨Int.not_lt.mp hneg, o, p, price, ho, by simpa using hrec, hp, hc, rfl⟩

theorem calcPrice_ok {amt fee : Int} {mult : Dec} {price : Int} (h : calcPrice amt fee mult = .ok price) :
    price + fee + (mult.mulInt amt).truncateInt = amt ∧ 0 < price := by
  unfold calcPrice at h
  split at h
  · rename_i hp
    cases h
    exact ⟨by omega, hp⟩
  · cases h

/-- no bridging fee on refunds: `msgUpdateFee` prices them with a zero multiplier -/
theorem zero_mulInt_truncateInt (a : Int) : (Dec.zero.mulInt a).truncateInt = 0 := by
  simp [Dec.zero, Dec.mulInt, Dec.truncateInt, chopTrunc]

-- ------------------------------------------------------------------ order creation

theorem memoFee_nonneg {m : Memo} {fee : Int} (h : memoFee m = .ok fee) : 0 ≤ fee := by
  cases m with
  | eibc f =>
    simp only [memoFee] at h
    split at h
    · cases h
    · rename_i hf; cases h; exact Int.not_lt.mp hf
  | notJson | eibcBad => cases h
  | none | noEibc | forward _ => cases h; exact Int.le_refl 0

-- ------------------------------------------------------------------ on-demand LPs

/-- only LP records were deleted between the two states -/
structure LpDel (s s0 : St) : Prop where
  eq : s0 = { s with lps := s0.lps }
  sub : ∀ x ∈ s0.lps, x ∈ s.lps

theorem LpDel.refl (s : St) : LpDel s s := ⟨rfl, fun _ h => h⟩

theorem LpDel.step {s s0 : St} (h : LpDel s s0) (id : Nat) : LpDel s (delLp s0 id) := by
  refine ⟨?_, fun x hx => h.sub x (List.mem_filter.mp hx).1⟩
  have := h.eq
  unfold delLp
  rw [this]

theorem msgDeleteLps_lpDel {owner : Addr} : ∀ (ids : List Nat) {s0 s s' : St}, LpDel s s0 → msgDeleteLps s0 owner ids = .ok s' → LpDel s s'
  | [], _, _, _, hd, h => by unfold msgDeleteLps at h; cases h; exact hd
  | id :: rest, _, _, _, hd, h => by
    unfold msgDeleteLps at h
    split at h
    · exact msgDeleteLps_lpDel rest hd h
    · split at h
      · cases h
      · exact msgDeleteLps_lpDel rest (hd.step id) h

theorem msgCreateLp_ok {s s' : St} {l : LP} {ok : Bool} (h : msgCreateLp s l ok = .ok s') :
    s' = { (setLp s { l with id := s.nextLp, spent := 0 }) with nextLp := s.nextLp + 1 } ∧ 0 < l.spendLimit ∧ 0 < l.maxPrice ∧ 0 ≤ l.minFee := by
  unfold msgCreateLp at h
  obtain ⟨_, h⟩ := guard_ok h
  obtain ⟨hv, h⟩ := guard_ok h
  cases h
  simp only [Bool.or_eq_true, decide_eq_true_eq, not_or, Int.not_le, Int.not_lt] at hv
  exact ⟨rfl, hv.2, hv.1.1, hv.1.2⟩

theorem onDemandLoop_ok {o : Order} : ∀ (l : List LP) {s0 s s' : St}, LpDel s s0 → onDemandLoop s0 o l = .ok s' →
    ∃ l0 ∈ l, ∃ s1 s2, LpDel s s1 ∧ fulfillCore s1 o l0.addr = .ok s2 ∧ s' = setLp s2 { l0 with spent := l0.spent + o.price }
  | [], _, _, _, _, h => by unfold onDemandLoop at h; cases h
  | x :: rest, s0, s, s', hd, h => by
    unfold onDemandLoop at h
    split at h
    · split at h
      · cases h
      · obtain ⟨l0, hl0, s1, s2, h1, h2, h3⟩ := onDemandLoop_ok rest (hd.step x.id) h
        exact ⟨l0, List.mem_cons_of_mem _ hl0, s1, s2, h1, h2, h3⟩
    · cases h
    · rename_i s2 hf
      cases h
      exact ⟨x, List.mem_cons_self, s0, s2, hd, hf, rfl⟩

theorem mem_applyPerm {perm : List Nat} {l : List LP} {x : LP} (h : x ∈ applyPerm perm l) : x ∈ l := by
  unfold applyPerm at h
  split at h
  · obtain ⟨i, _, hi⟩ := List.mem_filterMap.mp h
    exact List.mem_of_getElem? hi
  · exact h

theorem msgOnDemand_ok {s s' : St} {id : Bytes} {perm : List Nat} (h : msgOnDemand s id perm = .ok s') :
    ∃ o, getOutstanding s id = .ok o ∧ ∃ l0 ∈ compatibleLPs s o, ∃ s1 s2, LpDel s s1 ∧
      fulfillCore s1 o l0.addr = .ok s2 ∧ s' = setLp s2 { l0 with spent := l0.spent + o.price } := by
  unfold msgOnDemand at h
  split at h
  · cases h
  · rename_i o ho
    obtain ⟨l0, hl0, s1, s2, h1, h2, h3⟩ := onDemandLoop_ok _ (LpDel.refl s) h
    exact ⟨o, ho, l0, mem_applyPerm hl0, s1, s2, h1, h2, h3⟩

/-- what `Accepts` + the (rollapp, denom) index guarantee about a compatible LP -/
theorem compatible_spec {s : St} {o : Order} {l : LP} (h : l ∈ compatibleLPs s o) :
    l ∈ s.lps ∧ l.rollappId = o.rollappId ∧ l.denom = o.denom ∧ o.price ≤ l.maxPrice ∧ o.price ≤ l.spendLimit - l.spent ∧
    l.minFee ≤ o.fee ∧ l.minAge ≤ (s.h + 2 ^ 64 - o.creationHeight) % 2 ^ 64 := by
  unfold compatibleLPs at h
  obtain ⟨hm, hc⟩ := List.mem_filter.mp h
  simp only [Bool.and_eq_true, beq_iff_eq, lpAccepts, decide_eq_true_eq, lpMaxSpend] at hc
  obtain ⟨⟨h1, h2⟩, ⟨h3, h4⟩, h5⟩ := hc
  have h3' : o.price ≤ min l.maxPrice (l.spendLimit - l.spent) := of_decide_eq_true h3
  have h4' : l.minFee ≤ o.fee := h4
  have h5' : l.minAge ≤ (s.h + 2 ^ 64 - o.creationHeight) % 2 ^ 64 := h5
  refine ⟨hm, h1, h2, ?_, ?_, h4', h5'⟩
  · exact Int.le_trans h3' (Int.min_le_left _ _)
  · exact Int.le_trans h3' (Int.min_le_right _ _)

-- ------------------------------------------------------------------ authorised fulfilment

theorem validateOrder_ok {s : St} {o : Order} {m : AuthMsg} (h : validateOrder s o m = .ok ()) :
    o.rollappId = m.rollappId ∧ m.price = [(o.denom, o.price)] ∧ o.fee = m.expectedFee ∧
    (m.sv = true → settlementValidated s o = .ok true) := by
  unfold validateOrder at h
  obtain ⟨h1, h⟩ := guard_ok h
  obtain ⟨h2, h⟩ := guard_ok h
  obtain ⟨h3, h⟩ := guard_ok h
  refine ⟨by simpa using h1, by simpa using h2, by simpa using h3, fun hsv => ?_⟩
  simp only [hsv, if_true] at h
  split at h
  · cases h
  · rename_i v hv
    split at h
    · rename_i hvt; rw [hv, hvt]
    · cases h

theorem payOperator_spec {s s' : St} {lp op : Addr} {d : Denom} {v : Int} (h : payOperator s lp op d v = some s') :
    ∀ a' d', getBal s'.bal a' d' =
      getBal s.bal a' d' - (if a' = lp ∧ d' = d then (max v 0) else 0) + (if a' = op ∧ d' = d then (max v 0) else 0) := by
  unfold payOperator at h
  split at h
  · rename_i hv
    have := (sendCoins_spec h).2
    intro a' d'
    rw [this a' d', Int.max_eq_left (Int.le_of_lt hv)]
  · rename_i hv
    cases h
    intro a' d'
    rw [Int.max_eq_right (Int.not_lt.mp hv)]
    simp

theorem fulfillAuthorizedCore_ok {s s' : St} {m : AuthMsg} (h : fulfillAuthorizedCore s m = .ok s') :
    ∃ o, getOutstanding s m.orderId = .ok o ∧ validateOrder s o m = .ok () ∧
      ∃ s1 s2, sendCoins s m.lp o.recipient o.denom o.price = some s1 ∧
        payOperator s1 m.lp m.opAddr o.denom (operatorFee o.fee m.share) = some s2 ∧
        setOrderFulfilled s2 o m.opAddr (some m.lp) = .ok s' := by
  unfold fulfillAuthorizedCore at h
  split at h
  · cases h
  · rename_i o ho
    split at h
    · cases h
    · rename_i u hv
      obtain ⟨_, h⟩ := guard_ok h
      split at h
      · cases h
      · rename_i s1 hs1
        obtain ⟨_, h⟩ := guard_ok h
        split at h
        · cases h
        · rename_i s2 hs2
          exact ⟨o, ho, by cases u; exact hv, s1, s2, hs1, hs2, h⟩

/-- what `FulfillOrderAuthorization.Accept` checked, about the message as the caller wrote it -/
structure Accepted (g : Grant) (m : AuthMsg) (c : Criteria) : Prop where
  first : g.crit.find? (·.rollappId == m.rollappId) = some c
  sv : c.sv = m.sv
  share : c.opShare = m.share
  denoms : c.denoms.isEmpty = false → ∀ x ∈ m.price, x.1 ∈ c.denoms
  minFee : grantMinFee c m.amount ≤ m.expectedFee
  maxPrice : coinsIsZero c.maxPrice = false → exceedsMaxPrice m.price c.maxPrice = false
  limit : coinsIsZero c.spendLimit = false → (coinsSafeSub c.spendLimit m.price).2 = false

theorem acceptGrant_ok {g : Grant} {m : AuthMsg} {r : Option Grant} (h : acceptGrant g m = .ok r) :
    ∃ c, Accepted g m c ∧ acceptSpend g c m = .ok r := by
  unfold acceptGrant at h
  split at h
  · cases h
  · rename_i c hc
    obtain ⟨h1, h⟩ := guard_ok h
    obtain ⟨h2, h⟩ := guard_ok h
    obtain ⟨h3, h⟩ := guard_ok h
    obtain ⟨h4, h⟩ := guard_ok h
    obtain ⟨h5, h⟩ := guard_ok h
    refine ⟨c, ⟨hc, by simpa using h1, by simpa using h2, ?_, Int.not_lt.mp h4, ?_, ?_⟩, h⟩
    · intro hne x hx
      simp only [hne, Bool.not_false, Bool.true_and, List.any_eq_true, Bool.not_eq_true', not_exists, not_and,
        Bool.not_eq_false] at h3
      have := h3 x hx
      simpa using this
    · intro hz
      simpa [hz] using h5
    · intro hz
      unfold acceptSpend at h
      simp only [hz, Bool.not_false, if_true] at h
      split at h
      · cases h
      · rename_i hneg; simpa using hneg

theorem acceptSpend_result {g : Grant} {c : Criteria} {m : AuthMsg} {r : Option Grant} (h : acceptSpend g c m = .ok r) :
    (coinsIsZero c.spendLimit = true ∧ r = some g) ∨
    (coinsIsZero c.spendLimit = false ∧
      r = (if (spendCriteria g m.rollappId (coinsSafeSub c.spendLimit m.price).1).isEmpty then none
           else some { g with crit := spendCriteria g m.rollappId (coinsSafeSub c.spendLimit m.price).1 })) := by
  unfold acceptSpend at h
  cases hz : coinsIsZero c.spendLimit with
  | true => simp only [hz, Bool.not_true, Bool.false_eq_true, if_false] at h; cases h; exact Or.inl ⟨rfl, rfl⟩
  | false =>
    simp only [hz, Bool.not_false, if_true] at h
    split at h
    · cases h
    · split at h
      · rename_i he; cases h; exact Or.inr ⟨rfl, by simp [he]⟩
      · rename_i he; cases h; exact Or.inr ⟨rfl, by simp [he]⟩

theorem msgFulfillAuthorized_ok {s s' : St} {grantee : Addr} {m : AuthMsg} (h : msgFulfillAuthorized s grantee m = .ok s') :
    authMsgValid m = true ∧
    ((m.lp = grantee ∧ fulfillAuthorizedCore s m = .ok s') ∨
     (m.lp ≠ grantee ∧ ∃ g r, getGrant s m.lp grantee = some g ∧ acceptGrant g m = .ok r ∧
        fulfillAuthorizedCore (match r with | none => delGrant s m.lp grantee | some g' => setGrant s g') m = .ok s')) := by
  unfold msgFulfillAuthorized at h
  split at h
  · cases h
  · rename_i hv
    refine ⟨by simpa using hv, ?_⟩
    split at h
    · rename_i he; exact Or.inl ⟨by simpa using he, h⟩
    · rename_i he
      refine Or.inr ⟨by simpa using he, ?_⟩
      split at h
      · cases h
      · rename_i g hg
        split at h
        · cases h
        · rename_i ha; exact ⟨g, none, hg, ha, h⟩
        · rename_i g' ha; exact ⟨g, some g', hg, ha, h⟩

-- ------------------------------------------------------------------ messages that write no order and no packet

theorem msgGrant_ok {s s' : St} {g : Grant} (h : msgGrant s g = .ok s') : s' = setGrant s g := by
  unfold msgGrant at h
  obtain ⟨_, h⟩ := guard_ok h
  obtain ⟨_, h⟩ := guard_ok h
  obtain ⟨_, h⟩ := guard_ok h
  cases h; rfl

-- coin arithmetic of a one-coin price -------------------------------------------------------

theorem exceeds_single {d : Denom} {price : Int} {mx : Coins} (h : exceedsMaxPrice [(d, price)] mx = false) :
    coinsAmountOf mx d ≠ 0 → price ≤ coinsAmountOf mx d := by
  intro hne
  simp only [exceedsMaxPrice, List.any_cons, List.any_nil, Bool.or_false, Bool.and_eq_false_iff, bne_eq_false_iff_eq,
    decide_eq_false_iff_not, Int.not_lt] at h
  rcases h with h | h
  · exact absurd h hne
  · exact h

/-- a one-coin price fits into the spend limit: the limit lists the denom with at least the price -/
theorem safeSub_single {lim : Coins} {d : Denom} {price : Int} (hp : 0 < price)
    (h : (coinsSafeSub lim [(d, price)]).2 = false) : price ≤ coinsAmountOf lim d := by
  unfold coinsSafeSub coinsMerge at h
  simp only [List.any_append, Bool.or_eq_false_iff] at h
  obtain ⟨h1, h2⟩ := h
  cases hf : lim.find? (·.1 == d) with
  | none =>
    -- the denom is not in the limit: the price would appear negated
    exfalso
    have hany : lim.any (fun x => x.1 == d) = false := by
      cases ha : lim.any (fun x => x.1 == d) with
      | false => rfl
      | true =>
        obtain ⟨x, hx, hxd⟩ := List.any_eq_true.mp ha
        have := List.find?_eq_none.mp hf x hx
        simp [hxd] at this
    simp [List.filter, hany] at h2
    omega
  | some x =>
    have hx := List.mem_of_find?_eq_some hf
    have hxd : x.1 = d := by simpa using List.find?_some hf
    have : coinsAmountOf lim d = x.2 := by unfold coinsAmountOf; rw [hf]
    rw [this]
    have h1' := List.any_eq_false.mp h1 (x.1, x.2 - coinsAmountOf [(d, price)] x.1) (List.mem_map.mpr ⟨x, hx, rfl⟩)
    simp only [decide_eq_true_eq, Int.not_lt] at h1'
    have hc : coinsAmountOf [(d, price)] x.1 = price := by
      unfold coinsAmountOf; simp [List.find?, hxd]
    rw [hc] at h1'
    omega

theorem lpDel_fields {s s1 : St} (h : LpDel s s1) :
    s1.packets = s.packets ∧ s1.orders = s.orders ∧ s1.bal = s.bal ∧ s1.accts = s.accts ∧ s1.ras = s.ras ∧ s1.h = s.h := by
  rw [h.eq]; exact ⟨rfl, rfl, rfl, rfl, rfl, rfl⟩

theorem getOutstanding_congr {s s1 : St} (h1 : s1.packets = s.packets) (h2 : s1.orders = s.orders) (h3 : s1.ras = s.ras) (id : Bytes) :
    getOutstanding s1 id = getOutstanding s id := by
  unfold getOutstanding getOrder getPacket verifyHeightFinalized finHeight getRa
  rw [h1, h2, h3]

theorem settlementValidated_congr {s s1 : St} (h1 : s1.packets = s.packets) (h3 : s1.ras = s.ras) (o : Order) :
    settlementValidated s1 o = settlementValidated s o := by
  unfold settlementValidated getPacket getRa
  rw [h1, h3]

-- ------------------------------------------------------------------ the three fulfilment messages as one

/-- what the three fulfilment messages (direct, through an on-demand LP, authorised by a grant) have in
    common: the order `o`, outstanding under `id`, is marked with the fulfiller `f` and its packet redirected
    to `c`, else to `f` (`setOrderFulfilled`), in a state that is `s` up to bank balances, the grant used and
    LP records deleted for lack of funds; the on-demand path then books the price on the LP record -/
def FulfilsBy (id : Bytes) (o : Order) (f : Addr) (c : Option Addr) (s s' : St) : Prop :=
  ∃ b a l g s1, getOutstanding s id = .ok o ∧ (∀ x ∈ l, x ∈ s.lps) ∧
    setOrderFulfilled { s with bal := b, accts := a, lps := l, grants := g } o f c = .ok s1 ∧
    (s' = s1 ∨ ∃ lp, lp.spent ≤ lp.spendLimit ∧ s' = setLp s1 lp)

theorem fulfillCore_coins {s s' : St} {o : Order} {f : Addr} (h : fulfillCore s o f = .ok s') :
    ∃ b a, setOrderFulfilled { s with bal := b, accts := a } o f none = .ok s' := by
  unfold fulfillCore at h
  obtain ⟨_, h⟩ := guard_ok h
  split at h
  · cases h
  · rename_i s1 hs
    obtain ⟨b, a, rfl⟩ := coins_sendCoins hs
    exact ⟨b, a, h⟩

/-- `MsgFulfillOrder`: at the stated fee, the sender is the fulfiller and the beneficiary -/
theorem msgFulfill_by {s s' : St} {a id fee} (h : msgFulfill s a id fee = .ok s') : ∃ o, o.fee = fee ∧ FulfilsBy id o a none s s' := by
  obtain ⟨o, ho, hfee, hc⟩ := msgFulfill_ok h
  obtain ⟨b, ac, hf⟩ := fulfillCore_coins hc
  exact ⟨o, hfee, b, ac, s.lps, s.grants, s', ho, fun _ hx => hx, hf, Or.inl rfl⟩

/-- `MsgTryFulfillOnDemand`: a compatible LP is the fulfiller and the beneficiary -/
theorem msgOnDemand_by {s s' : St} {id perm} (h : msgOnDemand s id perm = .ok s') :
    ∃ o l, l ∈ compatibleLPs s o ∧ FulfilsBy id o l.addr none s s' := by
  obtain ⟨o, ho, l0, hl0, s1, s2, hd, hc, rfl⟩ := msgOnDemand_ok h
  obtain ⟨b, ac, hf⟩ := fulfillCore_coins hc
  obtain ⟨-, -, -, -, hsp, -⟩ := compatible_spec hl0
  rw [hd.eq] at hf
  exact ⟨o, l0, hl0, b, ac, s1.lps, s.grants, s2, ho, hd.sub, hf,
    Or.inr ⟨_, (by show l0.spent + o.price ≤ l0.spendLimit; omega), rfl⟩⟩

/-- `MsgFulfillOrderAuthorized`: at the stated fee, the operator's fee address is recorded as the fulfiller,
    the LP is the beneficiary -/
theorem msgFulfillAuthorized_by {s s' : St} {gr m} (h : msgFulfillAuthorized s gr m = .ok s') :
    ∃ o, o.fee = m.expectedFee ∧ FulfilsBy m.orderId o m.opAddr (some m.lp) s s' := by
  have core : ∀ g, fulfillAuthorizedCore { s with grants := g } m = .ok s' →
      ∃ o, o.fee = m.expectedFee ∧ FulfilsBy m.orderId o m.opAddr (some m.lp) s s' := by
    intro g hc
    obtain ⟨o, ho, hv, s1, s2, hs1, hs2, hf⟩ := fulfillAuthorizedCore_ok hc
    obtain ⟨b, ac, rfl⟩ := (coins_sendCoins hs1).trans (coins_payOperator hs2)
    exact ⟨o, (validateOrder_ok hv).2.2.1, b, ac, s.lps, g, s', ho, fun _ hx => hx, hf, Or.inl rfl⟩
  obtain ⟨-, ⟨-, hc⟩ | ⟨-, g, r, -, -, hc⟩⟩ := msgFulfillAuthorized_ok h
  · exact core s.grants hc
  · cases r with
    | none => exact core _ hc
    | some g' => exact core _ hc
end DymVerif.Packets
