/-
  Lemmas/IncentProp — "rewards in proportion to the locked amounts" as an EXACT statement about amounts:
  what one call of x/incentives `Keeper.Distribute` credits to an account is the sum, over the gauges handed
  in, of `dueG` (Lemmas/IncentPayout) — for an asset gauge the sum of `lockReward` over the account's qualifying
  locks, for a rollapp gauge the whole remainder if the account owns the (launched) rollapp.  No invariant is
  needed for the kernel (`incDistribute_exact`); `strDistribute_pays_explicit` lifts it to x/streamer `Keeper.Distribute`.
-/
import DymVerif.Lemmas.IncentInv
namespace DymVerif.Incent
open DymVerif Coins

/-- the gauge loop: the tracker of account `a` grows by exactly what the gauges owe it -/
theorem incLoop_exact (ee : Bool) (a i : Nat) : ∀ (gs : List Gauge) (s : State) (tr : Tracker) (s' : State) (tr' : Tracker),
    incLoop ee gs s tr = .ok (s', tr') → trFor tr' a i = trFor tr a i + (gs.map (dueG s · a i)).sum := by
  intro gs
  induction gs with
  | nil => intro s tr s' tr' h; cases h; rfl
  | cons g rest ih =>
    intro s tr s' tr' h
    obtain ⟨t2, c, hc, h⟩ := incLoop_step h
    have e1 := (calcGauge_acct hc).1 a i
    rw [List.map_cons, List.sum_cons]
    rcases h with ⟨_, h⟩ | ⟨_, h⟩
    · rw [ih _ _ _ _ h, e1]; omega
    · rw [ih _ _ _ _ h, e1]; simp only [dueG_setGauge]; omega

/-- **one call of x/incentives `Keeper.Distribute`, any state, any gauge list**: every account other than the
    incentives module account is credited exactly the sum over the gauges of what it is due — for asset gauges
    the `lockReward`s of its qualifying locks — and nothing else -/
theorem incDistribute_exact (s : State) (gs : List Gauge) (ee : Bool) (s' : State) (h : incDistribute s gs ee = .ok s')
    (a : Nat) (ha : a ≠ incAddr) (i : Nat) :
    amt (s'.bank.get a) i = amt (s.bank.get a) i + (gs.map (dueG s · a i)).sum := by
  obtain ⟨s1, tr, hl, hp, _⟩ := incDistribute_unfold h
  rw [(payAll_spec tr _ _ hp).2.1 a ha i, incLoop_exact ee a i gs s [] s1 tr hl]
  show _ + (0 + _) = _
  rw [Nat.zero_add]

/-! ### the gauge side: the stored gauge's distributed coins grow by exactly what it hands out -/

/-- **every call of x/incentives `Keeper.Distribute`**: every gauge handed in (a copy of a stored gauge) ends up
    stored with distributed coins grown by exactly what it owed -/
theorem incDistribute_gauges_exact (s : State) (gs : List Gauge) (ee : Bool) (s' : State) (hid : IdsOK s.gauges) (hb : Bounded s.gauges)
    (hnd : (gs.map (·.id)).Nodup) (hcoh : ∀ g ∈ gs, Coh s.gauges g) (h : incDistribute s gs ee = .ok s') :
    ∀ g ∈ gs, ∃ g', getG s'.gauges g.id = some g' ∧ ∀ i, amt g'.distributed i = amt g.distributed i + dueTotal s g i := by
  obtain ⟨s1, tr, hl, _, hs'⟩ := incDistribute_unfold h
  rw [hs']
  exact (incLoop_spec ee gs s [] s1 tr hid hb hnd hcoh hl).stored

/-- the gauges one pass of x/streamer `Keeper.Distribute` funds and hands to x/incentives `Keeper.Distribute`
    (the gauge cache after the pointer loop), executable: the driver prints `dueG` / `dueTotal` over them -/
def strGauges (s : State) (es : List Nat) (streams : List Stream) (maxOps : Nat) : List Gauge :=
  (ptrLoop s maxOps (sortByDuration es) 0 ⟨sortById streams, [], []⟩ s.ptrs).2.1.gauges

theorem strDistribute_pays_explicit (s : State) (es : List Nat) (streams : List Stream) (maxOps : Nat) (ee : Bool) (s' : State)
    (hg : GInv s) (h : strDistribute s es streams maxOps ee = .ok s') :
    ((strGauges s es streams maxOps).map (·.id)).Nodup ∧ (∀ g ∈ strGauges s es streams maxOps, Coh s.gauges g) ∧
      (∀ a, a ≠ streamerAddr → a ≠ incAddr → ∀ i,
        amt (s'.bank.get a) i = amt (s.bank.get a) i + ((strGauges s es streams maxOps).map (dueG s · a i)).sum) ∧
      (∀ g ∈ strGauges s es streams maxOps, ∃ g', getG s'.gauges g.id = some g' ∧ ∀ i, amt g'.distributed i = amt g.distributed i + dueTotal s g i) := by
  obtain ⟨b, s2, hb, hinc, hsave⟩ := strDistribute_unfold h
  obtain ⟨ci1, ci2, _⟩ := strPass_CI s es streams maxOps hg.ids
  obtain ⟨_, hbk⟩ := strTransfer hb
  have hsame := saveStreams_same ee _ _ _ hsave
  refine ⟨ci1, ci2, ?_, ?_⟩
  · intro a ha hb i
    rw [hsame.2.1, incDistribute_exact _ _ _ _ hinc a hb i]
    show amt (b.get a) i + _ = _
    rw [hbk a i, if_neg ha, if_neg hb]
    exact congrArg (_ + List.sum ·) (List.map_congr_left (fun x _ => (dueG_congr (s := s) rfl rfl x a i).1))
  · intro g hgm
    obtain ⟨g', a1, a2⟩ := incDistribute_gauges_exact { s with ptrs := (strPass s es streams maxOps).2.2, bank := b } _ ee s2
      hg.ids hg.bounded ci1 ci2 hinc g hgm
    refine ⟨g', by rw [hsame.1]; exact a1, fun i => ?_⟩
    rw [a2 i, (dueG_congr (s := s) (s' := { s with ptrs := (strPass s es streams maxOps).2.2, bank := b }) rfl rfl g 0 i).2]

/-- **x/streamer `Keeper.Distribute` (EndBlock and epoch end), state level**: there is a list of gauges — the
    gauges the pass funded, each a copy of a stored gauge (same kind, same distributed coins, coins topped up),
    ids distinct — such that every account other than the two module accounts is credited exactly what those
    gauges owe it -/
theorem strDistribute_pays_exactly (s : State) (es : List Nat) (streams : List Stream) (maxOps : Nat) (ee : Bool) (s' : State)
    (hg : GInv s) (h : strDistribute s es streams maxOps ee = .ok s') :
    ∃ gs : List Gauge, (gs.map (·.id)).Nodup ∧ (∀ g ∈ gs, Coh s.gauges g) ∧
      (∀ a, a ≠ streamerAddr → a ≠ incAddr → ∀ i,
        amt (s'.bank.get a) i = amt (s.bank.get a) i + (gs.map (dueG s · a i)).sum) ∧
      (∀ g ∈ gs, ∃ g', getG s'.gauges g.id = some g' ∧ ∀ i, amt g'.distributed i = amt g.distributed i + dueTotal s g i) :=
  ⟨_, strDistribute_pays_explicit s es streams maxOps ee s' hg h⟩

/-- for an asset gauge `dueG` is the sum of `lockReward` over the account's locks that qualify for the gauge -/
theorem dueG_asset (s : State) (g : Gauge) (d dur : Nat) (hk : g.kind = .asset d dur) (hc : g.coins.isZero = false)
    (hL : lockSum (s.locks.filter (qualifies d dur)) ≠ 0) (hre : remainEpochs g ≠ 0) (a i : Nat) :
    dueG s g a i =
      (((s.locks.filter (qualifies d dur)).filter (·.owner == a)).map (fun l =>
        amt (lockReward (Coins.sub g.coins g.distributed) l.amount (lockSum (s.locks.filter (qualifies d dur))) (remainEpochs g)) i)).sum := by
  have hl : gaugeLocks s g = s.locks.filter (qualifies d dur) := by
    unfold gaugeLocks; rw [hk]; simp [hc]
  unfold dueG
  rw [hk]
  simp only
  rw [hl, if_neg (by intro hx; rcases hx with hx | hx; exact hL hx; exact hre hx)]
  rfl

end DymVerif.Incent
