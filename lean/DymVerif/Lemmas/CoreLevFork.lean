/-
  Lemmas/CoreLevFork — the other two events the liveness countdown is counted from: a proposer
  change (`afterSetRealProposer` restarts the clock and schedules the event) and a hard fork
  (`ResetLivenessClock`: countdown start := now, no event); and: every accepted update — also the
  proposer's last one, which hands over or forks — lowers the proposer's dishonor.
-/
import DymVerif.Lemmas.CoreLevUpdate
namespace DymVerif.Core.LevNs

/-- field `g` of every sequencer record is unchanged -/
def SeqFrame {β : Type} (g : Seq → β) (s s' : St) : Prop := ∀ a, (getSeq s' a).map g = (getSeq s a).map g

theorem SeqFrame.refl {β : Type} (g : Seq → β) (s : St) : SeqFrame g s s := fun _ => rfl
theorem SeqFrame.trans {β : Type} {g : Seq → β} {a b c : St} (h1 : SeqFrame g a b) (h2 : SeqFrame g b c) :
    SeqFrame g a c := fun x => (h2 x).trans (h1 x)
theorem SeqFrame.of_seqs {β : Type} (g : Seq → β) {s s' : St} (e : s'.seqs = s.seqs) : SeqFrame g s s' := by
  intro a; rw [getSeq_congr e]

theorem SeqFrame.map {β : Type} {g : Seq → β} {s : St} (f : Seq → Seq) (hf : ∀ x, (f x).addr = x.addr)
    (hg : ∀ x, g (f x) = g x) : SeqFrame g s { s with seqs := s.seqs.map f } := by
  intro a
  unfold getSeq
  dsimp only
  rw [find_map_addr _ f hf]
  cases s.seqs.find? (·.addr == a) with
  | none => rfl
  | some x => simp [hg]

theorem SeqFrame.setSeq {β : Type} {g : Seq → β} {s : St} {q0 q : Seq} (hq : getSeq s q.addr = some q0)
    (hg : g q = g q0) : SeqFrame g s (setSeq s q) := by
  intro a
  by_cases ha : q.addr = a
  · subst ha; rw [getSeq_setSeq_self hq, hq]; simp [hg]
  · rw [getSeq_setSeq_other ha]

/-- the clock of a rollapp record -/
def clk (r : Rollapp) : Nat × Nat := (r.evH, r.cdStart)

/-- the sequencer hook of a fork leaves every rollapp's clock, the event queue and everybody's dishonor alone -/
theorem seqOnHardFork_frames (s : St) (ra : Nat) :
    RaFrame clk s (seqOnHardFork s ra) ∧ (seqOnHardFork s ra).lev = s.lev ∧
    SeqFrame (·.dishonor) s (seqOnHardFork s ra) :=
  RoleClosed.seqOnHardFork (P := fun x => RaFrame clk s x ∧ x.lev = s.lev ∧ SeqFrame (·.dishonor) s x) (ra := ra)
    { clearProposer := fun hg h => ⟨h.1.trans (RaFrame.setRa hg rfl rfl), h.2.1, h.2.2⟩
      clearSuccessor := fun hg h => ⟨h.1.trans (RaFrame.setRa hg rfl rfl), h.2.1, h.2.2⟩
      unbond := fun hq h => ⟨h.1, h.2.1, h.2.2.trans (SeqFrame.setSeq hq rfl)⟩
      optOut := fun h => ⟨h.1, h.2.1, h.2.2.trans (by
        unfold optOutAll
        exact SeqFrame.map _ (by intro x; split <;> rfl) (by intro x; split <;> rfl))⟩
      nq := fun q h => ⟨h.1.trans (RaFrame.of_ras clk (removeFromNoticeQueue_ras _ q)),
        (removeFromNoticeQueue_same _ q).2.1.trans h.2.1,
        h.2.2.trans (SeqFrame.of_seqs _ (removeFromNoticeQueue_seqs _ q).1)⟩ }
    ⟨RaFrame.refl _ _, rfl, SeqFrame.refl _ _⟩

/-- a hard fork sets the countdown start to the current height and leaves the rollapp without a
    liveness event; nobody's dishonor changes -/
theorem hardFork_clock {s s' : St} {ra lv : Nat} (hl : Lev s) (e : hardFork s ra lv = .ok s') :
    (∃ r', getRa s' ra = some r' ∧ r'.evH = 0 ∧ r'.cdStart = s.h) ∧ (∀ h, (h, ra) ∉ s'.lev) ∧
    SeqFrame (·.dishonor) s s' := by
  obtain ⟨r, keep, kst, hg, _, _, _, _, rfl⟩ := hardFork_ok e
  have fr := seqOnHardFork_frames (afterRevert s ra keep r kst) ra
  have h1 := fr.1 ra
  have hgm : getRa (afterRevert s ra keep r kst) ra = some { forkedRollapp r keep kst with evH := 0, cdStart := s.h } := by
    have hid := getRa_id hg
    subst hid
    exact getRa_setRa_self (r0 := r) hg
  rw [hgm] at h1
  refine ⟨?_, ?_, (SeqFrame.of_seqs (s' := afterRevert s ra keep r kst) _ rfl).trans fr.2.2⟩
  · obtain ⟨r', hx, hc⟩ := Option.map_eq_some_iff.1 h1
    exact ⟨r', hx, congrArg Prod.fst hc, congrArg Prod.snd hc⟩
  · intro h hm
    rw [fr.2.1] at hm
    obtain ⟨hm1, hm2⟩ := mem_delEvent.1 (show (h, ra) ∈ delEvent s.lev r.evH r.id from hm)
    exact hm2 ⟨hl.ev_height hg hm1 rfl, (getRa_id hg).symm⟩

theorem hardForkToLatest_clock {s s' : St} {ra : Nat} (hl : Lev s) (e : hardForkToLatest s ra = .ok s') :
    (∃ r', getRa s' ra = some r' ∧ r'.evH = 0 ∧ r'.cdStart = s.h) ∧ (∀ h, (h, ra) ∉ s'.lev) ∧
    SeqFrame (·.dishonor) s s' := by
  obtain ⟨_, _, _, _, hf⟩ := hardForkToLatest_ok e
  exact hardFork_clock hl hf

/-- the rollapp hook `AfterSetRealProposer` restarts the countdown and schedules the event -/
theorem afterSetRealProposer_clock {s : St} {ra : Nat} {a : Addr} {r : Rollapp} (hg : getRa s ra = some r) :
    (∃ r', getRa (afterSetRealProposer s ra a) ra = some r' ∧ r'.cdStart = s.h ∧
      r'.evH = nextSlashHeight s.p.lsBlocks s.p.lsInterval s.h s.h ∧ r'.proposer = r.proposer) ∧
    (nextSlashHeight s.p.lsBlocks s.p.lsInterval s.h s.h, ra) ∈ (afterSetRealProposer s ra a).lev ∧
    (afterSetRealProposer s ra a).seqs = s.seqs := by
  have sp := indicateLiveness_spec hg
  rw [afterSetRealProposer_eq hg]
  exact ⟨⟨_, getRa_setRa_same_id sp.1 (show r.id = ra from getRa_id hg), rfl, rfl, rfl⟩, sp.2, (indicateLiveness_seqs s r).1⟩

/-- a rollapp leaving the sentinel state gets a real proposer, a fresh countdown and its event -/
theorem recoverFromSentinel_clock {s s' : St} {ra : Nat} (e : recoverFromSentinel s ra = .ok s') :
    ∃ r' a, getRa s' ra = some r' ∧ r'.proposer = some a ∧ r'.cdStart = s.h ∧
      r'.evH = nextSlashHeight s.p.lsBlocks s.p.lsInterval s.h s.h ∧ (r'.evH, ra) ∈ s'.lev := by
  obtain ⟨r, a, hg, _, _, rfl⟩ := recoverFromSentinel_ok e
  have hg1 : getRa (setRa s { r with proposer := some a }) ra = some { r with proposer := some a } :=
    getRa_setRa_same_id hg (show r.id = ra from getRa_id hg)
  obtain ⟨⟨r', h1, h2, h3, h4⟩, h5, _⟩ := afterSetRealProposer_clock (a := a) hg1
  exact ⟨r', a, h1, h4, h2, h3, by rw [h3]; exact h5⟩

theorem onProposerLastBlock_dishonor {s s' : St} {q : Seq} (hl : Lev s) (e : onProposerLastBlock s q = .ok s') :
    SeqFrame (·.dishonor) s s' := by
  obtain ⟨_, r, _, hg, rfl, h2⟩ := onProposerLastBlock_ok e
  have l1 : Lev (setRa s { r with successor := none, proposer := r.successor }) := hl.setRa_same hg rfl rfl
  rcases h2 with ⟨_, hf⟩ | ⟨a, _, rfl⟩
  · exact (SeqFrame.of_seqs _ rfl).trans (hardForkToLatest_clock l1 hf).2.2
  · exact SeqFrame.of_seqs _ (afterSetRealProposer_seqs _ _ _).1

/-- every accepted update — also the proposer's last one — lowers the sender's dishonor by
    `min(DishonorStateUpdate, dishonor)` -/
theorem updateState_honors {s s' : St} {m : UpdMsg} {q : Seq} (hl : Lev s) (hq : getSeq s m.sender = some q)
    (e : updateState s m = .ok s') :
    (getSeq s' m.sender).map (·.dishonor) = some (q.dishonor - min s.sqp.dishonorSU q.dishonor) := by
  obtain ⟨r, s3, _, r4, _, hg, _, _, _, _, _, h3, rfl, _, rfl⟩ := updateState_ok e
  have l1 : Lev (setRa s { r with states := r.states ++ [newSInfo s m (updSucc r m)] }) := hl.setRa_same hg rfl rfl
  rw [getSeq_congr (indicateLiveness_seqs _ r4).1]
  show (getSeq s3 m.sender).map (·.dishonor) = _
  obtain ⟨q', _, hq', rfl, h2⟩ := seqAfterUpdate_ok h3
  rw [show getSeq (setRa s _) m.sender = some q from hq] at hq'
  injection hq' with hq'; subst hq'
  simp only [setRa_sqp] at h2
  have hset : getSeq (setSeq (setRa s { r with states := r.states ++ [newSInfo s m (updSucc r m)] })
      { q with dishonor := q.dishonor - min s.sqp.dishonorSU q.dishonor }) m.sender =
      some { q with dishonor := q.dishonor - min s.sqp.dishonorSU q.dishonor } := by
    rw [← getSeq_addr hq]
    exact getSeq_setSeq_self (q := { q with dishonor := q.dishonor - min s.sqp.dishonorSU q.dishonor }) (q0 := q)
      (by show getSeq (setRa s _) q.addr = some q; rw [getSeq_addr hq]; exact hq)
  have l2 : Lev (setSeq (setRa s { r with states := r.states ++ [newSInfo s m (updSucc r m)] })
      { q with dishonor := q.dishonor - min s.sqp.dishonorSU q.dishonor }) := l1.of_eq rfl rfl
  rcases h2 with ⟨_, rfl⟩ | ⟨_, h3⟩
  · rw [hset]; rfl
  · -- the last block: hand-over or fork, neither touches anybody's dishonor
    rw [onProposerLastBlock_dishonor l2 h3 m.sender, hset]; rfl

end DymVerif.Core.LevNs
