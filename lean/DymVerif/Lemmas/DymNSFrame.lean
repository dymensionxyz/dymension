/-
  Lemmas/DymNSFrame — which operations leave the name store, the buy-order stores and the alias side alone.
-/
import DymVerif.Lemmas.DymNSStep
namespace DymVerif.DymNS
open AMap

def boPart (s : State) : AMap Nat BuyOrder × Idx Acct × Idx Name × Idx AliasId := (s.bos, s.boBuyer, s.boName, s.boAlias)

def alPart (s : State) : AliasStore × AMap AliasId SellOrder := (s.al, s.aliasSO)

def farPart (s : State) := (boPart s, alPart s)

theorem far_and {s t : State} (h : farPart t = farPart s) : boPart t = boPart s ∧ alPart t = alPart s :=
  ⟨congrArg Prod.fst h, congrArg Prod.snd h⟩

/-! ### the blocks of the name side touch neither -/

theorem farPart_refundOptT (s : State) (b : Option Bid) : farPart (refundOptT s b) = farPart s := by
  cases b <;> rfl

theorem farPart_takeBidT (s : State) (o : Option Bid) (a : Acct) (x : Nat) : farPart (takeBidT s o a x) = farPart s :=
  (rfl : _ = farPart (refundOptT s o)).trans (farPart_refundOptT s o)

theorem farPart_replaceNameT (s : State) (n : Name) (d : DymName) : farPart (replaceNameT s n d) = farPart s := by
  simp only [farPart, boPart, alPart, replaceNameT, pruneNameT]
  exact farPart_refundOptT s _

theorem farPart_completeNameSOT (s : State) (n : Name) (d : DymName) (b : Bid) :
    farPart (completeNameSOT s n d b) = farPart s := by
  simp only [farPart, boPart, alPart, completeNameSOT, fromModuleT]

theorem farPart_bidStateN (s : State) (so : SellOrder) (a : Acct) (offer : Nat) (n : Name) :
    farPart (bidStateN s so a offer n) = farPart s :=
  (rfl : _ = farPart (takeBidT s so.bid a offer)).trans (farPart_takeBidT s _ _ _)

theorem aliasSoldT_frame (t : State) (l : AliasId) (src : Chain) (r : Rollapp) (b : Bid) :
    (aliasSoldT t l src r b).ns = t.ns ∧ boPart (aliasSoldT t l src r b) = boPart t := ⟨rfl, rfl⟩

theorem bidStateA_frame (s : State) (so : SellOrder) (a : Acct) (offer : Nat) (l : AliasId) (dst : Chain) :
    (bidStateA s so a offer l dst).ns = s.ns ∧ boPart (bidStateA s so a offer l dst) = boPart s := by
  rw [bidStateA, takeBidT_eq]
  exact ⟨rfl, rfl⟩

theorem placedBO_frame {s s' : State} {isAlias a asset dst offer cont} (h : PlacedBO s isAlias a asset dst offer s' cont) :
    s'.ns = s.ns ∧ alPart s' = alPart s := by
  cases h <;> exact ⟨rfl, rfl⟩

/-- which of the name store, the buy-order stores and the alias side an operation can write: one of
    them, all three (accepting a buy order), or none (`env`) -/
inductive Side
  | env | name | bo | alias | all

def Op.side : Op → Side
  | .register .. | .transfer .. | .setController .. | .updateResolve .. | .updateDetails .. | .completeName ..
  | .buyName .. | .migrateChainIds .. => .name
  | .offerName .. | .offerAlias .. | .cancelOffer .. => .bo
  | .createRollapp .. | .registerAlias .. | .sellAlias .. | .cancelSellAlias .. | .completeAlias .. | .buyAlias ..
  | .transferRollapp .. => .alias
  | .acceptOffer .. => .all
  | _ => .env

/-- an operation leaves alone what is not on its side -/
theorem exec_frames {s s' : State} {op : Op} (h : exec s op = .ok s') :
    (match op.side with | .name | .all => True | _ => s'.ns = s.ns) ∧
    (match op.side with | .bo | .all => True | _ => boPart s' = boPart s) ∧
    (match op.side with | .alias | .all => True | _ => alPart s' = alPart s) := by
  cases exec_step h with
  | fund | advance | trading | setChainAliases | updateAliases | setParams | sellName | cancelSellName => exact ⟨rfl, rfl, rfl⟩
  | migrate | registerExtend | setController | resolveSet | resolveDelete | updateDetailsClear | updateDetails | completeRefund =>
    exact ⟨trivial, rfl, rfl⟩
  | registerPrune | transfer => exact ⟨trivial, far_and (farPart_replaceNameT _ _ _)⟩
  | completeSale => exact ⟨trivial, far_and (farPart_completeNameSOT _ _ _ _)⟩
  | bid => exact ⟨trivial, far_and (farPart_bidStateN _ _ _ _ _)⟩
  | bidSale => exact ⟨trivial, far_and ((farPart_completeNameSOT _ _ _ _).trans (farPart_bidStateN _ _ _ _ _))⟩
  | offerName _ _ _ _ _ _ _ hp | offerAlias _ _ _ _ _ _ _ _ hp => exact ⟨(placedBO_frame hp).1, trivial, (placedBO_frame hp).2⟩
  | cancelOffer => exact ⟨rfl, trivial, rfl⟩
  | acceptName | acceptAlias | counter => exact ⟨trivial, trivial, trivial⟩
  | createRollapp | registerAlias | sellAlias | cancelSellAlias | completeAliasRefund | transferRollapp => exact ⟨rfl, rfl, trivial⟩
  | completeAliasSale => exact ⟨(aliasSoldT_frame ..).1, (aliasSoldT_frame ..).2, trivial⟩
  | bidAlias => exact ⟨(bidStateA_frame ..).1, (bidStateA_frame ..).2, trivial⟩
  | bidAliasSale =>
    exact ⟨(aliasSoldT_frame ..).1.trans (bidStateA_frame ..).1, (aliasSoldT_frame ..).2.trans (bidStateA_frame ..).2, trivial⟩

end DymVerif.DymNS
