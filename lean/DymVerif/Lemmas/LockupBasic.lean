import DymVerif.Model.Lockup
/-
  Lemmas/LockupBasic — list / sum / accumulation-store lemmas for M-Lockup (core Lean only).
-/
namespace DymVerif.Lockup

/-- weight of a lock under predicate `P` -/
def weight (P : Lock → Bool) (l : Lock) : Nat := if P l then l.amount else 0

theorem total_cons (P : Lock → Bool) (l : Lock) (ls : List Lock) :
    total P (l :: ls) = weight P l + total P ls := rfl

theorem total_append (P : Lock → Bool) (xs ys : List Lock) :
    total P (xs ++ ys) = total P xs + total P ys := by
  induction xs with
  | nil => simp [total]
  | cons x xs ih => simp [total, ih]; omega

theorem total_single (P : Lock → Bool) (l : Lock) : total P [l] = weight P l := by
  simp [total, weight]

theorem total_congr (P Q : Lock → Bool) (ls : List Lock) (h : ∀ l ∈ ls, P l = Q l) :
    total P ls = total Q ls := by
  induction ls with
  | nil => rfl
  | cons x xs ih =>
    have hx := h x (by simp)
    have := ih (fun l hl => h l (by simp [hl]))
    simp [total, hx, this]

theorem total_eq_zero (P : Lock → Bool) (ls : List Lock) (h : ∀ l ∈ ls, P l = false) :
    total P ls = 0 := by
  induction ls with
  | nil => rfl
  | cons x xs ih =>
    have hx := h x (by simp)
    have := ih (fun l hl => h l (by simp [hl]))
    simp [total, hx, this]

theorem le_total_of_mem (P : Lock → Bool) (ls : List Lock) (o : Lock) (ho : o ∈ ls) :
    weight P o ≤ total P ls := by
  induction ls with
  | nil => simp at ho
  | cons x xs ih =>
    rw [total_cons]
    rcases List.mem_cons.mp ho with h | h
    · subst h; omega
    · have := ih h; omega

theorem total_perm (P : Lock → Bool) {l₁ l₂ : List Lock} (h : l₁.Perm l₂) : total P l₁ = total P l₂ := by
  induction h with
  | nil => rfl
  | cons x _ ih => simp [total, ih]
  | swap x y l => simp only [total]; omega
  | trans _ _ ih₁ ih₂ => exact ih₁.trans ih₂

theorem total_filter (P Q : Lock → Bool) (ls : List Lock) :
    total P (ls.filter Q) = total (fun l => Q l && P l) ls := by
  induction ls with
  | nil => rfl
  | cons x xs ih =>
    rw [List.filter_cons]
    cases hq : Q x
    · simp [total, hq, ih]
    · simp [total, hq, ih]

/-- sums split along a pointwise split of the weights -/
theorem total_partition {A B C : Lock → Bool}
    (h : ∀ l : Lock, weight A l + weight B l = weight C l) :
    ∀ (ls : List Lock), total A ls + total B ls = total C ls
  | [] => rfl
  | l :: ls => by
    have := h l
    have := total_partition h ls
    simp only [total_cons]
    omega

/-! ### unlocking, matured -/

theorem isUnlocking_false {l : Lock} : l.isUnlocking = false ↔ l.endTime = none := by
  unfold Lock.isUnlocking; cases l.endTime <;> simp

theorem matured_unlocking {now : Nat} {l : Lock} (h : matured now l = true) :
    ∃ e, l.endTime = some e ∧ e ≤ now := by
  unfold matured at h
  cases he : l.endTime with
  | none => simp [he] at h
  | some e => exact ⟨e, rfl, by simpa [he] using h⟩

/-! ### find / set / delete -/

theorem findLock_some {ls : List Lock} {id : Nat} {l : Lock} (h : findLock ls id = some l) :
    l ∈ ls ∧ l.id = id := by
  unfold findLock at h
  have h1 := List.mem_of_find?_eq_some h
  have h2 := List.find?_some h
  exact ⟨h1, by simpa using h2⟩

theorem findLock_none {ls : List Lock} {id : Nat} (h : findLock ls id = none) :
    ∀ l ∈ ls, l.id ≠ id := by
  unfold findLock at h
  intro l hl
  have := List.find?_eq_none.mp h l hl
  simpa using this

theorem findLock_of_mem {ls : List Lock} (hn : (ls.map (·.id)).Nodup) {l : Lock} (hl : l ∈ ls) :
    findLock ls l.id = some l := by
  induction ls with
  | nil => simp at hl
  | cons x xs ih =>
    simp only [List.map_cons, List.nodup_cons] at hn
    unfold findLock
    rw [List.find?_cons]
    rcases List.mem_cons.mp hl with h | h
    · subst h; simp
    · have hne : x.id ≠ l.id := by
        intro he
        apply hn.1
        rw [he]
        exact List.mem_map.mpr ⟨l, h, rfl⟩
      have : (x.id == l.id) = false := by simpa using hne
      simp only [this]
      exact ih hn.2 h

theorem eq_of_id_eq {ls : List Lock} (hn : (ls.map (·.id)).Nodup) {a b : Lock}
    (ha : a ∈ ls) (hb : b ∈ ls) (h : a.id = b.id) : a = b := by
  have h1 := findLock_of_mem hn ha
  have h2 := findLock_of_mem hn hb
  rw [h] at h1
  rw [h1] at h2
  exact Option.some.inj h2

theorem setLock_ids (ls : List Lock) (n : Lock) : (setLock ls n).map (·.id) = ls.map (·.id) := by
  unfold setLock
  rw [List.map_map]
  apply List.map_congr_left
  intro l _
  simp only [Function.comp]
  split <;> simp_all

theorem setLock_nodup {ls : List Lock} (hn : (ls.map (·.id)).Nodup) (n : Lock) : ((setLock ls n).map (·.id)).Nodup := by
  rw [setLock_ids]; exact hn

theorem mem_setLock {ls : List Lock} {n x : Lock} (h : x ∈ setLock ls n) :
    (x = n ∧ ∃ o ∈ ls, o.id = n.id) ∨ (x ∈ ls ∧ x.id ≠ n.id) := by
  unfold setLock at h
  rcases List.mem_map.mp h with ⟨o, ho, hx⟩
  by_cases hid : o.id = n.id
  · simp only [hid, if_true] at hx
    exact Or.inl ⟨hx.symm, o, ho, hid⟩
  · simp only [hid, if_false] at hx
    subst hx
    exact Or.inr ⟨ho, hid⟩

theorem mem_setLock_new {ls : List Lock} {n o : Lock} (ho : o ∈ ls) (hid : o.id = n.id) :
    n ∈ setLock ls n := by
  unfold setLock
  exact List.mem_map.mpr ⟨o, ho, by simp [hid]⟩

theorem mem_setLock_other {ls : List Lock} {n x : Lock} (hx : x ∈ ls) (hid : x.id ≠ n.id) :
    x ∈ setLock ls n := by
  unfold setLock
  exact List.mem_map.mpr ⟨x, hx, by simp [hid]⟩

theorem mem_delLock {ls : List Lock} {id : Nat} {x : Lock} :
    x ∈ delLock ls id ↔ x ∈ ls ∧ x.id ≠ id := by
  unfold delLock
  simp [List.mem_filter]

theorem delLock_nodup {ls : List Lock} (hn : (ls.map (·.id)).Nodup) (id : Nat) :
    ((delLock ls id).map (·.id)).Nodup := by
  unfold delLock
  exact List.Nodup.sublist (List.Sublist.map _ List.filter_sublist) hn

/-- a stored lock is the one being rewritten, or survives the rewriting -/
theorem eq_or_mem_setLock {ls : List Lock} (hn : (ls.map (·.id)).Nodup) {l lt : Lock} (hl : l ∈ ls) (hlt : lt ∈ ls)
    (n : Lock) (hid : n.id = lt.id) : l = lt ∨ l ∈ setLock ls n :=
  if h : l.id = lt.id then Or.inl (eq_of_id_eq hn hl hlt h)
  else Or.inr (mem_setLock_other hl (by rw [hid]; exact h))

theorem mem_setLock_old {ls : List Lock} {n x : Lock} (h : x ∈ setLock ls n) : ∃ l ∈ ls, l.id = x.id := by
  rcases mem_setLock h with ⟨rfl, o, ho, hid⟩ | ⟨hm, _⟩
  · exact ⟨o, ho, hid⟩
  · exact ⟨x, hm, rfl⟩

theorem delLock_setLock {ls : List Lock} {n : Lock} {id : Nat} (h : n.id = id) :
    delLock (setLock ls n) id = delLock ls id := by
  subst h
  induction ls with
  | nil => rfl
  | cons x xs ih =>
    simp only [setLock, delLock, List.map_cons, List.filter_cons] at ih ⊢
    by_cases hx : x.id = n.id
    · simp [hx, ih]
    · simp [hx, ih]

theorem delLock_append_fresh {ls : List Lock} {n : Lock} (h : ∀ l ∈ ls, l.id ≠ n.id) :
    delLock (ls ++ [n]) n.id = ls := by
  simp only [delLock, List.filter_append, List.filter_cons, List.filter_nil, bne_self_eq_false]
  simp only [Bool.false_eq_true, if_false, List.append_nil]
  exact List.filter_eq_self.2 (fun l hl => by simpa using h l hl)

/-- replacing the lock with id `n.id` (old value `o`) changes a `P`-sum by `weight n - weight o` -/
theorem total_setLock (P : Lock → Bool) {ls : List Lock} (hn : (ls.map (·.id)).Nodup) {o n : Lock}
    (ho : o ∈ ls) (hid : n.id = o.id) :
    total P (setLock ls n) + weight P o = total P ls + weight P n := by
  induction ls with
  | nil => simp at ho
  | cons x xs ih =>
    simp only [List.map_cons, List.nodup_cons] at hn
    have hset : setLock (x :: xs) n = (if x.id = n.id then n else x) :: setLock xs n := by
      simp [setLock]
    rw [hset, total_cons, total_cons]
    rcases List.mem_cons.mp ho with h | h
    · subst h
      have hnot : ∀ y ∈ xs, y.id ≠ n.id := by
        intro y hy he
        apply hn.1
        rw [← hid, ← he]
        exact List.mem_map.mpr ⟨y, hy, rfl⟩
      have hsame : setLock xs n = xs := by
        unfold setLock
        conv => rhs; rw [← List.map_id xs]
        apply List.map_congr_left
        intro y hy
        simp [hnot y hy]
      rw [hsame]
      simp only [hid, if_true]
      omega
    · have hne : x.id ≠ n.id := by
        intro he
        apply hn.1
        rw [he, hid]
        exact List.mem_map.mpr ⟨o, h, rfl⟩
      simp only [hne, if_false]
      have := ih hn.2 h
      omega

/-- deleting lock `o` lowers a `P`-sum by `weight o` -/
theorem total_delLock (P : Lock → Bool) {ls : List Lock} (hn : (ls.map (·.id)).Nodup) {o : Lock}
    (ho : o ∈ ls) : total P (delLock ls o.id) + weight P o = total P ls := by
  induction ls with
  | nil => simp at ho
  | cons x xs ih =>
    simp only [List.map_cons, List.nodup_cons] at hn
    rcases List.mem_cons.mp ho with h | h
    · subst h
      have hnot : ∀ y ∈ xs, y.id ≠ o.id := by
        intro y hy he
        apply hn.1
        rw [← he]
        exact List.mem_map.mpr ⟨y, hy, rfl⟩
      have hsame : delLock (o :: xs) o.id = xs := by
        unfold delLock
        rw [List.filter_cons]
        simp only [bne_self_eq_false, Bool.false_eq_true, if_false]
        apply List.filter_eq_self.mpr
        intro y hy
        simpa using hnot y hy
      rw [hsame, total_cons]
      omega
    · have hne : x.id ≠ o.id := by
        intro he
        apply hn.1
        rw [he]
        exact List.mem_map.mpr ⟨o, h, rfl⟩
      have hstep : delLock (x :: xs) o.id = x :: delLock xs o.id := by
        unfold delLock
        rw [List.filter_cons]
        simp [hne]
      rw [hstep, total_cons, total_cons]
      have := ih hn.2 h
      omega

/-! ### weights of one lock, facts about every lock -/

theorem weight_denom (d : Denom) (l : Lock) :
    weight (fun x => x.denom == d) l = if d = l.denom then l.amount else 0 := by
  simp only [weight, beq_iff_eq, eq_comm (a := d)]

theorem weight_longer (d : Denom) (k : Nat) (l : Lock) :
    weight (fun x => x.denom == d && decide (k ≤ x.duration)) l =
      if l.denom = d ∧ k ≤ l.duration then l.amount else 0 := by
  simp only [weight, Bool.and_eq_true, beq_iff_eq, decide_eq_true_eq]

theorem weight_own (a' d' : Nat) (l : Lock) :
    weight (fun l => l.owner == a' && l.denom == d') l = if a' = l.owner ∧ d' = l.denom then l.amount else 0 := by
  simp only [weight, Bool.and_eq_true, beq_iff_eq, eq_comm (a := a'), eq_comm (a := d')]

/-! a weight `if c then x else 0` is additive in `x`: with these the bookkeeping of a sum clause is linear
    arithmetic over the weights, whatever `c` says -/

theorem ite_add_zero (c : Prop) [Decidable c] (a b : Nat) :
    (if c then a + b else 0) = (if c then a else 0) + (if c then b else 0) := by
  split <;> rfl

theorem ite_sub_zero (c : Prop) [Decidable c] {a b : Nat} (h : b ≤ a) :
    (if c then a else 0) = (if c then a - b else 0) + (if c then b else 0) := by
  rw [← ite_add_zero, Nat.sub_add_cancel h]

theorem ite_cast_zero (c : Prop) [Decidable c] (a : Nat) :
    (if c then (a : Int) else 0) = ((if c then a else 0 : Nat) : Int) := by
  split <;> rfl

theorem ite_neg_zero (c : Prop) [Decidable c] (a : Nat) :
    (if c then -(a : Int) else 0) = -((if c then a else 0 : Nat) : Int) := by
  split <;> rfl

theorem forall_setLock {Q : Lock → Prop} {ls : List Lock} {n : Lock} (h : ∀ x ∈ ls, Q x) (hn : Q n) :
    ∀ x ∈ setLock ls n, Q x := by
  intro x hx
  rcases mem_setLock hx with ⟨rfl, _⟩ | ⟨hm, _⟩
  · exact hn
  · exact h x hm

theorem forall_append {Q : Lock → Prop} {ls : List Lock} {n : Lock} (h : ∀ x ∈ ls, Q x) (hn : Q n) :
    ∀ x ∈ ls ++ [n], Q x := by
  intro x hx
  rcases List.mem_append.1 hx with hm | hm
  · exact h x hm
  · rw [List.mem_singleton.1 hm]; exact hn

theorem forall_delLock {Q : Lock → Prop} {ls : List Lock} (id : Nat) (h : ∀ x ∈ ls, Q x) :
    ∀ x ∈ delLock ls id, Q x :=
  fun x hx => h x (mem_delLock.1 hx).1

/-- appending a lock with an id above the counter keeps the ids distinct -/
theorem nodup_append_fresh {ls : List Lock} {last : Nat} (hn : (ls.map (·.id)).Nodup)
    (hle : ∀ l ∈ ls, 0 < l.id ∧ l.id ≤ last) (n : Lock) (hid : n.id = last + 1) :
    ((ls ++ [n]).map (·.id)).Nodup := by
  rw [List.map_append, List.nodup_append]
  refine ⟨hn, List.pairwise_singleton _ _, fun a ha b hb => ?_⟩
  obtain ⟨l, hl, rfl⟩ := List.mem_map.1 ha
  rw [List.map_singleton, List.mem_singleton] at hb
  have := (hle l hl).2
  omega

/-! ### accumulation store -/

theorem accQuery_accAdd (acc : List AccEntry) (d k : Nat) (v : Int) (d' k' : Nat) :
    accQuery (accAdd acc d k v) d' k' = accQuery acc d' k' + (if d = d' ∧ k' ≤ k then v else 0) := by
  induction acc with
  | nil => simp [accAdd, accQuery]
  | cons e es ih =>
    unfold accAdd
    by_cases h : e.denom = d ∧ e.dur = k
    · simp only [h, and_self, if_true, accQuery]
      obtain ⟨h1, h2⟩ := h
      by_cases h3 : d = d' ∧ k' ≤ k
      · simp only [h3, and_self, if_true]; omega
      · have : ¬ (e.denom = d' ∧ k' ≤ e.dur) := by rw [h1, h2]; exact h3
        simp only [h3, if_false]; omega
    · simp only [h, if_false, accQuery, ih]; omega

theorem accQuery_perm {l₁ l₂ : List AccEntry} (h : l₁.Perm l₂) (d k : Nat) : accQuery l₁ d k = accQuery l₂ d k := by
  induction h with
  | nil => rfl
  | cons x _ ih => simp [accQuery, ih]
  | swap x y l => simp only [accQuery]; omega
  | trans _ _ ih₁ ih₂ => exact ih₁.trans ih₂

end DymVerif.Lockup
