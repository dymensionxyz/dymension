/-
  Lemmas/CoreForkInv3 — the invariants `PropRa` / `Liab` / `Creators` through every message handler and block
  processing, hence in every reachable state (`run_inv`).
-/
import DymVerif.Lemmas.CoreForkInv2
namespace DymVerif.Core.Fork

structure MoneyFrame (s s1 : St) (q q1 : Seq) : Prop where
  ras : s1.ras = s.ras
  seqs : s1.seqs = s.seqs
  seqH : s1.seqH = s.seqH
  addr : q1.addr = q.addr
  rollapp : q1.rollapp = q.rollapp

theorem MoneyOnly.frame {s s1 : St} {q q1 : Seq} (h : MoneyOnly s s1 q q1) : MoneyFrame s s1 q q1 := by
  obtain ⟨⟨_, _, _, rfl⟩, _, _, rfl⟩ := h
  exact ⟨rfl, rfl, rfl, rfl, rfl⟩

/-- a money mover followed by writing the record back -/
theorem Good.money {s s1 : St} {q q1 q0 : Seq} (h : MoneyOnly s s1 q q1) (hg : getSeq s q.addr = some q0)
    (hr : q.rollapp = q0.rollapp) : Good s (Core.setSeq s1 q1) :=
  have mf := h.frame
  (Good.of_eq mf.ras mf.seqs mf.seqH).trans
    (Good.setSeq (q0 := q0) (by rw [getSeq_congr mf.seqs, mf.addr]; exact hg) (by rw [mf.rollapp, hr]))

theorem J.of_eq {s s' : St} (h : J s) (e1 : s'.ras = s.ras) (e2 : s'.seqs = s.seqs) (e3 : s'.seqH = s.seqH) : J s' :=
  (Good.of_eq e1 e2 e3).J h

theorem nodup_setSeq {s : St} (hn : AddrNodup s.seqs) (q : Seq) : AddrNodup (setSeq s q).seqs :=
  hn.of_addrs_eq (addrs_replace s.seqs q)

theorem getRa_none {s : St} {id : Nat} (h : getRa s id = none) : ∀ y ∈ s.ras, y.id ≠ id := by
  unfold getRa at h
  intro y hy e
  have := List.find?_eq_none.1 h y hy
  simp [e] at this

theorem createRollapp_good {s : St} {id : Nat} (owner : Addr) (mb : Nat) (hn : getRa s id = none) :
    Good s { s with ras := insertSorted (fun x y => decide (x.id < y.id)) (newRollapp id owner mb) s.ras } := by
  refine ⟨SeqMono.of_seqs rfl, fun _ h => h, ?_, ?_⟩
  · intro x r hg
    have hx : (newRollapp id owner mb).id ≠ x := fun hc => by
      rw [← hc, show (newRollapp id owner mb).id = id from rfl, hn] at hg; cases hg
    exact ⟨r, (getRa_insertSorted_ne hx).trans hg, rfl, fun h => h.congr rfl⟩
  · intro x r' hg hnx
    by_cases hx : x = id
    · subst hx
      cases (getRa_insertSorted_self (r := newRollapp x owner mb) (getRa_none hn)).symm.trans hg
      exact ⟨⟨fun a ha => (by cases ha), fun a ha => (by cases ha)⟩, rfl⟩
    · rw [getRa_insertSorted_ne (r := newRollapp id owner mb) (Ne.symm hx), hnx] at hg; cases hg

theorem createSeq_good {s s' : St} {a : Addr} {ra bond : Nat} {d : Bool} (hn : AddrNodup s.seqs)
    (e : createSeq s a ra bond d = .ok s') : Good s s' := by
  -- the rollapp is marked launched, the bond is taken, the new record inserted, a proposer elected if there is none
  obtain ⟨r, s1, q1, hg, hnone, _, _, _, hs, r2, _, hrec⟩ := createSeq_ok e
  have g0 : Good s (if r.launched = true then s else setRa s { r with launched := true }) := by
    split
    · exact Good.refl s
    · exact Good.setRa_fields hg
  have hs0 : (if r.launched = true then s else setRa s { r with launched := true }).seqs = s.seqs := by
    split <;> rfl
  have mf := (sendToModule_money hs).frame
  have hnone1 : getSeq s1 q1.addr = none := by
    rw [getSeq_congr (mf.seqs.trans hs0), mf.addr]; exact hnone
  have g2 : Good s (addSeq s1 q1) :=
    (g0.trans (Good.of_eq mf.ras mf.seqs mf.seqH)).trans (Good.of_ras rfl (SeqMono.insert hnone1) (fun _ h => h))
  rcases hrec with ⟨_, rfl⟩ | ⟨_, hrec⟩
  · exact g2
  · exact g2.trans (recoverFromSentinel_good
      (nodup_insert s1.seqs q1 (by rw [mf.seqs, hs0]; exact hn) (getSeq_none hnone1)) hrec)

theorem increaseBond_good {s s' : St} {a : Addr} {amt : Nat} {d : Bool} (e : increaseBond s a amt d = .ok s') : Good s s' := by
  obtain ⟨q, s1, q1, hg, _, _, hs, rfl⟩ := increaseBond_ok e
  exact Good.money (sendToModule_money hs) (q0 := q) (by rw [getSeq_addr hg]; exact hg) rfl

theorem decreaseBond_good {s s' : St} {a : Addr} {amt : Nat} (e : decreaseBond s a amt = .ok s') : Good s s' := by
  obtain ⟨q, s1, q1, hg, _, hs, rfl⟩ := decreaseBond_ok e
  exact Good.money (tryUnbond_money hs) (q0 := q) (by rw [getSeq_addr hg]; exact hg) rfl

theorem unbond_good {s s' : St} {a : Addr} (e : unbond s a = .ok s') : Good s s' := by
  obtain ⟨q, r, hg, _, _, hcase⟩ := unbond_ok e
  have hgq : getSeq s q.addr = some q := by rw [getSeq_addr hg]; exact hg
  rcases hcase with ⟨_, _, _, rfl⟩ | ⟨_, s1, q1, hs, rfl⟩
  · -- the proposer starts its notice period
    exact (Good.of_eq (s := s) (s' := { s with nq := insertSorted ltPair (s.t + s.sqp.noticePeriod, a) s.nq }) rfl rfl rfl).trans
      (Good.setSeq (q := noticed q (s.t + s.sqp.noticePeriod)) (q0 := q) hgq rfl)
  · -- anybody else unbonds at once
    exact Good.money (tryUnbond_money hs) (q0 := q) hgq rfl

theorem optIn_good {s s' : St} {a : Addr} {v : Bool} (hn : AddrNodup s.seqs) (e : optIn s a v = .ok s') : Good s s' := by
  obtain ⟨q, r, hg, _, _, hcase⟩ := optIn_ok e
  have g1 : Good s (setSeq s { q with optedIn := v }) :=
    Good.setSeq (q := { q with optedIn := v }) (q0 := q) (by show getSeq s q.addr = some q; rw [getSeq_addr hg]; exact hg) rfl
  rcases hcase with ⟨_, rfl⟩ | ⟨_, hrec⟩
  · exact g1
  · exact g1.trans (recoverFromSentinel_good (nodup_setSeq hn _) hrec)

theorem punish_good {s s' : St} {a : Addr} {rw : Option Addr} (e : punish s a rw = .ok s') : Good s s' := by
  obtain ⟨q, s1, q1, hg, hs, rfl⟩ := punish_ok e
  exact Good.money (slash_money hs) (q0 := q) (by rw [getSeq_addr hg]; exact hg) rfl

theorem beginBlock_good {s : St} {dt : Nat} (hn : AddrNodup s.seqs) : Good s (beginBlock s dt) := by
  refine (beginBlock_ind' (P := fun b => Good s b ∧ b.seqs = s.seqs) s dt ⟨Good.of_eq rfl rfl rfl, rfl⟩
    (fun b nq hb => ⟨hb.1.trans (Good.of_eq rfl rfl rfl), hb.2⟩) ?_).1
  -- the successor chosen is a sequencer of the rollapp
  intro b id r hb hg
  refine ⟨hb.1.trans (Good.setRa rfl rfl rfl (r0 := r) (by rw [getRa_id hg]; exact hg) rfl fun x => ⟨x.1, ?_⟩), hb.2⟩
  intro a ha
  have := choose_seqOf (s := b) (by rw [hb.2]; exact hn) ha
  rwa [← getRa_id hg] at this

theorem slashLiveness_good {s s1 : St} {r : Rollapp} (e : slashLiveness s r = .ok s1) : Good s s1 := by
  rcases slashLiveness_ok e with ⟨_, rfl⟩ | ⟨a, q, s2, q2, _, hg, hsl, rfl⟩
  · exact Good.refl _
  · have mf := (slash_money hsl).frame
    exact (Good.of_eq mf.ras mf.seqs mf.seqH).trans
      (Good.setSeq (q := { q2 with dishonor := q2.dishonor + s2.sqp.dishonorL }) (q0 := q)
        (by show getSeq s2 q2.addr = some q; rw [getSeq_congr mf.seqs, mf.addr, getSeq_addr hg]; exact hg) mf.rollapp)

theorem handleLivenessEvent_good (s : St) (ra : Nat) : Good s (handleLivenessEvent s ra) := by
  unfold handleLivenessEvent
  split
  · exact Good.refl s
  · split
    · exact Good.refl s
    · rename_i s1 hs1
      have g1 := slashLiveness_good hs1
      split
      · exact Good.refl s
      · rename_i r1 hg1
        unfold scheduleEvent
        dsimp only
        exact g1.trans (Good.setRa_fields hg1)

theorem checkLiveness_good (s : St) : Good s (checkLiveness s) := by
  unfold checkLiveness
  apply foldl_inv (Good s)
  · exact Good.refl s
  · intro b e hb; exact hb.trans (handleLivenessEvent_good b e.2)

/-- the hand-over itself: the successor becomes proposer, the successor slot is cleared -/
theorem handover_good {s : St} {id : Nat} {r : Rollapp} (hg : getRa s id = some r) :
    Good s (setRa s { r with successor := none, proposer := r.successor }) :=
  Good.setRa rfl rfl rfl (r0 := r) (by show getRa s r.id = some r; rw [getRa_id hg]; exact hg) rfl
    (fun x => ⟨fun a ha => x.2 a ha, fun a ha => (by cases ha)⟩)

theorem onProposerLastBlock_facts {s s' : St} {q : Seq} (hc : ChainAll s) (h : J s)
    (e : onProposerLastBlock s q = .ok s') : J s' ∧ Weak s s' := by
  obtain ⟨_, r, s1, hg, rfl, hcase⟩ := onProposerLastBlock_ok e
  have g := handover_good hg
  have hc1 : ChainAll (setRa s { r with successor := none, proposer := r.successor }) :=
    RaAll.setRa hc ((hc.get hg).of_states rfl)
  rcases hcase with ⟨_, hf⟩ | ⟨a, _, rfl⟩
  · exact ⟨hardForkToLatest_J hc1 (g.J h) hf, g.weak.trans (hardForkToLatest_weak hc1 hf)⟩
  · have g2 := g.trans (afterSetRealProposer_good _ r.id a)
    exact ⟨g2.J h, g2.weak⟩

theorem seqAfterUpdate_facts {s s' : St} {m : UpdMsg} {b : Bool} (hc : ChainAll s) (h : J s)
    (e : seqAfterUpdate s m b = .ok s') : J s' ∧ Weak s s' := by
  obtain ⟨prop, prop1, hg, rfl, hcase⟩ := seqAfterUpdate_ok e
  have g : Good s (setSeq s { prop with dishonor := prop.dishonor - min s.sqp.dishonorSU prop.dishonor }) :=
    Good.setSeq (q0 := prop) (by show getSeq s prop.addr = some prop; rw [getSeq_addr hg]; exact hg) rfl
  rcases hcase with ⟨_, rfl⟩ | ⟨_, hl⟩
  · exact ⟨g.J h, g.weak⟩
  · have := onProposerLastBlock_facts (show ChainAll (setSeq s _) from hc.ras_eq rfl) (g.J h) hl
    exact ⟨this.1, g.weak.trans this.2⟩

theorem updateState_j {s s' : St} {m : UpdMsg} (hi : Inv s) (e : updateState s m = .ok s') : J s' := by
  obtain ⟨r, s3, _, r4, hvb, hg, hpr, _, _, hpre, _, h3, rfl, hg4, rfl⟩ := updateState_ok e
  have hid := getRa_id hg
  -- the state with the new update appended
  have hwf := updValidateBasic_wf hvb s (updSucc r m)
  have hca : ChainAll (setRa s { r with states := r.states ++ [newSInfo s m (updSucc r m)] }) :=
    RaAll.setRa hi.chain ((hi.chain.get hg).append hwf (updPre_start hpre))
  have hsend : SeqOf s m.sender m.ra := by
    have h0 := (hi.j.prop m.ra r hg).1 m.sender hpr
    rw [hid] at h0; exact h0
  obtain ⟨hj3, hw3⟩ := seqAfterUpdate_facts hca (appendState_J (new := newSInfo s m (updSucc r m)) hg hi.j hsend) h3
  -- the sender is still a sequencer of the rollapp in s3, and the appended state is still there (up to NextProposer)
  have hso : SeqOf s3 m.sender m.ra := hw3.seqMono _ _ (hsend.congr rfl)
  have hga : getRa (setRa s { r with states := r.states ++ [newSInfo s m (updSucc r m)] }) m.ra =
      some { r with states := r.states ++ [newSInfo s m (updSucc r m)] } := by
    rw [← hid]; exact getRa_setRa_same (r0 := r) (by rw [hid]; exact hg)
  obtain ⟨r3, hg3, hst3⟩ := hw3.statesKeep m.ra _ hga
  cases hg3.symm.trans hg4
  obtain ⟨st', hk1, hk2⟩ := getElem?_of_map_eraseNext (l := r.states ++ [newSInfo s m (updSucc r m)]) hst3
    List.getElem?_concat_length
  have hf := eraseNext_fields hk2
  -- J of the state with the queue entry and the liabilities added
  have hj4 : J { s3 with queue := queueAppend s3.queue s3.h m.ra (r.states.length + 1),
                         seqH := addSeqHeights s3.seqH m.sender m.bds } := by
    refine ⟨hj3.prop.congr rfl rfl, ?_, fun id r' hg' x hx => (hj3.creators id r' hg' x hx).congr rfl⟩
    intro p hp
    rcases mem_addSeqHeights _ _ _ _ hp with h1 | ⟨b, hb, rfl⟩
    · obtain ⟨ra0, r0, i, st0, k1, k2⟩ := hj3.liab p h1
      exact ⟨ra0, r0, i, st0, k1.congr rfl, k2⟩
    · have hbr := hwf.bd_range (show b ∈ (newSInfo s m (updSucc r m)).bds from hb)
      exact ⟨m.ra, _, r.states.length, st', hso.congr rfl, hg3, hk1, hf.1, hf.2.2.2.1,
        hf.2.1 ▸ hbr.1, eraseNext_last hk2 ▸ hbr.2⟩
  exact Good.J (indicateLiveness_good (id := m.ra) (show getRa _ m.ra = some _ from hg3)) hj4

/-- the end of a kick, after the fork: the kicker is opted in again and a proposer elected -/
theorem kick_tail_good {s s3 s' : St} {a : Addr} {kicker : Seq} {id : Nat} (hi : Inv s) (hk : getSeq s a = some kicker)
    (h3 : hardForkToLatest (abruptRemoveProposer s id) id = .ok s3)
    (e' : recoverFromSentinel (setSeq s3 { kicker with optedIn := true }) id = .ok s') : Good s3 s' := by
  have hcu3 := hardForkToLatest_cust (abruptRemoveProposer_cust hi.cust) h3
  have hw3 := (abruptRemoveProposer_good s id).weak.trans (hardForkToLatest_weak (abruptRemoveProposer_chain hi.chain) h3)
  obtain ⟨q3, hq3, hr3⟩ := hw3.seqMono a kicker.rollapp ⟨kicker, hk, rfl⟩
  exact (Good.setSeq (q := { kicker with optedIn := true }) (q0 := q3)
    (by show getSeq s3 kicker.addr = some q3; rw [getSeq_addr hk]; exact hq3) hr3.symm).trans
      (recoverFromSentinel_good (nodup_setSeq hcu3.nodup _) e')

theorem kick_j {s s' : St} {a : Addr} (hi : Inv s) (e : kick s a = .ok s') : J s' := by
  obtain ⟨kicker, r, pa, s3, hk, hg, _, _, h3, e'⟩ := kick_ok_elim e
  exact (kick_tail_good hi hk h3 e').J
    (hardForkToLatest_J (abruptRemoveProposer_chain hi.chain) ((abruptRemoveProposer_good s r.id).J hi.j) h3)

theorem fraud_j {s s' : St} {au : Bool} {ra hh rev : Nat} {p rw : Option Addr} (hi : Inv s)
    (e : fraud s au ra hh rev p rw = .ok s') : J s' := by
  obtain ⟨_, _, r, s1, _, _, h5, h6⟩ := fraud_ok e
  rcases h5 with ⟨_, rfl⟩ | ⟨a, _, h5⟩
  · exact hardFork_J hi.chain hi.j h6
  · exact hardFork_J (punish_chain hi.chain h5) ((punish_good h5).J hi.j) h6

theorem markObsolete_j {s s' : St} {au : Bool} {vs : List Nat} (hi : Inv s) (e : markObsolete s au vs = .ok s') : J s' :=
  (markObsolete_ind' (P := fun b => ChainAll b ∧ J b) e ⟨hi.chain.ras_eq rfl, hi.j.of_eq rfl rfl rfl⟩
    (fun _ _ _ hb h => ⟨hardForkToLatest_chain hb.1 h, hardForkToLatest_J hb.1 hb.2 h⟩)).2.2.2

theorem endBlock_j {s : St} {fails : List (Nat × Nat)} (hc : ChainAll s) (h : J s) : J (endBlock s fails) :=
  (endBlock_ind (P := fun b => ChainAll b ∧ J b) fails ⟨hc, h⟩
    (fun _ _ _ _ hb e => ⟨finalizeOne_chain hb.1 e, finalizeOne_J hb.1 hb.2 e⟩)
    (fun _ _ hb => ⟨hb.1.ras_eq rfl, hb.2.of_eq rfl rfl rfl⟩)
    (fun b ra hb => ⟨chainClosed.handleLivenessEvent hb.1, (handleLivenessEvent_good b ra).J hb.2⟩)).2

/-- the ops whose accepted transition may add, remove or finalize states; every other accepted op is a `Good` step -/
def reshapes : Op → Bool
  | .update _ | .kick _ | .fraud .. | .obsolete .. | .end_ _ => true
  | _ => false

theorem apply_good {s s' : St} {o : Op} (hn : AddrNodup s.seqs) (e : apply s o = .ok s') (ho : reshapes o = false) :
    Good s s' := by
  cases o with
  | createRollapp id owner mb =>
    obtain ⟨hg, rfl⟩ := apply_createRollapp_ok e
    exact createRollapp_good owner mb hg
  | bridge ra hh =>
    obtain ⟨r, _, hg, _, _, _, _, rfl⟩ := apply_bridge_ok e
    exact Good.setRa_fields hg
  | fund a amt => simp only [apply] at e; cases e; exact Good.of_eq rfl rfl rfl
  | createSeq a ra b d => exact createSeq_good hn e
  | bondInc a amt d => exact increaseBond_good e
  | bondDec a amt => exact decreaseBond_good e
  | unbond a => exact unbond_good e
  | optIn a v => exact optIn_good hn e
  | punish au a rw => exact punish_good (punishProposal_ok e).2
  | transferOwner sg ra' no =>
    obtain ⟨r, hg, _, _, _, rfl⟩ := transferOwner_ok e
    exact Good.setRa_fields hg
  | setSeqParams au sp =>
    obtain ⟨_, _, _, rfl⟩ := setSeqParams_ok e
    exact Good.of_eq rfl rfl rfl
  | begin_ dt => simp only [apply] at e; cases e; exact beginBlock_good hn
  | _ => cases ho

theorem apply_j {s s' : St} {o : Op} (hi : Inv s) (e : apply s o = .ok s') : J s' := by
  cases o with
  | kick a => exact kick_j hi e
  | update m => exact updateState_j hi e
  | fraud au ra hh rev p rw => exact fraud_j hi e
  | obsolete au vs => exact markObsolete_j hi e
  | end_ f => simp only [apply] at e; cases e; exact endBlock_j hi.chain hi.j
  | _ => exact (apply_good hi.cust.nodup e rfl).J hi.j

theorem apply_inv {s s' : St} {o : Op} (hi : Inv s) (e : apply s o = .ok s') : Inv s' :=
  ⟨apply_chain hi.chain e, apply_cust hi.cust e, apply_j hi e⟩

theorem step_inv {s : St} {o : Op} (hi : Inv s) : Inv (step s o).1 := by
  unfold step
  split
  · rename_i s' e; exact apply_inv hi e
  · exact hi

theorem run_inv (p : Params) (ops : List Op) : Inv (run p ops) := by
  unfold run
  apply foldl_inv Inv
  · refine ⟨?_, ⟨List.Pairwise.nil, rfl⟩, ⟨?_, ?_, ?_⟩⟩
    · intro r hr; simp [init] at hr
    · intro id r hg; simp [getRa, init] at hg
    · intro p hp; simp [init] at hp
    · intro id r hg; simp [getRa, init] at hg
  · intro b o hb; exact step_inv hb

end DymVerif.Core.Fork
