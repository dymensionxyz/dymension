/-
  Lemmas/GenEqAnteLC — the facts about the hub's nested-message filter (app/ante/reject_msgs.go +
  cosmos_handler.go, regenerated into Gen/Ante.lean on every check) that M-LC's `Wrap.nested` /
  `Wrap.storedProposal` / `MKind.*Nested` / `MKind.*Stored` refusals rest on: an ibc `MsgUpdateClient` /
  `MsgSubmitMisbehaviour` is refused at every depth ≥ 1, and the filter descends into authz.MsgExec, gov v1 and
  x/group `MsgSubmitProposal` UNCONDITIONALLY (whatever the proposal's `Exec` field says: a proposal stored now
  and executed later by a vote runs through the message router only, never through the ante handler).
-/
import DymVerif.Gen.Ante
namespace DymVerif.LC
open DymVerif.Ante

/-- the text of `checkMsg` that is not extracted as data is the modelled one: in particular the `switch` cases
    carry no extra condition (such as `m.Exec == EXEC_TRY`) -/
theorem ante_filter_shape : Gen.Ante.shapeOk = true := by decide +kernel

/-- x/group and gov proposals and authz.MsgExec are unwrapped (inner messages checked one level deeper) -/
theorem ante_filter_unwraps_stored_proposals :
    accOf Gen.Ante.config tyGroupSubmit = some .msgs ∧ accOf Gen.Ante.config tyGovSubmit = some .msgs ∧
    accOf Gen.Ante.config tyExec = some .msgs := by decide +kernel

/-- the two ibc client messages are refused at every depth ≥ 1 (table fact, all depths up to the filter's maximum) -/
theorem ante_filter_blocks_client_msgs_nested :
    ∀ d ∈ List.range (Gen.Ante.config.maxDepth + 1), 1 ≤ d →
      blocked Gen.Ante.config tyUpdateClient d = true ∧ blocked Gen.Ante.config tyMisbehaviour d = true := by decide +kernel

theorem ante_filter_type_names :
    Gen.Ante.typeNames.lookup tyGroupSubmit = some "github.com/cosmos/cosmos-sdk/x/group.MsgSubmitProposal" ∧
    Gen.Ante.typeNames.lookup tyUpdateClient = some "github.com/cosmos/ibc-go/v8/modules/core/02-client/types.MsgUpdateClient" ∧
    Gen.Ante.typeNames.lookup tyMisbehaviour = some "github.com/cosmos/ibc-go/v8/modules/core/02-client/types.MsgSubmitMisbehaviour" := by decide +kernel

end DymVerif.LC
