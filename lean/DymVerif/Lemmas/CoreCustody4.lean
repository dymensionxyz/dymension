/-
  Lemmas/CoreCustody4 — which operations can lower a recorded bond, and where the money goes
  (helpers of Props/C06 `bond_decreases_only_by`).
-/
import DymVerif.Lemmas.CoreCustody3
namespace DymVerif.Core

/-- bank balances, module account and burn counter are the same in both states -/
structure MoneyEq (s s' : St) : Prop where
  bal : s'.bal = s.bal
  modBal : s'.modBal = s.modBal
  burned : s'.burned = s.burned

theorem MoneyEq.refl (s : St) : MoneyEq s s := ⟨rfl, rfl, rfl⟩
theorem MoneyEq.trans {a b c : St} (h1 : MoneyEq a b) (h2 : MoneyEq b c) : MoneyEq a c :=
  ⟨h2.bal.trans h1.bal, h2.modBal.trans h1.modBal, h2.burned.trans h1.burned⟩

/-- every recorded sequencer is still recorded, with at least the bond it had -/
def NoDec (s s' : St) : Prop := ∀ a q, getSeq s a = some q → ∃ q', getSeq s' a = some q' ∧ q.tokens ≤ q'.tokens

theorem NoDec.refl (s : St) : NoDec s s := fun _ q h => ⟨q, h, Nat.le_refl _⟩
theorem NoDec.trans {a b c : St} (h1 : NoDec a b) (h2 : NoDec b c) : NoDec a c := by
  intro x q hq
  obtain ⟨q1, hq1, l1⟩ := h1 x q hq
  obtain ⟨q2, hq2, l2⟩ := h2 x q1 hq1
  exact ⟨q2, hq2, Nat.le_trans l1 l2⟩

theorem FlagsOnly.noDec {s s' : St} (h : FlagsOnly s s') : NoDec s s' := by
  intro a q hq
  obtain ⟨q', hq', r⟩ := h.old a q hq
  exact ⟨q', hq', Nat.le_of_eq r.tokens.symm⟩

theorem NoDec.not_lt {s s' : St} (h : NoDec s s') {a : Addr} {q q' : Seq} (hq : getSeq s a = some q)
    (hq' : getSeq s' a = some q') : ¬ q'.tokens < q.tokens := by
  obtain ⟨q1, h1, l⟩ := h a q hq
  rw [hq'] at h1; cases h1; omega

theorem getBal_setBal_other (b : List (Addr × Nat)) (a c : Addr) (v : Nat) (hne : c ≠ a) : getBal (setBal b a v) c = getBal b c := by
  unfold getBal setBal
  by_cases h : b.any (·.1 == a) = true
  · rw [if_pos h]
    clear h
    induction b with
    | nil => rfl
    | cons x xs ih =>
      simp only [List.map_cons, List.find?_cons]
      by_cases hx : (x.1 == a) = true
      · have hxa : x.1 = a := by simpa using hx
        have h1 : (a == c) = false := by simp [Ne.symm hne]
        have h2 : (x.1 == c) = false := by simp [hxa, Ne.symm hne]
        simp only [hx, if_true, h1, h2]
        exact ih
      · simp only [hx, Bool.false_eq_true, if_false]
        cases hc : (x.1 == c) with
        | true => rfl
        | false => exact ih
  · rw [if_neg h]
    rw [List.find?_append]
    cases hf : b.find? (·.1 == c) with
    | some y => rfl
    | none =>
      have h1 : (a == c) = false := by simp [Ne.symm hne]
      simp [h1]

-- ---------------------------------------------------------------- the fork path moves no money

theorem setRa_money (s : St) (r : Rollapp) : MoneyEq s (setRa s r) := ⟨rfl, rfl, rfl⟩

theorem MoneyEq.roleClosed (s : St) (ra : Nat) : RoleClosed (MoneyEq s) ra where
  clearProposer _ h := h.trans ⟨rfl, rfl, rfl⟩
  clearSuccessor _ h := h.trans ⟨rfl, rfl, rfl⟩
  unbond _ h := h.trans ⟨rfl, rfl, rfl⟩
  optOut h := h.trans ⟨rfl, rfl, rfl⟩
  nq q h := by
    refine h.trans ?_
    unfold removeFromNoticeQueue
    split <;> exact ⟨rfl, rfl, rfl⟩

theorem seqOnHardFork_money (s : St) (ra : Nat) : MoneyEq s (seqOnHardFork s ra) :=
  (MoneyEq.roleClosed s ra).seqOnHardFork (.refl s)

theorem hardFork_money {s s' : St} {ra lv : Nat} (e : hardFork s ra lv = .ok s') : MoneyEq s s' := by
  obtain ⟨r, keep, kst, _, _, _, _, _, rfl⟩ := hardFork_ok e
  exact (⟨rfl, rfl, rfl⟩ : MoneyEq s (afterRevert s ra keep r kst)).trans (seqOnHardFork_money _ _)

theorem hardForkToLatest_money {s s' : St} {ra : Nat} (e : hardForkToLatest s ra = .ok s') : MoneyEq s s' := by
  obtain ⟨r, lh, _, _, e'⟩ := hardForkToLatest_ok e
  exact hardFork_money e'

-- ---------------------------------------------------------------- new and increased bonds

theorem createSeq_noDec {s s' : St} {a : Addr} {ra bond : Nat} {d : Bool} (e : createSeq s a ra bond d = .ok s') : NoDec s s' := by
  obtain ⟨r, s1, q1, _, hnone, _, _, _, hs, r2, _, hfin⟩ := createSeq_ok e
  obtain ⟨_, hs1, hq1⟩ := sendToModule_ok hs
  have f2 : NoDec s (addSeq s1 q1) := by
    intro b q hq
    have hb : q1.addr ≠ b := by
      rw [hq1]; intro (hab : a = b); rw [← hab, hnone] at hq; cases hq
    refine ⟨q, ?_, Nat.le_refl _⟩
    rw [show getSeq (addSeq s1 q1) b = getSeq s1 b from getSeq_insertSorted_ne hb,
      getSeq_congr (s := s) (by rw [hs1]; dsimp only; split <;> rfl)]
    exact hq
  rcases hfin with ⟨_, rfl⟩ | ⟨_, hr⟩
  · exact f2
  · exact f2.trans (FlagsOnly.of_seqs (recoverFromSentinel_seqs hr).1).noDec

theorem NoDec.of_setSeq {s s1 : St} {a : Addr} {q0 q : Seq} (hg : getSeq s a = some q0) (hs : s1.seqs = s.seqs)
    (ha : q.addr = a) (ht : q0.tokens ≤ q.tokens) : NoDec s (setSeq s1 q) := by
  intro b qb hb
  by_cases hba : q.addr = b
  · have hq1 : getSeq s1 q.addr = some q0 := by rw [getSeq_congr hs, ha]; exact hg
    rw [← hba, ha, hg] at hb; cases hb
    exact ⟨q, hba ▸ getSeq_setSeq_self hq1, ht⟩
  · exact ⟨qb, by rw [getSeq_setSeq_other hba, getSeq_congr hs]; exact hb, Nat.le_refl _⟩

theorem increaseBond_noDec {s s' : St} {a : Addr} {amt : Nat} {d : Bool} (e : increaseBond s a amt d = .ok s') : NoDec s s' := by
  obtain ⟨q, s1, q1, hg, _, _, hs, rfl⟩ := increaseBond_ok e
  obtain ⟨_, rfl, rfl⟩ := sendToModule_ok hs
  exact NoDec.of_setSeq hg rfl (show q.addr = a from getSeq_addr hg) (Nat.le_add_right _ _)

/-- `a` withdrew: its bond went down by what its bank balance went up and the module account went down;
    nobody else's record or balance changed, nothing was burned -/
structure Withdrawn (s s' : St) (a : Addr) : Prop where
  others : ∀ b, b ≠ a → getSeq s' b = getSeq s b
  ex : ∃ q q', getSeq s a = some q ∧ getSeq s' a = some q' ∧ q'.tokens ≤ q.tokens ∧
      getBal s'.bal a = getBal s.bal a + (q.tokens - q'.tokens) ∧ s'.modBal + (q.tokens - q'.tokens) = s.modBal
  otherBal : ∀ b, b ≠ a → getBal s'.bal b = getBal s.bal b
  burned : s'.burned = s.burned

/-- writing back the record a successful `tryUnbond` returned -/
theorem withdrawn_of_tryUnbond {s s1 : St} {q0 q q1 : Seq} {a : Addr} {amt : Nat} (hg : getSeq s a = some q0)
    (hqa : q.addr = a) (hqt : q.tokens = q0.tokens) (e : tryUnbond s q amt = .ok (s1, q1)) : Withdrawn s (setSeq s1 q1) a := by
  have sp := tryUnbond_money e
  have hq1a : q1.addr = a := sp.2.1.trans hqa
  have hd : q0.tokens - q1.tokens = amt := by have := sp.2.2.1; omega
  refine ⟨?_, ⟨q0, q1, hg, ?_, by have := sp.2.2.1; omega, ?_, ?_⟩, ?_, ?_⟩
  · intro b hb
    rw [getSeq_setSeq_other (by rw [hq1a]; exact Ne.symm hb), getSeq_congr sp.1]
  · have : getSeq s1 q1.addr = some q0 := by rw [getSeq_congr sp.1, hq1a]; exact hg
    rw [← hq1a]; exact getSeq_setSeq_self this
  · show getBal s1.bal a = _
    rw [sp.2.2.2.2.2, hqa, getBal_setBal, hd]
  · show s1.modBal + _ = _
    rw [hd]; exact sp.2.2.2.1
  · intro b hb
    show getBal s1.bal b = _
    rw [sp.2.2.2.2.2, hqa, getBal_setBal_other _ _ _ _ hb]
  · exact sp.2.2.2.2.1

theorem decreaseBond_withdrawn {s s' : St} {a : Addr} {amt : Nat} (e : decreaseBond s a amt = .ok s') : Withdrawn s s' a := by
  obtain ⟨q, s1, q1, hg, _, hs, rfl⟩ := decreaseBond_ok e
  exact withdrawn_of_tryUnbond hg (getSeq_addr hg) rfl hs

theorem unbond_withdrawn {s s' : St} {a : Addr} (e : unbond s a = .ok s') : Withdrawn s s' a := by
  obtain ⟨q, r, hg, _, _, hc⟩ := unbond_ok e
  have hqa : q.addr = a := getSeq_addr hg
  rcases hc with ⟨_, _, _, rfl⟩ | ⟨_, s1, q1, hs, rfl⟩
  · -- the proposer starts its notice period: nothing is paid
    have hg0 : getSeq { s with nq := insertSorted ltPair (s.t + s.sqp.noticePeriod, a) s.nq } q.addr = some q := by
      rw [hqa]; exact hg
    refine ⟨?_, ⟨q, noticed q (s.t + s.sqp.noticePeriod), hg, ?_, Nat.le_refl _, ?_, ?_⟩, ?_, rfl⟩
    · intro b hb
      rw [getSeq_setSeq_other (show (noticed q (s.t + s.sqp.noticePeriod)).addr ≠ b by
        show q.addr ≠ b; rw [hqa]; exact Ne.symm hb)]
      rfl
    · rw [← hqa]
      exact getSeq_setSeq_self (q := noticed q (s.t + s.sqp.noticePeriod)) hg0
    · show getBal s.bal a = getBal s.bal a + (q.tokens - q.tokens); omega
    · show s.modBal + (q.tokens - q.tokens) = s.modBal; omega
    · intro b _; rfl
  · exact withdrawn_of_tryUnbond (q := { q with optedIn := false }) hg hqa rfl hs

/-- where the money of a slash goes: `paid` to the rewardee (only if one is named), the rest burned -/
theorem slash_money {s s1 : St} {q q1 : Seq} {amt : Nat} {mul : Dec} {rw : Option Addr}
    (e : slash s q amt mul rw = .ok (s1, q1)) :
    ∃ paid, (paid = 0 ∨ paid = ((mul.mulInt amt).truncateInt).toNat) ∧
      s1.seqs = s.seqs ∧ q1.addr = q.addr ∧
      q1.tokens + (paid + (amt - paid)) = q.tokens ∧ s1.modBal + (paid + (amt - paid)) = s.modBal ∧
      s1.burned = s.burned + (amt - paid) ∧
      ∀ b, getBal s1.bal b = getBal s.bal b + (if rw = some b then paid else 0) := by
  obtain ⟨s0, q0, h0, hb⟩ := slash_ok e
  obtain ⟨b1, b2, rfl, rfl⟩ := burn_ok hb
  rcases h0 with ⟨hz, rfl, rfl⟩ | ⟨_, to, rfl, hs⟩
  · rw [hz, Nat.sub_zero] at b1 b2
    refine ⟨0, Or.inl rfl, rfl, rfl, ?_, ?_, ?_, ?_⟩
    · dsimp only; rw [hz, Nat.sub_zero, Nat.zero_add]; exact Nat.sub_add_cancel b1
    · dsimp only; rw [hz, Nat.sub_zero, Nat.zero_add]; exact Nat.sub_add_cancel b2
    · dsimp only; rw [hz]
    · intro b; split <;> rfl
  · obtain ⟨f1, _, f3, rfl, rfl⟩ := sendFromModule_ok hs
    dsimp only at b1 b2
    have key : ∀ x d R : Nat, R ≤ x → d ≤ x - R → x - R - d + (R + d) = x := by
      intro x d R h1 h2; omega
    refine ⟨slashReward mul amt, Or.inr rfl, rfl, rfl, key _ _ _ f1 b1, key _ _ _ f3 b2, rfl, ?_⟩
    · intro b
      dsimp only
      by_cases hbt : to = b
      · subst hbt; rw [getBal_setBal, if_pos rfl]
      · rw [getBal_setBal_other _ _ _ _ (Ne.symm hbt), if_neg (fun h => hbt (Option.some.inj h))]; rfl

/-- `a` was punished: its whole decrease left the module account; `paid` of it went to the rewardee, the
    rest was burned; other records keep their bonds -/
structure Punished (s s' : St) (a : Addr) (rw : Option Addr) (mulTrunc : Nat → Nat) : Prop where
  others : ∀ b, b ≠ a → (getSeq s' b).map (·.tokens) = (getSeq s b).map (·.tokens)
  ex : ∃ q q' paid, getSeq s a = some q ∧ getSeq s' a = some q' ∧ q'.tokens ≤ q.tokens ∧
      (paid = 0 ∨ paid = mulTrunc q.tokens) ∧ paid * 2 ≤ q.tokens - q'.tokens ∧
      s'.modBal + (q.tokens - q'.tokens) = s.modBal ∧ s'.burned = s.burned + (q.tokens - q'.tokens - paid) ∧
      ∀ b, getBal s'.bal b = getBal s.bal b + (if rw = some b then paid else 0)

/-- the reward share of `PunishSequencer`: half the bond, truncated, when a rewardee is named -/
def punishShare (rw : Option Addr) (tokens : Nat) : Nat :=
  ((Dec.mulInt (match rw with | some _ => ⟨500000000000000000⟩ | none => ⟨0⟩) (tokens : Int)).truncateInt).toNat

theorem half_le (tokens : Nat) :
    ((Dec.mulInt ⟨500000000000000000⟩ (tokens : Int)).truncateInt).toNat * 2 ≤ tokens := by
  unfold Dec.mulInt Dec.truncateInt chopTrunc decP
  simp only
  have h : ((500000000000000000 : Int) * (tokens : Int)).tdiv 1000000000000000000 = ((tokens : Int) / 2) := by
    rw [Int.tdiv_eq_ediv_of_nonneg (by omega)]
    omega
  rw [h]; omega

theorem punishShare_le (rw : Option Addr) (tokens : Nat) : punishShare rw tokens * 2 ≤ tokens := by
  unfold punishShare
  cases rw with
  | some _ => exact half_le tokens
  | none =>
    show ((Dec.mulInt ⟨0⟩ (tokens : Int)).truncateInt).toNat * 2 ≤ tokens
    unfold Dec.mulInt Dec.truncateInt chopTrunc decP
    simp

theorem punish_punished {s s' : St} {a : Addr} {rw : Option Addr} (e : punish s a rw = .ok s') :
    Punished s s' a rw (punishShare rw) := by
  obtain ⟨q, s1, q1, hg, hs, rfl⟩ := punish_ok e
  have hqa : q.addr = a := getSeq_addr hg
  obtain ⟨paid, hp, hseqs, hq1a, htok, hmod, hburn, hbal⟩ := slash_money hs
  have hq1a' : q1.addr = a := hq1a.trans hqa
  have hple : paid * 2 ≤ q.tokens := by
    rcases hp with h | h
    · rw [h]; exact Nat.zero_le _
    · rw [h]; exact punishShare_le rw q.tokens
  -- the whole bond is taken: `paid` of it to the rewardee, the rest burned
  have hz : q1.tokens = 0 ∧ paid + (q.tokens - paid) = q.tokens := by omega
  rw [hz.2] at hmod
  refine ⟨?_, ⟨q, q1, paid, hg, ?_, ?_, hp, ?_, ?_, ?_, hbal⟩⟩
  · intro b hb
    rw [getSeq_setSeq_other (by rw [hq1a']; exact Ne.symm hb), getSeq_congr hseqs]
  · have : getSeq s1 q1.addr = some q := by rw [getSeq_congr hseqs, hq1a']; exact hg
    rw [← hq1a']; exact getSeq_setSeq_self this
  · rw [hz.1]; exact Nat.zero_le _
  · rw [hz.1, Nat.sub_zero]; exact hple
  · show s1.modBal + _ = _; rw [hz.1, Nat.sub_zero]; exact hmod
  · show s1.burned = _; rw [hburn, hz.1, Nat.sub_zero]

theorem fraud_cases {s s' : St} {au : Bool} {ra hh rev : Nat} {p rw : Option Addr}
    (e : fraud s au ra hh rev p rw = .ok s') :
    (p = none ∧ TokFrame s s') ∨ (∃ a, p = some a ∧ Punished s s' a rw (punishShare rw)) := by
  obtain ⟨_, _, r, s1, _, _, hp, hf⟩ := fraud_ok e
  have tf := hardFork_tok hf
  have mo := hardFork_money hf
  rcases hp with ⟨rfl, rfl⟩ | ⟨a, rfl, hpun⟩
  · exact Or.inl ⟨rfl, tf⟩
  · have pp := punish_punished hpun
    refine Or.inr ⟨a, rfl, ?_, ?_⟩
    · intro b hb; rw [tf b, pp.others b hb]
    · obtain ⟨q, q1, paid, hq, hq1, hle, hp, hpl, hm, hbn, hbal⟩ := pp.ex
      have := tf a
      rw [hq1] at this
      cases hq' : getSeq s' a with
      | none => rw [hq'] at this; cases this
      | some q' =>
        rw [hq'] at this
        have et : q'.tokens = q1.tokens := by simpa using this
        refine ⟨q, q', paid, hq, rfl, by rw [et]; exact hle, hp, by rw [et]; exact hpl, ?_, ?_, ?_⟩
        · rw [mo.modBal, et]; exact hm
        · rw [mo.burned, et]; exact hbn
        · intro b; rw [mo.bal]; exact hbal b

/-- what a block end may do to bonds: whatever leaves the module account is burned, no bank balance changes,
    no bond grows, and every single bond decrease is covered by the burn -/
structure Burnt (s s' : St) : Prop where
  bal : s'.bal = s.bal
  conserve : s'.modBal + s'.burned = s.modBal + s.burned
  mono : s.burned ≤ s'.burned
  tok : ∀ a q', getSeq s' a = some q' → ∃ q, getSeq s a = some q ∧ q'.tokens ≤ q.tokens ∧
      q.tokens + s.burned ≤ q'.tokens + s'.burned

theorem Burnt.refl (s : St) : Burnt s s := ⟨rfl, rfl, Nat.le_refl _, fun _ q' h => ⟨q', h, Nat.le_refl _, Nat.le_refl _⟩⟩

theorem Burnt.trans {a b c : St} (h1 : Burnt a b) (h2 : Burnt b c) : Burnt a c := by
  refine ⟨h2.bal.trans h1.bal, by have := h1.conserve; have := h2.conserve; omega, Nat.le_trans h1.mono h2.mono, ?_⟩
  intro x q2 hq2
  obtain ⟨q1, hq1, l1, m1⟩ := h2.tok x q2 hq2
  obtain ⟨q0, hq0, l0, m0⟩ := h1.tok x q1 hq1
  exact ⟨q0, hq0, by omega, by omega⟩

theorem Burnt.of_eq {s s' : St} (e1 : s'.seqs = s.seqs) (e2 : s'.bal = s.bal) (e3 : s'.modBal = s.modBal)
    (e4 : s'.burned = s.burned) : Burnt s s' :=
  ⟨e2, by rw [e3, e4], by rw [e4]; exact Nat.le_refl _, fun a q' h => ⟨q', by rw [← getSeq_congr e1]; exact h, Nat.le_refl _, by rw [e4]; exact Nat.le_refl _⟩⟩

theorem finalizeOne_money {s s' : St} {fails : List (Nat × Nat)} {ra idx : Nat}
    (e : finalizeOne s fails ra idx = some s') : s'.seqs = s.seqs ∧ MoneyEq s s' := by
  obtain ⟨_, _, r, st, _, _, _, rfl⟩ := finalizeOne_ok e
  exact ⟨rfl, rfl, rfl, rfl⟩

/-- a slash without rewardee: everything it takes is burned -/
theorem slash_none {s s1 : St} {q q1 : Seq} {amt : Nat} {mul : Dec} (e : slash s q amt mul none = .ok (s1, q1)) :
    s1.seqs = s.seqs ∧ q1.addr = q.addr ∧ q1.tokens ≤ q.tokens ∧ s1.bal = s.bal ∧
    s1.modBal + (q.tokens - q1.tokens) = s.modBal ∧ s1.burned = s.burned + (q.tokens - q1.tokens) := by
  obtain ⟨s0, q0, h0, hb⟩ := slash_ok e
  obtain ⟨b1, b2, rfl, rfl⟩ := burn_ok hb
  rcases h0 with ⟨_, rfl, rfl⟩ | ⟨_, to, hc, _⟩
  · dsimp only
    rw [Nat.sub_sub_self b1]
    exact ⟨rfl, rfl, Nat.sub_le _ _, rfl, Nat.sub_add_cancel b2, rfl⟩
  · cases hc

theorem slashLiveness_burnt {s s1 : St} {r : Rollapp} (e : slashLiveness s r = .ok s1) : Burnt s s1 := by
  rcases slashLiveness_ok e with ⟨_, rfl⟩ | ⟨a, q, s2, q2, _, hg, hsl, rfl⟩
  · exact Burnt.refl _
  obtain ⟨hseqs, hq2a, hle, hbal, hmod, hburn⟩ := slash_none hsl
  have hqa : q.addr = a := getSeq_addr hg
  refine ⟨hbal, ?_, ?_, ?_⟩
  · show s2.modBal + s2.burned = _; rw [hburn]; omega
  · show s.burned ≤ s2.burned; rw [hburn]; omega
  · intro b qb hb
    by_cases hba : q2.addr = b
    · subst hba
      have hg2 : getSeq s2 q2.addr = some q := by rw [getSeq_congr hseqs, hq2a, hqa]; exact hg
      rw [getSeq_setSeq_self (q := { q2 with dishonor := q2.dishonor + s2.sqp.dishonorL }) (q0 := q) hg2] at hb
      cases hb
      exact ⟨q, by rw [hq2a, hqa]; exact hg, hle, by show q.tokens + s.burned ≤ q2.tokens + s2.burned; rw [hburn]; omega⟩
    · have : ({ q2 with dishonor := q2.dishonor + s2.sqp.dishonorL } : Seq).addr ≠ b := hba
      rw [getSeq_setSeq_other this, getSeq_congr hseqs] at hb
      exact ⟨qb, hb, Nat.le_refl _, by show qb.tokens + s.burned ≤ qb.tokens + s2.burned; rw [hburn]; omega⟩

theorem handleLivenessEvent_burnt (s : St) (ra : Nat) : Burnt s (handleLivenessEvent s ra) := by
  rcases handleLivenessEvent_cases s ra with h | ⟨r, s1, r1, _, hs1, _, h⟩
  · rw [h]; exact Burnt.refl s
  · rw [h]; unfold scheduleEvent
    exact (slashLiveness_burnt hs1).trans (Burnt.of_eq rfl rfl rfl rfl)

theorem endBlock_burnt (s : St) (fails : List (Nat × Nat)) : Burnt s (endBlock s fails) :=
  endBlock_ind (P := Burnt s) fails (Burnt.refl s)
    (fun _ _ _ _ hb h1 =>
      have f := finalizeOne_money h1
      hb.trans (Burnt.of_eq f.1 f.2.bal f.2.modBal f.2.burned))
    (fun _ _ hb => hb.trans (Burnt.of_eq rfl rfl rfl rfl))
    (fun b ra hb => hb.trans (handleLivenessEvent_burnt b ra))

-- ---------------------------------------------------------------- the classification, one step

/-- what one accepted operation may do to the recorded bonds: lower none; a withdrawal by `a`; the punishment of `a`
    (by a fraud proposal or a punish proposal); or the burns of a block end -/
theorem apply_bonds {s s' : St} {o : Op} (e : apply s o = .ok s') :
    NoDec s s' ∨
    (∃ a, (o = .unbond a ∨ ∃ amt, o = .bondDec a amt) ∧ Withdrawn s s' a) ∨
    (∃ a rw, ((∃ au ra hh rev, o = .fraud au ra hh rev (some a) rw) ∨ (∃ au, o = .punish au a rw)) ∧
        Punished s s' a rw (punishShare rw)) ∨
    (∃ f, o = .end_ f ∧ Burnt s s') := by
  cases o with
  | bondDec a amt => exact Or.inr (Or.inl ⟨a, Or.inr ⟨amt, rfl⟩, decreaseBond_withdrawn e⟩)
  | unbond a => exact Or.inr (Or.inl ⟨a, Or.inl rfl, unbond_withdrawn e⟩)
  | fraud au ra hh rev p rw =>
    rcases fraud_cases e with ⟨rfl, _⟩ | ⟨a, rfl, pp⟩
    · exact Or.inl (apply_flags rfl e).noDec
    · exact Or.inr (Or.inr (Or.inl ⟨a, rw, Or.inl ⟨au, ra, hh, rev, rfl⟩, pp⟩))
  | punish au a rw =>
    exact Or.inr (Or.inr (Or.inl ⟨a, rw, Or.inr ⟨au, rfl⟩, punish_punished (punishProposal_ok e).2⟩))
  | end_ f => cases e; exact Or.inr (Or.inr (Or.inr ⟨f, rfl, endBlock_burnt s f⟩))
  | createSeq a ra b d => exact Or.inl (createSeq_noDec e)
  | bondInc a amt d => exact Or.inl (increaseBond_noDec e)
  | createRollapp id owner mb => exact Or.inl (apply_flags rfl e).noDec
  | bridge ra hh => exact Or.inl (apply_flags rfl e).noDec
  | fund a amt => exact Or.inl (apply_flags rfl e).noDec
  | optIn a v => exact Or.inl (apply_flags rfl e).noDec
  | kick a => exact Or.inl (apply_flags rfl e).noDec
  | update m => exact Or.inl (apply_flags rfl e).noDec
  | obsolete au vs => exact Or.inl (apply_flags rfl e).noDec
  | transferOwner sg ra' no => exact Or.inl (apply_flags rfl e).noDec
  | setSeqParams au sp => exact Or.inl (apply_flags rfl e).noDec
  | begin_ dt => exact Or.inl (apply_flags rfl e).noDec

/-- every op other than a withdrawal, a fraud punishment, a punish proposal or a block end lowers no bond -/
theorem apply_noDec {s s' : St} {o : Op} (e : apply s o = .ok s')
    (h1 : ∀ a amt, o ≠ .bondDec a amt) (h2 : ∀ a, o ≠ .unbond a)
    (h3 : ∀ au ra hh rev a rw, o ≠ .fraud au ra hh rev (some a) rw) (h4 : ∀ f, o ≠ .end_ f)
    (h5 : ∀ au a rw, o ≠ .punish au a rw) : NoDec s s' := by
  rcases apply_bonds e with h | ⟨a, ho | ⟨amt, ho⟩, _⟩ | ⟨a, rw, ⟨au, ra, hh, rev, ho⟩ | ⟨au, ho⟩, _⟩ | ⟨f, ho, _⟩
  · exact h
  · exact absurd ho (h2 a)
  · exact absurd ho (h1 a amt)
  · exact absurd ho (h3 au ra hh rev a rw)
  · exact absurd ho (h5 au a rw)
  · exact absurd ho (h4 f)

end DymVerif.Core
