/-
  Lemmas/IncentPayout — one gauge's payout.  The specification of one distribution (`dueLocks` / `dueAll` for the
  per-lock loop, `dueG` / `dueTotal` for a gauge: what an account is due, what the gauge hands out) and, once per
  function of the code (`assetLoop`, `calcAsset`, `calcRollapp`, `calcGauge`), that it computes the specification:
  per account, in total, and whom it may enter into the tracker.  That a gauge never hands out more than its
  remainder is a fact about the specification (`dueTotal_le`).
-/
import DymVerif.Lemmas.IncentBasic
import DymVerif.Lemmas.IncentShape
namespace DymVerif.Incent
open DymVerif Coins

/-! ### the reward tracker -/

def trSum (tr : Tracker) (i : Nat) : Nat := (tr.map (fun p => amt p.2 i)).sum

theorem trSum_addReward (tr : Tracker) (o : Nat) (c : Coins) (i : Nat) :
    trSum (tr.addReward o c) i = trSum tr i + amt c i := by
  induction tr with
  | nil => simp [Tracker.addReward, trSum]
  | cons p rest ih =>
    obtain ⟨o', c'⟩ := p
    unfold Tracker.addReward
    by_cases h : o' = o
    · simp only [h, if_true]
      simp only [trSum, List.map_cons, List.sum_cons, amt_add]
      omega
    · simp only [h, if_false]
      simp only [trSum, List.map_cons, List.sum_cons] at ih ⊢
      omega

/-- what address `a` receives from a tracker -/
def trFor (tr : Tracker) (a i : Nat) : Nat := ((tr.filter (·.1 == a)).map (fun p => amt p.2 i)).sum

theorem trFor_addReward (tr : Tracker) (o : Nat) (c : Coins) (a i : Nat) :
    trFor (tr.addReward o c) a i = trFor tr a i + (if o = a then amt c i else 0) := by
  induction tr with
  | nil =>
    by_cases h : o = a
    · simp [Tracker.addReward, trFor, h]
    · simp [Tracker.addReward, trFor, h]
  | cons p rest ih =>
    obtain ⟨o', c'⟩ := p
    unfold Tracker.addReward
    by_cases h : o' = o
    · simp only [h, if_true]
      by_cases ha : o = a
      · simp only [trFor, List.filter_cons, ha, beq_self_eq_true, if_true, List.map_cons, List.sum_cons, amt_add]
        omega
      · have hb : (o == a) = false := by simpa using ha
        simp only [trFor, List.filter_cons, hb, ha, if_false, Bool.false_eq_true, Nat.add_zero]
    · simp only [h, if_false]
      by_cases ha : o' = a
      · simp only [trFor, List.filter_cons, ha, beq_self_eq_true, if_true, List.map_cons, List.sum_cons] at ih ⊢
        omega
      · have hb : (o' == a) = false := by simpa using ha
        simp only [trFor, List.filter_cons, hb, Bool.false_eq_true, if_false] at ih ⊢
        exact ih

theorem owners_addReward (tr : Tracker) (o : Nat) (c : Coins) (a : Nat)
    (h : a ∈ (tr.addReward o c).map (·.1)) : a = o ∨ a ∈ tr.map (·.1) := by
  induction tr with
  | nil => simp [Tracker.addReward] at h; exact Or.inl h
  | cons p rest ih =>
    obtain ⟨o', c'⟩ := p
    unfold Tracker.addReward at h
    by_cases hh : o' = o
    · simp only [hh, if_true, List.map_cons, List.mem_cons] at h
      rcases h with h | h
      · exact Or.inl h
      · right; simp only [List.map_cons, List.mem_cons]; exact Or.inr h
    · simp only [hh, if_false, List.map_cons, List.mem_cons] at h
      rcases h with h | h
      · right; simp only [List.map_cons, List.mem_cons]; exact Or.inl h
      · rcases ih h with h2 | h2
        · exact Or.inl h2
        · right; simp only [List.map_cons, List.mem_cons]; exact Or.inr h2

theorem trFor_pos_mem (tr : Tracker) (a i : Nat) (h : trFor tr a i ≠ 0) : a ∈ tr.map (·.1) := by
  unfold trFor at h
  induction tr with
  | nil => simp at h
  | cons p rest ih =>
    by_cases hp : p.1 = a
    · simp [hp]
    · have : (p.1 == a) = false := by simpa using hp
      simp only [List.filter_cons, this] at h
      simp only [List.map_cons, List.mem_cons]
      exact Or.inr (ih h)

/-! ### the specification -/

theorem amt_lockReward (remain : Coins) (l L re i : Nat) :
    amt (lockReward remain l L re) i = lockShare (amt remain i) l L re := by
  unfold lockReward
  rw [amt_map _ (by simp [lockShare])]

/-- what the locks of account `a` among `ls` are due from one distribution of an asset gauge with `remain`
    coins left, qualifying total `L` and `re` remaining epochs: Σ `lockReward` -/
def dueLocks (remain : Coins) (L re : Nat) (ls : List Lock) (a i : Nat) : Nat :=
  ((ls.filter (·.owner == a)).map (fun l => amt (lockReward remain l.amount L re) i)).sum

/-- the same summed over all owners -/
def dueAll (remain : Coins) (L re : Nat) (ls : List Lock) (i : Nat) : Nat :=
  (ls.map (fun l => amt (lockReward remain l.amount L re) i)).sum

theorem dueLocks_cons (remain : Coins) (L re : Nat) (l : Lock) (ls : List Lock) (a i : Nat) :
    dueLocks remain L re (l :: ls) a i =
      (if l.owner = a then amt (lockReward remain l.amount L re) i else 0) + dueLocks remain L re ls a i := by
  unfold dueLocks
  by_cases h : l.owner = a
  · simp [h]
  · have hb : (l.owner == a) = false := by simpa using h
    simp [hb, h]

theorem dueAll_cons (remain : Coins) (L re : Nat) (l : Lock) (ls : List Lock) (i : Nat) :
    dueAll remain L re (l :: ls) i = amt (lockReward remain l.amount L re) i + dueAll remain L re ls i := rfl

/-- nothing is due in a denomination of which nothing remains -/
theorem sum_lockReward_zero (remain : Coins) (L re : Nat) (ls : List Lock) (i : Nat) (h : amt remain i = 0) :
    (ls.map (fun l => amt (lockReward remain l.amount L re) i)).sum = 0 := by
  apply sum_zero_of_all_zero
  intro x hx
  obtain ⟨l, _, he⟩ := List.mem_map.1 hx
  rw [← he, amt_lockReward, h]
  simp [lockShare]

theorem dueLocks_zero (remain : Coins) (L re : Nat) (ls : List Lock) (a i : Nat) (h : amt remain i = 0) :
    dueLocks remain L re ls a i = 0 :=
  sum_lockReward_zero remain L re _ i h

theorem dueAll_zero (remain : Coins) (L re : Nat) (ls : List Lock) (i : Nat) (h : amt remain i = 0) :
    dueAll remain L re ls i = 0 :=
  sum_lockReward_zero remain L re ls i h

/-- what account `a` is due from ONE distribution of gauge `g` (as handed to `Keeper.Distribute`) in state `s`:
    asset gauge — Σ `lockReward` over `a`'s qualifying locks (nothing if no lock qualifies or no epoch remains);
    rollapp gauge — the whole remainder if `a` owns the launched rollapp -/
def dueG (s : State) (g : Gauge) (a i : Nat) : Nat :=
  match g.kind with
  | .asset _ _ =>
    if lockSum (gaugeLocks s g) = 0 ∨ remainEpochs g = 0 then 0
    else dueLocks (Coins.sub g.coins g.distributed) (lockSum (gaugeLocks s g)) (remainEpochs g) (gaugeLocks s g) a i
  | .rollapp r =>
    match s.rollapps[r]? with
    | some ra => if ra.launched = true ∧ ra.owner = a then amt g.coins i - amt g.distributed i else 0
    | none => 0

/-- what gauge `g` hands out in that distribution, to everybody -/
def dueTotal (s : State) (g : Gauge) (i : Nat) : Nat :=
  match g.kind with
  | .asset _ _ =>
    if lockSum (gaugeLocks s g) = 0 ∨ remainEpochs g = 0 then 0
    else dueAll (Coins.sub g.coins g.distributed) (lockSum (gaugeLocks s g)) (remainEpochs g) (gaugeLocks s g) i
  | .rollapp r =>
    match s.rollapps[r]? with
    | some ra => if ra.launched = true then amt g.coins i - amt g.distributed i else 0
    | none => 0

theorem dueG_congr {s s' : State} (h1 : s'.locks = s.locks) (h2 : s'.rollapps = s.rollapps) (g : Gauge) (a i : Nat) :
    dueG s' g a i = dueG s g a i ∧ dueTotal s' g i = dueTotal s g i := by
  have hl : gaugeLocks s' g = gaugeLocks s g := by unfold gaugeLocks; rw [h1]
  unfold dueG dueTotal
  rw [hl, h2]
  exact ⟨rfl, rfl⟩

theorem dueG_setGauge (s : State) (v g : Gauge) (a i : Nat) : dueG (setGauge s v) g a i = dueG s g a i :=
  (dueG_congr rfl rfl g a i).1

theorem dueTotal_setGauge (s : State) (v g : Gauge) (i : Nat) : dueTotal (setGauge s v) g i = dueTotal s g i :=
  (dueG_congr rfl rfl g 0 i).2

/-- the asset branch of `dueG` / `dueTotal` for any lock list (`calcAsset` is handed the list) -/
def dueAsset (g : Gauge) (locks : List Lock) (a i : Nat) : Nat :=
  if lockSum locks = 0 ∨ remainEpochs g = 0 then 0
  else dueLocks (Coins.sub g.coins g.distributed) (lockSum locks) (remainEpochs g) locks a i

def dueAssetAll (g : Gauge) (locks : List Lock) (i : Nat) : Nat :=
  if lockSum locks = 0 ∨ remainEpochs g = 0 then 0
  else dueAll (Coins.sub g.coins g.distributed) (lockSum locks) (remainEpochs g) locks i

theorem dueG_asset_eq (s : State) (g : Gauge) (d dur : Nat) (hk : g.kind = .asset d dur) (a i : Nat) :
    dueG s g a i = dueAsset g (gaugeLocks s g) a i ∧ dueTotal s g i = dueAssetAll g (gaugeLocks s g) i := by
  unfold dueG dueTotal; rw [hk]; exact ⟨rfl, rfl⟩

/-- the specification never asks for more than the remainder: the locks' shares add up to at most it -/
theorem dueAssetAll_le (g : Gauge) (locks : List Lock) (i : Nat) :
    dueAssetAll g locks i ≤ amt g.coins i - amt g.distributed i := by
  unfold dueAssetAll
  split
  · exact Nat.zero_le _
  · unfold dueAll
    simp only [amt_lockReward]
    rw [← amt_sub]
    exact lockShare_total_le _ _ (by omega) locks

theorem dueTotal_le (s : State) (g : Gauge) (i : Nat) : dueTotal s g i ≤ amt g.coins i - amt g.distributed i := by
  cases hk : g.kind with
  | asset d dur => rw [(dueG_asset_eq s g d dur hk 0 i).2]; exact dueAssetAll_le g _ i
  | rollapp r =>
    unfold dueTotal
    rw [hk]
    dsimp only
    split
    · split
      · exact Nat.le_refl _
      · exact Nat.zero_le _
    · exact Nat.zero_le _

/-- who a gauge may pay: owners of locks qualifying for an asset gauge, the owner of the (launched) rollapp -/
def LegitFor (locks : List Lock) (rollapps : List Rollapp) (k : GKind) (a : Nat) : Prop :=
  match k with
  | .asset d dur => ∃ l ∈ locks, l.owner = a ∧ qualifies d dur l = true
  | .rollapp r => ∃ ra, rollapps[r]? = some ra ∧ ra.exists_ = true ∧ ra.launched = true ∧ ra.owner = a

theorem mem_gaugeLocks {s : State} {g : Gauge} {d dur : Nat} (hk : g.kind = .asset d dur) {l : Lock} (h : l ∈ gaugeLocks s g) :
    l ∈ s.locks ∧ qualifies d dur l = true := by
  unfold gaugeLocks at h
  rw [hk] at h
  dsimp only at h
  split at h
  · exact absurd h List.not_mem_nil
  · exact List.mem_filter.1 h

/-! ### the code computes the specification -/

/-- the per-lock loop: each account's tracker entry, the tracker as a whole and the running total grow by what the locks
    are due; whoever enters the tracker owns one of the locks -/
theorem assetLoop_acct (remain : Coins) (L re : Nat) :
    ∀ (ls : List Lock) (tr : Tracker) (tot : Coins) (tr' : Tracker) (tot' : Coins),
      assetLoop remain L re ls tr tot = (tr', tot') →
      (∀ a i, trFor tr' a i = trFor tr a i + dueLocks remain L re ls a i) ∧
      (∀ i, trSum tr' i = trSum tr i + dueAll remain L re ls i) ∧
      (∀ i, amt tot' i = amt tot i + dueAll remain L re ls i) ∧
      (∀ a ∈ tr'.map (·.1), a ∈ tr.map (·.1) ∨ ∃ l ∈ ls, l.owner = a) := by
  intro ls
  induction ls with
  | nil =>
    intro tr tot tr' tot' h
    cases h
    exact ⟨fun _ _ => rfl, fun _ => rfl, fun _ => rfl, fun _ ha => Or.inl ha⟩
  | cons l rest ih =>
    intro tr tot tr' tot' h
    unfold assetLoop at h
    simp only at h
    by_cases hz : (lockReward remain l.amount L re).isZero = true
    · rw [if_pos hz] at h
      obtain ⟨r1, r2, r3, r4⟩ := ih _ _ _ _ h
      have h0 := (isZero_iff _).1 hz
      refine ⟨fun a i => ?_, fun i => ?_, fun i => ?_, fun a ha => ?_⟩
      · rw [r1 a i, dueLocks_cons, h0 i]; split <;> omega
      · rw [r2 i, dueAll_cons, h0 i]; omega
      · rw [r3 i, dueAll_cons, h0 i]; omega
      · exact (r4 a ha).imp_right fun ⟨l', h2, h3⟩ => ⟨l', List.mem_cons_of_mem _ h2, h3⟩
    · rw [if_neg hz] at h
      obtain ⟨r1, r2, r3, r4⟩ := ih _ _ _ _ h
      refine ⟨fun a i => ?_, fun i => ?_, fun i => ?_, fun a ha => ?_⟩
      · rw [r1 a i, trFor_addReward, dueLocks_cons]; split <;> omega
      · rw [r2 i, trSum_addReward, dueAll_cons]; omega
      · rw [r3 i, amt_add, dueAll_cons]; omega
      · rcases r4 a ha with h1 | ⟨l', h2, h3⟩
        · rcases owners_addReward _ _ _ _ h1 with h4 | h4
          · exact Or.inr ⟨l, List.mem_cons_self, h4.symm⟩
          · exact Or.inl h4
        · exact Or.inr ⟨l', List.mem_cons_of_mem _ h2, h3⟩

/-- `calculateAssetGaugeRewards` computes the specification for the lock list it is given -/
theorem calcAsset_acct {g : Gauge} {locks : List Lock} {tr tr' : Tracker} {c : Coins}
    (h : calcAsset g locks tr = some (tr', c)) :
    (∀ a i, trFor tr' a i = trFor tr a i + dueAsset g locks a i) ∧ (∀ i, trSum tr' i = trSum tr i + amt c i) ∧
    (∀ i, amt c i = dueAssetAll g locks i) ∧ (∀ a ∈ tr'.map (·.1), a ∈ tr.map (·.1) ∨ ∃ l ∈ locks, l.owner = a) := by
  rcases calcAsset_shape h with ⟨h1, h2, hwhy⟩ | ⟨hL, hre, remain, hsub, _, hloop⟩
  · rw [h1, h2]
    have h0 : ∀ a i, dueAsset g locks a i = 0 ∧ dueAssetAll g locks i = 0 := by
      intro a i
      unfold dueAsset dueAssetAll
      by_cases hcond : lockSum locks = 0 ∨ remainEpochs g = 0
      · rw [if_pos hcond, if_pos hcond]; exact ⟨rfl, rfl⟩
      · -- neither is zero, so nothing remained in any denomination
        rcases hwhy with hL | hre | ⟨remain, hsub, hz⟩
        · exact absurd (Or.inl hL) hcond
        · exact absurd (Or.inr hre) hcond
        · have h0 := (isZero_iff _).1 hz i
          rw [if_neg hcond, if_neg hcond, ← (sub?_some hsub).1]
          exact ⟨dueLocks_zero _ _ _ _ _ _ h0, dueAll_zero _ _ _ _ _ h0⟩
    exact ⟨fun a i => by rw [(h0 a i).1]; rfl, fun _ => rfl, fun i => by rw [(h0 0 i).2]; rfl, fun _ ha => Or.inl ha⟩
  · have hcond : ¬ (lockSum locks = 0 ∨ remainEpochs g = 0) := fun hx => hx.elim hL hre
    obtain ⟨r1, r2, r3, r4⟩ := assetLoop_acct remain _ _ _ _ _ _ _ hloop
    unfold dueAsset dueAssetAll
    simp only [if_neg hcond, ← (sub?_some hsub).1]
    have r3' : ∀ i, amt c i = dueAll remain (lockSum locks) (remainEpochs g) locks i := fun i => by rw [r3 i, amt_nil, Nat.zero_add]
    exact ⟨r1, fun i => by rw [r2 i, r3' i], r3', r4⟩

/-- `calculateRollappGaugeRewards` succeeds only for a registered rollapp and hands the remainder to its owner if it is launched -/
theorem calcRollapp_acct {s : State} {g : Gauge} {r : Nat} {tr tr' : Tracker} {c : Coins}
    (h : calcRollapp s g r tr = .ok tr' c) :
    ∃ ra, s.rollapps[r]? = some ra ∧ ra.exists_ = true ∧
      (∀ a i, trFor tr' a i = trFor tr a i + if ra.launched = true ∧ ra.owner = a then amt g.coins i - amt g.distributed i else 0) ∧
      (∀ i, trSum tr' i = trSum tr i + amt c i) ∧
      (∀ i, amt c i = if ra.launched = true then amt g.coins i - amt g.distributed i else 0) ∧
      (∀ a ∈ tr'.map (·.1), a ∈ tr.map (·.1) ∨ ra.launched = true ∧ ra.owner = a) := by
  obtain ⟨ra, hra, he, hcase⟩ := calcRollapp_shape h
  refine ⟨ra, hra, he, ?_⟩
  rcases hcase with ⟨h1, h2, hwhy⟩ | ⟨hl, hsub, _, h1⟩
  · rw [h1, h2]
    have h0 : ∀ i, ra.launched = true → amt g.coins i - amt g.distributed i = 0 := by
      intro i hl
      rcases hwhy with hl' | ⟨total, hsub, hz⟩
      · rw [hl'] at hl; cases hl
      · rw [← amt_sub, ← (sub?_some hsub).1]; exact (isZero_iff _).1 hz i
    refine ⟨fun a i => ?_, fun _ => rfl, fun i => ?_, fun _ ha => Or.inl ha⟩
    · split
      · next hc => rw [h0 i hc.1]; rfl
      · rfl
    · split
      · next hc => rw [h0 i hc]; rfl
      · rfl
  · have hamt : ∀ i, amt c i = amt g.coins i - amt g.distributed i := fun i => by rw [(sub?_some hsub).1, amt_sub]
    rw [h1]
    refine ⟨fun a i => ?_, fun i => trSum_addReward _ _ _ _, fun i => by rw [if_pos hl]; exact hamt i, fun a ha => ?_⟩
    · rw [trFor_addReward, hamt]; simp only [hl, true_and]
    · rcases owners_addReward _ _ _ _ ha with h4 | h4
      · exact Or.inr ⟨hl, h4.symm⟩
      · exact Or.inl h4

/-- the per-gauge dispatch of `Keeper.Distribute` computes `dueG` / `dueTotal` and enters only legitimate recipients -/
theorem calcGauge_acct {s : State} {g : Gauge} {tr tr' : Tracker} {c : Coins} (h : calcGauge s g tr = .ok tr' c) :
    (∀ a i, trFor tr' a i = trFor tr a i + dueG s g a i) ∧ (∀ i, trSum tr' i = trSum tr i + amt c i) ∧
    (∀ i, amt c i = dueTotal s g i) ∧ (∀ a ∈ tr'.map (·.1), a ∈ tr.map (·.1) ∨ LegitFor s.locks s.rollapps g.kind a) := by
  unfold calcGauge at h
  cases hk : g.kind with
  | asset d dur =>
    simp only [hk] at h
    cases hc : calcAsset g (gaugeLocks s g) tr with
    | none => simp [hc] at h
    | some p =>
      obtain ⟨t2, c2⟩ := p
      simp only [hc, CalcRes.ok.injEq] at h
      obtain ⟨e1, e2⟩ := h; subst e1; subst e2
      obtain ⟨r1, r2, r3, r4⟩ := calcAsset_acct hc
      refine ⟨fun a i => by rw [(dueG_asset_eq s g d dur hk a i).1]; exact r1 a i, r2,
        fun i => by rw [(dueG_asset_eq s g d dur hk 0 i).2]; exact r3 i, fun a ha => ?_⟩
      exact (r4 a ha).imp_right fun ⟨l, hl, ho⟩ => ⟨l, (mem_gaugeLocks hk hl).1, ho, (mem_gaugeLocks hk hl).2⟩
  | rollapp r =>
    simp only [hk] at h
    obtain ⟨ra, hra, he, r1, r2, r3, r4⟩ := calcRollapp_acct h
    unfold dueG dueTotal
    simp only [hk, hra]
    exact ⟨r1, r2, r3, fun a ha => (r4 a ha).imp_right fun ⟨hl, ho⟩ => ⟨ra, hra, he, hl, ho⟩⟩

/-- the bound in the form the never-fails proofs read it -/
theorem calcGauge_spec (s : State) (g : Gauge) (tr tr' : Tracker) (c : Coins)
    (h : calcGauge s g tr = .ok tr' c) :
    (∀ i, amt c i + amt g.distributed i ≤ amt g.coins i ∨ amt c i = 0) ∧
    (∀ i, trSum tr' i = trSum tr i + amt c i) ∧
    (∀ a, a ∈ tr'.map (·.1) → a ∈ tr.map (·.1) ∨ LegitFor s.locks s.rollapps g.kind a) :=
  let ⟨_, r2, r3, r4⟩ := calcGauge_acct h
  ⟨fun i => by have := r3 i; have := dueTotal_le s g i; omega, r2, r4⟩

end DymVerif.Incent
