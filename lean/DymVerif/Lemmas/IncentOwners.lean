/-
  Lemmas/IncentOwners — where "no recipient is a blocked address" (`NoBlocked`) comes from, and what ONE failing
  recipient does to the two Distribute call sites (feeds C11, incentives / streamer side).

  M-Incent takes the lock table and the rollapp records as free inputs (`Op.locks`, `Op.rollapp`), so
  `NoBlocked` is an INPUT well-formedness:
    * `Op.lockOwnersOK`            every lock of a `.locks ls` line has a non-blocked owner.  Discharged in M-Lockup
                                   (Props/C14, C11 lockup side): a lock is created by its owner's own `MsgLockTokens`
                                   — the owner is the signer — and module accounts do not sign.
    * `Op.rollappOwnerNotBlocked`  the owner of a `.rollapp r o l` line is not blocked.  A hypothesis of this
                                   file; discharged from M-Core in Props/C11Incent
                                   (`streamer_end_block_never_fails_from_core`): rollapp creation needs the owner's
                                   signature and `MsgTransferOwnership` refuses blocked addresses (the code after
                                   fix F4); with a blocked owner the EndBlock fails:
                                   `endblock_blocked_owner_counterexample`.
  `run_noblocked` carries both along every history; `run_good` packages GInv ∧ RollOK ∧ NoBlocked, also through
  the states INSIDE a `begin` step (`epochTick_good`, `sae_hook_good`), which is where the incentives epoch hook runs.

  No per-recipient isolation (Go `distributeTrackedRewards`: the first failing `SendCoinsFromModuleToAccount`
  returns the error): `payAll_blocked_fails` — ANY tracker containing a blocked recipient fails as a whole,
  whatever the other recipients and the bank are.
-/
import DymVerif.Lemmas.IncentBlocks
namespace DymVerif.Incent
open DymVerif Coins

/-- input well-formedness of the lock table (discharged in M-Lockup: locks are created by their owner's own message) -/
def Op.lockOwnersOK : Op → Prop
  | .locks ls => ∀ l ∈ ls, blocked l.owner = false
  | _ => True

/-- input well-formedness of the rollapp records — the NAMED OPEN HYPOTHESIS (M-Core discharges it: owners sign
    the creation, and since fix F4 `MsgTransferOwnership` refuses blocked addresses) -/
def Op.rollappOwnerNotBlocked : Op → Prop
  | .rollapp _ o _ => blocked o = false
  | _ => True

instance (op : Op) : Decidable op.lockOwnersOK := by
  cases op <;> (unfold Op.lockOwnersOK; infer_instance)
instance (op : Op) : Decidable op.rollappOwnerNotBlocked := by
  cases op <;> (unfold Op.rollappOwnerNotBlocked; infer_instance)

theorem NoBlocked_congr {s s' : State} (h1 : s'.locks = s.locks) (h2 : s'.rollapps = s.rollapps) (h : NoBlocked s) : NoBlocked s' := by
  unfold NoBlocked; rw [h1, h2]; exact h

theorem NoBlocked_of_pay {s s' : State} (h : NoBlocked s) (hp : Pay s s') : NoBlocked s' := NoBlocked_congr hp.locks hp.rollapps h
theorem NoBlocked_of_same {s s' : State} (h : NoBlocked s) (hp : Same s s') : NoBlocked s' := NoBlocked_congr hp.2.2.1 hp.2.2.2 h

theorem setRollapp_noblocked (l : List Rollapp) (r : Nat) (x : Rollapp) (hl : ∀ ra ∈ l, blocked ra.owner = false)
    (hx : blocked x.owner = false) : ∀ ra ∈ setRollapp l r x, blocked ra.owner = false := by
  intro ra hra
  unfold setRollapp at hra
  split at hra
  · rcases List.mem_or_eq_of_mem_set hra with h | h
    · exact hl ra h
    · rw [h]; exact hx
  · simp only [List.mem_append, List.mem_replicate, List.mem_singleton] at hra
    rcases hra with (h | h) | h
    · exact hl ra h
    · rw [h.2]; decide
    · rw [h]; exact hx

/-- every step keeps `NoBlocked` when the lock table / rollapp record it hands in is well-formed -/
theorem step_noblocked (s : State) (op : Op) (hg : GInv s) (h : NoBlocked s) (h1 : op.lockOwnersOK) (h2 : op.rollappOwnerNotBlocked) :
    NoBlocked (step s op).2 := by
  have hs := step_shape s op
  generalize (step s op).2 = s' at hs ⊢
  cases hs with
  | inert => exact h
  | locks ls => exact ⟨h1, h.2⟩
  | rollapp r o l => exact ⟨h.1, setRollapp_noblocked s.rollapps r ⟨true, o, l⟩ h.2 h2⟩
  | begin dt => exact NoBlocked_of_pay h (beginBlock_spec s dt hg).2
  | endOk _ he => exact NoBlocked_of_pay h (strDistribute_spec _ _ _ _ _ _ hg he).2
  | gauges => exact h
  | topUp => exact h
  | createStream sp c rs st e n => exact NoBlocked_of_same h (createStream_same s sp c rs st e n)
  | terminateStream id => exact NoBlocked_of_same h (terminateStream_same s id)
  | retarget _ hsame => exact NoBlocked_of_same h hsame

theorem init_noblocked (now mi : Nat) : NoBlocked (init now mi) := by
  constructor <;> (intro x hx; simp [init] at hx)

theorem run_noblocked : ∀ (ops : List Op) (s : State), GInv s → NoBlocked s →
    (∀ op ∈ ops, op.wf ∧ op.lockOwnersOK ∧ op.rollappOwnerNotBlocked) → NoBlocked (run s ops) := by
  intro ops
  induction ops with
  | nil => intro s _ h _; exact h
  | cons op rest ih =>
    intro s hg h hw
    unfold run
    obtain ⟨w1, w2, w3⟩ := hw op List.mem_cons_self
    exact ih _ (step_ginv s op hg w1) (step_noblocked s op hg h w2 w3) (fun o ho => hw o (List.mem_cons_of_mem _ ho))

/-- what the two "never fails" theorems need of a state -/
structure Good (s : State) : Prop where
  ginv : GInv s
  roll : RollOK s
  nb : NoBlocked s

theorem Good.of_pay {s s' : State} (h : Good s) (hg : GInv s') (hp : Pay s s') : Good s' :=
  ⟨hg, RollOK_of_pay h.roll hp, NoBlocked_of_pay h.nb hp⟩

theorem run_good (now mi : Nat) (ops : List Op) (hw : ∀ op ∈ ops, op.wf ∧ op.lockOwnersOK ∧ op.rollappOwnerNotBlocked) :
    Good (run (init now mi) ops) :=
  ⟨run_ginv ops _ (init_ginv now mi) (fun o ho => (hw o ho).1),
   run_rollok ops _ (init_ginv now mi) (init_rollok now mi) (fun o ho => (hw o ho).1),
   run_noblocked ops _ (init_ginv now mi) (init_noblocked now mi) hw⟩

/-- the states INSIDE the epochs BeginBlocker stay good -/
theorem epochTick_good (s : State) (e : Nat) (h : Good s) : Good (epochTick s e) :=
  let ⟨a, b⟩ := epochTick_spec s e h.ginv
  h.of_pay a b

theorem sae_hook_good (s : State) (e : Nat) (h : Good s) : Good (applyHook (fun x => streamerAfterEpochEnd x e) s) :=
  let ⟨a, b⟩ := applyHook_spec (fun x => streamerAfterEpochEnd x e) s h.ginv (fun _ hh => streamerAfterEpochEnd_spec _ _ _ h.ginv hh)
  h.of_pay a b

theorem now_good (s : State) (dt : Nat) (h : Good s) : Good { s with now := s.now + dt } :=
  have hs : Same s { s with now := s.now + dt } := ⟨rfl, rfl, rfl, rfl⟩
  h.of_pay (hs.ginv h.ginv) hs.pay

/-! ### no per-recipient isolation -/

/-- `distributeTrackedRewards`: ONE blocked recipient anywhere in the tracker fails the whole payout, whatever the
    other recipients, the amounts and the bank -/
theorem payAll_blocked_fails : ∀ (tr : Tracker) (b : Bank), (∃ p ∈ tr, blocked p.1 = true) → payAll tr b = none := by
  intro tr
  induction tr with
  | nil => intro b ⟨p, hp, _⟩; simp at hp
  | cons q rest ih =>
    intro b ⟨p, hp, hbl⟩
    obtain ⟨o, c⟩ := q
    unfold payAll
    by_cases ho : blocked o = true
    · rw [if_pos ho]
    · rw [if_neg ho]
      have hrest : ∃ p ∈ rest, blocked p.1 = true := by
        rcases List.mem_cons.1 hp with h | h
        · exfalso; apply ho; rw [h] at hbl; exact hbl
        · exact ⟨p, h, hbl⟩
      cases hs : b.send incAddr o c with
      | none => rfl
      | some b' => exact ih b' hrest

/-- a hook that fails inside the epochs wrapper leaves the state as it was: the failure is confined to the hook
    (`ApplyFuncIfNoError` runs it in a cache context) -/
theorem applyHook_error (f : State → Res) (s : State) (x : Out) (h : f s = .error x) : applyHook f s = s := by
  unfold applyHook; rw [h]

end DymVerif.Incent
