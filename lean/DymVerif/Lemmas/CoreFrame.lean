/-
  Lemmas/CoreFrame — the steps that only move balances and sequencer records: `RaSide s s1` says that everything
  but the sequencer records, the notice queue and the money is the same (what a money mover leaves, `BalOnly`, is
  an instance); `Frame s s1` is its part about the rollapp records, the rollapp parameters, the hub height and the
  finalization queue.  Also the inversion of the three ops `apply` handles without a handler of its own.
-/
import DymVerif.Lemmas.CoreOk
namespace DymVerif.Core

/-- rollapp records, rollapp parameters, hub height and finalization queue are unchanged -/
structure Frame (s s1 : St) : Prop where
  ras : s1.ras = s.ras
  p : s1.p = s.p
  h : s1.h = s.h
  queue : s1.queue = s.queue

theorem Frame.refl (s : St) : Frame s s := ⟨rfl, rfl, rfl, rfl⟩

theorem Frame.trans {a b c : St} (h1 : Frame a b) (h2 : Frame b c) : Frame a c :=
  ⟨h2.ras.trans h1.ras, h2.p.trans h1.p, h2.h.trans h1.h, h2.queue.trans h1.queue⟩

theorem Frame.setSeq {s s1 : St} (h : Frame s s1) (q : Seq) : Frame s (setSeq s1 q) := h.trans ⟨rfl, rfl, rfl, rfl⟩

/-- everything outside the sequencer records, the notice queue and the money is the same: the rollapp
    records, both parameter sets, height and time, the finalization queue, the liabilities, the liveness
    events and the obsolete list -/
structure RaSide (s s' : St) : Prop where
  ras : s'.ras = s.ras
  pp : pp s' = pp s
  h : s'.h = s.h
  t : s'.t = s.t
  queue : s'.queue = s.queue
  seqH : s'.seqH = s.seqH
  lev : s'.lev = s.lev
  obsolete : s'.obsolete = s.obsolete

theorem RaSide.refl (s : St) : RaSide s s := ⟨rfl, rfl, rfl, rfl, rfl, rfl, rfl, rfl⟩

theorem RaSide.trans {a b c : St} (x : RaSide a b) (y : RaSide b c) : RaSide a c :=
  ⟨y.ras.trans x.ras, y.pp.trans x.pp, y.h.trans x.h, y.t.trans x.t, y.queue.trans x.queue, y.seqH.trans x.seqH,
   y.lev.trans x.lev, y.obsolete.trans x.obsolete⟩

theorem RaSide.frame {s s' : St} (x : RaSide s s') : Frame s s' := ⟨x.ras, pp_p x.pp, x.h, x.queue⟩

theorem Fork.BalOnly.raSide {s s1 : St} (h : Fork.BalOnly s s1) : RaSide s s1 := by
  obtain ⟨_, _, _, rfl⟩ := h; exact ⟨rfl, rfl, rfl, rfl, rfl, rfl, rfl, rfl⟩

theorem removeFromNoticeQueue_frame (s : St) (q : Seq) : Frame s (removeFromNoticeQueue s q) := by
  unfold removeFromNoticeQueue; split <;> exact ⟨rfl, rfl, rfl, rfl⟩

theorem removeFromNoticeQueue_ras (s : St) (q : Seq) : (removeFromNoticeQueue s q).ras = s.ras :=
  (removeFromNoticeQueue_frame s q).ras

theorem sendToModule_frame {s s1 : St} {q q1 : Seq} {amt : Nat} (e : sendToModule s q amt = .ok (s1, q1)) : Frame s s1 :=
  (Fork.sendToModule_money e).1.raSide.frame

theorem slash_frame {s s1 : St} {q q1 : Seq} {amt : Nat} {mul : Dec} {rw : Option Addr}
    (e : slash s q amt mul rw = .ok (s1, q1)) : Frame s s1 := (Fork.slash_money e).1.raSide.frame

theorem tryUnbond_frame {s s1 : St} {q q1 : Seq} {amt : Nat} (e : tryUnbond s q amt = .ok (s1, q1)) : Frame s s1 :=
  (Fork.tryUnbond_money e).1.raSide.frame

theorem punish_frame {s s' : St} {a : Addr} {rw : Option Addr} (e : punish s a rw = .ok s') : Frame s s' := by
  obtain ⟨q, s1, q1, _, hs, rfl⟩ := punish_ok e
  exact (slash_frame hs).setSeq _

theorem increaseBond_frame {s s' : St} {a : Addr} {amt : Nat} {d : Bool} (e : increaseBond s a amt d = .ok s') :
    Frame s s' := by
  obtain ⟨q, s1, q1, _, _, _, hs, rfl⟩ := increaseBond_ok e
  exact (sendToModule_frame hs).setSeq _

theorem decreaseBond_frame {s s' : St} {a : Addr} {amt : Nat} (e : decreaseBond s a amt = .ok s') : Frame s s' := by
  obtain ⟨q, s1, q1, _, _, hs, rfl⟩ := decreaseBond_ok e
  exact (tryUnbond_frame hs).setSeq _

theorem unbond_frame {s s' : St} {a : Addr} (e : unbond s a = .ok s') : Frame s s' := by
  obtain ⟨q, r, _, _, _, ⟨_, _, _, rfl⟩ | ⟨_, s1, q1, hs, rfl⟩⟩ := unbond_ok e
  · exact ⟨rfl, rfl, rfl, rfl⟩
  · exact (tryUnbond_frame hs).setSeq _

theorem slashLiveness_frame {s s1 : St} {r : Rollapp} (e : slashLiveness s r = .ok s1) : Frame s s1 := by
  rcases slashLiveness_ok e with ⟨_, rfl⟩ | ⟨a, q, s2, q2, _, _, hs, rfl⟩
  · exact Frame.refl _
  · exact (slash_frame hs).setSeq _

-- ---------------------------------------------------------------- the ops `apply` handles itself

theorem apply_createRollapp_ok {s s' : St} {id : Nat} {owner : Addr} {mb : Nat}
    (e : apply s (.createRollapp id owner mb) = .ok s') : getRa s id = none ∧
      s' = { s with ras := insertSorted (fun x y => decide (x.id < y.id)) (newRollapp id owner mb) s.ras } := by
  simp only [apply] at e
  cases hg : getRa s id with
  | some _ => rw [hg] at e; cases e
  | none => rw [hg] at e; cases e; exact ⟨rfl, rfl⟩

theorem apply_fund_ok {s s' : St} {a : Addr} {amt : Nat} (e : apply s (.fund a amt) = .ok s') :
    s' = { s with bal := setBal s.bal a (getBal s.bal a + amt) } := by
  simp only [apply] at e; cases e; rfl

theorem apply_bridge_ok {s s' : St} {ra h : Nat} (e : apply s (.bridge ra h) = .ok s') :
    ∃ r lh, getRa s ra = some r ∧ latestHeight r = some lh ∧ r.tph = 0 ∧ h ≠ 0 ∧ h ≤ lh ∧
      s' = setRa s { r with tph := h } := by
  simp only [apply] at e
  cases hg : getRa s ra with
  | none => rw [hg] at e; cases e
  | some r =>
    rw [hg] at e
    dsimp only at e
    cases hl : latestHeight r with
    | none => rw [hl] at e; cases e
    | some lh =>
      rw [hl] at e
      dsimp only at e
      by_cases hx : (r.tph ≠ 0 || h = 0 || lh < h) = true
      · rw [if_pos hx] at e; cases e
      · rw [if_neg hx] at e; cases e
        have hx : (r.tph = 0 ∧ ¬ h = 0) ∧ h ≤ lh := by simpa using hx
        exact ⟨r, lh, rfl, hl, hx.1.1, hx.1.2, hx.2, rfl⟩

end DymVerif.Core
