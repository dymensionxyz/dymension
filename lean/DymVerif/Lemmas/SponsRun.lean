/-
  Lemmas/SponsRun — op-level preservation: which ops touch which part of the state, one step for a
  property of the vote core (`step_core_ind`), hook lists, and the hypothesis `RunFaithful` of the
  partial theorems.
-/
import DymVerif.Lemmas.SponsTrack
namespace DymVerif.Spons

/-- the op did not touch votes / distribution / recorded power / params -/
structure SameCore (s s' : State) : Prop where
  minVP : s'.minVP = s.minVP
  dist : s'.dist = s.dist
  votes : s'.votes = s.votes
  dvp : s'.dvp = s.dvp

theorem SameCore.wf {s s' : State} (h : SameCore s s') (w : WF s) : WF s' :=
  ⟨h.minVP ▸ w.minVP, h.dist ▸ w.sorted, h.votes ▸ w.keys, h.votes ▸ w.votes⟩

theorem SameCore.distInv {s s' : State} (h : SameCore s s') (w : DistInv s) : DistInv s' :=
  ⟨fun g => by rw [h.dist, h.votes]; exact w.gauges g, by rw [h.dist, h.votes]; exact w.vp⟩

/-- the staking table is no part of the core -/
theorem SameCore.stk (s : State) (t : PTable) : SameCore s { s with stk := t } := ⟨rfl, rfl, rfl, rfl⟩

theorem SameCore.minInv {s s' : State} (h : SameCore s s') (w : MinInv s) : MinInv s' := by
  intro a v hv; rw [h.votes] at hv; rw [h.minVP]; exact w a v hv

theorem Tracked.of_core {s s' : State} (ht : Tracked s) (h : SameCore s s') (hstk : s'.stk = s.stk) : Tracked s' := by
  refine ⟨hstk ▸ ht.keys, fun a v hv => ?_, fun a val hv => ?_⟩
  · rw [h.votes] at hv; rw [h.dvp, hstk]; exact ht.track a v hv
  · rw [h.votes] at hv; rw [h.dvp]; exact ht.clean a val hv

/-- the ops that leave votes, distribution, recorded power, params and the staking table alone -/
def quiet : Op → Bool
  | .claim _ _ | .epochEnd _ | .fund _ _ | .addGauge _ | .addRollapp _ => true
  | _ => false

theorem step_quiet {s : State} {op : Op} (h : quiet op = true) :
    SameCore s (step s op).1 ∧ (step s op).1.stk = s.stk := by
  refine step_cases (P := fun s' => SameCore s s' ∧ s'.stk = s.stk) s op ⟨⟨rfl, rfl, rfl, rfl⟩, rfl⟩ ?_
  cases op with
  | claim a g =>
    intro s1 p hc
    rcases claim_eq hc with rfl | ⟨_, _, rfl⟩ <;> exact ⟨⟨rfl, rfl, rfl, rfl⟩, rfl⟩
  | epochEnd d =>
    cases d
    · exact ⟨⟨rfl, rfl, rfl, rfl⟩, rfl⟩
    · show SameCore s (s.epochEnd true) ∧ (s.epochEnd true).stk = s.stk
      obtain ⟨f, _, e⟩ := epochEnd_true s
      rw [e]; exact ⟨⟨rfl, rfl, rfl, rfl⟩, rfl⟩
  | fund g amt => intro s1 hf; obtain ⟨_, _, rfl⟩ := fund_ok hf; exact ⟨⟨rfl, rfl, rfl, rfl⟩, rfl⟩
  | addGauge g => intro s1 hg; obtain ⟨⟨_, rfl⟩, _⟩ := addGauge_ok hg; exact ⟨⟨rfl, rfl, rfl, rfl⟩, rfl⟩
  | addRollapp r => intro s1 hr; obtain ⟨_, rfl⟩ := addRollapp_ok hr; exact ⟨⟨rfl, rfl, rfl, rfl⟩, rfl⟩
  | _ => cases h

/-- **one step**, for a property of the vote core: kept by the two moves, by every change outside the core (claims,
    epoch ends, funding, creation ops, the staking table) and by the parameter change at hand.  `W` as in `moves_ind`;
    `hW`: the weights of an accepted vote satisfy it. -/
theorem step_core_ind {W : List GP → Prop} {P : State → Prop} {s : State} (op : Op) (w : VotesAll W s) (h : P s)
    (hW : ∀ a ws s', op = .vote a ws → s.vote a ws = .ok s' → W ws)
    (core : ∀ {s s'}, SameCore s s' → P s → P s')
    (drop : ∀ {s s' a v}, Drop s s' a v → P s → P s')
    (put : ∀ {s s' a nv}, Put s s' a nv → W nv.weights → P s → P s')
    (params : ∀ ma mv, op = .setParams ma mv → 0 ≤ mv → P { s with minAlloc := ma, minVP := mv }) :
    VotesAll W (step s op).1 ∧ P (step s op).1 := by
  have coreW : ∀ {s s'}, SameCore s s' → VotesAll W s → VotesAll W s' := fun c w x hx => w x (c.votes ▸ hx)
  by_cases hq : quiet op = true
  · exact ⟨coreW (step_quiet hq).1 w, core (step_quiet hq).1 h⟩
  refine step_cases (P := fun s' => VotesAll W s' ∧ P s') s op ⟨w, h⟩ ?_
  cases op with
  | vote a ws => exact fun s1 hv => (moves_ind drop put).1 hv (hW a ws s1 rfl hv) ⟨w, h⟩
  | revoke a => exact fun v hv => ⟨(Drop.revokeVote hv).votesAll w, drop (Drop.revokeVote hv) h⟩
  | staking a hs fin =>
    intro s1 hh
    have := (moves_ind drop put).2 hh ⟨w, h⟩
    exact ⟨coreW (SameCore.stk s1 _) this.1, core (SameCore.stk s1 _) this.2⟩
  | slash fin => exact ⟨w, core (SameCore.stk s _) h⟩
  | setParams ma mv => intro s1 hp; obtain ⟨rfl, hmv, _⟩ := setParams_ok hp; exact ⟨w, params ma mv rfl hmv⟩
  | _ => exact absurd rfl hq

/-! ### the staking hook -/

theorem processHook_stk (s : State) (a val : Nat) (v : Vote) (o n : Int) : (s.processHook a val v o n).stk = s.stk := by
  rcases processHook_eq s a val v o n with ⟨_, e⟩ | ⟨_, e⟩ <;> rw [e] <;> rfl

theorem hook_tracked {s s' : State} {T : PTable} {a val : Nat} {p : Option Int} (hk : KeysNodup T)
    (ht : Track s T) (hc : DvpClean s) (h : s.hook a val p = .ok s') :
    Track s' (upd T (a, val) p) ∧ DvpClean s' := by
  rcases hook_ok h with ⟨hv, rfl⟩ | ⟨v, hv, rfl⟩
  · refine ⟨?_, hc⟩
    intro a' v' hv'
    have ha : a' ≠ a := by intro e; subst e; rw [hv] at hv'; cases hv'
    have := ht a' v' hv'
    refine ⟨fun val' => ?_, ?_⟩
    · rw [this.1 val', pOf_upd_ne T p (fun e => ha (by cases e; rfl))]
    · rw [this.2, powerOf_upd_other T p (fun e => ha e.symm)]
  · exact processHook_track hk ht hc hv

/-! ### hook lists, staking ops -/

theorem hooks_stk {s s' : State} {a : Nat} {hs : List (Nat × Option Int)} (h : s.hooks a hs = .ok s') : s'.stk = s.stk :=
  hooks_rel (R := fun s s' => s'.stk = s.stk) (fun _ => rfl) (fun h1 h2 => h2.trans h1)
    (fun _ _ _ _ _ _ => processHook_stk ..) h

/-- the final staking facts of a faithful staking op: exactly the hooked delegations, with the value
    the hook saw -/
def finOf (a : Nat) (hs : List (Nat × Option Int)) : List ((Nat × Nat) × Option Int) :=
  hs.map fun h => ((a, h.1), h.2)

theorem KeysNodup_setStk {T : PTable} (hk : KeysNodup T) (fin : List ((Nat × Nat) × Option Int)) :
    KeysNodup (setStk T fin) := by
  induction fin generalizing T with
  | nil => exact hk
  | cons x xs ih => exact ih (KeysNodup_upd hk _ _)

theorem hooks_tracked {s s' : State} {T : PTable} {a : Nat} {hs : List (Nat × Option Int)} (hk : KeysNodup T)
    (ht : Track s T) (hc : DvpClean s) (h : s.hooks a hs = .ok s') :
    Track s' (setStk T (finOf a hs)) ∧ DvpClean s' := by
  induction hs generalizing s T with
  | nil => cases h; exact ⟨ht, hc⟩
  | cons x xs ih =>
    unfold State.hooks at h
    split at h
    · cases h
    · rename_i s1 h1
      have := hook_tracked hk ht hc h1
      exact ih (KeysNodup_upd hk _ _) this.1 this.2 h

/-! ### hypotheses over op lists -/

def OpFaithful : Op → Prop
  | .staking a hs fin => fin = finOf a hs
  | .slash _ => False
  | _ => True

/-- slash-free history in which a delegation's power changes only through its own hook, to the value
    the hook saw -/
def RunFaithful (ops : List Op) : Prop := ∀ op ∈ ops, OpFaithful op

theorem step_wf {s : State} {op : Op} (wf : WF s) : WF (step s op).1 :=
  (step_core_ind (P := WF) op wf.weightsOK wf (fun _ _ _ _ hv => validWeights_ok (vote_ok hv).1) SameCore.wf Drop.wf Put.wf
    (fun _ _ _ hmv => ⟨hmv, wf.sorted, wf.keys, wf.votes⟩)).2

theorem step_good {s : State} {op : Op} (wf : WF s) (inv : DistInv s) :
    WF (step s op).1 ∧ DistInv (step s op).1 :=
  (step_core_ind (P := fun s => WF s ∧ DistInv s) op wf.weightsOK ⟨wf, inv⟩
    (fun _ _ _ _ hv => validWeights_ok (vote_ok hv).1) (fun c g => ⟨c.wf g.1, c.distInv g.2⟩) Drop.good Put.good
    (fun _ _ _ hmv => ⟨⟨hmv, wf.sorted, wf.keys, wf.votes⟩, ⟨inv.gauges, inv.vp⟩⟩)).2

/-- the op does not RAISE MinVotingPower (a raise leaves the votes cast under the lower minimum in
    place: `min_power_recorded_counterexample`) -/
def NoRaiseMin (s : State) : Op → Prop
  | .setParams _ mv => mv ≤ s.minVP
  | _ => True

/-- needs nothing of the weights, hence no `WF` -/
theorem step_min {s : State} {op : Op} (hm : MinInv s) (hr : NoRaiseMin s op) : MinInv (step s op).1 :=
  (step_core_ind (W := fun _ => True) (P := MinInv) op (fun _ _ => trivial) hm (fun _ _ _ _ _ => trivial)
    (fun c m => c.minInv m) Drop.minInv (fun h _ => h.minInv)
    (fun _ _ e _ a v hv => Int.le_trans (show _ ≤ s.minVP by subst e; exact hr) (hm a v hv))).2

theorem step_tracked {s : State} {op : Op} (ht : Tracked s) (hf : OpFaithful op) :
    Tracked (step s op).1 := by
  by_cases hq : quiet op = true
  · exact ht.of_core (step_quiet hq).1 (step_quiet hq).2
  refine step_cases (P := Tracked) s op ht ?_
  cases op with
  | vote a ws =>
    intro s1 h
    obtain ⟨_, _, ⟨hv, hc⟩ | ⟨v, _, hc⟩⟩ := vote_ok h
    · exact castVote_tracked ht hv hc
    · exact castVote_tracked (revokeVote_tracked ht) (alookup_aerase_self _ _) hc
  | revoke a => exact fun v _ => revokeVote_tracked ht
  | staking a hs fin =>
    intro s1 h
    have hfin : fin = finOf a hs := hf
    subst hfin
    have := hooks_tracked ht.keys ht.track ht.clean h
    rw [← hooks_stk h] at this
    exact ⟨KeysNodup_setStk (hooks_stk h ▸ ht.keys) _, this.1, this.2⟩
  | slash fin => exact hf.elim
  | setParams ma mv =>
    intro s1 h
    obtain ⟨rfl, _⟩ := setParams_ok h
    exact ⟨ht.keys, ht.track, ht.clean⟩
  | _ => exact absurd rfl hq

end DymVerif.Spons
