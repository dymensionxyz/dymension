/-
  Lemmas/LCShape — `Shape` (what every op of M-LC except `setCanonical` / `createClient` / `chanAck` / `chanInit` leaves
  alone: designations, channels, client identities and chains), the hooks around a Core op as `Shape` steps, the stages of
  a Core op with its hooks (`coreOp_cases`, `CoreOpStages.frame`), and the inversion of `TrySetCanonicalClient`
  (`setCanonical_cases`).
-/
import DymVerif.Lemmas.LCBasic
namespace DymVerif.LC
open DymVerif.Core (Addr NextP)

/-- `s'` has the same designations, channels and client identities / chains as `s` -/
structure Shape (s s' : St) : Prop where
  r2c : s'.r2c = s.r2c
  c2r : s'.c2r = s.c2r
  chanOf : s'.chanOf = s.chanOf
  chans : s'.chans = s.chans
  client : ∀ c cl, getClient s c = some cl → ∃ cl', getClient s' c = some cl' ∧ cl'.chain = cl.chain

theorem Shape.refl (s : St) : Shape s s := ⟨rfl, rfl, rfl, rfl, fun _ cl h => ⟨cl, h, rfl⟩⟩

theorem Shape.trans {a b c : St} (h1 : Shape a b) (h2 : Shape b c) : Shape a c :=
  ⟨h2.r2c.trans h1.r2c, h2.c2r.trans h1.c2r, h2.chanOf.trans h1.chanOf, h2.chans.trans h1.chans, fun k cl hk => by
    obtain ⟨cl1, g1, e1⟩ := h1.client k cl hk
    obtain ⟨cl2, g2, e2⟩ := h2.client k cl1 g1
    exact ⟨cl2, g2, e2.trans e1⟩⟩

theorem Shape.of_eq {s s' : St} (e1 : s'.clients = s.clients) (e2 : s'.r2c = s.r2c) (e3 : s'.c2r = s.c2r)
    (e4 : s'.chanOf = s.chanOf) (e5 : s'.chans = s.chans) : Shape s s' :=
  ⟨e2, e3, e4, e5, fun c cl h => ⟨cl, by rw [getClient_congr e1]; exact h, rfl⟩⟩

theorem Shape.setClient {s : St} {cl old : Client} (h : getClient s cl.id = some old) (hc : cl.chain = old.chain) : Shape s (setClient s cl) := by
  refine ⟨rfl, rfl, rfl, rfl, ?_⟩
  intro c x hx
  by_cases e : c = cl.id
  · subst e
    rw [h] at hx; cases hx
    exact ⟨cl, getClient_setClient_self h, hc⟩
  · exact ⟨x, by rw [getClient_setClient_ne e]; exact hx, rfl⟩

theorem shape_rollback (s : St) (ra lv : Nat) : Shape s (rollback s ra lv).1 := by
  rcases rollback_cases s ra lv with ⟨_, e⟩ | ⟨c, cl, l, _, hcl, _, e⟩ <;> rw [e]
  · exact Shape.refl s
  · have h := Shape.setClient (s := s) (cl := { cl with cons := cl.cons.filter (·.1 ≤ lv), latest := l.1, frozen := true })
      (old := cl) (by rw [getClient_id hcl]; exact hcl) rfl
    exact h.trans (Shape.of_eq rfl rfl rfl rfl rfl)

theorem rollback_err {s : St} {ra lv : Nat} {e : LErr} (h : (rollback s ra lv).2 = some e) : (rollback s ra lv).1 = s := by
  rcases rollback_cases s ra lv with ⟨_, e'⟩ | ⟨_, _, _, _, _, _, e'⟩ <;> rw [e'] at h ⊢
  cases h

/-- a relation that holds across each rollback holds across the `OnHardFork` hooks of a list of forks -/
theorem applyForks_rel {P : St → St → Prop} (hr : ∀ s, P s s) (ht : ∀ {a b c}, P a b → P b c → P a c)
    (hs : ∀ s ra lv, P s (rollback s ra lv).1) : ∀ (l : List (Nat × Nat)) (s : St), P s (applyForks s l).1
  | [], s => hr s
  | (ra, lv) :: rest, s => by
    unfold applyForks
    cases hb : rollback s ra lv with | mk s1 oe =>
    cases oe with
    | some e => exact hr s
    | none =>
      have h1 := hs s ra lv
      rw [hb] at h1
      exact ht h1 (applyForks_rel hr ht hs rest s1)

theorem shape_applyForks (l : List (Nat × Nat)) (s : St) : Shape s (applyForks s l).1 :=
  applyForks_rel Shape.refl Shape.trans shape_rollback l s

theorem shape_afterUpdate (s : St) (ra rev : Nat) (st : Core.SInfo) : Shape s (afterUpdate s ra rev st).1 := by
  rcases afterUpdate_hook s ra rev st with ⟨e, _⟩ | ⟨_, e⟩ | ⟨_, cl, _, hcl, ⟨_, _, _, _, _, e⟩ | ⟨_, _, e⟩⟩ <;> rw [e]
  · exact Shape.refl s
  · exact Shape.refl s
  · exact Shape.setClient (old := cl) (by rw [getClient_id hcl]; exact hcl) rfl
  · exact Shape.of_eq rfl rfl rfl rfl rfl

theorem shape_withDescs {s1 s2 : St} {o : Core.Op} {ds : List (Nat × Option Nat)} (h : withDescs s1 o ds = some s2) : Shape s1 s2 := by
  rcases withDescs_cases h with ⟨_, rfl⟩ | ⟨_, _, _, rfl⟩
  · exact Shape.refl _
  · exact Shape.of_eq rfl rfl rfl rfl rfl

theorem rollback_core (s : St) (ra lv : Nat) : (rollback s ra lv).1.core = s.core := by
  rcases rollback_cases s ra lv with ⟨_, e⟩ | ⟨_, _, _, _, _, _, e⟩ <;> rw [e] <;> rfl

theorem applyForks_core (l : List (Nat × Nat)) (s : St) : (applyForks s l).1.core = s.core :=
  applyForks_rel (P := fun s s' => s'.core = s.core) (fun _ => rfl) (fun h1 h2 => h2.trans h1) rollback_core l s

theorem frame_afterUpdate (s : St) (ra rev : Nat) (st : Core.SInfo) : Frame s (afterUpdate s ra rev st).1 := by
  rcases afterUpdate_hook s ra rev st with ⟨e, _⟩ | ⟨_, e⟩ | ⟨_, _, _, _, ⟨_, _, _, _, _, e⟩ | ⟨_, _, e⟩⟩ <;> rw [e] <;>
    exact ⟨rfl, rfl, rfl, rfl⟩

theorem withDescs_core {s1 s2 : St} {o : Core.Op} {ds : List (Nat × Option Nat)} (h : withDescs s1 o ds = some s2) : s2.core = s1.core := by
  rcases withDescs_cases h with ⟨_, rfl⟩ | ⟨_, _, _, rfl⟩ <;> rfl

/-- the stages an accepted Core op with hooks went through: the Core step gave `core1`, no unbonding veto, the
    descriptors of an update are in the table (`s2`), the `OnHardFork` hooks of the forks it performed ran (`s3`) -/
structure CoreOpStages (s : St) (o : Core.Op) (ds : List (Nat × Option Nat)) (core1 : Core.St) (s2 s3 : St) : Prop where
  step : Core.step s.core o = (core1, none)
  free : coreBlocked s o = false
  descs : withDescs { s with core := core1 } o ds = some s2
  forks : applyForks s2 (newForks s.core core1) = (s3, none)
  ok : (coreOp s o ds).2 = .ok

/-- a Core op with hooks is either refused as a whole (nothing changes) or went through every stage; an update then
    runs the `AfterUpdateState` hook on the state info it stored, which spans the new descriptors -/
theorem coreOp_cases (s : St) (o : Core.Op) (ds : List (Nat × Option Nat)) :
    ((coreOp s o ds).1 = s ∧ (coreOp s o ds).2 ≠ .ok) ∨
    ∃ core1 s2 s3, CoreOpStages s o ds core1 s2 s3 ∧
      ((∃ m r st s4, o = .update m ∧ Core.getRa s3.core m.ra = some r ∧ r.states.getLast? = some st ∧
          st.start = m.start ∧ st.last + 1 - st.start = ds.length ∧
          afterUpdate s3 m.ra m.rev st = (s4, none) ∧ (coreOp s o ds).1 = s4) ∨
       ((∀ m, o ≠ .update m) ∧ (coreOp s o ds).1 = s3)) := by
  generalize hx : coreOp s o ds = x
  have hx0 := hx
  unfold coreOp at hx
  cases hstep : Core.step s.core o with | mk core1 oe =>
  rw [hstep] at hx
  cases oe with
  | some e => subst hx; exact Or.inl ⟨rfl, nofun⟩
  | none =>
    dsimp only at hx
    rcases ite_eq_cases hx with ⟨-, rfl⟩ | ⟨hb, hx⟩
    · exact Or.inl ⟨rfl, nofun⟩
    cases hw : withDescs { s with core := core1 } o ds with
    | none => rw [hw] at hx; subst hx; exact Or.inl ⟨rfl, nofun⟩
    | some s2 =>
      rw [hw] at hx; dsimp only at hx
      cases hf : applyForks s2 (newForks s.core core1) with | mk s3 oe =>
      rw [hf] at hx
      cases oe with
      | some e => subst hx; exact Or.inl ⟨rfl, nofun⟩
      | none =>
        dsimp only at hx
        suffices hfin : (x.1 = s ∧ x.2 ≠ .ok) ∨ (x.2 = .ok ∧
            ((∃ m r st s4, o = .update m ∧ Core.getRa s3.core m.ra = some r ∧ r.states.getLast? = some st ∧
                st.start = m.start ∧ st.last + 1 - st.start = ds.length ∧
                afterUpdate s3 m.ra m.rev st = (s4, none) ∧ x.1 = s4) ∨
             ((∀ m, o ≠ .update m) ∧ x.1 = s3))) from
          hfin.imp_right fun ⟨hok, h⟩ => ⟨core1, s2, s3, ⟨hstep, by simpa using hb, hw, hf, by rw [hx0]; exact hok⟩, h⟩
        by_cases hu : ∃ m, o = .update m
        · obtain ⟨m, rfl⟩ := hu
          dsimp only at hx
          unfold finishUpdate at hx
          cases hr : Core.getRa s3.core m.ra with
          | none => rw [hr] at hx; subst hx; exact Or.inl ⟨rfl, nofun⟩
          | some r =>
            rw [hr] at hx; dsimp only at hx
            cases hl : r.states.getLast? with
            | none => rw [hl] at hx; subst hx; exact Or.inl ⟨rfl, nofun⟩
            | some st =>
              rw [hl] at hx; dsimp only at hx
              rcases ite_eq_cases hx with ⟨-, rfl⟩ | ⟨hg, hx⟩
              · exact Or.inl ⟨rfl, nofun⟩
              simp only [Bool.or_eq_true, bne_iff_ne, ne_eq, not_or, Decidable.not_not] at hg
              cases ha : afterUpdate s3 m.ra m.rev st with | mk s4 oe =>
              rw [ha] at hx
              cases oe with
              | some e => subst hx; exact Or.inl ⟨rfl, nofun⟩
              | none => subst hx; exact Or.inr ⟨rfl, Or.inl ⟨m, r, st, s4, rfl, hr, hl, hg.1, hg.2, ha, rfl⟩⟩
        · have : x = (s3, .ok) := by
            cases o with
            | update m => exact absurd ⟨m, rfl⟩ hu
            | _ => exact hx.symm
          subst this
          exact Or.inr ⟨rfl, Or.inr ⟨fun m hm => hu ⟨m, hm⟩, rfl⟩⟩

theorem coreOp_fail_state (s : St) (o : Core.Op) (ds : List (Nat × Option Nat)) (h : (coreOp s o ds).2 ≠ .ok) :
    (coreOp s o ds).1 = s := by
  rcases coreOp_cases s o ds with ⟨e, _⟩ | ⟨_, _, _, hst, _⟩
  · exact e
  · exact absurd hst.ok h

/-- between the Core step and the `AfterUpdateState` hook: the rollapp side is what the Core step made it, designations,
    channels and client identities are those of `s`, and the signer records were untouched when the fork hooks started -/
theorem CoreOpStages.frame {s : St} {o : Core.Op} {ds : List (Nat × Option Nat)} {core1 : Core.St} {s2 s3 : St}
    (h : CoreOpStages s o ds core1 s2 s3) :
    s3.core = core1 ∧ Shape s s3 ∧ s2.signerSet = s.signerSet ∧ s2.r2c = s.r2c := by
  have h3 := shape_applyForks (newForks s.core core1) s2
  have c3 := applyForks_core (newForks s.core core1) s2
  rw [h.forks] at h3 c3
  have h2 : Shape s s2 := (Shape.of_eq (s := s) (s' := { s with core := core1 }) rfl rfl rfl rfl rfl).trans (shape_withDescs h.descs)
  refine ⟨c3.trans (withDescs_core h.descs), h2.trans h3, ?_, h2.r2c⟩
  rcases withDescs_cases h.descs with ⟨_, rfl⟩ | ⟨_, _, _, rfl⟩ <;> rfl

theorem shape_coreOp (s : St) (o : Core.Op) (ds : List (Nat × Option Nat)) : Shape s (coreOp s o ds).1 := by
  rcases coreOp_cases s o ds with ⟨e, _⟩ | ⟨core1, s2, s3, hst, hfin⟩
  · rw [e]; exact Shape.refl s
  · rcases hfin with ⟨m, r, st, s4, _, _, _, _, _, ha, e⟩ | ⟨_, e⟩ <;> rw [e]
    · have := shape_afterUpdate s3 m.ra m.rev st
      rw [ha] at this
      exact hst.frame.2.1.trans this
    · exact hst.frame.2.1

/-- the hooks around a Core op leave the rollapp side as the Core step made it -/
theorem coreOp_core (s : St) (o : Core.Op) (ds : List (Nat × Option Nat)) :
    (coreOp s o ds).1.core = s.core ∨ (coreOp s o ds).1.core = (Core.step s.core o).1 := by
  rcases coreOp_cases s o ds with ⟨e, _⟩ | ⟨core1, s2, s3, hst, hfin⟩
  · rw [e]; exact Or.inl rfl
  · rw [hst.step]
    rcases hfin with ⟨m, r, st, s4, _, _, _, _, _, ha, e⟩ | ⟨_, e⟩ <;> rw [e]
    · have := (frame_afterUpdate s3 m.ra m.rev st).core
      rw [ha] at this
      exact Or.inr (this.trans hst.frame.1)
    · exact Or.inr hst.frame.1

/-- `TrySetCanonicalClient`: refused (nothing changes), or the client went through every check and the pair is appended
    to both designation maps -/
theorem setCanonical_cases (s : St) (c : Nat) :
    (∃ e, setCanonical s c = (s, some e)) ∨
    ∃ cl r, getClient s c = some cl ∧ Core.getRa s.core cl.chain = some r ∧ lookup s.r2c cl.chain = none ∧
      paramsCheck cl.params cl.frozen = .ok ∧
      validLoop s cl cl.chain (firstConsHeight cl) r.states.reverse false = (true, none) ∧
      setCanonical s c = ({ s with r2c := s.r2c ++ [(cl.chain, c)], c2r := s.c2r ++ [(c, cl.chain)] }, none) := by
  generalize hx : setCanonical s c = x
  unfold setCanonical at hx
  cases hcl : getClient s c with
  | none => rw [hcl] at hx; exact .inl ⟨_, hx.symm⟩
  | some cl =>
    rw [hcl] at hx; dsimp only at hx
    cases hr : Core.getRa s.core cl.chain with
    | none => rw [hr] at hx; exact .inl ⟨_, hx.symm⟩
    | some r =>
      rw [hr] at hx; dsimp only at hx
      rcases ite_eq_cases hx with ⟨-, rfl⟩ | ⟨hnone, hx⟩
      · exact .inl ⟨_, rfl⟩
      cases hp : paramsCheck cl.params cl.frozen with
      | bad => rw [hp] at hx; exact .inl ⟨_, hx.symm⟩
      | panic => rw [hp] at hx; exact .inl ⟨_, hx.symm⟩
      | ok =>
        rw [hp] at hx; dsimp only at hx
        rcases ite_eq_cases hx with ⟨-, rfl⟩ | ⟨-, hx⟩
        · exact .inl ⟨_, rfl⟩
        cases hv : validLoop s cl cl.chain (firstConsHeight cl) r.states.reverse false with | mk b oe =>
        rw [hv] at hx
        cases oe with
        | some e => exact .inl ⟨_, hx.symm⟩
        | none =>
          cases b with
          | false => exact .inl ⟨_, hx.symm⟩
          | true => exact .inr ⟨cl, r, rfl, hr, by simpa using hnone, hp, hv, hx.symm⟩

/-- a refused designation returns the state it found -/
theorem step_setCanonical_fst (s : St) (c : Nat) : (step s (.setCanonical c)).1 = (setCanonical s c).1 := by
  rcases setCanonical_cases s c with ⟨_, e⟩ | ⟨_, _, _, _, _, _, _, e⟩ <;> simp only [step, e]

/-- an accepted designation went through every check of `TrySetCanonicalClient` -/
theorem step_setCanonical_ok {s s' : St} {c : Nat} (h : step s (.setCanonical c) = (s', .ok)) :
    ∃ cl r, getClient s c = some cl ∧ Core.getRa s.core cl.chain = some r ∧ lookup s.r2c cl.chain = none ∧
      paramsCheck cl.params cl.frozen = .ok ∧
      validLoop s cl cl.chain (firstConsHeight cl) r.states.reverse false = (true, none) ∧
      s' = { s with r2c := s.r2c ++ [(cl.chain, c)], c2r := s.c2r ++ [(c, cl.chain)] } := by
  rcases setCanonical_cases s c with ⟨_, e⟩ | ⟨cl, r, hcl, hr, hnone, hp, hv, e⟩ <;> simp only [step, e] at h <;> cases h
  exact ⟨cl, r, hcl, hr, hnone, hp, hv, rfl⟩

end DymVerif.LC
