/-
  Lemmas/LCTx — transactions (`Model/LCTx.lean`) versus single ops (`Model/LC.lean`): a transaction of one
  message is exactly `LC.step`; a history of transactions of at most one message each is a run of ops.
-/
import DymVerif.Model.LCTx
import DymVerif.Lemmas.LCShape
namespace DymVerif.LC
open DymVerif.Core (Addr NextP)

/-- a checked message is an ibc core message: a transaction of one message is never refused as mixed -/
theorem isChecked_isIbcCore (m : Op) (h : isChecked m = true) : isIbcCore m = true := by
  cases m with
  | updateClient c w hd ibc => cases w <;> simp_all [isChecked, isIbcCore]
  | misbehaviour c k ibc => cases k <;> simp_all [isChecked, isIbcCore]
  | chanAck ch w ibc => cases w <;> simp_all [isChecked, isIbcCore]
  | _ => simp_all [isChecked]

theorem mixed_single (m : Op) : mixedRefusal [m] = false := by
  unfold mixedRefusal
  by_cases h : isChecked m = true
  · simp [h, isChecked_isIbcCore m h]
  · simp [h]

/-- a transaction of one message: the three decorators, then the message -/
theorem txStep_one (s : St) (m : Op) : txStep s [m] =
    match nestedRefusal s m with
    | some e => (s, .ante e)
    | none =>
      match signerRefusal s m with
      | some e => (s, .ante e)
      | none =>
        match anteMsg s m with
        | (_, some e) => (s, .ante e)
        | (s1, none) =>
          match execMsg s1 m with
          | (s2, .ok) => (s2, .ok)
          | (_, r) => (s1, r) := by
  simp only [txStep, List.findSome?, mixed_single, Bool.false_eq_true, if_false, anteAll, execAll]
  cases nestedRefusal s m <;> cases signerRefusal s m <;> try rfl
  dsimp only
  rcases anteMsg s m with ⟨s1, _ | e⟩ <;> dsimp only
  rcases execMsg s1 m with ⟨s2, _ | _ | _⟩ <;> rfl

/-- a message no decorator looks at, which leaves the state alone when it fails, is its own transaction -/
theorem txStep_noAnte (s : St) (m : Op) (h1 : nestedRefusal s m = none) (h2 : signerRefusal s m = none)
    (h3 : anteMsg s m = (s, none)) (h4 : (execMsg s m).2 ≠ .ok → (execMsg s m).1 = s) : txStep s [m] = execMsg s m := by
  rw [txStep_one, h1, h2, h3]
  dsimp only
  generalize execMsg s m = x at h4
  obtain ⟨s2, r⟩ := x
  cases r with
  | ok => rfl
  | _ => cases h4 nofun; rfl

theorem txStep_core (s : St) (o : Core.Op) (ds : List (Nat × Option Nat)) : txStep s [.core o ds] = step s (.core o ds) :=
  txStep_noAnte s _ rfl rfl rfl (coreOp_fail_state s o ds)

theorem txStep_createClient (s : St) (chain : Nat) (p : CParams) (ht : Nat) (cs : Cons) :
    txStep s [.createClient chain p ht cs] = step s (.createClient chain p ht cs) :=
  txStep_noAnte s _ rfl rfl rfl (fun h => absurd rfl h)

theorem txStep_setCanonical (s : St) (c : Nat) : txStep s [.setCanonical c] = step s (.setCanonical c) := by
  refine txStep_noAnte s _ rfl rfl rfl ?_
  show (step s (.setCanonical c)).2 ≠ .ok → (step s (.setCanonical c)).1 = s
  simp only [step]
  rcases setCanonical s c with ⟨a, _ | e⟩
  · exact fun h => absurd rfl h
  · exact fun _ => rfl

theorem txStep_chanInit (s : St) (c : Nat) : txStep s [.chanInit c] = step s (.chanInit c) := by
  refine txStep_noAnte s _ rfl rfl rfl ?_
  show (chanInit s c).2 ≠ .ok → (chanInit s c).1 = s
  unfold chanInit
  cases getClient s c with
  | none => exact fun _ => rfl
  | some cl =>
    dsimp only
    split
    · exact fun _ => rfl
    · exact fun h => absurd rfl h

theorem txStep_updateClient (s : St) (c : Nat) (w : Wrap) (hd : Hdr) (ibc : Bool) :
    txStep s [.updateClient c w hd ibc] = step s (.updateClient c w hd ibc) := by
  cases w with
  | nested => simp [txStep_one, nestedRefusal, step, updateClient]
  | storedProposal => simp [txStep_one, nestedRefusal, step, updateClient]
  | wrapped => simp [txStep_one, nestedRefusal, signerRefusal, step, updateClient]
  | nestedWrapped => simp [txStep_one, nestedRefusal, signerRefusal, anteMsg, execMsg, step, updateClient]
  | top =>
    rw [txStep_one]
    simp only [nestedRefusal, signerRefusal, anteMsg, execMsg, step, updateClient]
    cases hh : handleUpdate s c hd with | mk s1 oe =>
    cases oe with
    | some e => simp
    | none =>
      -- the ante handler at most records a signer: the message finds the client it was checked against
      have hg : getClient s1 c = getClient s c := by
        rcases handleUpdate_fst hh with rfl | ⟨a, rfl⟩ <;> rfl
      simp only [hg]
      cases getClient s c with
      | none => simp
      | some cl => by_cases hb : (ibc && !cl.frozen) = true <;> simp [hb]

theorem txStep_misbehaviour (s : St) (c : Nat) (k : MKind) (ibc : Bool) :
    txStep s [.misbehaviour c k ibc] = step s (.misbehaviour c k ibc) := by
  rw [txStep_one]
  simp only [nestedRefusal, signerRefusal, anteMsg, execMsg, step, misbehaviour]
  cases hg : getClient s c with
  | none => simp [hg]
  | some cl =>
    -- only the two top-level kinds look at the designation and at ibc's verdict
    cases k <;> simp only [hg] <;> try rfl
    all_goals by_cases hcan : (lookup s.c2r c).isSome = true <;> cases ibc <;> simp [hg, hcan]

theorem txStep_chanAck (s : St) (ch : Nat) (w : ChanRoute) (ibc : Bool) : txStep s [.chanAck ch w ibc] = step s (.chanAck ch w ibc) := by
  cases w with
  | ack =>
    rw [txStep_one]
    simp only [nestedRefusal, signerRefusal, anteMsg, execMsg, step, chanAck]
    cases hf : s.chans.find? (·.id == ch) with
    | none => simp
    | some cc =>
      cases hl : lookup s.c2r cc.client with
      | none => cases ibc <;> simp [hf, hl]
      | some r =>
        by_cases hx : (lookup s.chanOf r).isSome = true
        · simp [hx, hl]
        · cases ibc <;> simp [hx, hf, hl]
  | nestedAck | confirm =>
    rw [txStep_one]
    simp only [nestedRefusal, signerRefusal, anteMsg, execMsg, step, chanAck]
    cases hf : s.chans.find? (·.id == ch) with
    | none => simp
    | some cc => cases ibc <;> simp

/-- a transaction of one message is the stand-alone op: the split of `updateClient`,
    `misbehaviour`, `chanAck` into an ante part and a message part composes back to `LC.step` -/
theorem txStep_single (s : St) (op : Op) : txStep s [op] = step s op := by
  cases op with
  | core o ds => exact txStep_core s o ds
  | createClient chain p ht cs => exact txStep_createClient s chain p ht cs
  | setCanonical c => exact txStep_setCanonical s c
  | updateClient c w hd ibc => exact txStep_updateClient s c w hd ibc
  | misbehaviour c k ibc => exact txStep_misbehaviour s c k ibc
  | chanInit c => exact txStep_chanInit s c
  | chanAck ch w ibc => exact txStep_chanAck s ch w ibc

/-- the empty transaction changes nothing -/
theorem txStep_nil (s : St) : txStep s [] = (s, .ok) := by
  simp [txStep, anteAll, execAll, mixedRefusal]

/-- a transaction: refused by the ante chain (nothing changes), or it is not mixed and the ante phase of all its messages
    passed; then the ante writes are kept, and the message writes as well if every message succeeds -/
theorem txStep_cases (s : St) (ms : List Op) :
    (∃ e, txStep s ms = (s, .ante e)) ∨
    ∃ s1, mixedRefusal ms = false ∧ anteAll s ms = (s1, none) ∧
      ((txStep s ms).1 = s1 ∨ (txStep s ms).1 = (execAll s1 ms).1) := by
  unfold txStep
  split
  · exact .inl ⟨_, rfl⟩
  split
  · exact .inl ⟨_, rfl⟩
  split
  · exact .inl ⟨_, rfl⟩
  rename_i hmix
  cases anteAll s ms with | mk s1 oe =>
  cases oe with
  | some e => exact .inl ⟨e, rfl⟩
  | none =>
    refine .inr ⟨s1, by simpa using hmix, rfl, ?_⟩
    dsimp only
    cases execAll s1 ms with | mk s2 r =>
    cases r with
    | ok => exact .inr rfl
    | _ => exact .inl rfl

/-- every transaction carries at most one message -/
def SingleMsg (txs : List (List Op)) : Prop := ∀ t ∈ txs, t.length ≤ 1

theorem run_append (s : St) (a b : List Op) : run s (a ++ b) = run (run s a) b := List.foldl_append ..

/-- a history of transactions of at most one message each is the run of its messages -/
theorem runTx_single : ∀ (txs : List (List Op)) (s : St), SingleMsg txs → runTx s txs = run s txs.flatten
  | [], _, _ => rfl
  | t :: ts, s, h => by
    have e : (txStep s t).1 = run s t := by
      have ht := h t List.mem_cons_self
      cases t with
      | nil => rw [txStep_nil]; rfl
      | cons op t' =>
        cases t' with
        | nil => rw [txStep_single]; rfl
        | cons _ _ => simp only [List.length_cons] at ht; omega
    show runTx (txStep s t).1 ts = run s (t ++ ts.flatten)
    rw [e, runTx_single ts _ (fun x hx => h x (List.mem_cons_of_mem _ hx)), run_append]

end DymVerif.LC
