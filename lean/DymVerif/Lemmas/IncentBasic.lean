/-
  Lemmas/IncentBasic — pointwise algebra of `Coins`, the bank, and the arithmetic kernels of the
  payout formulas (asset-gauge shares never exceed the remainder, and are monotone in the locked amount).
-/
import DymVerif.Model.Incent
namespace DymVerif.Incent
open DymVerif

namespace Coins

@[simp] theorem amt_nil (i : Nat) : amt [] i = 0 := by simp [amt]

@[simp] theorem amt_cons_zero (x : Nat) (xs : Coins) : amt (x :: xs) 0 = x := by simp [amt]

@[simp] theorem amt_cons_succ (x : Nat) (xs : Coins) (i : Nat) : amt (x :: xs) (i + 1) = amt xs i := by
  simp [amt]

theorem amt_add (a b : Coins) (i : Nat) : amt (add a b) i = amt a i + amt b i := by
  induction a generalizing b i with
  | nil => simp [add]
  | cons x xs ih =>
    cases b with
    | nil => simp [add]
    | cons y ys =>
      cases i with
      | zero => simp [add]
      | succ i => simp [add, ih]

theorem amt_sub (a b : Coins) (i : Nat) : amt (sub a b) i = amt a i - amt b i := by
  induction a generalizing b i with
  | nil => simp [sub]
  | cons x xs ih =>
    cases b with
    | nil => simp [sub]
    | cons y ys =>
      cases i with
      | zero => simp [sub]
      | succ i => simp [sub, ih]

theorem isZero_iff (c : Coins) : isZero c = true ↔ ∀ i, amt c i = 0 := by
  induction c with
  | nil => simp [isZero]
  | cons x xs ih =>
    simp only [isZero, List.all_cons, Bool.and_eq_true, beq_iff_eq] at ih ⊢
    constructor
    · intro ⟨h1, h2⟩ i
      cases i with
      | zero => simpa using h1
      | succ i => simpa using (ih.1 h2) i
    · intro h
      exact ⟨by simpa using h 0, ih.2 (fun i => by simpa using h (i + 1))⟩

theorem le_iff (a b : Coins) : le a b = true ↔ ∀ i, amt a i ≤ amt b i := by
  induction a generalizing b with
  | nil => simp [le]
  | cons x xs ih =>
    cases b with
    | nil =>
      simp only [le, Bool.and_eq_true, beq_iff_eq]
      constructor
      · intro ⟨h1, h2⟩ i
        cases i with
        | zero => simp [h1]
        | succ i => simpa using (ih []).1 h2 i
      · intro h
        exact ⟨by simpa using h 0, (ih []).2 (fun i => by simpa using h (i + 1))⟩
    | cons y ys =>
      simp only [le, Bool.and_eq_true, decide_eq_true_eq]
      constructor
      · intro ⟨h1, h2⟩ i
        cases i with
        | zero => simpa using h1
        | succ i => simpa using (ih ys).1 h2 i
      · intro h
        exact ⟨by simpa using h 0, (ih ys).2 (fun i => by simpa using h (i + 1))⟩

theorem sub?_some {a b c : Coins} (h : sub? a b = some c) : c = sub a b ∧ ∀ i, amt b i ≤ amt a i := by
  unfold sub? at h
  split at h
  · next hle => exact ⟨by simpa using h.symm, (le_iff b a).1 hle⟩
  · simp at h

theorem amt_map (f : Nat → Nat) (h0 : f 0 = 0) (c : Coins) (i : Nat) : amt (c.map f) i = f (amt c i) := by
  induction c generalizing i with
  | nil => simp [h0]
  | cons x xs ih =>
    cases i with
    | zero => simp
    | succ i => simpa using ih i

theorem amt_quo (c : Coins) (n i : Nat) : amt (quo c n) i = amt c i / n := by
  unfold quo; rw [amt_map _ (by simp)]

theorem amt_sumList_cons (c : Coins) (cs : List Coins) (i : Nat) :
    amt (sumList (c :: cs)) i = amt c i + amt (sumList cs) i := by
  simp [sumList, amt_add]

theorem amt_sumList_map {α : Type} (f : α → Coins) (l : List α) (i : Nat) :
    amt (sumList (l.map f)) i = (l.map (fun x => amt (f x) i)).sum := by
  induction l with
  | nil => simp [sumList]
  | cons x xs ih => simp only [List.map_cons, sumList, amt_add, List.sum_cons, ih]

end Coins

/-! ### bank -/

namespace Bank

theorem find_filter_ne (b : Bank) (a a' : Nat) (h : ¬ a' = a) :
    List.find? (fun x => x.1 == a') (b.filter (fun x => x.1 != a)) = List.find? (fun x => x.1 == a') b := by
  induction b with
  | nil => simp
  | cons p ps ih =>
    by_cases hp : p.1 = a
    · have h1 : (p.1 != a) = false := by simp [hp]
      have h2 : (p.1 == a') = false := by simp [hp]; exact fun x => h x.symm
      simp only [List.filter_cons, h1, List.find?_cons, h2]
      exact ih
    · have h1 : (p.1 != a) = true := by simp [hp]
      simp only [List.filter_cons, h1, if_true, List.find?_cons]
      cases (p.1 == a') with
      | true => rfl
      | false => exact ih

theorem get_set (b : Bank) (a a' : Nat) (c : Coins) : (b.set a c).get a' = if a' = a then c else b.get a' := by
  unfold set get
  by_cases h : a' = a
  · subst h; simp
  · have h' : (a == a') = false := by simp; exact fun x => h x.symm
    simp only [List.find?_cons, h', h, if_false]
    rw [find_filter_ne b a a' h]

theorem get_credit (b : Bank) (a a' : Nat) (c : Coins) (i : Nat) :
    Coins.amt ((b.credit a c).get a') i = if a' = a then Coins.amt (b.get a) i + Coins.amt c i else Coins.amt (b.get a') i := by
  unfold credit
  rw [get_set]
  by_cases h : a' = a
  · simp [h, Coins.amt_add]
  · simp [h]

/-- a successful send: the source had the coins, is debited, and the destination is credited -/
theorem send_some {b b' : Bank} {src dst : Nat} {c : Coins} (h : b.send src dst c = some b') (hne : src ≠ dst) :
    (∀ i, Coins.amt c i ≤ Coins.amt (b.get src) i) ∧
    ∀ a i, Coins.amt (b'.get a) i =
      if a = src then Coins.amt (b.get src) i - Coins.amt c i
      else if a = dst then Coins.amt (b.get dst) i + Coins.amt c i
      else Coins.amt (b.get a) i := by
  unfold send at h
  split at h
  · next hle =>
    have hle' := (Coins.le_iff _ _).1 hle
    refine ⟨hle', ?_⟩
    intro a i
    have hb : b' = (b.set src (Coins.sub (b.get src) c)).credit dst c := by simpa using h.symm
    rw [hb, get_credit]
    by_cases h2 : a = src
    · subst h2
      simp [hne, get_set, Coins.amt_sub]
    · by_cases h1 : a = dst
      · subst h1
        have h3 : ¬ a = src := h2
        simp [h3, get_set]
      · simp [h1, h2, get_set]
  · simp at h

end Bank

/-! ### arithmetic kernels -/

theorem div_add_div_le (a b c : Nat) : a / c + b / c ≤ (a + b) / c := by
  rcases Nat.eq_zero_or_pos c with h | h
  · subst h; simp
  · rw [Nat.le_div_iff_mul_le h, Nat.add_mul]
    exact Nat.add_le_add (Nat.div_mul_le_self a c) (Nat.div_mul_le_self b c)

/-- Σ ⌊a·w/W⌋ ≤ ⌊a·Σw/W⌋ -/
theorem sum_mul_div_le (a W : Nat) (ws : List Nat) : (ws.map (a * · / W)).sum ≤ a * ws.sum / W := by
  induction ws with
  | nil => simp
  | cons w rest ih =>
    rw [List.map_cons, List.sum_cons, List.sum_cons, Nat.mul_add]
    exact Nat.le_trans (Nat.add_le_add_left ih _) (div_add_div_le _ _ W)

/-- … ≤ a whenever Σ w ≤ W: shares by weight never add up to more than the amount shared out -/
theorem sum_mul_div_le_self (a W : Nat) (ws : List Nat) (h : ws.sum ≤ W) : (ws.map (a * · / W)).sum ≤ a := by
  refine Nat.le_trans (sum_mul_div_le a W ws) ?_
  rcases Nat.eq_zero_or_pos W with h0 | h0
  · subst h0; simp
  · exact Nat.div_le_of_le_mul (by rw [Nat.mul_comm W a]; exact Nat.mul_le_mul_left a h)

/-- **asset gauge**: the locks' shares of one distribution never exceed the remainder (weights: the locked amounts, Σ = L ≤ L·e) -/
theorem lockShare_total_le (remain e : Nat) (he : 1 ≤ e) (ls : List Lock) :
    (ls.map (fun l => lockShare remain l.amount (lockSum ls) e)).sum ≤ remain := by
  have := sum_mul_div_le_self remain (lockSum ls * e) (ls.map (·.amount)) (Nat.le_mul_of_pos_right _ he)
  rwa [List.map_map] at this

/-- shares are monotone in the locked amount (proportionality, order form) -/
theorem lockShare_mono (remain L e l1 l2 : Nat) (h : l1 ≤ l2) : lockShare remain l1 L e ≤ lockShare remain l2 L e := by
  unfold lockShare
  exact Nat.div_le_div_right (Nat.mul_le_mul_left _ h)

theorem sum_filter_le {α : Type} (f : α → Nat) (p : α → Bool) (l : List α) : ((l.filter p).map f).sum ≤ (l.map f).sum := by
  induction l with
  | nil => simp
  | cons x xs ih =>
    simp only [List.filter_cons]
    split
    · simp only [List.map_cons, List.sum_cons]; omega
    · simp only [List.map_cons, List.sum_cons]; omega


theorem sum_zero_of_all_zero (l : List Nat) (h : ∀ x ∈ l, x = 0) : l.sum = 0 := by
  induction l with
  | nil => rfl
  | cons x xs ih =>
    rw [List.sum_cons, h x List.mem_cons_self, ih (fun y hy => h y (List.mem_cons_of_mem _ hy))]

end DymVerif.Incent
