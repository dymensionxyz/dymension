/-
  Lemmas/CoreRolesMono — per-sequencer monotonicity through every operation: the rollapp of a sequencer
  never changes, a started notice is never reset, an unbonded sequencer is never bonded again.
-/
import DymVerif.Lemmas.CoreRoles5
namespace DymVerif.Core.Roles

def Mono (s s' : St) : Prop :=
  ∀ a q, getSeq s a = some q → ∃ q', getSeq s' a = some q' ∧ q'.rollapp = q.rollapp ∧
    (q.notice.isSome = true → q'.notice = q.notice) ∧ (q.bonded = false → q'.bonded = false)

theorem Mono.refl (s : St) : Mono s s := fun _ q hq => ⟨q, hq, rfl, fun _ => rfl, id⟩

theorem Mono.trans {s1 s2 s3 : St} (h1 : Mono s1 s2) (h2 : Mono s2 s3) : Mono s1 s3 := by
  intro a q hq
  obtain ⟨q2, hq2, r2, n2, b2⟩ := h1 a q hq
  obtain ⟨q3, hq3, r3, n3, b3⟩ := h2 a q2 hq2
  refine ⟨q3, hq3, r3.trans r2, ?_, fun hb => b3 (b2 hb)⟩
  intro hn
  have e2 := n2 hn
  rw [n3 (by rw [e2]; exact hn), e2]

theorem Mono.of_seqs {s s' : St} (e : s'.seqs = s.seqs) : Mono s s' := by
  intro a q hq; exact ⟨q, by rw [getSeq_congr e]; exact hq, rfl, fun _ => rfl, id⟩

theorem Frame.mono {s s' : St} (f : Frame s s') : Mono s s' := by
  intro a q hq
  obtain ⟨q', hq', e1, e2, _, e4⟩ := f.sq_some hq
  exact ⟨q', hq', e1, fun _ => e4, fun hb => e2.trans hb⟩

theorem Mono.of_setSeq {s : St} {a0 : Addr} {q q0 : Seq} (hg : getSeq s a0 = some q0) (ha : q.addr = q0.addr)
    (hr : q.rollapp = q0.rollapp) (hn : q0.notice.isSome = true → q.notice = q0.notice)
    (hb : q0.bonded = false → q.bonded = false) : Mono s (setSeq s q) := by
  intro a x hx
  by_cases hc : q.addr = a
  · subst hc
    have hg' : getSeq s q.addr = some q0 := by rw [ha, getSeq_addr hg]; exact hg
    rw [hg'] at hx; injection hx with hx; subst hx
    exact ⟨q, getSeq_setSeq_self hg', hr, hn, hb⟩
  · exact ⟨x, by rw [getSeq_setSeq_other hc]; exact hx, rfl, fun _ => rfl, id⟩

theorem Mono.of_insertSeq {s : St} {q : Seq} (hf : getSeq s q.addr = none) :
    Mono s { s with seqs := insertSorted (fun x y => decide (x.addr < y.addr)) q s.seqs } := by
  intro a x hx
  refine ⟨x, ?_, rfl, fun _ => rfl, id⟩
  rw [getSeq_insertSorted_ne]; exact hx
  intro e; rw [e, hx] at hf; cases hf

theorem _root_.DymVerif.Core.FlagsOnly.mono {s s' : St} (f : FlagsOnly s s') : Mono s s' := by
  intro a q hq
  obtain ⟨q', hq', r⟩ := f.old a q hq
  exact ⟨q', hq', r.rollapp, fun _ => r.notice, r.bonded⟩

theorem createSeq_mono {s s' : St} {a : Addr} {ra bond : Nat} {d : Bool} (e : createSeq s a ra bond d = .ok s') :
    Mono s s' := by
  obtain ⟨r, s1, q1, _, hnone, _, _, _, hs, r2, _, hfin⟩ := createSeq_ok e
  obtain ⟨_, hs1, hq1⟩ := sendToModule_ok hs
  have e1 : s1.seqs = s.seqs := by rw [hs1]; dsimp only; split <;> rfl
  have hfresh : getSeq s1 q1.addr = none := by rw [getSeq_congr e1, hq1]; exact hnone
  have m2 : Mono s (addSeq s1 q1) := (Mono.of_seqs e1).trans (Mono.of_insertSeq hfresh)
  rcases hfin with ⟨_, rfl⟩ | ⟨_, hr⟩
  · exact m2
  · exact m2.trans (Mono.of_seqs (recoverFromSentinel_seqs hr).1)

theorem tryUnbond_write_mono {s s1 : St} {a : Addr} {q0 q q1 : Seq} {amt : Nat}
    (hg : getSeq s a = some q0) (ha : q.addr = q0.addr) (hr : q.rollapp = q0.rollapp) (hn : q.notice = q0.notice)
    (hb : q.bonded = q0.bonded) (e : tryUnbond s q amt = .ok (s1, q1)) : Mono s (setSeq s1 q1) := by
  obtain ⟨sm, _, _, e1, e2, _, e4, e5⟩ := tryUnbond_same e
  have hg1 : getSeq s1 a = some q0 := by rw [getSeq_congr sm.seqs]; exact hg
  apply (Mono.of_seqs sm.seqs).trans
  apply Mono.of_setSeq hg1 (e1.trans ha) (e2.trans hr)
  · intro _; rw [e4, hn]
  · intro hb0
    cases hq : q1.bonded with
    | false => rfl
    | true => rw [e5 hq] at hb; rw [← hb] at hb0; cases hb0

theorem decreaseBond_mono {s s' : St} {a : Addr} {amt : Nat} (e : decreaseBond s a amt = .ok s') : Mono s s' := by
  obtain ⟨q, s1, q1, hg, _, hs, rfl⟩ := decreaseBond_ok e
  exact tryUnbond_write_mono hg rfl rfl rfl rfl hs

theorem unbond_mono {s s' : St} {a : Addr} (e : unbond s a = .ok s') : Mono s s' := by
  obtain ⟨q, r, hg, hgr, hrot, hc⟩ := unbond_ok e
  rcases hc with ⟨hisp, _, hnip, rfl⟩ | ⟨_, s1, q1, hs, rfl⟩
  · obtain ⟨_, hnn⟩ := unbond_fresh hg hgr hrot hisp hnip
    apply (Mono.of_seqs (s := s) (s' := { s with nq := insertSorted ltPair (s.t + s.sqp.noticePeriod, a) s.nq }) rfl).trans
    apply Mono.of_setSeq (q0 := q) (a0 := a) hg (by rfl) (by rfl)
    · intro hc; rw [hnn] at hc; cases hc
    · exact id
  · exact tryUnbond_write_mono (q := { q with optedIn := false }) hg rfl rfl rfl rfl hs

theorem fraud_mono {s s' : St} {au : Bool} {ra hh rev : Nat} {p rw : Option Addr} (u : Uniq s)
    (e : fraud s au ra hh rev p rw = .ok s') : Mono s s' := by
  obtain ⟨_, _, r, s1, _, _, hp, hf⟩ := fraud_ok e
  exact (fraud_punish_frame u hp).mono.trans (hardFork_flags hf).mono

theorem apply_mono {s s' : St} {o : Op} (h : Roles s) (e : apply s o = .ok s') : Mono s s' := by
  cases o with
  | createSeq a ra b d => exact createSeq_mono e
  | bondInc a amt d => exact (increaseBond_frame h.core.uniq e).mono
  | bondDec a amt => exact decreaseBond_mono e
  | unbond a => exact unbond_mono e
  | fraud au ra hh rev p rw => exact fraud_mono h.core.uniq e
  | punish au a rw => exact (punish_frame h.core.uniq (punishProposal_ok e).2).mono
  | end_ f => cases e; exact (endBlock_frame h.core.uniq).mono
  | createRollapp id owner mb => exact (apply_flags rfl e).mono
  | bridge ra hh => exact (apply_flags rfl e).mono
  | fund a amt => exact (apply_flags rfl e).mono
  | optIn a v => exact (apply_flags rfl e).mono
  | kick a => exact (apply_flags rfl e).mono
  | update m => exact (apply_flags rfl e).mono
  | obsolete au vs => exact (apply_flags rfl e).mono
  | transferOwner sg ra' no => exact (apply_flags rfl e).mono
  | setSeqParams au sp => exact (apply_flags rfl e).mono
  | begin_ dt => exact (apply_flags rfl e).mono

/-- the sequencer has started a notice or is unbonded -/
def Marked (s : St) (a : Addr) : Prop := ∃ q, getSeq s a = some q ∧ (q.notice.isSome = true ∨ q.bonded = false)

theorem Mono.marked {s s' : St} (m : Mono s s') {a : Addr} (h : Marked s a) : Marked s' a := by
  obtain ⟨q, hq, hm⟩ := h
  obtain ⟨q', hq', _, n, b⟩ := m a q hq
  refine ⟨q', hq', ?_⟩
  rcases hm with hm | hm
  · left; rw [n hm]; exact hm
  · right; exact b hm

/-- a marked sequencer is never the result of the proposer choice -/
theorem choose_ne_marked {s : St} (h : RolesCore s) {a : Addr} (hm : Marked s a) (ra : Nat) : choose s ra ≠ some a := by
  intro hc
  obtain ⟨q, hq, hmk⟩ := hm
  obtain ⟨q', hq', ha', _, hb', ho', _⟩ := choose_mem hc
  have := getSeq_of_mem h.uniq.addrs hq'
  rw [ha', hq] at this; injection this with this; subst this
  rcases hmk with hmk | hmk
  · have := h.optOut q hq' hmk
    rw [ho'] at this; cases this
  · rw [hb'] at hmk; cases hmk

theorem step_mono {s : St} {o : Op} (h : Roles s) : Mono s (step s o).1 := by
  unfold step
  split
  · rename_i s' e; exact apply_mono h e
  · exact Mono.refl s

/-- runs from an arbitrary state -/
def runFrom (s : St) (ops : List Op) : St := ops.foldl (fun s o => (step s o).1) s

theorem run_append (p : Params) (ops ops2 : List Op) : run p (ops ++ ops2) = runFrom (run p ops) ops2 := by
  unfold run runFrom; rw [List.foldl_append]

theorem runFrom_roles_mono {s : St} (h : Roles s) (ops : List Op) : Roles (runFrom s ops) ∧ Mono s (runFrom s ops) := by
  unfold runFrom
  apply foldl_inv (fun acc => Roles acc ∧ Mono s acc)
  · exact ⟨h, Mono.refl s⟩
  · intro b o hb; exact ⟨step_roles hb.1, hb.2.trans (step_mono hb.1)⟩

end DymVerif.Core.Roles
