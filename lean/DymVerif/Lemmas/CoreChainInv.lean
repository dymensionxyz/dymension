/-
  Lemmas/CoreChainInv — "the chain of a rollapp record is gap-free" is kept by every way a handler
  rewrites a record (`chainClosed`): `NextProposer` of the latest state, a fork plan (`revertPlan_ok`,
  `revertPlan_shape`), an accepted update (`updValidateBasic_wf`, `updPre_start`), a finalized state.
-/
import DymVerif.Lemmas.CoreChain
import DymVerif.Lemmas.CoreWalk
namespace DymVerif.Core

abbrev ChainAll (s : St) : Prop := RaAll ChainQ s

theorem ChainAll.ras_eq {s s' : St} (h : ChainAll s) (e : s'.ras = s.ras) : ChainAll s' :=
  RaAll.of_ras_eq h e

theorem ChainQ.of_states {r r' : Rollapp} (h : ChainQ r) (e : r'.states = r.states) : ChainQ r' := by
  unfold ChainQ at *; rw [e]; exact h

theorem setLastNext_chain {l : List SInfo} (h : Chain l) (n : NextP) : Chain (setLastNext l n) := by
  unfold setLastNext
  split
  · exact h
  · rename_i x rest e
    apply h.congr
    have : l = (x :: rest).reverse := by rw [← e, List.reverse_reverse]
    rw [this]; simp

-- ---------------------------------------------------------------- binary search

/-- every index the search returns lies in the window and its state contains the height -/
theorem findByHeightAux_sound (l : List SInfo) (h : Nat) : ∀ (fuel lo hi i : Nat),
    findByHeightAux l h fuel lo hi = some i → lo ≤ i ∧ ∃ st, l[i - 1]? = some st ∧ st.contains h = true := by
  intro fuel
  induction fuel with
  | zero => intro lo hi i e; simp [findByHeightAux] at e
  | succ f ih =>
    intro lo hi i e
    unfold findByHeightAux at e
    by_cases hlh : lo ≤ hi
    · rw [if_pos hlh] at e
      dsimp only at e
      cases hm : l[lo + (hi - lo) / 2 - 1]? with
      | none => rw [hm] at e; cases e
      | some st =>
        rw [hm] at e
        dsimp only at e
        by_cases h1 : st.contains h = true
        · rw [if_pos h1] at e; cases e; exact ⟨Nat.le_add_right _ _, st, hm, h1⟩
        rw [if_neg h1] at e
        by_cases h2 : h < st.start
        · rw [if_pos h2] at e; exact ih _ _ _ e
        · rw [if_neg h2] at e; have := ih _ _ _ e; exact ⟨by omega, this.2⟩
    · rw [if_neg hlh] at e; cases e

/-- a successful lookup: a positive index whose state contains the height -/
theorem findByHeight_ok {r : Rollapp} {h i : Nat} (e : findByHeight r h = some i) :
    1 ≤ i ∧ ∃ st, r.states[i - 1]? = some st ∧ st.contains h = true := by
  unfold findByHeight at e
  by_cases h0 : h = 0
  · rw [if_pos h0] at e; cases e
  rw [if_neg h0] at e
  cases hl : r.states.getLast? with
  | none => rw [hl] at e; cases e
  | some l =>
    rw [hl] at e
    dsimp only at e
    by_cases h1 : l.last < h
    · rw [if_pos h1] at e; cases e
    · rw [if_neg h1] at e; exact findByHeightAux_sound _ _ _ _ _ _ e

theorem findByHeight_sound (r : Rollapp) (h i : Nat) (e : findByHeight r h = some i) :
    ∃ st, r.states[i - 1]? = some st ∧ st.contains h = true := (findByHeight_ok e).2

-- ---------------------------------------------------------------- hard fork

/-- an accepted fork plan: `i` is the (1-based) index of the state containing the first height of the new
    revision — not finalized — or, if no state contains it, of the latest state; the plan keeps the
    predecessor whole, truncates state `i`, or keeps it whole -/
theorem revertPlan_ok {r : Rollapp} {n keep : Nat} {kst : SInfo} (e : revertPlan r n = .ok (keep, kst)) :
    ∃ i st, r.states[i - 1]? = some st ∧
      ((findByHeight r n = some i ∧ st.finalized = false) ∨
       (findByHeight r n = none ∧ r.states ≠ [] ∧ i = r.states.length)) ∧
      st.start ≤ n ∧
      ((st.start = n ∧ 1 < i ∧ ∃ prev, r.states[i - 2]? = some prev ∧ keep = i - 1 ∧
          kst = { prev with next := NextP.empty }) ∨
       (st.start ≠ n ∧ n ≤ st.last ∧ keep = i ∧
          kst = { st with num := n - st.start, bds := st.bds.take (n - st.start), next := NextP.empty }) ∨
       (st.start ≠ n ∧ st.last < n ∧ keep = i ∧ kst = { st with next := NextP.empty })) := by
  unfold revertPlan at e
  dsimp only at e
  split at e
  · cases e
  · rename_i i hfound
    cases hst : r.states[i - 1]? with
    | none => rw [hst] at e; cases e
    | some st =>
      rw [hst] at e
      dsimp only at e
      refine ⟨i, st, hst, ?_, ?_⟩
      · cases hf : findByHeight r n with
        | some j =>
          rw [hf] at hfound
          dsimp only at hfound
          cases hj : r.states[j - 1]? with
          | none => rw [hj] at hfound; cases hfound
          | some st' =>
            rw [hj] at hfound
            dsimp only at hfound
            cases hfin : st'.finalized
            · rw [hfin] at hfound; cases hfound
              rw [hst] at hj; cases hj
              exact Or.inl ⟨rfl, hfin⟩
            · rw [hfin] at hfound; cases hfound
        | none =>
          rw [hf] at hfound
          dsimp only at hfound
          cases hl : r.states with
          | nil => rw [hl] at hfound; cases hfound
          | cons a b => rw [hl] at hfound; cases hfound; exact Or.inr ⟨rfl, by simp, rfl⟩
      · by_cases h1 : n < st.start
        · rw [if_pos h1] at e; cases e
        rw [if_neg h1] at e
        refine ⟨Nat.le_of_not_lt h1, ?_⟩
        by_cases h2 : st.start = n
        · rw [if_pos h2] at e
          by_cases h3 : i ≤ 1
          · rw [if_pos h3] at e; cases e
          rw [if_neg h3] at e
          cases hp : r.states[i - 2]? with
          | none => rw [hp] at e; cases e
          | some prev => rw [hp] at e; cases e; exact Or.inl ⟨h2, Nat.lt_of_not_le h3, prev, rfl, rfl, rfl⟩
        · rw [if_neg h2] at e
          by_cases h3 : n ≤ st.last
          · rw [if_pos h3] at e; cases e; exact Or.inr (Or.inl ⟨h2, h3, rfl, rfl⟩)
          · rw [if_neg h3] at e; cases e; exact Or.inr (Or.inr ⟨h2, Nat.lt_of_not_le h3, rfl, rfl⟩)
/-- the kept state of a fork plan is a (possibly truncated) element of the chain at position keep-1 -/
theorem revertPlan_shape {r : Rollapp} {n keep : Nat} {kst : SInfo} (hc : Chain r.states)
    (e : revertPlan r n = .ok (keep, kst)) :
    ∃ st, 1 ≤ keep ∧ r.states[keep - 1]? = some st ∧ kst.start = st.start ∧ 1 ≤ kst.num ∧ kst.num ≤ st.num ∧
      kst.bds = st.bds.take kst.num ∧ kst.creator = st.creator := by
  obtain ⟨i, st, hst, hfound, hle, hcase⟩ := revertPlan_ok e
  have hwst := hc.wf st (List.mem_of_getElem? hst)
  have hi : 1 ≤ i := by
    rcases hfound with ⟨hf, _⟩ | ⟨_, hne, rfl⟩
    · exact (findByHeight_ok hf).1
    · exact List.length_pos_iff.2 hne
  have whole : ∀ x : SInfo, x.WF → x.bds = x.bds.take x.num := fun x hw => by rw [← hw.bds_len, List.take_length]
  rcases hcase with ⟨_, hi1, prev, hprev, rfl, rfl⟩ | ⟨hne, hl, rfl, rfl⟩ | ⟨_, _, rfl, rfl⟩
  · have hwp := hc.wf prev (List.mem_of_getElem? hprev)
    exact ⟨prev, by omega, by rw [show i - 1 - 1 = i - 2 by omega]; exact hprev, rfl, hwp.num_pos, Nat.le_refl _,
      whole prev hwp, rfl⟩
  · rw [last_of_WF hwst] at hl
    have := hwst.num_pos
    exact ⟨st, hi, hst, rfl, by show 1 ≤ n - st.start; omega, by show n - st.start ≤ st.num; omega, rfl, rfl⟩
  · exact ⟨st, hi, hst, rfl, hwst.num_pos, Nat.le_refl _, whole st hwst, rfl⟩

/-- forking to the latest height keeps every state; only `next` of the latest one is cleared -/
theorem revertPlan_latest {r : Rollapp} {l : SInfo} (hc : Chain r.states) (hl : r.states.getLast? = some l)
    {keep : Nat} {kst : SInfo} (e : revertPlan r ((l.last + 1) % 2 ^ 64) = .ok (keep, kst)) :
    keep = r.states.length ∧ kst = { l with next := NextP.empty } := by
  have hw := hc.wf l (List.mem_of_getLast? hl)
  have hlast := last_of_WF hw
  have hpos := hw.num_pos
  have hov := hw.no_overflow
  rw [Nat.mod_eq_of_lt (by omega)] at e
  have hfind : findByHeight r (l.last + 1) = none := by
    unfold findByHeight
    rw [if_neg (by omega), hl]
    dsimp only
    rw [if_pos (by omega)]
  obtain ⟨i, st, hst, hfound, _, hcase⟩ := revertPlan_ok e
  rcases hfound with ⟨hf, _⟩ | ⟨_, _, rfl⟩
  · rw [hfind] at hf; cases hf
  · rw [← List.getLast?_eq_getElem?, hl] at hst; cases hst
    rcases hcase with ⟨h1, _⟩ | ⟨_, h2, _⟩ | ⟨_, _, rfl, rfl⟩
    · omega
    · omega
    · exact ⟨rfl, rfl⟩

theorem forkedRollapp_chain {r : Rollapp} {n keep : Nat} {kst : SInfo} (hc : Chain r.states)
    (e : revertPlan r n = .ok (keep, kst)) : ChainQ (forkedRollapp r keep kst) := by
  obtain ⟨st, hk, hst, h1, h2, h3, h4, _⟩ := revertPlan_shape hc e
  exact hc.fork (keep - 1) st kst hst h1 ⟨h2, h3⟩ h4

-- ---------------------------------------------------------------- state update

theorem validateBDs_spec (start : Nat) (bds : List BD) (k : Nat) (h : validateBDs start k bds = .ok ()) :
    ∀ i b, bds[i]? = some b → b.height = (start + k + i) % 2 ^ 64 ∧ b.rootOk = true := by
  induction bds generalizing k with
  | nil => intro i b hb; simp at hb
  | cons x xs ih =>
    unfold validateBDs at h
    by_cases h1 : x.height ≠ (start + k) % 2 ^ 64
    · rw [if_pos h1] at h; cases h
    rw [if_neg h1] at h
    cases h2 : x.rootOk
    case false => rw [h2] at h; cases h
    rw [h2, if_neg (by simp)] at h
    intro i b hb
    cases i with
    | zero => cases hb; exact ⟨Decidable.of_not_not h1, h2⟩
    | succ j =>
      have := ih (k + 1) h j b hb
      rw [this.1]; exact ⟨by congr 1; omega, this.2⟩

/-- what `MsgUpdateState.ValidateBasic` accepts -/
theorem updValidateBasic_ok {m : UpdMsg} (h : updValidateBasic m = .ok ()) :
    m.num ≠ 0 ∧ m.num ≤ 2 ^ 64 - 1 - m.start ∧ m.bds.length = m.num ∧ m.start ≠ 0 ∧
      validateBDs m.start 0 m.bds = .ok () := by
  unfold updValidateBasic at h
  by_cases h1 : m.num = 0
  · rw [if_pos h1] at h; cases h
  rw [if_neg h1] at h
  by_cases h2 : m.num > 2 ^ 64 - 1 - m.start
  · rw [if_pos h2] at h; cases h
  rw [if_neg h2] at h
  by_cases h3 : m.bds.length ≠ m.num
  · rw [if_pos h3] at h; cases h
  rw [if_neg h3] at h
  by_cases h4 : m.start = 0
  · rw [if_pos h4] at h; cases h
  rw [if_neg h4] at h
  exact ⟨h1, Nat.le_of_not_lt h2, Decidable.of_not_not h3, h4, h⟩

theorem updValidateBasic_wf {m : UpdMsg} (h : updValidateBasic m = .ok ()) (s : St) (n : NextP) :
    (newSInfo s m n).WF := by
  obtain ⟨h1, h2, h3, h4, hv⟩ := updValidateBasic_ok h
  refine ⟨by show 1 ≤ m.num; omega, by show 1 ≤ m.start; omega, by show m.start + m.num < 2 ^ 64; omega, h3, ?_⟩
  intro i b hb
  have hi : i < m.num := by
    rcases Nat.lt_or_ge i m.bds.length with h5 | h5
    · omega
    · rw [show (newSInfo s m n).bds = m.bds from rfl, List.getElem?_eq_none h5] at hb; cases hb
  rw [(validateBDs_spec m.start m.bds 0 hv i b hb).1, Nat.add_zero]
  exact Nat.mod_eq_of_lt (by show m.start + i < 2 ^ 64; omega)

theorem updPre_start {r : Rollapp} {m : UpdMsg} (h : updPre r m = .ok ()) :
    ∀ a, r.states.getLast? = some a → m.start = a.start + a.num := by
  intro a ha
  unfold updPre at h
  rw [ha] at h
  dsimp only at h
  by_cases h1 : ((a.bds.getLast?.map (·.hasTs)).getD false && !(m.bds.all (·.hasTs))) = true
  · rw [if_pos h1] at h; cases h
  rw [if_neg h1] at h
  by_cases h2 : a.start + a.num ≠ m.start
  · rw [if_pos h2] at h; cases h
  · exact (Decidable.of_not_not h2).symm

-- ---------------------------------------------------------------- finalization

theorem chain_set_finalized {l : List SInfo} (h : Chain l) (i : Nat) (st : SInfo) (hi : l[i]? = some st) (b : Bool) (f : Nat) :
    Chain (l.set i { st with finalized := b, finalizedAt := f }) := by
  apply h.congr
  apply List.ext_getElem?
  intro j
  simp only [List.getElem?_map, List.getElem?_set]
  by_cases hj : i = j
  · subst hj
    have hlt : i < l.length := getElem?_lt hi
    have hst : l[i] = st := by simpa [List.getElem?_eq_getElem hlt] using hi
    simp [hlt, hst]
  · simp [hj]

-- ---------------------------------------------------------------- the chain invariant is closed under every record rewrite

theorem chainClosed : RaClosed ChainQ where
  fields h e _ := h.of_states e
  next n h := setLastNext_chain h n
  append s m n h hvb hpre := Chain.append h (updValidateBasic_wf hvb s n) (updPre_start hpre)
  fork h e := forkedRollapp_chain h e
  fin i hh _ h hst := chain_set_finalized h i _ hst true hh
  owner _ h _ := h.of_states rfl

theorem abruptRemoveProposer_chain {s : St} {ra : Nat} (h : ChainAll s) : ChainAll (abruptRemoveProposer s ra) :=
  (chainClosed.role ra).abruptRemoveProposer h

theorem hardFork_chain {s s' : St} {ra lv : Nat} (h : ChainAll s) (e : hardFork s ra lv = .ok s') : ChainAll s' :=
  chainClosed.writes (by decide) (hardFork_writes (fun _ hk => hk) e) h

theorem hardForkToLatest_chain {s s' : St} {ra : Nat} (h : ChainAll s) (e : hardForkToLatest s ra = .ok s') : ChainAll s' :=
  chainClosed.writes (by decide) (hardForkToLatest_writes (fun _ hk => hk) e) h

end DymVerif.Core
