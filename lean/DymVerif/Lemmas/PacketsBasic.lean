/-
  Lemmas/PacketsBasic — frame and shape lemmas of M-Packets.  Frames: which model functions leave the
  delayedack-side fields (packet store, by-address index, receipts, commitments, sent packets, sequences,
  release log, rollapp heights, channel table) untouched; the ICS-20 callbacks write bank balances,
  accounts and acknowledgements only (`CoinsOnly`, `BankOnly`), from which every frame of a callback
  follows.  Shapes: what a success of a composite operation (finalization, acknowledgement / timeout, packet
  deletion, the thin message wrappers) amounts to, everything a `MsgRecvPacket` can answer as one table
  (`RecvOut`), and how `step` wraps the handlers, so that no proof above has to walk through their case
  analysis again.
-/
import DymVerif.Model.Packets
namespace DymVerif.Packets
open DymVerif DymVerif.Keys

/-- the delayedack-side fields of two states agree -/
structure DFrame (s s' : St) : Prop where
  packets : s'.packets = s.packets
  byAddr : s'.byAddr = s.byAddr
  receipts : s'.receipts = s.receipts
  commits : s'.commits = s.commits
  sent : s'.sent = s.sent
  nextSeq : s'.nextSeq = s.nextSeq
  log : s'.log = s.log
  ras : s'.ras = s.ras
  chans : s'.chans = s.chans

theorem DFrame.refl (s : St) : DFrame s s := ⟨rfl, rfl, rfl, rfl, rfl, rfl, rfl, rfl, rfl⟩

theorem DFrame.trans {a b c : St} (h1 : DFrame a b) (h2 : DFrame b c) : DFrame a c :=
  ⟨h2.packets.trans h1.packets, h2.byAddr.trans h1.byAddr, h2.receipts.trans h1.receipts, h2.commits.trans h1.commits,
   h2.sent.trans h1.sent, h2.nextSeq.trans h1.nextSeq, h2.log.trans h1.log, h2.ras.trans h1.ras, h2.chans.trans h1.chans⟩

theorem DFrame.symm {a b : St} (h : DFrame a b) : DFrame b a :=
  ⟨h.packets.symm, h.byAddr.symm, h.receipts.symm, h.commits.symm, h.sent.symm, h.nextSeq.symm, h.log.symm, h.ras.symm, h.chans.symm⟩

theorem frame_setOrder (s : St) (o) : DFrame s (setOrder s o) := ⟨rfl, rfl, rfl, rfl, rfl, rfl, rfl, rfl, rfl⟩
theorem frame_delOrder (s : St) (st id) : DFrame s (delOrder s st id) := ⟨rfl, rfl, rfl, rfl, rfl, rfl, rfl, rfl, rfl⟩
theorem frame_setLp (s : St) (l) : DFrame s (setLp s l) := ⟨rfl, rfl, rfl, rfl, rfl, rfl, rfl, rfl, rfl⟩

/-- `s'` is `s` up to bank balances and accounts: all the ICS-20 transfer code ever writes -/
def CoinsOnly (s s' : St) : Prop := ∃ b a, s' = { s with bal := b, accts := a }

/-- … and up to acknowledgements (packet-forward settlement, `writeRecvAck`) -/
def BankOnly (s s' : St) : Prop := ∃ b a k, s' = { s with bal := b, accts := a, acks := k }

theorem CoinsOnly.refl (s : St) : CoinsOnly s s := ⟨_, _, rfl⟩
theorem CoinsOnly.trans {a b c : St} (h1 : CoinsOnly a b) (h2 : CoinsOnly b c) : CoinsOnly a c := by
  obtain ⟨_, _, rfl⟩ := h1
  obtain ⟨_, _, rfl⟩ := h2
  exact ⟨_, _, rfl⟩
theorem CoinsOnly.bank {s s' : St} (h : CoinsOnly s s') : BankOnly s s' := by
  obtain ⟨_, _, rfl⟩ := h
  exact ⟨_, _, s.acks, rfl⟩
theorem BankOnly.refl (s : St) : BankOnly s s := ⟨_, _, _, rfl⟩
theorem BankOnly.trans {a b c : St} (h1 : BankOnly a b) (h2 : BankOnly b c) : BankOnly a c := by
  obtain ⟨_, _, _, rfl⟩ := h1
  obtain ⟨_, _, _, rfl⟩ := h2
  exact ⟨_, _, _, rfl⟩

theorem coins_credit (s : St) (a d v) : CoinsOnly s (credit s a d v) := ⟨_, _, rfl⟩
theorem coins_debit (s : St) (a d v) : CoinsOnly s (debit s a d v) := ⟨_, s.accts, rfl⟩
theorem bank_writeAck (s : St) (c q b) : BankOnly s (writeAck s c q b) := ⟨s.bal, s.accts, _, rfl⟩

theorem coins_sendCoins {s s' : St} {a b d v} (h : sendCoins s a b d v = some s') : CoinsOnly s s' := by
  unfold sendCoins at h
  split at h
  · cases h; exact CoinsOnly.refl s
  · split at h
    · cases h
    · cases h; exact (coins_debit s a d v).trans (coins_credit _ b d v)

theorem coins_icsCredit {s s' : St} {p} (h : icsCredit s p = some s') : CoinsOnly s s' := by
  unfold icsCredit at h
  split at h
  · exact coins_sendCoins h
  · cases h; exact coins_credit s _ _ _

theorem coins_chargeBridgingFee (s : St) (p : Packet) : CoinsOnly s (chargeBridgingFee s p) := by
  unfold chargeBridgingFee
  split
  · exact CoinsOnly.refl s
  · split
    · exact CoinsOnly.refl s
    · exact coins_debit s _ _ _

theorem coins_icsRecv {s s' : St} {p b} (h : icsRecv s p b = some s') : CoinsOnly s s' := by
  unfold icsRecv at h
  split at h
  · cases h
  · split at h
    · cases h
    · rename_i s1 hc
      cases h
      split
      · exact (coins_icsCredit hc).trans (coins_chargeBridgingFee s1 p)
      · exact coins_icsCredit hc

theorem coins_recvRelease (s : St) (p : Packet) : CoinsOnly s (recvRelease s p).1 := by
  unfold recvRelease
  split
  · rename_i s1 h; exact coins_icsRecv h
  · exact CoinsOnly.refl s

theorem coins_fwdRefundFunds {s s' : St} {p rc} (h : fwdRefundFunds s p rc = some s') : CoinsOnly s s' := by
  unfold fwdRefundFunds at h
  split at h
  · split at h
    · exact coins_sendCoins h
    · split at h
      · cases h
      · cases h; exact coins_debit s _ _ _
  · cases h; exact coins_credit s _ _ _

theorem coins_payOperator {s s' : St} {a b d v} (h : payOperator s a b d v = some s') : CoinsOnly s s' := by
  unfold payOperator at h
  split at h
  · exact coins_sendCoins h
  · cases h; exact CoinsOnly.refl s

theorem bank_icsRefund {s s' : St} {p} (h : icsRefund s p = some s') : BankOnly s s' := by
  unfold icsRefund at h
  split at h
  · exact (coins_icsCredit h).bank
  · unfold fwdSettle at h
    split at h
    · cases h
    · rename_i s1 h1
      split at h
      · cases h
      · cases h
        refine BankOnly.trans ?_ (bank_writeAck s1 _ _ _)
        split at h1
        · cases h1; exact BankOnly.refl s
        · exact (coins_fwdRefundFunds h1).bank

theorem bank_writeRecvAck (s : St) (p : Packet) (b : Bool) : BankOnly s (writeRecvAck s p b).1 := by
  unfold writeRecvAck
  split
  · exact BankOnly.refl s
  · split
    · exact BankOnly.refl s
    · exact bank_writeAck _ _ _ _

theorem bank_refundRelease (s : St) (p : Packet) : BankOnly s (refundRelease s p).1 := by
  unfold refundRelease
  split
  · rename_i s1 h; exact bank_icsRefund h
  · exact BankOnly.refl s

/-- whatever the ICS-20 callback does at finalization, it writes only the bank and the acknowledgements -/
theorem bank_releaseEffect (s : St) (p : Packet) : BankOnly s (releaseEffect s p).1 := by
  unfold releaseEffect
  split
  · exact (coins_recvRelease s p).bank.trans (bank_writeRecvAck _ _ _)
  · split
    · exact bank_refundRelease s p
    · unfold ackRelease
      split
      · exact BankOnly.refl s
      · exact bank_refundRelease s p
  · exact bank_refundRelease s p
  · exact BankOnly.refl s
theorem BankOnly.dframe {s s' : St} (h : BankOnly s s') : DFrame s s' := by
  obtain ⟨_, _, _, rfl⟩ := h
  exact ⟨rfl, rfl, rfl, rfl, rfl, rfl, rfl, rfl, rfl⟩

theorem frame_writeAck (s : St) (c q b) : DFrame s (writeAck s c q b) := (bank_writeAck s c q b).dframe
theorem frame_icsRecv {s s' : St} {p b} (h : icsRecv s p b = some s') : DFrame s s' := (coins_icsRecv h).bank.dframe
theorem frame_releaseEffect (s : St) (p : Packet) : DFrame s (releaseEffect s p).1 := (bank_releaseEffect s p).dframe

theorem eibcOnRecv_ok {s s' : St} {p : Packet} {m : Memo} (h : eibcOnRecv s p m = .ok s') :
    ∃ fee price, memoFee m = .ok fee ∧ calcPrice p.amount fee s.bridgingFee = .ok price ∧
      s' = setOrder s (newOrder s p price fee p.target) := by
  unfold eibcOnRecv at h
  split at h
  · cases h
  · split at h
    · cases h
    · rename_i fee hfee
      split at h
      · cases h
      · rename_i price hprice
        cases h
        exact ⟨fee, price, hfee, hprice, rfl⟩

/-- no order when the fee rounds to nothing; otherwise the fee and what is left are both positive -/
theorem eibcOnRefund_ok {s s' : St} {p : Packet} (h : eibcOnRefund s p = .ok s') :
    s' = s ∨ (0 < refundFee s p ∧ 0 < p.amount - refundFee s p ∧
      s' = setOrder s (newOrder s p (p.amount - refundFee s p) (refundFee s p) p.target)) := by
  unfold eibcOnRefund at h
  split at h
  · cases h; exact Or.inl rfl
  · rename_i hf
    split at h
    · cases h
    · rename_i hp
      cases h
      exact Or.inr ⟨Int.not_le.mp hf, Int.not_le.mp hp, rfl⟩

theorem frame_eibcOnRecv {s s' : St} {p m} (h : eibcOnRecv s p m = .ok s') : DFrame s s' := by
  obtain ⟨_, _, -, -, rfl⟩ := eibcOnRecv_ok h
  exact frame_setOrder s _

theorem frame_eibcOnRefund {s s' : St} {p} (h : eibcOnRefund s p = .ok s') : DFrame s s' := by
  rcases eibcOnRefund_ok h with rfl | ⟨-, -, rfl⟩
  · exact DFrame.refl _
  · exact frame_setOrder s _

theorem eibcRefundHandler_ok {s s' : St} {p} (h : eibcRefundHandler s p = .ok s') : eibcOnRefund s p = .ok s' := by
  unfold eibcRefundHandler at h
  split at h
  · cases h
  · exact h

theorem sendTransfer_ok {s s' : St} {a c d amt} (h : sendTransfer s a c d amt = .ok s') : sendOpen s a c d amt = .ok s' := by
  unfold sendTransfer at h; split at h
  · cases h
  · exact h

theorem sendBlk_ok {s s' : St} {a c d amt} (h : sendBlk s a c d amt = .ok s') :
    ∃ s1, sendOpen s a c d amt = .ok s1 ∧ s' = markBlk s1 c (getNextSeq s c) := by
  unfold sendBlk at h
  split at h
  · rename_i s1 hs; cases h; exact ⟨s1, sendTransfer_ok hs, rfl⟩
  · cases h


/-- the delayedack hook of eibc rewrites the order list and nothing else -/
theorem afterPacketStatusUpdated_eq (s : St) (a b : Bytes) (st : Status) :
    afterPacketStatusUpdated s a b st = { s with orders := (afterPacketStatusUpdated s a b st).orders } := by
  unfold afterPacketStatusUpdated
  split <;> rfl

theorem frame_afterPacketStatusUpdated (s : St) (a b : Bytes) (st : Status) : DFrame s (afterPacketStatusUpdated s a b st) := by
  rw [afterPacketStatusUpdated_eq]; exact ⟨rfl, rfl, rfl, rfl, rfl, rfl, rfl, rfl, rfl⟩

theorem verifyHeightFinalized_ok {s : St} {rid : Bytes} {h : Nat} (hv : verifyHeightFinalized s rid h = .ok ()) :
    ∃ f, finHeight s rid = some f ∧ h ≤ f := by
  unfold verifyHeightFinalized at hv
  split at hv
  · cases hv
  · rename_i f hf
    split at hv
    · cases hv
    · rename_i hlt; exact ⟨f, hf, Nat.not_lt.mp hlt⟩

theorem updateAfterFinalization_ok {s s' : St} {p : Packet} (h : updateAfterFinalization s p = .ok s') : p.status = .pending ∧ s' = afterPacketStatusUpdated (setPacket (delPacket (delByAddr s p.target (pkey p)) (pkey p)) (flipped p)) (pkey p) (pkey (flipped p)) .finalized := by
  unfold updateAfterFinalization at h
  split at h
  · cases h
  · rename_i hst
    cases h
    exact ⟨by simpa using hst, rfl⟩

/-- a successful `FinalizeRollappPacket`: the packet is stored under the key, its height is final, and the
    state is that of `UpdateRollappPacketAfterFinalization` after the logged release -/
theorem finalizePacket_ok {s s' : St} {k : Bytes} (h : finalizePacket s k = .ok s') : ∃ p, getPacket s k = some p ∧ verifyHeightFinalized s p.rollappId p.proofHeight = .ok () ∧ updateAfterFinalization (logRelease (releaseEffect s p).1 p (some p.rollappId) true) (finalizedRecord p (releaseEffect s p).2) = .ok s' := by
  unfold finalizePacket at h
  split at h
  · cases h
  · rename_i p hp
    split at h
    · cases h
    · rename_i hv
      exact ⟨p, hp, hv, h⟩

/-- the state after a successful `FinalizeRollappPacket`, field by field: the ICS-20 callback's state with
    the packet moved to its finalized key (the callback's error recorded), its own index entry removed,
    the release logged and the order list rewritten by the eibc hook, as one flat record. -/
theorem finalizePacket_state {s s' : St} {k : Bytes} (h : finalizePacket s k = .ok s') :
    ∃ p os, getPacket s k = some p ∧ verifyHeightFinalized s p.rollappId p.proofHeight = .ok () ∧ p.status = .pending ∧
      s' = { (releaseEffect s p).1 with
        packets := (setPacket (delPacket s (pkey p)) (flipped (finalizedRecord p (releaseEffect s p).2))).packets
        byAddr := (delByAddr s p.target (pkey p)).byAddr
        log := s.log ++ [logEntry (releaseEffect s p).1 p (some p.rollappId) true]
        orders := os } := by
  obtain ⟨p, hp, hv, hu⟩ := finalizePacket_ok h
  obtain ⟨hst, rfl⟩ := updateAfterFinalization_ok hu
  have fr := frame_releaseEffect s p
  refine ⟨p, ?_, hp, hv, hst, ?_⟩
  case refine_2 =>
    rw [afterPacketStatusUpdated_eq]
    simp only [setPacket, delPacket, delByAddr, logRelease, fr.packets, fr.byAddr, fr.log]
    rfl

theorem msgFinalize_ok {s s' : St} {a rid ph t src seq} (h : msgFinalize s a rid ph t src seq = .ok s') :
    finalizePacket s (rollappPacketKey .pending rid ph t src seq) = .ok s' := by
  unfold msgFinalize at h
  split at h
  · cases h
  · exact h

theorem msgFinalizeByKey_ok {s s' : St} {a b} (h : msgFinalizeByKey s a b = .ok s') :
    ∃ k, decodePacketKeyExact b = some k ∧ finalizePacket s k = .ok s' := by
  unfold msgFinalizeByKey at h
  split at h
  · cases h
  · split at h
    · cases h
    · exact ⟨_, ‹_›, h⟩

theorem addState_ok {s s' : St} {rid n} (h : addState s rid n = .ok s') : ∃ r, s' = setRa s r := by
  unfold addState at h
  split at h
  · cases h
  · split at h
    · cases h
    · cases h; exact ⟨_, rfl⟩

theorem finalizeState_ok {s s' : St} {rid} (h : finalizeState s rid = .ok s') : ∃ r, s' = setRa s r := by
  unfold finalizeState at h
  split at h
  · cases h
  · split at h
    · cases h; exact ⟨_, rfl⟩
    · cases h

theorem forkRollapp_ok {s s' : St} {rid lv} (h : forkRollapp s rid lv = .ok s') : ∃ r, s' = onHardFork (setRa s r) rid lv := by
  unfold forkRollapp at h
  split at h
  · cases h
  · split at h
    · cases h
    · split at h
      · cases h
      · split at h
        · cases h
        · cases h; exact ⟨_, rfl⟩

theorem timeoutOnClose_ok {s s' : St} {c q} (h : timeoutOnClose s c q = .ok s') : s' = s := by
  unfold timeoutOnClose at h
  split at h <;> cases h
  rfl

theorem getSent_some {s : St} {c seq : Nat} {x : Sent} (h : getSent s c seq = some x) : x.chan = c ∧ x.seq = seq := by
  unfold getSent at h
  have := List.find?_some h
  simpa using this

theorem isSome_of_delayed {s : St} {ra : Option Bytes} {ph : Nat} (h : ¬ (ra.isNone || isFinalizedFor s ra ph) = true) :
    ∃ rid, ra = some rid := by
  cases ra with
  | none => exact absurd rfl h
  | some r => exact ⟨r, rfl⟩

/-- an accepted acknowledgement / timeout: the commitment was there and is deleted (`s0`); then either the
    transfer stack ran for real (not a rollapp channel, or the height is final) and the release is logged,
    or the packet is stored pending with its index entry — and, when it is a refund and not a
    packet-forward, its demand order -/
theorem ackOpen_shape {s s' : St} {c seq ph : Nat} {t e : Bool} (ha : ackOpen s c seq ph t e = .ok (some s')) :
    (c, seq) ∈ s.commits ∧ ∃ x s0 ra p, getSent s c seq = some x ∧ s0 = { s with commits := s.commits.filter (· != (c, seq)) } ∧
      chanRollapp s0 x.chan = .ok ra ∧ p = mkSentPacket s0 x (sentType t) ph (ra.getD []) (!t && e) ∧
      (((ra.isNone || isFinalizedFor s0 ra ph) = true ∧ ∃ s1, BankOnly s0 s1 ∧ s' = logRelease s1 p ra false) ∨
       (¬ (ra.isNone || isFinalizedFor s0 ra ph) = true ∧
        (s' = setPacket (addByAddr s0 p.target (pkey p)) p ∨
         (p.fwd = none ∧ eibcOnRefund (setPacket (addByAddr s0 p.target (pkey p)) p) p = .ok s')))) := by
  unfold ackOpen at ha
  split at ha
  · cases ha
  · rename_i hc
    refine ⟨by simpa using hc, ?_⟩
    split at ha
    · cases ha
    · rename_i x hx
      refine ⟨x, { s with commits := s.commits.filter (· != (c, seq)) }, ?_⟩
      unfold ackAuth at ha
      split at ha
      · cases ha
      · rename_i ra hra
        refine ⟨ra, mkSentPacket _ x (sentType t) ph (ra.getD []) (!t && e), hx, rfl, hra, rfl, ?_⟩
        split at ha
        · rename_i hfin
          left
          unfold ackPass at ha
          split at ha
          · split at ha
            · cases ha
            · rename_i s1 hi
              cases ha
              exact ⟨hfin, s1, bank_icsRefund hi, rfl⟩
          · cases ha
            exact ⟨hfin, _, BankOnly.refl _, rfl⟩
        · rename_i hfin
          right
          unfold ackDelay at ha
          split at ha
          · cases ha
          · split at ha
            · rename_i hrf
              split at ha
              · cases ha
              · rename_i s2 he
                cases ha
                simp only [Bool.and_eq_true, Option.isNone_iff_eq_none] at hrf
                exact ⟨hfin, Or.inr ⟨hrf.2, eibcRefundHandler_ok he⟩⟩
            · cases ha
              exact ⟨hfin, Or.inl rfl⟩

-- packet deletion as one flat record update (in place of the nested `delOrder (delOrder (delByAddr (delPacket …`)

theorem deletePacket_eq (s : St) (p : Packet) : deletePacket s p =
    { s with packets := s.packets.filter (fun q => pkey q != pkey p)
             byAddr := s.byAddr.filter (fun e => !(e.1 == p.target && e.2 == pkey p))
             orders := (s.orders.filter (fun o => !(o.status == .pending && o.id == pendKeyOf p))).filter
                          (fun o => !(o.status == .finalized && o.id == pendKeyOf p)) } := by
  unfold deletePacket delOrder delByAddr delPacket
  rfl

theorem revertIbc_recv (s : St) {p : Packet} (h : (p.ptype == .onRecv) = true) :
    revertIbc s p = { s with receipts := s.receipts.filter (· != (p.chan, p.seq)) } := if_pos h

theorem revertIbc_sent (s : St) {p : Packet} (h : (p.ptype == .onRecv) = false) :
    revertIbc s p = { s with commits := if s.commits.contains (p.chan, p.seq) then s.commits else s.commits ++ [(p.chan, p.seq)],
                             restored := s.restored ++ [((p.chan, p.seq), (restoreTarget p).target)] } :=
  if_neg (h ▸ Bool.false_ne_true)

theorem ackPacket_ok {s : St} {c seq ph : Nat} {t e : Bool} {r : Option St} (h : ackPacket s c seq ph t e = .ok r) :
    ackOpen s c seq ph t e = .ok r := by
  unfold ackPacket at h; split at h
  · cases h
  · exact h

/-- an accepted `MsgTransfer`: coins locked (bank only), the packet recorded as sent under the channel's next
    sequence, committed, and the sequence moved on -/
theorem sendOpen_shape {s s' : St} {a c d amt} (h : sendOpen s a c d amt = .ok s') :
    ∃ b ac, s' =
      { s with bal := b
               accts := ac
               sent := s.sent ++ [{ chan := c, seq := getNextSeq s c, sender := a, denom := d, unescrow := d != 1 + c, amount := amt }]
               commits := s.commits ++ [(c, getNextSeq s c)]
               nextSeq := (c, getNextSeq s c + 1) :: s.nextSeq.filter (·.1 != c) } := by
  unfold sendOpen at h
  split at h
  · cases h
  · split at h
    · cases h
    · split at h
      · cases h
      · cases h
        have hl : CoinsOnly s (lockCoins s a c d amt) := by
          unfold lockCoins
          split
          · exact (coins_debit s _ _ _).trans (coins_credit _ _ _ _)
          · exact coins_debit s _ _ _
        obtain ⟨b, ac, e⟩ := hl
        unfold recordSent
        rw [e]
        exact ⟨b, ac, rfl⟩

/-- Everything a `MsgRecvPacket` can answer, with the state it leaves as one flat update of `s`:
    the channel end is CLOSED; a redelivery (receipt there); an error acknowledgement (the callback's
    writes dropped); `pass` — not a rollapp channel, or the height is final: the transfer stack ran (bank
    only), the release is logged and acknowledged; `forwarded` — the same for the intermediate address of a
    packet-forward, then the transfer out over channel `k`, no acknowledgement; `delayed` — a rollapp packet
    above the finalized height: stored pending with its index entry and its demand order, nothing else. -/
inductive RecvOut (s : St) (c seq ph : Nat) (d : RecvData) : St × RecvRes → Prop
  | closed : RecvOut s c seq ph d (s, .closed)
  | replay : RecvOut s c seq ph d (s, .replay)
  | fail : (c, seq) ∉ s.receipts →
      RecvOut s c seq ph d ({ s with receipts := s.receipts ++ [(c, seq)], acks := s.acks ++ [((c, seq), false)] }, .ackErr)
  | pass (ra : Option Bytes) (tgt : Addr) (b a) : (c, seq) ∉ s.receipts → chanRollapp s c = .ok ra → d.target = some tgt →
      (ra.isNone || isFinalizedFor s ra ph) = true →
      RecvOut s c seq ph d
        ({ s with receipts := s.receipts ++ [(c, seq)], bal := b, accts := a, acks := s.acks ++ [((c, seq), true)],
                  log := s.log ++ [logEntry s (mkRecvPacket s c seq ph (ra.getD []) d tgt) ra false] }, .ackOk)
  | forwarded (ra : Option Bytes) (k : Nat) (b a snt) : (c, seq) ∉ s.receipts → chanRollapp s c = .ok ra →
      (ra.isNone || isFinalizedFor s ra ph) = true →
      RecvOut s c seq ph d
        ({ s with receipts := s.receipts ++ [(c, seq)], bal := b, accts := a, sent := snt,
                  commits := s.commits ++ [(k, getNextSeq s k)], nextSeq := (k, getNextSeq s k + 1) :: s.nextSeq.filter (·.1 != k),
                  log := s.log ++ [logEntry s (mkRecvPacket s c seq ph (ra.getD []) { d with target := some (pfmAddr c), memo := .none } (pfmAddr c)) ra false] },
         .forwarded)
  | delayed (rid : Bytes) (tgt : Addr) (fee price : Int) (p : Packet) (o : Order) : (c, seq) ∉ s.receipts →
      chanRollapp s c = .ok (some rid) → d.target = some tgt → memoFee d.memo = .ok fee →
      calcPrice d.amount fee s.bridgingFee = .ok price → p = mkRecvPacket s c seq ph rid d tgt → o = newOrder s p price fee tgt →
      RecvOut s c seq ph d
        ({ s with receipts := s.receipts ++ [(c, seq)],
                  packets := insertPkt p (s.packets.filter (fun q => pkey q != pkey p)),
                  byAddr := insertAK (tgt, pkey p) s.byAddr,
                  orders := insertOrd o (s.orders.filter (fun q => !(q.status == o.status && q.id == o.id))) }, .async)

/-- `IBCMiddleware.OnRecvPacket` behind the receipt -/
theorem recvAuth_out (s : St) (c seq ph : Nat) (d : RecvData) (hd : (c, seq) ∉ s.receipts) :
    RecvOut s c seq ph d (recvAuth { s with receipts := s.receipts ++ [(c, seq)] } c seq ph d) := by
  have hfail : RecvOut s c seq ph d (recvFail { s with receipts := s.receipts ++ [(c, seq)] } c seq) := .fail hd
  unfold recvAuth
  split
  · exact hfail
  rename_i ra hra
  split
  · exact hfail
  split
  · exact hfail
  rename_i tgt htgt
  split
  · rename_i hfin
    unfold recvPass
    split
    · exact hfail
    · rename_i s1 hi
      obtain ⟨b, a, rfl⟩ := coins_icsRecv hi
      exact .pass ra tgt b a hd hra htgt hfin
  · rename_i hfin
    obtain ⟨rid, rfl⟩ := isSome_of_delayed hfin
    unfold recvDelay
    split
    · exact hfail
    split
    · exact hfail
    · rename_i s2 he
      obtain ⟨fee, price, hfee, hprice, rfl⟩ := eibcOnRecv_ok he
      -- flattened first: matching the nested setters against the flat row by unification alone is slow to check
      simp only [setOrder, setPacket, addByAddr]
      exact .delayed rid tgt fee price (mkRecvPacket s c seq ph rid d tgt) _ hd hra htgt hfee hprice rfl rfl

theorem recvPacket_out (s : St) (c seq ph : Nat) (d : RecvData) : RecvOut s c seq ph d (recvPacket s c seq ph d) := by
  unfold recvPacket
  split
  · exact .closed
  unfold recvOpen
  split
  · exact .replay
  rename_i hc
  have hd : (c, seq) ∉ s.receipts := by simpa using hc
  split
  · rename_i k hk
    -- packet-forward: the inner receive by the intermediate address must answer `.ackOk`, then the transfer out
    unfold recvForward
    have hin := recvAuth_out s c seq ph { d with target := some (pfmAddr c), memo := .none } hd
    split
    · rename_i s1 hr
      rw [hr] at hin
      split
      · rename_i s2 hs
        obtain ⟨b', a', rfl⟩ := sendOpen_shape (sendTransfer_ok hs)
        cases hin with
        | pass ra tgt b a _ hra htgt hpass =>
          cases htgt
          exact .forwarded ra k b' a' _ hd hra hpass
      · exact .fail hd
    · exact .fail hd
  · exact recvAuth_out s c seq ph d hd

theorem setChanClosed_ok {s s' : St} {c : Nat} {b : Bool} (h : setChanClosed s c b = .ok s') : ∃ l, s' = { s with closed := l } := by
  unfold setChanClosed at h; split at h
  · cases h
  · cases h; exact ⟨_, rfl⟩

theorem foldl_preserves {α β : Type} {P : β → Prop} {f : β → α → β} (hf : ∀ b a, P b → P (f b a)) :
    ∀ (l : List α) {b : β}, P b → P (l.foldl f b)
  | [], _, hb => hb
  | a :: l, _, hb => foldl_preserves hf l (hf _ a hb)

/-- a fold over victims stored under distinct keys, each step taking its victim's key out of the store (the
    epoch and hard-fork hooks): what every such step preserves, given that its victim is stored, holds at the end -/
theorem foldl_victims {P : St → Prop} {Q : Packet → Prop} {f : St → Packet → St}
    (hpk : ∀ s p, (f s p).packets = s.packets.filter (fun q => pkey q != pkey p))
    (hf : ∀ s p, P s → p ∈ s.packets → Q p → P (f s p)) :
    ∀ (l : List Packet) {s : St}, P s → (∀ p ∈ l, p ∈ s.packets ∧ Q p) → l.Pairwise (fun a b => pkey a ≠ pkey b) →
      P (l.foldl f s)
  | [], _, h, _, _ => h
  | p :: rest, s, h, hl, hpw => by
    rw [List.pairwise_cons] at hpw
    refine foldl_victims hpk hf rest (hf s p h (hl p List.mem_cons_self).1 (hl p List.mem_cons_self).2)
      (fun q hq => ⟨?_, (hl q (List.mem_cons_of_mem _ hq)).2⟩) hpw.2
    rw [hpk]
    exact List.mem_filter.mpr ⟨(hl q (List.mem_cons_of_mem _ hq)).1, by simpa using (hpw.1 q hq).symm⟩

theorem ofM_elim {P : St → Prop} {s : St} {m : M St} (h : P s) (hm : ∀ s', m = .ok s' → P s') : P (ofM s m).1 := by
  cases m with
  | ok s' => exact hm s' rfl
  | error e => exact h

/-- how `step` wraps an acknowledgement (`t = false`) / a timeout (`t = true`, `e = true`) -/
theorem ackPacket_elim {P : St → Prop} {s : St} {c seq ph : Nat} {t e : Bool} (h : P s)
    (hs : ∀ s', ackOpen s c seq ph t e = .ok (some s') → P s') :
    P (match ackPacket s c seq ph t e with
       | .ok none => (s, Out.replay)
       | .ok (some s') => (s', .ok)
       | .error e => (s, .err e)).1 := by
  split
  · exact h
  · rename_i s' e; exact hs s' (ackPacket_ok e)
  · exact h

end DymVerif.Packets
