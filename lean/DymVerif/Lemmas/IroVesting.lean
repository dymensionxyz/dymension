/-
  Lemmas/IroVesting — `IROVestingPlan.VestedAmt` with the SDK's exact roundings: bounded by the
  amount, monotone in time, and never ahead of the linear schedule (the ratio is truncated).
-/
import DymVerif.Lemmas.IroArith
namespace DymVerif.Iro
open DymVerif

/-- half-even rounding of a non-negative `d = 10^18·q + r`: `q + u` with `u = 0` below the half, `u = 1` above it
    and `q + u` even at the half -/
theorem chopRound_of_nonneg (d : Int) (h : 0 ≤ d) :
    ∃ q r u : Int, d = decP * q + r ∧ 0 ≤ r ∧ r < decP ∧ chopRound d = q + u ∧ 0 ≤ u ∧ u ≤ 1 ∧
      (2 * r < decP → u = 0) ∧ (decP < 2 * r → u = 1) ∧ (2 * r = decP → u = q % 2) := by
  obtain ⟨n, rfl⟩ := Int.eq_ofNat_of_zero_le h
  have hn := Nat.div_add_mod n decPN
  have hr := Nat.mod_lt n (show 0 < decPN by decide)
  simp only [chopRound, Int.natAbs_natCast, Int.not_lt.mpr h, if_false]
  generalize n / decPN = q at *
  generalize n % decPN = r at *
  unfold decP decHalf decPN at *
  refine ⟨q, r, ?_⟩
  split
  · exact ⟨0, by omega⟩
  · split
    · exact ⟨1, by omega⟩
    · split
      · exact ⟨0, by omega⟩
      · exact ⟨1, by omega⟩

theorem chopRound_mono (d d' : Int) (h : 0 ≤ d) (hle : d ≤ d') : chopRound d ≤ chopRound d' := by
  obtain ⟨q, r, u, rfl, hr0, hr, e, hu0, hu1, h1, h2, h3⟩ := chopRound_of_nonneg d h
  obtain ⟨q', r', u', rfl, hr0', hr', e', hu0', hu1', h1', h2', h3'⟩ := chopRound_of_nonneg d' (by omega)
  rw [e, e']
  unfold decP at *
  have hq : q ≤ q' := by omega
  rcases Int.lt_or_eq_of_le hq with hq | rfl
  · omega
  · omega

theorem chopRound_nonneg (d : Int) (h : 0 ≤ d) : 0 ≤ chopRound d := by
  simp only [chopRound, Int.not_lt.mpr h, if_false]
  exact Int.natCast_nonneg _

/-- half-even rounding is at most half a unit above the exact quotient -/
theorem chopRound_le_half (d : Int) (h : 0 ≤ d) : 2 * decP * chopRound d ≤ 2 * d + decP := by
  obtain ⟨q, r, u, rfl, hr0, hr, e, hu0, hu1, h1, h2, h3⟩ := chopRound_of_nonneg d h
  rw [e]
  unfold decP at *
  omega

/-- the raw vesting ratio `NewDec(x).QuoTruncate(NewDec(y))` -/
def ratio (x y : Int) : Int := ((Dec.ofInt x).quoTruncate (Dec.ofInt y)).raw

theorem ratio_eq (x y : Int) : ratio x y = (x * decP).tdiv y := by
  simp only [ratio, Dec.quoTruncate, Dec.ofInt]
  exact Int.mul_tdiv_mul_of_pos_left _ _ decP_pos

theorem ratio_eq_ediv (x y : Int) (hx : 0 ≤ x) : ratio x y = x * decP / y := by
  rw [ratio_eq, Int.tdiv_eq_ediv_of_nonneg (Int.mul_nonneg hx (Int.le_of_lt decP_pos))]

/-- the truncated ratio is the floor of `x·10^18 / y` -/
theorem ratio_floor (x y : Int) (hx : 0 ≤ x) (hy : 0 < y) :
    0 ≤ ratio x y ∧ y * ratio x y ≤ x * decP := by
  rw [ratio_eq_ediv x y hx]
  exact ⟨Int.ediv_nonneg (Int.mul_nonneg hx (Int.le_of_lt decP_pos)) (Int.le_of_lt hy),
    Int.mul_ediv_self_le (Int.ne_of_gt hy)⟩

theorem ratio_mono (x x' y : Int) (hx : 0 ≤ x) (hxx : x ≤ x') (hy : 0 < y) : ratio x y ≤ ratio x' y := by
  rw [ratio_eq_ediv x y hx, ratio_eq_ediv x' y (Int.le_trans hx hxx)]
  exact Int.ediv_le_ediv hy (Int.mul_le_mul_of_nonneg_right hxx (Int.le_of_lt decP_pos))

theorem ratio_le_one (x y : Int) (hx : 0 ≤ x) (hxy : x ≤ y) (hy : 0 < y) : ratio x y ≤ decP := by
  rw [ratio_eq_ediv x y hx]
  exact Int.ediv_le_of_le_mul hy (Int.mul_comm decP y ▸ Int.mul_le_mul_of_nonneg_right hxy (Int.le_of_lt decP_pos))

theorem vestedTotal_eq (v : Vest) (now : Int) :
    vestedTotal v now = (ratio (now - v.start) (v.stop - v.start) * v.amount).tdiv decP := by
  simp [vestedTotal, ratio, Dec.truncateInt, chopTrunc, mul_ofInt_raw]

theorem vestedTotal_eq_ediv (v : Vest) (now : Int) (ha : 0 ≤ v.amount) (h1 : v.start ≤ now) (hy : v.start < v.stop) :
    vestedTotal v now = ratio (now - v.start) (v.stop - v.start) * v.amount / decP := by
  rw [vestedTotal_eq, Int.tdiv_eq_ediv_of_nonneg
    (Int.mul_nonneg (ratio_floor _ _ (Int.sub_nonneg_of_le h1) (Int.sub_pos_of_lt hy)).1 ha)]

theorem vestedTotal_bounds (v : Vest) (now : Int) (ha : 0 ≤ v.amount) (h1 : v.start ≤ now) (h2 : now ≤ v.stop)
    (hy : v.start < v.stop) : 0 ≤ vestedTotal v now ∧ vestedTotal v now ≤ v.amount := by
  have hx := Int.sub_nonneg_of_le h1
  have hy' := Int.sub_pos_of_lt hy
  rw [vestedTotal_eq, Int.mul_comm]
  exact tdiv_decP_mul_bounds ha (ratio_floor _ _ hx hy').1 (ratio_le_one _ _ hx (Int.sub_le_sub_right h2 _) hy')

theorem vestedTotal_mono (v : Vest) (now now' : Int) (ha : 0 ≤ v.amount) (h1 : v.start ≤ now) (h2 : now ≤ now')
    (hy : v.start < v.stop) : vestedTotal v now ≤ vestedTotal v now' := by
  rw [vestedTotal_eq_ediv v now ha h1 hy, vestedTotal_eq_ediv v now' ha (Int.le_trans h1 h2) hy]
  exact Int.ediv_le_ediv decP_pos (Int.mul_le_mul_of_nonneg_right
    (ratio_mono _ _ _ (Int.sub_nonneg_of_le h1) (Int.sub_le_sub_right h2 _) (Int.sub_pos_of_lt hy)) ha)

/-- **never ahead of the linear schedule**, exactly: with x = now − start, y = stop − start,
    `y · vested ≤ amount · x` -/
theorem vestedTotal_linear (v : Vest) (now : Int) (ha : 0 ≤ v.amount) (h1 : v.start ≤ now) (hy : v.start < v.stop) :
    (v.stop - v.start) * vestedTotal v now ≤ v.amount * (now - v.start) := by
  have hy' := Int.sub_pos_of_lt hy
  obtain ⟨-, hfl⟩ := ratio_floor (now - v.start) (v.stop - v.start) (Int.sub_nonneg_of_le h1) hy'
  rw [vestedTotal_eq_ediv v now ha h1 hy]
  generalize ratio (now - v.start) (v.stop - v.start) = r at *
  generalize v.stop - v.start = y at *
  generalize now - v.start = x at *
  -- 10^18·(y·w) ≤ y·(r·A) = (y·r)·A ≤ (x·10^18)·A  for the floor w of r·A/10^18
  apply Int.le_of_mul_le_mul_left _ decP_pos
  calc decP * (y * (r * v.amount / decP))
      = y * (decP * (r * v.amount / decP)) := Int.mul_left_comm ..
    _ ≤ y * (r * v.amount) := Int.mul_le_mul_of_nonneg_left (Int.mul_ediv_self_le (Int.ne_of_gt decP_pos)) (Int.le_of_lt hy')
    _ = y * r * v.amount := (Int.mul_assoc ..).symm
    _ ≤ x * decP * v.amount := Int.mul_le_mul_of_nonneg_right hfl ha
    _ = decP * (v.amount * x) := by ac_rfl

end DymVerif.Iro
