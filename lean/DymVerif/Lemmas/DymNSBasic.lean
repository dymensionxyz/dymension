/-
  Lemmas/DymNSBasic — association maps, sums over them, reverse-lookup records, and what it means for
  such a record to be the image of a map under a list of keys per entry (helpers for Props/C17).
-/
import DymVerif.Model.DymNS
namespace DymVerif.DymNS

namespace AMap
variable {κ ν : Type} [DecidableEq κ]

@[simp] theorem get_nil (k : κ) : get ([] : AMap κ ν) k = none := rfl

theorem get_set (m : AMap κ ν) (k k' : κ) (v : ν) :
    get (set m k v) k' = if k' = k then some v else get m k' := by
  induction m with
  | nil => simp [set, get]
  | cons e m ih =>
    obtain ⟨k0, v0⟩ := e
    by_cases h : k = k0
    · subst h
      by_cases h' : k' = k <;> simp [set, get, h']
    · by_cases h' : k' = k0
      · subst h'
        have : ¬ k' = k := fun e => h e.symm
        simp [set, get, h, this]
      · simp [set, get, h, h', ih]

theorem get_del (m : AMap κ ν) (k k' : κ) :
    get (del m k) k' = if k' = k then none else get m k' := by
  induction m with
  | nil => simp [del, get]
  | cons e m ih =>
    obtain ⟨k0, v0⟩ := e
    by_cases h : k = k0
    · subst h
      by_cases h' : k' = k
      · subst h'; simp [del, ih]
      · simp [del, get, h', ih]
    · by_cases h' : k' = k0
      · subst h'
        have : ¬ k' = k := fun e => h e.symm
        simp [del, get, h, this]
      · simp [del, get, h, h', ih]

@[simp] theorem get_set_self (m : AMap κ ν) (k : κ) (v : ν) : get (set m k v) k = some v := by
  simp [get_set]

@[simp] theorem get_del_self (m : AMap κ ν) (k : κ) : get (del m k) k = none := by
  simp [get_del]

def NoDupKeys (m : AMap κ ν) : Prop := (m.map (·.1)).Nodup

theorem keys_del (m : AMap κ ν) (k : κ) : (del m k).map (·.1) = (m.map (·.1)).filter (· ≠ k) := by
  induction m with
  | nil => rfl
  | cons e m ih =>
    by_cases h : k = e.1
    · subst h; simp [del, ih]
    · simp [del, h, ih, Ne.symm h]

theorem noDup_del (m : AMap κ ν) (k : κ) (h : NoDupKeys m) : NoDupKeys (del m k) := by
  rw [NoDupKeys, keys_del]
  exact h.sublist List.filter_sublist

theorem keys_set (m : AMap κ ν) (k : κ) (v : ν) :
    (set m k v).map (·.1) = if k ∈ m.map (·.1) then m.map (·.1) else m.map (·.1) ++ [k] := by
  induction m with
  | nil => simp [set]
  | cons e m ih =>
    by_cases h : k = e.1
    · simp [set, h]
    · simp only [set, h, if_false, List.map_cons, ih, List.mem_cons, false_or]
      split <;> rfl

theorem noDup_set (m : AMap κ ν) (k : κ) (v : ν) (h : NoDupKeys m) : NoDupKeys (set m k v) := by
  rw [NoDupKeys, keys_set]
  split
  · exact h
  · rename_i hk
    simp only [List.nodup_append, List.nodup_cons, List.not_mem_nil, not_false_eq_true, List.nodup_nil, and_self,
      List.mem_singleton, true_and]
    exact ⟨h, fun a ha b hb => fun e => hk (hb ▸ e ▸ ha)⟩

/-- sum of a measure over the values -/
def vsum (f : ν → Nat) (m : AMap κ ν) : Nat := (m.map (fun e => f e.2)).sum

def fOpt (f : ν → Nat) : Option ν → Nat
  | some v => f v
  | none => 0

@[simp] theorem vsum_nil (f : ν → Nat) : vsum f ([] : AMap κ ν) = 0 := rfl

@[simp] theorem vsum_cons (f : ν → Nat) (e : κ × ν) (m : AMap κ ν) : vsum f (e :: m) = f e.2 + vsum f m := by
  simp [vsum]

theorem get_none_of_not_mem (m : AMap κ ν) (k : κ) (h : k ∉ m.map (·.1)) : get m k = none := by
  induction m with
  | nil => rfl
  | cons e m ih =>
    obtain ⟨k0, v0⟩ := e
    simp only [List.map_cons, List.mem_cons, not_or] at h
    simp [get, h.1, ih h.2]

theorem vsum_del_of_not_mem (f : ν → Nat) (m : AMap κ ν) (k : κ) (h : k ∉ m.map (·.1)) :
    vsum f (del m k) = vsum f m := by
  induction m with
  | nil => rfl
  | cons e m ih =>
    obtain ⟨k0, v0⟩ := e
    simp only [List.map_cons, List.mem_cons, not_or] at h
    simp [del, h.1, ih h.2]

/-- replacing the value of `k`: new total + old value = old total + new value (no hypothesis: `set`
    replaces exactly the occurrence `get` reads) -/
theorem vsum_set (f : ν → Nat) (m : AMap κ ν) (k : κ) (v : ν) :
    vsum f (set m k v) + fOpt f (get m k) = vsum f m + f v := by
  induction m with
  | nil => simp [set, get, fOpt]
  | cons e m ih =>
    obtain ⟨k0, v0⟩ := e
    by_cases hk : k = k0
    · subst hk
      simp [set, get, fOpt]; omega
    · simp only [set, hk, if_false, get, vsum_cons]
      omega

theorem vsum_del (f : ν → Nat) (m : AMap κ ν) (k : κ) (h : NoDupKeys m) :
    vsum f (del m k) + fOpt f (get m k) = vsum f m := by
  induction m with
  | nil => simp [del, get, fOpt]
  | cons e m ih =>
    obtain ⟨k0, v0⟩ := e
    simp only [NoDupKeys, List.map_cons, List.nodup_cons] at h
    by_cases hk : k = k0
    · subst hk
      simp only [del, if_true, get, fOpt, vsum_cons]
      rw [vsum_del_of_not_mem f m k h.1]; omega
    · simp only [del, hk, if_false, get, vsum_cons]
      have := ih h.2
      omega

theorem get_mapVal (m : AMap κ ν) (f : ν → ν) (k : κ) :
    get (m.map (fun e => (e.1, f e.2))) k = (get m k).map f := by
  induction m with
  | nil => rfl
  | cons e m ih =>
    obtain ⟨k0, v0⟩ := e
    by_cases h : k = k0
    · simp [get, h]
    · simp [get, h, ih]

end AMap

namespace Idx
variable {κ : Type} [DecidableEq κ]

theorem lookup_set (i : Idx κ) (k k' : κ) (l : List Nat) :
    lookup (AMap.set i k l) k' = if k' = k then l else lookup i k' := by
  unfold lookup; rw [AMap.get_set]; split <;> rfl

theorem lookup_del (i : Idx κ) (k k' : κ) :
    lookup (AMap.del i k) k' = if k' = k then [] else lookup i k' := by
  unfold lookup; rw [AMap.get_del]; split <;> rfl

theorem mem_add (i : Idx κ) (k k' : κ) (n n' : Nat) :
    n' ∈ lookup (add i k n) k' ↔ n' ∈ lookup i k' ∨ (k' = k ∧ n' = n) := by
  unfold add
  cases hg : AMap.get i k with
  | none =>
    simp only [lookup_set]
    by_cases hk : k' = k
    · subst hk; simp [lookup, hg]
    · simp [hk]
  | some l =>
    by_cases hn : n ∈ l
    · simp only [hn, if_true]
      constructor
      · exact Or.inl
      · rintro (h | ⟨hk, hn'⟩)
        · exact h
        · subst hk; subst hn'; simp [lookup, hg, hn]
    · simp only [hn, if_false, lookup_set]
      by_cases hk : k' = k
      · subst hk; simp [lookup, hg]
      · simp [hk]

theorem lookup_remove (i : Idx κ) (k k' : κ) (n : Nat) :
    lookup (remove i k n) k' = if k' = k then (lookup i k).filter (· ≠ n) else lookup i k' := by
  unfold remove
  split
  · rename_i hg
    split
    · rename_i h; subst h; simp [lookup, hg]
    · rfl
  · rename_i l hg
    have hl : lookup i k = l := by simp [lookup, hg]
    simp only
    split
    · rename_i hlen
      rw [hl, List.filter_eq_self.mpr (List.length_filter_eq_length_iff.mp hlen)]
      split
      · rename_i h; subst h; exact hl
      · rfl
    · split
      · rename_i hnil
        rw [lookup_del, hl, hnil]
      · rw [lookup_set, hl]

/-- `add` and `remove` on the inputs their callers' guards allow: the id is new under the key / listed under it -/
theorem add_of_not_mem {i : Idx κ} {k : κ} {n : Nat} (h : n ∉ lookup i k) :
    add i k n = AMap.set i k (lookup i k ++ [n]) := by
  unfold add lookup at *
  cases hg : AMap.get i k with
  | none => rfl
  | some l => rw [hg] at h; simp only [Option.getD_some] at h ⊢; rw [if_neg h]

theorem remove_of_mem {i : Idx κ} {k : κ} {n : Nat} (h : n ∈ lookup i k) :
    remove i k n = if (lookup i k).filter (· ≠ n) = [] then AMap.del i k
      else AMap.set i k ((lookup i k).filter (· ≠ n)) := by
  unfold remove lookup at *
  cases hg : AMap.get i k with
  | none => rw [hg] at h; cases h
  | some l =>
    rw [hg] at h
    simp only [Option.getD_some] at h ⊢
    rw [if_neg]
    intro e
    simpa using List.length_filter_eq_length_iff.mp e n h

theorem mem_remove (i : Idx κ) (k k' : κ) (n n' : Nat) :
    n' ∈ lookup (remove i k n) k' ↔ n' ∈ lookup i k' ∧ ¬ (k' = k ∧ n' = n) := by
  rw [lookup_remove]
  split
  · rename_i h; subst h; simp [List.mem_filter]
  · rename_i h; simp [h]
theorem mem_foldl_add (l : List κ) (i : Idx κ) (k' : κ) (n n' : Nat) :
    n' ∈ lookup (l.foldl (fun i a => i.add a n) i) k' ↔ n' ∈ lookup i k' ∨ (k' ∈ l ∧ n' = n) := by
  induction l generalizing i with
  | nil => simp
  | cons a l ih =>
    simp only [List.foldl_cons, ih, mem_add, List.mem_cons]
    constructor
    · rintro ((h | ⟨h1, h2⟩) | ⟨h1, h2⟩)
      · exact Or.inl h
      · exact Or.inr ⟨Or.inl h1, h2⟩
      · exact Or.inr ⟨Or.inr h1, h2⟩
    · rintro (h | ⟨h1 | h1, h2⟩)
      · exact Or.inl (Or.inl h)
      · exact Or.inl (Or.inr ⟨h1, h2⟩)
      · exact Or.inr ⟨h1, h2⟩

theorem mem_foldl_remove (l : List κ) (i : Idx κ) (k' : κ) (n n' : Nat) :
    n' ∈ lookup (l.foldl (fun i a => i.remove a n) i) k' ↔ n' ∈ lookup i k' ∧ ¬ (k' ∈ l ∧ n' = n) := by
  induction l generalizing i with
  | nil => simp
  | cons a l ih =>
    simp only [List.foldl_cons, ih, mem_remove, List.mem_cons]
    constructor
    · rintro ⟨⟨h, h1⟩, h2⟩
      refine ⟨h, ?_⟩
      rintro ⟨h3 | h3, h4⟩
      · exact h1 ⟨h3, h4⟩
      · exact h2 ⟨h3, h4⟩
    · rintro ⟨h, h1⟩
      exact ⟨⟨h, fun ⟨h3, h4⟩ => h1 ⟨Or.inl h3, h4⟩⟩, fun ⟨h3, h4⟩ => h1 ⟨Or.inr h3, h4⟩⟩

/-! ### an index as the image of a record map -/

section
variable {ν : Type} {i : Idx κ} {m : AMap Nat ν} {keys : ν → List κ} {n : Nat}

/-- `i` lists `n` under `k` exactly when `n` has a record in `m` with `k` among its keys -/
def Images (i : Idx κ) (m : AMap Nat ν) (keys : ν → List κ) : Prop :=
  ∀ k n, n ∈ lookup i k ↔ ∃ v, AMap.get m n = some v ∧ k ∈ keys v

/-- the same for every id but `n`, which is listed nowhere -/
def ImagesBut (i : Idx κ) (m : AMap Nat ν) (keys : ν → List κ) (n : Nat) : Prop :=
  ∀ k n', n' ∈ lookup i k ↔ n' ≠ n ∧ ∃ v, AMap.get m n' = some v ∧ k ∈ keys v

theorem Images.but_of_none (h : Images i m keys) (hn : AMap.get m n = none) : ImagesBut i m keys n := by
  intro k n'
  rw [h]
  constructor
  · rintro ⟨v, hv, hk⟩
    exact ⟨fun e => (by subst e; rw [hn] at hv; cases hv), v, hv, hk⟩
  · exact fun h => h.2

/-- removing `n` under all keys of its record leaves it listed nowhere -/
theorem Images.removeAll {v : ν} (h : Images i m keys) (hv : AMap.get m n = some v) :
    ImagesBut ((keys v).foldl (fun i a => i.remove a n) i) m keys n := by
  intro k n'
  rw [mem_foldl_remove, h]
  constructor
  · rintro ⟨⟨v', hv', hk⟩, hne⟩
    refine ⟨fun e => ?_, v', hv', hk⟩
    subst e
    rw [hv] at hv'; injection hv' with e; subst e
    exact hne ⟨hk, rfl⟩
  · rintro ⟨hne, v', hv', hk⟩
    exact ⟨⟨v', hv', hk⟩, fun e => hne e.2⟩

/-- writing a record for `n` and adding `n` under all its keys -/
theorem ImagesBut.addAll (h : ImagesBut i m keys n) (v : ν) :
    Images ((keys v).foldl (fun i a => i.add a n) i) (AMap.set m n v) keys := by
  intro k n'
  rw [mem_foldl_add, h, AMap.get_set]
  by_cases hn : n' = n
  · subst hn; simp
  · simp [hn]

theorem ImagesBut.del (h : ImagesBut i m keys n) : Images i (AMap.del m n) keys := by
  intro k n'
  rw [h, AMap.get_del]
  by_cases hn : n' = n <;> simp [hn]

/-- rewriting every record without changing its keys -/
theorem Images.map_vals {f : ν → ν} (h : Images i m keys) (hk : ∀ v, keys (f v) = keys v) :
    Images i (m.map (fun e => (e.1, f e.2))) keys := by
  intro k n
  rw [h, AMap.get_mapVal]
  cases AMap.get m n with
  | none => simp
  | some v => simp [hk]

/-- rewriting a record without changing its keys -/
theorem Images.set_same {v0 v : ν} (h : Images i m keys) (hv : AMap.get m n = some v0) (hk : keys v = keys v0) :
    Images i (AMap.set m n v) keys := by
  intro k n'
  rw [h, AMap.get_set]
  by_cases hn : n' = n
  · subst hn; simp [hv, hk]
  · simp [hn]

end

end Idx

end DymVerif.DymNS
