/-
  Lemmas/DymNSBoIdx — the three buy-order reverse indexes (by buyer, by Dym-Name, by alias) are
  exactly the image of the open buy orders.
-/
import DymVerif.Lemmas.DymNSFrame
import DymVerif.Lemmas.DymNSInvRun
namespace DymVerif.DymNS
open AMap

structure BoIdxOK (s : State) : Prop where
  buyer : ∀ a id, id ∈ s.boBuyer.lookup a ↔ ∃ bo, AMap.get s.bos id = some bo ∧ bo.buyer = a
  name : ∀ n id, id ∈ s.boName.lookup n ↔ ∃ bo, AMap.get s.bos id = some bo ∧ bo.isAlias = false ∧ bo.asset = n
  alias : ∀ l id, id ∈ s.boAlias.lookup l ↔ ∃ bo, AMap.get s.bos id = some bo ∧ bo.isAlias = true ∧ bo.asset = l

/-- the key lists of the three indexes -/
def buyerKeys (bo : BuyOrder) : List Acct := [bo.buyer]
def nameKeys (bo : BuyOrder) : List Name := if bo.isAlias then [] else [bo.asset]
def aliasKeys (bo : BuyOrder) : List AliasId := if bo.isAlias then [bo.asset] else []

/-- the three indexes are the images of the order book under their key lists -/
def BoPartOK (p : AMap Nat BuyOrder × Idx Acct × Idx Name × Idx AliasId) : Prop :=
  Idx.Images p.2.1 p.1 buyerKeys ∧ Idx.Images p.2.2.1 p.1 nameKeys ∧ Idx.Images p.2.2.2 p.1 aliasKeys

theorem boIdxOK_iff (s : State) : BoIdxOK s ↔ BoPartOK (boPart s) := by
  have hb : ∀ (bo : BuyOrder) a, a ∈ buyerKeys bo ↔ bo.buyer = a := by simp [buyerKeys, eq_comm]
  have hn : ∀ (bo : BuyOrder) n, n ∈ nameKeys bo ↔ bo.isAlias = false ∧ bo.asset = n := by
    intro bo n; cases h : bo.isAlias <;> simp [nameKeys, h, eq_comm]
  have ha : ∀ (bo : BuyOrder) l, l ∈ aliasKeys bo ↔ bo.isAlias = true ∧ bo.asset = l := by
    intro bo l; cases h : bo.isAlias <;> simp [aliasKeys, h, eq_comm]
  simp only [BoPartOK, Idx.Images, boPart, hb, hn, ha]
  exact ⟨fun h => ⟨h.buyer, h.name, h.alias⟩, fun h => ⟨h.1, h.2.1, h.2.2⟩⟩

theorem boIdxOK_congr {s t : State} (h : boPart t = boPart s) (hs : BoIdxOK s) : BoIdxOK t :=
  (boIdxOK_iff t).mpr (h ▸ (boIdxOK_iff s).mp hs)

theorem removeBO_boIdxOK {s : State} {id : Nat} {bo : BuyOrder} (hs : BoIdxOK s) (hg : AMap.get s.bos id = some bo) :
    BoIdxOK (removeBO s id bo) := by
  have e : boPart (removeBO s id bo) = (AMap.del s.bos id, (buyerKeys bo).foldl (fun i k => i.remove k id) s.boBuyer,
      (nameKeys bo).foldl (fun i k => i.remove k id) s.boName, (aliasKeys bo).foldl (fun i k => i.remove k id) s.boAlias) := by
    unfold removeBO boPart nameKeys aliasKeys
    cases bo.isAlias <;> rfl
  have ⟨a, b, c⟩ := (boIdxOK_iff s).mp hs
  rw [boIdxOK_iff, e]
  exact ⟨(a.removeAll hg).del, (b.removeAll hg).del, (c.removeAll hg).del⟩

theorem removeBO_paid_boIdxOK {s : State} {id : Nat} {bo : BuyOrder} (x : Acct) (amt : Nat) (hs : BoIdxOK s)
    (hg : AMap.get s.bos id = some bo) : BoIdxOK (removeBO (fromModuleT s x amt) id bo) :=
  removeBO_boIdxOK (s := fromModuleT s x amt) (boIdxOK_congr (by rfl) hs) hg

/-- rewriting an order without touching buyer, type and asset -/
theorem setBO_same_boIdxOK {s : State} {id : Nat} {bo bo' : BuyOrder} (hs : BoIdxOK s) (hg : AMap.get s.bos id = some bo)
    (h1 : bo'.buyer = bo.buyer) (h2 : bo'.isAlias = bo.isAlias) (h3 : bo'.asset = bo.asset) :
    BoIdxOK { s with bos := AMap.set s.bos id bo' } :=
  have ⟨a, b, c⟩ := (boIdxOK_iff s).mp hs
  (boIdxOK_iff _).mpr ⟨a.set_same hg (by rw [buyerKeys, h1]; rfl), b.set_same hg (by rw [nameKeys, h2, h3]; rfl),
    c.set_same hg (by rw [aliasKeys, h2, h3]; rfl)⟩

theorem placedBO_boIdxOK {s s' : State} {isAlias : Bool} {a : Acct} {asset : Nat} {dst : Chain} {offer : Nat}
    {cont : Option (Bool × Nat)} (hI : Inv s) (hs : BoIdxOK s) (h : PlacedBO s isAlias a asset dst offer s' cont) :
    BoIdxOK s' := by
  rcases h with ⟨_⟩ | ⟨pfx, id, bo, hg, _, _, _, _, _⟩
  · have hnone : AMap.get s.bos (s.boCount + 1) = none := by
      cases hg : AMap.get s.bos (s.boCount + 1) with
      | none => rfl
      | some b => have := hI.boK _ _ hg; omega
    have e : ∀ bo : BuyOrder, bo = ⟨isAlias, asset, dst, a, offer, 0⟩ → boPart (newBOT s isAlias a asset dst offer) =
        (AMap.set s.bos (s.boCount + 1) bo, (buyerKeys bo).foldl (fun i k => i.add k (s.boCount + 1)) s.boBuyer,
         (nameKeys bo).foldl (fun i k => i.add k (s.boCount + 1)) s.boName,
         (aliasKeys bo).foldl (fun i k => i.add k (s.boCount + 1)) s.boAlias) := by
      rintro _ rfl
      unfold newBOT toModuleT boPart nameKeys aliasKeys
      cases isAlias <;> rfl
    have ⟨x, y, z⟩ := (boIdxOK_iff s).mp hs
    rw [boIdxOK_iff, e _ rfl]
    exact ⟨(x.but_of_none hnone).addAll _, (y.but_of_none hnone).addAll _, (z.but_of_none hnone).addAll _⟩
  · exact boIdxOK_congr (by rfl) (setBO_same_boIdxOK (bo' := { bo with offer := offer }) hs hg rfl rfl rfl)

theorem start_boIdxOK (p : Params) (t : Nat) : BoIdxOK (State.start p t) := by
  refine ⟨fun a id => ?_, fun n id => ?_, fun l id => ?_⟩ <;> simp [State.start, State.init, Idx.lookup]

theorem exec_boIdxOK {s s' : State} {op : Op} (hI : Inv s) (hs : BoIdxOK s) (h : exec s op = .ok s') : BoIdxOK s' := by
  cases exec_step h with
  | offerName _ _ _ _ _ _ _ hp | offerAlias _ _ _ _ _ _ _ _ hp => exact placedBO_boIdxOK hI hs hp
  | cancelOffer _ _ hg => exact removeBO_paid_boIdxOK _ _ hs hg
  | acceptAlias _ _ hg => exact boIdxOK_congr (by rfl) (removeBO_paid_boIdxOK _ _ hs hg)
  | acceptName _ _ hg => exact boIdxOK_congr (far_and (farPart_replaceNameT _ _ _)).1 (removeBO_paid_boIdxOK _ _ hs hg)
  | counter _ _ _ _ hg => exact setBO_same_boIdxOK hs hg rfl rfl rfl
  | _ => exact boIdxOK_congr (exec_frames h).2.1 hs

theorem run_boIdxOK {s : State} (ops : List Op) (hI : Inv s) (hs : BoIdxOK s) : BoIdxOK (run s ops) :=
  run_induct (Q := fun _ => True) (fun hI hs _ h => exec_boIdxOK hI hs h) ops hI hs (fun _ _ => trivial)

end DymVerif.DymNS
