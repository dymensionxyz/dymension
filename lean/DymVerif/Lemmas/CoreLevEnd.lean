/-
  Lemmas/CoreLevEnd — the block end seen from one rollapp record (event not due / due) and from one
  sequencer record (which records it can rewrite), and the facts about reachable states the property
  theorems of C08 are assembled from.
-/
import DymVerif.Lemmas.CoreLevSched
import DymVerif.Lemmas.CoreLevOwn
namespace DymVerif.Core.LevNs

/-- the block end of a height at which the rollapp's event is not due leaves its liveness view
    alone, and (if its proposer proposes for no other rollapp) the proposer's record too -/
theorem endBlock_not_due {s : St} {f : List (Nat × Nat)} {ra : Nat} {r : Rollapp} (hl : Lev s) (hc : Cust s)
    (hg : getRa s ra = some r) (hne : r.evH ≠ s.h) :
    (∃ r', getRa (endBlock s f) ra = some r' ∧ r'.evH = r.evH ∧ r'.cdStart = r.cdStart ∧ r'.proposer = r.proposer) ∧
    (∀ a, Uniq s a ra → getSeq (endBlock s f) a = getSeq s a) := by
  have hm : (s.h, ra) ∉ s.lev := fun hm => hne (hl.ev_height hg hm rfl).symm
  refine ⟨?_, fun a hu => endBlock_spared f hl hc hu (fun h => hm h.1)⟩
  have := endBlock_liv f hl hc ra
  rw [if_neg hm, hg] at this
  exact map_liv_some this

/-- the block end of the height of the rollapp's event reschedules it from the current height;
    an (exclusive) real proposer is slashed once -/
theorem endBlock_due {s : St} {f : List (Nat × Nat)} {ra : Nat} {r : Rollapp} (hl : Lev s) (hc : Cust s)
    (hg : getRa s ra = some r) (hm : (s.h, ra) ∈ s.lev) :
    (∃ r', getRa (endBlock s f) ra = some r' ∧
      r'.evH = nextSlashHeight s.p.lsBlocks s.p.lsInterval s.h r.cdStart ∧ r'.cdStart = r.cdStart ∧
      r'.proposer = r.proposer) ∧
    (∀ a q, Uniq s a ra → r.proposer = some a → getSeq s a = some q →
      getSeq (endBlock s f) a = some (slashOnce s.sqp q)) := by
  refine ⟨?_, fun a q hu hp hq => endBlock_slashed f hl hc hu hq hm ⟨r, hg, hp⟩⟩
  have := endBlock_liv f hl hc ra
  rw [if_pos hm, hg] at this
  exact map_liv_some this

/-- **the records a block end rewrites**: in a state with the event/record agreement (`Lev`), backed
    bonds (`Cust`), role ownership (`OwnN`) and a positive height, a sequencer record that differs
    after `endBlock` belongs to the proposer of a rollapp whose liveness event is due now, and the
    new record is the old one after exactly one liveness slash -/
theorem endBlock_changed_record {s : St} {f : List (Nat × Nat)} {a : Addr} {q q' : Seq}
    (hl : Lev s) (hc : Cust s) (ho : OwnN s) (hpos : 1 ≤ s.h)
    (hq : getSeq s a = some q) (hq' : getSeq (endBlock s f) a = some q') (hne : q' ≠ q) :
    ∃ ra r, getRa s ra = some r ∧ r.proposer = some a ∧ r.evH = s.h ∧ q' = slashOnce s.sqp q := by
  by_cases hp : ∃ ra, Proposes s a ra
  · obtain ⟨ra, r, hg, hpa⟩ := hp
    have hu : Uniq s a ra := ho.uniq hg hpa
    by_cases hm : (s.h, ra) ∈ s.lev
    · rw [endBlock_slashed f hl hc hu hq hm ⟨r, hg, hpa⟩] at hq'
      exact ⟨ra, r, hg, hpa, (due_iff hl hpos hg).1 hm, (Option.some.inj hq').symm⟩
    · rw [endBlock_spared f hl hc hu (fun h => hm h.1), hq] at hq'
      exact absurd (Option.some.inj hq').symm hne
  · -- `a` proposes for no rollapp at all, a fortiori for none other than rollapp 0
    rw [endBlock_spared (ra := 0) f hl hc (fun id r hg hpa => absurd ⟨id, r, hg, hpa⟩ hp) (fun h => hp ⟨0, h.2⟩), hq] at hq'
    exact absurd (Option.some.inj hq').symm hne

/-- inside the first window after the countdown start the rollapp's event cannot be due -/
theorem Grid.not_due {s : St} (h : Grid s) {ra : Nat} {r : Rollapp} (hg : getRa s ra = some r)
    (hw : s.h < r.cdStart + s.p.lsBlocks) : r.evH ≠ s.h := by
  have := h.hpos
  rcases h.window (getRa_mem hg) with h1 | h1 <;> omega

theorem run_append (p : Params) (ops ops' : List Op) :
    run p (ops ++ ops') = ops'.foldl (fun s o => (step s o).1) (run p ops) := by
  unfold run; rw [List.foldl_append]

end DymVerif.Core.LevNs
