/-
  Lemmas/IncentBound — a stream never hands out more than its coins (after fixes D1, D2; D3 not applied — upcoming streams are `Fresh`, so activation at any epoch start keeps the bound;
  for histories without re-targeting proposals, `Op.noRetarget`, and with fewer than 2^64-1 streams):
  the per-stream invariant `distributed + pending shares of this epoch + (remaining epochs - 1) · (shares
  of one epoch) ≤ coins`, its preservation by the paged distribution (the accounting of a pass, Lemmas/IncentPass,
  carried to the stream store: `strDistribute_facts`) and by epoch ends / starts; then the full invariant `Inv` of
  M-Incent (gauge side, stream structure, this bound, static facts) with `step_inv` and `run_inv`.
-/
import DymVerif.Lemmas.IncentPass
namespace DymVerif.Incent
open DymVerif Coins

/-! ### what `saveStreams` leaves in the store, exactly -/

theorem atEpochEnd_start (st : Stream) : st.atEpochEnd.start = st.start := by unfold Stream.atEpochEnd; split <;> rfl

/-! ### the state invariant -/

def ptrOfEpoch (s : State) (e : Nat) : Pointer := s.ptrs.getD e Pointer.last

/-- a stream's bound: while active, what it has handed out, plus what is still pending in this epoch, plus
    a full round of shares for every later epoch, fits into its coins -/
def SBst (s : State) (st : Stream) (i : Nat) : Prop :=
  if st.id ∈ s.active.ids then
    amt st.distributed i + pendId (ptrOfEpoch s st.epochId) st i + (st.numEpochs - st.filled - 1) * sharesOf st st.recs i ≤ amt st.coins i
  else amt st.distributed i ≤ amt st.coins i

def SB (s : State) : Prop := ∀ st ∈ s.streams, ∀ i, SBst s st i

/-- static facts about every stream: total weight is the sum of the weights, records sorted by gauge id -/
structure SStat (s : State) : Prop where
  tw : ∀ st ∈ s.streams, st.totalWeight = totalWeightOf st.recs
  recs : ∀ st ∈ s.streams, StrictInc (st.recs.map (·.gauge))

/-- an upcoming stream is still as `CreateStream` stored it -/
def Fresh (s : State) : Prop :=
  ∀ st ∈ s.streams, st.id ∈ s.upcoming.ids →
    st.distributed = [] ∧ st.filled = 0 ∧ st.ecEmpty = false ∧ st.epochCoins = Coins.quo st.coins st.numEpochs ∧ st.numEpochs ≠ 0

theorem Fresh_congr {s s' : State} (h1 : s'.streams = s.streams) (h2 : s'.upcoming = s.upcoming) (h : Fresh s) : Fresh s' := by
  intro st hm hu; rw [h1] at hm; rw [h2] at hu; exact h st hm hu

theorem SB_noOver (s : State) (h : SB s) : NoOver s.streams := by
  intro st hst i
  have := h st hst i
  unfold SBst at this
  split at this
  · omega
  · exact this

theorem getS_of_mem {ss : List Stream} (hid : SidOK ss) {st : Stream} (h : st ∈ ss) : getS ss st.id = some st := by
  obtain ⟨k, hk, he⟩ := List.getElem_of_mem h
  have := hid k hk
  rw [he] at this
  unfold getS
  rw [this]
  simp [he, hk]

theorem ptrLoop_ptrs_other (s : State) (maxOps : Nat) (e' : Nat) : ∀ (es : List Nat) (total : Nat) (c : Caches) (ps : List Pointer),
    e' ∉ es → (ptrLoop s maxOps es total c ps).2.2.getD e' Pointer.last = ps.getD e' Pointer.last := by
  intro es
  induction es with
  | nil => intro total c ps _; rfl
  | cons e rest ih =>
    intro total c ps hne
    unfold ptrLoop
    split
    · rfl
    · simp only
      rw [ih _ _ _ (fun hm => hne (List.mem_cons_of_mem _ hm))]
      simp only [List.getD_eq_getElem?_getD]
      rw [List.getElem?_set_ne (fun x => hne (by rw [x]; exact List.mem_cons_self))]

theorem mem_sortByDuration (es : List Nat) (x : Nat) (h : x ∈ sortByDuration es) : x ∈ es := by
  unfold sortByDuration at h
  simp only [List.mem_append, List.mem_filter] at h
  rcases h with (h | h) | h <;> exact h.1

theorem streamsOf_ids (ss : List Stream) (hid : SidOK ss) : ∀ (ids : List Nat), (∀ x ∈ ids, 1 ≤ x ∧ x ≤ ss.length) →
    (ids.filterMap (getS ss)).map (·.id) = ids := by
  intro ids
  induction ids with
  | nil => intro _; rfl
  | cons x xs ih =>
    intro hv
    obtain ⟨h1, h2⟩ := hv x List.mem_cons_self
    have hk : x - 1 < ss.length := by omega
    have hg : getS ss x = some ss[x - 1] := by
      unfold getS
      have : ¬ x = 0 := by omega
      simp [this, hk]
    have hidx : (ss[x - 1]).id = x := by rw [hid _ hk]; omega
    simp only [List.filterMap_cons, hg, List.map_cons, hidx]
    rw [ih (fun y hy => hv y (List.mem_cons_of_mem _ hy))]

theorem activeStreams_ids (s : State) (hs : SStruct s) : (activeStreams s).map (·.id) = s.active.ids :=
  streamsOf_ids s.streams hs.sid s.active.ids (fun x hx => hs.valid x (List.mem_append_left _ hx))

/-! ### `Keeper.Distribute` of x/streamer, exactly what it leaves in the stream store -/

/-- x/streamer `Keeper.Distribute` seen from the stream store, with `c` the caches of its pass: what `PassFacts` says of
    the store; the upcoming list, time and the pointers of other epochs stay; each cached `v` is a stored `st0` with more
    `distributed`, and its `distributed + pending` did not grow — it is the same when every record handed in names a
    live gauge and the pointer of the stream's epoch is resumable -/
structure CoreFacts (s : State) (es : List Nat) (streams : List Stream) (ee : Bool) (s' : State) (c : Caches) : Prop
    extends PassFacts s streams ee s' c where
  upcoming : s'.upcoming = s.upcoming
  now : s'.now = s.now
  ptrs : ∀ e', e' ∉ es → s'.ptrs.getD e' Pointer.last = s.ptrs.getD e' Pointer.last
  window : ∀ v ∈ c.streams, ∃ st0, getS s.streams v.id = some st0 ∧ v = { st0 with distributed := v.distributed } ∧
    ∀ i, amt v.distributed i + pendId (s'.ptrs.getD v.epochId Pointer.last) v i
          ≤ amt st0.distributed i + pendId (s.ptrs.getD st0.epochId Pointer.last) st0 i ∧
      ((∀ st ∈ streams, ∀ r ∈ st.recs, LiveRec s r) →
        PtrOK ((sortById streams).map Stream.view) (s.ptrs.getD st0.epochId Pointer.last) →
        amt v.distributed i + pendId (s'.ptrs.getD v.epochId Pointer.last) v i
          = amt st0.distributed i + pendId (s.ptrs.getD st0.epochId Pointer.last) st0 i)

def CoreConcl (s : State) (es : List Nat) (streams : List Stream) (ee : Bool) (s' : State) : Prop :=
  ∃ c, CoreFacts s es streams ee s' c

/-- `CoreFacts` holds of the caches of the pass -/
theorem strDistribute_facts (s : State) (es : List Nat) (streams : List Stream) (maxOps : Nat) (ee : Bool) (s' : State)
    (hs : SStruct s) (hin : GoodInput s streams)
    (hst : ∀ st ∈ streams, StrictInc (st.recs.map (·.gauge)) ∧ st.id < maxU64)
    (h : strDistribute s es streams maxOps ee = .ok s') :
    CoreFacts s es streams ee s' (strPass s es streams maxOps).2.1 := by
  have heq := strDistribute_eq h
  have hp : s'.ptrs = (strPass s es streams maxOps).2.2 := by rw [heq]
  obtain ⟨wg, wq⟩ := ptrLoop_acct_id s maxOps (sortByDuration es) 0 ⟨sortById streams, [], []⟩ s.ptrs (goodCache_sortById hin hst)
  refine ⟨strDistribute_pass s es streams maxOps ee s' hs hin h, by rw [heq], by rw [heq], fun e' he' => ?_, fun v hv => ?_⟩
  · rw [hp]; exact ptrLoop_ptrs_other s maxOps e' _ _ _ _ (fun hm => he' (mem_sortByDuration es e' hm))
  · -- `v` sits in a slot of the cache; that slot of the initial cache is the stored stream
    obtain ⟨k, hk0, hslot, hslot0, hget0, _, hstat⟩ := pass_slot (sortById_good s streams hin) wg hv
    refine ⟨(sortById streams)[k], hget0, hstat, fun i => ?_⟩
    have := wq k hk0 i
    unfold Qv distAt at this
    rw [hslot, hslot0] at this
    have hep : v.epochId = ((sortById streams)[k]).epochId := by rw [hstat]
    rw [hp, hep, pendId_static hstat]
    rw [hep, pendId_static hstat] at this
    exact ⟨this.1, fun hl => this.2 (fun st hm r hr => hl st ((mem_sortById streams st).1 hm) r hr)⟩

theorem strDistribute_core (s : State) (es : List Nat) (streams : List Stream) (maxOps : Nat) (ee : Bool) (s' : State)
    (hs : SStruct s) (hin : GoodInput s streams)
    (hst : ∀ st ∈ streams, StrictInc (st.recs.map (·.gauge)) ∧ st.id < maxU64)
    (h : strDistribute s es streams maxOps ee = .ok s') : CoreConcl s es streams ee s' :=
  ⟨_, strDistribute_facts s es streams maxOps ee s' hs hin hst h⟩

theorem mem_of_getS {ss : List Stream} {x : Nat} {st : Stream} (h : getS ss x = some st) : st ∈ ss := by
  unfold getS at h
  split at h
  · simp at h
  · exact List.mem_of_getElem? h

/-- every stream of the new store is either an untouched old stream or the saved value of a cached copy -/
theorem core_cases (s : State) (es : List Nat) (streams : List Stream) (ee : Bool) (s' : State)
    (hc : CoreConcl s es streams ee s') (hs' : SStruct s') (st' : Stream) (hm : st' ∈ s'.streams) :
    (st' ∈ s.streams ∧ st'.id ∉ streams.map (·.id) ∧ (st'.id ∈ s'.active.ids ↔ st'.id ∈ s.active.ids)) ∨
    (∃ v st0, st0 ∈ s.streams ∧ st0.id ∈ streams.map (·.id) ∧ v = { st0 with distributed := v.distributed } ∧ st' = finVal ee v ∧
      (∀ i, amt v.distributed i + pendId (s'.ptrs.getD v.epochId Pointer.last) v i
              ≤ amt st0.distributed i + pendId (s.ptrs.getD st0.epochId Pointer.last) st0 i) ∧
      (st'.id ∈ s'.active.ids ↔ st0.id ∈ s.active.ids ∧ ¬ gone ee v)) := by
  obtain ⟨c, hf⟩ := hc
  have hget' := getS_of_mem hs'.sid hm
  by_cases hx : st'.id ∈ streams.map (·.id)
  · right
    obtain ⟨v, hv, hvid⟩ := hf.handed _ hx
    have h8 := hf.saved v hv
    rw [hvid, hget'] at h8
    have hst' : st' = finVal ee v := Option.some.inj h8
    obtain ⟨st0, g0, g1, g2⟩ := hf.window v hv
    have hid0 : st0.id = v.id := by rw [g1]
    refine ⟨v, st0, mem_of_getS g0, by rw [hid0, hvid]; exact hx, g1, hst', fun i => (g2 i).1, ?_⟩
    rw [hf.active st'.id, hid0, hvid]
    constructor
    · intro ⟨h1, h2⟩; exact ⟨h1, h2 v hv hvid⟩
    · intro ⟨h1, h2⟩
      refine ⟨h1, ?_⟩
      intro w hw hwid
      -- `w` and `v` are both stored under this id, so they are saved as the same value
      have hw8 := hf.saved w hw
      rw [hwid, hget'] at hw8
      have : finVal ee w = finVal ee v := by rw [← Option.some.inj hw8, hst']
      -- `gone` only depends on the saved value
      unfold gone at h2 ⊢
      unfold finVal at this
      cases ee with
      | false => simp
      | true =>
        simp only [if_true] at this
        rw [this]; exact h2
  · left
    have h5 := hf.others _ hx
    rw [hget'] at h5
    refine ⟨mem_of_getS h5.symm, hx, ?_⟩
    rw [hf.active st'.id]
    constructor
    · intro h; exact h.1
    · intro h
      refine ⟨h, ?_⟩
      intro v hv hvid
      exact absurd (by rw [← hvid]; exact hf.cached v hv) hx

theorem core_fresh (s : State) (es : List Nat) (streams : List Stream) (ee : Bool) (s' : State)
    (hc : CoreConcl s es streams ee s') (hs : SStruct s) (hs' : SStruct s') (hin : GoodInput s streams) (hf : Fresh s) : Fresh s' := by
  intro st' hm hu
  have hup : s'.upcoming = s.upcoming := hc.choose_spec.upcoming
  rw [hup] at hu
  obtain ⟨_, _, n3⟩ := List.nodup_append.1 hs.nodup
  rcases core_cases s es streams ee s' hc hs' st' hm with ⟨a1, _, _⟩ | ⟨v, st0, _, b2, b3, b4, _, _⟩
  · exact hf st' a1 hu
  · exfalso
    obtain ⟨y, hy, hyid⟩ := List.mem_map.1 b2
    have hact : st0.id ∈ s.active.ids := by rw [← hyid]; exact (hin.2 y hy).2
    have hid : st'.id = st0.id := by
      rw [b4]; unfold finVal
      cases ee with
      | false => simp only [Bool.false_eq_true, if_false]; rw [b3]
      | true => simp only [if_true]; rw [atEpochEnd_id, b3]
    exact n3 st0.id hact st0.id (by rw [← hid]; exact hu) rfl

theorem core_stat (s : State) (es : List Nat) (streams : List Stream) (ee : Bool) (s' : State)
    (hc : CoreConcl s es streams ee s') (hs' : SStruct s') (hstat : SStat s) : SStat s' := by
  constructor
  · intro st' hm
    rcases core_cases s es streams ee s' hc hs' st' hm with ⟨a1, _, _⟩ | ⟨v, st0, b1, _, b3, b4, _, _⟩
    · exact hstat.tw st' a1
    · rw [b4, (finVal_static ee v).2.2.2.2.1, (finVal_static ee v).2.2.2.2.2, b3]; exact hstat.tw st0 b1
  · intro st' hm
    rcases core_cases s es streams ee s' hc hs' st' hm with ⟨a1, _, _⟩ | ⟨v, st0, b1, _, b3, b4, _, _⟩
    · exact hstat.recs st' a1
    · rw [b4, (finVal_static ee v).2.2.2.2.1, b3]; exact hstat.recs st0 b1

/-! ### the bound is kept by the streamer's EndBlock and re-established around epoch boundaries -/

theorem id_le_length {ss : List Stream} (hid : SidOK ss) {st : Stream} (h : st ∈ ss) : st.id ≤ ss.length := by
  obtain ⟨k, hk, he⟩ := List.getElem_of_mem h
  have := hid k hk
  rw [he] at this; omega

theorem sharesOf_tw0 (st : Stream) (h : (st.totalWeight != 0) = false) (rs : List Rec) (i : Nat) : sharesOf st rs i = 0 := by
  unfold sharesOf shareOf
  have : (st.totalWeight == 0) = true := by simpa using h
  simp only [this, Bool.or_true, if_true]
  apply sum_zero_of_all_zero
  intro x hx; simp at hx; exact hx.2.symm ▸ rfl

/-! the arithmetic of the bound, on bare numbers: `A` is one round of shares, `K` the rounds still to come -/

theorem mul_pred_add (k A : Nat) (hk : k ≠ 0) : k * A = A + (k - 1) * A := by
  obtain ⟨j, rfl⟩ : ∃ j, k = j + 1 := ⟨k - 1, by omega⟩
  rw [Nat.add_mul, Nat.one_mul, Nat.add_comm, Nat.add_sub_cancel]

theorem one_le_sub_sub {n f : Nat} (h : f + 1 < n) : 1 ≤ n - f - 1 := by omega

/-- `k` rounds of at most `⌊R / k⌋` each fit into `R`, so one pending round and `k - 1` further ones do -/
theorem rounds_fit {A R k P : Nat} (hA : A ≤ R / k) (hP : P ≤ A) (hk : k ≠ 0) : P + (k - 1) * A ≤ R := by
  have h1 : k * A ≤ k * (R / k) := Nat.mul_le_mul_left _ hA
  have h2 := Nat.mul_div_le R k
  have h3 := mul_pred_add k A hk
  omega

/-- an epoch ends: one of the `K` rounds is released, and at most one round is pending again -/
theorem bound_step {D P P' A K C : Nat} (h : D + P + K * A ≤ C) (hp : P' ≤ A) (hK : 1 ≤ K) : D + P' + (K - 1) * A ≤ C := by
  have h3 := mul_pred_add K A (by omega)
  omega

/-- the strong form of the bound for a copy `v` of `st0` with more distributed coins -/
theorem strong_of_window (s s' : State) (st0 v : Stream) (g1 : v = { st0 with distributed := v.distributed }) (i : Nat)
    (h0 : amt st0.distributed i + pendId (ptrOfEpoch s st0.epochId) st0 i + (st0.numEpochs - st0.filled - 1) * sharesOf st0 st0.recs i ≤ amt st0.coins i)
    (hq : amt v.distributed i + pendId (s'.ptrs.getD v.epochId Pointer.last) v i
              ≤ amt st0.distributed i + pendId (s.ptrs.getD st0.epochId Pointer.last) st0 i) :
    amt v.distributed i + pendId (ptrOfEpoch s' v.epochId) v i + (v.numEpochs - v.filled - 1) * sharesOf v v.recs i ≤ amt v.coins i := by
  have e1 : v.numEpochs = st0.numEpochs := by rw [g1]
  have e2 : v.filled = st0.filled := by rw [g1]
  have e3 : v.coins = st0.coins := by rw [g1]
  have e4 : sharesOf v v.recs i = sharesOf st0 st0.recs i := by
    have : v.recs = st0.recs := by rw [g1]
    rw [this]
    rw [g1]; exact sharesOf_congr rfl rfl rfl _ i
  unfold ptrOfEpoch at *
  rw [e1, e2, e3, e4]
  omega

/-- what `strDistribute_core` asks of a list of stored copies follows from the static invariant -/
theorem input_static (s : State) (hs : SStruct s) (hstat : SStat s) (hlen : s.streams.length < maxU64) {l : List Stream}
    (hin : GoodInput s l) : ∀ st ∈ l, StrictInc (st.recs.map (·.gauge)) ∧ st.id < maxU64 := by
  intro st hm
  have hmem : st ∈ s.streams := mem_of_getS (hin.2 st hm).1
  exact ⟨hstat.recs st hmem, by have := id_le_length hs.sid hmem; omega⟩

theorem endBlock_SB (s s' : State) (hs : SStruct s) (hstat : SStat s) (hsb : SB s) (hfresh : Fresh s)
    (hlen : s.streams.length < maxU64) (h : streamerEndBlock s = .ok s') :
    SStruct s' ∧ SB s' ∧ SStat s' ∧ Fresh s' ∧ s'.streams.length = s.streams.length := by
  unfold streamerEndBlock at h
  have hin := activeStreams_good s hs
  have hc := strDistribute_core s _ _ _ _ s' hs hin (input_static s hs hstat hlen hin) h
  have hs' := hc.choose_spec.struct
  have hids := activeStreams_ids s hs
  refine ⟨hs', ?_, core_stat s _ _ false s' hc hs' hstat, core_fresh s _ _ false s' hc hs hs' hin hfresh, hc.choose_spec.len⟩
  · intro st' hm i
    rcases core_cases s _ _ false s' hc hs' st' hm with ⟨a1, a2, a3⟩ | ⟨v, st0, b1, b2, b3, b4, b5, b6⟩
    · rw [hids] at a2
      have hna : st'.id ∉ s'.active.ids := fun hx => a2 (a3.1 hx)
      unfold SBst; rw [if_neg hna]
      have := hsb st' a1 i
      unfold SBst at this; rw [if_neg a2] at this; exact this
    · rw [hids] at b2
      have hv : st' = v := by rw [b4]; rfl
      have hact : st'.id ∈ s'.active.ids := b6.2 ⟨b2, fun hg' => by unfold gone at hg'; simp at hg'⟩
      unfold SBst; rw [if_pos hact, hv]
      have h0 := hsb st0 b1 i
      unfold SBst at h0; rw [if_pos b2] at h0
      exact strong_of_window s s' st0 v b3 i h0 (b5 i)

theorem mem_activeStreamsFor (s : State) (hs : SStruct s) (e : Nat) (st : Stream) (hm : st ∈ s.streams)
    (ha : st.id ∈ s.active.ids) (he : st.epochId = e) : st.id ∈ (activeStreamsFor s e).map (·.id) := by
  have : st.id ∈ (activeStreams s).map (·.id) := by rw [activeStreams_ids s hs]; exact ha
  obtain ⟨y, hy, hyid⟩ := List.mem_map.1 this
  have hgy := ((activeStreams_good s hs).2 y hy).1
  have hgs := getS_of_mem hs.sid hm
  rw [hyid, hgs] at hgy
  have : y = st := (Option.some.inj hgy).symm
  subst this
  unfold activeStreamsFor
  have hf : (y.epochId == e) = true := by rw [he]; exact beq_self_eq_true e
  have hmem : y ∈ List.filter (fun x => x.epochId == e) (activeStreams s) := List.mem_filter.2 ⟨hy, hf⟩
  exact List.mem_map_of_mem (f := (·.id)) hmem

theorem activeStreamsFor_epoch (s : State) (e : Nat) (st : Stream) (h : st ∈ activeStreamsFor s e) : st.epochId = e := by
  unfold activeStreamsFor at h
  have := (List.mem_filter.1 h).2
  simpa using this

theorem atEpochEnd_static (st : Stream) :
    st.atEpochEnd = { st with filled := st.atEpochEnd.filled } ∧
    (st.atEpochEnd.filled = if st.totalWeight != 0 then st.filled + 1 else st.filled) := by
  unfold Stream.atEpochEnd
  split <;> exact ⟨rfl, rfl⟩

theorem pendId_filled (p : Pointer) (st : Stream) (f : Nat) (i : Nat) : pendId p { st with filled := f } i = pendId p st i := by
  unfold pendId
  simp only
  exact sharesOf_congr rfl rfl rfl _ i

/-- the epoch ends for a stream within its bound: if it stays active the bound holds again with a whole round
    pending, whatever the pointer; in any case it has not handed out more than its coins -/
theorem atEpochEnd_strong (v : Stream) (p0 p : Pointer) (i : Nat)
    (h : amt v.distributed i + pendId p0 v i + (v.numEpochs - v.filled - 1) * sharesOf v v.recs i ≤ amt v.coins i) :
    (v.atEpochEnd.filled < v.atEpochEnd.numEpochs →
      amt v.atEpochEnd.distributed i + pendId p v.atEpochEnd i +
        (v.atEpochEnd.numEpochs - v.atEpochEnd.filled - 1) * sharesOf v.atEpochEnd v.atEpochEnd.recs i
          ≤ amt v.atEpochEnd.coins i) ∧
    amt v.atEpochEnd.distributed i ≤ amt v.atEpochEnd.coins i := by
  obtain ⟨hst1, hst2⟩ := atEpochEnd_static v
  have hall : sharesOf v.atEpochEnd v.atEpochEnd.recs i = sharesOf v v.recs i := by
    rw [hst1]; exact sharesOf_congr rfl rfl rfl _ i
  have hcoins : v.atEpochEnd.coins = v.coins := by rw [hst1]
  have hdist : v.atEpochEnd.distributed = v.distributed := by rw [hst1]
  have hn : v.atEpochEnd.numEpochs = v.numEpochs := by rw [hst1]
  have hpend := pendId_le_all p v.atEpochEnd i
  rw [hall] at hpend ⊢
  rw [hcoins, hdist, hn]
  refine ⟨fun hng => ?_, by omega⟩
  by_cases htw : (v.totalWeight != 0) = true
  · -- one of the remaining rounds is used up
    rw [if_pos htw] at hst2
    rw [hst2] at hng ⊢
    rw [Nat.sub_add_eq]
    exact bound_step h hpend (one_le_sub_sub hng)
  · -- a stream without weight hands out nothing
    have hz := sharesOf_tw0 v (by simpa using htw) v.recs i
    rw [hz] at hpend ⊢
    rw [Nat.mul_zero, Nat.add_zero]
    omega

theorem afterEpochEnd_SB (s s' : State) (e : Nat) (hs : SStruct s) (hstat : SStat s) (hsb : SB s) (hfresh : Fresh s)
    (hlen : s.streams.length < maxU64) (h : streamerAfterEpochEnd s e = .ok s') :
    SB s' ∧ SStat s' ∧ Fresh s' ∧ s'.streams.length = s.streams.length := by
  rcases streamerAfterEpochEnd_unfold h with h | ⟨s1, hd, h⟩
  · rw [h]; exact ⟨hsb, hstat, hfresh, rfl⟩
  · have h := h.symm
    have hin := activeStreamsFor_good s hs e
    have hc := strDistribute_core s _ _ _ _ s1 hs hin (input_static s hs hstat hlen hin) hd
    have hs1 := hc.choose_spec.struct
    have hptr_other : ∀ e', e' ≠ e → ptrOfEpoch s' e' = ptrOfEpoch s e' := by
      intro e' hne
      have c4 := hc.choose_spec.ptrs
      rw [← h]
      unfold ptrOfEpoch
      simp only [List.getD_eq_getElem?_getD]
      rw [List.getElem?_set_ne (fun x => hne x.symm)]
      have := c4 e' (by simp only [List.mem_singleton]; exact hne)
      simpa [List.getD_eq_getElem?_getD] using this
    have hact : s'.active = s1.active := by rw [← h]
    have hstr : s'.streams = s1.streams := by rw [← h]
    refine ⟨?_, ?_, ?_, ?_⟩
    · intro st' hm i
      rw [hstr] at hm
      rcases core_cases s _ _ true s1 hc hs1 st' hm with ⟨a1, a2, a3⟩ | ⟨v, st0, b1, b2, b3, b4, b5, b6⟩
      · unfold SBst
        rw [hact]
        by_cases ha : st'.id ∈ s1.active.ids
        · rw [if_pos ha]
          have ha0 := a3.1 ha
          have hne : st'.epochId ≠ e := fun he => a2 (mem_activeStreamsFor s hs e st' a1 ha0 he)
          rw [hptr_other _ hne]
          have := hsb st' a1 i
          unfold SBst at this; rw [if_pos ha0] at this; exact this
        · rw [if_neg ha]
          have ha0 : st'.id ∉ s.active.ids := fun hx => ha (a3.2 hx)
          have := hsb st' a1 i
          unfold SBst at this; rw [if_neg ha0] at this; exact this
      · obtain ⟨y, hy, hyid⟩ := List.mem_map.1 b2
        have hy0 : y = st0 := by
          have := (hin.2 y hy).1
          rw [hyid, getS_of_mem hs.sid b1] at this
          exact (Option.some.inj this).symm
        have hep : st0.epochId = e := by rw [← hy0]; exact activeStreamsFor_epoch s e y hy
        have hact0 : st0.id ∈ s.active.ids := by rw [← hy0]; exact (hin.2 y hy).2
        have h0 := hsb st0 b1 i
        unfold SBst at h0; rw [if_pos hact0] at h0
        have hstrong := strong_of_window s s1 st0 v b3 i h0 (b5 i)
        have hv : st' = v.atEpochEnd := by rw [b4]; rfl
        subst hv
        obtain ⟨hkeep, hweak⟩ := atEpochEnd_strong v _ (ptrOfEpoch s' v.atEpochEnd.epochId) i hstrong
        unfold SBst
        rw [hact]
        by_cases ha : v.atEpochEnd.id ∈ s1.active.ids
        · rw [if_pos ha]
          have hng := (b6.1 ha).2
          unfold gone at hng
          simp only [true_and, Nat.not_le] at hng
          exact hkeep hng
        · rw [if_neg ha]; exact hweak
    · have hst1 := core_stat s _ _ true s1 hc hs1 hstat
      exact ⟨by rw [hstr]; exact hst1.tw, by rw [hstr]; exact hst1.recs⟩
    · rw [← h]; exact Fresh_congr rfl rfl (core_fresh s _ _ true s1 hc hs hs1 hin hfresh)
    · rw [hstr]; exact hc.choose_spec.len

/-- a re-targeted stream's total weight is the sum of its weights (`DistrInfoFromDistribution` sums the powers) -/
theorem retarget_tw (st : Stream) (d : List Rec) (h : st.totalWeight = totalWeightOf st.recs) :
    (st.retarget d).totalWeight = totalWeightOf (st.retarget d).recs := by
  unfold Stream.retarget; split
  · rfl
  · exact h

theorem retarget_recs (st : Stream) (d : List Rec) (h : StrictInc (st.recs.map (·.gauge))) (hd : StrictInc (d.map (·.gauge))) :
    StrictInc ((st.retarget d).recs.map (·.gauge)) := by
  unfold Stream.retarget; split
  · exact hd
  · exact h

theorem started_strong (st : Stream) (p : Pointer) (htw : st.totalWeight = totalWeightOf st.recs)
    (hre : st.numEpochs - st.filled ≠ 0) (hle : ∀ i, amt st.distributed i ≤ amt st.coins i) (i : Nat) :
    amt (started st).distributed i + pendId p (started st) i +
      ((started st).numEpochs - (started st).filled - 1) * sharesOf (started st) (started st).recs i ≤ amt (started st).coins i := by
  have hall := sharesOf_all_le (started st) (by show st.totalWeight = totalWeightOf st.recs; exact htw) i
  have hpend := pendId_le_all p (started st) i
  have hec : amt (started st).epochCoins i = (amt st.coins i - amt st.distributed i) / (st.numEpochs - st.filled) := by
    show amt (Coins.quo (Coins.sub st.coins st.distributed) (st.numEpochs - st.filled)) i = _
    rw [amt_quo, amt_sub]
  rw [hec] at hall
  show amt st.distributed i + pendId p (started st) i + (st.numEpochs - st.filled - 1) * sharesOf (started st) (started st).recs i ≤ amt st.coins i
  have := rounds_fit hall hpend hre
  have := hle i
  omega

/-- a fresh stream that has just become active satisfies the bound whatever the pointer is -/
theorem fresh_strong (st : Stream) (p : Pointer) (htw : st.totalWeight = totalWeightOf st.recs)
    (hf : st.distributed = [] ∧ st.filled = 0 ∧ st.ecEmpty = false ∧ st.epochCoins = Coins.quo st.coins st.numEpochs ∧ st.numEpochs ≠ 0) (i : Nat) :
    amt st.distributed i + pendId p st i + (st.numEpochs - st.filled - 1) * sharesOf st st.recs i ≤ amt st.coins i := by
  obtain ⟨h1, h2, _, h4, h5⟩ := hf
  have hall := sharesOf_all_le st htw i
  have hpend := pendId_le_all p st i
  rw [h4, amt_quo] at hall
  rw [h1, h2]
  simp only [amt_nil, Nat.zero_add, Nat.sub_zero]
  exact rounds_fit hall hpend h5

theorem beforeEpochStart_SB (s s' : State) (e : Nat) (hs : SStruct s) (hstat : SStat s) (hfresh : Fresh s) (hsb : SB s)
    (hdist : StrictInc (s.distr.map (·.gauge)))
    (h : streamerBeforeEpochStart s e = .ok s') : SB s' ∧ SStat s' ∧ Fresh s' ∧ s'.distr = s.distr := by
  obtain ⟨s1, ha, h⟩ := streamerBeforeEpochStart_unfold h
  obtain ⟨hs1, a1, _, _, a4, a5, a6⟩ := activateDue_spec _ _ _ hs ha
  have a2 : s1.ptrs = s.ptrs := by rw [activateDue_frame _ ha]
  obtain ⟨gi1, gi2⟩ := activeStreamsFor_good s1 hs1 e
  obtain ⟨hs', _, _, b4, b5⟩ := startStreams_all _ _ _ hs1 gi1 (fun st hst => (gi2 st hst).1) h
  have hf := (startStreams_frame _ h).1
  have b1 : s'.ptrs = s1.ptrs := by rw [hf]
  have b2 : s'.active = s1.active := by rw [hf]
  have b6 : s'.distr = s1.distr := by rw [hf]
  have hd1 : s1.distr = s.distr := by rw [activateDue_frame _ ha]
  have hup1 : s'.upcoming = s1.upcoming := by rw [hf]
  -- upcoming streams handed to activateDue are stored copies with upcoming ids
  have hup : ∀ st ∈ upcomingStreams s, getS s.streams st.id = some st ∧ st.id ∈ s.upcoming.ids := by
    obtain ⟨_, n2, _⟩ := List.nodup_append.1 hs.nodup
    exact fun st hst => (streamsOf_spec s.streams hs.sid s.upcoming.ids n2).2 st hst
  have classify : ∀ st' ∈ s'.streams,
      (st' ∈ s.streams ∧ st'.id ∉ (activeStreamsFor s1 e).map (·.id)) ∨
      (∃ st ∈ activeStreamsFor s1 e, st ∈ s.streams ∧ st' = started (st.retarget s1.distr) ∧ st.numEpochs - st.filled ≠ 0 ∧ ∀ i, amt st.distributed i ≤ amt st.coins i) := by
    intro st' hm
    have hget' := getS_of_mem hs'.sid hm
    by_cases hx : st'.id ∈ (activeStreamsFor s1 e).map (·.id)
    · right
      obtain ⟨st, hst, hid⟩ := List.mem_map.1 hx
      obtain ⟨c1, c2, c3⟩ := b5 st hst
      rw [hid, hget'] at c1
      exact ⟨st, hst, by rw [← a1]; exact mem_of_getS (gi2 st hst).1, Option.some.inj c1, c2, c3⟩
    · left
      have := b4 _ hx
      rw [hget', a1] at this
      exact ⟨mem_of_getS this.symm, hx⟩
  refine ⟨?_, ?_, ?_, by rw [b6, hd1]⟩
  · intro st' hm i
    rcases classify st' hm with ⟨c1, c2⟩ | ⟨st, hst, c1, c2, c3, c4⟩
    · unfold SBst
      rw [b2]
      by_cases hact : st'.id ∈ s1.active.ids
      · rw [if_pos hact]
        unfold ptrOfEpoch
        rw [b1, a2]
        rcases a4 _ hact with h1 | ⟨y, hy, hy1⟩
        · have := hsb st' c1 i
          unfold SBst ptrOfEpoch at this; rw [if_pos h1] at this; exact this
        · -- just activated: it was an untouched upcoming stream
          obtain ⟨hgy, hyu⟩ := hup y hy
          rw [hy1, getS_of_mem hs.sid c1] at hgy
          have hyst : st' = y := Option.some.inj hgy
          have hfr := hfresh st' c1 (by rw [hyst]; exact hyu)
          exact fresh_strong st' _ (hstat.tw st' c1) hfr i
      · rw [if_neg hact]
        have hact0 : st'.id ∉ s.active.ids := fun hx => hact (a5 _ hx)
        have := hsb st' c1 i
        unfold SBst at this; rw [if_neg hact0] at this; exact this
    · obtain ⟨q1, q2, q3, _, _, q6, q7, _⟩ := retarget_static st s1.distr
      have hact : st'.id ∈ s'.active.ids := by
        rw [b2, c2]; show (st.retarget s1.distr).id ∈ _; rw [q1]; exact (gi2 st hst).2
      unfold SBst; rw [if_pos hact, c2]
      exact started_strong (st.retarget s1.distr) _ (retarget_tw st _ (hstat.tw st c1)) (by rw [q6, q7]; exact c3)
        (by intro i; rw [q2, q3]; exact c4 i) i
  · constructor
    · intro st' hm
      rcases classify st' hm with ⟨c1, _⟩ | ⟨st, _, c1, c2, _, _⟩
      · exact hstat.tw st' c1
      · rw [c2]; exact retarget_tw st _ (hstat.tw st c1)
    · intro st' hm
      rcases classify st' hm with ⟨c1, _⟩ | ⟨st, _, c1, c2, _, _⟩
      · exact hstat.recs st' c1
      · rw [c2]; exact retarget_recs st _ (hstat.recs st c1) (by rw [hd1]; exact hdist)
  · intro st' hm hu
    rw [hup1] at hu
    have hu0 := a6 _ hu
    rcases classify st' hm with ⟨c1, _⟩ | ⟨st, hst, c1, c2, _, _⟩
    · exact hfresh st' c1 hu0
    · -- a restarted stream is active in s1, hence not upcoming
      exfalso
      have hact1 : st.id ∈ s1.active.ids := (gi2 st hst).2
      obtain ⟨_, _, n3⟩ := List.nodup_append.1 hs1.nodup
      have hid : st'.id = st.id := by rw [c2]; exact (retarget_static st s1.distr).1
      exact n3 st.id hact1 st.id (by rw [← hid]; exact hu) rfl

/-! ### frames, messages, blocks -/

theorem SB_congr {s s' : State} (h1 : s'.streams = s.streams) (h2 : s'.active = s.active) (h3 : s'.ptrs = s.ptrs) (h : SB s) : SB s' := by
  intro st hm i
  rw [h1] at hm
  have := h st hm i
  unfold SBst ptrOfEpoch at *
  rw [h2, h3]; exact this

theorem SStat_congr {s s' : State} (h1 : s'.streams = s.streams) (h : SStat s) : SStat s' :=
  ⟨by rw [h1]; exact h.tw, by rw [h1]; exact h.recs⟩

theorem incAfterEpochEnd_frame (s : State) (e : Nat) (s' : State) (h : incAfterEpochEnd s e = .ok s') :
    s'.streams = s.streams ∧ s'.active = s.active ∧ s'.ptrs = s.ptrs ∧ s'.upcoming = s.upcoming := by
  rw [incAfterEpochEnd_eq h]; exact ⟨rfl, rfl, rfl, rfl⟩

/-- `validateGauges` accepted the records: gauge ids strictly increasing -/
theorem validateRecs_strict (s : State) : ∀ (rs : List Rec) (last : Nat) (seen : List Nat), validateRecs s rs last seen = true →
    (∀ r ∈ rs, last ≤ r.gauge ∧ r.gauge ∉ seen) ∧ (rs.map (·.gauge)).Pairwise (· < ·) := by
  intro rs
  induction rs with
  | nil => intro _ _ _; exact ⟨by simp, List.Pairwise.nil⟩
  | cons r rest ih =>
    intro last seen h
    unfold validateRecs at h
    by_cases h1 : seen.contains r.gauge = true
    · rw [if_pos h1] at h; simp at h
    · rw [if_neg h1] at h
      by_cases h2 : r.gauge < last
      · rw [if_pos h2] at h; simp at h
      · rw [if_neg h2] at h
        cases hg : getGauge s r.gauge with
        | none => simp [hg] at h
        | some g =>
          simp only [hg] at h
          by_cases h3 : (!g.perpetual) = true
          · rw [if_pos h3] at h; simp at h
          · rw [if_neg h3] at h
            obtain ⟨i1, i2⟩ := ih _ _ h
            have hns : r.gauge ∉ seen := by simpa using h1
            constructor
            · intro x hx
              rcases List.mem_cons.1 hx with hh | hh
              · rw [hh]; exact ⟨by omega, hns⟩
              · obtain ⟨j1, j2⟩ := i1 x hh
                exact ⟨by omega, fun hm => j2 (List.mem_cons_of_mem _ hm)⟩
            · simp only [List.map_cons]
              refine List.pairwise_cons.2 ⟨?_, i2⟩
              intro y hy
              obtain ⟨x, hx, he⟩ := List.mem_map.1 hy
              obtain ⟨j1, j2⟩ := i1 x hx
              have : x.gauge ≠ r.gauge := fun hh => j2 (by rw [hh]; exact List.mem_cons_self)
              rw [← he]; omega

theorem poolGaugesLoop_frame (denom : Nat) (hsup : Bool) (ds : List Nat) (s : State) :
    (poolGaugesLoop denom hsup ds s).2.streams = s.streams ∧ (poolGaugesLoop denom hsup ds s).2.active = s.active ∧
    (poolGaugesLoop denom hsup ds s).2.upcoming = s.upcoming ∧ (poolGaugesLoop denom hsup ds s).2.ptrs = s.ptrs ∧
    (poolGaugesLoop denom hsup ds s).2.distr = s.distr := by
  refine poolGaugesLoop_ind (fun x => x.streams = s.streams ∧ x.active = s.active ∧ x.upcoming = s.upcoming ∧ x.ptrs = s.ptrs ∧
    x.distr = s.distr) denom hsup ?_ ds s ⟨rfl, rfl, rfl, rfl, rfl⟩
  intro x d hx
  rcases createGauge_shape x streamerAddr true denom d hsup [] x.now 1 with h | ⟨_, _, h⟩ <;> rw [h] <;> exact hx

/-- the full invariant of M-Incent (gauge side, stream structure, stream bound, static facts, id range, and the
    sponsorship distribution's gauges in strictly ascending order) -/
structure Inv (s : State) : Prop where
  ginv : GInv s
  struct : SStruct s
  sb : SB s
  stat : SStat s
  fresh : Fresh s
  len : s.streams.length < maxU64
  dist : StrictInc (s.distr.map (·.gauge))

/-- a change of fields none of the stream-side invariants reads -/
theorem Inv_frame {s s' : State} (hi : Inv s) (h1 : s'.streams = s.streams) (h2 : s'.active = s.active) (h3 : s'.upcoming = s.upcoming)
    (h4 : s'.ptrs = s.ptrs) (hg : GInv s') (h5 : s'.distr = s.distr := by rfl) : Inv s' :=
  ⟨hg, SStruct_congr h1 h2 h3 hi.struct, SB_congr h1 h2 h4 hi.sb, SStat_congr h1 hi.stat, Fresh_congr h1 h3 hi.fresh, by rw [h1]; exact hi.len,
   by rw [h5]; exact hi.dist⟩

theorem streamerAfterEpochEnd_inv (s : State) (e : Nat) (s' : State) (hi : Inv s) (h : streamerAfterEpochEnd s e = .ok s') : Inv s' := by
  obtain ⟨a, b, c, d⟩ := afterEpochEnd_SB s s' e hi.struct hi.stat hi.sb hi.fresh hi.len h
  refine ⟨(streamerAfterEpochEnd_spec s e s' hi.ginv h).1, (streamerAfterEpochEnd_sstep s e s' hi.struct h).struct,
    a, b, c, by rw [d]; exact hi.len, ?_⟩
  rcases streamerAfterEpochEnd_unfold h with h | ⟨s1, hd, h⟩ <;> rw [h]
  · exact hi.dist
  · show StrictInc (s1.distr.map (·.gauge)); rw [strDistribute_eq hd]; exact hi.dist

theorem incAfterEpochEnd_inv (s : State) (e : Nat) (s' : State) (hi : Inv s) (h : incAfterEpochEnd s e = .ok s') : Inv s' := by
  have he := incAfterEpochEnd_eq h
  exact Inv_frame hi (by rw [he]) (by rw [he]) (by rw [he]) (by rw [he]) (incAfterEpochEnd_spec s e s' hi.ginv h).1 (by rw [he])

theorem streamerBeforeEpochStart_inv (s : State) (e : Nat) (s' : State) (hi : Inv s) (h : streamerBeforeEpochStart s e = .ok s') : Inv s' := by
  obtain ⟨a, b, c, d⟩ := beforeEpochStart_SB s s' e hi.struct hi.stat hi.fresh hi.sb hi.dist h
  refine ⟨(streamerBeforeEpochStart_same s e s' h).ginv hi.ginv, (streamerBeforeEpochStart_sstep s e s' hi.struct h).struct, a, b, c, ?_, by rw [d]; exact hi.dist⟩
  obtain ⟨s1, ha, h⟩ := streamerBeforeEpochStart_unfold h
  rw [(startStreams_frame _ h).2, activateDue_frame _ ha]; exact hi.len

theorem epochTick_inv (s : State) (e : Nat) (hi : Inv s) : Inv (epochTick s e) :=
  epochTick_ind Inv e
    (fun x _ hx => Inv_frame hx rfl rfl rfl rfl (Same.ginv (s := x) ⟨rfl, rfl, rfl, rfl⟩ hx.ginv))
    (fun x hx => applyHook_ind hx (fun s' h => streamerBeforeEpochStart_inv x e s' hx h))
    (fun x hx => applyHook_ind hx (fun s' h => streamerAfterEpochEnd_inv x e s' hx h))
    (fun x hx => applyHook_ind hx (fun s' h => incAfterEpochEnd_inv x e s' hx h)) s hi

theorem beginBlock_inv (s : State) (dt : Nat) (hi : Inv s) : Inv (beginBlock s dt) :=
  beginBlock_ind Inv (fun x _ hx => Inv_frame hx rfl rfl rfl rfl (Same.ginv (s := x) ⟨rfl, rfl, rfl, rfl⟩ hx.ginv))
    epochTick_inv s dt hi

theorem endBlock_inv (s s' : State) (hi : Inv s) (h : streamerEndBlock s = .ok s') : Inv s' := by
  obtain ⟨hs', a, b, c, d⟩ := endBlock_SB s s' hi.struct hi.stat hi.sb hi.fresh hi.len h
  exact ⟨(strDistribute_spec _ _ _ _ _ _ hi.ginv h).1, hs', a, b, c, by rw [d]; exact hi.len,
    by rw [strDistribute_eq h]; exact hi.dist⟩

theorem createStream_inv (s : State) (hi : Inv s) (sp : Bool) (c : Coins) (rs : List Rec) (st e n : Nat)
    (hlen : (createStream s sp c rs st e n).2.streams.length < maxU64) : Inv (createStream s sp c rs st e n).2 := by
  have hsame := createStream_same s sp c rs st e n
  have hstruct := (createStream_sstep s hi.struct sp c rs st e n).struct
  rcases createStream_shape s sp c rs st e n with h | ⟨hv, u, start', hn0, hadd, h⟩
  · rw [h]; exact hi
  rw [h] at hlen hsame hstruct ⊢
  have hold : ∀ st' ∈ s.streams, st'.id ≤ s.streams.length := fun st' h1 => id_le_length hi.struct.sid h1
  refine ⟨hsame.ginv hi.ginv, hstruct, ?_, ⟨?_, ?_⟩, ?_, hlen, hi.dist⟩
  · intro st' hm i
    rcases List.mem_append.1 hm with h1 | h1
    · exact hi.sb st' h1 i
    · -- the new stream is not active and has distributed nothing
      rw [List.mem_singleton.1 h1]
      have hna : s.streams.length + 1 ∉ s.active.ids := fun hx => by
        have := (hi.struct.valid _ (List.mem_append_left _ hx)).2; omega
      unfold SBst
      refine (if_neg hna).mpr ?_
      show amt ([] : Coins) i ≤ amt c i
      rw [amt_nil]; exact Nat.zero_le _
  · intro st' hm
    rcases List.mem_append.1 hm with h1 | h1
    · exact hi.stat.tw st' h1
    · rw [List.mem_singleton.1 h1]; rfl
  · intro st' hm
    rcases List.mem_append.1 hm with h1 | h1
    · exact hi.stat.recs st' h1
    · rw [List.mem_singleton.1 h1]
      show StrictInc ((if sp then s.distr else rs).map (·.gauge))
      cases sp with
      | true => exact hi.dist
      | false => exact strictInc_of_pairwise _ (validateRecs_strict s rs 0 [] (hv rfl)).2
  · intro st' hm hu
    rcases List.mem_append.1 hm with h1 | h1
    · -- an old stream's id is below the new one, so it was upcoming before
      rcases (Refs.add_mem hadd st'.id).1 hu with h2 | h2
      · exact hi.fresh st' h1 h2
      · have := hold st' h1; omega
    · rw [List.mem_singleton.1 h1]; exact ⟨rfl, rfl, rfl, rfl, hn0⟩

theorem moveToFinished_inv (s : State) (hi : Inv s) (b : Bool) (st : Stream) (s' : State) (h : moveToFinished s b st = some s') : Inv s' := by
  have hsame := moveToFinished_same s b st s' h
  have hstruct := (moveToFinished_sstep s hi.struct b st s' h).struct
  obtain ⟨r, f, hd, _, h⟩ := moveToFinished_shape h
  have hfacts : s'.streams = s.streams ∧ s'.ptrs = s.ptrs ∧ s'.distr = s.distr ∧
      (∀ x, x ∈ s'.active.ids → x ∈ s.active.ids) ∧ (∀ x, x ∈ s'.upcoming.ids → x ∈ s.upcoming.ids) := by
    cases b with
    | true =>
      rw [h, if_pos rfl]; rw [if_pos rfl] at hd
      exact ⟨rfl, rfl, rfl, Refs.del_subset hd, fun x hx => hx⟩
    | false =>
      rw [h, if_neg Bool.false_ne_true]; rw [if_neg Bool.false_ne_true] at hd
      exact ⟨rfl, rfl, rfl, fun x hx => hx, Refs.del_subset hd⟩
  obtain ⟨f1, f2, f6, f3, f5⟩ := hfacts
  refine ⟨hsame.ginv hi.ginv, hstruct, ?_, SStat_congr f1 hi.stat, ?_, by rw [f1]; exact hi.len, by rw [f6]; exact hi.dist⟩
  · -- a stream that leaves the active list keeps the weaker bound
    intro st' hm i
    rw [f1] at hm
    have := hi.sb st' hm i
    unfold SBst ptrOfEpoch at *
    rw [f2]
    by_cases ha' : st'.id ∈ s'.active.ids
    · rw [if_pos ha']; rw [if_pos (f3 _ ha')] at this; exact this
    · rw [if_neg ha']
      by_cases ha : st'.id ∈ s.active.ids
      · rw [if_pos ha] at this; omega
      · rw [if_neg ha] at this; exact this
  · intro st' hm hu; rw [f1] at hm; exact hi.fresh st' hm (f5 _ hu)

/-- re-targeting a stream's records (a governance proposal outside the property's quantifier) is the one
    operation that can break the stream bound: it may add pending shares in the middle of an epoch -/
def Op.noRetarget : Op → Prop
  | .replaceDistr _ _ => False
  | .updateDistr _ _ => False
  | _ => True

instance (op : Op) : Decidable op.noRetarget := by
  cases op <;> (unfold Op.noRetarget; infer_instance)

theorem step_inv (s : State) (op : Op) (hi : Inv s) (hw : op.wf) (hw2 : op.wfS) (hr : op.noRetarget)
    (hlen : (step s op).2.streams.length < maxU64) : Inv (step s op).2 := by
  have hg := step_ginv s op hi.ginv hw
  have frame : ∀ s' : State, GInv s' → s'.streams = s.streams → s'.active = s.active → s'.upcoming = s.upcoming → s'.ptrs = s.ptrs →
      s'.distr = s.distr → Inv s' := fun _ hg h1 h2 h3 h4 h5 => Inv_frame hi h1 h2 h3 h4 hg h5
  unfold step at hlen hg ⊢
  by_cases hh : s.halted = true
  · rw [if_pos hh]; exact hi
  rw [if_neg hh] at hlen hg ⊢
  cases op with
  | begin dt => exact beginBlock_inv s dt hi
  | end_ =>
    dsimp only at hg ⊢
    cases h : streamerEndBlock s with
    | ok s' => exact endBlock_inv s s' hi h
    | error e => rw [h] at hg; exact frame _ hg rfl rfl rfl rfl rfl
  | setMaxIter n => exact frame _ hg rfl rfl rfl rfl rfl
  | fund a c => exact frame _ hg rfl rfl rfl rfl rfl
  | locks ls => exact frame _ hg rfl rfl rfl rfl rfl
  | rollapp r o l => exact frame _ hg rfl rfl rfl rfl rfl
  | rollappGauge r =>
    dsimp only at hg ⊢
    rcases createRollappGauge_shape s r with h | h <;> rw [h] at hg ⊢ <;> exact frame _ hg rfl rfl rfl rfl rfl
  | createGauge o p d du hsup c st n =>
    dsimp only at hg ⊢
    rcases createGauge_shape s o p d du hsup c st n with h | ⟨_, _, h⟩ <;> rw [h] at hg ⊢ <;> exact frame _ hg rfl rfl rfl rfl rfl
  | addToGauge o gid c =>
    dsimp only at hg ⊢
    rcases addToGauge_shape s o gid c with h | ⟨_, _, _, _, h⟩ <;> rw [h] at hg ⊢ <;> exact frame _ hg rfl rfl rfl rfl rfl
  | createStream sp c rs st e n => exact createStream_inv s hi sp c rs st e n hlen
  | terminateStream id =>
    rcases terminateStream_shape s id with h | ⟨_, _, _, h⟩
    · dsimp only; rw [h]; exact hi
    · exact moveToFinished_inv _ hi _ _ _ h
  | replaceDistr id rs => exact absurd hr (fun h => h)
  | updateDistr id rs => exact absurd hr (fun h => h)
  | distribution rs =>
    exact ⟨hg, SStruct_congr (s := s) rfl rfl rfl hi.struct, SB_congr (s := s) rfl rfl rfl hi.sb,
      SStat_congr (s := s) rfl hi.stat, Fresh_congr (s := s) rfl rfl hi.fresh, hi.len, strictInc_of_pairwise _ hw2⟩
  | poolGauges d hsup =>
    obtain ⟨a1, a2, a3, a4, a5⟩ := poolGaugesLoop_frame d hsup lockableDurations s
    exact Inv_frame hi a1 a2 a3 a4 hg a5

theorem init_inv (now mi : Nat) : Inv (init now mi) :=
  -- there are no streams yet
  have h0 : ∀ {P : Stream → Prop}, ∀ st ∈ (init now mi).streams, P st := fun st hm => by simp [init] at hm
  ⟨init_ginv now mi, init_sstruct now mi, h0, ⟨h0, h0⟩, h0, by simp [init, maxU64], by intro i j _ hj; simp [init] at hj⟩

/-- **the full invariant holds along every history** without re-targeting, as long as fewer than 2^64-1
    streams have been created -/
theorem run_inv : ∀ (ops : List Op) (s : State), Inv s → (∀ op ∈ ops, op.wf ∧ op.wfS ∧ op.noRetarget) →
    (run s ops).streams.length < maxU64 → Inv (run s ops) := by
  intro ops
  induction ops with
  | nil => intro s h _ _; exact h
  | cons op rest ih =>
    intro s hi hw hlen
    unfold run at hlen ⊢
    obtain ⟨w1, w2, w3⟩ := hw op List.mem_cons_self
    have hw' : ∀ o ∈ rest, o.wf ∧ o.wfS ∧ o.noRetarget := fun o ho => hw o (List.mem_cons_of_mem _ ho)
    have hst := step_sstep s op hi.struct w1 w2
    have hg1 := step_ginv s op hi.ginv w1
    have hm := (run_struct_mono rest _ hst.struct (fun o ho => ⟨(hw' o ho).1, (hw' o ho).2.1⟩)).2
    have hl1 : (step s op).2.streams.length < maxU64 := Nat.lt_of_le_of_lt hm.1 hlen
    exact ih _ (step_inv s op hi w1 w2 w3 hl1) hw' hlen

end DymVerif.Incent
