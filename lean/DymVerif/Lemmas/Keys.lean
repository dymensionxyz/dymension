/-
  Lemmas/Keys — the packet / sequencer / liveness key components of Model/Keys (status and packet-type
  texts: lengths, injectivity, no '/') and store ranges `inRange` (under a common prefix, outside a prefix,
  with equal-length heads, with separator-terminated heads).
-/
import DymVerif.Model.Keys
import DymVerif.Lemmas.Bytes
namespace DymVerif.Keys
open DymVerif

theorem statusBytes_length (st : Status) : (statusBytes st).length = 2 := by cases st <;> rfl

theorem statusBytes_inj (a b : Status) (h : statusBytes a = statusBytes b) : a = b := by
  cases a <;> cases b <;> simp [statusBytes] at h <;> rfl

/-- the height key is a fixed 19-byte prefix (`"LivenessEventQueue/"`) followed by the height -/
theorem livenessIterHeightKey_prefix :
    ∃ P : Bytes, (∀ h, livenessIterHeightKey h = P ++ be64 h) ∧ P.length = 19 :=
  ⟨_, fun _ => rfl, rfl⟩

theorem opStatusPrefix_length (st : OpStatus) : (opStatusPrefix st).length = 1 := by cases st <;> rfl

theorem opStatusPrefix_inj (a b : OpStatus) (h : opStatusPrefix a = opStatusPrefix b) : a = b := by
  cases a <;> cases b <;> simp [opStatusPrefix] at h <;> rfl

theorem ptypeStr_no_sep (t : PType) : sep ∉ ptypeStr t := by
  cases t <;> decide

theorem ptypeStr_inj (a b : PType) (h : ptypeStr a = ptypeStr b) : a = b := by
  cases a <;> cases b <;> first | rfl | (exfalso; revert h; decide)

theorem statusStr_no_sep (t : Status) : sep ∉ statusStr t := by
  cases t <;> decide

/-- a range between two strings with the same first byte holds only strings with that first byte -/
theorem inRange_cons_eq (x y : Nat) (a b k : Bytes) :
    inRange (x :: a) (x :: b) (y :: k) = (x == y && inRange a b k) := by
  rw [inRange, lexLe_cons, lexLt_cons, inRange]
  rcases Nat.lt_trichotomy x y with h | h | h
  · simp [h, Nat.lt_asymm h, Nat.ne_of_lt h, Nat.ne_of_gt h]
  · simp [h]
  · simp [h, Nat.lt_asymm h, Nat.ne_of_lt h, Nat.ne_of_gt h]

/-- a key that does not carry the prefix `P` is outside every range `[P ++ a, P ++ b)` -/
theorem not_prefix_not_inRange (P a b K : Bytes) (h : isPrefix P K = false) :
    inRange (P ++ a) (P ++ b) K = false := by
  induction P generalizing K with
  | nil => cases h
  | cons p ps ih =>
    cases K with
    | nil => rfl
    | cons k ks =>
      rw [List.cons_append, List.cons_append, inRange_cons_eq]
      rw [isPrefix] at h
      cases hpk : p == k with
      | false => rfl
      | true => rw [hpk] at h; exact ih ks h

theorem inRange_prefix (P a b r : Bytes) :
    inRange (P ++ a) (P ++ b) (P ++ r) = inRange a b r := by
  simp [inRange, lexLe, lexLt_append_left]

theorem inRange_cons (c : Nat) (a b r : Bytes) : inRange (c :: a) (c :: b) (c :: r) = inRange a b r :=
  inRange_prefix [c] a b r

/-- equal-length heads: `[A ++ x, A ++ y)` contains `B ++ z` exactly when `B = A` and `z ∈ [x, y)` -/
theorem eqlen_head_range (A B x y z : Bytes) (hl : A.length = B.length) :
    inRange (A ++ x) (A ++ y) (B ++ z) = (decide (B = A) && inRange x y z) := by
  have e1 := lexLt_append_eqlen B A z x hl.symm
  have e2 := lexLt_append_eqlen B A z y hl.symm
  simp only [inRange, lexLe, e1, e2]
  by_cases h : B = A
  · subst h; simp [lexLt_irrefl]
  · have hb : (B == A) = false := by simpa using h
    simp only [hb, Bool.false_and, Bool.or_false, h, decide_false]
    cases h1 : lexLt B A with
    | true => simp
    | false => simp

/-- separator-terminated heads: when the range `[a, e)` holds only strings that begin with the separator
    `c`, the range `[s ++ a, s ++ e)` contains `s' ++ c :: k` exactly when `s' = s` and `c :: k ∈ [a, e)` —
    also when one of `s`, `s'` extends the other (the two then part at a byte that is `c` in one only) -/
theorem sep_head_range (c : Nat) (s s' a e k : Bytes) (hs : c ∉ s) (hs' : c ∉ s')
    (H : ∀ y r, y ≠ c → inRange a e (y :: r) = false) :
    inRange (s ++ a) (s ++ e) (s' ++ c :: k) = (decide (s' = s) && inRange a e (c :: k)) := by
  induction s generalizing s' with
  | nil =>
    cases s' with
    | nil => simp
    | cons y ys => rw [List.nil_append, List.nil_append, List.cons_append, H y _ fun e => hs' (e ▸ List.mem_cons_self)]; simp
  | cons x xs ih =>
    cases s' with
    | nil =>
      rw [List.cons_append, List.cons_append, List.nil_append, inRange_cons_eq,
        beq_false_of_ne fun e : x = c => hs (e ▸ List.mem_cons_self)]
      simp
    | cons y ys =>
      rw [List.cons_append, List.cons_append, List.cons_append, inRange_cons_eq,
        ih ys (fun m => hs (List.mem_cons_of_mem _ m)) fun m => hs' (List.mem_cons_of_mem _ m)]
      by_cases hxy : x = y
      · subst hxy; simp
      · simp [hxy, Ne.symm hxy]

/-- … between two bounds under the field value `s` -/
theorem sep_range (c : Nat) (s s' lo hi k : Bytes) (hs : c ∉ s) (hs' : c ∉ s') :
    inRange (s ++ c :: lo) (s ++ c :: hi) (s' ++ c :: k) = (decide (s' = s) && inRange lo hi k) := by
  rw [sep_head_range c s s' _ _ k hs hs' fun y r hy => by rw [inRange_cons_eq, beq_false_of_ne (Ne.symm hy)]; rfl,
    inRange_cons]

/-- … from a lower bound to the end of the prefix scan for `s ++ [c]` (`PrefixEndBytes` of it is `s ++ [c + 1]`) -/
theorem sep_range_end (c : Nat) (s s' lo k : Bytes) (hs : c ∉ s) (hs' : c ∉ s') :
    inRange (s ++ c :: lo) (s ++ [c + 1]) (s' ++ c :: k) = (decide (s' = s) && lexLe lo k) := by
  rw [sep_head_range c s s' _ _ k hs hs' fun y r hy => ?_]
  · simp [inRange, lexLe_cons, lexLt_cons]
  · simp only [inRange, lexLe_cons, lexLt_cons, lexLt_nil_right, Bool.and_false, Bool.or_false]
    rcases Nat.lt_or_gt_of_ne hy with h | h
    · rw [decide_eq_false (by omega : ¬ c < y), decide_eq_false (by omega : ¬ c = y)]; rfl
    · rw [decide_eq_false (by omega : ¬ y < c + 1), Bool.and_false]

/-- equal-length components: the range `[a, a ++ e)` contains `b ++ r` exactly when `b = a`, `r < e` -/
theorem eqlen_range (a b e r : Bytes) (hl : a.length = b.length) :
    inRange a (a ++ e) (b ++ r) = (decide (b = a) && lexLt r e) := by
  have h0 : inRange [] e r = lexLt r e := by rw [inRange, lexLe, lexLt_nil_right]; rfl
  have := eqlen_head_range a b [] e r hl
  rwa [List.append_nil, h0] at this

/-- equal-length heads decide range membership -/
theorem inRange_head (a b x r : Bytes) (ha : a.length = x.length) (hb : b.length = x.length) :
    inRange a b (x ++ r) = (lexLe a x && lexLt x b) := by
  have e1 := lexLt_append_eqlen x a r [] ha.symm
  have e2 := lexLt_append_eqlen x b r [] hb.symm
  simp only [List.append_nil, lexLt_nil_right, Bool.and_false, Bool.or_false] at e1 e2
  rw [inRange, lexLe, e1, e2, lexLe]

/-- the two status prefixes have the same length: prefix match splits off the status -/
theorem isPrefix_statusBytes (st st' : Status) (x z : Bytes) :
    isPrefix (statusBytes st ++ x) (statusBytes st' ++ z) = (decide (st = st') && isPrefix x z) := by
  rw [eqlen_isPrefix_head _ _ _ _ (by rw [statusBytes_length, statusBytes_length])]
  exact congrArg (· && _) (decide_eq_decide.2 ⟨statusBytes_inj _ _, congrArg _⟩)

end DymVerif.Keys
