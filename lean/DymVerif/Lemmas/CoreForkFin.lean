/-
  Lemmas/CoreForkFin — forks and finalized states, given that finalized states form a prefix of the
  recorded states (`FinPrefix`, an invariant of every reachable state: finalization proceeds in index
  order — property C02): an accepted fork removes and truncates unfinalized states only.
-/
import DymVerif.Lemmas.CoreForkPlan
namespace DymVerif.Core.Fork

/-- finalized states form a prefix -/
def FinPrefix (l : List SInfo) : Prop :=
  ∀ (i j : Nat) (a b : SInfo), i ≤ j → l[i]? = some a → l[j]? = some b → b.finalized = true → a.finalized = true

/-- every removed state was unfinalized -/
theorem PlanSpec.removed_unfin {r : Rollapp} {n keep : Nat} {kst st l : SInfo} (ps : PlanSpec r n keep kst st l)
    (hc : Chain r.states) (hfp : FinPrefix r.states) :
    ∀ (j : Nat) (x : SInfo), keep ≤ j → r.states[j]? = some x → x.finalized = false := by
  intro j x hj hx
  cases hxf : x.finalized with
  | false => rfl
  | true =>
    exfalso
    obtain ⟨f, l', hf, hl'⟩ := nonempty_first_last ps.hst
    cases ps.hl.symm.trans hl'
    -- `x` lies above the new latest height, so the first removed height `n` is at most `x.start` and some
    -- state `c` at a position `k ≤ j` contains it: `c` is unfinalized, `x` after it is finalized
    have hab := ps.above hc j x hj hx
    have hxl := hc.last_le_last ps.hl hx
    have hxw := (hc.wf x (List.mem_of_getElem? hx)).start_le_last
    have hfl := hc.first_le hf (keep - 1) st ps.hst
    have hmin := ps.h_min
    have hlo := ps.h_lo
    obtain ⟨k, c, hk, hc1, hc2⟩ := hc.contains_of_range hf ps.hl (h := n) (by omega) (by omega)
    have hkj : k ≤ j := by
      rcases Nat.lt_or_ge j k with h | h
      · have := hc.mono' j k x c h hx hk
        have := (hc.wf x (List.mem_of_getElem? hx)).num_pos
        omega
      · exact h
    have := hfp k j c x hkj hk hx hxf
    rw [ps.hit_unfin k c hk hc1 hc2] at this
    cases this

/-- no finalized state has a height above the new latest height that it loses -/
theorem PlanSpec.no_finalized_above {r : Rollapp} {n keep : Nat} {kst st l : SInfo} (ps : PlanSpec r n keep kst st l)
    (hc : Chain r.states) (hfp : FinPrefix r.states) :
    ∀ (j : Nat) (x : SInfo), r.states[j]? = some x → x.finalized = true → x.last ≤ kst.last := by
  intro j x hx hxf
  rcases Nat.lt_trichotomy (j + 1) keep with h | h | h
  · have := ps.below hc j x h hx
    have := ps.h_lo
    omega
  · have hj : j = keep - 1 := by omega
    subst hj
    have hxs : x = st := by
      have h1 := ps.hst
      rw [hx] at h1; injection h1
    subst hxs
    rcases Nat.lt_or_ge kst.last x.last with h1 | h1
    · have := ps.trunc_unfin h1
      rw [hxf] at this; cases this
    · exact h1
  · have := ps.removed_unfin hc hfp j x (by omega) hx
    rw [hxf] at this; cases this

end DymVerif.Core.Fork
