/-
  Lemmas/CoreFinIso — the liveness hook of `EndBlock` (`CheckLiveness`) neither reads nor writes the
  finalization data (states / lastFin of the rollapps, the finalization queue, the sequencer-height
  index): running it on two states that differ only there gives results that differ only there.
  Consequence: the whole rollapp record after `EndBlock` depends only on the failure oracle
  restricted to that rollapp's due indices.
-/
import DymVerif.Lemmas.CoreFinComplete
namespace DymVerif.Core

/-- override the finalization data of a state -/
def ov (s : St) (R : List Rollapp) (Q : List QEntry) (H : List (Addr × Nat)) : St :=
  { s with ras := R, queue := Q, seqH := H }

/-- everything of a rollapp record except states / lastFin -/
def livKey (r : Rollapp) : Nat × Addr × Nat × Bool × List (Nat × Nat) × Nat × Nat × Nat × Option Addr × Option Addr :=
  (r.id, r.owner, r.minBond, r.launched, r.revs, r.tph, r.evH, r.cdStart, r.proposer, r.successor)

def ovM (R : List Rollapp) (Q : List QEntry) (H : List (Addr × Nat)) (x : M (St × Seq)) : M (St × Seq) :=
  match x with
  | .ok (s, q) => .ok (ov s R Q H, q)
  | .error e => .error e

theorem sendFromModule_ov (s : St) (R : List Rollapp) (Q : List QEntry) (H : List (Addr × Nat)) (q : Seq) (amt : Nat) (to : Addr) :
    sendFromModule (ov s R Q H) q amt to = ovM R Q H (sendFromModule s q amt to) := by
  unfold sendFromModule
  by_cases h1 : q.tokens < amt
  · rw [if_pos h1, if_pos h1]; rfl
  · rw [if_neg h1, if_neg h1]
    by_cases hb : blockedAddr to = true
    · rw [if_pos hb, if_pos hb]; rfl
    · rw [if_neg hb, if_neg hb]
      by_cases h2 : s.modBal < amt
      · rw [if_pos h2, if_pos (show (ov s R Q H).modBal < amt from h2)]; rfl
      · rw [if_neg h2, if_neg (show ¬ (ov s R Q H).modBal < amt from h2)]; rfl

theorem burn_ov (s : St) (R : List Rollapp) (Q : List QEntry) (H : List (Addr × Nat)) (q : Seq) (amt : Nat) :
    burn (ov s R Q H) q amt = ovM R Q H (burn s q amt) := by
  unfold burn
  by_cases h1 : q.tokens < amt
  · rw [if_pos h1, if_pos h1]; rfl
  · rw [if_neg h1, if_neg h1]
    by_cases h2 : s.modBal < amt
    · rw [if_pos h2, if_pos (show (ov s R Q H).modBal < amt from h2)]; rfl
    · rw [if_neg h2, if_neg (show ¬ (ov s R Q H).modBal < amt from h2)]; rfl

theorem slash_ov (s : St) (R : List Rollapp) (Q : List QEntry) (H : List (Addr × Nat)) (q : Seq) (amt : Nat) (mul : Dec)
    (rw : Option Addr) : slash (ov s R Q H) q amt mul rw = ovM R Q H (slash s q amt mul rw) := by
  unfold slash
  dsimp only
  by_cases h0 : ((mul.mulInt amt).truncateInt).toNat = 0
  · rw [if_pos h0, if_pos h0]
    dsimp only
    exact burn_ov s R Q H q _
  · rw [if_neg h0, if_neg h0]
    cases rw with
    | none => rfl
    | some to =>
      dsimp only
      rw [sendFromModule_ov]
      cases sendFromModule s q ((mul.mulInt amt).truncateInt).toNat to with
      | error e => rfl
      | ok x =>
        obtain ⟨s1, q1⟩ := x
        show burn (ov s1 R Q H) q1 _ = ovM R Q H (burn s1 q1 _)
        exact burn_ov s1 R Q H q1 _

def ovS (R : List Rollapp) (Q : List QEntry) (H : List (Addr × Nat)) (x : M St) : M St :=
  match x with
  | .ok s => .ok (ov s R Q H)
  | .error e => .error e

theorem slashLiveness_ov (s : St) (R : List Rollapp) (Q : List QEntry) (H : List (Addr × Nat)) (r r' : Rollapp)
    (hp : r'.proposer = r.proposer) : slashLiveness (ov s R Q H) r' = ovS R Q H (slashLiveness s r) := by
  unfold slashLiveness
  rw [hp]
  cases r.proposer with
  | none => rfl
  | some a =>
    dsimp only
    have hgs : getSeq (ov s R Q H) a = getSeq s a := rfl
    rw [hgs]
    cases getSeq s a with
    | none => rfl
    | some q =>
      dsimp only
      have : (ov s R Q H).sqp = s.sqp := rfl
      rw [this, slash_ov]
      cases slash s q (min q.tokens (max s.sqp.lsAbs ((s.sqp.lsMul.mulInt q.tokens).truncateInt).toNat)) ⟨0⟩ none with
      | error e => rfl
      | ok x => obtain ⟨s1, q1⟩ := x; rfl

theorem find_livKey (R1 R2 : List Rollapp) (h : R1.map livKey = R2.map livKey) (id : Nat) :
    (R1.find? (·.id == id)).map livKey = (R2.find? (·.id == id)).map livKey := by
  -- the id is the first component of the key: look it up in the list of keys
  have e : ∀ R : List Rollapp, (R.find? (·.id == id)).map livKey = (R.map livKey).find? (fun k => k.1 == id) :=
    fun R => by rw [List.find?_map]; rfl
  rw [e R1, e R2, h]

theorem getRa_livKey {s1 s2 : St} (h : s1.ras.map livKey = s2.ras.map livKey) (id : Nat) :
    (getRa s1 id).map livKey = (getRa s2 id).map livKey := find_livKey _ _ h id

theorem livKey_fields {a b : Rollapp} (h : livKey a = livKey b) :
    a.id = b.id ∧ a.cdStart = b.cdStart ∧ a.proposer = b.proposer := by
  unfold livKey at h
  simp only [Prod.mk.injEq] at h
  exact ⟨h.1, h.2.2.2.2.2.2.2.1, h.2.2.2.2.2.2.2.2.1⟩

theorem setRa_livKey (s1 s2 : St) (r1 r2 : Rollapp) (h : s1.ras.map livKey = s2.ras.map livKey) (hk : livKey r1 = livKey r2) :
    (setRa s1 r1).ras.map livKey = (setRa s2 r2).ras.map livKey := by
  -- replacing a record acts on the list of keys, by the key of the new record alone
  have e : ∀ (R : List Rollapp) (r : Rollapp), (R.map (fun x => if x.id == r.id then r else x)).map livKey =
      (R.map livKey).map (fun k => if k.1 == (livKey r).1 then livKey r else k) := by
    intro R r
    rw [List.map_map, List.map_map]
    apply List.map_congr_left
    intro x _
    show livKey (if x.id == r.id then r else x) = if x.id == r.id then livKey r else livKey x
    split <;> rfl
  unfold setRa
  rw [e, e, h, hk]

/-- the relation kept by the liveness hook: equal except for the finalization data -/
def LivEq (s1 s2 : St) : Prop :=
  ∃ R Q H, s2 = ov s1 R Q H ∧ R.map livKey = s1.ras.map livKey

theorem handleLivenessEvent_livEq {s1 s2 : St} (h : LivEq s1 s2) (ra : Nat) :
    LivEq (handleLivenessEvent s1 ra) (handleLivenessEvent s2 ra) := by
  obtain ⟨R, Q, H, rfl, hR⟩ := h
  have hk := getRa_livKey (s1 := ov s1 R Q H) (s2 := s1) hR ra
  unfold handleLivenessEvent
  cases hg1 : getRa s1 ra with
  | none =>
    rw [hg1] at hk
    cases hg2 : getRa (ov s1 R Q H) ra with
    | none => exact ⟨R, Q, H, rfl, hR⟩
    | some r2 => rw [hg2] at hk; cases hk
  | some r1 =>
    rw [hg1] at hk
    cases hg2 : getRa (ov s1 R Q H) ra with
    | none => rw [hg2] at hk; cases hk
    | some r2 =>
      rw [hg2] at hk
      simp only [Option.map_some, Option.some.injEq] at hk
      dsimp only
      rw [slashLiveness_ov s1 R Q H r1 r2 (livKey_fields hk).2.2]
      cases hsl : slashLiveness s1 r1 with
      | error e => exact ⟨R, Q, H, rfl, hR⟩
      | ok s1' =>
        have hras : s1'.ras = s1.ras := (slashLiveness_frame hsl).ras
        have hg1' : getRa s1' ra = some r1 := by rw [getRa_frame hras]; exact hg1
        have hg2' : getRa (ov s1' R Q H) ra = some r2 := hg2
        simp only [ovS, hg1', hg2']
        unfold scheduleEvent
        dsimp only
        have hcd : r2.cdStart = r1.cdStart := (livKey_fields hk).2.1
        have hid : r2.id = r1.id := (livKey_fields hk).1
        refine ⟨(setRa (ov s1' R Q H) { r2 with evH := nextSlashHeight s1'.p.lsBlocks s1'.p.lsInterval s1'.h r1.cdStart }).ras,
          Q, H, ?_, ?_⟩
        · show setRa _ _ = _
          unfold setRa ov
          rw [hcd, hid]
        · apply setRa_livKey
          · show R.map livKey = s1'.ras.map livKey
            rw [hras]; exact hR
          · unfold livKey at hk ⊢
            simp only [Prod.mk.injEq] at hk ⊢
            refine ⟨hk.1, hk.2.1, hk.2.2.1, hk.2.2.2.1, hk.2.2.2.2.1, hk.2.2.2.2.2.1, trivial, hk.2.2.2.2.2.2.2⟩

theorem checkLiveness_livEq {s1 s2 : St} (h : LivEq s1 s2) : LivEq (checkLiveness s1) (checkLiveness s2) := by
  unfold checkLiveness
  obtain ⟨R, Q, H, rfl, hR⟩ := h
  have hl : (ov s1 R Q H).lev = s1.lev := rfl
  have hh : (ov s1 R Q H).h = s1.h := rfl
  rw [hl, hh]
  have : ∀ (l : List (Nat × Nat)) (a b : St), LivEq a b →
      LivEq (l.foldl (fun acc e => handleLivenessEvent acc e.2) a) (l.foldl (fun acc e => handleLivenessEvent acc e.2) b) := by
    intro l
    induction l with
    | nil => intro a b hab; exact hab
    | cons x xs ih => intro a b hab; exact ih _ _ (handleLivenessEvent_livEq hab x.2)
  exact this _ _ _ ⟨R, Q, H, rfl, hR⟩

theorem rollapp_ext_keys {a b : Rollapp} (h1 : livKey a = livKey b) (h2 : finPart a = finPart b) : a = b := by
  cases a; cases b
  unfold livKey at h1
  unfold finPart at h2
  simp only [Prod.mk.injEq] at h1 h2
  simp only [Rollapp.mk.injEq]
  exact ⟨h1.1, h1.2.1, h1.2.2.1, h1.2.2.2.1, h1.2.2.2.2.1, h2.1, h2.2, h1.2.2.2.2.2.1, h1.2.2.2.2.2.2.1,
    h1.2.2.2.2.2.2.2.1, h1.2.2.2.2.2.2.2.2.1, h1.2.2.2.2.2.2.2.2.2⟩

theorem LivEq.refl (s : St) : LivEq s s := ⟨s.ras, s.queue, s.seqH, rfl, rfl⟩

theorem LivEq.trans {a b c : St} (h1 : LivEq a b) (h2 : LivEq b c) : LivEq a c := by
  obtain ⟨R, Q, H, rfl, hR⟩ := h1
  obtain ⟨R', Q', H', rfl, hR'⟩ := h2
  exact ⟨R', Q', H', rfl, hR'.trans hR⟩

theorem LivEq.symm {a b : St} (h : LivEq a b) : LivEq b a := by
  obtain ⟨R, Q, H, rfl, hR⟩ := h
  exact ⟨a.ras, a.queue, a.seqH, rfl, hR.symm⟩

theorem setRa_livKey_self {s : St} (hn : IdsNodup s) {id : Nat} {r r' : Rollapp} (hg : getRa s id = some r)
    (hk : livKey r' = livKey r) : (setRa s r').ras.map livKey = s.ras.map livKey := by
  unfold setRa
  simp only [List.map_map]
  apply List.map_congr_left
  intro x hx
  simp only [Function.comp]
  by_cases hc : (x.id == r'.id) = true
  · have hxid : x.id = r'.id := by simpa using hc
    have : x = r := hn.unique hx (getRa_mem hg) (by rw [hxid, (livKey_fields hk).1])
    rw [if_pos hc, hk, this]
  · rw [if_neg hc]

theorem finalizeOne_livEq {s s' : St} {fails : List (Nat × Nat)} {ra idx : Nat} (hn : IdsNodup s)
    (e : finalizeOne s fails ra idx = some s') : LivEq s s' := by
  obtain ⟨_, _, r, st, hg, _, _, rfl⟩ := finalizeOne_ok e
  refine ⟨_, s.queue, s.seqH.filter (fun p => !(p.1 == st.creator && st.bds.any (·.height == p.2))), rfl, ?_⟩
  exact setRa_livKey_self (s := { s with seqH := s.seqH.filter (fun p => !(p.1 == st.creator && st.bds.any (·.height == p.2))) })
    hn hg rfl

theorem finalizeAll_livEq (fails : List (Nat × Nat)) (es : List QEntry) (failed : List Nat) (s : St) (hn : IdsNodup s) :
    LivEq s (finalizeAll s fails es failed) :=
  (finalizeAll_ind (P := fun b => LivEq s b ∧ IdsNodup b) fails
    (fun _ _ _ _ hb h1 => ⟨hb.1.trans (finalizeOne_livEq hb.2 h1), (finalizeOne_rel hb.2 h1).2⟩)
    (fun b q hb => ⟨hb.1.trans ⟨b.ras, q, b.seqH, rfl, rfl⟩, hb.2⟩) es failed s ⟨LivEq.refl s, hn⟩).1

theorem finalizeRollappStates_livEq (s : St) (fails : List (Nat × Nat)) (hn : IdsNodup s) :
    LivEq s (finalizeRollappStates s fails) := by
  unfold finalizeRollappStates
  split
  · exact LivEq.refl s
  · exact finalizeAll_livEq fails _ _ s hn

/-- **isolation, whole record**: the record of rollapp `id` after `EndBlock` is the same under two
    oracles that agree on `id`'s due indices -/
theorem endBlock_iso_full (s : St) (hn : IdsNodup s) (f1 f2 : List (Nat × Nat)) (id : Nat)
    (hag : ∀ e ∈ s.queue, e.ra = id → e.ch + s.p.dispute ≤ s.h → ∀ j ∈ e.idx, f1.contains (id, j) = f2.contains (id, j)) :
    getRa (endBlock s f1) id = getRa (endBlock s f2) id := by
  have h1 := endBlock_iso s f1 f2 id hag
  have hl : LivEq (endBlock s f1) (endBlock s f2) := by
    unfold endBlock
    exact checkLiveness_livEq ((finalizeRollappStates_livEq s f1 hn).symm.trans (finalizeRollappStates_livEq s f2 hn))
  obtain ⟨R, Q, H, h2, hR⟩ := hl
  have h3 := getRa_livKey (s1 := endBlock s f2) (s2 := endBlock s f1) (by rw [h2]; exact hR) id
  cases ha : getRa (endBlock s f1) id with
  | none =>
    rw [ha] at h1 h3
    cases hb : getRa (endBlock s f2) id with
    | none => rfl
    | some b => rw [hb] at h1; cases h1
  | some a =>
    rw [ha] at h1 h3
    cases hb : getRa (endBlock s f2) id with
    | none => rw [hb] at h1; cases h1
    | some b =>
      rw [hb] at h1 h3
      simp only [Option.map_some, Option.some.injEq] at h1 h3
      rw [rollapp_ext_keys h3.symm h1]

end DymVerif.Core
