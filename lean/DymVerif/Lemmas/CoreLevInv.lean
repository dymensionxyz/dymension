/-
  Lemmas/CoreLevInv — the liveness-event invariants of M-Core for every reachable state: `Lev`
  (events ↔ records, one event per rollapp), `IdsNodup` (one record per rollapp id) and any predicate
  on the clocks `(evH, cdStart)` of the records that every way of writing a clock keeps (`run_clock`),
  through messages, `beginBlock` and `endBlock` (finalization + `checkLiveness`).
-/
import DymVerif.Lemmas.CoreLevWalk
import DymVerif.Lemmas.CoreLiveness
namespace DymVerif.Core.LevNs

theorem lev_closed : LClosed Lev where
  of_same := fun h hs => h.of_eq hs.1 hs.2.1
  set_same := fun h hg hid he _ => h.setRa_same hg hid he
  indicate := fun h hg => h.indicate hg
  reset := fun h hg hid he => h.reset hg hid he
  create := by
    intro s id o mb h hnone
    constructor
    · intro e he
      obtain ⟨r, hr, h0⟩ := h.ev_ra e he
      refine ⟨r, ?_, h0⟩
      have hne : (newRollapp id o mb).id ≠ e.2 := by
        intro hc
        have : getRa s id = some r := by rw [show id = e.2 from hc]; exact hr
        rw [hnone] at this; cases this
      rw [getRa_insertSorted_ne hne]; exact hr
    · exact h.one
    · intro r hr
      rcases insertSorted_mem' _ _ _ _ hr with h1 | h1
      · subst h1; exact Or.inl rfl
      · exact h.ra_ev r h1

def IdsNodup (s : St) : Prop := (s.ras.map (·.id)).Nodup

theorem ids_closed : LClosed IdsNodup where
  of_same := by intro s s' h hs; unfold IdsNodup; rw [hs.1]; exact h
  set_same := by intro s id r r' h _ _ _ _; unfold IdsNodup; rw [setRa_ids]; exact h
  indicate := by intro s id r h _; unfold IdsNodup; rw [indicateLiveness_ras, setRa_ids]; exact h
  reset := by
    intro s id r r' h _ _ _
    unfold IdsNodup; rw [setRa_ids]; exact h
  create := by
    intro s id o mb h hnone
    exact insertSorted_nodup_map _ Rollapp.id _ _ h (Fork.getRa_none hnone)

theorem find_of_ids_nodup (l : List Rollapp) (h : (l.map (·.id)).Nodup) {r : Rollapp} (hr : r ∈ l) :
    l.find? (·.id == r.id) = some r := by
  induction l with
  | nil => cases hr
  | cons a as ih =>
    have hp := List.nodup_cons.1 (by simpa using h : (a.id :: as.map (·.id)).Nodup)
    rw [List.find?_cons]
    rcases List.mem_cons.1 hr with h1 | h1
    · subst h1; simp
    · have hne : a.id ≠ r.id := fun e => hp.1 (List.mem_map.2 ⟨r, h1, e.symm⟩)
      have : (a.id == r.id) = false := by simp [hne]
      rw [this]; exact ih hp.2 h1

theorem IdsNodup.getRa_of_mem {s : St} (h : IdsNodup s) {r : Rollapp} (hr : r ∈ s.ras) : getRa s r.id = some r :=
  find_of_ids_nodup s.ras h hr

theorem LClosed.congr {P P' : St → Prop} (hc : LClosed P) (h : ∀ s, P' s ↔ P s) : LClosed P' where
  of_same := fun h0 hs => (h _).2 (hc.of_same ((h _).1 h0) hs)
  set_same := fun h0 hg hid he hcd => (h _).2 (hc.set_same ((h _).1 h0) hg hid he hcd)
  indicate := fun h0 hg => (h _).2 (hc.indicate ((h _).1 h0) hg)
  reset := fun h0 hg hid he => (h _).2 (hc.reset ((h _).1 h0) hg hid he)
  create := fun h0 hg => (h _).2 (hc.create ((h _).1 h0) hg)

/-- a predicate that reads of every rollapp record only its clock (`evH`, `cdStart`), against the hub
    height and the parameters (of which `G` may ask something), is closed as soon as it holds of the
    three clocks the model writes: restarted by `IndicateLiveness`, reset by a fork, and new -/
theorem clock_closed (G : Nat → Params → Prop) (C : Nat → Params → Nat → Nat → Prop)
    (hind : ∀ h p, G h p → C h p (nextSlashHeight p.lsBlocks p.lsInterval h h) h)
    (hreset : ∀ h p, C h p 0 h) (hnew : ∀ h p, C h p 0 0) :
    LClosed (fun s => G s.h s.p ∧ ∀ r ∈ s.ras, C s.h s.p r.evH r.cdStart) where
  of_same := by
    intro s s' h hs
    obtain ⟨e1, _, e3, e4⟩ := hs
    rw [e1, e3, e4]; exact h
  set_same := by
    intro s id r r' h hg _ he hc
    refine ⟨h.1, fun x hx => ?_⟩
    rcases mem_setRa_ne hx with h1 | ⟨h1, _⟩
    · subst h1; rw [he, hc]; exact h.2 r (getRa_mem hg)
    · exact h.2 x h1
  indicate := by
    intro s id r h _
    refine ⟨by rw [indicateLiveness_h, indicateLiveness_p]; exact h.1, fun x hx => ?_⟩
    rw [indicateLiveness_h, indicateLiveness_p]
    rw [indicateLiveness_ras] at hx
    rcases mem_setRa_ne hx with h1 | ⟨h1, _⟩
    · subst h1; exact hind _ _ h.1
    · exact h.2 x h1
  reset := by
    intro s id r r' h _ _ _
    refine ⟨h.1, fun x hx => ?_⟩
    rcases mem_setRa_ne hx with h1 | ⟨h1, _⟩
    · subst h1; exact hreset _ _
    · exact h.2 x h1
  create := by
    intro s id o mb h _
    refine ⟨h.1, fun x hx => ?_⟩
    rcases insertSorted_mem' _ _ _ _ hx with h1 | h1
    · subst h1; exact hnew _ _
    · exact h.2 x h1

theorem beginBlock_lev {s : St} {dt : Nat} (h : Lev s) : Lev (beginBlock s dt) :=
  beginBlock_cl lev_closed (h.of_eq rfl rfl)

theorem tokSum_ge_mem {l : List Seq} {q : Seq} (h : q ∈ l) : q.tokens ≤ tokSum l := by
  induction l with
  | nil => cases h
  | cons a as ih =>
    have hc : tokSum (a :: as) = a.tokens + tokSum as := by simp [tokSum]
    rw [hc]
    rcases List.mem_cons.1 h with h1 | h1
    · subst h1; omega
    · have := ih h1; omega

/-- `min(bond, max(absolute minimum, ⌊multiplier · bond⌋))` -/
def livSlashAmt (p : SeqParams) (tokens : Nat) : Nat :=
  min tokens (max p.lsAbs ((p.lsMul.mulInt tokens).truncateInt).toNat)

theorem livSlashAmt_le (p : SeqParams) (tokens : Nat) : livSlashAmt p tokens ≤ tokens := Nat.min_le_left _ _

/-- a slash without reward burns exactly `amt` whenever the module account covers it -/
theorem slash_noreward {s : St} {q : Seq} {amt : Nat} (h1 : amt ≤ q.tokens) (h2 : amt ≤ s.modBal) :
    slash s q amt ⟨0⟩ none =
      .ok ({ s with modBal := s.modBal - amt, burned := s.burned + amt }, { q with tokens := q.tokens - amt }) := by
  unfold slash
  have hr : ((Dec.mulInt ⟨0⟩ (amt : Int)).truncateInt).toNat = 0 := by
    simp [Dec.mulInt, Dec.truncateInt, chopTrunc]
  dsimp only
  rw [hr]
  simp only [if_true, Nat.sub_zero]
  unfold burn
  rw [if_neg (by omega), if_neg (by omega)]

/-- exact effect of `SlashLiveness` on a real proposer, in a state where bonds are backed -/
theorem slashLiveness_spec {s : St} {r : Rollapp} {a : Addr} {q : Seq} (hc : Cust s)
    (hp : r.proposer = some a) (hq : getSeq s a = some q) :
    slashLiveness s r =
      .ok (setSeq { s with modBal := s.modBal - livSlashAmt s.sqp q.tokens, burned := s.burned + livSlashAmt s.sqp q.tokens }
            { q with tokens := q.tokens - livSlashAmt s.sqp q.tokens, dishonor := q.dishonor + s.sqp.dishonorL }) := by
  have hle := livSlashAmt_le s.sqp q.tokens
  have hmod : livSlashAmt s.sqp q.tokens ≤ s.modBal := by
    have := tokSum_ge_mem (getSeq_mem hq); rw [← hc.bal] at this; omega
  unfold slashLiveness
  rw [hp]; dsimp only
  rw [hq]; dsimp only
  have := slash_noreward (s := s) (q := q) hle hmod
  unfold livSlashAmt at this
  rw [this]
  rfl

theorem slashLiveness_accepts {s : St} (hc : Cust s) (r : Rollapp) : ∃ s1, slashLiveness s r = .ok s1 := by
  cases hp : r.proposer with
  | none => exact ⟨s, by unfold slashLiveness; rw [hp]⟩
  | some a =>
    cases hq : getSeq s a with
    | none => exact ⟨s, by unfold slashLiveness; rw [hp]; dsimp only; rw [hq]⟩
    | some q => exact ⟨_, slashLiveness_spec hc hp hq⟩

/-- the successful path of `HandleLivenessEvent`, in closed form -/
theorem handleLivenessEvent_eq {s s1 : St} {ra : Nat} {r : Rollapp} (hg : getRa s ra = some r)
    (hs : slashLiveness s r = .ok s1) :
    handleLivenessEvent s ra =
      setRa { s1 with lev := insertSorted ltPair (nextSlashHeight s1.p.lsBlocks s1.p.lsInterval s1.h r.cdStart, r.id)
                                (delEvent s1.lev s1.h ra) }
            { r with evH := nextSlashHeight s1.p.lsBlocks s1.p.lsInterval s1.h r.cdStart } := by
  have hg1 : getRa s1 ra = some r := by rw [getRa_of_ras_eq (slashLiveness_same hs).1]; exact hg
  unfold handleLivenessEvent
  rw [hg]; dsimp only
  rw [hs]; dsimp only
  rw [hg1]; rfl

theorem handleLivenessEvent_err {s : St} {ra : Nat} {r : Rollapp} {e : Err} (hg : getRa s ra = some r)
    (hs : slashLiveness s r = .error e) : handleLivenessEvent s ra = s := by
  unfold handleLivenessEvent
  rw [hg]; dsimp only
  rw [hs]

/-- a liveness event changes nothing, or slashes the proposer and reschedules the event -/
theorem handleLivenessEvent_shape (s : St) (ra : Nat) :
    handleLivenessEvent s ra = s ∨ ∃ r s1, getRa s ra = some r ∧ slashLiveness s r = .ok s1 ∧
      handleLivenessEvent s ra =
        setRa { s1 with lev := insertSorted ltPair (nextSlashHeight s1.p.lsBlocks s1.p.lsInterval s1.h r.cdStart, r.id)
                                  (delEvent s1.lev s1.h ra) }
              { r with evH := nextSlashHeight s1.p.lsBlocks s1.p.lsInterval s1.h r.cdStart } := by
  cases hg : getRa s ra with
  | none => exact Or.inl (by unfold handleLivenessEvent; rw [hg])
  | some r =>
    cases hs : slashLiveness s r with
    | error e => exact Or.inl (handleLivenessEvent_err hg hs)
    | ok s1 => exact Or.inr ⟨r, s1, rfl, hs, handleLivenessEvent_eq hg hs⟩

/-- a liveness event changes neither the hub height nor the parameters -/
theorem handleLivenessEvent_hp (s : St) (ra : Nat) :
    (handleLivenessEvent s ra).h = s.h ∧ pp (handleLivenessEvent s ra) = pp s := by
  rcases handleLivenessEvent_shape s ra with hE | ⟨r, s1, hg, hs, hE⟩
  · rw [hE]; exact ⟨rfl, rfl⟩
  · rw [hE]
    exact ⟨(slashLiveness_same hs).2.2.1,
      Prod.ext (show s1.p = s.p from (slashLiveness_same hs).peq) (show s1.sqp = s.sqp from slashLiveness_sqp hs)⟩

theorem handleLivenessEvent_lev_other {s : St} {ra : Nat} {e : Nat × Nat} (he : e ∈ s.lev) (hne : e.2 ≠ ra) :
    e ∈ (handleLivenessEvent s ra).lev := by
  rcases handleLivenessEvent_shape s ra with hE | ⟨r, s1, hg, hs, hE⟩
  · rw [hE]; exact he
  · rw [hE, setRa_lev]
    apply mem_insertSorted_of_mem
    rw [(slashLiveness_same hs).2.1]
    exact mem_delEvent.2 ⟨he, fun hc => hne hc.2⟩

theorem handleLivenessEvent_getRa_other {s : St} {ra id : Nat} (hne : ra ≠ id) :
    getRa (handleLivenessEvent s ra) id = getRa s id := by
  rcases handleLivenessEvent_shape s ra with hE | ⟨r, s1, hg, hs, hE⟩
  · rw [hE]
  · rw [hE]
    rw [getRa_setRa_ne (show ({ r with evH := _ } : Rollapp).id ≠ id from by rw [getRa_id hg]; exact hne)]
    exact getRa_of_ras_eq (slashLiveness_same hs).1 id

theorem handleLivenessEvent_lev {s : St} {ra : Nat} (h : Lev s) (hm : (s.h, ra) ∈ s.lev) :
    Lev (handleLivenessEvent s ra) := by
  obtain ⟨r, hg, hev⟩ := h.ev_ra _ hm
  have hg : getRa s ra = some r := hg
  have hev : r.evH = s.h := hev
  cases hs : slashLiveness s r with
  | error e => rw [handleLivenessEvent_err hg hs]; exact h
  | ok s1 =>
    have hsame := slashLiveness_same hs
    have h1 : Lev s1 := h.of_eq hsame.1 hsame.2.1
    have hg1 : getRa s1 ra = some r := by rw [getRa_of_ras_eq hsame.1]; exact hg
    rw [handleLivenessEvent_eq hg hs]
    refine Lev.sched_gen (r' := { r with evH := nextSlashHeight s1.p.lsBlocks s1.p.lsInterval s1.h r.cdStart })
      h1 hg1 rfl rfl ?_
    show insertSorted ltPair (_, r.id) (delEvent s1.lev s1.h ra) = insertSorted ltPair (_, ra) (delEvent s1.lev r.evH ra)
    rw [getRa_id hg, hev, hsame.2.2.1]

/-- the rollapps whose liveness event is queued at the current height, in the order `CheckLiveness` handles them -/
def due (s : St) : List Nat := (s.lev.filter (fun e => e.1 == s.h)).map (·.2)

theorem checkLiveness_eq (s : St) : checkLiveness s = (due s).foldl handleLivenessEvent s := by
  unfold checkLiveness due; rw [List.foldl_map]

theorem mem_due {s : St} {id : Nat} : id ∈ due s ↔ (s.h, id) ∈ s.lev := by
  constructor
  · intro h
    obtain ⟨e, he, rfl⟩ := List.mem_map.1 h
    obtain ⟨h1, h2⟩ := List.mem_filter.1 he
    rw [← (by simpa using h2 : e.1 = s.h)]; exact h1
  · intro h; exact List.mem_map.2 ⟨_, List.mem_filter.2 ⟨h, by simp⟩, rfl⟩

theorem due_nodup {s : St} (h : Lev s) : (due s).Nodup :=
  List.Nodup.sublist (List.Sublist.map _ List.filter_sublist) h.one

theorem checkLiveness_hp (s : St) : (checkLiveness s).h = s.h ∧ pp (checkLiveness s) = pp s := by
  rw [checkLiveness_eq]
  exact foldl_inv (fun x : St => x.h = s.h ∧ pp x = pp s) _ _ _ ⟨rfl, rfl⟩
    (fun b e hb => ⟨(handleLivenessEvent_hp b e).1.trans hb.1, (handleLivenessEvent_hp b e).2.trans hb.2⟩)

/-- `Lev` through the events of distinct rollapps, each queued at the current height -/
theorem foldl_handle : ∀ (ids : List Nat) (s : St), Lev s → (∀ id ∈ ids, (s.h, id) ∈ s.lev) → ids.Nodup →
    Lev (ids.foldl handleLivenessEvent s)
  | [], _, h, _, _ => h
  | i :: ids, s, h, hl, hn =>
    have hp := List.nodup_cons.1 hn
    foldl_handle ids _ (handleLivenessEvent_lev h (hl i List.mem_cons_self))
      (fun id hid => by
        rw [(handleLivenessEvent_hp s i).1]
        exact handleLivenessEvent_lev_other (hl id (List.mem_cons_of_mem _ hid)) (fun (e : id = i) => hp.1 (e ▸ hid)))
      hp.2

theorem checkLiveness_lev {s : St} (h : Lev s) : Lev (checkLiveness s) := by
  rw [checkLiveness_eq]; exact foldl_handle _ s h (fun _ => mem_due.1) (due_nodup h)

theorem endBlock_lev {s : St} {f : List (Nat × Nat)} (h : Lev s) : Lev (endBlock s f) := by
  unfold endBlock
  exact checkLiveness_lev (finalizeRollappStates_cl lev_closed h)

theorem handleLivenessEvent_ids {s : St} {ra : Nat} (h : IdsNodup s) : IdsNodup (handleLivenessEvent s ra) := by
  rcases handleLivenessEvent_shape s ra with hE | ⟨r, s1, hg, hs, hE⟩
  · rw [hE]; exact h
  · rw [hE]
    unfold IdsNodup
    rw [setRa_ids]
    show (s1.ras.map (·.id)).Nodup
    rw [(slashLiveness_same hs).1]; exact h

/-- an accepted op is a message, or one of the two block ops, which are always accepted -/
theorem apply_cases {s s' : St} {o : Op} (e : apply s o = .ok s') :
    o.isMsg = true ∨ (∃ dt, o = .begin_ dt ∧ s' = beginBlock s dt) ∨ (∃ f, o = .end_ f ∧ s' = endBlock s f) := by
  cases o with
  | begin_ dt => simp only [apply] at e; injection e with e; exact Or.inr (Or.inl ⟨dt, rfl, e.symm⟩)
  | end_ f => simp only [apply] at e; injection e with e; exact Or.inr (Or.inr ⟨f, rfl, e.symm⟩)
  | _ => exact Or.inl rfl

section
variable {P : St → Prop}

/-- a closed predicate that survives the height bump of `BeginBlock` and any single liveness event is
    preserved by every accepted op -/
theorem apply_cl (hc : LClosed P) (hbump : ∀ {s : St} (dt : Nat), P s → P { s with h := s.h + 1, t := s.t + dt })
    (hlev : ∀ {s : St} (ra : Nat), P s → P (handleLivenessEvent s ra)) {s s' : St} {o : Op} (h : P s)
    (e : apply s o = .ok s') : P s' := by
  rcases apply_cases e with hm | ⟨dt, rfl, rfl⟩ | ⟨f, rfl, rfl⟩
  · exact apply_msg_cl hc h e hm
  · exact beginBlock_cl hc (hbump dt h)
  · unfold endBlock checkLiveness
    exact foldl_inv P _ _ _ (finalizeRollappStates_cl hc h) (fun b e hb => hlev e.2 hb)

theorem run_cl (hc : LClosed P) (hbump : ∀ {s : St} (dt : Nat), P s → P { s with h := s.h + 1, t := s.t + dt })
    (hlev : ∀ {s : St} (ra : Nat), P s → P (handleLivenessEvent s ra)) {p : Params} (h0 : P (init p)) (ops : List Op) :
    P (run p ops) := by
  unfold run
  apply foldl_inv P _ _ _ h0
  intro b o hb
  unfold step
  split
  · rename_i s' e; exact apply_cl hc hbump hlev hb e
  · exact hb

end

/-- a clock predicate that holds of "no event" and of an event at the next slash height of any countdown
    start, and survives the height bump, holds in every reachable state -/
theorem run_clock {G : Nat → Params → Prop} {C : Nat → Params → Nat → Nat → Prop}
    (hzero : ∀ h p c, C h p 0 c)
    (hres : ∀ h p c, G h p → C h p (nextSlashHeight p.lsBlocks p.lsInterval h c) c)
    (hbump : ∀ h p, G h p → G (h + 1) p ∧ ∀ e c, C h p e c → C (h + 1) p e c)
    {p : Params} (h0 : G 1 p) (ops : List Op) :
    G (run p ops).h (run p ops).p ∧ ∀ r ∈ (run p ops).ras, C (run p ops).h (run p ops).p r.evH r.cdStart := by
  refine run_cl (clock_closed G C (fun h p hG => hres h p h hG) (fun h p => hzero h p h) (fun h p => hzero h p 0)) ?_ ?_
    ⟨h0, by intro r hr; simp [init] at hr⟩ ops
  · intro s dt h
    exact ⟨(hbump _ _ h.1).1, fun r hr => (hbump _ _ h.1).2 _ _ (h.2 r hr)⟩
  · intro s ra h
    rcases handleLivenessEvent_shape s ra with hE | ⟨r, s1, hg, hs, hE⟩
    · rw [hE]; exact h
    · have hsame := slashLiveness_same hs
      rw [(handleLivenessEvent_hp s ra).1, pp_p (handleLivenessEvent_hp s ra).2]
      refine ⟨h.1, fun x hx => ?_⟩
      rw [hE] at hx
      rcases mem_setRa_ne hx with h1 | ⟨h1, _⟩
      · subst h1
        show C s.h s.p (nextSlashHeight s1.p.lsBlocks s1.p.lsInterval s1.h r.cdStart) r.cdStart
        rw [hsame.peq, hsame.2.2.1]; exact hres _ _ _ h.1
      · exact h.2 x (by rw [← hsame.1]; exact h1)

theorem apply_ids {s s' : St} {o : Op} (h : IdsNodup s) (e : apply s o = .ok s') : IdsNodup s' :=
  apply_cl ids_closed (fun _ h => h) (fun _ h => handleLivenessEvent_ids h) h e

theorem run_ids (p : Params) (ops : List Op) : IdsNodup (run p ops) :=
  run_cl ids_closed (fun _ h => h) (fun _ h => handleLivenessEvent_ids h) (by simp [IdsNodup, init]) ops

theorem apply_lev {s s' : St} {o : Op} (h : Lev s) (e : apply s o = .ok s') : Lev s' := by
  rcases apply_cases e with hm | ⟨dt, rfl, rfl⟩ | ⟨f, rfl, rfl⟩
  · exact apply_msg_cl lev_closed h e hm
  · exact beginBlock_lev h
  · exact endBlock_lev h

theorem step_lev {s : St} {o : Op} (h : Lev s) : Lev (step s o).1 := by
  unfold step
  split
  · rename_i s' e; exact apply_lev h e
  · exact h

theorem init_lev (p : Params) : Lev (init p) :=
  ⟨by intro e he; simp [init] at he, by simp [init], by intro r hr; simp [init] at hr⟩

theorem run_lev (p : Params) (ops : List Op) : Lev (run p ops) := by
  unfold run
  apply foldl_inv Lev
  · exact init_lev p
  · intro b o hb; exact step_lev hb

/-- block phase automaton: `some true` = a block is open (`begin_` seen, `end_` not yet),
    `some false` = between blocks, `none` = two `begin_` without an `end_` in between (the hub
    height would skip a block end) -/
def opPhase (b : Bool) : Op → Option Bool
  | .begin_ _ => if b then none else some true
  | .end_ _ => some false
  | _ => some b

def phaseStep (ph : Option Bool) (o : Op) : Option Bool := ph.bind (fun b => opPhase b o)

theorem phaseStep_msg {o : Op} (hm : o.isMsg = true) (b : Bool) : phaseStep (some b) o = some b := by
  cases o with
  | begin_ _ => cases hm
  | end_ _ => cases hm
  | _ => rfl

/-- hub blocks are consecutive: every `begin_` is followed by an `end_` before the next `begin_`
    (messages may appear anywhere; the initial state is "between blocks" at height 1) -/
def BlocksOk (ops : List Op) : Prop := (ops.foldl phaseStep (some false)).isSome = true

instance (ops : List Op) : Decidable (BlocksOk ops) := by unfold BlocksOk; infer_instance

end DymVerif.Core.LevNs
