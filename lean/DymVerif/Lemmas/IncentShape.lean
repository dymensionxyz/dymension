/-
  Lemmas/IncentShape — what each operation of M-Incent can do to the state, said once: a message leaves the
  state alone or makes one explicit update; the payout of one gauge and the streamer's rewards callback have a
  few named outcomes; a keeper loop touches only the fields named in its frame equation (the gauge loop of
  `Keeper.Distribute` also has its one-round equation, `incLoop_step`); the hook cascade of a block is covered by
  induction principles.  The invariant proofs start from these instead of unfolding the
  operations.
-/
import DymVerif.Model.Incent
namespace DymVerif.Incent
open DymVerif

/-! ### messages -/

/-- the stream `CreateStream` stores -/
def newStream (s : State) (sp : Bool) (c : Coins) (rs : List Rec) (start' e n : Nat) : Stream :=
  ⟨s.streams.length + 1, rs, totalWeightOf rs, c, [], start', e, n, 0, Coins.quo c n, false, sp⟩

/-- `createStream` either leaves the state alone or — the coins fit into what the streamer account holds beyond
    its allocation — appends a fresh upcoming stream whose records are the validated records of the proposal or
    (sponsored) the current sponsorship distribution -/
theorem createStream_cases (s : State) (sp : Bool) (c : Coins) (rs : List Rec) (st e n : Nat) :
    (createStream s sp c rs st e n).2 = s ∨
    ∃ alloc free u start', (sp = false → validateRecs s rs 0 [] = true) ∧ n ≠ 0 ∧
      moduleToDistribute s = some alloc ∧ Coins.sub? (s.bank.get streamerAddr) alloc = some free ∧ Coins.le c free = true ∧
      Refs.add s.upcoming start' (s.streams.length + 1) = some u ∧
      (createStream s sp c rs st e n).2 =
        { s with streams := s.streams ++ [newStream s sp c (if sp then s.distr else rs) start' e n], upcoming := u } := by
  unfold createStream
  by_cases h1 : (c.isZero || decide (n = 0)) = true
  · rw [if_pos h1]; exact Or.inl rfl
  rw [if_neg h1]
  by_cases h2 : (!sp && !validateRecs s rs 0 []) = true
  · rw [if_pos h2]; exact Or.inl rfl
  rw [if_neg h2]
  by_cases h3 : (!sp && decide (totalWeightOf rs = 0)) = true
  · rw [if_pos h3]; exact Or.inl rfl
  rw [if_neg h3]
  dsimp only
  cases hm : moduleToDistribute s with
  | none => exact Or.inl rfl
  | some alloc =>
    dsimp only
    cases hf : Coins.sub? (s.bank.get streamerAddr) alloc with
    | none => exact Or.inl rfl
    | some free =>
      dsimp only
      by_cases h4 : (!Coins.le c free) = true
      · rw [if_pos h4]; exact Or.inl rfl
      rw [if_neg h4]
      by_cases h5 : e > 2
      · rw [if_pos h5]; exact Or.inl rfl
      rw [if_neg h5]
      cases hadd : Refs.add s.upcoming (if st < s.now then s.now else st) (s.streams.length + 1) with
      | none => exact Or.inl rfl
      | some u =>
        refine Or.inr ⟨alloc, free, u, _, ?_, ?_, rfl, hf, by simpa using h4, hadd, rfl⟩
        · intro hsp; rw [hsp] at h2; simpa using h2
        · simp at h1; exact h1.2

theorem createStream_shape (s : State) (sp : Bool) (c : Coins) (rs : List Rec) (st e n : Nat) :
    (createStream s sp c rs st e n).2 = s ∨
    ((sp = false → validateRecs s rs 0 [] = true) ∧ ∃ u start', n ≠ 0 ∧ Refs.add s.upcoming start' (s.streams.length + 1) = some u ∧
      (createStream s sp c rs st e n).2 =
        { s with streams := s.streams ++ [newStream s sp c (if sp then s.distr else rs) start' e n], upcoming := u }) := by
  rcases createStream_cases s sp c rs st e n with h | ⟨_, _, u, start', hv, hn, _, _, _, hadd, h⟩
  · exact Or.inl h
  · exact Or.inr ⟨hv, u, start', hn, hadd, h⟩

theorem createGauge_shape (s : State) (o : Nat) (p : Bool) (d du : Nat) (hs : Bool) (c : Coins) (st n : Nat) :
    (createGauge s o p d du hs c st n).2 = s ∨
    ∃ b, s.bank.send o incAddr c = some b ∧
      (createGauge s o p d du hs c st n).2 =
        { s with bank := b, gauges := s.gauges ++ [⟨s.gauges.length + 1, .asset d du, p, c, [], st, n, 0, .upcoming⟩] } := by
  unfold createGauge
  by_cases h1 : (st = 0 || n = 0 || (p && n != 1)) = true
  · rw [if_pos h1]; exact Or.inl rfl
  rw [if_neg h1]
  by_cases h2 : (!lockableDurations.contains du) = true
  · rw [if_pos h2]; exact Or.inl rfl
  rw [if_neg h2]
  by_cases h3 : (!hs) = true
  · rw [if_pos h3]; exact Or.inl rfl
  rw [if_neg h3]
  cases hsend : s.bank.send o incAddr c with
  | none => exact Or.inl rfl
  | some b => exact Or.inr ⟨b, rfl, rfl⟩

theorem createRollappGauge_shape (s : State) (r : Nat) :
    (createRollappGauge s r).2 = s ∨
    (createRollappGauge s r).2 =
      { s with gauges := s.gauges ++ [⟨s.gauges.length + 1, .rollapp r, true, [], [], 0, 0, 0, .upcoming⟩] } := by
  unfold createRollappGauge
  cases s.rollapps[r]? with
  | none => exact Or.inl rfl
  | some ra =>
    dsimp only
    split
    · exact Or.inl rfl
    · exact Or.inr rfl

theorem addToGauge_shape (s : State) (o gid : Nat) (c : Coins) :
    (addToGauge s o gid c).2 = s ∨
    ∃ g b, getGauge s gid = some g ∧ s.bank.send o incAddr c = some b ∧
      (addToGauge s o gid c).2 = setGauge { s with bank := b } { g with coins := Coins.add g.coins c } := by
  unfold addToGauge
  by_cases h1 : c.isZero = true
  · rw [if_pos h1]; exact Or.inl rfl
  rw [if_neg h1]
  cases hg : getGauge s gid with
  | none => exact Or.inl rfl
  | some g =>
    dsimp only
    by_cases h2 : g.isFinished s.now = true
    · rw [if_pos h2]; exact Or.inl rfl
    rw [if_neg h2]
    cases hsend : s.bank.send o incAddr c with
    | none => exact Or.inl rfl
    | some b => exact Or.inr ⟨g, b, rfl, rfl, rfl⟩

theorem moveToFinished_shape {s : State} {b : Bool} {st : Stream} {s' : State} (h : moveToFinished s b st = some s') :
    ∃ r f, Refs.del (if b then s.active else s.upcoming) st.start st.id = some r ∧
      Refs.add s.finished st.start st.id = some f ∧
      s' = if b then { s with active := r, finished := f } else { s with upcoming := r, finished := f } := by
  unfold moveToFinished at h
  cases hd : Refs.del (if b then s.active else s.upcoming) st.start st.id with
  | none => simp [hd] at h
  | some r =>
    cases hf : Refs.add s.finished st.start st.id with
    | none => simp [hd, hf] at h
    | some f =>
      simp only [hd, hf] at h
      refine ⟨r, f, rfl, rfl, ?_⟩
      cases b <;> simpa using h.symm

theorem terminateStream_shape (s : State) (id : Nat) :
    (terminateStream s id).2 = s ∨
    ∃ st b, getStream s id = some st ∧ moveToFinished s b st = some (terminateStream s id).2 := by
  unfold terminateStream
  cases hg : getStream s id with
  | none => exact Or.inl rfl
  | some st =>
    dsimp only
    split
    · exact Or.inl rfl
    cases hm : moveToFinished s (st.isActive s.now) st with
    | none => exact Or.inl rfl
    | some s' => exact Or.inr ⟨st, _, rfl, hm⟩

/-- `ReplaceStreamDistribution` rewrites the records and the total weight of one stored stream, nothing else -/
theorem replaceDistr_shape (s : State) (id : Nat) (rs : List Rec) :
    (replaceDistr s id rs).2 = s ∨
    ∃ st rs', getStream s id = some st ∧
      (replaceDistr s id rs).2 = setStream s { st with recs := rs', totalWeight := totalWeightOf rs' } := by
  unfold replaceDistr
  cases hg : getStream s id with
  | none => exact Or.inl rfl
  | some st =>
    dsimp only
    by_cases h1 : st.isFinished s.now = true
    · rw [if_pos h1]; exact Or.inl rfl
    rw [if_neg h1]
    by_cases h2 : (!validateRecs s rs 0 []) = true
    · rw [if_pos h2]; exact Or.inl rfl
    rw [if_neg h2]
    by_cases h3 : totalWeightOf rs = 0
    · rw [if_pos h3]; exact Or.inl rfl
    rw [if_neg h3]
    exact Or.inr ⟨st, rs, rfl, rfl⟩

/-- so does `UpdateStreamDistribution` -/
theorem updateDistr_shape (s : State) (id : Nat) (rs : List Rec) :
    (updateDistr s id rs).2 = s ∨
    ∃ st rs', getStream s id = some st ∧
      (updateDistr s id rs).2 = setStream s { st with recs := rs', totalWeight := totalWeightOf rs' } := by
  unfold updateDistr
  cases hg : getStream s id with
  | none => exact Or.inl rfl
  | some st =>
    dsimp only
    by_cases h1 : st.isFinished s.now = true
    · rw [if_pos h1]; exact Or.inl rfl
    rw [if_neg h1]
    by_cases h2 : (!validateRecs s rs 0 []) = true
    · rw [if_pos h2]; exact Or.inl rfl
    rw [if_neg h2]
    by_cases h3 : (!validateRecs s (mergeRecs st.recs rs) 0 []) = true
    · rw [if_pos h3]; exact Or.inl rfl
    rw [if_neg h3]
    by_cases h4 : totalWeightOf (mergeRecs st.recs rs) = 0
    · rw [if_pos h4]; exact Or.inl rfl
    rw [if_neg h4]
    exact Or.inr ⟨st, _, rfl, rfl⟩

/-- a property kept by every `CreateAssetGauge` of the streamer account is kept by `CreatePoolGauge` -/
theorem poolGaugesLoop_ind (P : State → Prop) (denom : Nat) (hs : Bool)
    (hstep : ∀ s d, P s → P (createGauge s streamerAddr true denom d hs [] s.now 1).2) :
    ∀ (ds : List Nat) (s : State), P s → P (poolGaugesLoop denom hs ds s).2 := by
  intro ds
  induction ds with
  | nil => intro s h; exact h
  | cons d rest ih =>
    intro s h
    unfold poolGaugesLoop
    have h1 := hstep s d h
    generalize createGauge s streamerAddr true denom d hs [] s.now 1 = res at h1
    obtain ⟨o, s'⟩ := res
    cases o
    · exact ih s' h1
    all_goals exact h1

/-! ### the hook cascade of a block -/

theorem applyHook_ind {P : State → Prop} {f : State → Res} {s : State} (h0 : P s) (hf : ∀ s', f s = .ok s' → P s') :
    P (applyHook f s) := by
  unfold applyHook
  cases h : f s with
  | ok s' => exact hf s' h
  | error e => exact h0

/-- the same for an invariant `I` together with a transitive relation `R` to a fixed earlier state -/
theorem applyHook_rel {I : State → Prop} {R : State → State → Prop} (htrans : ∀ {a b c}, R a b → R b c → R a c)
    {s0 s : State} {f : State → Res} (h : I s ∧ R s0 s) (hf : ∀ s', I s → f s = .ok s' → I s' ∧ R s s') :
    I (applyHook f s) ∧ R s0 (applyHook f s) :=
  applyHook_ind (P := fun x => I x ∧ R s0 x) h (fun s' hs' => let r := hf s' h.1 hs'; ⟨r.1, htrans h.2 r.2⟩)

/-- what the epochs `BeginBlocker` does for one epoch info: bookkeeping of the epoch infos and the three hooks,
    each in its cache context -/
theorem epochTick_ind (P : State → Prop) (e : Nat)
    (hep : ∀ s eps, P s → P { s with epochs := eps })
    (hB : ∀ s, P s → P (applyHook (fun x => streamerBeforeEpochStart x e) s))
    (hA : ∀ s, P s → P (applyHook (fun x => streamerAfterEpochEnd x e) s))
    (hI : ∀ s, P s → P (applyHook (fun x => incAfterEpochEnd x e) s))
    (s : State) (h : P s) : P (epochTick s e) := by
  unfold epochTick
  cases s.epochs[e]? with
  | none => exact h
  | some ep =>
    dsimp only
    by_cases h1 : s.now < ep.startTime
    · rw [if_pos h1]; exact h
    rw [if_neg h1]
    by_cases h2 : (!(decide (ep.curStart + ep.dur < s.now) || !ep.started)) = true
    · rw [if_pos h2]; exact h
    rw [if_neg h2]
    by_cases h3 : (!ep.started) = true
    · rw [if_pos h3]; exact hB _ (hep _ _ h)
    · rw [if_neg h3]; exact hB _ (hep _ _ (hI _ (hA _ h)))

theorem beginBlock_ind (P : State → Prop) (hnow : ∀ s t, P s → P { s with now := t })
    (htick : ∀ s e, P s → P (epochTick s e)) (s : State) (dt : Nat) (h : P s) : P (beginBlock s dt) :=
  htick _ 2 (htick _ 1 (htick _ 0 (hnow s _ h)))

/-! ### one gauge's payout -/

/-- `calculateAssetGaugeRewards`: nothing is handed out — no qualifying amount, no epoch left, nothing remaining —
    or the per-lock loop runs over the remainder -/
theorem calcAsset_shape {g : Gauge} {locks : List Lock} {tr tr' : Tracker} {c : Coins}
    (h : calcAsset g locks tr = some (tr', c)) :
    (tr' = tr ∧ c = [] ∧ (lockSum locks = 0 ∨ remainEpochs g = 0 ∨
      ∃ remain, Coins.sub? g.coins g.distributed = some remain ∧ remain.isZero = true)) ∨
    (lockSum locks ≠ 0 ∧ remainEpochs g ≠ 0 ∧ ∃ remain, Coins.sub? g.coins g.distributed = some remain ∧
      remain.isZero = false ∧ assetLoop remain (lockSum locks) (remainEpochs g) locks tr [] = (tr', c)) := by
  unfold calcAsset at h
  by_cases hL : lockSum locks = 0
  · rw [if_pos hL, Option.some.injEq, Prod.mk.injEq] at h
    exact Or.inl ⟨h.1.symm, h.2.symm, Or.inl hL⟩
  rw [if_neg hL] at h
  cases hs : Coins.sub? g.coins g.distributed with
  | none => simp [hs] at h
  | some remain =>
    simp only [hs] at h
    by_cases hre : remainEpochs g = 0
    · rw [if_pos hre, Option.some.injEq, Prod.mk.injEq] at h
      exact Or.inl ⟨h.1.symm, h.2.symm, Or.inr (Or.inl hre)⟩
    rw [if_neg hre] at h
    cases hz : remain.isZero with
    | true =>
      rw [hz, if_pos rfl, Option.some.injEq, Prod.mk.injEq] at h
      exact Or.inl ⟨h.1.symm, h.2.symm, Or.inr (Or.inr ⟨remain, rfl, hz⟩)⟩
    | false =>
      rw [hz, if_neg Bool.false_ne_true, Option.some.injEq] at h
      exact Or.inr ⟨hL, hre, remain, rfl, hz, h⟩

/-- `calculateRollappGaugeRewards`: the rollapp is registered; nothing is handed out (not launched, nothing
    remaining) or its owner gets the whole remainder -/
theorem calcRollapp_shape {s : State} {g : Gauge} {r : Nat} {tr tr' : Tracker} {c : Coins}
    (h : calcRollapp s g r tr = .ok tr' c) :
    ∃ ra, s.rollapps[r]? = some ra ∧ ra.exists_ = true ∧
      ((tr' = tr ∧ c = [] ∧ (ra.launched = false ∨
          ∃ total, Coins.sub? g.coins g.distributed = some total ∧ total.isZero = true)) ∨
       (ra.launched = true ∧ Coins.sub? g.coins g.distributed = some c ∧ c.isZero = false ∧
          tr' = tr.addReward ra.owner c)) := by
  unfold calcRollapp at h
  cases hr : s.rollapps[r]? with
  | none => simp [hr] at h
  | some ra =>
    simp only [hr] at h
    cases he : ra.exists_ with
    | false => simp [he] at h
    | true =>
      rw [he, Bool.not_true, if_neg Bool.false_ne_true] at h
      refine ⟨ra, rfl, he, ?_⟩
      cases hl : ra.launched with
      | false =>
        rw [hl, Bool.not_false, if_pos rfl, CalcRes.ok.injEq] at h
        exact Or.inl ⟨h.1.symm, h.2.symm, Or.inl rfl⟩
      | true =>
        rw [hl, Bool.not_true, if_neg Bool.false_ne_true] at h
        cases hs : Coins.sub? g.coins g.distributed with
        | none => simp [hs] at h
        | some total =>
          simp only [hs] at h
          cases hz : total.isZero with
          | true =>
            rw [hz, if_pos rfl, CalcRes.ok.injEq] at h
            exact Or.inl ⟨h.1.symm, h.2.symm, Or.inr ⟨total, rfl, hz⟩⟩
          | false =>
            rw [hz, if_neg Bool.false_ne_true, CalcRes.ok.injEq] at h
            exact Or.inr ⟨rfl, by rw [← h.2], by rw [← h.2]; exact hz, by rw [← h.2]; exact h.1.symm⟩

/-! ### the rewards callback of the streamer -/

/-- the three outcomes of `CalculateRewards`' callback: nothing happens (the stream is not cached, or the gauge is
    neither cached nor live, or the stream has no weight this epoch); the gauge is loaded into the cache and the
    stream has no weight; or stream, gauge (cached, or loaded: `gs`) and total are bumped by the record's share -/
theorem rewardsCb_shape (s : State) (c : Caches) (v : SView) (r : Rec) :
    (rewardsCb s c v r = (c, 0) ∧
      (c.getStream v.id = none ∨
       (c.getGauge r.gauge = none ∧ ∀ g, getGauge s r.gauge = some g → g.isFinished s.now = true) ∨
       ∃ st, c.getStream v.id = some st ∧ (st.ecEmpty || st.totalWeight == 0) = true)) ∨
    (∃ st g, c.getStream v.id = some st ∧ (st.ecEmpty || st.totalWeight == 0) = true ∧
      c.getGauge r.gauge = none ∧ getGauge s r.gauge = some g ∧ g.isFinished s.now = false ∧
      rewardsCb s c v r = ({ c with gauges := upsertGauge c.gauges g }, 0)) ∨
    ∃ st g gs, c.getStream v.id = some st ∧ (st.ecEmpty || st.totalWeight == 0) = false ∧
      (c.getGauge r.gauge = some g ∧ gs = c.gauges ∨
        c.getGauge r.gauge = none ∧ getGauge s r.gauge = some g ∧ g.isFinished s.now = false ∧
          gs = upsertGauge c.gauges g) ∧
      rewardsCb s c v r =
        (⟨upsertStream c.streams { st with distributed := Coins.add st.distributed (gaugeRewards st.epochCoins r.weight st.totalWeight) },
          upsertGauge gs { g with coins := Coins.add g.coins (gaugeRewards st.epochCoins r.weight st.totalWeight) },
          Coins.add c.distributed (gaugeRewards st.epochCoins r.weight st.totalWeight)⟩,
         gaugeLockNum s { g with coins := Coins.add g.coins (gaugeRewards st.epochCoins r.weight st.totalWeight) }) := by
  unfold rewardsCb
  cases hs : c.getStream v.id with
  | none => exact Or.inl ⟨rfl, Or.inl rfl⟩
  | some st =>
    dsimp only
    cases hz : (st.ecEmpty || st.totalWeight == 0) with
    | true =>
      cases hg : c.getGauge r.gauge with
      | some g => exact Or.inl ⟨rfl, Or.inr (Or.inr ⟨st, rfl, hz⟩)⟩
      | none =>
        dsimp only
        cases hsg : getGauge s r.gauge with
        | none => exact Or.inl ⟨rfl, Or.inr (Or.inr ⟨st, rfl, hz⟩)⟩
        | some g =>
          dsimp only
          cases hf : g.isFinished s.now with
          | true => exact Or.inl ⟨rfl, Or.inr (Or.inr ⟨st, rfl, hz⟩)⟩
          | false => exact Or.inr (Or.inl ⟨st, g, rfl, hz, rfl, rfl, hf, rfl⟩)
    | false =>
      cases hg : c.getGauge r.gauge with
      | some g => exact Or.inr (Or.inr ⟨st, g, _, rfl, hz, Or.inl ⟨rfl, rfl⟩, rfl⟩)
      | none =>
        dsimp only
        cases hsg : getGauge s r.gauge with
        | none => exact Or.inl ⟨rfl, Or.inr (Or.inl ⟨rfl, fun _ h => nomatch h⟩)⟩
        | some g =>
          dsimp only
          cases hf : g.isFinished s.now with
          | true => exact Or.inl ⟨rfl, Or.inr (Or.inl ⟨rfl, fun g' h => by rw [← Option.some.inj h]; exact hf⟩)⟩
          | false => exact Or.inr (Or.inr ⟨st, g, _, rfl, hz, Or.inr ⟨rfl, rfl, hf, rfl⟩, rfl⟩)

/-! ### frame equations of the keeper loops -/

theorem saveStreamEnd_frame {st : Stream} {s s' : State} (h : saveStreamEnd st s = .ok s') :
    s' = { s with streams := s'.streams, active := s'.active, finished := s'.finished } := by
  unfold saveStreamEnd at h
  split at h
  · cases hd : Refs.del s.active st.start st.id with
    | none => simp [hd] at h
    | some a =>
      cases hf : Refs.add s.finished st.start st.id with
      | none => simp [hd, hf] at h
      | some f => simp only [hd, hf, Except.ok.injEq] at h; rw [← h]; rfl
  · simp only [Except.ok.injEq] at h; rw [← h]; rfl

theorem saveStreams_frame (ee : Bool) : ∀ (l : List Stream) {s s' : State}, saveStreams ee l s = .ok s' →
    s' = { s with streams := s'.streams, active := s'.active, finished := s'.finished } := by
  intro l
  induction l with
  | nil => intro s s' h; simp only [saveStreams, Except.ok.injEq] at h; rw [← h]
  | cons st rest ih =>
    intro s s' h
    unfold saveStreams at h
    cases ee with
    | true =>
      simp only [if_true] at h
      cases hs : saveStreamEnd st.atEpochEnd s with
      | error e => simp [hs] at h
      | ok s1 =>
        simp only [hs] at h
        rw [ih h, saveStreamEnd_frame hs]
    | false =>
      simp only [Bool.false_eq_true, if_false] at h
      rw [ih h]; rfl

theorem activateDue_frame : ∀ (l : List Stream) {s s' : State}, activateDue l s = .ok s' →
    s' = { s with upcoming := s'.upcoming, active := s'.active } := by
  intro l
  induction l with
  | nil => intro s s' h; simp only [activateDue, Except.ok.injEq] at h; rw [← h]
  | cons st rest ih =>
    intro s s' h
    unfold activateDue at h
    split at h
    · cases hd : Refs.del s.upcoming st.start st.id with
      | none => simp [hd] at h
      | some u =>
        cases hf : Refs.add s.active st.start st.id with
        | none => simp [hd, hf] at h
        | some a => simp only [hd, hf] at h; rw [ih h]
    · exact ih h

theorem startStreams_frame : ∀ (l : List Stream) {s s' : State}, startStreams l s = .ok s' →
    s' = { s with streams := s'.streams } ∧ s'.streams.length = s.streams.length := by
  intro l
  induction l with
  | nil => intro s s' h; simp only [startStreams, Except.ok.injEq] at h; rw [← h]; exact ⟨rfl, rfl⟩
  | cons st rest ih =>
    intro s s' h
    unfold startStreams at h
    cases hsub : Coins.sub? st.coins st.distributed with
    | none => simp [hsub] at h
    | some remain =>
      simp only [hsub] at h
      split at h
      · simp at h
      · obtain ⟨a, b⟩ := ih h
        exact ⟨by rw [a]; rfl, by rw [b]; simp [setStream]⟩

/-- one round of the gauge loop of `Keeper.Distribute`: the gauge's payout is computed; if it is zero the loop goes on in the
    same state, otherwise the passed gauge value is written back with its distributed coins (and filled epochs) bumped -/
theorem incLoop_step {ee : Bool} {g : Gauge} {gs : List Gauge} {s : State} {tr : Tracker} {r : State × Tracker}
    (h : incLoop ee (g :: gs) s tr = .ok r) :
    ∃ t c, calcGauge s g tr = .ok t c ∧
      (c.isZero = true ∧ incLoop ee gs s t = .ok r ∨
       c.isZero = false ∧
        incLoop ee gs (setGauge s { g with filled := if ee then g.filled + 1 else g.filled, distributed := Coins.add g.distributed c }) t = .ok r) := by
  unfold incLoop at h
  cases hc : calcGauge s g tr with
  | err => simp [hc] at h
  | panic => simp [hc] at h
  | ok t c =>
    simp only [hc] at h
    refine ⟨t, c, rfl, ?_⟩
    cases hz : c.isZero with
    | true => rw [hz, if_pos rfl] at h; exact Or.inl ⟨rfl, h⟩
    | false => rw [hz, if_neg Bool.false_ne_true] at h; exact Or.inr ⟨rfl, h⟩

theorem incLoop_frame (ee : Bool) : ∀ (gs : List Gauge) (s : State) (tr : Tracker) (s' : State) (tr' : Tracker),
    incLoop ee gs s tr = .ok (s', tr') → s' = { s with gauges := s'.gauges } := by
  intro gs
  induction gs with
  | nil => intro s tr s' tr' h; cases h; rfl
  | cons g rest ih =>
    intro s tr s' tr' h
    obtain ⟨_, _, _, h | h⟩ := incLoop_step h
    · exact ih _ _ _ _ h.2
    · rw [ih _ _ _ _ h.2]; rfl

/-- `Keeper.Distribute` of x/incentives: the gauge loop, then the payout from the module account -/
theorem incDistribute_unfold {s : State} {gs : List Gauge} {ee : Bool} {s' : State} (h : incDistribute s gs ee = .ok s') :
    ∃ s1 tr, incLoop ee gs s [] = .ok (s1, tr) ∧ payAll tr s.bank = some s'.bank ∧
      s' = { s with gauges := s1.gauges, bank := s'.bank } := by
  unfold incDistribute at h
  cases hl : incLoop ee gs s [] with
  | error e => simp [hl] at h
  | ok p =>
    obtain ⟨s1, tr⟩ := p
    have hf := incLoop_frame ee gs s [] s1 tr hl
    cases hp : payAll tr s1.bank with
    | none => simp [hl, hp] at h
    | some b =>
      simp only [hl, hp, Except.ok.injEq] at h
      rw [← h]
      rw [hf] at hp
      exact ⟨s1, tr, rfl, hp, by rw [hf]⟩

theorem incDistribute_frame (s : State) (gs : List Gauge) (ee : Bool) (s' : State) (h : incDistribute s gs ee = .ok s') :
    s' = { s with gauges := s'.gauges, bank := s'.bank } := by
  obtain ⟨_, _, _, _, h3⟩ := incDistribute_unfold h
  rw [h3]

theorem checkFinished_frame2 : ∀ (l : List Gauge) (s : State), checkFinished l s = { s with gauges := (checkFinished l s).gauges } := by
  intro l
  induction l with
  | nil => intro s; rfl
  | cons g rest ih =>
    intro s
    unfold checkFinished
    split
    · cases getGauge s g.id with
      | none => exact ih s
      | some cur => dsimp only; rw [ih]; rfl
    · exact ih s

/-- what one pass of x/streamer `Keeper.Distribute` computes before anything is written: total operations,
    the caches and the new epoch pointers -/
def strPass (s : State) (es : List Nat) (streams : List Stream) (maxOps : Nat) : Nat × Caches × List Pointer :=
  ptrLoop s maxOps (sortByDuration es) 0 ⟨sortById streams, [], []⟩ s.ptrs

/-- x/streamer `Keeper.Distribute` in one step: the pointers are stored, what the pass distributed moves from the
    streamer to the incentives account, x/incentives distributes the cached gauges, the cached streams are saved -/
theorem strDistribute_unfold {s : State} {es : List Nat} {streams : List Stream} {maxOps : Nat} {ee : Bool} {s' : State}
    (h : strDistribute s es streams maxOps ee = .ok s') :
    ∃ b s2,
      (b = s.bank ∧ (strPass s es streams maxOps).2.1.distributed.isZero = true ∨
        s.bank.send streamerAddr incAddr (strPass s es streams maxOps).2.1.distributed = some b) ∧
      incDistribute { s with ptrs := (strPass s es streams maxOps).2.2, bank := b } (strPass s es streams maxOps).2.1.gauges ee = .ok s2 ∧
      saveStreams ee (strPass s es streams maxOps).2.1.streams s2 = .ok s' := by
  unfold strDistribute at h
  unfold strPass
  generalize ptrLoop s maxOps (sortByDuration es) 0 ⟨sortById streams, [], []⟩ s.ptrs = res at h ⊢
  obtain ⟨tot, c, ps⟩ := res
  dsimp only at h ⊢
  by_cases hz : c.distributed.isZero = true
  · simp only [hz, if_true] at h
    cases hinc : incDistribute { s with ptrs := ps, bank := s.bank } c.gauges ee with
    | error e => simp [hinc] at h
    | ok s2 => simp only [hinc] at h; exact ⟨_, s2, Or.inl ⟨rfl, hz⟩, hinc, h⟩
  · rw [if_neg hz] at h
    cases hsend : s.bank.send streamerAddr incAddr c.distributed with
    | none => simp [hsend] at h
    | some b =>
      simp only [hsend] at h
      cases hinc : incDistribute { s with ptrs := ps, bank := b } c.gauges ee with
      | error e => simp [hinc] at h
      | ok s2 => simp only [hinc] at h; exact ⟨b, s2, Or.inr rfl, hinc, h⟩

theorem strDistribute_eq {s : State} {es : List Nat} {streams : List Stream} {maxOps : Nat} {ee : Bool} {s' : State}
    (h : strDistribute s es streams maxOps ee = .ok s') :
    s' = { s with ptrs := (strPass s es streams maxOps).2.2, bank := s'.bank, gauges := s'.gauges, streams := s'.streams,
                  active := s'.active, finished := s'.finished } := by
  obtain ⟨b, s2, _, hinc, hsave⟩ := strDistribute_unfold h
  rw [saveStreams_frame ee _ hsave, incDistribute_frame _ _ _ _ hinc]

/-- streamer `AfterEpochEnd`: nothing when the epoch has no active stream; otherwise one unlimited pass over its active streams,
    after which the pointer is reset -/
theorem streamerAfterEpochEnd_cases {s : State} {e : Nat} {s' : State} (h : streamerAfterEpochEnd s e = .ok s') :
    (activeStreamsFor s e).isEmpty = true ∧ s' = s ∨
    (activeStreamsFor s e).isEmpty = false ∧ ∃ s1, strDistribute s [e] (activeStreamsFor s e) maxU64 true = .ok s1 ∧
      s' = { s1 with ptrs := s1.ptrs.set e Pointer.first } := by
  unfold streamerAfterEpochEnd at h
  cases hemp : (activeStreamsFor s e).isEmpty with
  | true => rw [hemp, if_pos rfl] at h; exact Or.inl ⟨rfl, (Except.ok.inj h).symm⟩
  | false =>
    rw [hemp, if_neg Bool.false_ne_true] at h
    split at h
    · cases h
    · next s1 hd => exact Or.inr ⟨rfl, s1, hd, (Except.ok.inj h).symm⟩

theorem streamerAfterEpochEnd_unfold {s : State} {e : Nat} {s' : State} (h : streamerAfterEpochEnd s e = .ok s') :
    s' = s ∨ ∃ s1, strDistribute s [e] (activeStreamsFor s e) maxU64 true = .ok s1 ∧
      s' = { s1 with ptrs := s1.ptrs.set e Pointer.first } :=
  (streamerAfterEpochEnd_cases h).imp And.right And.right

theorem streamerBeforeEpochStart_unfold {s : State} {e : Nat} {s' : State} (h : streamerBeforeEpochStart s e = .ok s') :
    ∃ s1, activateDue (upcomingStreams s) s = .ok s1 ∧ startStreams (activeStreamsFor s1 e) s1 = .ok s' := by
  unfold streamerBeforeEpochStart at h
  cases ha : activateDue (upcomingStreams s) s with
  | error x => simp [ha] at h
  | ok s1 => simp only [ha] at h; exact ⟨s1, rfl, h⟩

/-- the gauge table after the activation step of the incentives `AfterEpochEnd` hook -/
def incActivated (s : State) : List Gauge :=
  s.gauges.map (fun g => if g.status == .upcoming && decide (g.start ≤ s.now) then { g with status := .active } else g)

/-- incentives `AfterEpochEnd`: nothing unless the epoch is the distribution epoch (week); then due upcoming gauges become active,
    the active gauges are distributed, finished ones are marked -/
theorem incAfterEpochEnd_cases {s : State} {e : Nat} {s' : State} (h : incAfterEpochEnd s e = .ok s') :
    (e != 2) = true ∧ s' = s ∨
    (e != 2) = false ∧ ∃ s2,
      incDistribute { s with gauges := incActivated s } ((incActivated s).filter (·.status == .active)) true = .ok s2 ∧
      s' = checkFinished ((incActivated s).filter (·.status == .active)) s2 := by
  unfold incAfterEpochEnd at h
  cases he : (e != 2) with
  | true => rw [he, if_pos rfl] at h; exact Or.inl ⟨rfl, (Except.ok.inj h).symm⟩
  | false =>
    rw [he, if_neg Bool.false_ne_true] at h
    unfold incActivated
    dsimp only at h
    split at h
    · cases h
    · next s2 hd => exact Or.inr ⟨rfl, s2, hd, (Except.ok.inj h).symm⟩

/-- the same, remembering of the activation map `f` only that it leaves a gauge alone or marks it active -/
theorem incAfterEpochEnd_unfold {s : State} {e : Nat} {s' : State} (h : incAfterEpochEnd s e = .ok s') :
    s' = s ∨ ∃ (f : Gauge → Gauge) (s2 : State), (∀ g, f g = g ∨ f g = { g with status := .active }) ∧
      incDistribute { s with gauges := s.gauges.map f } ((s.gauges.map f).filter (·.status == .active)) true = .ok s2 ∧
      s' = checkFinished ((s.gauges.map f).filter (·.status == .active)) s2 := by
  rcases incAfterEpochEnd_cases h with ⟨_, h⟩ | ⟨_, s2, hd, h⟩
  · exact Or.inl h
  · refine Or.inr ⟨_, s2, fun g => ?_, hd, h⟩
    split
    · exact Or.inr rfl
    · exact Or.inl rfl

theorem incAfterEpochEnd_eq {s : State} {e : Nat} {s' : State} (h : incAfterEpochEnd s e = .ok s') :
    s' = { s with gauges := s'.gauges, bank := s'.bank } := by
  rcases incAfterEpochEnd_unfold h with h | ⟨f, s2, _, hd, h⟩
  · rw [h]
  · rw [h, checkFinished_frame2, incDistribute_frame _ _ _ _ hd]

end DymVerif.Incent
