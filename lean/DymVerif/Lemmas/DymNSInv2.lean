/-
  Lemmas/DymNSInv2 — the invariant under the sell-order and bid blocks of names and under the buy-order
  blocks (names and aliases).
-/
import DymVerif.Lemmas.DymNSInv
namespace DymVerif.DymNS
open AMap

/-- remove the sell order of a name, refunding its bid (if any) -/
theorem dropNameSO_inv {s : State} (n : Name) (hI : Inv s) {ob : Option Bid} (hb : nameBid s n = ob) :
    Inv { refundOptT s ob with nameSO := AMap.del s.nameSO n } := by
  subst hb
  rw [refundOptT_eq]
  refine { wfN := noDup_del _ _ hI.wfN, wfA := hI.wfA, wfB := hI.wfB, esc := esc_delNameSO hI n, idx := hI.idx,
           ali := hI.ali, so := ?_, boK := hI.boK }
  · intro m so hm
    simp only [AMap.get_del] at hm
    split at hm
    · cases hm
    · exact hI.so m so hm

/-- a bid is placed on an existing sell order: previous bid refunded, new bid escrowed -/
theorem bidStateN_inv {s : State} {n : Name} {so : SellOrder} (a : Acct) (offer : Nat) (hI : Inv s)
    (hso : AMap.get s.nameSO n = some so) (hna : ∀ d, s.ns.get n = some d → a ≠ d.owner) :
    Inv (bidStateN s so a offer n) := by
  rw [bidStateN, takeBidT_eq]
  have hesc := esc_setNameSO hI n { so with bid := some ⟨a, offer, 0⟩ }
  rw [show nameBid s n = so.bid by simp [nameBid, hso]] at hesc
  refine { wfN := noDup_set _ _ _ hI.wfN, wfA := hI.wfA, wfB := hI.wfB, esc := hesc, idx := hI.idx, ali := hI.ali,
           so := ?_, boK := hI.boK }
  · intro m so' hm
    simp only [AMap.get_set] at hm
    split at hm
    · rename_i hmn; subst hmn; injection hm with hm; subst hm
      obtain ⟨d, hd, h1, h2, _⟩ := hI.so m so hso
      refine ⟨d, hd, h1, h2, ?_⟩
      intro b hb
      simp only [Option.some.injEq] at hb
      subst hb
      exact hna d hd
    · exact hI.so m so' hm

/-! ### buy orders -/

/-- an order leaves the book and its offer leaves the escrow (to whoever `x` is) -/
theorem boRemoved_inv {s : State} {id : Nat} {bo : BuyOrder} (x : Acct) (hI : Inv s)
    (hg : AMap.get s.bos id = some bo) : Inv (removeBO (fromModuleT s x bo.offer) id bo) := by
  refine { wfN := hI.wfN, wfA := hI.wfA, wfB := noDup_del _ _ hI.wfB, esc := ?_, idx := hI.idx, ali := hI.ali,
           so := hI.so, boK := ?_ }
  · have := esc_delBO hI id
    rw [hg] at this
    exact this
  · intro i b hb
    simp only [removeBO, fromModuleT, AMap.get_del] at hb
    split at hb
    · cases hb
    · exact hI.boK i b hb

theorem sameOfferBO_inv {s : State} {id : Nat} {bo bo' : BuyOrder} (hI : Inv s) (hg : AMap.get s.bos id = some bo)
    (ho : bo'.offer = bo.offer) : Inv { s with bos := AMap.set s.bos id bo' } := by
  refine { wfN := hI.wfN, wfA := hI.wfA, wfB := noDup_set _ _ _ hI.wfB, esc := ?_, idx := hI.idx, ali := hI.ali,
           so := hI.so, boK := ?_ }
  · exact esc_setBO hI id bo' (by rw [hg, ho]; rfl)
  · intro i b hb
    simp only [AMap.get_set] at hb
    split at hb
    · rename_i hi; subst hi; exact hI.boK _ _ hg
    · exact hI.boK i b hb

theorem placedBO_inv {s s' : State} {isAlias : Bool} {a : Acct} {asset : Nat} {dst : Chain} {offer : Nat}
    {cont : Option (Bool × Nat)} (hI : Inv s) (h : PlacedBO s isAlias a asset dst offer s' cont) : Inv s' := by
  rcases h with ⟨_⟩ | ⟨pfx, id, bo, hg, _, _, _, hlt, _⟩
  · have hnone : AMap.get s.bos (s.boCount + 1) = none := by
      cases hg : AMap.get s.bos (s.boCount + 1) with
      | none => rfl
      | some b => have := hI.boK _ _ hg; omega
    refine { wfN := hI.wfN, wfA := hI.wfA, wfB := noDup_set _ _ _ hI.wfB, esc := ?_, idx := hI.idx, ali := hI.ali,
             so := hI.so, boK := ?_ }
    · exact esc_setBO hI _ _ (by rw [hnone]; rfl)
    · intro i b hb
      simp only [newBOT, toModuleT, AMap.get_set] at hb
      split at hb
      · rename_i hi; subst hi; exact Nat.le_refl _
      · have := hI.boK i b hb
        simp only [newBOT, toModuleT]; omega
  · refine { wfN := hI.wfN, wfA := hI.wfA, wfB := noDup_set _ _ _ hI.wfB, esc := ?_, idx := hI.idx, ali := hI.ali,
             so := hI.so, boK := ?_ }
    · refine esc_setBO hI id { bo with offer := offer } ?_
      rw [hg]
      simp only [raiseBOT, toModuleT, fOpt]
      omega
    · intro i b hb
      simp only [raiseBOT, toModuleT, AMap.get_set] at hb
      split at hb
      · rename_i hi; subst hi; exact hI.boK _ _ hg
      · exact hI.boK i b hb

end DymVerif.DymNS
