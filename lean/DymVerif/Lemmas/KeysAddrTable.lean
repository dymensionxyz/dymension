/-
  Lemmas/KeysAddrTable — what `validateAliasesOfChainIds` accepts: exactly the tables whose chain-ids
  and aliases are pairwise distinct among all and each in its validator's language (`validateRecs_iff`,
  `validChains_iff`), whatever the order of the records (`validChains_perm`: the texts are a `flatMap`
  over the records); and what that gives the lookup of a text in the table (`find_name`,
  `name_in_one_record`, `toChainId_eq`).  Core Lean only.
-/
import DymVerif.Lemmas.KeysAddr
namespace DymVerif.Keys
open DymVerif

/-- the table is well formed: every listed text is listed once, chain-ids and aliases are in their
    validators' languages -/
structure TableWF (t : Chains) : Prop where
  nodup : (tableNames t).Nodup
  chains : ∀ r ∈ t, validChainIdFormat r.chainId = true
  aliases : ∀ r ∈ t, ∀ a ∈ r.aliases, validAlias a = true

/-- the inner loop accepts exactly the alias lists that are valid, repeat nothing and meet nothing seen before -/
theorem validateAliases_iff (as seen s' : List Bytes) : validateAliases seen as = .ok s' ↔
    s' = as.reverse ++ seen ∧ (∀ a ∈ as, validAlias a = true) ∧ as.Nodup ∧ (∀ a ∈ as, a ∉ seen) := by
  induction as generalizing seen with
  | nil => simp only [validateAliases, Except.ok.injEq, List.reverse_nil, List.nil_append, List.not_mem_nil, false_imp_iff,
      implies_true, List.nodup_nil, and_true, eq_comm]
  | cons a as ih =>
    rw [validateAliases]
    by_cases hv : validAlias a = true
    · by_cases hs : a ∈ seen
      · simp [hv, hs]
      · simp only [hv, hs, List.contains_iff_mem, Bool.not_true, Bool.false_eq_true, if_false, ih]
        rw [List.reverse_cons, List.append_assoc, List.singleton_append, List.forall_mem_cons, List.forall_mem_cons,
          List.nodup_cons]
        constructor
        · rintro ⟨h1, h2, h3, h4⟩
          exact ⟨h1, ⟨hv, h2⟩, ⟨fun m => h4 a m List.mem_cons_self, h3⟩, hs, fun x m n => h4 x m (List.mem_cons_of_mem _ n)⟩
        · rintro ⟨h1, ⟨_, h2⟩, ⟨h3, h4⟩, _, h5⟩
          exact ⟨h1, h2, h4, fun x m n => (List.mem_cons.1 n).elim (fun e => h3 (e ▸ m)) (h5 x m)⟩
    · simp [hv]

theorem validChainIdFormat_len {s : Bytes} (h : validChainIdFormat s = true) : ¬ s.length < 3 := by
  simp only [validChainIdFormat, Bool.and_eq_true, decide_eq_true_eq] at h
  omega

/-- the outer loop accepts exactly the tables whose texts are well formed, pairwise distinct and not seen before -/
theorem validateRecs_iff (t : Chains) (seen s' : List Bytes) : validateRecs seen t = .ok s' ↔
    (tableNames t).Nodup ∧ (∀ x ∈ tableNames t, x ∉ seen) ∧ s' = (tableNames t).reverse ++ seen ∧
      (∀ r ∈ t, validChainIdFormat r.chainId = true) ∧ (∀ r ∈ t, ∀ a ∈ r.aliases, validAlias a = true) := by
  induction t generalizing seen with
  | nil => simp only [validateRecs, tableNames, Except.ok.injEq, List.nodup_nil, List.not_mem_nil, false_imp_iff, implies_true,
      List.reverse_nil, List.nil_append, true_and, and_true, eq_comm]
  | cons r rs ih =>
    rw [validateRecs, tableNames, List.cons_append, List.nodup_cons, List.nodup_append, List.forall_mem_cons, List.forall_mem_cons,
      List.forall_mem_cons]
    by_cases hv : validChainIdFormat r.chainId = true
    · by_cases hs : r.chainId ∈ seen
      · simp [hv, hs, validChainIdFormat_len hv]
      · simp only [validChainIdFormat_len hv, hv, hs, List.contains_iff_mem, Bool.not_true, Bool.false_eq_true, if_false]
        cases ha : validateAliases (r.chainId :: seen) r.aliases with
        | error e =>
          refine ⟨nofun, fun ⟨⟨h1, h2, _, h4⟩, ⟨_, h5⟩, _, _, h7, _⟩ => ?_⟩
          have := (validateAliases_iff r.aliases (r.chainId :: seen) _).2 ⟨rfl, h7, h2, fun a m n =>
            (List.mem_cons.1 n).elim (fun e => h1 (e ▸ List.mem_append_left _ m)) (h5 a (List.mem_append_left _ m))⟩
          rw [ha] at this; cases this
        | ok seen1 =>
          obtain ⟨rfl, a2, a3, a4⟩ := (validateAliases_iff _ _ _).1 ha
          simp only [ih, List.mem_append, List.mem_reverse, List.mem_cons, not_or, List.reverse_cons, List.reverse_append,
            List.append_assoc, List.singleton_append, true_and]
          constructor
          · rintro ⟨b1, b2, b3, b4, b5⟩
            exact ⟨⟨⟨fun m => a4 _ m List.mem_cons_self, fun m => (b2 _ m).2.1 rfl⟩, a3, b1, fun a ma b mb e => (b2 b mb).1 (e ▸ ma)⟩,
              ⟨nofun, fun x m => m.elim (fun m n => a4 x m (List.mem_cons_of_mem _ n)) fun m => (b2 x m).2.2⟩, b3, b4, a2, b5⟩
          · rintro ⟨⟨⟨_, c1⟩, _, c3, c4⟩, ⟨_, c5⟩, c6, c7, _, c9⟩
            exact ⟨c3, fun x m => ⟨fun n => c4 x n x m rfl, fun e => c1 (e ▸ m), c5 x (.inr m)⟩, c6, c7, c9⟩
    · simp only [hv, Bool.not_false, if_true]
      refine ⟨fun h => ?_, fun h => absurd h.2.2.2.1.1 Bool.false_ne_true⟩
      split at h <;> cases h

/-- the validation accepts exactly the well-formed tables -/
theorem validChains_iff (t : Chains) : validChains t = true ↔ TableWF t := by
  unfold validChains validateChains
  cases h : validateRecs [] t with
  | error e =>
    refine ⟨nofun, fun w => ?_⟩
    have := (validateRecs_iff t [] _).2 ⟨w.nodup, fun _ _ => List.not_mem_nil, rfl, w.chains, w.aliases⟩
    rw [h] at this; cases this
  | ok s =>
    obtain ⟨b1, _, _, b4, b5⟩ := (validateRecs_iff t [] s).1 h
    exact ⟨fun _ => ⟨b1, b4, b5⟩, fun _ => rfl⟩

theorem validChains_wf {t : Chains} (h : validChains t = true) : TableWF t := (validChains_iff t).1 h

/-! ### the table's texts in any order -/

theorem tableNames_eq_flatMap (t : Chains) : tableNames t = t.flatMap fun r => r.chainId :: r.aliases := by
  induction t with
  | nil => rfl
  | cons r rs ih => rw [tableNames, ih, List.flatMap_cons, List.cons_append]

theorem TableWF.perm {t t' : Chains} (p : t.Perm t') (w : TableWF t) : TableWF t' := by
  refine ⟨?_, fun r hr => w.chains r (p.mem_iff.2 hr), fun r hr => w.aliases r (p.mem_iff.2 hr)⟩
  have := w.nodup
  rw [tableNames_eq_flatMap] at this ⊢
  exact (p.flatMap_right _).nodup_iff.1 this

/-- the validation does not depend on the order of the records -/
theorem validChains_perm {t t' : Chains} (p : t.Perm t') : validChains t = validChains t' :=
  Bool.eq_iff_iff.2 <| (validChains_iff t).trans <| Iff.trans ⟨.perm p, .perm p.symm⟩ (validChains_iff t').symm

/-! ### one text, one record -/

/-- the record test of `tryResolveChainIdOrAliasToChainId` -/
def namesRec (x : Bytes) (r : ChainRec) : Bool := x == r.chainId || r.aliases.contains x

theorem mem_tableNames {t : Chains} {r : ChainRec} {x : Bytes} (hr : r ∈ t) (hx : x ∈ r.chainId :: r.aliases) :
    x ∈ tableNames t := by
  rw [tableNames_eq_flatMap]; exact List.mem_flatMap.2 ⟨r, hr, hx⟩

/-- in a table without repeated texts, a text listed in record `r` (as chain-id or alias) finds `r` -/
theorem find_name {t : Chains} (hn : (tableNames t).Nodup) {r : ChainRec} {x : Bytes} (hr : r ∈ t)
    (hx : x ∈ r.chainId :: r.aliases) : t.find? (namesRec x) = some r := by
  induction t with
  | nil => simp at hr
  | cons r0 rs ih =>
    simp only [tableNames] at hn
    have hn' := List.nodup_cons.mp hn
    have hap := List.nodup_append.mp hn'.2
    rcases List.mem_cons.mp hr with rfl | hr
    · have : namesRec x r = true := by
        rcases List.mem_cons.mp hx with rfl | hx
        · simp [namesRec]
        · simp [namesRec, hx]
      simp [List.find?, this]
    · have hxs : x ∈ tableNames rs := mem_tableNames hr hx
      have h1 : x ≠ r0.chainId := by
        intro e; subst e; exact hn'.1 (by simp [hxs])
      have h2 : x ∉ r0.aliases := fun hm => hap.2.2 x hm x hxs rfl
      have : namesRec x r0 = false := by simp [namesRec, h1, h2]
      simp only [List.find?, this]
      exact ih hap.2.1 hr

/-- … so two records that list the same text are one record -/
theorem name_in_one_record {t : Chains} (hn : (tableNames t).Nodup) {r r' : ChainRec} {x : Bytes} (hr : r ∈ t)
    (hr' : r' ∈ t) (hx : x ∈ r.chainId :: r.aliases) (hx' : x ∈ r'.chainId :: r'.aliases) : r = r' :=
  Option.some.inj ((find_name hn hr hx).symm.trans (find_name hn hr' hx'))

theorem rec_nodup {t : Chains} (hn : (tableNames t).Nodup) {r : ChainRec} (hr : r ∈ t) :
    (r.chainId :: r.aliases).Nodup := by
  rw [tableNames_eq_flatMap] at hn
  exact (List.pairwise_flatMap.1 hn).1 r hr

theorem mem_tableAliases {t : Chains} {a : Bytes} : a ∈ tableAliases t ↔ ∃ r ∈ t, a ∈ r.aliases := by
  simp [tableAliases, List.mem_flatMap]

theorem mem_tableChainIds {t : Chains} {c : Bytes} : c ∈ tableChainIds t ↔ ∃ r ∈ t, r.chainId = c := by
  simp [tableChainIds, List.mem_map]

theorem toChainId_eq (host : Bytes) (t : Chains) (x : Bytes) :
    toChainId host t x = if x = host then some x else (t.find? (namesRec x)).map (·.chainId) := by
  unfold toChainId
  split
  · rfl
  · have : (fun r : ChainRec => x == r.chainId || r.aliases.contains x) = namesRec x := rfl
    rw [this]; cases t.find? (namesRec x) <;> rfl

end DymVerif.Keys
