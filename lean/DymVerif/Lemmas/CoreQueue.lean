/-
  Lemmas/CoreQueue — pure list facts about the finalization queue: the per-rollapp flattening of the
  globally sorted queue under append (UpdateState), pruning (hard fork) and the two writes of
  FinalizeStates (remove an entry / rewrite it to its unfinalized suffix).
-/
import DymVerif.Lemmas.CoreBasic
namespace DymVerif.Core

def keyLt (a b : QEntry) : Bool := ltPair (a.ch, a.ra) (b.ch, b.ra)

/-- strictly sorted by (creation height, rollapp) — the order of the store iterator -/
def QSorted (q : List QEntry) : Prop := q.Pairwise (fun a b => keyLt a b = true)

/-- the state indices queued for one rollapp, in queue order -/
def flat (q : List QEntry) (ra : Nat) : List Nat := (q.filter (·.ra == ra)).flatMap (·.idx)

theorem keyLt_iff (a b : QEntry) : keyLt a b = true ↔ a.ch < b.ch ∨ (a.ch = b.ch ∧ a.ra < b.ra) := by
  unfold keyLt ltPair; simp

theorem keyLt_trans {a b c : QEntry} (h1 : keyLt a b = true) (h2 : keyLt b c = true) : keyLt a c = true := by
  rw [keyLt_iff] at *; omega

theorem flat_nil (ra : Nat) : flat [] ra = [] := rfl

theorem flat_cons (x : QEntry) (xs : List QEntry) (ra : Nat) :
    flat (x :: xs) ra = (if x.ra == ra then x.idx else []) ++ flat xs ra := by
  unfold flat
  by_cases h : (x.ra == ra) = true
  · simp [List.filter_cons, h]
  · simp [List.filter_cons, h]

theorem mem_flat {q : List QEntry} {ra i : Nat} : i ∈ flat q ra ↔ ∃ e ∈ q, e.ra = ra ∧ i ∈ e.idx := by
  unfold flat
  simp only [List.mem_flatMap, List.mem_filter, beq_iff_eq]
  constructor
  · rintro ⟨e, ⟨h1, h2⟩, h3⟩; exact ⟨e, h1, h2, h3⟩
  · rintro ⟨e, h1, h2, h3⟩; exact ⟨e, ⟨h1, h2⟩, h3⟩

theorem flat_nil_of_no_ra (q : List QEntry) (ra : Nat) (h : ∀ e ∈ q, e.ra ≠ ra) : flat q ra = [] := by
  induction q with
  | nil => rfl
  | cons x xs ih =>
    rw [flat_cons, ih (fun e he => h e (by simp [he]))]
    have : (x.ra == ra) = false := by simpa using h x (by simp)
    simp [this]

/-- no entry of `ra` among entries whose key is above `(h, ra)` while all `ra` entries have ch ≤ h -/
theorem flat_eq_nil_of_above (xs : List QEntry) (ra h : Nat) (x : QEntry)
    (hx : x.ch = h ∧ x.ra = ra ∨ (h < x.ch ∨ (h = x.ch ∧ ra < x.ra)))
    (hs : ∀ y ∈ xs, keyLt x y = true) (hb : ∀ y ∈ xs, y.ra = ra → y.ch ≤ h) : flat xs ra = [] := by
  induction xs with
  | nil => rfl
  | cons y ys ih =>
    rw [flat_cons]
    have hy := hs y (by simp)
    rw [keyLt_iff] at hy
    have hne : (y.ra == ra) = false := by
      cases hc : (y.ra == ra) with
      | false => rfl
      | true =>
        have hra : y.ra = ra := by simpa using hc
        have := hb y (by simp) hra
        omega
    rw [hne]
    simp only [Bool.false_eq_true, if_false, List.nil_append]
    exact ih (fun z hz => hs z (by simp [hz])) (fun z hz => hb z (by simp [hz]))

theorem flat_append (a b : List QEntry) (ra : Nat) : flat (a ++ b) ra = flat a ra ++ flat b ra := by
  unfold flat; rw [List.filter_append, List.flatMap_append]

theorem QSorted.tail {x : QEntry} {xs : List QEntry} (h : QSorted (x :: xs)) : QSorted xs :=
  (List.pairwise_cons.1 h).2

theorem QSorted.head {x : QEntry} {xs : List QEntry} (h : QSorted (x :: xs)) : ∀ y ∈ xs, keyLt x y = true :=
  (List.pairwise_cons.1 h).1

/-- `insertSorted_eq` for a sorted queue: everything after the new entry is above it, and an entry whose place it
    takes has its key -/
theorem qInsert_eq (x : QEntry) {q : List QEntry} (hs : QSorted q) :
    ∃ l₁ l₂, insertSorted (fun a b => ltPair (a.ch, a.ra) (b.ch, b.ra)) x q = l₁ ++ x :: l₂ ∧
      (∀ z ∈ l₁, keyLt z x = true) ∧ (∀ w ∈ l₂, keyLt x w = true) ∧
      (q = l₁ ++ l₂ ∨ ∃ y, q = l₁ ++ y :: l₂ ∧ y.ch = x.ch ∧ y.ra = x.ra) := by
  obtain ⟨l₁, l₂, e, hl, hc⟩ := insertSorted_eq (fun a b => ltPair (a.ch, a.ra) (b.ch, b.ra)) x q
  refine ⟨l₁, l₂, e, fun z hz => (hl z hz).2, ?_⟩
  rcases hc with ⟨rfl, hh⟩ | ⟨y, rfl, h1, h2⟩
  · refine ⟨?_, Or.inl rfl⟩
    have hs2 : QSorted l₂ := (List.pairwise_append.1 hs).2.1
    cases l₂ with
    | nil => intro w hw; cases hw
    | cons y ys =>
      have hxy : keyLt x y = true := hh y rfl
      intro w hw
      rcases List.mem_cons.1 hw with rfl | hw
      · exact hxy
      · exact keyLt_trans hxy (hs2.head w hw)
  · have e1 : ¬ keyLt x y = true := by rw [show keyLt x y = false from h1]; exact Bool.false_ne_true
    have e2 : ¬ keyLt y x = true := by rw [show keyLt y x = false from h2]; exact Bool.false_ne_true
    rw [keyLt_iff] at e1 e2
    have hy : y.ch = x.ch ∧ y.ra = x.ra := by omega
    refine ⟨fun w hw => ?_, Or.inr ⟨y, rfl, hy⟩⟩
    have := QSorted.head (List.pairwise_append.1 hs).2.1 w hw
    rw [keyLt_iff] at this ⊢
    omega

theorem insertSorted_sorted (x : QEntry) (q : List QEntry) (h : QSorted q) :
    QSorted (insertSorted (fun a b => ltPair (a.ch, a.ra) (b.ch, b.ra)) x q) := by
  obtain ⟨l₁, l₂, e, h1, h2, hc⟩ := qInsert_eq x h
  have hq : QSorted (l₁ ++ l₂) := by
    rcases hc with rfl | ⟨y, rfl, _⟩
    · exact h
    · exact h.sublist (List.Sublist.append_left (List.sublist_cons_self y l₂) l₁)
  obtain ⟨p1, p2, p3⟩ := List.pairwise_append.1 hq
  rw [e]
  unfold QSorted
  refine List.pairwise_append.2 ⟨p1, List.pairwise_cons.2 ⟨h2, p2⟩, fun a ha b hb => ?_⟩
  rcases List.mem_cons.1 hb with rfl | hb
  · exact h1 a ha
  · exact p3 a ha b hb

/-- a map that keeps (ch, ra) keeps the order -/
theorem QSorted.map_keys {q : List QEntry} (h : QSorted q) (f : QEntry → QEntry)
    (hf : ∀ e, (f e).ch = e.ch ∧ (f e).ra = e.ra) : QSorted (q.map f) := by
  unfold QSorted at *
  rw [List.pairwise_map]
  apply h.imp
  intro a b hab
  rw [keyLt_iff] at hab ⊢
  rw [(hf a).1, (hf a).2, (hf b).1, (hf b).2]; exact hab

theorem QSorted.filter {q : List QEntry} (h : QSorted q) (p : QEntry → Bool) : QSorted (q.filter p) :=
  List.Pairwise.filter p h

-- ---------------------------------------------------------------- append (UpdateState)

theorem queueAppend_sorted (q : List QEntry) (h ra idx : Nat) (hs : QSorted q) : QSorted (queueAppend q h ra idx) := by
  unfold queueAppend
  split
  · exact hs.map_keys _ (by intro e; split <;> exact ⟨rfl, rfl⟩)
  · exact insertSorted_sorted _ _ hs

theorem flat_map_other (q : List QEntry) (f : QEntry → QEntry) (ra : Nat)
    (hf : ∀ e, (f e).ra = e.ra) (hra : ∀ e ∈ q, e.ra = ra → f e = e) :
    flat (q.map f) ra = flat q ra := by
  induction q with
  | nil => rfl
  | cons x xs ih =>
    simp only [List.map_cons, flat_cons, hf x]
    rw [ih (fun e he => hra e (by simp [he]))]
    by_cases hx : (x.ra == ra) = true
    · rw [hra x (by simp) (by simpa using hx)]
    · simp [hx]

/-- a filter that keeps the entries of `ra` -/
theorem flat_filter_other (q : List QEntry) (g : QEntry → Bool) (ra : Nat) (hg : ∀ e ∈ q, e.ra = ra → g e = true) :
    flat (q.filter g) ra = flat q ra := by
  unfold flat
  rw [List.filter_filter]
  congr 1
  apply List.filter_congr
  intro e he
  cases hc : (e.ra == ra) with
  | false => rfl
  | true => rw [hg e he (beq_iff_eq.1 hc)]; rfl

def qExtend (q : List QEntry) (h ra idx : Nat) : List QEntry :=
  q.map (fun e => if e.ch == h && e.ra == ra then { e with idx := e.idx ++ [idx] } else e)

def qInsert (q : List QEntry) (h ra idx : Nat) : List QEntry :=
  insertSorted (fun a b => ltPair (a.ch, a.ra) (b.ch, b.ra)) { ch := h, ra := ra, idx := [idx] } q

theorem queueAppend_eq (q : List QEntry) (h ra idx : Nat) :
    queueAppend q h ra idx = if q.any (fun e => e.ch == h && e.ra == ra) then qExtend q h ra idx else qInsert q h ra idx := rfl

theorem flat_qExtend_other (q : List QEntry) (h ra idx ra' : Nat) (hne : ra' ≠ ra) :
    flat (qExtend q h ra idx) ra' = flat q ra' := by
  unfold qExtend
  apply flat_map_other
  · intro e; split <;> rfl
  · intro e _ hra
    have : (e.ra == ra) = false := by simp [hra, hne]
    simp [this]

theorem flat_qInsert_other (q : List QEntry) (h ra idx ra' : Nat) (hne : ra' ≠ ra) :
    flat (qInsert q h ra idx) ra' = flat q ra' := by
  have hr : (ra == ra') = false := beq_false_of_ne (Ne.symm hne)
  unfold qInsert
  obtain ⟨l₁, l₂, e, _, ⟨rfl, _⟩ | ⟨y, rfl, h1, h2⟩⟩ := insertSorted_eq _ { ch := h, ra := ra, idx := [idx] } q
  · rw [e, flat_append, flat_append, flat_cons, hr]; rfl
  · -- the entry whose place is taken has the same key, so it is not one of `ra'` either
    have e1 : ¬ keyLt { ch := h, ra := ra, idx := [idx] } y = true := by
      rw [show keyLt _ y = false from h1]; exact Bool.false_ne_true
    have e2 : ¬ keyLt y { ch := h, ra := ra, idx := [idx] } = true := by
      rw [show keyLt y _ = false from h2]; exact Bool.false_ne_true
    rw [keyLt_iff] at e1 e2
    have hy : (y.ra == ra') = false := beq_false_of_ne (by show y.ra ≠ ra'; simp only at e1 e2; omega)
    rw [e, flat_append, flat_append, flat_cons, flat_cons, hr, hy]
    rfl

/-- for another rollapp the append changes nothing -/
theorem flat_queueAppend_other (q : List QEntry) (h ra idx ra' : Nat) (hne : ra' ≠ ra) :
    flat (queueAppend q h ra idx) ra' = flat q ra' := by
  rw [queueAppend_eq]
  split
  · exact flat_qExtend_other q h ra idx ra' hne
  · exact flat_qInsert_other q h ra idx ra' hne

theorem flat_qExtend_same (h ra idx : Nat) : ∀ (q : List QEntry), QSorted q → (∀ e ∈ q, e.ra = ra → e.ch ≤ h) →
    q.any (fun e => e.ch == h && e.ra == ra) = true → flat (qExtend q h ra idx) ra = flat q ra ++ [idx] := by
  intro q
  induction q with
  | nil => intro _ _ hany; simp at hany
  | cons x xs ih =>
    intro hs hb hany
    have hcons : qExtend (x :: xs) h ra idx =
        (if (x.ch == h && x.ra == ra) = true then { x with idx := x.idx ++ [idx] } else x) :: qExtend xs h ra idx := rfl
    rw [hcons]
    by_cases hx : (x.ch == h && x.ra == ra) = true
    · have hxx : x.ch = h ∧ x.ra = ra := by simpa using hx
      have hnil : flat xs ra = [] :=
        flat_eq_nil_of_above xs ra h x (Or.inl hxx) hs.head (fun y hy => hb y (by simp [hy]))
      have hmap : flat (qExtend xs h ra idx) ra = flat xs ra := by
        unfold qExtend
        apply flat_map_other
        · intro e; split <;> rfl
        · intro e he hra
          have hk := hs.head e he
          rw [keyLt_iff] at hk
          have : ¬ (e.ch = h) := by omega
          simp [this]
      rw [if_pos hx, flat_cons, flat_cons, hmap, hnil]
      have hr : (x.ra == ra) = true := by simp [hxx.2]
      simp [hr]
    · have hany' : xs.any (fun e => e.ch == h && e.ra == ra) = true := by
        simpa [hx] using hany
      rw [if_neg hx, flat_cons, flat_cons, ih hs.tail (fun e he => hb e (by simp [he])) hany']
      simp [List.append_assoc]

theorem flat_qInsert_same (h ra idx : Nat) (q : List QEntry) (hs : QSorted q) (hb : ∀ e ∈ q, e.ra = ra → e.ch ≤ h)
    (hno : ∀ e ∈ q, ¬ (e.ch = h ∧ e.ra = ra)) : flat (qInsert q h ra idx) ra = flat q ra ++ [idx] := by
  unfold qInsert
  obtain ⟨l₁, l₂, e, _, h2, rfl | ⟨y, rfl, hy⟩⟩ := qInsert_eq { ch := h, ra := ra, idx := [idx] } hs
  · -- everything after the new entry is above (h, ra), so none of it belongs to `ra`
    have hnil : flat l₂ ra = [] :=
      flat_eq_nil_of_above l₂ ra h { ch := h, ra := ra, idx := [idx] } (Or.inl ⟨rfl, rfl⟩) h2
        (fun y hy => hb y (List.mem_append_right _ hy))
    rw [e, flat_append, flat_append, flat_cons, hnil, if_pos (beq_self_eq_true ra)]
    simp
  · exact absurd hy (hno y (by simp))

/-- for the rollapp itself the new index goes to the very end of its flattened queue -/
theorem flat_queueAppend_same (q : List QEntry) (h ra idx : Nat) (hs : QSorted q)
    (hb : ∀ e ∈ q, e.ra = ra → e.ch ≤ h) : flat (queueAppend q h ra idx) ra = flat q ra ++ [idx] := by
  rw [queueAppend_eq]
  split
  · rename_i hany; exact flat_qExtend_same h ra idx q hs hb hany
  · rename_i hany
    apply flat_qInsert_same h ra idx q hs hb
    intro e he hc
    apply hany
    exact List.any_eq_true.2 ⟨e, he, by simp [hc.1, hc.2]⟩

theorem mem_queueAppend (q : List QEntry) (h ra idx : Nat) (e : QEntry) (he : e ∈ queueAppend q h ra idx) :
    (e.ch = h ∧ e.ra = ra ∧ idx ∈ e.idx ∧ ∀ i ∈ e.idx, i = idx ∨ ∃ e0 ∈ q, e0.ch = e.ch ∧ e0.ra = e.ra ∧ i ∈ e0.idx) ∨ e ∈ q := by
  unfold queueAppend at he
  split at he
  · simp only [List.mem_map] at he
    obtain ⟨e0, he0, rfl⟩ := he
    split
    · rename_i hc
      have hcc : e0.ch = h ∧ e0.ra = ra := by simpa using hc
      left
      refine ⟨hcc.1, hcc.2, by simp, ?_⟩
      intro i hi
      simp at hi
      rcases hi with h1 | h1
      · exact Or.inr ⟨e0, he0, rfl, rfl, h1⟩
      · exact Or.inl h1
    · exact Or.inr he0
  · rcases insertSorted_mem' _ _ _ _ he with h1 | h1
    · subst h1; left; exact ⟨rfl, rfl, by simp, by intro i hi; simp at hi; exact Or.inl hi⟩
    · exact Or.inr h1

-- ---------------------------------------------------------------- pruning (hard fork)

theorem removeIdxAbove_sorted (q : List QEntry) (ra keep : Nat) (hs : QSorted q) : QSorted (removeIdxAbove q ra keep) := by
  unfold removeIdxAbove
  apply QSorted.filter
  exact hs.map_keys _ (by intro e; split <;> exact ⟨rfl, rfl⟩)

theorem removeIdxAbove_cons (x : QEntry) (xs : List QEntry) (ra keep : Nat) :
    removeIdxAbove (x :: xs) ra keep =
      if x.ra == ra then
        (if (x.idx.filter (· ≤ keep)).isEmpty then removeIdxAbove xs ra keep
         else { x with idx := x.idx.filter (· ≤ keep) } :: removeIdxAbove xs ra keep)
      else x :: removeIdxAbove xs ra keep := by
  unfold removeIdxAbove
  by_cases hx : (x.ra == ra) = true
  · simp only [List.map_cons, hx, if_true, List.filter_cons, Bool.true_and]
    cases hemp : (List.filter (fun x => decide (x ≤ keep)) x.idx).isEmpty <;> simp
  · have hx' : (x.ra == ra) = false := by simpa using hx
    simp only [List.map_cons, hx', List.filter_cons]
    simp
    intro hc; exact absurd hc (by simpa using hx')

theorem flat_removeIdxAbove_same (q : List QEntry) (ra keep : Nat) :
    flat (removeIdxAbove q ra keep) ra = (flat q ra).filter (· ≤ keep) := by
  induction q with
  | nil => rfl
  | cons x xs ih =>
    rw [removeIdxAbove_cons]
    by_cases hx : (x.ra == ra) = true
    · rw [if_pos hx, flat_cons, if_pos hx, List.filter_append, ← ih]
      cases hemp : (List.filter (fun x => decide (x ≤ keep)) x.idx).isEmpty with
      | true =>
        have : List.filter (fun x => decide (x ≤ keep)) x.idx = [] := by simpa using hemp
        simp [this]
      | false =>
        simp only [Bool.false_eq_true, if_false]
        rw [flat_cons]
        simp [hx]
    · rw [if_neg hx, flat_cons, flat_cons, ih]
      simp [hx]

theorem flat_removeIdxAbove_other (q : List QEntry) (ra keep ra' : Nat) (hne : ra' ≠ ra) :
    flat (removeIdxAbove q ra keep) ra' = flat q ra' := by
  have hr : ∀ e : QEntry, e.ra = ra' → (e.ra == ra) = false := fun e h => beq_false_of_ne (h ▸ hne)
  unfold removeIdxAbove
  rw [flat_filter_other _ _ _ (fun e _ h => by rw [hr e h]; rfl)]
  apply flat_map_other
  · intro e; split <;> rfl
  · intro e _ h; rw [hr e h]; rfl

theorem removeIdxAbove_id (q : List QEntry) (ra keep : Nat)
    (h : ∀ e ∈ q, e.ra = ra → e.idx ≠ [] ∧ ∀ i ∈ e.idx, i ≤ keep) : removeIdxAbove q ra keep = q := by
  induction q with
  | nil => rfl
  | cons x xs ih =>
    rw [removeIdxAbove_cons, ih (fun e he => h e (by simp [he]))]
    by_cases hx : (x.ra == ra) = true
    · rw [if_pos hx]
      obtain ⟨h1, h2⟩ := h x (by simp) (by simpa using hx)
      have hf : x.idx.filter (· ≤ keep) = x.idx := List.filter_eq_self.2 (fun a ha => by simpa using h2 a ha)
      rw [hf]
      have : x.idx.isEmpty = false := by
        cases hxi : x.idx with
        | nil => exact absurd hxi h1
        | cons a b => rfl
      rw [this]
      simp
    · rw [if_neg hx]

theorem mem_removeIdxAbove (q : List QEntry) (ra keep : Nat) (e : QEntry) (he : e ∈ removeIdxAbove q ra keep) :
    ∃ e0 ∈ q, e0.ch = e.ch ∧ e0.ra = e.ra ∧ (∀ i ∈ e.idx, i ∈ e0.idx ∧ (e.ra = ra → i ≤ keep)) ∧ (e.ra = ra → e.idx ≠ []) ∧ (e.ra ≠ ra → e = e0) := by
  unfold removeIdxAbove at he
  obtain ⟨hm, hk⟩ := List.mem_filter.1 he
  obtain ⟨e0, he0, rfl⟩ := List.mem_map.1 hm
  refine ⟨e0, he0, ?_⟩
  cases hx : (e0.ra == ra) with
  | true =>
    have hra : e0.ra = ra := beq_iff_eq.1 hx
    rw [hx, if_pos rfl] at hk
    rw [if_pos rfl]
    refine ⟨rfl, rfl, fun i hi => ?_, fun _ hc => ?_, fun hc => absurd hra hc⟩
    · have : i ∈ e0.idx ∧ i ≤ keep := by simpa using hi
      exact ⟨this.1, fun _ => this.2⟩
    · have hc : e0.idx.filter (· ≤ keep) = [] := hc
      dsimp only at hk
      rw [hx, hc] at hk
      cases hk
  | false =>
    have hra : e0.ra ≠ ra := by intro h; rw [h, beq_self_eq_true] at hx; cases hx
    rw [if_neg Bool.false_ne_true]
    exact ⟨rfl, rfl, fun i hi => ⟨hi, fun hc => absurd hc hra⟩, fun hc => absurd hc hra, fun _ => rfl⟩
-- ---------------------------------------------------------------- the two writes of FinalizeStates

def qRemove (q : List QEntry) (ch ra : Nat) : List QEntry := q.filter (fun x => !(x.ch == ch && x.ra == ra))

def qRewrite (q : List QEntry) (ch ra : Nat) (l : List Nat) : List QEntry :=
  q.map (fun x => if x.ch == ch && x.ra == ra then { x with idx := l } else x)

theorem qRemove_sorted {q : List QEntry} (hs : QSorted q) (ch ra : Nat) : QSorted (qRemove q ch ra) := hs.filter _

theorem qRewrite_sorted {q : List QEntry} (hs : QSorted q) (ch ra : Nat) (l : List Nat) : QSorted (qRewrite q ch ra l) :=
  hs.map_keys _ (by intro e; split <;> exact ⟨rfl, rfl⟩)

theorem flat_qRemove_other (q : List QEntry) (ch ra ra' : Nat) (hne : ra' ≠ ra) : flat (qRemove q ch ra) ra' = flat q ra' :=
  flat_filter_other q _ ra' (fun e _ h => by rw [beq_false_of_ne (show e.ra ≠ ra from h ▸ hne), Bool.and_false]; rfl)

theorem flat_qRewrite_other (q : List QEntry) (ch ra ra' : Nat) (l : List Nat) (hne : ra' ≠ ra) :
    flat (qRewrite q ch ra l) ra' = flat q ra' := by
  unfold qRewrite
  apply flat_map_other
  · intro e; split <;> simp_all
  · intro e _ hra
    have : (e.ra == ra) = false := by simp [hra, hne]
    simp [this]

theorem qRemove_cons (x : QEntry) (xs : List QEntry) (ch ra : Nat) :
    qRemove (x :: xs) ch ra = if (x.ch == ch && x.ra == ra) = true then qRemove xs ch ra else x :: qRemove xs ch ra := by
  unfold qRemove
  simp only [List.filter_cons]
  cases (x.ch == ch && x.ra == ra) <;> simp

theorem qRewrite_cons (x : QEntry) (xs : List QEntry) (ch ra : Nat) (l : List Nat) :
    qRewrite (x :: xs) ch ra l =
      (if (x.ch == ch && x.ra == ra) = true then { x with idx := l } else x) :: qRewrite xs ch ra l := rfl

theorem keyBeq_false {y : QEntry} {ch ra : Nat} (h : ¬ (y.ch = ch ∧ y.ra = ra)) : (y.ch == ch && y.ra == ra) = false := by
  cases hc : (y.ch == ch && y.ra == ra) with
  | false => rfl
  | true => exact absurd (by simpa using hc) h

theorem qRemove_id (xs : List QEntry) (ch ra : Nat) (h : ∀ y ∈ xs, ¬ (y.ch = ch ∧ y.ra = ra)) : qRemove xs ch ra = xs :=
  List.filter_eq_self.2 (fun y hy => by rw [keyBeq_false (h y hy)]; rfl)

theorem qRewrite_id (xs : List QEntry) (ch ra : Nat) (l : List Nat) (h : ∀ y ∈ xs, ¬ (y.ch = ch ∧ y.ra = ra)) :
    qRewrite xs ch ra l = xs :=
  (List.map_congr_left (fun y hy => if_neg (by rw [keyBeq_false (h y hy)]; exact Bool.false_ne_true))).trans (List.map_id _)

/-- if the first entry of `ra` in the sorted queue is `e` (key (ch, ra)), then the flattening splits
    as `e.idx ++ rest`, removing the entry leaves `rest`, rewriting it to `l` gives `l ++ rest` -/
theorem flat_first_entry (q : List QEntry) (hs : QSorted q) (e : QEntry) (he : e ∈ q)
    (hfirst : ∀ y ∈ q, y.ra = e.ra → e.ch ≤ y.ch) :
    ∃ rest, flat q e.ra = e.idx ++ rest ∧ flat (qRemove q e.ch e.ra) e.ra = rest ∧
      ∀ l, flat (qRewrite q e.ch e.ra l) e.ra = l ++ rest := by
  induction q with
  | nil => cases he
  | cons x xs ih =>
    by_cases hx : x.ch = e.ch ∧ x.ra = e.ra
    · -- x has e's key; by strict sortedness e = x
      have hex : e = x := by
        rcases List.mem_cons.1 he with h1 | h1
        · exact h1
        · have := hs.head e h1
          rw [keyLt_iff] at this; omega
      subst hex
      have hrest : ∀ y ∈ xs, ¬ (y.ch = e.ch ∧ y.ra = e.ra) := by
        intro y hy hc
        have := hs.head y hy
        rw [keyLt_iff] at this; omega
      have hk : (e.ch == e.ch && e.ra == e.ra) = true := by simp
      have hr : (e.ra == e.ra) = true := by simp
      refine ⟨flat xs e.ra, ?_, ?_, ?_⟩
      · rw [flat_cons, if_pos hr]
      · rw [qRemove_cons, if_pos hk, qRemove_id xs e.ch e.ra hrest]
      · intro l
        rw [qRewrite_cons, if_pos hk, qRewrite_id xs e.ch e.ra l hrest, flat_cons]
        simp
    · have hxra : ¬ x.ra = e.ra := by
        intro hc
        have h1 := hfirst x (by simp) hc
        rcases List.mem_cons.1 he with h2 | h2
        · subst h2; exact hx ⟨rfl, rfl⟩
        · have := hs.head e h2
          rw [keyLt_iff] at this
          omega
      have hein : e ∈ xs := by
        rcases List.mem_cons.1 he with h2 | h2
        · subst h2; exact absurd rfl hxra
        · exact h2
      obtain ⟨rest, h1, h2, h3⟩ := ih hs.tail hein (fun y hy => hfirst y (by simp [hy]))
      have hk : (x.ch == e.ch && x.ra == e.ra) = false := keyBeq_false hx
      have hr : (x.ra == e.ra) = false := by simp [hxra]
      refine ⟨rest, ?_, ?_, ?_⟩
      · rw [flat_cons, hr, h1]; simp
      · rw [qRemove_cons, hk]
        simp only [Bool.false_eq_true, if_false]
        rw [flat_cons, hr, h2]; simp
      · intro l
        rw [qRewrite_cons, hk]
        simp only [Bool.false_eq_true, if_false]
        rw [flat_cons, hr, h3 l]; simp

end DymVerif.Core
