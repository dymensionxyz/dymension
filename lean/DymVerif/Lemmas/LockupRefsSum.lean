import DymVerif.Lemmas.LockupRefsSim
/-
  Lemmas/LockupRefsSum — the index-driven queries of Model/LockupRefs at the LIST / SUM level, from
  `walk_range` (Lemmas/LockupRefsSim): `GetPeriodLocks` by the reference walk is the list `periodLocks`,
  the account / denom id-list queries are the sorted filters, and the coin queries are sums over the
  lock table.
-/
namespace DymVerif.Lockup
open DymVerif.Genesis

theorem refLt_eq_keyLt : refLt = keyLt (·.duration) := rfl

/-! ### the range of every walk the keeper's queries do -/

attribute [local simp] fDur fAccDur fDenomDur fAccDenomDur fTime fAccTime fDenomTime fAccDenomTime

theorem range_dur (u : Bool) : RangeOf (queueOf u) fDur 0 0 (qAll (queueOf u) fDur 0 0) (·.duration)
    (fun l => l.isUnlocking == u) :=
  rangeOf_family (fun _ => true) (fun _ => true) (fun _ => (Bool.and_true _).symm)
    (fun l k _ => by
      rw [mem_refKeysOf_dur (Or.inl rfl)]
      simp [durationLockRefKeys])
    (fun l => by simp)

theorem range_accDur (u : Bool) (a : Actor) : RangeOf (queueOf u) fAccDur a 0 (qAll (queueOf u) fAccDur a 0) (·.duration)
    (fun l => l.isUnlocking == u && l.owner == a) :=
  rangeOf_family (fun _ => true) (fun l => l.owner == a) (fun _ => (Bool.and_true _).symm)
    (fun l k _ => by
      rw [mem_refKeysOf_dur (Or.inr (Or.inl rfl))]
      simp [durationLockRefKeys, eq_comm (a := a)])
    (fun l => by simp)

theorem range_denomLonger (u : Bool) (d k : Nat) : RangeOf (queueOf u) fDenomDur 0 d (qLonger (queueOf u) fDenomDur 0 d k)
    (·.duration) (fun l => l.isUnlocking == u && l.denom == d && decide (k ≤ l.duration)) :=
  rangeOf_family (fun x => decide (k ≤ x)) (fun l => l.denom == d) (fun _ => rfl)
    (fun l k _ => by
      rw [mem_refKeysOf_dur (Or.inr (Or.inr (Or.inl rfl)))]
      simp [durationLockRefKeys, eq_comm (a := d)])
    (fun l => rfl)

/-- the end-time key an unlocking lock has in the by-account time family -/
theorem mem_refKeysOf_accTime {l : Lock} (hu : l.isUnlocking = true) (a k : Nat) :
    (fAccTime, a, 0, k) ∈ refKeysOf l ↔ (l.owner == a) = true ∧ k = timeKey l.endTime := by
  simp [refKeysOf, hu, lockRefKeys, durationLockRefKeys, eq_comm (a := a)]

theorem range_accBefore (a : Actor) (now : Nat) : RangeOf (queueOf true) fAccTime a 0 (qBefore (queueOf true) fAccTime a 0 now)
    (fun l => timeKey l.endTime) (fun l => l.owner == a && matured now l) :=
  rangeOf_family (fun x => decide (x ≤ timeKey (some now))) (fun l => l.owner == a) (fun _ => rfl)
    (fun l k hu => mem_refKeysOf_accTime hu a k)
    (fun l => by cases he : l.endTime <;> simp [Lock.isUnlocking, matured, timeKey, he])

theorem range_accAfter (a : Actor) (now : Nat) : RangeOf (queueOf true) fAccTime a 0 (qAfter (queueOf true) fAccTime a 0 now)
    (fun l => timeKey l.endTime) (fun l => l.owner == a && l.isUnlocking && !matured now l) :=
  rangeOf_family (fun x => decide (timeKey (some now) < x)) (fun l => l.owner == a) (fun _ => rfl)
    (fun l k hu => mem_refKeysOf_accTime hu a k)
    (fun l => by
      cases he : l.endTime with
      | none => simp [Lock.isUnlocking, matured, he]
      | some e =>
        have : decide (timeKey (some now) < timeKey (some e)) = !decide (e ≤ now) := by
          simp only [timeKey, ← Nat.not_le, decide_not, Nat.add_le_add_iff_right]
        simp [Lock.isUnlocking, matured, he, this])

/-! ### sums over a filtered, sorted lock list -/

theorem coinsOf_sorted (lt : Lock → Lock → Bool) (P : Lock → Bool) (ls : List Lock) (d : Denom) :
    coinsOf (sortBy lt (ls.filter P)) d = total (fun l => P l && l.denom == d) ls := by
  unfold coinsOf
  rw [total_perm _ (sortBy_perm lt _), total_filter]

/-! ### the list-based answers -/

/-- `GetAccountPeriodLocks` on the lock list: the owner's not-unlocking locks, then the unlocking ones,
    each in (duration, id) order -/
def accountPeriodLocks (ls : List Lock) (a : Actor) : List Lock :=
  sortBy refLt (ls.filter (fun l => !l.isUnlocking && l.owner == a)) ++
  sortBy refLt (ls.filter (fun l => l.isUnlocking && l.owner == a))

/-- `GetLocksLongerThanDurationDenom` on the lock list -/
def locksLongerThanDurationDenom (ls : List Lock) (d : Denom) (k : Nat) : List Lock :=
  sortBy refLt (ls.filter (fun l => !l.isUnlocking && l.denom == d && decide (k ≤ l.duration))) ++
  sortBy refLt (ls.filter (fun l => l.isUnlocking && l.denom == d && decide (k ≤ l.duration)))

/-- **`GetPeriodLocks` by the reference walks = the list `periodLocks`** -/
theorem periodLocksR_list {rs : RState} (h : RefsOk rs.s.locks rs.refs) (hn : (rs.s.locks.map (·.id)).Nodup) :
    periodLocksR rs = some (periodLocks rs.s.locks) := by
  unfold periodLocksR periodLocks
  rw [walk_range h hn (range_dur true), walk_range h hn (range_dur false)]
  simp only [beq_false, beq_true]
  rfl

theorem accountPeriodLocksR_list {rs : RState} (h : RefsOk rs.s.locks rs.refs) (hn : (rs.s.locks.map (·.id)).Nodup)
    (a : Actor) : accountPeriodLocksR rs a = some (accountPeriodLocks rs.s.locks a) := by
  unfold accountPeriodLocksR accountPeriodLocks
  rw [walk_range h hn (range_accDur true a), walk_range h hn (range_accDur false a)]
  simp only [beq_false, beq_true]
  rfl

theorem locksLongerThanDurationDenomR_list {rs : RState} (h : RefsOk rs.s.locks rs.refs)
    (hn : (rs.s.locks.map (·.id)).Nodup) (d : Denom) (k : Nat) :
    locksLongerThanDurationDenomR rs d k = some (locksLongerThanDurationDenom rs.s.locks d k) := by
  unfold locksLongerThanDurationDenomR locksLongerThanDurationDenom
  rw [walk_range h hn (range_denomLonger true d k), walk_range h hn (range_denomLonger false d k)]
  simp only [beq_false, beq_true]
  rfl

/-- **`GetAccountUnlockableCoins`** = Σ amount of the owner's matured locks of the denom -/
theorem accountUnlockableCoinsR_sum {rs : RState} (h : RefsOk rs.s.locks rs.refs) (hn : (rs.s.locks.map (·.id)).Nodup)
    (a : Actor) (d : Denom) :
    accountUnlockableCoinsR rs a d
      = some (total (fun l => (l.owner == a && matured rs.s.now l) && l.denom == d) rs.s.locks) := by
  unfold accountUnlockableCoinsR
  rw [walk_range h hn (range_accBefore a rs.s.now), Option.map_some, coinsOf_sorted]

/-- **`GetAccountUnlockingCoins`** = Σ amount of the owner's unlocking, not yet matured locks of the denom -/
theorem accountUnlockingCoinsR_sum {rs : RState} (h : RefsOk rs.s.locks rs.refs) (hn : (rs.s.locks.map (·.id)).Nodup)
    (a : Actor) (d : Denom) :
    accountUnlockingCoinsR rs a d
      = some (total (fun l => (l.owner == a && l.isUnlocking && !matured rs.s.now l) && l.denom == d) rs.s.locks) := by
  unfold accountUnlockingCoinsR
  rw [walk_range h hn (range_accAfter a rs.s.now), Option.map_some, coinsOf_sorted]

/-- **`GetAccountLockedCoins`** = Σ amount of the owner's locks of the denom that are not matured
    (not unlocking, or unlocking with the end time still ahead) -/
theorem accountLockedCoinsR_sum {rs : RState} (h : RefsOk rs.s.locks rs.refs) (hn : (rs.s.locks.map (·.id)).Nodup)
    (a : Actor) (d : Denom) :
    accountLockedCoinsR rs a d
      = some (total (fun l => l.owner == a && l.denom == d && !matured rs.s.now l) rs.s.locks) := by
  unfold accountLockedCoinsR
  rw [accountUnlockingCoinsR_sum h hn, walk_range h hn (range_accDur false a)]
  dsimp only
  rw [coinsOf_sorted]
  simp only [Option.some.injEq]
  apply total_partition
  intro l
  obtain ⟨id, ow, du, et, dn, am, gh⟩ := l
  cases et <;> cases h1 : (ow == a) <;> cases h2 : (dn == d) <;> simp [weight, matured, Lock.isUnlocking, h1, h2]

/-! ### the reference keys of one lock are pairwise distinct -/

theorem mkRef_injective (q id : Nat) : Function.Injective (fun k : RefKey => mkRef q k id) :=
  fun _ _ h => mkRef_inj h

theorem lockRefs_nodup (l : Lock) : (lockRefs l).Nodup := by
  unfold lockRefs
  exact List.Pairwise.map _ (fun a b hab hc => hab (mkRef_inj hc)) (refKeysOf_nodup l)

theorem lockRefs_length (l : Lock) : (lockRefs l).length = if l.isUnlocking then 8 else 4 := by
  unfold lockRefs refKeysOf lockRefKeys durationLockRefKeys
  split <;> simp

end DymVerif.Lockup
