/-
  Lemmas/GenEqSkDymNSGov — tie 1 for the governance paths and the RollApp ownership transfer that
  M-DymNS models (`Op.migrateChainIds`, `Op.updateAliases`, `Op.setParams`,
  `Op.transferRollapp`): the normalised statement listings (translate/skel.go `listing`) of
  x/dymns/proposal_handler.go, x/dymns/keeper/proposal.go, x/dymns/keeper/msg_server_update_params.go and
  x/rollapp/keeper/msg_server_transfer_ownership.go, regenerated from /repo on every run into
  Gen/SkAuth.lean (the C20 package lists the same files), equal the listings the model was written
  against.  E.g. a migration that starts calling the Before/After config hooks, or that stops
  validating the rewritten record, changes `dnk_Keeper_migrateChainIdsInDymNames`.
-/
import DymVerif.Gen.SkAuth
namespace DymVerif.GenEqSk.DymNSGov

/-- `NewDymNsProposalHandler` -/
theorem dnp_NewDymNsProposalHandler_listing : Gen.SkAuth.dnp_NewDymNsProposalHandler =
  ["func NewDymNsProposalHandler(dk dymnskeeper.Keeper) govv1beta1.Handler",
   "  return func#1",
   "    func#1 (ctx sdk.Context, content govv1beta1.Content) error",
   "      switch c := content.(type)",
   "        case *dymnstypes.MigrateChainIdsProposal",
   "          return handleMigrateChainIdsProposal(ctx, dk, c)",
   "        case *dymnstypes.UpdateAliasesProposal",
   "          return handleUpdateAliasesProposal(ctx, dk, c)",
   "        default",
   "          return errortypes.ErrUnknownRequest"] := rfl

/-- `handleMigrateChainIdsProposal` -/
theorem dnp_handleMigrateChainIdsProposal_listing : Gen.SkAuth.dnp_handleMigrateChainIdsProposal =
  ["func handleMigrateChainIdsProposal(ctx sdk.Context, dk dymnskeeper.Keeper, p *dymnstypes.MigrateChainIdsProposal) error",
   "  err := p.ValidateBasic()",
   "  if err != nil",
   "    return err",
   "  err := dk.MigrateChainIds(ctx, p.Replacement)",
   "  if err != nil",
   "    return err",
   "  return nil"] := rfl

/-- `handleUpdateAliasesProposal` -/
theorem dnp_handleUpdateAliasesProposal_listing : Gen.SkAuth.dnp_handleUpdateAliasesProposal =
  ["func handleUpdateAliasesProposal(ctx sdk.Context, dk dymnskeeper.Keeper, p *dymnstypes.UpdateAliasesProposal) error",
   "  err := p.ValidateBasic()",
   "  if err != nil",
   "    return err",
   "  err := dk.UpdateAliases(ctx, p.Add, p.Remove)",
   "  if err != nil",
   "    return err",
   "  return nil"] := rfl

/-- `Keeper.MigrateChainIds` -/
theorem dnk_Keeper_MigrateChainIds_listing : Gen.SkAuth.dnk_Keeper_MigrateChainIds =
  ["func (k Keeper) MigrateChainIds(ctx sdk.Context, replacement []dymnstypes.MigrateChainId) error",
   "  previousChainIdsToNewChainId := make(map[string]string)",
   "  for _, r := range replacement",
   "    previousChainIdsToNewChainId[r.PreviousChainId] = r.NewChainId",
   "  err := k.migrateChainIdsInParams(ctx, previousChainIdsToNewChainId)",
   "  if err != nil",
   "    return err",
   "  err := k.migrateChainIdsInDymNames(ctx, previousChainIdsToNewChainId)",
   "  if err != nil",
   "    return err",
   "  return nil"] := rfl

/-- `Keeper.UpdateAliases` -/
theorem dnk_Keeper_UpdateAliases_listing : Gen.SkAuth.dnk_Keeper_UpdateAliases =
  ["func (k Keeper) UpdateAliases(ctx sdk.Context, add, remove []dymnstypes.UpdateAlias) error",
   "  params := k.GetParams(ctx)",
   "  chainIdToAliasConfig := make(map[string]map[string]bool)",
   "  for _, record := range params.Chains.AliasesOfChainIds",
   "    aliasesPerChainId := make(map[string]bool)",
   "    for _, alias := range record.Aliases",
   "      aliasesPerChainId[alias] = true",
   "    chainIdToAliasConfig[record.ChainId] = aliasesPerChainId",
   "  if len(add) > 0",
   "    for _, record := range add",
   "      chainId := record.ChainId",
   "      alias := record.Alias",
   "      existingAliases, foundExistingChainId := chainIdToAliasConfig[chainId]",
   "      if !foundExistingChainId",
   "        existingAliases = make(map[string]bool)",
   "      _, foundAlias := existingAliases[alias]",
   "      if foundAlias",
   "        return gerrc.ErrAlreadyExists",
   "      existingAliases[alias] = true",
   "      chainIdToAliasConfig[chainId] = existingAliases",
   "  if len(remove) > 0",
   "    for _, record := range remove",
   "      chainId := record.ChainId",
   "      alias := record.Alias",
   "      aliasesPerChainId, foundExistingChainId := chainIdToAliasConfig[chainId]",
   "      if !foundExistingChainId",
   "        return gerrc.ErrNotFound",
   "      _, foundAlias := aliasesPerChainId[alias]",
   "      if !foundAlias",
   "        return gerrc.ErrNotFound",
   "      delete(aliasesPerChainId, alias)",
   "      if len(aliasesPerChainId) == 0",
   "        delete(chainIdToAliasConfig, chainId)",
   "  sortedChainIds := dymnsutils.GetSortedStringKeys(chainIdToAliasConfig)",
   "  var newAliasesOfChainIds []dymnstypes.AliasesOfChainId",
   "  for _, chainId := range sortedChainIds",
   "    newAliasesOfChainIds = append(newAliasesOfChainIds, dymnstypes.AliasesOfChainId{ChainId: chainId, Aliases: dymnsutils.GetSortedStringKeys(chainIdToAliasConfig[chainId])})",
   "  params.Chains.AliasesOfChainIds = newAliasesOfChainIds",
   "  err := k.SetParams(ctx, params)",
   "  if err != nil",
   "    return errors.Join(gerrc.ErrUnknown, err)",
   "  return nil"] := rfl

/-- `Keeper.migrateChainIdsInDymNames` -/
theorem dnk_Keeper_migrateChainIdsInDymNames_listing : Gen.SkAuth.dnk_Keeper_migrateChainIdsInDymNames =
  ["func (k Keeper) migrateChainIdsInDymNames(ctx sdk.Context, previousChainIdsToNewChainId map[string]string) error",
   "  nonExpiredDymNames := k.GetAllNonExpiredDymNames(ctx)",
   "  for _, dymName := range nonExpiredDymNames",
   "    newConfigs := make([]dymnstypes.DymNameConfig, len(dymName.Configs))",
   "    var anyConfigUpdated bool",
   "    for i, config := range dymName.Configs",
   "      if config.ChainId != \"\"",
   "        newChainId, isPreviousChainId := previousChainIdsToNewChainId[config.ChainId]",
   "        if isPreviousChainId",
   "          config.ChainId = newChainId",
   "          anyConfigUpdated = true",
   "      newConfigs[i] = config",
   "    if !anyConfigUpdated",
   "      continue",
   "    dymName.Configs = newConfigs",
   "    err := dymName.Validate()",
   "    if err != nil",
   "      continue",
   "    err := k.SetDymName(ctx, dymName)",
   "    if err != nil",
   "      return errors.Join(gerrc.ErrUnknown, err)",
   "  return nil"] := rfl

/-- `Keeper.migrateChainIdsInParams` -/
theorem dnk_Keeper_migrateChainIdsInParams_listing : Gen.SkAuth.dnk_Keeper_migrateChainIdsInParams =
  ["func (k Keeper) migrateChainIdsInParams(ctx sdk.Context, previousChainIdsToNewChainId map[string]string) error",
   "  params := k.GetParams(ctx)",
   "  if len(params.Chains.AliasesOfChainIds) > 0",
   "    existingAliasesOfChainIds := make(map[string]dymnstypes.AliasesOfChainId)",
   "    for _, record := range params.Chains.AliasesOfChainIds",
   "      existingAliasesOfChainIds[record.ChainId] = record",
   "    newAliasesByChainId := make([]dymnstypes.AliasesOfChainId, 0)",
   "    for _, record := range params.Chains.AliasesOfChainIds",
   "      chainId := record.ChainId",
   "      aliases := record.Aliases",
   "      newChainId, isPreviousChainId := previousChainIdsToNewChainId[chainId]",
   "      if isPreviousChainId",
   "        _, foundDeclared := existingAliasesOfChainIds[newChainId]",
   "        if foundDeclared",
   "        else",
   "          newAliasesByChainId = append(newAliasesByChainId, dymnstypes.AliasesOfChainId{ChainId: newChainId, Aliases: aliases})",
   "      else",
   "        newAliasesByChainId = append(newAliasesByChainId, dymnstypes.AliasesOfChainId{ChainId: chainId, Aliases: aliases})",
   "    params.Chains.AliasesOfChainIds = newAliasesByChainId",
   "  err := k.SetParams(ctx, params)",
   "  if err != nil",
   "    return errors.Join(gerrc.ErrUnknown, err)",
   "  return nil"] := rfl

/-- `msgServer.UpdateParams` -/
theorem dnk_msgServer_UpdateParams_listing : Gen.SkAuth.dnk_msgServer_UpdateParams =
  ["func (k msgServer) UpdateParams(goCtx context.Context, msg *dymnstypes.MsgUpdateParams) (*dymnstypes.MsgUpdateParamsResponse, error)",
   "  err := msg.ValidateBasic()",
   "  if err != nil",
   "    return nil, err",
   "  if msg.Authority != k.authority",
   "    return nil, gerrc.ErrUnauthenticated",
   "  moduleParams := k.GetParams(ctx)",
   "  if msg.NewPriceParams != nil",
   "    moduleParams.Price = *msg.NewPriceParams",
   "  if msg.NewChainsParams != nil",
   "    moduleParams.Chains = *msg.NewChainsParams",
   "  if msg.NewMiscParams != nil",
   "    moduleParams.Misc = *msg.NewMiscParams",
   "  err = k.SetParams(ctx, moduleParams)",
   "  if err != nil",
   "    return nil, err",
   "  return &dymnstypes.MsgUpdateParamsResponse{}, nil"] := rfl

/-- `msgServer.TransferOwnership` -/
theorem rak_msgServer_TransferOwnership_listing : Gen.SkAuth.rak_msgServer_TransferOwnership =
  ["func (k msgServer) TransferOwnership(goCtx context.Context, msg *types.MsgTransferOwnership) (*types.MsgTransferOwnershipResponse, error)",
   "  err := msg.ValidateBasic()",
   "  if err != nil",
   "    return nil, types.ErrInvalidRequest",
   "  rollapp, ok := k.GetRollapp(ctx, msg.RollappId)",
   "  if !ok",
   "    return nil, types.ErrUnknownRollappID",
   "  if rollapp.Owner != msg.CurrentOwner",
   "    return nil, types.ErrUnauthorizedSigner",
   "  if rollapp.Owner == msg.NewOwner",
   "    return nil, types.ErrSameOwner",
   "  bk, ok := k.bankKeeper.(interface{BlockedAddr(sdk.AccAddress) bool})",
   "  if ok",
   "    newOwner, err := sdk.AccAddressFromBech32(msg.NewOwner)",
   "    if err != nil || bk.BlockedAddr(newOwner)",
   "      return nil, types.ErrInvalidRequest",
   "  rollapp.Owner = msg.NewOwner",
   "  k.SetRollapp(ctx, rollapp)",
   "  return &types.MsgTransferOwnershipResponse{}, nil"] := rfl

end DymVerif.GenEqSk.DymNSGov
