/-
  Lemmas/CoreForkInv2 — the invariants `PropRa` / `Liab` / `Creators` through the three transitions that are not
  `Good`: the hard fork (states and revisions change, liabilities pruned), finalization of one state
  (flag set, liabilities cleared) and the append of a new state.
-/
import DymVerif.Lemmas.CoreForkInv
namespace DymVerif.Core.Fork

/-- everything the step lemmas need of the pre-state -/
structure Inv (s : St) : Prop where
  chain : ChainAll s
  cust : Cust s
  j : J s

theorem PropRa.congr {s s' : St} (h : PropRa s) (e1 : s'.ras = s.ras) (e2 : s'.seqs = s.seqs) : PropRa s' := by
  intro id r hg
  rw [getRa_congr e1] at hg
  exact (h id r hg).congr e2

def StatesKeep (s s' : St) : Prop :=
  ∀ id r, getRa s id = some r → ∃ r', getRa s' id = some r' ∧ r'.states.map eraseNext = r.states.map eraseNext

structure Weak (s s' : St) : Prop where
  seqMono : SeqMono s s'
  statesKeep : StatesKeep s s'

theorem Weak.refl (s : St) : Weak s s := ⟨SeqMono.refl s, fun _ r h => ⟨r, h, rfl⟩⟩

theorem Weak.trans {s1 s2 s3 : St} (a : Weak s1 s2) (b : Weak s2 s3) : Weak s1 s3 := by
  refine ⟨a.seqMono.trans b.seqMono, ?_⟩
  intro id r hg
  obtain ⟨r', h1, h2⟩ := a.statesKeep id r hg
  obtain ⟨r'', h3, h4⟩ := b.statesKeep id r' h1
  exact ⟨r'', h3, h4.trans h2⟩

theorem Good.weak {s s' : St} (g : Good s s') : Weak s s' := by
  refine ⟨g.seqMono, ?_⟩
  intro id r hg
  obtain ⟨r', h1, h2, _⟩ := g.keep id r hg
  exact ⟨r', h1, congrArg Prod.snd h2⟩

/-- `J` when one rollapp record is replaced (same id, proposer, successor) in a state with the same sequencers:
    the creator of every new state must be a sequencer of the rollapp, no liability is added, and every remaining
    liability that a state of the old record accounted for is accounted for by a state of the new one -/
theorem J.setRa {s s1 : St} {id : Nat} {r r' : Rollapp} (h : J s) (hg : getRa s id = some r)
    (e1 : s1.ras = s.ras) (e2 : s1.seqs = s.seqs) (hid : r'.id = r.id) (hp : r'.proposer = r.proposer)
    (hsu : r'.successor = r.successor) (hcr : ∀ st ∈ r'.states, SeqOf s st.creator id)
    (hsub : ∀ p ∈ s1.seqH, p ∈ s.seqH)
    (hli : ∀ p ∈ s1.seqH, ∀ (i : Nat) (st : SInfo), r.states[i]? = some st → st.creator = p.1 →
      st.finalized = false → st.start ≤ p.2 → p.2 ≤ st.last → ∃ (i' : Nat) (st' : SInfo), r'.states[i']? = some st' ∧
        st'.creator = p.1 ∧ st'.finalized = false ∧ st'.start ≤ p.2 ∧ p.2 ≤ st'.last) :
    J (Core.setRa s1 r') := by
  have hrid : r'.id = id := hid.trans (getRa_id hg)
  have hsame : getRa (Core.setRa s1 r') id = some r' := by
    have := getRa_setRa_same (s := s1) (r := r') (r0 := r) (by rw [getRa_congr e1, hrid]; exact hg)
    rwa [hrid] at this
  have hoth : ∀ x, x ≠ id → getRa (Core.setRa s1 r') x = getRa s x := fun x hx =>
    (getRa_setRa_other (by rw [hrid]; exact hx)).trans (getRa_congr e1 x)
  have hseqs : (Core.setRa s1 r').seqs = s.seqs := e2
  refine ⟨?_, ?_, ?_⟩
  · intro x rx hx
    by_cases hxid : x = id
    · subst hxid
      cases hsame.symm.trans hx
      exact ((h.prop x r hg).of_fields hid hp hsu).congr hseqs
    · rw [hoth x hxid] at hx; exact (h.prop x rx hx).congr hseqs
  · intro p hp1
    obtain ⟨ra0, r0, i, st, h1, h2, h3, h4, h5, h6, h7⟩ := h.liab p (hsub p hp1)
    by_cases hra : ra0 = id
    · subst hra
      cases hg.symm.trans h2
      obtain ⟨i', st', k⟩ := hli p hp1 i st h3 h4 h5 h6 h7
      exact ⟨ra0, r', i', st', h1.congr hseqs, hsame, k⟩
    · exact ⟨ra0, r0, i, st, h1.congr hseqs, (hoth ra0 hra).trans h2, h3, h4, h5, h6, h7⟩
  · intro x rx hx st hst
    by_cases hxid : x = id
    · subst hxid
      cases hsame.symm.trans hx
      exact (hcr st hst).congr hseqs
    · rw [hoth x hxid] at hx; exact (h.creators x rx hx st hst).congr hseqs

theorem afterRevert_J {s : St} {ra n keep : Nat} {r : Rollapp} {kst : SInfo} (hc : Chain r.states)
    (hg : getRa s ra = some r) (hplan : revertPlan r n = .ok (keep, kst)) (h : J s) :
    J (afterRevert s ra keep r kst) := by
  obtain ⟨stk, l, ps⟩ := revertPlan_spec hc hplan
  have hkp := ps.keep_pos
  have hklen := getElem?_lt ps.hst
  have hstates : ∀ j : Nat, (forkedRollapp r keep kst).states[j]? = (r.states.take (keep - 1) ++ [kst])[j]? := fun _ => rfl
  refine h.setRa (r' := { forkedRollapp r keep kst with evH := 0, cdStart := s.h }) hg rfl rfl rfl rfl rfl ?_
    (fun p hp => ((mem_pruneSeqHeights _ _ _ _).1 hp).1) ?_
  · intro st hst
    rcases List.mem_append.1 (show st ∈ r.states.take (keep - 1) ++ [kst] from hst) with h1 | h1
    · exact h.creators ra r hg st (List.mem_of_mem_take h1)
    · cases List.mem_singleton.1 h1
      rw [ps.kst_creator]
      exact h.creators ra r hg stk (List.mem_of_getElem? ps.hst)
  · intro p hp i st h3 h4 h5 h6 h7
    have hle := ((mem_pruneSeqHeights _ _ _ _).1 hp).2
    rcases Nat.lt_trichotomy (i + 1) keep with hlt | heq | hgt
    · exact ⟨i, st, (hstates i).trans ((forked_getElem?_lt kst hlt (by omega)).trans h3), h4, h5, h6, h7⟩
    · -- the kept state: the liability survived the pruning, so it is at or below the new latest height
      cases (by omega : i = keep - 1)
      cases ps.hst.symm.trans h3
      exact ⟨keep - 1, kst, (hstates _).trans (forked_getElem?_keep kst hkp (by omega)), ps.kst_creator.trans h4,
        ps.kst_finalized.trans h5, ps.kst_start ▸ h6, hle (by rw [ps.kst_creator, h4]; exact List.mem_cons_self ..)⟩
    · -- a removed state lies above the new latest height, and its creator's liabilities there were pruned
      exfalso
      have hab := ps.above hc i st (by omega) h3
      have hmem : st ∈ r.states.drop keep :=
        List.mem_iff_getElem?.2 ⟨i - keep, by rw [List.getElem?_drop, show keep + (i - keep) = i by omega]; exact h3⟩
      have := hle (List.mem_cons_of_mem _ (List.mem_map.2 ⟨st, hmem, h4⟩))
      omega

theorem hardFork_J {s s' : St} {ra lv : Nat} (hc : ChainAll s) (h : J s) (e : hardFork s ra lv = .ok s') : J s' := by
  obtain ⟨r, keep, kst, hg, _, _, _, hplan, hs⟩ := hardFork_ok e
  subst hs
  exact (seqOnHardFork_good _ _).J (afterRevert_J (hc.get hg) hg hplan h)

theorem hardFork_seqMono {s s' : St} {ra lv : Nat} (e : hardFork s ra lv = .ok s') : SeqMono s s' := by
  obtain ⟨r, keep, kst, hg, _, _, _, hplan, hs⟩ := hardFork_ok e
  subst hs
  exact (SeqMono.of_seqs (s := s) (s' := afterRevert s ra keep r kst) rfl).trans (seqOnHardFork_good _ _).seqMono

theorem hardForkToLatest_J {s s' : St} {ra : Nat} (hc : ChainAll s) (h : J s) (e : hardForkToLatest s ra = .ok s') : J s' := by
  obtain ⟨r, lh, _, _, hf⟩ := hardForkToLatest_ok e
  exact hardFork_J hc h hf

/-- the plan of a fork to the latest height: keep every state, clear the last `NextProposer` -/
theorem hardForkToLatest_plan {s s' : St} {ra : Nat} (e : hardForkToLatest s ra = .ok s') :
    ∃ r lh, getRa s ra = some r ∧ latestHeight r = some lh ∧ hardFork s ra lh = .ok s' ∧
      (Chain r.states → ∃ l, r.states.getLast? = some l ∧ (lh + 1) % 2 ^ 64 = lh + 1 ∧
        revertPlan r ((lh + 1) % 2 ^ 64) = .ok (r.states.length, { l with next := NextP.empty })) := by
  obtain ⟨r, lh, hg, hl, hf⟩ := hardForkToLatest_ok e
  refine ⟨r, lh, hg, hl, hf, ?_⟩
  intro hc
  obtain ⟨r1, keep, kst, hg1, _, _, _, hplan, _⟩ := hardFork_ok hf
  cases hg.symm.trans hg1
  obtain ⟨st, l, ps⟩ := revertPlan_spec hc hplan
  have hlh : lh = l.last := by
    unfold latestHeight at hl; rw [ps.hl] at hl; exact (Option.some.inj hl).symm
  have hwl := hc.wf l (List.mem_of_getLast? ps.hl)
  have hmod : (lh + 1) % 2 ^ 64 = lh + 1 := Nat.mod_eq_of_lt (by have := hwl.no_overflow; have := hwl.last_succ; omega)
  obtain ⟨rfl, rfl⟩ := ps.beyond hc (by omega)
  exact ⟨l, ps.hl, hmod, hplan⟩

theorem hardForkToLatest_weak {s s' : St} {ra : Nat} (hc : ChainAll s) (e : hardForkToLatest s ra = .ok s') : Weak s s' := by
  obtain ⟨r, lh, hg, hl, hf, hp⟩ := hardForkToLatest_plan e
  obtain ⟨l, hlast, _, hplan⟩ := hp (hc.get hg)
  refine ⟨hardFork_seqMono hf, ?_⟩
  intro id r0 hg0
  by_cases hid : id = ra
  · subst hid
    cases hg.symm.trans hg0
    obtain ⟨p', h1, _⟩ := hardFork_getRa_same hg hplan hf
    refine ⟨_, h1, ?_⟩
    show (r.states.take (r.states.length - 1) ++ [{ l with next := NextP.empty }]).map eraseNext = r.states.map eraseNext
    obtain ⟨ys, hys⟩ := List.getLast?_eq_some_iff.1 hlast
    rw [hys]
    simp [eraseNext]
  · exact ⟨r0, by rw [hardFork_getRa_other hf hid]; exact hg0, rfl⟩

theorem _root_.DymVerif.Core.SInfo.WF.bd_at {st : SInfo} (hw : st.WF) {h : Nat} (h1 : st.start ≤ h) (h2 : h ≤ st.last) :
    ∃ b ∈ st.bds, b.height = h := by
  rw [hw.last_eq] at h2
  have hlen := hw.bds_len
  have hnp := hw.num_pos
  have hi : h - st.start < st.bds.length := by omega
  refine ⟨st.bds[h - st.start], List.getElem_mem hi, ?_⟩
  rw [hw.bds_seq (h - st.start) _ (by simp [hi])]
  omega

theorem finalizeOne_J {s s' : St} {fails : List (Nat × Nat)} {ra idx : Nat} (hc : ChainAll s) (h : J s)
    (e : finalizeOne s fails ra idx = some s') : J s' := by
  obtain ⟨_, _, r, st, hg, hst, _, rfl⟩ := finalizeOne_ok e
  refine h.setRa hg rfl rfl rfl rfl rfl ?_ (fun p hp => (List.mem_filter.1 hp).1) ?_
  · intro x hx
    rcases List.mem_or_eq_of_mem_set (show x ∈ r.states.set (idx - 1) _ from hx) with h1 | h1
    · exact h.creators ra r hg x h1
    · subst h1; exact h.creators ra r hg st (List.mem_of_getElem? hst)
  · intro p hp i st0 h3 h4 h5 h6 h7
    by_cases hi : idx - 1 = i
    · -- the finalized state: its creator's liabilities at its heights were just removed
      exfalso
      subst hi
      cases hst.symm.trans h3
      obtain ⟨b, hb, hbh⟩ := ((hc.get hg).wf st (List.mem_of_getElem? hst)).bd_at h6 h7
      have h8 := (List.mem_filter.1 hp).2
      rw [List.any_eq_true.2 ⟨b, hb, by simp [hbh]⟩] at h8
      simp [h4] at h8
    · exact ⟨i, st0, by show (r.states.set (idx - 1) _)[i]? = some st0; rw [List.getElem?_set_ne hi]; exact h3,
        h4, h5, h6, h7⟩

theorem appendState_J {s : St} {id : Nat} {r : Rollapp} {new : SInfo} (hg : getRa s id = some r) (h : J s)
    (hnew : SeqOf s new.creator id) :
    J (setRa s { r with states := r.states ++ [new] }) := by
  refine h.setRa hg rfl rfl rfl rfl rfl ?_ (fun _ hp => hp) ?_
  · intro x hx
    rcases List.mem_append.1 (show x ∈ r.states ++ [new] from hx) with h1 | h1
    · exact h.creators id r hg x h1
    · cases List.mem_singleton.1 h1; exact hnew
  · intro p _ i st0 h3 h4 h5 h6 h7
    exact ⟨i, st0, by show (r.states ++ [new])[i]? = some st0; rw [List.getElem?_append_left (getElem?_lt h3)]; exact h3,
      h4, h5, h6, h7⟩

theorem mem_addSeqHeights (a : Addr) (bds : List BD) (sh : List (Addr × Nat)) (p : Addr × Nat)
    (h : p ∈ addSeqHeights sh a bds) : p ∈ sh ∨ ∃ b ∈ bds, p = (a, b.height) := by
  unfold addSeqHeights at h
  induction bds generalizing sh with
  | nil => exact Or.inl h
  | cons b bs ih =>
    rw [List.foldl_cons] at h
    rcases ih _ h with h1 | ⟨b', hb', hp⟩
    · rcases insertSorted_mem' _ _ _ _ h1 with h2 | h2
      · exact Or.inr ⟨b, by simp, h2⟩
      · exact Or.inl h2
    · exact Or.inr ⟨b', by simp [hb'], hp⟩

end DymVerif.Core.Fork
