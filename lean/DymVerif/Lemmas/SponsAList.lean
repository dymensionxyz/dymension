/-
  Lemmas/SponsAList — the association lists of M-Spons (votes by voter, recorded and staked power by
  delegation): `alookup`, `aerase`, `aset` (= erase the key, then cons) against each other, and lists with
  pairwise distinct keys (`KeysNodup`), on which a lookup determines the entry.
-/
import DymVerif.Model.Spons
namespace DymVerif.Spons

def KeysNodup {κ β : Type} : List (κ × β) → Prop
  | [] => True
  | x :: xs => (∀ y ∈ xs, y.1 ≠ x.1) ∧ KeysNodup xs

theorem KeysNodup_filter {κ β : Type} {l : List (κ × β)} (p : κ × β → Bool) (h : KeysNodup l) : KeysNodup (l.filter p) := by
  induction l with
  | nil => trivial
  | cons x xs ih =>
    simp only [List.filter_cons]; split
    · exact ⟨fun y hy => h.1 y (List.mem_filter.mp hy).1, ih h.2⟩
    · exact ih h.2

variable {κ β : Type} [DecidableEq κ]

/-! ### erase -/

theorem mem_aerase {k : κ} {l : List (κ × β)} {y : κ × β} : y ∈ aerase k l ↔ y ∈ l ∧ y.1 ≠ k := by
  simp [aerase]

theorem aerase_cons_eq {k : κ} {x : κ × β} (xs : List (κ × β)) (h : x.1 = k) : aerase k (x :: xs) = aerase k xs :=
  List.filter_cons_of_neg (by simpa using h)

theorem aerase_cons_ne {k : κ} {x : κ × β} (xs : List (κ × β)) (h : x.1 ≠ k) :
    aerase k (x :: xs) = x :: aerase k xs :=
  List.filter_cons_of_pos (by simpa using h)

theorem aerase_of_notin {k : κ} {l : List (κ × β)} (h : ∀ y ∈ l, y.1 ≠ k) : aerase k l = l :=
  List.filter_eq_self.mpr (fun y hy => by simpa using h y hy)

theorem KeysNodup_aerase (k : κ) {l : List (κ × β)} (h : KeysNodup l) : KeysNodup (aerase k l) :=
  KeysNodup_filter _ h

theorem KeysNodup_aset (k : κ) (v : β) {l : List (κ × β)} (h : KeysNodup l) : KeysNodup (aset k v l) :=
  ⟨fun _ hy => (mem_aerase.mp hy).2, KeysNodup_aerase k h⟩

/-! ### lookup -/

theorem alookup_cons_eq {k : κ} {x : κ × β} (xs : List (κ × β)) (h : x.1 = k) : alookup k (x :: xs) = some x.2 :=
  if_pos h

theorem alookup_cons_ne {k : κ} {x : κ × β} (xs : List (κ × β)) (h : x.1 ≠ k) : alookup k (x :: xs) = alookup k xs :=
  if_neg h

theorem alookup_mem {k : κ} {l : List (κ × β)} {v : β} (h : alookup k l = some v) : (k, v) ∈ l := by
  induction l with
  | nil => cases h
  | cons x xs ih =>
    by_cases hx : x.1 = k
    · rw [alookup_cons_eq xs hx] at h; cases h; rw [← hx]; exact List.mem_cons_self ..
    · rw [alookup_cons_ne xs hx] at h; exact List.mem_cons_of_mem _ (ih h)

theorem alookup_eq_none {k : κ} {l : List (κ × β)} (h : ∀ y ∈ l, y.1 ≠ k) : alookup k l = none := by
  induction l with
  | nil => rfl
  | cons x xs ih =>
    rw [alookup_cons_ne xs (h x (List.mem_cons_self ..)), ih (fun y hy => h y (List.mem_cons_of_mem _ hy))]

theorem aerase_of_none {k : κ} {l : List (κ × β)} (h : alookup k l = none) : aerase k l = l := by
  induction l with
  | nil => rfl
  | cons x xs ih =>
    by_cases hx : x.1 = k
    · rw [alookup_cons_eq xs hx] at h; cases h
    · rw [alookup_cons_ne xs hx] at h; rw [aerase_cons_ne xs hx, ih h]

theorem alookup_aerase_self (k : κ) (l : List (κ × β)) : alookup k (aerase k l) = none :=
  alookup_eq_none (fun _ hy => (mem_aerase.mp hy).2)

theorem aerase_idem (k : κ) (l : List (κ × β)) : aerase k (aerase k l) = aerase k l :=
  aerase_of_none (alookup_aerase_self k l)

theorem aerase_aset_self (k : κ) (v : β) (l : List (κ × β)) : aerase k (aset k v l) = aerase k l :=
  (aerase_cons_eq _ rfl).trans (aerase_idem k l)

theorem alookup_aset_self (k : κ) (v : β) (l : List (κ × β)) : alookup k (aset k v l) = some v := if_pos rfl

theorem alookup_aerase_ne {k k' : κ} (h : k' ≠ k) (l : List (κ × β)) : alookup k' (aerase k l) = alookup k' l := by
  induction l with
  | nil => rfl
  | cons x xs ih =>
    by_cases hx : x.1 = k
    · rw [aerase_cons_eq xs hx, ih, alookup_cons_ne xs (fun e => h (e.symm.trans hx))]
    · rw [aerase_cons_ne xs hx]
      by_cases hx' : x.1 = k'
      · rw [alookup_cons_eq _ hx', alookup_cons_eq _ hx']
      · rw [alookup_cons_ne _ hx', alookup_cons_ne _ hx', ih]

theorem alookup_aset_ne {k k' : κ} (h : k' ≠ k) (v : β) (l : List (κ × β)) : alookup k' (aset k v l) = alookup k' l :=
  (if_neg (fun e => h e.symm)).trans (alookup_aerase_ne h l)

theorem alookup_aset_none {k k' : κ} {v : β} {l : List (κ × β)} (h : alookup k' (aset k v l) = none) :
    k' ≠ k ∧ alookup k' l = none := by
  by_cases hk : k' = k
  · subst hk; rw [alookup_aset_self] at h; cases h
  · exact ⟨hk, (alookup_aset_ne hk v l).symm.trans h⟩

/-- what holds of the new entry and of every other entry of `l` holds of every entry after `aset` -/
theorem forall_aset {P : κ → β → Prop} {k : κ} {v : β} {l : List (κ × β)} (hv : P k v)
    (hl : ∀ k' v', k' ≠ k → alookup k' l = some v' → P k' v') :
    ∀ k' v', alookup k' (aset k v l) = some v' → P k' v' := by
  intro k' v' h
  by_cases hk : k' = k
  · subst hk; rw [alookup_aset_self] at h; cases h; exact hv
  · rw [alookup_aset_ne hk] at h; exact hl k' v' hk h

theorem forall_aerase {P : κ → β → Prop} {k : κ} {l : List (κ × β)}
    (hl : ∀ k' v', k' ≠ k → alookup k' l = some v' → P k' v') :
    ∀ k' v', alookup k' (aerase k l) = some v' → P k' v' := by
  intro k' v' h
  by_cases hk : k' = k
  · subst hk; rw [alookup_aerase_self] at h; cases h
  · rw [alookup_aerase_ne hk] at h; exact hl k' v' hk h

/-! ### filters -/

/-- a filter that keeps every entry under key `k` keeps the lookup of `k`; one that drops them all empties it -/
theorem alookup_filter_pos {p : κ × β → Bool} {k : κ} (h : ∀ v, p (k, v) = true) (l : List (κ × β)) :
    alookup k (l.filter p) = alookup k l := by
  induction l with
  | nil => rfl
  | cons x xs ih =>
    by_cases hx : x.1 = k
    · have hp : p x = true := by have := h x.2; rw [← hx] at this; exact this
      rw [List.filter_cons_of_pos hp, alookup_cons_eq _ hx, alookup_cons_eq _ hx]
    · rw [alookup_cons_ne xs hx, ← ih, List.filter_cons]
      split
      · exact alookup_cons_ne _ hx
      · rfl

theorem alookup_filter_neg {p : κ × β → Bool} {k : κ} (h : ∀ v, p (k, v) = false) (l : List (κ × β)) :
    alookup k (l.filter p) = none :=
  alookup_eq_none (fun y hy e => by
    have h2 := h y.2
    rw [← e] at h2
    exact Bool.noConfusion ((List.mem_filter.mp hy).2.symm.trans h2))

end DymVerif.Spons
