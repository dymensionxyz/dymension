/-
  Lemmas/CoreSearch — `FindStateInfoByHeight` (binary search over state indices) returns exactly the
  state containing the height, under the chain invariant.
-/
import DymVerif.Lemmas.CoreChainInv
namespace DymVerif.Core

theorem Chain.mono' {l : List SInfo} (h : Chain l) (i j : Nat) (a b : SInfo) (hij : i < j)
    (ha : l[i]? = some a) (hb : l[j]? = some b) : a.start + a.num ≤ b.start := by
  induction j generalizing b with
  | zero => omega
  | succ j ih =>
    obtain ⟨c, hc⟩ : ∃ c, l[j]? = some c := ⟨_, List.getElem?_eq_getElem (by have := getElem?_lt hb; omega)⟩
    have h2 := h.link j c b hc hb
    rcases Nat.lt_or_ge i j with h1 | h1
    · have := ih _ h1 hc
      omega
    · obtain rfl : i = j := by omega
      rw [ha] at hc; cases hc
      omega

/-- completeness of the search window: if the container has 1-based index k in [lo, hi], it is found -/
theorem findByHeightAux_complete (l : List SInfo) (hc : Chain l) (h : Nat) :
    ∀ (fuel lo hi k : Nat) (st : SInfo), l[k - 1]? = some st → st.contains h = true → 1 ≤ lo → lo ≤ k → k ≤ hi →
      hi ≤ l.length → hi + 1 - lo ≤ fuel → findByHeightAux l h fuel lo hi = some k := by
  intro fuel
  induction fuel with
  | zero => intro lo hi k st _ _ _ _ _ _ hf; omega
  | succ f ih =>
    intro lo hi k st hk hcont hlo hlk hkh hhi hf
    have hwst := hc.wf st (List.mem_of_getElem? hk)
    have hst : st.start ≤ h ∧ h < st.start + st.num := by
      have := (contains_iff st h hwst).1 hcont; have := hwst.num_pos; omega
    unfold findByHeightAux
    rw [if_pos (Nat.le_trans hlk hkh)]
    dsimp only
    -- all that matters of the midpoint is that it lies in the window
    have hm1 : lo ≤ lo + (hi - lo) / 2 := Nat.le_add_right _ _
    have hm2 : lo + (hi - lo) / 2 ≤ hi := by omega
    generalize lo + (hi - lo) / 2 = mid at hm1 hm2 ⊢
    obtain ⟨m, hm⟩ : ∃ m, l[mid - 1]? = some m := ⟨_, List.getElem?_eq_getElem (by omega)⟩
    rw [hm]
    dsimp only
    have hwm := hc.wf m (List.mem_of_getElem? hm)
    have hcm : m.contains h = true → m.start ≤ h ∧ h < m.start + m.num := fun hx => by
      have := (contains_iff m h hwm).1 hx; have := hwm.num_pos; omega
    -- states left of the container end below h, states right of it start above h
    rcases Nat.lt_trichotomy mid k with hlt | heq | hgt
    · have hord := hc.mono' (mid - 1) (k - 1) m st (by omega) hm hk
      rw [if_neg (fun hx => by have := hcm hx; omega), if_neg (by omega)]
      exact ih (mid + 1) hi k st hk hcont (Nat.le_add_left 1 mid) hlt hkh hhi (by omega)
    · subst heq
      rw [hm] at hk; cases hk
      rw [if_pos hcont]
    · have hord := hc.mono' (k - 1) (mid - 1) st m (by omega) hk hm
      rw [if_neg (fun hx => by have := hcm hx; omega), if_pos (by omega)]
      exact ih lo (mid - 1) k st hk hcont hlo hlk (Nat.le_sub_one_of_lt hgt)
        (Nat.le_trans (Nat.sub_le _ _) (Nat.le_trans hm2 hhi)) (by omega)

/-- a height inside state `k` (0-based position) is found, at 1-based index `k+1` -/
theorem findByHeight_complete {r : Rollapp} (hc : Chain r.states) (k : Nat) (st : SInfo) (hk : r.states[k]? = some st)
    (h : Nat) (h1 : st.start ≤ h) (h2 : h ≤ st.start + st.num - 1) : findByHeight r h = some (k + 1) := by
  have hwst := hc.wf st (List.mem_of_getElem? hk)
  have hklt := getElem?_lt hk
  unfold findByHeight
  rw [if_neg (by have := hwst.start_pos; omega)]
  cases hl : r.states.getLast? with
  | none =>
    have : r.states = [] := by simpa using hl
    rw [this] at hklt; simp at hklt
  | some l =>
    dsimp only
    have hwl := hc.wf l (List.mem_of_getLast? hl)
    have hll : r.states[r.states.length - 1]? = some l := by rw [← List.getLast?_eq_getElem?]; exact hl
    have hle : st.start + st.num ≤ l.start + l.num := by
      rcases Nat.lt_or_ge k (r.states.length - 1) with h3 | h3
      · have := hc.mono' k (r.states.length - 1) st l h3 hk hll
        have := hwl.num_pos; omega
      · have : k = r.states.length - 1 := by omega
        rw [this, hll] at hk; injection hk with hk; subst hk; exact Nat.le_refl _
    rw [if_neg (by rw [last_of_WF hwl]; have := hwst.num_pos; omega)]
    exact findByHeightAux_complete r.states hc h _ 1 r.states.length (k + 1) st (by simpa using hk)
      ((contains_iff st h hwst).2 ⟨h1, h2⟩) (Nat.le_refl _) (by omega) (by omega) (Nat.le_refl _) (by omega)

/-- every height from the first state's start up to the end of state j has a container at index ≤ j -/
theorem Chain.container {l : List SInfo} (hc : Chain l) (first : SInfo) (hf : l[0]? = some first) (h : Nat)
    (h1 : first.start ≤ h) : ∀ (j : Nat) (b : SInfo), l[j]? = some b → h ≤ b.start + b.num - 1 →
      ∃ (k : Nat) (st : SInfo), k ≤ j ∧ l[k]? = some st ∧ st.start ≤ h ∧ h ≤ st.start + st.num - 1 := by
  intro j
  induction j with
  | zero =>
    intro b hb h2
    rw [hf] at hb; injection hb with hb; subst hb
    exact ⟨0, first, Nat.le_refl _, hf, h1, h2⟩
  | succ j ih =>
    intro b hb h2
    by_cases hx : b.start ≤ h
    · exact ⟨j + 1, b, Nat.le_refl _, hb, hx, h2⟩
    · have hlt : j < l.length := by have := getElem?_lt hb; omega
      have ha : l[j]? = some l[j] := by simp [hlt]
      have hlink := hc.link j _ b ha hb
      have hwa := hc.wf _ (List.mem_of_getElem? ha)
      obtain ⟨k, st, hk, hst, hs1, hs2⟩ := ih l[j] ha (by have := hwa.num_pos; omega)
      exact ⟨k, st, by omega, hst, hs1, hs2⟩

end DymVerif.Core
