/-
  Lemmas/IncentStatic — what a BLOCK writes, said once for every invariant that reads static data only.
  Gauges: a block writes back copies of stored gauges with other coins (the streamer's callback), `filled` /
  `distributed` (the gauge loop of x/incentives `Distribute`) or status (the incentives epoch hook), so a projection
  `f` of the gauge that reads none of these keeps its table `gauges.map f`.  `Agrees f t x`: writing `x` leaves the
  table `t` as it is; the callback keeps it for every cached gauge (`rewardsCb_agrees`), the gauge loop uses it
  (`incLoop_static`); together `strDistribute_static` (EndBlock and epoch-end flush) and `incAfterEpochEnd_static`.
  Instances: `f` = kind (`step_rollok`), (id, perpetual) (`NamedS`, IncentLiveRun), the data liveness reads (`LiveS`,
  IncentLive).
  Streams: `Distribute` writes `finVal ee { st0 with distributed := d }` for a stored `st0` (`CoreFacts.stored`,
  `core_cases`), so a per-stream predicate closed under that is kept: `core_all`.
  Blocks: a predicate the three epoch hooks keep in states satisfying `Inv` is kept by `begin`: `beginBlock_keeps`
  (`NamedS`, IncentLiveRun; `StrongS`, IncentPtrRun).
-/
import DymVerif.Lemmas.IncentOps
namespace DymVerif.Incent
open DymVerif Coins

/-! ### gauge writes of a block: the projections that do not read them -/

/-- the two caches' `upsert` (`up`, with its two equations) only adds the value it is given -/
theorem mem_upsert {α : Type} (key : α → Nat) (up : List α → α → List α) (hnil : ∀ x, up [] x = [x])
    (hcons : ∀ a l x, up (a :: l) x = if key a = key x then x :: l else a :: up l x) :
    ∀ (l : List α) (x y : α), y ∈ up l x → y = x ∨ y ∈ l := by
  intro l
  induction l with
  | nil => intro x y h; rw [hnil, List.mem_singleton] at h; exact Or.inl h
  | cons a rest ih =>
    intro x y h
    rw [hcons] at h
    split at h
    · exact (List.mem_cons.1 h).imp id (List.mem_cons_of_mem _)
    · rcases List.mem_cons.1 h with h1 | h1
      · exact Or.inr (h1 ▸ List.mem_cons_self)
      · exact (ih x y h1).imp id (List.mem_cons_of_mem _)

theorem mem_upsertGauge : ∀ (l : List Gauge) (x y : Gauge), y ∈ upsertGauge l x → y = x ∨ y ∈ l :=
  mem_upsert (·.id) upsertGauge (fun _ => rfl) (fun _ _ _ => rfl)

theorem mem_upsertStream : ∀ (l : List Stream) (x y : Stream), y ∈ upsertStream l x → y = x ∨ y ∈ l :=
  mem_upsert (·.id) upsertStream (fun _ => rfl) (fun _ _ _ => rfl)

section Static
variable {α : Type} (f : Gauge → α)

/-- writing `f x` to the slot `setGauge` writes `x` to leaves the table `t = gauges.map f` as it is -/
def Agrees (t : List α) (x : Gauge) : Prop := t.set (x.id - 1) (f x) = t

theorem map_setGauge {s : State} {x : Gauge} (hw : Agrees f (s.gauges.map f) x) :
    (setGauge s x).gauges.map f = s.gauges.map f := by
  show (s.gauges.set (x.id - 1) x).map f = _
  rw [List.map_set]; exact hw

theorem agrees_stored {s : State} (hi : IdsOK s.gauges) {id : Nat} {g : Gauge} (h : getGauge s id = some g) :
    Agrees f (s.gauges.map f) g := by
  obtain ⟨_, hk, hget, hid, _⟩ := getG_some hi h
  unfold Agrees
  rw [← List.map_set, hid, ← hget, List.set_getElem_self]

theorem Agrees.congr {t : List α} {x y : Gauge} (h : Agrees f t x) (h2 : f y = f x) (h1 : y.id = x.id := by rfl) :
    Agrees f t y := by
  unfold Agrees; rw [h1, h2]; exact h

theorem getG_of_map_eq {gs gs' : List Gauge} (h : gs'.map f = gs.map f) {id : Nat} {g : Gauge} (hg : getG gs id = some g) :
    ∃ g', getG gs' id = some g' ∧ f g' = f g := by
  unfold getG at hg ⊢
  split at hg
  · exact nomatch hg
  · next h0 =>
    have := congrArg (·[id - 1]?) h
    simp only [List.getElem?_map, hg, Option.map_some] at this
    obtain ⟨g', e1, e2⟩ := Option.map_eq_some_iff.1 this
    exact ⟨g', by rw [if_neg h0]; exact e1, e2⟩

/-- the gauge loop of x/incentives `Distribute` (a gauge is written back with `distributed`, at an epoch end also
    `filled`, bumped) -/
theorem incLoop_static (ee : Bool)
    (hf : ∀ (g : Gauge) (d : Coins), f { g with filled := if ee then g.filled + 1 else g.filled, distributed := d } = f g) :
    ∀ (gs : List Gauge) (s : State) (tr : Tracker) (s' : State) (tr' : Tracker),
    (∀ x ∈ gs, Agrees f (s.gauges.map f) x) → incLoop ee gs s tr = .ok (s', tr') → s'.gauges.map f = s.gauges.map f := by
  intro gs
  induction gs with
  | nil => intro s tr s' tr' _ h; simp only [incLoop, Except.ok.injEq, Prod.mk.injEq] at h; rw [← h.1]
  | cons g rest ih =>
    intro s tr s' tr' hw h
    unfold incLoop at h
    cases hc : calcGauge s g tr with
    | err => simp [hc] at h
    | panic => simp [hc] at h
    | ok t2 c =>
      simp only [hc] at h
      have hrest : ∀ x ∈ rest, Agrees f (s.gauges.map f) x := fun x hx => hw x (List.mem_cons_of_mem _ hx)
      split at h
      · exact ih _ _ _ _ hrest h
      · have he := map_setGauge f (s := s) ((hw g List.mem_cons_self).congr f (hf g (Coins.add g.distributed c)))
        rw [ih _ _ _ _ (by rw [he]; exact hrest) h, he]

/-- the streamer's callback (a stored gauge is loaded into the cache; a cached one gets more coins): every cached
    gauge agrees with the stored table -/
theorem rewardsCb_agrees (hf : ∀ (g : Gauge) (c : Coins), f { g with coins := c } = f g) (s : State) (hi : IdsOK s.gauges)
    (c : Caches) (v : SView) (r : Rec) (h : ∀ x ∈ c.gauges, Agrees f (s.gauges.map f) x) :
    ∀ x ∈ (rewardsCb s c v r).1.gauges, Agrees f (s.gauges.map f) x := by
  have up : ∀ (l : List Gauge) (g : Gauge), (∀ x ∈ l, Agrees f (s.gauges.map f) x) → Agrees f (s.gauges.map f) g →
      ∀ y ∈ upsertGauge l g, Agrees f (s.gauges.map f) y := fun l g hl hg y hy =>
    (mem_upsertGauge _ _ _ hy).elim (fun e => e ▸ hg) (hl y)
  rcases rewardsCb_shape s c v r with ⟨e, _⟩ | ⟨_, g, _, _, _, hg, _, e⟩ | ⟨st, g, gs, _, _, hgs, e⟩ <;> rw [e]
  · exact h
  · exact up _ _ h (agrees_stored f hi hg)
  · rcases hgs with ⟨hg, rfl⟩ | ⟨_, hg, _, rfl⟩
    · exact up _ _ h ((h g (cacheGet_some hg).1).congr f (hf g _))
    · have := agrees_stored f hi hg
      exact up _ _ (up _ _ h this) (this.congr f (hf g _))

/-- **one pass of x/streamer `Distribute`** (EndBlock or epoch-end flush) keeps every projection of the gauge table
    that reads neither the coins nor what the gauge loop writes -/
theorem strDistribute_static (hc : ∀ (g : Gauge) (c : Coins), f { g with coins := c } = f g) (ee : Bool)
    (hw : ∀ (g : Gauge) (d : Coins), f { g with filled := if ee then g.filled + 1 else g.filled, distributed := d } = f g)
    {s : State} (hi : IdsOK s.gauges) {es : List Nat} {streams : List Stream} {maxOps : Nat} {s' : State}
    (h : strDistribute s es streams maxOps ee = .ok s') : s'.gauges.map f = s.gauges.map f := by
  obtain ⟨b, s2, _, hinc, hsave⟩ := strDistribute_unfold h
  obtain ⟨s1, tr, hl, _, e⟩ := incDistribute_unfold hinc
  have hcache := ptrLoop_inv (fun c => ∀ x ∈ c.gauges, Agrees f (s.gauges.map f) x) s (rewardsCb_agrees f hc s hi) maxOps
    (sortByDuration es) 0 ⟨sortById streams, [], []⟩ s.ptrs (fun _ hx => nomatch hx)
  rw [saveStreams_frame ee _ hsave, e]
  exact incLoop_static f ee hw _ { s with ptrs := _, bank := b } [] s1 tr hcache hl

theorem checkFinished_static (hf : ∀ g : Gauge, f { g with status := .finished } = f g) : ∀ (l : List Gauge) (s : State),
    IdsOK s.gauges → (checkFinished l s).gauges.map f = s.gauges.map f := by
  intro l
  induction l with
  | nil => intro s _; rfl
  | cons g rest ih =>
    intro s hi
    unfold checkFinished
    split
    · cases hg : getGauge s g.id with
      | none => exact ih s hi
      | some cur =>
        have he := map_setGauge f (s := s) ((agrees_stored f hi hg).congr f (hf cur))
        obtain ⟨_, _, _, hid, _⟩ := getG_some hi hg
        simp only
        rw [ih _ (idsOK_set hi _ _ (by show cur.id = cur.id - 1 + 1; omega)), he]
    · exact ih s hi

/-- **the incentives epoch hook** (activation, `Distribute` over the active gauges, marking the finished ones) keeps
    every projection that reads neither the status nor what the gauge loop writes -/
theorem incAfterEpochEnd_static (hs : ∀ (g : Gauge) (st : GStatus), f { g with status := st } = f g)
    (hw : ∀ (g : Gauge) (d : Coins), f { g with filled := g.filled + 1, distributed := d } = f g)
    {s : State} (hg : GInv s) {e : Nat} {s' : State} (h : incAfterEpochEnd s e = .ok s') :
    s'.gauges.map f = s.gauges.map f := by
  rcases incAfterEpochEnd_unfold h with e0 | ⟨a, s2, ha, hd, e0⟩
  · rw [e0]
  -- the gauge invariant holds after the activation and after `Distribute`, hence `IdsOK` in between
  obtain ⟨g1, _⟩ := hg.activated ha
  obtain ⟨i1, i2, i3⟩ := activeGauges_input g1.ids (·.status == .active)
  have r := incDistribute_spec _ _ true s2 g1.ids g1.bounded i1 i2 (fun i => by rw [i3 i]; exact g1.solvent i) hd
  obtain ⟨s1, tr, hl, _, e1⟩ := incDistribute_unfold hd
  rw [e0, checkFinished_static f (fun g => hs g _) _ s2 r.ids, e1,
    incLoop_static f true (fun g d => hw g d) _ { s with gauges := s.gauges.map a } [] s1 tr
      (fun x hx => agrees_stored f (s := { s with gauges := s.gauges.map a }) g1.ids
        (getG_of_mem g1.ids (List.mem_filter.1 hx).1)) hl,
    List.map_map]
  exact List.map_congr_left (fun g _ => by rcases ha g with k | k <;> simp only [Function.comp, k, hs])

end Static

/-! ### stream writes of `Distribute` -/

theorem CoreFacts.stored {s : State} {es : List Nat} {streams : List Stream} {ee : Bool} {s' : State} {c : Caches}
    (hf : CoreFacts s es streams ee s' c) {id : Nat} {st : Stream} (hg : getS s.streams id = some st)
    (hx : id ∈ streams.map (·.id)) :
    ∃ v ∈ c.streams, v = { st with distributed := v.distributed } ∧ getS s'.streams id = some (finVal ee v) := by
  obtain ⟨v, hv, hvid⟩ := hf.handed id hx
  obtain ⟨st0, g0, g1, _⟩ := hf.window v hv
  rw [hvid, hg] at g0
  cases g0
  exact ⟨v, hv, g1, hvid ▸ hf.saved v hv⟩

theorem core_all {s : State} {es : List Nat} {streams : List Stream} {ee : Bool} {s' : State}
    (hc : CoreConcl s es streams ee s') (hs' : SStruct s') (P : Stream → Prop)
    (hP : ∀ (st0 : Stream) (d : Coins), P st0 → P (finVal ee { st0 with distributed := d }))
    (h : ∀ st ∈ s.streams, P st) : ∀ st' ∈ s'.streams, P st' := by
  intro st' hm
  rcases core_cases s es streams ee s' hc hs' st' hm with ⟨a1, _, _⟩ | ⟨v, st0, b1, _, b3, b4, _, _⟩
  · exact h st' a1
  · rw [b4, b3]; exact hP st0 _ (h st0 b1)

/-! ### the `begin` step -/

theorem beginBlock_keeps (P : State → Prop) (hnow : ∀ s t, P s → P { s with now := t })
    (hep : ∀ s eps, P s → P { s with epochs := eps })
    (hB : ∀ y e s', Inv y → P y → streamerBeforeEpochStart y e = .ok s' → P s')
    (hA : ∀ y e s', Inv y → P y → streamerAfterEpochEnd y e = .ok s' → P s')
    (hI : ∀ y e s', Inv y → P y → incAfterEpochEnd y e = .ok s' → P s')
    (s : State) (dt : Nat) (hi : Inv s) (h : P s) : P (beginBlock s dt) := by
  have inv : ∀ (x y : State), y = { x with now := y.now, epochs := y.epochs } → Inv x → Inv y := fun x y e hx => by
    rw [e]; exact Inv_frame hx rfl rfl rfl rfl (Same.ginv (s := x) ⟨rfl, rfl, rfl, rfl⟩ hx.ginv)
  refine (beginBlock_ind (fun x => Inv x ∧ P x) (fun x t hx => ⟨inv x _ rfl hx.1, hnow x t hx.2⟩) (fun x e hx => ?_) s dt ⟨hi, h⟩).2
  refine epochTick_ind (fun x => Inv x ∧ P x) e (fun x eps hx => ⟨inv x _ rfl hx.1, hep x eps hx.2⟩) ?_ ?_ ?_ x hx
  · exact fun y hy => applyHook_ind (P := fun x => Inv x ∧ P x) hy
      (fun s' h => ⟨streamerBeforeEpochStart_inv y e s' hy.1 h, hB y e s' hy.1 hy.2 h⟩)
  · exact fun y hy => applyHook_ind (P := fun x => Inv x ∧ P x) hy
      (fun s' h => ⟨streamerAfterEpochEnd_inv y e s' hy.1 h, hA y e s' hy.1 hy.2 h⟩)
  · exact fun y hy => applyHook_ind (P := fun x => Inv x ∧ P x) hy
      (fun s' h => ⟨incAfterEpochEnd_inv y e s' hy.1 h, hI y e s' hy.1 hy.2 h⟩)

end DymVerif.Incent
