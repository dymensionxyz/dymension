/-
  Lemmas/DymNSStep — the specification of the operations as one relation: `Step s op s'` has a
  constructor for every way an operation of `exec` succeeds, with the guard facts as hypotheses and the
  result state as an explicit term; `exec_step` says that these are all the ways.  What holds of every
  accepted operation is proved by cases on `Step`.
-/
import DymVerif.Lemmas.DymNSMsg
import DymVerif.Lemmas.DymNSGov
namespace DymVerif.DymNS
open AMap

/-- the ways `exec s op` can succeed with `s'` (`exec_step`; the converse is not claimed: of the guards a
    handler checks, a constructor keeps those the proofs use).  One constructor per success path of the
    handler the operation stands for; a handler that ends in another block (`CompleteAliasSellOrder`,
    `transferDymNameOwnership`, the two `AcceptBuyOrder` handlers) has that block's result written out.
    * `fund` … `setChainAliases`: the harness' own operations (bank mint, block time, the two params
      the harness sets directly); `updateAliases`, `setParams`, `migrate`: keeper/proposal.go and
      msg_server_update_params.go.
    * `registerPrune` … `updateDetails`: the name messages (msg_server_register_name.go,
      _transfer_ownership.go, _set_controller.go, _update_resolve_address.go, _update_details.go);
      the signer is read off the record (`d.owner`, `d.controller`).
    * `sellName` … `bidSale`: sell orders on names (msg_server_place_sell_order.go, _cancel_sell_order.go,
      _complete_sell_order.go, _purchase_order.go); `completeRefund` / `completeSale` and `bid` / `bidSale`
      are the two ways those handlers end.
    * `offerName` … `counter`: buy orders (msg_server_place_buy_order.go, _cancel_buy_order.go,
      _accept_buy_order.go); `counter` is the counter-offer of either asset type.
    * `createRollapp` … `bidAliasSale`: the `RollappCreated` hook (hooks.go), msg_server_register_alias.go
      and the alias side of the sell-order handlers; `transferRollapp`: `MsgTransferOwnership` of x/rollapp. -/
inductive Step (s : State) : Op → State → Prop
  | fund (a amt) : Step s (.fund a amt) { s with bal := AMap.set s.bal a (balOf s a + amt) }
  | advance (dt) : Step s (.advance dt) { s with now := s.now + dt }
  | trading (n a) : Step s (.trading n a) { s with p := { s.p with tradeName := n, tradeAlias := a } }
  | setChainAliases (ca) : Step s (.setChainAliases ca) { s with p := { s.p with chainAliases := ca } }
  | updateAliases (ad rm ca) : caValid ca = true → Step s (.updateAliases ad rm) { s with p := { s.p with chainAliases := ca } }
  | setParams (g d mo bi) : minPriceValue ≤ mo → bi ≤ 10 → 30 * 86400 ≤ g → 1 ≤ d → d ≤ 7 * 86400 →
      Step s (.setParams g d mo bi) { s with p := { s.p with grace := g, soDur := d, minOffer := mo, bidInc := bi } }
  | migrate (m) : migValid m = true → caValid (migrateCA s.p.chainAliases m) = true → Step s (.migrateChainIds m) (migrateT s m)
  /-- new registration, renewal of an expired name, take-over: the old record and its sell order are pruned -/
  | registerPrune (a n dur pay c) : regAllowed s a n = .ok () → (regPlan s a n dur c).cost = pay → pay ≤ balOf s a →
      (regPlan s a n dur c).prune = true → bidAmt (nameBid s n) ≤ s.modBal →
      Step s (.register a n dur pay c) (replaceNameT (payAndBurnT s a pay) n (regPlan s a n dur c).record)
  | registerExtend (a n dur pay c) : (regPlan s a n dur c).cost = pay → pay ≤ balOf s a → (regPlan s a n dur c).prune = false →
      Step s (.register a n dur pay c) (setName (payAndBurnT s a pay) n (regPlan s a n dur c).record)
  | transfer {d} (n b) : getName s n = some d → b ≠ d.owner → d.expired s.now = false → AMap.get s.nameSO n = none →
      Step s (.transfer d.owner n b) (replaceNameT s n (cleared b d.expireAt))
  | setController {d} (n c) : getName s n = some d → d.expired s.now = false → d.controller ≠ c →
      Step s (.setController d.owner n c) (setName s n { d with controller := c })
  /-- an address record is written; on the host chain it carries the host prefix -/
  | resolveSet {d} (n ch e p x) : getName s n = some d → d.expired s.now = false → (ch = 0 → x.hrp = 0) →
      Step s (.updateResolve d.controller n ch e p (some x))
        { s with ns := s.ns.setConfigChangedT n { d with configs := upsertConfig d.configs ⟨ch, p, x⟩ } }
  | resolveDelete {d} (n ch e p) : getName s n = some d → d.expired s.now = false →
      Step s (.updateResolve d.controller n ch e p none)
        { s with ns := s.ns.setConfigChangedT n { d with configs := removeConfig d.configs ch p } }
  | updateDetailsClear {d} (n c cl cc) : getName s n = some d → d.expired s.now = false →
      Step s (.updateDetails d.controller n c cl) { s with ns := s.ns.setConfigChangedT n { d with configs := [], contact := cc } }
  | updateDetails {d} (n c cl cc) : getName s n = some d → d.expired s.now = false →
      Step s (.updateDetails d.controller n c cl) (setName s n { d with contact := cc })
  | sellName {d} (n mn sl) : getName s n = some d → d.expired s.now = false → AMap.get s.nameSO n = none →
      s.now + s.p.soDur < d.expireAt →
      Step s (.sellName d.owner n mn sl) { s with nameSO := AMap.set s.nameSO n ⟨d.owner, s.now + s.p.soDur, mn, sl, none⟩ }
  | cancelSellName {d so} (n) : getName s n = some d → AMap.get s.nameSO n = some so → so.bid = none →
      Step s (.cancelSellName d.owner n) { s with nameSO := AMap.del s.nameSO n }
  /-- a finished order with a bid, trading off or name expired: the bid is refunded -/
  | completeRefund {d so b} (a n) : getName s n = some d → AMap.get s.nameSO n = some so → so.bid = some b →
      so.finished s.now = true → (d.owner = a ∨ b.bidder = a) → b.price ≤ s.modBal → (!s.p.tradeName || d.expired s.now) = true →
      Step s (.completeName a n) { fromModuleT s b.bidder b.price with nameSO := AMap.del s.nameSO n }
  | completeSale {d so b} (a n) : getName s n = some d → AMap.get s.nameSO n = some so → so.bid = some b →
      so.finished s.now = true → (d.owner = a ∨ b.bidder = a) → b.price ≤ s.modBal → (!s.p.tradeName || d.expired s.now) = false →
      Step s (.completeName a n) (completeNameSOT s n d b)
  /-- a bid: previous bidder refunded, offer escrowed … -/
  | bid {d so} (a n offer) : getName s n = some d → d.owner ≠ a → AMap.get s.nameSO n = some so →
      validatePurchase s so offer = .ok () → bidAmt so.bid ≤ s.modBal → offer ≤ balOf (refundOptT s so.bid) a →
      ({ so with bid := some ⟨a, offer, 0⟩ } : SellOrder).finished s.now = false →
      Step s (.buyName a n offer) (bidStateN s so a offer n)
  /-- … and completed at once when it reaches the sell price -/
  | bidSale {d so} (a n offer) : getName s n = some d → d.owner ≠ a → AMap.get s.nameSO n = some so →
      validatePurchase s so offer = .ok () → bidAmt so.bid ≤ s.modBal → offer ≤ balOf (refundOptT s so.bid) a →
      ({ so with bid := some ⟨a, offer, 0⟩ } : SellOrder).finished s.now = true →
      Step s (.buyName a n offer) (completeNameSOT (bidStateN s so a offer n) n d ⟨a, offer, 0⟩)
  | offerName {d s'} (a n offer cont) : getNameLive s n = some d → d.owner ≠ a → s.p.minOffer ≤ offer →
      PlacedBO s false a n 0 offer s' cont → Step s (.offerName a n offer cont) s'
  | offerAlias {s'} (a l offer cont dst) : isCreator s dst a = true → AMap.get s.al.aliasTo l ≠ some dst → s.p.minOffer ≤ offer →
      PlacedBO s true a l dst offer s' cont → Step s (.offerAlias a l offer cont dst) s'
  | cancelOffer {bo} (pfx id) : AMap.get s.bos id = some bo → bo.offer ≤ s.modBal →
      Step s (.cancelOffer bo.buyer pfx id) (removeBO (fromModuleT s bo.buyer bo.offer) id bo)
  /-- accepted at the offered price: the seller is paid, the order closed, the name handed over -/
  | acceptName {bo d} (pfx id) : AMap.get s.bos id = some bo → bo.isAlias = false → getNameLive s bo.asset = some d →
      bo.buyer ≠ d.owner → AMap.get s.nameSO bo.asset = none → bo.offer ≤ s.modBal →
      Step s (.acceptOffer d.owner pfx id bo.offer)
        (replaceNameT (removeBO (fromModuleT s d.owner bo.offer) id bo) bo.asset (cleared bo.buyer d.expireAt))
  | acceptAlias {bo src r} (pfx id) : AMap.get s.bos id = some bo → bo.isAlias = true →
      AMap.get s.al.aliasTo bo.asset = some src → AMap.get s.al.rollapps src = some r → isRollapp s bo.dst = true →
      AMap.get s.aliasSO bo.asset = none → bo.offer ≤ s.modBal →
      Step s (.acceptOffer r.owner pfx id bo.offer)
        { removeBO (fromModuleT s r.owner bo.offer) id bo with al := (s.al.removeAliasT src bo.asset).setAliasT bo.dst bo.asset }
  /-- at a higher price: the counter-offer is recorded -/
  | counter {bo} (a pfx id m) : AMap.get s.bos id = some bo → m ≠ bo.offer →
      Step s (.acceptOffer a pfx id m) { s with bos := AMap.set s.bos id { bo with counter := m } }
  | createRollapp (a c hrp l) : isRollapp s c = false → aliasPrice s.p l ≤ balOf s a → AMap.get s.al.aliasTo l = none →
      Step s (.createRollapp a c hrp l)
        { payAndBurnT (withRollapp s c ⟨a, hrp⟩) a (aliasPrice s.p l) with al := (withRollapp s c ⟨a, hrp⟩).al.setAliasT c l }
  | registerAlias {r} (c l pay) : AMap.get s.al.rollapps c = some r → pay ≤ balOf s r.owner → AMap.get s.al.aliasTo l = none →
      Step s (.registerAlias r.owner c l pay) { payAndBurnT s r.owner pay with al := s.al.setAliasT c l }
  | sellAlias {src r} (l mn sl) : AMap.get s.al.aliasTo l = some src → AMap.get s.al.rollapps src = some r →
      AMap.get s.aliasSO l = none →
      Step s (.sellAlias r.owner l mn sl) { s with aliasSO := AMap.set s.aliasSO l ⟨r.owner, s.now + s.p.soDur, mn, sl, none⟩ }
  | cancelSellAlias {so} (a l) : AMap.get s.aliasSO l = some so → so.bid = none →
      Step s (.cancelSellAlias a l) { s with aliasSO := AMap.del s.aliasSO l }
  | completeAliasRefund {so b} (a l) : AMap.get s.aliasSO l = some so → so.bid = some b → so.finished s.now = true →
      (reserved s.p l || !s.p.tradeAlias) = true → b.price ≤ s.modBal →
      Step s (.completeAlias a l) { fromModuleT s b.bidder b.price with aliasSO := AMap.del s.aliasSO l }
  | completeAliasSale {so b src r} (a l) : AMap.get s.aliasSO l = some so → so.bid = some b → so.finished s.now = true →
      (reserved s.p l || !s.p.tradeAlias) = false → AMap.get s.al.aliasTo l = some src → AMap.get s.al.rollapps src = some r →
      isRollapp s b.dst = true → b.price ≤ s.modBal → Step s (.completeAlias a l) (aliasSoldT s l src r b)
  | bidAlias {so} (a l offer dst) : AMap.get s.aliasSO l = some so → bidAmt so.bid ≤ s.modBal →
      offer ≤ balOf (refundOptT s so.bid) a → ({ so with bid := some ⟨a, offer, dst⟩ } : SellOrder).finished s.now = false →
      Step s (.buyAlias a l offer dst) (bidStateA s so a offer l dst)
  | bidAliasSale {so src r} (a l offer dst) : AMap.get s.aliasSO l = some so → bidAmt so.bid ≤ s.modBal →
      offer ≤ balOf (refundOptT s so.bid) a → ({ so with bid := some ⟨a, offer, dst⟩ } : SellOrder).finished s.now = true →
      AMap.get s.al.aliasTo l = some src → AMap.get s.al.rollapps src = some r → isRollapp s dst = true →
      Step s (.buyAlias a l offer dst) (aliasSoldT (bidStateA s so a offer l dst) l src r ⟨a, offer, dst⟩)
  | transferRollapp {r} (c b) : AMap.get s.al.rollapps c = some r → r.owner ≠ b →
      Step s (.transferRollapp r.owner c b) (withRollapp s c { r with owner := b })

variable {s s' : State} {op : Op}

/-- the only place where the `do` blocks of the handlers are opened: `mcases'` leaves one goal per success
    path, with the guards that were passed as hypotheses; the signer is substituted by what the guard
    compared it with (`d.owner`, `d.controller`, `bo.buyer`, `r.owner`) -/
theorem exec_step (h : exec s op = .ok s') : Step s op s' := by
  cases op <;> simp only [exec] at h
  case fund => cases h; exact .fund ..
  case advance => cases h; exact .advance ..
  case trading => cases h; exact .trading ..
  case setChainAliases => cases h; exact .setChainAliases ..
  case updateAliases ad rm =>
    unfold updateAliases at h
    mcases' h
    cases h
    exact .updateAliases ad rm _ ‹_›
  case setParams g d mo bi =>
    unfold setParams at h
    mcases' h
    cases h
    rename (1 ≤ d ∧ d ≤ 7 * 86400) => hd
    exact .setParams g d mo bi ‹_› ‹_› ‹_› hd.1 hd.2
  case migrateChainIds m =>
    unfold migrateChainIds at h
    mcases' h
    cases h
    exact .migrate m ‹_› ‹_›
  case register a n dur pay c =>
    unfold registerName at h
    mcases' h
    all_goals
      rename ((regPlan s a n dur c).cost = pay) => hc
      subst hc
      rename (payAndBurn s a _ = Except.ok _) => h1
      obtain ⟨rfl, hle⟩ := payAndBurn_ok h1
    · rename (pruneName _ n = Except.ok _) => hp
      obtain ⟨rfl, hb⟩ := pruneName_ok hp
      rw [setNameAfterBoth_ok] at h
      cases h
      exact .registerPrune a n dur _ c ‹_› rfl hle ‹_› hb
    · cases h
      exact .registerExtend a n dur _ c rfl hle (by simpa using ‹¬ (regPlan s a n dur c).prune = true›)
  case transfer a n b =>
    unfold transferName at h
    mcases' h
    obtain ⟨rfl, _⟩ := transferOwnership_ok h
    rename (DymName.owner _ = a) => ho
    subst ho
    exact .transfer n b ‹_› ‹_› ‹_› ‹_›
  case setController a n c =>
    unfold setController at h
    mcases' h
    cases h
    rename (DymName.owner _ = a) => ho
    subst ho
    exact .setController n c ‹_› ‹_› ‹_›
  case updateResolve a n ch e p v =>
    unfold updateResolveAddress at h
    cases v with
    | none =>
      mcases' h
      rw [setNameConfigChanged_ok] at h
      cases h
      rename (DymName.controller _ = a) => hc
      subst hc
      exact .resolveDelete n ch e p ‹_› ‹_›
    | some x =>
      mcases' h
      all_goals
        rw [setNameConfigChanged_ok] at h
        cases h
        rename (DymName.controller _ = a) => hc
        subst hc
        refine .resolveSet n ch e p x ‹_› ‹_› (fun h0 => ?_)
        first
        | assumption
        | exact absurd h0 ‹¬ ch = 0›
  case updateDetails a n c cl =>
    unfold updateDetails at h
    cases c <;> mcases' h
    all_goals
      rename (DymName.controller _ = a) => hc
      subst hc
      first
      | (rw [setNameConfigChanged_ok] at h
         cases h
         exact .updateDetailsClear n _ cl _ ‹_› ‹_›)
      | (cases h
         exact .updateDetails n _ cl _ ‹_› ‹_›)
  case sellName a n mn sl =>
    unfold placeNameSO at h
    mcases' h
    cases h
    rename (DymName.owner _ = a) => ho
    subst ho
    exact .sellName n mn sl ‹_› ‹_› ‹_› (by omega)
  case cancelSellName a n =>
    unfold cancelNameSO at h
    mcases' h
    cases h
    rename (DymName.owner _ = a) => ho
    subst ho
    exact .cancelSellName n ‹_› ‹_› ‹_›
  case completeName a n =>
    unfold completeNameSOMsg at h
    mcases' h
    · rename (refundBid s _ = Except.ok _) => hr
      obtain ⟨rfl, hle⟩ := fromModule_ok hr
      cases h
      exact .completeRefund a n ‹_› ‹_› ‹_› ‹_› ‹_› hle ‹_›
    · rename (s.nameSO.get n = some _) => hso
      rename (SellOrder.bid _ = some _) => hb
      rename (getName s n = some _) => hd
      obtain ⟨hfin, hle, rfl⟩ := completeNameSO_ok hd hso hb h
      exact .completeSale a n hd hso hb hfin ‹_› hle (by simpa using ‹¬ (!s.p.tradeName || DymName.expired _ s.now) = true›)
  case buyName a n offer =>
    unfold purchaseName at h
    mcases' h
    all_goals
      rename (getName s n = some _) => hd
      rename (takeBid s _ a offer = Except.ok _) => ht
      obtain ⟨rfl, hle, hle2⟩ := takeBid_ok ht
    · rename (SellOrder.finished _ _ = true) => hfin
      rename (SellOrder) => so
      obtain ⟨_, _, rfl⟩ := completeNameSO_ok (s := bidStateN s so a offer n) (so := { so with bid := some ⟨a, offer, 0⟩ })
        (by simpa [getName, bidStateN, takeBidT_ns] using hd) (by simp [bidStateN]) rfl h
      exact .bidSale a n offer hd ‹_› ‹_› ‹_› hle hle2 (by simpa [takeBidT_now] using hfin)
    · rename (¬ SellOrder.finished _ _ = true) => hfin
      cases h
      exact .bid a n offer hd ‹_› ‹_› ‹_› hle hle2 (by simpa [takeBidT_now] using hfin)
  case offerName a n offer cont =>
    unfold placeNameBO at h
    mcases' h
    rename (validateContinue s false a n offer cont = Except.ok _) => hv
    exact .offerName a n offer cont ‹_› ‹_› ‹_› (placedBO_of hv h)
  case offerAlias a l offer cont dst =>
    unfold placeAliasBO at h
    mcases' h
    rename (validateContinue s true a l offer cont = Except.ok _) => hv
    rename (validateAliasDst s a l dst = Except.ok _) => hd
    exact .offerAlias a l offer cont dst (validateAliasDst_ok hd).1 (validateAliasDst_ok hd).2 ‹_› (placedBO_of hv h)
  case cancelOffer a pfx id =>
    unfold cancelBO at h
    mcases' h
    rename (getBO s pfx id = some _) => hg
    rename (fromModule s _ _ = Except.ok _) => hf
    obtain ⟨rfl, hle⟩ := fromModule_ok hf
    cases h
    rename (BuyOrder.buyer _ = a) => hb
    subst hb
    exact .cancelOffer pfx id (getBO_some hg).1 hle
  case acceptOffer a pfx id m =>
    unfold acceptBO at h
    mcases' h
    all_goals
      rename (getBO s pfx id = some _) => hg
      replace hg := (getBO_some hg).1
    · unfold acceptAliasBO at h
      mcases' h
      all_goals
        rename (isCreator s _ a = true) => hcr
        rename (AMap.get s.al.rollapps _ = some _) => hr
        obtain ⟨r', hr', ho⟩ := isCreator_some hcr
        cases hr.symm.trans hr'
        subst ho
      · rename (fromModule s _ _ = Except.ok _) => hf
        obtain ⟨rfl, hle⟩ := fromModule_ok hf
        obtain ⟨_, _, rfl⟩ := moveAlias_ok h
        rename (m = _) => hm
        subst hm
        exact .acceptAlias pfx id hg ‹_› ‹_› hr ‹_› ‹_› hle
      · cases h
        exact .counter _ pfx id m hg ‹_›
    · unfold acceptNameBO at h
      mcases' h
      all_goals
        rename (DymName.owner _ = a) => ho
        subst ho
      · rename (fromModule s _ _ = Except.ok _) => hf
        obtain ⟨rfl, hle⟩ := fromModule_ok hf
        obtain ⟨rfl, _⟩ := transferOwnership_ok h
        rename (m = _) => hm
        subst hm
        exact .acceptName pfx id hg (by simpa using ‹¬ BuyOrder.isAlias _ = true›) ‹_› ‹_› ‹_› hle
      · cases h
        exact .counter _ pfx id m hg ‹_›
  case createRollapp a c hrp l =>
    unfold createRollapp at h
    mcases' h
    obtain ⟨h1, _, h3, rfl⟩ := registerAliasFor_ok h
    exact .createRollapp a c hrp l ‹_› h1 h3
  case registerAlias a c l pay =>
    unfold registerAlias at h
    mcases' h
    rename (aliasPrice s.p l = pay) => hp
    subst hp
    obtain ⟨h1, _, h3, rfl⟩ := registerAliasFor_ok h
    rename (Rollapp.owner _ = a) => ho
    subst ho
    exact .registerAlias c l _ ‹_› h1 h3
  case sellAlias a l mn sl =>
    unfold placeAliasSO at h
    mcases' h
    rename (isCreator s _ a = true) => hcr
    obtain ⟨r, hr, ho⟩ := isCreator_some hcr
    cases h
    subst ho
    exact .sellAlias l mn sl ‹_› hr ‹_›
  case cancelSellAlias a l =>
    unfold cancelAliasSO at h
    mcases' h
    cases h
    exact .cancelSellAlias a l ‹_› ‹_›
  case completeAlias a l =>
    unfold completeAliasSOMsg at h
    mcases' h
    · rename (refundBid s _ = Except.ok _) => hr
      obtain ⟨rfl, hle⟩ := fromModule_ok hr
      cases h
      exact .completeAliasRefund a l ‹_› ‹_› ‹_› ‹_› hle
    · rename (s.aliasSO.get l = some _) => hso
      rename (SellOrder.bid _ = some _) => hb
      obtain ⟨src, r, hsrc, hr, hfin, hdst, hle, rfl⟩ := completeAliasSO_ok hso hb h
      exact .completeAliasSale a l hso hb hfin (by simpa using ‹¬ (reserved s.p l || !s.p.tradeAlias) = true›) hsrc hr hdst hle
  case buyAlias a l offer dst =>
    unfold purchaseAlias at h
    mcases' h
    all_goals
      rename (takeBid s _ a offer = Except.ok _) => ht
      obtain ⟨rfl, hle, hle2⟩ := takeBid_ok ht
    · rename (SellOrder.finished _ _ = true) => hfin
      rename (SellOrder) => so
      obtain ⟨src, r, hsrc, hr, _, hdst, _, rfl⟩ := completeAliasSO_ok (s := bidStateA s so a offer l dst)
        (so := { so with bid := some ⟨a, offer, dst⟩ }) (by simp [bidStateA]) rfl h
      rw [bidStateA_al] at hsrc hr
      exact .bidAliasSale a l offer dst ‹_› hle hle2 (by simpa [takeBidT_now] using hfin) hsrc hr
        (by simpa [isRollapp, bidStateA_al] using hdst)
    · rename (¬ SellOrder.finished _ _ = true) => hfin
      cases h
      exact .bidAlias a l offer dst ‹_› hle hle2 (by simpa [takeBidT_now] using hfin)
  case transferRollapp a c b =>
    unfold transferRollapp at h
    mcases' h
    cases h
    rename (Rollapp.owner _ = a) => ho
    subst ho
    exact .transferRollapp c b ‹_› ‹_›

end DymVerif.DymNS
