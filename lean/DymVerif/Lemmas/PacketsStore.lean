/-
  Lemmas/PacketsStore — the packet store and the by-address index as finite maps: membership after
  `setPacket` / `delPacket` / `insertAK`, key uniqueness, `getPacket` on a key-unique store, and what a
  packet key depends on (status prefix + the rest; the pending key `pendKeyOf`).
-/
import DymVerif.Lemmas.PacketsBasic
import DymVerif.Lemmas.Bytes
import DymVerif.Lemmas.Keys
namespace DymVerif.Packets
open DymVerif DymVerif.Keys

theorem mem_insertPkt {p q : Packet} : ∀ {l : List Packet}, q ∈ insertPkt p l ↔ q = p ∨ q ∈ l
  | [] => by simp [insertPkt]
  | x :: xs => by
    unfold insertPkt
    split
    · simp
    · simp only [List.mem_cons, mem_insertPkt (l := xs), or_left_comm]

theorem mem_setPacket {s : St} {p q : Packet} :
    q ∈ (setPacket s p).packets ↔ q = p ∨ (q ∈ s.packets ∧ pkey q ≠ pkey p) := by
  simp [setPacket, mem_insertPkt, List.mem_filter]

theorem mem_delPacket {s : St} {k : Bytes} {q : Packet} :
    q ∈ (delPacket s k).packets ↔ q ∈ s.packets ∧ pkey q ≠ k := by
  simp [delPacket, List.mem_filter]

@[simp] theorem setPacket_byAddr (s : St) (p) : (setPacket s p).byAddr = s.byAddr := rfl
@[simp] theorem setPacket_receipts (s : St) (p) : (setPacket s p).receipts = s.receipts := rfl
@[simp] theorem setPacket_commits (s : St) (p) : (setPacket s p).commits = s.commits := rfl
@[simp] theorem setPacket_nextSeq (s : St) (p) : (setPacket s p).nextSeq = s.nextSeq := rfl
@[simp] theorem setPacket_log (s : St) (p) : (setPacket s p).log = s.log := rfl
@[simp] theorem setPacket_ras (s : St) (p) : (setPacket s p).ras = s.ras := rfl
@[simp] theorem setPacket_sent (s : St) (p) : (setPacket s p).sent = s.sent := rfl
@[simp] theorem setPacket_chans (s : St) (p) : (setPacket s p).chans = s.chans := rfl
@[simp] theorem delPacket_byAddr (s : St) (k) : (delPacket s k).byAddr = s.byAddr := rfl
@[simp] theorem delPacket_receipts (s : St) (k) : (delPacket s k).receipts = s.receipts := rfl
@[simp] theorem delPacket_commits (s : St) (k) : (delPacket s k).commits = s.commits := rfl
@[simp] theorem delPacket_nextSeq (s : St) (k) : (delPacket s k).nextSeq = s.nextSeq := rfl
@[simp] theorem delPacket_log (s : St) (k) : (delPacket s k).log = s.log := rfl
@[simp] theorem delPacket_ras (s : St) (k) : (delPacket s k).ras = s.ras := rfl
@[simp] theorem delPacket_sent (s : St) (k) : (delPacket s k).sent = s.sent := rfl
@[simp] theorem delPacket_chans (s : St) (k) : (delPacket s k).chans = s.chans := rfl
@[simp] theorem addByAddr_packets (s : St) (a k) : (addByAddr s a k).packets = s.packets := rfl
@[simp] theorem addByAddr_receipts (s : St) (a k) : (addByAddr s a k).receipts = s.receipts := rfl
@[simp] theorem addByAddr_commits (s : St) (a k) : (addByAddr s a k).commits = s.commits := rfl
@[simp] theorem addByAddr_nextSeq (s : St) (a k) : (addByAddr s a k).nextSeq = s.nextSeq := rfl
@[simp] theorem addByAddr_log (s : St) (a k) : (addByAddr s a k).log = s.log := rfl
@[simp] theorem addByAddr_ras (s : St) (a k) : (addByAddr s a k).ras = s.ras := rfl
@[simp] theorem addByAddr_sent (s : St) (a k) : (addByAddr s a k).sent = s.sent := rfl
@[simp] theorem addByAddr_chans (s : St) (a k) : (addByAddr s a k).chans = s.chans := rfl
@[simp] theorem delByAddr_packets (s : St) (a k) : (delByAddr s a k).packets = s.packets := rfl
@[simp] theorem delByAddr_receipts (s : St) (a k) : (delByAddr s a k).receipts = s.receipts := rfl
@[simp] theorem delByAddr_commits (s : St) (a k) : (delByAddr s a k).commits = s.commits := rfl
@[simp] theorem delByAddr_nextSeq (s : St) (a k) : (delByAddr s a k).nextSeq = s.nextSeq := rfl
@[simp] theorem delByAddr_log (s : St) (a k) : (delByAddr s a k).log = s.log := rfl
@[simp] theorem delByAddr_ras (s : St) (a k) : (delByAddr s a k).ras = s.ras := rfl
@[simp] theorem delByAddr_sent (s : St) (a k) : (delByAddr s a k).sent = s.sent := rfl
@[simp] theorem delByAddr_chans (s : St) (a k) : (delByAddr s a k).chans = s.chans := rfl

theorem getPacket_some {s : St} {k : Bytes} {p : Packet} (h : getPacket s k = some p) : p ∈ s.packets ∧ pkey p = k := by
  unfold getPacket at h
  have h1 := List.mem_of_find?_eq_some h
  have h2 := List.find?_some h
  exact ⟨h1, by simpa using h2⟩

theorem getPacket_none {s : St} {k : Bytes} (h : getPacket s k = none) : ∀ p ∈ s.packets, pkey p ≠ k := by
  unfold getPacket at h
  intro p hp hk
  have := List.find?_eq_none.mp h p hp
  simp [hk] at this

theorem getPacket_congr {s s' : St} (h : s'.packets = s.packets) (k : Bytes) : getPacket s' k = getPacket s k := by
  unfold getPacket; rw [h]

/-- the store holds at most one packet per key -/
def KeysNodup (l : List Packet) : Prop := l.Pairwise (fun a b => pkey a ≠ pkey b)

theorem find_of_keysNodup : ∀ {l : List Packet} {p : Packet}, KeysNodup l → p ∈ l →
    l.find? (fun q => pkey q == pkey p) = some p
  | [], _, _, h => by cases h
  | x :: xs, p, hk, hp => by
    rw [KeysNodup, List.pairwise_cons] at hk
    rcases List.mem_cons.mp hp with rfl | hp'
    · simp [List.find?]
    · have hne : pkey x ≠ pkey p := hk.1 p hp'
      have : (pkey x == pkey p) = false := by simpa using hne
      simp only [List.find?, this]
      exact find_of_keysNodup hk.2 hp'

theorem getPacket_of_mem {s : St} {p : Packet} (hk : KeysNodup s.packets) (hp : p ∈ s.packets) :
    getPacket s (pkey p) = some p := find_of_keysNodup hk hp

theorem keysNodup_filter {l : List Packet} (f : Packet → Bool) (h : KeysNodup l) : KeysNodup (l.filter f) :=
  List.Pairwise.filter f h

theorem keysNodup_insertPkt {p : Packet} : ∀ {l : List Packet}, KeysNodup l → (∀ q ∈ l, pkey q ≠ pkey p) →
    KeysNodup (insertPkt p l)
  | [], _, _ => by simp [insertPkt, KeysNodup]
  | x :: xs, hk, hn => by
    unfold insertPkt
    rw [KeysNodup, List.pairwise_cons] at hk
    split
    · rw [KeysNodup, List.pairwise_cons]
      refine ⟨fun q hq => (hn q hq).symm, ?_⟩
      rw [List.pairwise_cons]; exact hk
    · rw [KeysNodup, List.pairwise_cons]
      refine ⟨?_, keysNodup_insertPkt hk.2 (fun q hq => hn q (List.mem_cons_of_mem _ hq))⟩
      intro q hq
      rcases mem_insertPkt.mp hq with rfl | hq'
      · exact hn x List.mem_cons_self
      · exact hk.1 q hq'

theorem keysNodup_setPacket {s : St} (p : Packet) (h : KeysNodup s.packets) : KeysNodup (setPacket s p).packets := by
  unfold setPacket
  apply keysNodup_insertPkt (keysNodup_filter _ h)
  intro q hq
  simpa using (List.mem_filter.mp hq).2

theorem keysNodup_delPacket {s : St} (k : Bytes) (h : KeysNodup s.packets) : KeysNodup (delPacket s k).packets :=
  keysNodup_filter _ h

theorem find_insertPkt_self (p : Packet) : ∀ (l : List Packet), (∀ q ∈ l, pkey q ≠ pkey p) →
    (insertPkt p l).find? (fun q => pkey q == pkey p) = some p
  | [], _ => by simp [insertPkt, List.find?]
  | x :: xs, h => by
    unfold insertPkt
    split
    · simp [List.find?]
    · have hx : (pkey x == pkey p) = false := by simpa using h x List.mem_cons_self
      simp only [List.find?, hx]
      exact find_insertPkt_self p xs (fun q hq => h q (List.mem_cons_of_mem _ hq))

theorem getPacket_setPacket_self (s : St) (p : Packet) : getPacket (setPacket s p) (pkey p) = some p := by
  unfold getPacket setPacket
  apply find_insertPkt_self
  intro q hq
  simpa using (List.mem_filter.mp hq).2

-- packet keys: what they depend on, status prefix and the rest ----------------------------------

theorem pkey_congr {p q : Packet} (h1 : p.status = q.status) (h2 : p.rollappId = q.rollappId) (h3 : p.proofHeight = q.proofHeight)
    (h4 : p.ptype = q.ptype) (h5 : p.srcChan = q.srcChan) (h6 : p.seq = q.seq) : pkey p = pkey q := by
  unfold pkey; rw [h1, h2, h3, h4, h5, h6]

theorem restoreTarget_eq (p : Packet) : restoreTarget p = { p with target := p.orig.getD p.target } := by
  cases p with
  | mk _ _ _ _ _ _ _ _ _ _ _ orig _ _ _ _ => cases orig <;> rfl

theorem pkey_restoreTarget (p : Packet) : pkey (restoreTarget p) = pkey p := by
  rw [restoreTarget_eq]; rfl

theorem pkey_finalizedRecord (p : Packet) (b : Option PErr) : pkey (finalizedRecord p b) = pkey p := rfl

theorem finalizedRecord_status (p : Packet) (b : Option PErr) : (finalizedRecord p b).status = p.status := rfl

theorem pkey_retarget (p : Packet) (a : Addr) : pkey (retarget p a) = pkey p := rfl

/-- everything of a packet key after the status bytes -/
def keyRest (p : Packet) : Bytes :=
  [sep] ++ (p.rollappId ++ [sep]) ++ be64 p.proofHeight ++ [sep] ++ ptypeStr p.ptype ++ [sep] ++ p.srcChan ++ [sep] ++ be64 p.seq

theorem pkey_split (p : Packet) : pkey p = statusBytes p.status ++ keyRest p := by
  simp [pkey, rollappPacketKey, byStatusRollappHeightPrefix, byStatusRollappPrefix, byStatusPrefix, keyRest, List.append_assoc]

theorem pendKeyOf_split (p : Packet) : pendKeyOf p = statusBytes .pending ++ keyRest p := by
  unfold pendKeyOf; rw [pkey_split]; rfl

/-- equal keys: equal status and equal pending key -/
theorem pkey_eq_parts {p q : Packet} (h : pkey q = pkey p) : q.status = p.status ∧ pendKeyOf q = pendKeyOf p := by
  rw [pkey_split, pkey_split] at h
  have hl : (statusBytes q.status).length = (statusBytes p.status).length := by
    rw [statusBytes_length, statusBytes_length]
  obtain ⟨h1, h2⟩ := List.append_inj h hl
  exact ⟨statusBytes_inj _ _ h1, by rw [pendKeyOf_split, pendKeyOf_split, h2]⟩

theorem pendKeyOf_of_pending {p : Packet} (h : p.status = .pending) : pendKeyOf p = pkey p := by
  rw [pendKeyOf_split, pkey_split, h]

theorem pendKeyOf_congr {p q : Packet} (h2 : p.rollappId = q.rollappId) (h3 : p.proofHeight = q.proofHeight)
    (h4 : p.ptype = q.ptype) (h5 : p.srcChan = q.srcChan) (h6 : p.seq = q.seq) : pendKeyOf p = pendKeyOf q := by
  rw [pendKeyOf_split, pendKeyOf_split]; unfold keyRest; rw [h2, h3, h4, h5, h6]

theorem pendKeyOf_restoreTarget (p : Packet) : pendKeyOf (restoreTarget p) = pendKeyOf p := by
  rw [restoreTarget_eq]; rfl

theorem pendKeyOf_finalizedRecord (p : Packet) (b : Option PErr) : pendKeyOf (finalizedRecord p b) = pendKeyOf p :=
  pendKeyOf_congr rfl rfl rfl rfl rfl

theorem pendKeyOf_flipped (p : Packet) : pendKeyOf (flipped p) = pendKeyOf p := pendKeyOf_congr rfl rfl rfl rfl rfl

theorem keysNodup_eq {s : St} {p q : Packet} (hk : KeysNodup s.packets) (hp : p ∈ s.packets) (hq : q ∈ s.packets)
    (h : pkey q = pkey p) : q = p :=
  Option.some.inj ((h ▸ getPacket_of_mem hk hq).symm.trans (getPacket_of_mem hk hp))

-- by-address index ---------------------------------------------------------------------------

theorem mem_insertAK {x y : Addr × Bytes} : ∀ {l : List (Addr × Bytes)}, y ∈ insertAK x l ↔ y = x ∨ y ∈ l
  | [] => by simp [insertAK]
  | z :: zs => by
    unfold insertAK
    split
    · simp
    · split
      · simp only [List.mem_cons, mem_insertAK (l := zs), or_left_comm]
      · -- neither smaller nor larger: the entry replaces an equal one (x and z compare equal)
        rename_i h1 h2
        have hxz : x = z := by
          have e1 : ¬ (x.1 < z.1) := by
            intro hlt; apply h1; simp [ltAK, hlt]
          have e2 : ¬ (z.1 < x.1) := by
            intro hlt; apply h2; simp [ltAK, hlt]
          have e : x.1 = z.1 := Nat.le_antisymm (Nat.not_lt.mp e2) (Nat.not_lt.mp e1)
          have l1 : lexLt x.2 z.2 = false := by
            cases hh : lexLt x.2 z.2 with
            | false => rfl
            | true => exact absurd (by simp [ltAK, e, hh]) h1
          have l2 : lexLt z.2 x.2 = false := by
            cases hh : lexLt z.2 x.2 with
            | false => rfl
            | true => exact absurd (by simp [ltAK, e, hh]) h2
          have : x.2 = z.2 := lexLt_total_eq _ _ l1 l2
          exact Prod.ext e this
        subst hxz
        simp

theorem mem_addByAddr {s : St} {a : Addr} {k : Bytes} {y : Addr × Bytes} :
    y ∈ (addByAddr s a k).byAddr ↔ y = (a, k) ∨ y ∈ s.byAddr := by
  simp [addByAddr, mem_insertAK]

theorem mem_delByAddr {s : St} {a : Addr} {k : Bytes} {y : Addr × Bytes} :
    y ∈ (delByAddr s a k).byAddr ↔ y ∈ s.byAddr ∧ y ≠ (a, k) := by
  simp only [delByAddr, List.mem_filter]
  constructor
  · rintro ⟨h1, h2⟩
    refine ⟨h1, ?_⟩
    rintro rfl
    simp at h2
  · rintro ⟨h1, h2⟩
    refine ⟨h1, ?_⟩
    cases y with
    | mk y1 y2 =>
      simp only [Bool.not_eq_true', Bool.and_eq_false_iff]
      by_cases e1 : y1 = a
      · by_cases e2 : y2 = k
        · subst e1; subst e2; exact absurd rfl h2
        · right; simpa using e2
      · left; simpa using e1

end DymVerif.Packets
