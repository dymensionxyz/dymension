/-
  Lemmas/IncentOps — facts several invariant proofs of M-Incent share: the two equations of `step` the block
  theorems need; what the iterator needs of the stored streams; the three gauge-creating
  messages (`createGauge`, `CreatePoolGauge`, `createRollappGauge`) in one form: the state with gauges appended
  (and possibly another bank), with what is known of the new gauges; and `StepShape`, what one operation can make
  of the state (an invariant kept by `step` is proved by cases on it: `step_shape`).
-/
import DymVerif.Lemmas.IncentBound
namespace DymVerif.Incent
open DymVerif Coins

/-! ### `step` -/

theorem step_halted (s : State) (op : Op) (h : s.halted = true) : step s op = (.halt, s) := by
  unfold step; rw [if_pos h]

theorem step_end (s : State) (h : s.halted = false) :
    step s .end_ = match streamerEndBlock s with
      | .ok s' => (.ok, s')
      | .error e => (e, { s with halted := true }) := by
  unfold step; rw [if_neg (by rw [h]; decide)]; rfl

/-! ### what the iterator needs of the streams handed to `Distribute` -/

/-- a stored stream has its records sorted by gauge id and an id below the `last` pointer -/
theorem Inv.stream_static {s : State} (hi : Inv s) {st : Stream} (hm : st ∈ s.streams) :
    StrictInc (st.recs.map (·.gauge)) ∧ st.id < maxU64 :=
  ⟨hi.stat.recs st hm, by have := id_le_length hi.struct.sid hm; have := hi.len; omega⟩

theorem Inv.active_static {s : State} (hi : Inv s) :
    ∀ st ∈ activeStreams s, StrictInc (st.recs.map (·.gauge)) ∧ st.id < maxU64 :=
  fun _ hm => hi.stream_static (mem_streamsOf hm)

theorem Inv.activeFor_static {s : State} (hi : Inv s) (e : Nat) :
    ∀ st ∈ activeStreamsFor s e, StrictInc (st.recs.map (·.gauge)) ∧ st.id < maxU64 :=
  fun _ hm => hi.active_static _ (List.mem_filter.1 hm).1

theorem createGauge_added (s : State) (o : Nat) (p : Bool) (d du : Nat) (hs : Bool) (c : Coins) (st n : Nat) :
    ∃ b gs, (createGauge s o p d du hs c st n).2 = { s with bank := b, gauges := s.gauges ++ gs } ∧
      ∀ g ∈ gs, g.kind = .asset d du := by
  rcases createGauge_shape s o p d du hs c st n with e | ⟨b, _, e⟩
  · exact ⟨s.bank, [], by rw [e, List.append_nil], fun _ hg => nomatch hg⟩
  · exact ⟨b, [_], e, fun g hg => by rw [List.mem_singleton.1 hg]⟩

theorem poolGaugesLoop_added (denom : Nat) (hs : Bool) (ds : List Nat) (s : State) :
    ∃ b gs, (poolGaugesLoop denom hs ds s).2 = { s with bank := b, gauges := s.gauges ++ gs } ∧
      ∀ g ∈ gs, ∃ du, g.kind = .asset denom du := by
  refine poolGaugesLoop_ind (fun x => ∃ b gs, x = { s with bank := b, gauges := s.gauges ++ gs } ∧
      ∀ g ∈ gs, ∃ du, g.kind = .asset denom du) denom hs ?_ ds s
    ⟨s.bank, [], by rw [List.append_nil], fun _ hg => nomatch hg⟩
  rintro x d ⟨b1, gs1, e1, k1⟩
  obtain ⟨b2, gs2, e2, k2⟩ := createGauge_added x streamerAddr true denom d hs [] x.now 1
  refine ⟨b2, gs1 ++ gs2, ?_, fun g hg => (List.mem_append.1 hg).elim (k1 g) (fun h => ⟨d, k2 g h⟩)⟩
  rw [e2, e1, List.append_assoc]

theorem createRollappGauge_added (s : State) (r : Nat) :
    ∃ gs, (createRollappGauge s r).2 = { s with gauges := s.gauges ++ gs } ∧
      ∀ g ∈ gs, g.kind = .rollapp r ∧ ∃ ra, s.rollapps[r]? = some ra ∧ ra.exists_ = true := by
  have stay : ∃ gs, s = { s with gauges := s.gauges ++ gs } ∧
      ∀ g ∈ gs, g.kind = .rollapp r ∧ ∃ ra, s.rollapps[r]? = some ra ∧ ra.exists_ = true :=
    ⟨[], by rw [List.append_nil], fun _ hg => nomatch hg⟩
  unfold createRollappGauge
  cases hr : s.rollapps[r]? with
  | none => rw [hr] at stay; exact stay
  | some ra =>
    rw [hr] at stay
    by_cases he : ra.exists_ = true
    · simp only [he, Bool.not_true, Bool.false_eq_true, if_false]
      refine ⟨[_], rfl, fun g hg => ?_⟩
      rw [List.mem_singleton.1 hg]
      exact ⟨rfl, ra, rfl, he⟩
    · simp only [he, Bool.not_false, if_true]
      exact stay

/-! ### one operation, by the fields it can change -/

/-- what `step s op` can make of the state.  `inert`: only fields that no invariant of the gauges, streams, pointers,
    locks or rollapps reads (halted chain, failed message, `setMaxIter`, `fund`, `distribution`, failed EndBlock);
    `gauges`: gauges appended — asset gauges, or the gauge of a registered rollapp -/
inductive StepShape (s : State) : Op → State → Prop
  | inert {op : Op} (m : Nat) (b : Bank) (h : Bool) (d : List Rec) :
      StepShape s op { s with maxIter := m, bank := b, halted := h, distr := d }
  | locks (ls : List Lock) : StepShape s (.locks ls) { s with locks := ls }
  | rollapp (r o : Nat) (l : Bool) :
      StepShape s (.rollapp r o l) { s with rollapps := setRollapp s.rollapps r ⟨true, o, l⟩ }
  | begin (dt : Nat) : StepShape s (.begin dt) (beginBlock s dt)
  | endOk (s' : State) (h : streamerEndBlock s = .ok s') : StepShape s .end_ s'
  | gauges {op : Op} (b : Bank) (gs : List Gauge)
      (h : ∀ g ∈ gs, ∀ r, g.kind = .rollapp r → ∃ ra, s.rollapps[r]? = some ra ∧ ra.exists_ = true) :
      StepShape s op { s with bank := b, gauges := s.gauges ++ gs }
  | topUp {op : Op} (gid : Nat) (g : Gauge) (b : Bank) (c : Coins) (h : getGauge s gid = some g) :
      StepShape s op (setGauge { s with bank := b } { g with coins := Coins.add g.coins c })
  | createStream (sp : Bool) (c : Coins) (rs : List Rec) (st e n : Nat) :
      StepShape s (.createStream sp c rs st e n) (createStream s sp c rs st e n).2
  | terminateStream (id : Nat) : StepShape s (.terminateStream id) (terminateStream s id).2
  | retarget {op : Op} {s' : State} (h : ¬ op.noRetarget) (hs : Same s s') : StepShape s op s'

theorem step_shape (s : State) (op : Op) : StepShape s op (step s op).2 := by
  by_cases hh : s.halted = true
  · rw [step_halted s op hh]; exact .inert s.maxIter s.bank s.halted s.distr
  unfold step
  rw [if_neg hh]
  cases op with
  | begin dt => exact .begin dt
  | end_ =>
    cases he : streamerEndBlock s with
    | ok s' => exact .endOk s' he
    | error x => exact .inert s.maxIter s.bank true s.distr
  | setMaxIter n => exact .inert n s.bank s.halted s.distr
  | fund a c => exact .inert s.maxIter (s.bank.credit a c) s.halted s.distr
  | locks ls => exact .locks ls
  | rollapp r o l => exact .rollapp r o l
  | rollappGauge r =>
    obtain ⟨gs, e, k⟩ := createRollappGauge_added s r
    show StepShape s _ (createRollappGauge s r).2
    rw [e]
    refine .gauges s.bank gs (fun g hg r' hk => ?_)
    obtain ⟨k1, k2⟩ := k g hg
    rw [k1] at hk; injection hk with hk; rw [← hk]; exact k2
  | createGauge o p d du hs c st n =>
    obtain ⟨b, gs, e, k⟩ := createGauge_added s o p d du hs c st n
    show StepShape s _ (createGauge s o p d du hs c st n).2
    rw [e]
    exact .gauges b gs (fun g hg r hk => by rw [k g hg] at hk; exact nomatch hk)
  | addToGauge o gid c =>
    show StepShape s _ (addToGauge s o gid c).2
    rcases addToGauge_shape s o gid c with e | ⟨g, b, hg, _, e⟩
    · rw [e]; exact .inert s.maxIter s.bank s.halted s.distr
    · rw [e]; exact .topUp gid g b c hg
  | createStream sp c rs st e n => exact .createStream sp c rs st e n
  | terminateStream id => exact .terminateStream id
  | replaceDistr id rs => exact .retarget (fun h => h) (replaceDistr_same s id rs)
  | updateDistr id rs => exact .retarget (fun h => h) (updateDistr_same s id rs)
  | distribution rs => exact .inert s.maxIter s.bank s.halted rs
  | poolGauges d hs =>
    obtain ⟨b, gs, e, k⟩ := poolGaugesLoop_added d hs lockableDurations s
    show StepShape s _ (poolGaugesLoop d hs lockableDurations s).2
    rw [e]
    exact .gauges b gs (fun g hg r hk => by obtain ⟨du, k1⟩ := k g hg; rw [k1] at hk; exact nomatch hk)

end DymVerif.Incent
