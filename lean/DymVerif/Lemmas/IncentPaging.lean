/-
  Lemmas/IncentPaging — the stream iterator and `Paginate`: bisection is exact on sorted ids, the
  iterator enumerates the flattened (stream, gauge) positions in order, a paged run visits a prefix
  and its saved pointer resumes exactly where it stopped.
-/
import DymVerif.Model.Incent
namespace DymVerif.Incent
open DymVerif

/-! ### bisection -/

/-- strictly increasing (as seen through `getD · 0`, which is what the model's bisection reads) -/
def StrictInc (l : List Nat) : Prop := ∀ i j, i < j → j < l.length → l.getD i 0 < l.getD j 0

theorem StrictInc.mono {l : List Nat} (h : StrictInc l) (i j : Nat) (hij : i ≤ j) (hj : j < l.length) :
    l.getD i 0 ≤ l.getD j 0 := by
  rcases Nat.lt_or_ge i j with h1 | h1
  · exact Nat.le_of_lt (h i j h1 hj)
  · have : i = j := by omega
    subst this; exact Nat.le_refl _

theorem binSearchAux_spec (ids : List Nat) (t : Nat)
    (hmono : ∀ i j, i ≤ j → j < ids.length → ids.getD i 0 ≤ ids.getD j 0) :
    ∀ fuel i j, i ≤ j → j ≤ ids.length → j - i < fuel →
      (∀ k, k < i → ids.getD k 0 < t) → (∀ k, j ≤ k → k < ids.length → t ≤ ids.getD k 0) →
      i ≤ binSearchAux ids t fuel i j ∧ binSearchAux ids t fuel i j ≤ j ∧
      (∀ k, k < binSearchAux ids t fuel i j → ids.getD k 0 < t) ∧
      (∀ k, binSearchAux ids t fuel i j ≤ k → k < ids.length → t ≤ ids.getD k 0) := by
  intro fuel
  induction fuel with
  | zero => intro i j _ _ h; omega
  | succ n ih =>
    intro i j hij hj hf hlo hhi
    unfold binSearchAux
    by_cases hlt : i < j
    · simp only [hlt, if_true]
      have hh1 : i ≤ (i + j) / 2 := by omega
      have hh2 : (i + j) / 2 < j := by omega
      by_cases hc : ids.getD ((i + j) / 2) 0 < t
      · simp only [hc, if_true]
        have := ih ((i + j) / 2 + 1) j (by omega) hj (by omega)
          (by
            intro k hk
            have : ids.getD k 0 ≤ ids.getD ((i + j) / 2) 0 := hmono k _ (by omega) (by omega)
            omega)
          hhi
        refine ⟨by omega, this.2.1, this.2.2.1, this.2.2.2⟩
      · simp only [hc, if_false]
        have := ih i ((i + j) / 2) hh1 (by omega) (by omega) hlo
          (by
            intro k hk hkl
            have : ids.getD ((i + j) / 2) 0 ≤ ids.getD k 0 := hmono _ k hk hkl
            omega)
        refine ⟨this.1, by omega, this.2.2.1, this.2.2.2⟩
    · simp only [hlt, if_false]
      have : i = j := by omega
      subst this
      exact ⟨Nat.le_refl _, Nat.le_refl _, hlo, hhi⟩

/-- on a strictly increasing list bisection returns the first index whose id is ≥ the target -/
theorem binSearch_spec (ids : List Nat) (t : Nat) (h : StrictInc ids) :
    binSearch ids t ≤ ids.length ∧ (∀ k, k < binSearch ids t → ids.getD k 0 < t) ∧
    (∀ k, binSearch ids t ≤ k → k < ids.length → t ≤ ids.getD k 0) := by
  have := binSearchAux_spec ids t (fun i j a b => h.mono i j a b) (ids.length + 1) 0 ids.length
    (Nat.zero_le _) (Nat.le_refl _) (by omega) (by intro k hk; omega) (by intro k h1 h2; omega)
  exact ⟨this.2.1, this.2.2.1, this.2.2.2⟩

/-- the index bisection returns is determined by the two properties -/
theorem binSearch_eq (ids : List Nat) (t : Nat) (h : StrictInc ids) (k : Nat) (hk : k ≤ ids.length)
    (hlo : ∀ j, j < k → ids.getD j 0 < t) (hhi : ∀ j, k ≤ j → j < ids.length → t ≤ ids.getD j 0) :
    binSearch ids t = k := by
  obtain ⟨h1, h2, h3⟩ := binSearch_spec ids t h
  rcases Nat.lt_trichotomy (binSearch ids t) k with hlt | he | hgt
  · have := h3 _ (Nat.le_refl _) (by omega)
    have := hlo _ hlt
    omega
  · exact he
  · have := h2 k hgt
    have := hhi k (Nat.le_refl _) (by omega)
    omega

theorem binSearch_found (ids : List Nat) (h : StrictInc ids) (k : Nat) (hk : k < ids.length) :
    binSearch ids (ids.getD k 0) = k :=
  binSearch_eq ids _ h k (Nat.le_of_lt hk) (fun j hj => h j k hj hk) (fun j hj hl => h.mono k j hj hl)

theorem binSearch_zero (ids : List Nat) (h : StrictInc ids) : binSearch ids 0 = 0 :=
  binSearch_eq ids 0 h 0 (Nat.zero_le _) (fun _ hj => absurd hj (Nat.not_lt_zero _)) (fun _ _ _ => Nat.zero_le _)

/-! ### iterator positions -/

def recLens (data : List SView) : List Nat := data.map (·.recs.length)

/-- records at or after stream index `it.1`, minus the gauge index: strictly decreases along `Next` -/
def rankU (data : List SView) (it : Nat × Nat) : Nat := ((recLens data).drop it.1).sum - it.2

theorem sum_drop_le_sum (l : List Nat) (i : Nat) : (l.drop i).sum ≤ l.sum := by
  induction l generalizing i with
  | nil => simp
  | cons x xs ih =>
    cases i with
    | zero => simp
    | succ i => have := ih i; simp only [List.drop_succ_cons, List.sum_cons]; omega

theorem sum_drop_le (l : List Nat) (i j : Nat) (h : i ≤ j) : (l.drop j).sum ≤ (l.drop i).sum := by
  have := sum_drop_le_sum (l.drop i) (j - i)
  rwa [List.drop_drop, Nat.add_sub_cancel' h] at this

theorem rankU_le_total (data : List SView) (it : Nat × Nat) : rankU data it ≤ totalRecs data := by
  unfold rankU totalRecs recLens
  have := sum_drop_le_sum (data.map (·.recs.length)) it.1
  omega

/-- `firstOk` skips the streams that are not acceptable and stops at the first acceptable one, or at the end -/
theorem firstOk_spec (e : Nat) (l : List SView) (off : Nat) :
    ∃ k, firstOk e l off = off + k ∧ k ≤ l.length ∧ (∀ j (h : j < l.length), j < k → sOk e l[j] = false) ∧
      ∀ h : k < l.length, sOk e l[k] = true := by
  induction l generalizing off with
  | nil => exact ⟨0, rfl, Nat.le_refl _, fun _ h => absurd h (Nat.not_lt_zero _), fun h => absurd h (Nat.not_lt_zero _)⟩
  | cons s rest ih =>
    unfold firstOk
    by_cases hs : sOk e s = true
    · rw [if_pos hs]
      exact ⟨0, rfl, Nat.zero_le _, fun _ _ h => absurd h (Nat.not_lt_zero _), fun _ => hs⟩
    · rw [if_neg hs]
      obtain ⟨k, h1, h2, h3, h4⟩ := ih (off + 1)
      refine ⟨k + 1, by rw [h1]; omega, Nat.succ_le_succ h2, fun j hj hjk => ?_, fun h => h4 (Nat.lt_of_succ_lt_succ h)⟩
      cases j with
      | zero => simpa using hs
      | succ j => exact h3 j (Nat.lt_of_succ_lt_succ hj) (Nat.lt_of_succ_lt_succ hjk)

theorem firstOk_ge (e : Nat) (l : List SView) (off : Nat) : off ≤ firstOk e l off := by
  obtain ⟨k, h, _⟩ := firstOk_spec e l off; omega

theorem firstOk_le (e : Nat) (l : List SView) (off : Nat) : firstOk e l off ≤ off + l.length := by
  obtain ⟨k, h, hk, _⟩ := firstOk_spec e l off; omega

theorem validAt_iff (data : List SView) (e si gi : Nat) :
    validAt data e si gi = true ↔ ∃ h : si < data.length, sOk e data[si] = true ∧ gi < data[si].recs.length := by
  unfold validAt
  by_cases h : si < data.length
  · simp [h]
  · simp [h]

theorem rank_next (data : List SView) (e : Nat) (it : Nat × Nat) (h : validAt data e it.1 it.2 = true) :
    rankU data (iterNext data e it) < rankU data it := by
  obtain ⟨hlt, _, hgi⟩ := (validAt_iff data e it.1 it.2).1 h
  have hl : it.1 < (recLens data).length := by simp [recLens, hlt]
  have hs : ((recLens data).drop it.1).sum = (recLens data)[it.1] + ((recLens data).drop (it.1 + 1)).sum := by
    rw [List.drop_eq_getElem_cons hl, List.sum_cons]
  have hget : (recLens data)[it.1] = data[it.1].recs.length := by simp [recLens]
  unfold iterNext
  split
  · unfold rankU; simp only; omega
  · unfold findNextStream rankU
    simp only
    have h1 := firstOk_ge e (data.drop (it.1 + 1)) (it.1 + 1)
    have h2 := sum_drop_le (recLens data) (it.1 + 1) _ h1
    omega

/-- the positions the iterator yields from `it` on -/
def visits (data : List SView) (e : Nat) (it : Nat × Nat) : List (Nat × Nat) :=
  if h : validAt data e it.1 it.2 = true then it :: visits data e (iterNext data e it) else []
termination_by rankU data it
decreasing_by exact rank_next data e it h

theorem visits_valid (data : List SView) (e : Nat) (it : Nat × Nat) (h : validAt data e it.1 it.2 = true) :
    visits data e it = it :: visits data e (iterNext data e it) := by
  rw [visits]; simp [h]

theorem visits_invalid (data : List SView) (e : Nat) (it : Nat × Nat) (h : validAt data e it.1 it.2 = false) :
    visits data e it = [] := by
  rw [visits]; simp [h]

theorem visits_length_le (data : List SView) (e : Nat) (it : Nat × Nat) : (visits data e it).length ≤ rankU data it := by
  induction it using visits.induct data e with
  | case1 it hv ih =>
    rw [visits_valid data e it hv]
    have := rank_next data e it hv
    simp only [List.length_cons]; omega
  | case2 it hv => simp [visits_invalid data e it (by simpa using hv)]

/-! ### `Paginate` against the iterator -/

/-- the positions one call of `paginate` hands to the callback -/
def pagVisits {σ : Type} (data : List SView) (e : Nat) (cb : σ → SView → Rec → σ × Nat) (max : Nat) :
    Nat → (Nat × Nat) → Nat → σ → List (Nat × Nat)
  | 0, _, _, _ => []
  | fuel + 1, it, total, acc =>
    if total < max && validAt data e it.1 it.2 then
      match data[it.1]? with
      | none => []
      | some s =>
        let r := s.recs.getD it.2 default
        it :: pagVisits data e cb max fuel (iterNext data e it) (total + (cb acc s r).2) (cb acc s r).1
    else []

/-- applying the callback to a list of positions -/
def foldCb {σ : Type} (data : List SView) (cb : σ → SView → Rec → σ × Nat) : σ → List (Nat × Nat) → σ
  | acc, [] => acc
  | acc, it :: rest =>
    match data[it.1]? with
    | some s => foldCb data cb (cb acc s (s.recs.getD it.2 default)).1 rest
    | none => foldCb data cb acc rest

/-- One call of `paginate`, run with enough fuel: it visits a prefix of what the iterator still has to yield and stops
    on a position from which the rest follows; its state is the callback folded over the visits; it stops because the
    iterator is exhausted or the budget is used up; and it counts at most `B` per visit when the callback does. -/
theorem paginate_spec {σ : Type} (data : List SView) (e : Nat) (cb : σ → SView → Rec → σ × Nat) (max : Nat) :
    ∀ fuel it total acc, rankU data it < fuel →
      visits data e it = pagVisits data e cb max fuel it total acc ++
        visits data e (paginate data e cb max fuel it total acc).1 ∧
      (paginate data e cb max fuel it total acc).2.2 = foldCb data cb acc (pagVisits data e cb max fuel it total acc) ∧
      (validAt data e (paginate data e cb max fuel it total acc).1.1 (paginate data e cb max fuel it total acc).1.2 = false
        ∨ max ≤ (paginate data e cb max fuel it total acc).2.1) ∧
      ∀ B, (∀ acc s r, (cb acc s r).2 ≤ B) → (paginate data e cb max fuel it total acc).2.1 ≤
        total + B * (pagVisits data e cb max fuel it total acc).length := by
  intro fuel
  induction fuel with
  | zero => intro it total acc h; omega
  | succ n ih =>
    intro it total acc hr
    unfold paginate pagVisits
    by_cases hc : (decide (total < max) && validAt data e it.1 it.2) = true
    · have hv : validAt data e it.1 it.2 = true := by simp at hc; exact hc.2
      obtain ⟨hlt, _, _⟩ := (validAt_iff data e it.1 it.2).1 hv
      have := rank_next data e it hv
      simp only [hc, if_true, List.getElem?_eq_getElem hlt]
      obtain ⟨i1, i2, i3, i4⟩ := ih (iterNext data e it) (total + (cb acc data[it.1] (data[it.1].recs.getD it.2 default)).2)
        (cb acc data[it.1] (data[it.1].recs.getD it.2 default)).1 (by omega)
      refine ⟨by rw [visits_valid data e it hv, i1]; rfl, ?_, i3, fun B hB => ?_⟩
      · simp only [foldCb, List.getElem?_eq_getElem hlt]; exact i2
      · have := i4 B hB
        have := hB acc data[it.1] (data[it.1].recs.getD it.2 default)
        simp only [List.length_cons, Nat.mul_add, Nat.mul_one]
        omega
    · simp only [hc]
      refine ⟨rfl, rfl, ?_, fun B _ => by simp⟩
      simp only [Bool.and_eq_true, decide_eq_true_eq, not_and, Bool.not_eq_true] at hc
      by_cases ht : total < max
      · exact .inl (hc ht)
      · exact .inr (by simp; omega)

theorem rank_newIter_lt (data : List SView) (e : Nat) (p : Pointer) : rankU data (newIter data e p) < totalRecs data + 1 :=
  Nat.lt_succ_of_le (rankU_le_total data _)


/-! ### the saved pointer resumes exactly where the call stopped (sorted data) -/

/-- what `validateGauges`, the id counter and id-ordered iteration are meant to guarantee -/
structure SortedData (data : List SView) : Prop where
  ids : StrictInc (data.map (·.id))
  recs : ∀ s ∈ data, StrictInc (s.recs.map (·.gauge))
  bound : ∀ k, k < data.length → (data.map (·.id)).getD k 0 < maxU64

/-- the pointer `IterateEpochPointer` saves for an iterator position -/
def ptrOf (data : List SView) (e : Nat) (it : Nat × Nat) : Pointer :=
  if validAt data e it.1 it.2 then
    match data[it.1]? with
    | some s => ⟨s.id, (s.recs.getD it.2 default).gauge⟩
    | none => Pointer.last
  else Pointer.last

theorem newIter_ptrOf_valid (data : List SView) (e : Nat) (hs : SortedData data) (it : Nat × Nat)
    (hv : validAt data e it.1 it.2 = true) : newIter data e (ptrOf data e it) = it := by
  obtain ⟨hlt, _, hgi⟩ := (validAt_iff data e it.1 it.2).1 hv
  have hmem : data[it.1] ∈ data := List.getElem_mem hlt
  unfold ptrOf
  simp only [hv, if_true, List.getElem?_eq_getElem hlt]
  unfold newIter
  have h1 : (data.map (·.id)).getD it.1 0 = data[it.1].id := by
    simp [List.getD_eq_getElem?_getD, hlt]
  have hb1 : binSearch (data.map (·.id)) data[it.1].id = it.1 := by
    rw [← h1]; exact binSearch_found _ hs.ids it.1 (by simpa using hlt)
  simp only [hb1, List.getElem?_eq_getElem hlt]
  have h2 : (data[it.1].recs.map (·.gauge)).getD it.2 0 = (data[it.1].recs.getD it.2 default).gauge := by
    simp [List.getD_eq_getElem?_getD, hgi]
  have hb2 : binSearch (data[it.1].recs.map (·.gauge)) (data[it.1].recs.getD it.2 default).gauge = it.2 := by
    rw [← h2]; exact binSearch_found _ (hs.recs _ hmem) it.2 (by simpa using hgi)
  simp only [hb2, hv, if_true]

theorem newIter_last (data : List SView) (e : Nat) (hs : SortedData data) :
    validAt data e (newIter data e Pointer.last).1 (newIter data e Pointer.last).2 = false := by
  unfold newIter Pointer.last
  -- every id is below `maxU64`: the search lands past the end
  have hb : binSearch (data.map (·.id)) maxU64 = (data.map (·.id)).length :=
    binSearch_eq _ maxU64 hs.ids _ (Nat.le_refl _) (fun k hk => hs.bound k (by simpa using hk)) (fun _ h1 h2 => by omega)
  simp only [hb, List.length_map]
  have : data[data.length]? = none := by simp
  simp only [this]
  unfold validAt
  simp

/-- resuming from the saved pointer yields exactly the positions the iterator still had to yield -/
theorem resume (data : List SView) (e : Nat) (hs : SortedData data) (it : Nat × Nat) :
    visits data e (newIter data e (ptrOf data e it)) = visits data e it := by
  by_cases hv : validAt data e it.1 it.2 = true
  · rw [newIter_ptrOf_valid data e hs it hv]
  · have hv' : validAt data e it.1 it.2 = false := by simpa using hv
    rw [visits_invalid data e it hv']
    have : ptrOf data e it = Pointer.last := by unfold ptrOf; simp [hv']
    rw [this]
    exact visits_invalid data e _ (newIter_last data e hs)

/-- positions still to be visited in this epoch when the stored pointer is `p` -/
def remaining (data : List SView) (e : Nat) (p : Pointer) : List (Nat × Nat) := visits data e (newIter data e p)

/-- positions one `IterateEpochPointer` call hands to the callback -/
def iterVisits {σ : Type} (data : List SView) (e : Nat) (p : Pointer) (max : Nat)
    (cb : σ → SView → Rec → σ × Nat) (acc : σ) : List (Nat × Nat) :=
  pagVisits data e cb max (totalRecs data + 1) (newIter data e p) 0 acc

theorem iterate_ptr {σ : Type} (data : List SView) (e : Nat) (p : Pointer) (max : Nat)
    (cb : σ → SView → Rec → σ × Nat) (acc : σ) :
    (iterateEpochPointer data e p max cb acc).1 =
      ptrOf data e (paginate data e cb max (totalRecs data + 1) (newIter data e p) 0 acc).1 := by
  unfold iterateEpochPointer ptrOf
  rfl

theorem iterate_acc {σ : Type} (data : List SView) (e : Nat) (p : Pointer) (max : Nat)
    (cb : σ → SView → Rec → σ × Nat) (acc : σ) :
    (iterateEpochPointer data e p max cb acc).2.2 = foldCb data cb acc (iterVisits data e p max cb acc) := by
  unfold iterateEpochPointer iterVisits
  exact (paginate_spec data e cb max _ _ 0 acc (rank_newIter_lt data e p)).2.1

/-- **one block**: what was still to do = what this call did ++ what is still to do afterwards -/
theorem iterate_resume {σ : Type} (data : List SView) (e : Nat) (hs : SortedData data) (p : Pointer) (max : Nat)
    (cb : σ → SView → Rec → σ × Nat) (acc : σ) :
    remaining data e p = iterVisits data e p max cb acc ++
      remaining data e (iterateEpochPointer data e p max cb acc).1 := by
  unfold remaining
  rw [iterate_ptr, resume data e hs]
  exact (paginate_spec data e cb max _ _ 0 acc (rank_newIter_lt data e p)).1


/-! ### several blocks, then the unlimited call at the epoch end -/

/-- one block's call: its budget, its callback and the callback's initial state (fresh caches) -/
structure Round (σ : Type) where
  max : Nat
  cb : σ → SView → Rec → σ × Nat
  acc : σ

/-- a sequence of blocks threading the stored pointer; returns the final pointer and all visits -/
def pagedRun {σ : Type} (data : List SView) (e : Nat) : Pointer → List (Round σ) → Pointer × List (Nat × Nat)
  | p, [] => (p, [])
  | p, r :: rs =>
    let p' := (iterateEpochPointer data e p r.max r.cb r.acc).1
    ((pagedRun data e p' rs).1, iterVisits data e p r.max r.cb r.acc ++ (pagedRun data e p' rs).2)

theorem paged_concat {σ : Type} (data : List SView) (e : Nat) (hs : SortedData data) (rs : List (Round σ)) :
    ∀ p, remaining data e p = (pagedRun data e p rs).2 ++ remaining data e (pagedRun data e p rs).1 := by
  induction rs with
  | nil => intro p; simp [pagedRun]
  | cons r rs ih =>
    intro p
    simp only [pagedRun, List.append_assoc]
    rw [← ih]
    exact iterate_resume data e hs p r.max r.cb r.acc

/-- a call whose budget exceeds every possible total (the epoch-end call with `IterationsNoLimit`)
    visits everything that was left and leaves the pointer at the end -/
theorem iterate_unlimited {σ : Type} (data : List SView) (e : Nat) (hs : SortedData data) (p : Pointer) (max B : Nat)
    (cb : σ → SView → Rec → σ × Nat) (acc : σ) (hB : ∀ acc s r, (cb acc s r).2 ≤ B) (hM : B * totalRecs data < max) :
    iterVisits data e p max cb acc = remaining data e p ∧
    remaining data e (iterateEpochPointer data e p max cb acc).1 = [] := by
  obtain ⟨hpre, _, hstop, htot⟩ := paginate_spec data e cb max _ _ 0 acc (rank_newIter_lt data e p)
  have hlen : (pagVisits data e cb max (totalRecs data + 1) (newIter data e p) 0 acc).length ≤ totalRecs data := by
    have h1 := visits_length_le data e (newIter data e p)
    have := rankU_le_total data (newIter data e p)
    rw [hpre, List.length_append] at h1
    omega
  have hmul := Nat.mul_le_mul_left B hlen
  have hnil := visits_invalid data e _ (hstop.resolve_right (by have := htot B hB; omega))
  constructor
  · unfold iterVisits remaining
    rw [hpre, hnil, List.append_nil]
  · unfold remaining
    rw [iterate_ptr, resume data e hs, hnil]

/-- a call with a budget of at least one operation makes progress while something is left -/
theorem iterate_progress {σ : Type} (data : List SView) (e : Nat) (p : Pointer) (max : Nat)
    (cb : σ → SView → Rec → σ × Nat) (acc : σ) (hmax : 1 ≤ max) (hne : remaining data e p ≠ []) :
    iterVisits data e p max cb acc ≠ [] := by
  unfold iterVisits pagVisits
  have hv : validAt data e (newIter data e p).1 (newIter data e p).2 = true := by
    by_cases h : validAt data e (newIter data e p).1 (newIter data e p).2 = true
    · exact h
    · exact absurd (visits_invalid data e _ (by simpa using h)) hne
  obtain ⟨hlt, _, _⟩ := (validAt_iff data e _ _).1 hv
  have h0 : (decide (0 < max) && validAt data e (newIter data e p).1 (newIter data e p).2) = true := by
    simp [hv]; omega
  simp only [h0, if_true, List.getElem?_eq_getElem hlt]
  simp


/-! ### exactly once: the visits are the valid positions, in strictly increasing order -/

/-- lexicographic order on (stream index, gauge index) -/
def posLt (a b : Nat × Nat) : Prop := a.1 < b.1 ∨ (a.1 = b.1 ∧ a.2 < b.2)
def posLe (a b : Nat × Nat) : Prop := a = b ∨ posLt a b

theorem posLt_trans {a b c : Nat × Nat} (h1 : posLt a b) (h2 : posLt b c) : posLt a c := by
  unfold posLt at *; omega

theorem posLt_posLe_trans {a b c : Nat × Nat} (h1 : posLt a b) (h2 : posLe b c) : posLt a c := by
  rcases h2 with rfl | h2
  · exact h1
  · exact posLt_trans h1 h2

/-- `findNextStream`: the next acceptable stream after `si`, and nothing acceptable in between -/
theorem findNext_prop (data : List SView) (e si : Nat) :
    si + 1 ≤ (findNextStream data e si).1 ∧ (findNextStream data e si).2 = 0 ∧
    (∀ j, si < j → j < (findNextStream data e si).1 → ∀ h : j < data.length, sOk e data[j] = false) ∧
    (∀ h : (findNextStream data e si).1 < data.length, sOk e data[(findNextStream data e si).1] = true) := by
  obtain ⟨k, h1, _, h3, h4⟩ := firstOk_spec e (data.drop (si + 1)) (si + 1)
  unfold findNextStream
  simp only [h1]
  refine ⟨by omega, trivial, fun j hj1 hj2 hjl => ?_, fun h => ?_⟩
  · have := h3 (j - (si + 1)) (by rw [List.length_drop]; omega) (by omega)
    rw [List.getElem_drop] at this
    simpa [show si + 1 + (j - (si + 1)) = j by omega] using this
  · have := h4 (by rw [List.length_drop]; omega)
    rwa [List.getElem_drop] at this
theorem sOk_nonempty {e : Nat} {s : SView} (h : sOk e s = true) : 0 < s.recs.length := by
  unfold sOk at h
  simp only [Bool.and_eq_true, Bool.not_eq_true', beq_iff_eq] at h
  cases hr : s.recs with
  | nil => simp [hr] at h
  | cons a b => simp

/-- the stream `findNextStream` lands on is acceptable and not beyond any valid position after `si` -/
theorem findNext_least (data : List SView) (e si : Nat) (p : Nat × Nat) (hp : validAt data e p.1 p.2 = true)
    (h : si < p.1) :
    validAt data e (findNextStream data e si).1 (findNextStream data e si).2 = true ∧
    posLe (findNextStream data e si) p := by
  obtain ⟨hpi, hpok, hpg⟩ := (validAt_iff data e p.1 p.2).1 hp
  obtain ⟨f1, f2, f3, f4⟩ := findNext_prop data e si
  have hle : (findNextStream data e si).1 ≤ p.1 := by
    apply Nat.le_of_not_lt
    intro hc
    rw [f3 p.1 h hc hpi] at hpok
    cases hpok
  have hfl : (findNextStream data e si).1 < data.length := by omega
  refine ⟨by rw [f2]; exact (validAt_iff data e _ 0).2 ⟨hfl, f4 hfl, sOk_nonempty (f4 hfl)⟩, ?_⟩
  unfold posLe posLt
  rw [f2]
  by_cases h5 : (findNextStream data e si).1 = p.1
  · by_cases h6 : p.2 = 0
    · left; exact Prod.ext h5 (by rw [f2, h6])
    · right; right; exact ⟨h5, by omega⟩
  · right; left; omega

/-- a stream that is not acceptable, or is left behind by `Next`, holds no valid position at or after the gauge index -/
theorem valid_other_stream (data : List SView) (e : Nat) {si gi : Nat} {p : Nat × Nat}
    (hn : validAt data e si gi = false) (hp : validAt data e p.1 p.2 = true) (hle : si ≤ p.1) (hg : si = p.1 → gi ≤ p.2) :
    si < p.1 := by
  rcases Nat.lt_or_ge si p.1 with h | h
  · exact h
  · have he : si = p.1 := by omega
    obtain ⟨hpi, hpok, hpg⟩ := (validAt_iff data e p.1 p.2).1 hp
    have := hg he
    subst he
    rw [(validAt_iff data e p.1 gi).2 ⟨hpi, hpok, by omega⟩] at hn
    cases hn

theorem next_gt (data : List SView) (e : Nat) (it : Nat × Nat) (hv : validAt data e it.1 it.2 = true) :
    posLt it (iterNext data e it) := by
  unfold iterNext
  split
  · unfold posLt; simp
  · have := (findNext_prop data e it.1).1
    unfold posLt; left; omega

theorem next_least (data : List SView) (e : Nat) (it p : Nat × Nat) (hp : validAt data e p.1 p.2 = true) (hlt : posLt it p) :
    posLe (iterNext data e it) p ∧ validAt data e (iterNext data e it).1 (iterNext data e it).2 = true := by
  unfold iterNext
  by_cases hn : validAt data e it.1 (it.2 + 1) = true
  · rw [if_pos hn]
    refine ⟨?_, hn⟩
    unfold posLe posLt at *
    simp only
    rcases hlt with h | ⟨h1, h2⟩
    · right; left; exact h
    · by_cases h3 : it.2 + 1 = p.2
      · left; exact Prod.ext h1 h3
      · right; right; exact ⟨h1, by omega⟩
  · rw [if_neg hn]
    have hp1 : it.1 < p.1 := by
      -- `p` is above `it`: in a later stream, or in the same stream at a later record
      rcases hlt with h | ⟨h1, h2⟩
      · exact h
      · exact valid_other_stream data e (by simpa using hn) hp (Nat.le_of_eq h1) (fun _ => h2)
    exact (findNext_least data e it.1 p hp hp1).symm

theorem visits_sound (data : List SView) (e : Nat) (it : Nat × Nat) :
    ∀ x ∈ visits data e it, validAt data e x.1 x.2 = true ∧ posLe it x := by
  induction it using visits.induct data e with
  | case1 it hv ih =>
    intro x hx
    rw [visits_valid data e it hv] at hx
    rcases List.mem_cons.1 hx with rfl | h1
    · exact ⟨hv, .inl rfl⟩
    · exact ⟨(ih x h1).1, .inr (posLt_posLe_trans (next_gt data e it hv) (ih x h1).2)⟩
  | case2 it hv =>
    intro x hx
    simp [visits_invalid data e it (by simpa using hv)] at hx

theorem visits_pairwise (data : List SView) (e : Nat) (it : Nat × Nat) : (visits data e it).Pairwise posLt := by
  induction it using visits.induct data e with
  | case1 it hv ih =>
    rw [visits_valid data e it hv]
    exact .cons (fun x hx => posLt_posLe_trans (next_gt data e it hv) (visits_sound data e _ x hx).2) ih
  | case2 it hv => simp [visits_invalid data e it (by simpa using hv)]

theorem visits_complete (data : List SView) (e : Nat) (it p : Nat × Nat) (hv : validAt data e it.1 it.2 = true)
    (hp : validAt data e p.1 p.2 = true) (hle : posLe it p) : p ∈ visits data e it := by
  induction it using visits.induct data e with
  | case1 it _ ih =>
    rw [visits_valid data e it hv]
    rcases hle with rfl | h1
    · exact List.mem_cons_self
    · obtain ⟨b, c⟩ := next_least data e it p hp h1
      exact List.mem_cons_of_mem _ (ih c b)
  | case2 it h => exact absurd hv h

/-- the iterator started from the first pointer begins at the least valid position -/
theorem newIter_first (data : List SView) (e : Nat) (hs : SortedData data) (p : Nat × Nat)
    (hp : validAt data e p.1 p.2 = true) :
    validAt data e (newIter data e Pointer.first).1 (newIter data e Pointer.first).2 = true ∧
    posLe (newIter data e Pointer.first) p := by
  have h0 : 0 < data.length := by have := ((validAt_iff data e p.1 p.2).1 hp).1; omega
  unfold newIter Pointer.first
  simp only [binSearch_zero _ hs.ids, List.getElem?_eq_getElem h0, binSearch_zero _ (hs.recs _ (List.getElem_mem h0))]
  by_cases hv : validAt data e 0 0 = true
  · rw [if_pos hv]
    refine ⟨hv, ?_⟩
    unfold posLe posLt
    by_cases h1 : p.1 = 0
    · by_cases h2 : p.2 = 0
      · left; exact Prod.ext h1.symm h2.symm
      · right; right; simp only; omega
    · right; left; simp only; omega
  · rw [if_neg hv]
    exact findNext_least data e 0 p hp (valid_other_stream data e (by simpa using hv) hp (Nat.zero_le _) fun _ => Nat.zero_le _)

/-- **exactly once**: over an epoch (pointer reset to the first gauge) the positions to visit are exactly
    the valid (stream, gauge) positions, each once (`visits_pairwise`: in increasing order) -/
theorem remaining_first_exact (data : List SView) (e : Nat) (hs : SortedData data) :
    (remaining data e Pointer.first).Nodup ∧
    ∀ p : Nat × Nat, p ∈ remaining data e Pointer.first ↔ validAt data e p.1 p.2 = true := by
  refine ⟨(visits_pairwise data e _).imp fun hab heq => ?_, fun p => ⟨fun h => (visits_sound data e _ p h).1, fun hp => ?_⟩⟩
  · subst heq
    unfold posLt at hab
    omega
  · obtain ⟨a, b⟩ := newIter_first data e hs p hp
    exact visits_complete data e _ p a hp b

theorem strictInc_of_pairwise (l : List Nat) (h : l.Pairwise (· < ·)) : StrictInc l := by
  induction l with
  | nil => intro i j _ hj; simp at hj
  | cons x xs ih =>
    obtain ⟨h1, h2⟩ := List.pairwise_cons.1 h
    intro i j hij hj
    cases j with
    | zero => omega
    | succ j =>
      cases i with
      | zero =>
        simp only [List.getD_cons_zero, List.getD_cons_succ]
        have hj' : j < xs.length := by simpa using hj
        have : xs.getD j 0 = xs[j] := by simp [List.getD_eq_getElem?_getD, hj']
        rw [this]
        exact h1 _ (List.getElem_mem hj')
      | succ i =>
        simp only [List.getD_cons_succ]
        exact ih h2 i j (by omega) (by simpa using hj)


end DymVerif.Incent
