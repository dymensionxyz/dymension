/-
  Lemmas/LCCovered — the side condition of `agreement_inv` (`SafeRun`: at a designation every descriptor M-LC
  holds lies inside a state info of M-Core) as an invariant of M-LC.

  `CovAll s`: every descriptor of the table lies inside a state info of its rollapp.  It is kept by every M-LC
  op PROVIDED the Core transition underneath satisfies `StepCov`: a height covered by the state infos of a
  rollapp before the step is covered after it, or the rollapp is among the forks the step performed
  (`newForks`) and the height lies above the fork's last valid height (those descriptors are deleted by
  `rollbackClient`).  The descriptors an accepted update adds are covered because `finishUpdate` compares
  them with the state info just stored.
-/
import DymVerif.Lemmas.LCGood
namespace DymVerif.LC
open DymVerif.Core (Addr NextP)

/-- height `h` of rollapp `ra` lies inside a state info -/
def Cov (c : Core.St) (ra h : Nat) : Prop :=
  ∃ r st, Core.getRa c ra = some r ∧ st ∈ r.states ∧ st.start ≤ h ∧ h ≤ st.last

/-- every descriptor of the table lies inside a state info of its rollapp -/
def CovAll (s : St) : Prop := ∀ d ∈ s.descs, Cov s.core d.ra d.h

theorem CovAll.descsCovered {s : St} (h : CovAll s) (ra : Nat) : DescsCovered s ra := by
  intro hh d hg
  obtain ⟨hm, e1, e2⟩ := getDesc_mem hg
  rw [← e1, ← e2]
  exact h d hm

theorem CovAll.of_eq {s s' : St} (h : CovAll s) (e1 : s'.descs = s.descs) (e2 : s'.core = s.core) : CovAll s' := by
  intro d hd
  rw [e1] at hd
  rw [e2]
  exact h d hd

/-- the Core transition `c → c1` loses covered heights only above the forks it performed -/
def StepCov (c c1 : Core.St) : Prop :=
  ∀ ra h, Cov c ra h → Cov c1 ra h ∨ ∃ lv, (ra, lv) ∈ newForks c c1 ∧ lv < h

theorem rollback_descs (s : St) (ra lv : Nat) (h : (rollback s ra lv).2 = none) :
    (rollback s ra lv).1.descs = s.descs.filter (fun d => !(d.ra == ra && lv < d.h)) := by
  rcases rollback_cases s ra lv with ⟨_, e⟩ | ⟨_, _, _, _, _, _, e⟩ <;> rw [e] at h ⊢
  · cases h
  · rfl

theorem applyForks_descs : ∀ (l : List (Nat × Nat)) (s : St), (applyForks s l).2 = none →
    ∀ d ∈ (applyForks s l).1.descs, d ∈ s.descs ∧ ∀ ra lv, (ra, lv) ∈ l → ¬ (d.ra = ra ∧ lv < d.h)
  | [], s, _, d, hd => ⟨hd, fun _ _ hm => by simp at hm⟩
  | (ra, lv) :: rest, s, h, d, hd => by
    unfold applyForks at h hd
    cases hr : rollback s ra lv with
    | mk s1 oe =>
      rw [hr] at h hd
      cases oe with
      | some e => simp at h
      | none =>
        simp only at h hd
        obtain ⟨m1, m2⟩ := applyForks_descs rest s1 h d hd
        have e1 := rollback_descs s ra lv (by rw [hr])
        rw [hr] at e1
        simp only at e1
        rw [e1, List.mem_filter] at m1
        refine ⟨m1.1, ?_⟩
        intro ra' lv' hm
        rcases List.mem_cons.1 hm with hm | hm
        · injection hm with a b; subst a; subst b
          have := m1.2
          simp only [Bool.not_eq_true', Bool.and_eq_false_imp, beq_iff_eq, decide_eq_false_iff_not] at this
          intro hc
          exact this hc.1 hc.2
        · exact m2 ra' lv' hm

theorem withDescs_mem {s1 s2 : St} {o : Core.Op} {ds : List (Nat × Option Nat)} (h : withDescs s1 o ds = some s2) :
    ∀ d ∈ s2.descs, d ∈ s1.descs ∨ ∃ m, o = .update m ∧ d.ra = m.ra ∧ m.start ≤ d.h ∧ d.h < m.start + ds.length := by
  intro d hd
  rcases withDescs_cases h with ⟨_, rfl⟩ | ⟨m, hm, _, rfl⟩
  · exact Or.inl hd
  · rcases List.mem_append.1 hd with hd | hd
    · exact Or.inl hd
    · exact Or.inr ⟨m, hm, mem_zipIdx_desc hd⟩

theorem coreOp_covAll {s : St} (h : CovAll s) (o : Core.Op) (ds : List (Nat × Option Nat))
    (hstepcov : StepCov s.core (Core.step s.core o).1) : CovAll (coreOp s o ds).1 := by
  rcases coreOp_cases s o ds with ⟨e, _⟩ | ⟨core1, s2, s3, hst, hfin⟩
  · rw [e]; exact h
  · rw [hst.step] at hstepcov
    have hc3 := hst.frame.1
    have hw := hst.descs
    have hd3 := applyForks_descs (newForks s.core core1) s2 (by rw [hst.forks])
    rw [hst.forks] at hd3
    -- the descriptors that were in the table before the op stay covered
    have old : ∀ d ∈ s3.descs, d ∈ s.descs → Cov core1 d.ra d.h := by
      intro d hd hds
      rcases hstepcov d.ra d.h (h d hds) with hc | ⟨lv, hm, hlt⟩
      · exact hc
      · exact absurd ⟨rfl, hlt⟩ ((hd3 d hd).2 d.ra lv hm)
    rcases hfin with ⟨m, r, st, s4, rfl, hg, hl, hs1, hs2, ha, e⟩ | ⟨hno, e⟩ <;> rw [e]
    · -- the new ones lie in the state info just stored
      have hfr := frame_afterUpdate s3 m.ra m.rev st
      rw [ha] at hfr
      intro d hd
      rw [hfr.descs] at hd
      rw [hfr.core, hc3]
      rcases withDescs_mem hw d (hd3 d hd).1 with hin | ⟨m', hm', a1, a2, a3⟩
      · exact old d hd hin
      · injection hm' with hm'; subst hm'
        rw [hc3] at hg
        rw [a1]
        exact ⟨r, st, hg, List.mem_of_getLast? hl, by omega, by omega⟩
    · intro d hd
      rw [hc3]
      rcases withDescs_mem hw d (hd3 d hd).1 with hin | ⟨m', hm', _⟩
      · exact old d hd hin
      · exact absurd hm' (hno m')

end DymVerif.LC
