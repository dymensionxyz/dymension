/-
  Lemmas/Keys2 — decimal text (Model/Keys2): fixed-width digits `decN` (order, injectivity), digit count and
  padding, `ParseUint` back and forth, canonical decimals; `sdk.FormatTimeBytes` (`fmtTime`: fixed-width
  shape, order = order of the field tuples); buy-order ids.
-/
import DymVerif.Model.Keys2
import DymVerif.Lemmas.Keys
namespace DymVerif.Keys
open DymVerif

/-! ### fixed-width decimal digits -/

theorem decN_length (k n : Nat) : (decN k n).length = k := by
  induction k generalizing n with
  | zero => rfl
  | succ k ih => simp [decN, ih]

theorem pow10_pos (k : Nat) : 0 < 10 ^ k := Nat.pow_pos (by decide)

/-- every element of a decimal rendering is an ASCII digit -/
theorem decN_digit (k n : Nat) : ∀ x ∈ decN k n, 48 ≤ x ∧ x ≤ 57 := by
  induction k generalizing n with
  | zero => intro x hx; simp [decN] at hx
  | succ k ih =>
    intro x hx
    simp only [decN, List.mem_cons] at hx
    rcases hx with h | h
    · have := Nat.mod_lt (n / 10 ^ k) (by decide : 0 < 10); omega
    · exact ih _ x h

/-- fixed-width decimal is order preserving: lexicographic byte order = numeric order -/
theorem lexLt_decN (k a b : Nat) (ha : a < 10 ^ k) (hb : b < 10 ^ k) :
    lexLt (decN k a) (decN k b) = decide (a < b) :=
  lexLt_digits 10 48 (by decide) decN (fun _ => rfl) (fun _ _ => rfl) k a b ha hb

theorem decN_inj (k a b : Nat) (ha : a < 10 ^ k) (hb : b < 10 ^ k) (h : decN k a = decN k b) : a = b := by
  have h1 := lexLt_decN k a b ha hb
  have h2 := lexLt_decN k b a hb ha
  rw [h, lexLt_irrefl] at h1
  rw [h, lexLt_irrefl] at h2
  have := of_decide_eq_false h1.symm
  have := of_decide_eq_false h2.symm
  omega

/-! ### digit count and padding -/

/-- what the digit-count loop computes: the decade of `n` (one digit below 10) -/
theorem numDigitsAux_spec (f n : Nat) (h : n ≤ f) :
    ∃ k, numDigitsAux f n = k + 1 ∧ n < 10 ^ (k + 1) ∧ (k = 0 ∨ 10 ^ k ≤ n) := by
  induction f generalizing n with
  | zero => exact ⟨0, rfl, by omega, .inl rfl⟩
  | succ f ih =>
    rw [numDigitsAux]
    split
    · exact ⟨0, rfl, by omega, .inl rfl⟩
    · obtain ⟨k, e, hlt, hge⟩ := ih (n / 10) (by omega)
      refine ⟨k + 1, by rw [e], by rw [Nat.pow_succ]; omega, .inr ?_⟩
      rcases hge with rfl | hge
      · omega
      · rw [Nat.pow_succ]; omega

/-- a number lies in one decade only -/
theorem decade_unique {n j k : Nat} (hj : n < 10 ^ (j + 1)) (hk : k = 0 ∨ 10 ^ k ≤ n) : k ≤ j := by
  rcases hk with rfl | hk
  · omega
  · exact Nat.le_of_lt_succ ((Nat.pow_lt_pow_iff_right (by decide)).1 (Nat.lt_of_le_of_lt hk hj))

theorem numDigits_pos (n : Nat) : 1 ≤ numDigits n := by
  obtain ⟨k, e, _⟩ := numDigitsAux_spec n n (Nat.le_refl n)
  rw [numDigits, e]; omega

theorem lt_pow_numDigits (n : Nat) : n < 10 ^ numDigits n := by
  obtain ⟨k, e, h, _⟩ := numDigitsAux_spec n n (Nat.le_refl n)
  rwa [numDigits, e]

/-- a number below `10 ^ w` has at most `w` digits -/
theorem numDigits_le (n w : Nat) (hw : 1 ≤ w) (h : n < 10 ^ w) : numDigits n ≤ w := by
  obtain ⟨k, e, _, hk⟩ := numDigitsAux_spec n n (Nat.le_refl n)
  obtain ⟨j, rfl⟩ : ∃ j, w = j + 1 := ⟨w - 1, by omega⟩
  rw [numDigits, e]
  exact Nat.succ_le_succ (decade_unique h hk)

/-- the digit count is determined by the decade the number lies in -/
theorem numDigits_of_decade (k n : Nat) (hlo : 10 ^ k ≤ n) (hhi : n < 10 ^ (k + 1)) : numDigits n = k + 1 := by
  obtain ⟨j, e, hj, hj'⟩ := numDigitsAux_spec n n (Nat.le_refl n)
  rw [numDigits, e]
  have := decade_unique hhi hj'
  have := decade_unique hj (.inr hlo)
  omega

/-- in range the padded rendering is the fixed-width one -/
theorem padDec_eq (w n : Nat) (hw : 1 ≤ w) (h : n < 10 ^ w) : padDec w n = decN w n := by
  rw [padDec, Nat.max_eq_left (numDigits_le n w hw h)]

/-! ### parsing decimals back -/

theorem decValAux_append (acc : Nat) (a b : Bytes) (ha : ∀ x ∈ a, 48 ≤ x ∧ x ≤ 57) :
    decValAux acc (a ++ b) = (decValAux acc a).bind (fun v => decValAux v b) := by
  induction a generalizing acc with
  | nil => simp [decValAux]
  | cons x xs ih =>
    have hx := ha x List.mem_cons_self
    simp only [List.cons_append, decValAux, hx, and_self, if_true]
    exact ih _ (fun y hy => ha y (List.mem_cons_of_mem _ hy))

theorem decValAux_decN (k n acc : Nat) (h : n < 10 ^ k) :
    decValAux acc (decN k n) = some (acc * 10 ^ k + n) := by
  induction k generalizing n acc with
  | zero => simp [decN, decValAux] at *; omega
  | succ k ih =>
    have hq : n / 10 ^ k < 10 := div_pow_lt (by decide) h
    have hd : 48 ≤ 48 + n / 10 ^ k % 10 ∧ 48 + n / 10 ^ k % 10 ≤ 57 := by omega
    simp only [decN, decValAux, hd, and_self, if_true]
    rw [ih _ _ (Nat.mod_lt _ (pow10_pos k)), Nat.mod_eq_of_lt hq]
    have e0 : 48 + n / 10 ^ k - 48 = n / 10 ^ k := Nat.add_sub_cancel_left _ _
    have := Nat.div_add_mod n (10 ^ k)
    rw [e0, Nat.pow_succ, Nat.add_mul, Nat.mul_assoc, Nat.mul_comm 10 (10 ^ k), Nat.mul_comm (n / 10 ^ k)]
    congr 1; omega

theorem decStr_length_pos (n : Nat) : 1 ≤ (decStr n).length := by
  rw [decStr, decN_length]; exact numDigits_pos n

/-- `ParseUint(FormatUint(n)) = n` for every uint64 -/
theorem parseU64_decStr (n : Nat) (h : n < 2 ^ 64) : parseU64 (decStr n) = some n := by
  have hne : (decStr n).isEmpty = false := by
    have := decStr_length_pos n
    cases hd : decStr n with
    | nil => rw [hd] at this; exact absurd this (by decide)
    | cons _ _ => rfl
  simp only [parseU64, hne]
  rw [decStr, decValAux_decN _ _ _ (lt_pow_numDigits n)]
  simp [h]

/-- what `ParseUint` accepts: a non-empty digit string whose value fits 64 bits -/
theorem parseU64_some {s : Bytes} {n : Nat} (h : parseU64 s = some n) :
    s ≠ [] ∧ decValAux 0 s = some n ∧ n < 2 ^ 64 := by
  unfold parseU64 at h
  split at h
  · cases h
  · rename_i hne
    split at h
    · rename_i v hv
      split at h
      · rename_i hlt
        cases h
        exact ⟨fun e => hne (e ▸ rfl), hv, hlt⟩
      · cases h
    · cases h

theorem decStr_inj (a b : Nat) (h : decStr a = decStr b) : a = b := by
  have ha := decValAux_decN _ a 0 (lt_pow_numDigits a)
  have hb := decValAux_decN _ b 0 (lt_pow_numDigits b)
  simp only [decStr] at h
  rw [h, hb] at ha
  simpa using ha.symm

/-! ### canonical decimals: a digit string without leading zero is the rendering of its value -/

/-- what the parsing loop accepts is a string of decimal digits, and it is the fixed-width rendering
    of the value it contributes -/
theorem decValAux_digits (s : Bytes) (acc n : Nat) (h : decValAux acc s = some n) :
    ∃ v, v < 10 ^ s.length ∧ n = acc * 10 ^ s.length + v ∧ s = decN s.length v := by
  induction s generalizing acc n with
  | nil =>
    simp only [decValAux, Option.some.injEq] at h
    exact ⟨0, by simp, by simp [h], rfl⟩
  | cons c cs ih =>
    simp only [decValAux] at h
    split at h
    · rename_i hc
      obtain ⟨v', hv', hn, hs⟩ := ih _ _ h
      have hp := pow10_pos cs.length
      have h9 : c - 48 ≤ 9 := by omega
      refine ⟨(c - 48) * 10 ^ cs.length + v', ?_, ?_, ?_⟩
      · simp only [List.length_cons, Nat.pow_succ]
        have := Nat.mul_le_mul_right (10 ^ cs.length) h9
        omega
      · simp only [List.length_cons, Nat.pow_succ]
        rw [hn, Nat.add_mul, Nat.mul_assoc, Nat.mul_comm 10 (10 ^ cs.length)]; omega
      · have e1 : ((c - 48) * 10 ^ cs.length + v') / 10 ^ cs.length = c - 48 := by
          rw [Nat.add_comm, Nat.add_mul_div_right _ _ hp, Nat.div_eq_of_lt hv']; simp
        have e2 : ((c - 48) * 10 ^ cs.length + v') % 10 ^ cs.length = v' := by
          rw [Nat.add_comm, Nat.add_mul_mod_self_right, Nat.mod_eq_of_lt hv']
        simp only [List.length_cons, decN]
        rw [e1, e2, Nat.mod_eq_of_lt (by omega), ← hs]
        congr 1; omega
    · simp at h

/-- a non-empty digit string without a leading '0' is the canonical rendering of the value it parses to -/
theorem digits_canonical (s : Bytes) (n : Nat) (hlead : ∀ c cs, s = c :: cs → c ≠ 48)
    (hne : s ≠ []) (h : decValAux 0 s = some n) : s = decStr n := by
  obtain ⟨v, hv, hn, hs⟩ := decValAux_digits s 0 n h
  have hnv : n = v := by omega
  subst hnv
  cases s with
  | nil => exact absurd rfl hne
  | cons c cs =>
    have hc := hlead c cs rfl
    simp only [List.length_cons] at hs hv
    have hhead : c = 48 + n / 10 ^ cs.length % 10 := by
      have := hs; simp only [decN, List.cons.injEq] at this; exact this.1
    have hp := pow10_pos cs.length
    have hlo : 10 ^ cs.length ≤ n := by
      cases hq : n / 10 ^ cs.length with
      | zero => rw [hq] at hhead; simp at hhead; exact absurd hhead hc
      | succ q =>
        have := (Nat.le_div_iff_mul_le hp).1 (by omega : 1 ≤ n / 10 ^ cs.length)
        omega
    rw [decStr, numDigits_of_decade cs.length n hlo hv]
    exact hs

/-! ### formatted time -/

def TimeF.InRange (t : TimeF) : Prop :=
  t.Y < 10000 ∧ t.M < 100 ∧ t.D < 100 ∧ t.h < 100 ∧ t.m < 100 ∧ t.s < 100 ∧ t.ns < 1000000000

/-- what Go's calendar guarantees for the fields of a `time.Time` (plus the year bound) -/
def TimeF.Calendar (t : TimeF) : Prop :=
  t.Y < 10000 ∧ 1 ≤ t.M ∧ t.M ≤ 12 ∧ 1 ≤ t.D ∧ t.D ≤ 31 ∧ t.h < 24 ∧ t.m < 60 ∧ t.s < 60 ∧
    t.ns < 1000000000

theorem TimeF.Calendar.inRange {t : TimeF} (h : t.Calendar) : t.InRange := by
  unfold TimeF.Calendar at h; unfold TimeF.InRange; omega

/-- in range the formatted time has the fixed-width shape -/
theorem fmtTime_eq (t : TimeF) (h : t.InRange) :
    fmtTime t = decN 4 t.Y ++ ([45] ++ (decN 2 t.M ++ ([45] ++ (decN 2 t.D ++ ([84] ++
      (decN 2 t.h ++ ([58] ++ (decN 2 t.m ++ ([58] ++ (decN 2 t.s ++ ([46] ++ decN 9 t.ns))))))))))) := by
  obtain ⟨h1, h2, h3, h4, h5, h6, h7⟩ := h
  simp only [fmtTime, List.append_assoc]
  rw [padDec_eq 4 t.Y (by decide) h1, padDec_eq 2 t.M (by decide) h2,
    padDec_eq 2 t.D (by decide) h3, padDec_eq 2 t.h (by decide) h4,
    padDec_eq 2 t.m (by decide) h5, padDec_eq 2 t.s (by decide) h6,
    padDec_eq 9 t.ns (by decide) h7]

theorem fmtTime_length (t : TimeF) (h : t.InRange) : (fmtTime t).length = 29 := by
  rw [fmtTime_eq t h]; simp [decN_length]

private theorem beq_decN (k a b : Nat) (ha : a < 10 ^ k) (hb : b < 10 ^ k) :
    (decN k a == decN k b) = decide (a = b) := by
  by_cases h : a = b
  · subst h; simp
  · have : decN k a ≠ decN k b := fun e => h (decN_inj k a b ha hb e)
    simp [h, this]

private theorem step_field (k a b : Nat) (c : Nat) (r s : Bytes) (ha : a < 10 ^ k) (hb : b < 10 ^ k) :
    lexLt (decN k a ++ ([c] ++ r)) (decN k b ++ ([c] ++ s)) =
      (decide (a < b) || (decide (a = b) && lexLt r s)) := by
  rw [lexLt_append_eqlen _ _ _ _ (by simp [decN_length]), lexLt_decN k a b ha hb, beq_decN k a b ha hb,
    lexLt_append_left]

/-- **byte order of formatted times = lexicographic order of the field tuples** -/
theorem lexLt_fmtTime (a b : TimeF) (ha : a.InRange) (hb : b.InRange) :
    lexLt (fmtTime a) (fmtTime b) = lexLt a.fields b.fields := by
  rw [fmtTime_eq a ha, fmtTime_eq b hb]
  obtain ⟨a1, a2, a3, a4, a5, a6, a7⟩ := ha
  obtain ⟨b1, b2, b3, b4, b5, b6, b7⟩ := hb
  rw [step_field 4 _ _ _ _ _ a1 b1,
    step_field 2 _ _ _ _ _ a2 b2,
    step_field 2 _ _ _ _ _ a3 b3,
    step_field 2 _ _ _ _ _ a4 b4,
    step_field 2 _ _ _ _ _ a5 b5,
    step_field 2 _ _ _ _ _ a6 b6,
    lexLt_decN 9 _ _ a7 b7]
  simp only [TimeF.fields, lexLt_cons]
  simp [lexLt]

theorem fmtTime_inj (a b : TimeF) (ha : a.InRange) (hb : b.InRange) (h : fmtTime a = fmtTime b) : a = b := by
  have h1 := lexLt_fmtTime a b ha hb
  have h2 := lexLt_fmtTime b a hb ha
  rw [h, lexLt_irrefl] at h1
  rw [h, lexLt_irrefl] at h2
  have e := lexLt_total_eq _ _ h1.symm h2.symm
  cases a; cases b
  simp only [TimeF.fields, List.cons.injEq, and_true] at e
  obtain ⟨e1, e2, e3, e4, e5, e6, e7⟩ := e
  subst e1 e2 e3 e4 e5 e6 e7; rfl

/-! ### buy-order ids -/

theorem buyOrderIdPrefix_length (t : AssetType) : (buyOrderIdPrefix t).length = 2 := by cases t <;> rfl

theorem buyOrderIdPrefix_inj (a b : AssetType) (h : buyOrderIdPrefix a = buyOrderIdPrefix b) : a = b := by
  cases a <;> cases b <;> simp [buyOrderIdPrefix] at h <;> rfl

/-- parsing a well-formed id (type prefix, canonical decimal of a positive uint64) gives back both parts -/
theorem parseBuyOrderId_create (t : AssetType) (n : Nat) (h0 : 0 < n) (h : n < 2 ^ 64) :
    parseBuyOrderId (buyOrderIdPrefix t ++ decStr n) = some (t, n) := by
  have hl := decStr_length_pos n
  have hlen : ¬ (buyOrderIdPrefix t ++ decStr n).length < 3 := by
    simp [buyOrderIdPrefix_length]; omega
  have htake : (buyOrderIdPrefix t ++ decStr n).take 2 = buyOrderIdPrefix t := by
    rw [List.take_left' (buyOrderIdPrefix_length t)]
  have hdrop : (buyOrderIdPrefix t ++ decStr n).drop 2 = decStr n := by
    rw [List.drop_left' (buyOrderIdPrefix_length t)]
  simp only [parseBuyOrderId, hlen, if_false, htake, hdrop, parseU64_decStr n h, h0, if_true]
  cases t <;> simp [buyOrderIdPrefix]

/-- what `parseBuyOrderId` accepts has the shape prefix ++ digits with that value -/
theorem parseBuyOrderId_some (id : Bytes) (t : AssetType) (n : Nat) (h : parseBuyOrderId id = some (t, n)) :
    id = buyOrderIdPrefix t ++ id.drop 2 ∧ parseU64 (id.drop 2) = some n ∧ 0 < n := by
  -- whichever type prefix matched, the rest is the same
  have key : ∀ t', id.take 2 = buyOrderIdPrefix t' →
      (match parseU64 (id.drop 2) with
        | some n => if 0 < n then some (t', n) else none
        | none => none) = some (t, n) →
      id = buyOrderIdPrefix t ++ id.drop 2 ∧ parseU64 (id.drop 2) = some n ∧ 0 < n := by
    intro t' ht hm
    cases hp : parseU64 (id.drop 2) with
    | none => rw [hp] at hm; cases hm
    | some v =>
      rw [hp] at hm
      by_cases hv : 0 < v
      · simp only [hv, if_true, Option.some.injEq, Prod.mk.injEq] at hm
        obtain ⟨rfl, rfl⟩ := hm
        exact ⟨by rw [← ht, List.take_append_drop], rfl, hv⟩
      · simp [hv] at hm
  unfold parseBuyOrderId at h
  split at h
  · cases h
  · by_cases h1 : id.take 2 = buyOrderIdPrefix .name
    · simp only [h1, if_true] at h; exact key _ h1 h
    · by_cases h2 : id.take 2 = buyOrderIdPrefix .alias
      · simp only [h2, if_true] at h; exact key _ h2 h
      · simp [h1, h2] at h

end DymVerif.Keys
