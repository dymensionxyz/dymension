/-
  Lemmas/CoreProposer — what the role writers of x/sequencer write: `setProposer` / `setSuccessor` (one
  field of one rollapp record), `abruptRemoveProposer` and the fork hook `seqOnHardFork`, each as the
  sequence of elementary writes it performs, and one induction rule over those writes.  A property that
  survives the elementary writes survives all four functions.
-/
import DymVerif.Lemmas.CoreOk
namespace DymVerif.Core

theorem setProposer_cases (s : St) (ra : Nat) (a : Option Addr) :
    (getRa s ra = none ∧ setProposer s ra a = s) ∨
    ∃ r, getRa s ra = some r ∧ setProposer s ra a = setRa s { r with proposer := a } := by
  unfold setProposer
  cases hg : getRa s ra with
  | none => exact Or.inl ⟨rfl, rfl⟩
  | some r => exact Or.inr ⟨r, rfl, rfl⟩

theorem setSuccessor_cases (s : St) (ra : Nat) (a : Option Addr) :
    (getRa s ra = none ∧ setSuccessor s ra a = s) ∨
    ∃ r, getRa s ra = some r ∧ setSuccessor s ra a = setRa s { r with successor := a } := by
  unfold setSuccessor
  cases hg : getRa s ra with
  | none => exact Or.inl ⟨rfl, rfl⟩
  | some r => exact Or.inr ⟨r, rfl, rfl⟩

theorem setProposer_seqs (s : St) (ra : Nat) (a : Option Addr) :
    (setProposer s ra a).seqs = s.seqs ∧ (setProposer s ra a).modBal = s.modBal := by
  unfold setProposer; split <;> exact ⟨rfl, rfl⟩

theorem setSuccessor_seqs (s : St) (ra : Nat) (a : Option Addr) :
    (setSuccessor s ra a).seqs = s.seqs ∧ (setSuccessor s ra a).modBal = s.modBal := by
  unfold setSuccessor; split <;> exact ⟨rfl, rfl⟩

theorem removeFromNoticeQueue_seqs (s : St) (q : Seq) :
    (removeFromNoticeQueue s q).seqs = s.seqs ∧ (removeFromNoticeQueue s q).modBal = s.modBal := by
  unfold removeFromNoticeQueue; split <;> exact ⟨rfl, rfl⟩

theorem Fork.optOutAll_getSeq (s : St) (ra : Nat) (a : Addr) :
    getSeq (optOutAll s ra) a = (getSeq s a).map (fun q => if q.rollapp == ra then { q with optedIn := false } else q) := by
  unfold optOutAll
  apply getSeq_mapSeqs
  intro x; split <;> rfl

/-- the elementary writes of `abruptRemoveProposer` and `seqOnHardFork` (the only callers of `setProposer` and
    `setSuccessor`, both with `none`), as closure conditions on a property of states: the record of rollapp `ra`
    written back with the proposer or the successor cleared, a sequencer record written back unbonded, all
    sequencers of `ra` opted out, notice-queue entries dropped -/
structure RoleClosed (P : St → Prop) (ra : Nat) : Prop where
  clearProposer : ∀ {b : St} {r : Rollapp}, getRa b ra = some r → P b → P (setRa b { r with proposer := none })
  clearSuccessor : ∀ {b : St} {r : Rollapp}, getRa b ra = some r → P b → P (setRa b { r with successor := none })
  unbond : ∀ {b : St} {q : Seq}, getSeq b q.addr = some q → P b → P (setSeq b { q with bonded := false })
  optOut : ∀ {b : St}, P b → P (optOutAll b ra)
  nq : ∀ {b : St} (q : Seq), P b → P (removeFromNoticeQueue b q)

namespace RoleClosed
variable {P : St → Prop} {ra : Nat} (hc : RoleClosed P ra)
include hc

theorem setProposer {s : St} (h : P s) : P (setProposer s ra none) := by
  rcases setProposer_cases s ra none with ⟨_, e⟩ | ⟨r, hg, e⟩ <;> rw [e]
  · exact h
  · exact hc.clearProposer hg h

theorem setSuccessor {s : St} (h : P s) : P (setSuccessor s ra none) := by
  rcases setSuccessor_cases s ra none with ⟨_, e⟩ | ⟨r, hg, e⟩ <;> rw [e]
  · exact h
  · exact hc.clearSuccessor hg h

theorem abruptRemoveProposer {s : St} (h : P s) : P (abruptRemoveProposer s ra) := by
  rcases abruptRemoveProposer_cases s ra with e | ⟨r, a, q, _, _, hq, e⟩ <;> rw [e]
  · exact h
  · refine hc.setProposer (hc.unbond ?_ (hc.nq q h))
    have : getSeq (removeFromNoticeQueue s q) q.addr = getSeq s q.addr := by
      unfold removeFromNoticeQueue; split <;> rfl
    rw [this, getSeq_addr hq]; exact hq

theorem seqOnHardFork {s : St} (h : P s) : P (seqOnHardFork s ra) :=
  hc.setSuccessor (hc.abruptRemoveProposer (hc.optOut h))

end RoleClosed

end DymVerif.Core
