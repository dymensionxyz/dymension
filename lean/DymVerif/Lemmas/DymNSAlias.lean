/-
  Lemmas/DymNSAlias — alias <-> RollApp maps stay inverse of each other; the invariant under the alias blocks.
-/
import DymVerif.Lemmas.DymNSInv2
import DymVerif.Lemmas.DymNSStep
namespace DymVerif.DymNS
open AMap

/-- the key list under which an alias is listed: its RollApp -/
def chainKeys (c : Chain) : List Chain := [c]

/-- RollApp ↦ aliases is the image of alias ↦ RollApp, as the reverse indexes are of their record maps -/
theorem aliasOK_images (al : AliasStore) :
    (∀ l c, AMap.get al.aliasTo l = some c ↔ l ∈ al.aliases c) ↔ Idx.Images al.aliasesOf al.aliasTo chainKeys := by
  simp only [Idx.Images, chainKeys, List.mem_singleton, exists_eq_right']
  exact ⟨fun h c l => (h l c).symm, fun h l c => (h c l).symm⟩

/-- `setAliasT` is `Idx.add` where the alias is new -/
theorem aliasOK_setAliasT {al : AliasStore} {c : Chain} {l : AliasId} (h : AliasOK al) (hr : al.isRollapp c = true)
    (hn : AMap.get al.aliasTo l = none) : AliasOK (al.setAliasT c l) := by
  have hi := (aliasOK_images al).mp h.iff
  have hnot : l ∉ Idx.lookup al.aliasesOf c := fun hm => by
    obtain ⟨v, hv, _⟩ := (hi c l).mp hm; rw [hn] at hv; cases hv
  refine ⟨(aliasOK_images _).mpr ?_, fun l' c' => ?_⟩
  · have := (hi.but_of_none hn).addAll c
    rwa [chainKeys, List.foldl_cons, List.foldl_nil, Idx.add_of_not_mem hnot] at this
  · unfold AliasStore.setAliasT
    simp only [AMap.get_set, AliasStore.isRollapp]
    split
    · intro e; injection e with e; subst e; exact hr
    · exact h.roll l' c'

/-- `removeAliasT` is `Idx.remove` where the alias is listed -/
theorem aliasOK_removeAliasT {al : AliasStore} {c : Chain} {l : AliasId} (h : AliasOK al)
    (hg : AMap.get al.aliasTo l = some c) : AliasOK (al.removeAliasT c l) := by
  have hi := (aliasOK_images al).mp h.iff
  refine ⟨(aliasOK_images _).mpr ?_, fun l' c' => ?_⟩
  · have := (hi.removeAll hg).del
    rwa [chainKeys, List.foldl_cons, List.foldl_nil, Idx.remove_of_mem ((h.iff l c).mp hg)] at this
  · have : (al.removeAliasT c l).aliasTo = AMap.del al.aliasTo l := rfl
    rw [this, AMap.get_del]
    split
    · intro e; cases e
    · exact h.roll l' c'

theorem aliasOK_moved {al : AliasStore} {src dst : Chain} {l : AliasId} (h : AliasOK al)
    (hg : AMap.get al.aliasTo l = some src) (hd : al.isRollapp dst = true) :
    AliasOK ((al.removeAliasT src l).setAliasT dst l) :=
  aliasOK_setAliasT (aliasOK_removeAliasT h hg) hd (by simp [AliasStore.removeAliasT])

theorem aliasOK_addRollapp {al : AliasStore} (c : Chain) (r : Rollapp) (h : AliasOK al) :
    AliasOK { al with rollapps := AMap.set al.rollapps c r } := by
  refine ⟨h.iff, fun l c' hg => ?_⟩
  have := h.roll l c' hg
  simp only [AliasStore.isRollapp, AMap.get_set] at this ⊢
  split
  · rfl
  · exact this

theorem alChanged_inv {s : State} {al' : AliasStore} (hI : Inv s) (h : AliasOK al') : Inv { s with al := al' } :=
  { wfN := hI.wfN, wfA := hI.wfA, wfB := hI.wfB, esc := hI.esc, idx := hI.idx, ali := h, so := hI.so, boK := hI.boK }

/-! ### alias sell orders -/

theorem dropAliasSO_inv {s : State} (l : AliasId) (hI : Inv s) {ob : Option Bid} (hb : aliasBid s l = ob) :
    Inv { refundOptT s ob with aliasSO := AMap.del s.aliasSO l } := by
  subst hb
  rw [refundOptT_eq]
  exact { wfN := hI.wfN, wfA := noDup_del _ _ hI.wfA, wfB := hI.wfB, esc := esc_delAliasSO hI l, idx := hI.idx,
          ali := hI.ali, so := hI.so, boK := hI.boK }

/-- the order is removed and its bid paid out to `x` -/
theorem paidAliasSO_inv {s : State} (l : AliasId) (x : Acct) (hI : Inv s) :
    Inv { fromModuleT s x (bidAmt (aliasBid s l)) with aliasSO := AMap.del s.aliasSO l } := by
  refine { wfN := hI.wfN, wfA := noDup_del _ _ hI.wfA, wfB := hI.wfB, esc := ?_,
           idx := hI.idx, ali := hI.ali, so := hI.so, boK := hI.boK }
  exact esc_delAliasSO hI l

theorem bidStateA_inv {s : State} {l : AliasId} {so : SellOrder} (a : Acct) (offer : Nat) (dst : Chain) (hI : Inv s)
    (hso : AMap.get s.aliasSO l = some so) : Inv (bidStateA s so a offer l dst) := by
  rw [bidStateA, takeBidT_eq]
  have hb : aliasBid s l = so.bid := by simp [aliasBid, hso]
  refine { wfN := hI.wfN, wfA := noDup_set _ _ _ hI.wfA, wfB := hI.wfB, esc := ?_, idx := hI.idx, ali := hI.ali,
           so := hI.so, boK := hI.boK }
  have := esc_setAliasSO hI l { so with bid := some ⟨a, offer, dst⟩ }
  rw [hb] at this
  exact this

theorem aliasSoldT_inv {t : State} {l : AliasId} {src : Chain} {r : Rollapp} {so : SellOrder} {b : Bid} (hI : Inv t)
    (hso : AMap.get t.aliasSO l = some so) (hb : so.bid = some b) (hsrc : AMap.get t.al.aliasTo l = some src)
    (hdst : isRollapp t b.dst = true) : Inv (aliasSoldT t l src r b) := by
  have hI1 := paidAliasSO_inv l r.owner hI
  simp only [aliasBid, hso, hb, Option.bind, bidAmt] at hI1
  exact alChanged_inv hI1 (aliasOK_moved hI.ali hsrc hdst)

end DymVerif.DymNS
