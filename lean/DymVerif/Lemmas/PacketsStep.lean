/-
  Lemmas/PacketsStep — what one operation of M-Packets does to the tables the packet invariants read, said
  once and without hypotheses: `Tr op s s'` lists the kinds of write (nothing; a transfer sent; a packet
  delivered and refused / released / recorded; a finalization; a fulfilment; a fee update; the epoch and
  hard-fork deletions), and `step_tr : Tr op s (step s op).1`.  Receive and acknowledgement / timeout are
  the same writes for a packet identity `u` (received?, channel, sequence): core IBC uses up the redelivery
  guard of `u` (`consume`), which it does only while `u` is `Deliverable`, and `Inv04.consume` says what
  that gives.  Each invariant is then preserved by a `Tr`, with one case per kind of write
  (`inv_tr`, `inv05_tr`, `idx_tr`; the order/packet link and persistence in PacketsLinkX, PacketsPersist).
-/
import DymVerif.Lemmas.PacketsOrders
import DymVerif.Lemmas.PacketsIndex
namespace DymVerif.C04
open DymVerif DymVerif.Keys DymVerif.Packets

/-- the operation is an accepted finalization of the packet stored under key `k` -/
def FinalizesKey (s : St) (op : Op) (k : Bytes) : Prop :=
  (step s op).2 = .ok ∧
  ((∃ a rid ph t src seq, op = .finalize a rid ph t src seq ∧ rollappPacketKey .pending rid ph t src seq = k) ∨
   (∃ a b, op = .finalizeByKey a b ∧ decodePacketKeyExact b = some k))

/-- the operation is a hard fork of rollapp `rid` whose range of pending keys contains `k` -/
def ForksKey (op : Op) (k : Bytes) : Prop := ∃ rid lv, op = .fork rid lv ∧ forkRange rid lv k = true

end DymVerif.C04
namespace DymVerif.Packets
open DymVerif DymVerif.Keys

/-- nothing the invariants read has changed; LP records may have gone, or come in within their limit -/
structure Quiet (s s' : St) : Prop where
  i : IFrame s s'
  orders : s'.orders = s.orders
  bf : s'.bridgingFee = s.bridgingFee
  receipts : s'.receipts = s.receipts
  commits : s'.commits = s.commits
  nextSeq : s'.nextSeq = s.nextSeq
  log : s'.log = s.log
  lps : ∀ l ∈ s'.lps, l ∈ s.lps ∨ l.spent ≤ l.spendLimit

theorem Quiet.refl (s : St) : Quiet s s := ⟨IFrame.refl s, rfl, rfl, rfl, rfl, rfl, rfl, fun _ h => Or.inl h⟩

theorem Quiet.inv04 {s s' : St} (q : Quiet s s') (h : Inv04 s) : Inv04 s' := by
  unfold Inv04 at *
  rw [q.i.packets, q.receipts, q.commits, q.nextSeq, q.log]; exact h

theorem Quiet.inv05 {s s' : St} (q : Quiet s s') (h : Inv05 s) : Inv05 s' := by
  unfold Inv05 at *
  rw [q.orders, q.i.packets, q.bf]
  exact ⟨h.link, h.okeys, h.price, fun l hl => (q.lps l hl).elim (h.lps l) id⟩

/-- core IBC's redelivery guard of the packet identity `u` is used up: the receipt is written (received
    packet) / the commitment deleted (acknowledgement, timeout) -/
def consume (s : St) (u : UID) : St :=
  if u.1 then { s with receipts := s.receipts ++ [u.2] } else { s with commits := s.commits.filter (· != u.2) }

/-- … which core IBC does only when the receipt is not there yet / the commitment still is -/
def Deliverable (s : St) (u : UID) : Prop := if u.1 then u.2 ∉ s.receipts else u.2 ∈ s.commits

theorem dframe_consume (s : St) (u : UID) : IFrame s (consume s u) ∧ OFrame s (consume s u) ∧
    (consume s u).log = s.log ∧ (consume s u).lps = s.lps := by
  unfold consume; split <;> exact ⟨⟨rfl, rfl, rfl, rfl⟩, ⟨rfl, rfl, rfl, rfl⟩, rfl, rfl⟩

/-- a deliverable identity is neither released nor pending; using its guard up keeps the invariant and
    puts the identity under the guard -/
theorem Inv04.consume {s : St} {u : UID} (h : Inv04 s) (hd : Deliverable s u) :
    Inv04 (consume s u) ∧ ¬ loggedL (consume s u).log u ∧ ¬ pendL (consume s u).packets u ∧
      Guarded (consume s u).receipts (consume s u).commits (consume s u).nextSeq u := by
  rcases u with ⟨_ | _, c, q⟩
  · have hd : (c, q) ∈ s.commits := hd
    exact ⟨InvF.delCommit h _, fun hl => (InvF.snt h _ _ (Or.inl hl)).1 hd, fun hp => (InvF.snt h _ _ (Or.inr hp)).1 hd,
      fun hm => by simp [Packets.consume] at hm, InvF.bound h _ _ hd⟩
  · have hd : (c, q) ∉ s.receipts := hd
    exact ⟨InvF.addReceipt h _, fun hl => hd (InvF.rcv h _ _ (Or.inl hl)), fun hp => hd (InvF.rcv h _ _ (Or.inr hp)),
      by simp [Packets.consume, Guarded]⟩

/-- What the operation `op` does to the tables the invariants read, by kind of write.
    `quiet`: a rejected message, a redelivery, and the messages that touch none of these tables (LP records,
    grants, x/rollapp's state infos, channel state, block height).
    `send`: ibc-go `sendTransfer` — a commitment at the channel's next sequence; after another write when
    packet-forward-middleware sends on what it has just received.
    `consumed`, `release`, `record`: core IBC `RecvPacket` / `AcknowledgePacket` / `TimeoutPacket` use up
    the guard of `u`, then delayedack's middleware (x/delayedack/ibc_middleware.go) answers with an error
    acknowledgement; or passes the packet to the transfer stack (not a rollapp channel, or the height is
    final), whose release is logged; or stores it pending (`savePacket`) with the demand order eibc's
    `EIBCDemandOrderHandler` creates unless the packet is a forward or the fee rounds to nothing.
    `finalize`: `FinalizeRollappPacket`; `fulfil`: the three fulfilment messages of x/eibc; `reprice`:
    `MsgUpdateDemandOrder`; `epoch`, `fork`: the deletions of delayedack's epoch and hard-fork hooks.
    `op` is a parameter because three premises speak of it: a recorded packet is well formed when the
    operation carries uint64 height and sequence, and the two exceptions of `C04.pending_persists`. -/
inductive Tr (op : Op) (s : St) : St → Prop
  | quiet {s'} : Quiet s s' → Tr op s s'
  | send {s1} (c : Nat) (b ac k snt) : Tr op s s1 →
      Tr op s { s1 with bal := b, accts := ac, acks := k, sent := snt, commits := s1.commits ++ [(c, getNextSeq s1 c)],
                        nextSeq := (c, getNextSeq s1 c + 1) :: s1.nextSeq.filter (·.1 != c) }
  | consumed {s'} (u : UID) : Deliverable s u → Quiet (consume s u) s' → Tr op s s'
  | release (u : UID) (e : LogE) (b ac k) : Deliverable s u → EOk e → e.uid = u →
      Tr op s { consume s u with bal := b, accts := ac, acks := k, log := (consume s u).log ++ [e] }
  | record {s'} (u : UID) (p : Packet) : Deliverable s u → p.status = .pending → p.uid = u → p.orig = none →
      (BoundedOp op → PktOk s p) →
      (s' = setPacket (addByAddr (consume s u) p.target (pkey p)) p ∨
       ∃ sx price fee, p.fwd = none ∧ PriceOk s.bridgingFee (newOrder sx p price fee p.target) ∧
         s' = setOrder (setPacket (addByAddr (consume s u) p.target (pkey p)) p) (newOrder sx p price fee p.target)) →
      Tr op s s'
  | finalize {s'} (k : Bytes) : C04.FinalizesKey s op k → finalizePacket s k = .ok s' → Tr op s s'
  | fulfil {s'} (id : Bytes) (o : Order) (f : Addr) (c : Option Addr) : FulfilsBy id o f c s s' → Tr op s s'
  | reprice (id : Bytes) (o : Order) (p : Packet) (price fee : Int) : getOutstanding s id = .ok o →
      getPacket s o.trackingKey = some p →
      PriceOk s.bridgingFee { o with fee := fee, price := price, amount := p.amount, withBf := p.ptype == .onRecv } →
      Tr op s (setOrder s { o with fee := fee, price := price, amount := p.amount, withBf := p.ptype == .onRecv })
  | epoch : Tr op s (epochCleanup s)
  | fork (r : Rollapp) (rid : Bytes) (lv : Nat) : op = .fork rid lv → Tr op s (onHardFork (setRa s r) rid lv)

-- ------------------------------------------------------------------ `step` is a `Tr`

theorem priceOk_onRecv {s : St} {p : Packet} {m : Memo} {fee price : Int} (hr : p.ptype = .onRecv) (hfee : memoFee m = .ok fee)
    (hprice : calcPrice p.amount fee s.bridgingFee = .ok price) (sx : St) : PriceOk s.bridgingFee (newOrder sx p price fee p.target) := by
  obtain ⟨h1, h2⟩ := calcPrice_ok hprice
  refine ⟨h2, memoFee_nonneg hfee, ?_⟩
  show price + fee + (if (p.ptype == PType.onRecv) = true then _ else 0) = p.amount
  simp only [hr, beq_self_eq_true, if_true]
  exact h1

theorem priceOk_refund {s : St} {p : Packet} (hr : (p.ptype == .onRecv) = false) (hf : 0 < refundFee s p)
    (hpz : 0 < p.amount - refundFee s p) (bf : Dec) (sx : St) :
    PriceOk bf (newOrder sx p (p.amount - refundFee s p) (refundFee s p) p.target) := by
  refine ⟨hpz, Int.le_of_lt hf, ?_⟩
  show p.amount - refundFee s p + refundFee s p + (if (p.ptype == PType.onRecv) = true then _ else 0) = p.amount
  simp only [hr, Bool.false_eq_true, if_false]
  omega

theorem ackOpen_tr {op : Op} {s s' : St} {c seq ph : Nat} {t e : Bool} (hb : BoundedOp op → ph < 2 ^ 64 ∧ seq < 2 ^ 64)
    (ha : ackOpen s c seq ph t e = .ok (some s')) : Tr op s s' := by
  obtain ⟨hmem, x, s0, ra, p, hx, hs0, hra, rfl, hcase⟩ := ackOpen_shape ha
  obtain ⟨rfl, rfl⟩ := getSent_some hx
  have hu := mkSentPacket_uid s0 x t ph (ra.getD []) (!t && e)
  rcases hcase with ⟨hpass, s1, b1, rfl⟩ | ⟨hdel, hd⟩
  · have he := EOk_logEntry_pass (p := mkSentPacket s0 x (sentType t) ph (ra.getD []) (!t && e)) (v := false) b1.dframe hpass
    obtain ⟨b, a, k, rfl⟩ := b1
    subst hs0
    exact .release (false, x.chan, x.seq) _ b a k hmem he hu
  · obtain ⟨rid, rfl⟩ := isSome_of_delayed hdel
    subst hs0
    refine .record (false, x.chan, x.seq) _ hmem rfl hu rfl
      (fun h => pktOk_mkSentPacket t (!t && e) hra (hb h).1 (hb h).2) ?_
    rcases hd with rfl | ⟨hfw, he⟩
    · exact Or.inl rfl
    · rcases eibcOnRefund_ok he with rfl | ⟨hf, hpz, rfl⟩
      · exact Or.inl rfl
      · exact Or.inr ⟨_, _, _, hfw, priceOk_refund (sentType_ne_recv t) hf hpz _ _, rfl⟩

theorem step_tr (s : St) (op : Op) : Tr op s (step s op).1 := by
  have q0 : Tr op s s := .quiet (Quiet.refl s)
  have qi : ∀ {s'}, IFrame s s' → s'.orders = s.orders → s'.bridgingFee = s.bridgingFee → s'.receipts = s.receipts →
      s'.commits = s.commits → s'.nextSeq = s.nextSeq → s'.log = s.log → s'.lps = s.lps → Tr op s s' :=
    fun i h1 h2 h3 h4 h5 h6 h7 => .quiet ⟨i, h1, h2, h3, h4, h5, h6, fun _ h => Or.inl (h7 ▸ h)⟩
  have qr : ∀ {h g l}, Tr op s { s with h := h, grants := g, closed := l } := qi ⟨rfl, rfl, rfl, rfl⟩ rfl rfl rfl rfl rfl rfl rfl
  cases op with
  | recv c seq ph d =>
    have out := recvPacket_out s c seq ph d
    show Tr _ s (recvPacket s c seq ph d).1
    generalize recvPacket s c seq ph d = r at out
    cases out with
    | closed | replay => exact q0
    | fail hd => exact .consumed (true, c, seq) hd ⟨⟨rfl, rfl, rfl, rfl⟩, rfl, rfl, rfl, rfl, rfl, rfl, fun _ h => Or.inl h⟩
    | pass ra tgt b a hd hra htgt hpass =>
      exact .release (true, c, seq) _ b a _ hd (EOk_logEntry_pass (DFrame.refl s) hpass) rfl
    | forwarded ra k b a snt hd hra hpass =>
      have he := EOk_logEntry_pass (v := false) (DFrame.refl s) hpass
        (p := mkRecvPacket s c seq ph (ra.getD []) { d with target := some (pfmAddr c), memo := .none } (pfmAddr c))
      exact .send k b a s.acks snt (.release (true, c, seq) _ s.bal s.accts s.acks hd he rfl)
    | delayed rid tgt fee price p o hd hra htgt hfee hprice hp ho =>
      subst hp ho
      have hpr := priceOk_onRecv (s := s) (p := mkRecvPacket s c seq ph rid d tgt) rfl hfee hprice s
      refine .record (true, c, seq) (mkRecvPacket s c seq ph rid d tgt) hd rfl rfl rfl
        (fun h => pktOk_mkRecvPacket d tgt hra h.1 h.2) (Or.inr ⟨s, price, fee, rfl, hpr, ?_⟩)
      -- the row is flat, the constructor speaks of the model's setters: unfolded here, since unifying the two is slow to check
      simp only [setOrder, setPacket, addByAddr, consume, ite_true]
      rfl
  | ack c seq ph isErr => exact ackPacket_elim q0 fun _ e => ackOpen_tr id e
  | timeout c seq ph => exact ackPacket_elim q0 fun _ e => ackOpen_tr id e
  | send a c d amt =>
    refine ofM_elim q0 fun _ e => ?_
    obtain ⟨b, ac, rfl⟩ := sendOpen_shape (sendTransfer_ok e)
    exact .send c b ac _ _ q0
  | sendBlk a c d amt =>
    refine ofM_elim q0 fun _ e => ?_
    obtain ⟨s1, hs, rfl⟩ := sendBlk_ok e
    obtain ⟨b, ac, rfl⟩ := sendOpen_shape hs
    exact .send c b ac _ _ q0
  | finalize a rid ph t src seq =>
    exact ofM_elim q0 fun _ e => .finalize _ ⟨by simp only [step, e, ofM], Or.inl ⟨a, rid, ph, t, src, seq, rfl, rfl⟩⟩ (msgFinalize_ok e)
  | finalizeByKey a b =>
    refine ofM_elim q0 fun _ e => ?_
    obtain ⟨k, hk, hf⟩ := msgFinalizeByKey_ok e
    exact .finalize k ⟨by simp only [step, e, ofM], Or.inr ⟨a, b, rfl, hk⟩⟩ hf
  | fulfill a id fee => exact ofM_elim q0 fun _ e => (msgFulfill_by e).elim fun _ h => .fulfil _ _ _ _ h.2
  | fulfillAuth g m => exact ofM_elim q0 fun _ e => (msgFulfillAuthorized_by e).elim fun _ h => .fulfil _ _ _ _ h.2
  | onDemand a id perm => exact ofM_elim q0 fun _ e => (msgOnDemand_by e).elim fun _ h => h.elim fun _ h => .fulfil _ _ _ _ h.2
  | updateFee a id fee =>
    refine ofM_elim q0 fun _ e => ?_
    obtain ⟨hf, o, p, price, ho, -, hp, hc, rfl⟩ := msgUpdateFee_ok e
    obtain ⟨h1, h2⟩ := calcPrice_ok hc
    refine .reprice id o p price fee ho hp ⟨h2, hf, ?_⟩
    show price + fee + (if (p.ptype == PType.onRecv) = true then _ else 0) = p.amount
    cases hb : (p.ptype == PType.onRecv) with
    | true => simp only [hb, if_true] at h1 ⊢; exact h1
    | false =>
      simp only [hb, Bool.false_eq_true, if_false] at h1 ⊢
      have := zero_mulInt_truncateInt p.amount
      omega
  | createLp l ok =>
    refine ofM_elim q0 fun _ e => ?_
    obtain ⟨rfl, hl, -⟩ := msgCreateLp_ok e
    exact .quiet ⟨⟨rfl, rfl, rfl, rfl⟩, rfl, rfl, rfl, rfl, rfl, rfl, fun x hx =>
      (mem_setLp (s := s) hx).elim (fun e => Or.inr (by rw [e]; exact Int.le_of_lt hl)) Or.inl⟩
  | deleteLps a ids =>
    refine ofM_elim q0 fun _ e => ?_
    have hd := msgDeleteLps_lpDel ids (LpDel.refl s) e
    rw [hd.eq]
    exact .quiet ⟨⟨rfl, rfl, rfl, rfl⟩, rfl, rfl, rfl, rfl, rfl, rfl, fun x hx => Or.inl (hd.sub x hx)⟩
  | grant g =>
    refine ofM_elim q0 fun _ e => ?_
    cases msgGrant_ok e
    exact qr
  | addState rid n =>
    refine ofM_elim q0 fun _ e => ?_
    obtain ⟨r, rfl⟩ := addState_ok e
    exact qi ⟨rfl, rfl, rfl, raIds_setRa s r⟩ rfl rfl rfl rfl rfl rfl rfl
  | finalizeState rid =>
    refine ofM_elim q0 fun _ e => ?_
    obtain ⟨r, rfl⟩ := finalizeState_ok e
    exact qi ⟨rfl, rfl, rfl, raIds_setRa s r⟩ rfl rfl rfl rfl rfl rfl rfl
  | fork rid lv => exact ofM_elim q0 fun _ e => (forkRollapp_ok e).elim fun r e' => e' ▸ .fork r rid lv rfl
  | epoch => exact .epoch
  | block => exact qr
  | chanClose c =>
    refine ofM_elim q0 fun _ e => ?_
    obtain ⟨l, rfl⟩ := setChanClosed_ok e
    exact qr
  | chanOpen c =>
    refine ofM_elim q0 fun _ e => ?_
    obtain ⟨l, rfl⟩ := setChanClosed_ok e
    exact qr
  | timeoutOnClose c seq => exact ofM_elim q0 fun _ e => timeoutOnClose_ok e ▸ q0

-- ------------------------------------------------------------------ the invariants, one case per kind of write

theorem inv_tr {op : Op} {s s' : St} (t : Tr op s s') (h : Inv04 s) : Inv04 s' := by
  induction t with
  | quiet q => exact q.inv04 h
  | send c b ac k snt _ ih => exact InvF.send ih c
  | consumed u hd q => exact q.inv04 (h.consume hd).1
  | release u e b ac k hd he hu =>
    obtain ⟨h0, hnl, hnp, hg⟩ := h.consume hd
    subst hu
    exact InvF.logAppend h0 e he hnl hnp hg
  | record u p hd hs hu ho hP hs' =>
    obtain ⟨h0, hnl, hnp, hg⟩ := h.consume hd
    subst hu
    have h1 : Inv04 (setPacket (addByAddr (consume s p.uid) p.target (pkey p)) p) :=
      Inv04.setPacket_iff.mpr (InvF.store (inv_addByAddr _ _ h0) p fun _ => ⟨hnl, hnp, hg⟩)
    rcases hs' with rfl | ⟨_, _, _, _, _, rfl⟩
    · exact h1
    · exact Inv04.of_frame (frame_setOrder _ _) h1
  | finalize k _ hf => exact inv_finalizePacket h hf
  | fulfil _ _ _ _ hf => exact inv_fulfils h hf
  | reprice id o p price fee ho hp hpr => exact Inv04.of_frame (frame_setOrder s _) h
  | epoch => exact foldl_preserves (fun _ p => inv_deletePacket p) _ h
  | fork r rid lv _ => exact inv_onHardFork _ _ (inv_setRa r h)

/-- every operation preserves the C04 invariant -/
theorem inv_step {s : St} (o : Op) (h : Inv04 s) : Inv04 (step s o).1 := inv_tr (step_tr s o) h

theorem inv_run : ∀ (ops : List Op) {s : St}, Inv04 s → Inv04 (run s ops)
  | [], _, h => h
  | o :: rest, s, h => by
    show Inv04 (run (step s o).1 rest)
    exact inv_run rest (inv_step o h)

theorem inv05_tr {op : Op} {s s' : St} (t : Tr op s s') (h : Inv05 s) : Inv05 s' := by
  induction t with
  | quiet q => exact q.inv05 h
  | send c b ac k snt _ ih => exact ih
  | consumed u hd q => exact q.inv05 (Inv05.of_frame (dframe_consume s u).2.1 h)
  | release u e b ac k hd he hu => exact (Inv05.of_frame (dframe_consume s u).2.1 h : Inv05 (consume s u))
  | record u p hd hs hu ho hP hs' =>
    have f := (dframe_consume s u).2.1
    have h1 := InvO.setPacket (inv05_addByAddr p.target (pkey p) (Inv05.of_frame f h)) p
    rcases hs' with rfl | ⟨sx, price, fee, _, hpr, rfl⟩
    · exact h1
    · exact InvO.setOrder h1 _ ⟨p, mem_setPacket.mpr (Or.inl rfl), rfl, hs, pendKeyOf_of_pending hs⟩ (f.bf ▸ hpr)
  | finalize k _ hf => exact inv05_finalizePacket h hf
  | fulfil _ _ _ _ hf => exact inv05_fulfils h hf
  | reprice id o p price fee ho hp hpr => exact InvO.setOrder h _ (h.link o (outstanding_pending ho).1) hpr
  | epoch => exact foldl_preserves (fun _ p => inv05_deletePacket p) _ h
  | fork r rid lv _ => exact inv05_foldl_revertPacket _ (show Inv05 (setRa s r) from h)

theorem inv05_step {s : St} (o : Op) (h5 : Inv05 s) : Inv05 (step s o).1 := inv05_tr (step_tr s o) h5

theorem inv_step_both {s : St} (o : Op) (h : Inv s) : Inv (step s o).1 := ⟨inv_step o h.1, inv05_step o h.2⟩

theorem inv_run_both : ∀ (ops : List Op) {s : St}, Inv s → Inv (run s ops)
  | [], _, h => h
  | o :: rest, s, h => by
    show Inv (run (step s o).1 rest)
    exact inv_run_both rest (inv_step_both o h)

/-- the packet recorded for a delivered identity is well formed after the guard is used up and lands on a key no
    stored packet has (C19's key injectivity through `IdxInv.fresh`: the identity is not pending) -/
theorem record_fresh {s : St} {u : UID} {p : Packet} (h4 : Inv04 s) (hi : IdxInv s) (hd : Deliverable s u)
    (hs : p.status = .pending) (hu : p.uid = u) (hP : PktOk s p) :
    IdxInv (consume s u) ∧ PktOk (consume s u) p ∧ ∀ q ∈ (consume s u).packets, pkey q ≠ pkey p := by
  have fi := (dframe_consume s u).1
  have i0 := IdxInv.of_frame fi hi
  have hP' := hP.congr fi.chans fi.ids
  exact ⟨i0, hP', i0.fresh hP' hs (hu ▸ (h4.consume hd).2.2.1)⟩

theorem idx_tr {op : Op} {s s' : St} (t : Tr op s s') (hb : BoundedOp op) (h4 : Inv04 s) (h : IdxInv s) : IdxInv s' := by
  induction t with
  | quiet q => exact IdxInv.of_frame q.i h
  | @send s1 c b ac k snt _ ih => exact IdxInv.of_frame (s := s1) ⟨rfl, rfl, rfl, rfl⟩ ih
  | consumed u hd q => exact IdxInv.of_frame ((dframe_consume s u).1.trans q.i) h
  | release u e b ac k hd he hu => exact IdxInv.of_frame ((dframe_consume s u).1.trans ⟨rfl, rfl, rfl, rfl⟩) h
  | record u p hd hs hu ho hP hs' =>
    obtain ⟨h0, hP', fresh⟩ := record_fresh h4 h hd hs hu (hP hb)
    have h1 := h0.record p hs hP' fresh
    rcases hs' with rfl | ⟨_, _, _, _, _, rfl⟩
    · exact h1
    · exact IdxInv.of_frame (IFrame.ofD (frame_setOrder _ _)) h1
  | finalize k _ hf => exact idx_finalizePacket h4 h hf
  | fulfil _ _ _ _ hf => exact idx_fulfils h4 h hf
  | reprice id o p price fee ho hp hpr => exact IdxInv.of_frame (IFrame.ofD (frame_setOrder s _)) h
  | epoch => exact idx_epochCleanup h4 h
  | fork r rid lv _ => exact idx_onHardFork rid lv (inv_setRa r h4) (idx_setRa r h)

theorem idx_step {s : St} (o : Op) (hp : BoundedOp o) (h4 : Inv04 s) (h : IdxInv s) : IdxInv (step s o).1 :=
  idx_tr (step_tr s o) hp h4 h

theorem idx_run : ∀ (ops : List Op) {s : St}, (∀ o ∈ ops, BoundedOp o) → Inv04 s → IdxInv s → IdxInv (run s ops)
  | [], _, _, _, h => h
  | o :: rest, s, hp, h4, h => by
    show IdxInv (run (step s o).1 rest)
    exact idx_run rest (fun o' ho' => hp o' (List.mem_cons_of_mem _ ho')) (inv_step o h4)
      (idx_step o (hp o List.mem_cons_self) h4 h)

end DymVerif.Packets
