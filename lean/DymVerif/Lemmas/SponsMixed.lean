/-
  Lemmas/SponsMixed — claims ≤ allotment for MIXED histories within one distribution epoch.

  The invariant: with `R` the gauge's EpochRewards, `S` the endorsement's EpochShares (both fixed until
  the next distribution-epoch end) and `U` the power on the rollapp gauge of the voters who can still
  claim (not blacklisted),

        paid · S + R · U ≤ R · S.

  A claim moves `power · R / S` from the right summand to the left one; a vote blacklists the voter
  (its power leaves `U`), a revocation and a power-DEcreasing staking hook lower `U`, funding, slashes,
  parameter changes, creation ops and ends of other epochs leave both alone.  The only op that breaks
  it is a staking message that leaves a voter who can still claim with MORE recorded power than before
  (`NoRaiseOp` excludes exactly that) — the known finding F7.  Last: the same bound for claim-only
  histories, which needs distinct voters and non-negative powers only (`ClaimCtx`).
-/
import DymVerif.Lemmas.SponsFrame
namespace DymVerif.Spons

/-! ### the power that can still claim, voter by voter -/

theorem VoteOK.gp_nonneg {v : Vote} (h : VoteOK v) (g : Nat) : 0 ≤ v.gaugePower g := by
  show 0 ≤ gaugePowerW v.vp v.weights g
  rw [gaugePowerW_eq_wpow h.nodup g]; exact h.pow_nonneg g

theorem contrib_nonneg {bl : List Nat} {gid a : Nat} {ov : Option Vote} (h : ∀ v, ov = some v → VoteOK v) :
    0 ≤ contrib bl gid a ov := by
  cases ov with
  | none => exact Int.le_refl 0
  | some v =>
    simp only [contrib]
    split
    · exact Int.le_refl 0
    · exact (h v rfl).gp_nonneg gid

theorem usum_aerase_le {bl : List Nat} {gid a : Nat} {l : List (Nat × Vote)} (hk : KeysNodup l)
    (hv : ∀ x ∈ l, VoteOK x.2) : usum bl gid (aerase a l) ≤ usum bl gid l := by
  rw [usum_split (a := a) hk]
  exact Int.le_add_of_nonneg_left (contrib_nonneg (fun v h => hv (a, v) (alookup_mem h)))

/-! ### monotonicity of the gauge power in the voting power -/

theorem gpow_mono {vp vp' w : Int} (h0 : 0 ≤ vp) (h : vp ≤ vp') (hw : 0 ≤ w) : gpow vp w ≤ gpow vp' w := by
  unfold gpow
  have h1 : 0 ≤ vp * w := Int.mul_nonneg h0 hw
  have h2 : vp * w ≤ vp' * w := Int.mul_le_mul_of_nonneg_right h hw
  rw [Int.tdiv_eq_ediv_of_nonneg h1, Int.tdiv_eq_ediv_of_nonneg (Int.le_trans h1 h2)]
  exact Int.ediv_le_ediv maxW_pos h2

theorem gaugePowerW_mono {vp vp' : Int} {ws : List GP} (h0 : 0 ≤ vp) (h : vp ≤ vp') (hw : ∀ w ∈ ws, 0 < w.2)
    (g : Nat) : gaugePowerW vp ws g ≤ gaugePowerW vp' ws g := by
  induction ws with
  | nil => exact Int.le_refl 0
  | cons w ws ih =>
    simp only [gaugePowerW]
    split
    · exact gpow_mono h0 h (Int.le_of_lt (hw w (by simp)))
    · exact ih (fun x hx => hw x (by simp [hx]))

/-! ### what the ops do to votes and blacklist -/

theorem vote_aerase {s s' : State} {a : Nat} {ws : List GP} (h : s.vote a ws = .ok s') :
    aerase a s'.votes = aerase a s.votes := by
  obtain ⟨_, _, ⟨_, hc⟩ | ⟨v, _, hc⟩⟩ := vote_ok h <;> obtain ⟨_, rfl⟩ := castVote_ok hc
  · exact aerase_aset_self ..
  · exact (aerase_aset_self ..).trans (aerase_idem a s.votes)

/-- a hook of `a` touches `a`'s vote only: it is pruned, or keeps its weights -/
theorem processHook_votes (s : State) (a val : Nat) (v : Vote) (o n : Int) :
    aerase a (s.processHook a val v o n).votes = aerase a s.votes ∧
      ∀ v', alookup a (s.processHook a val v o n).votes = some v' → v'.weights = v.weights := by
  rcases processHook_eq s a val v o n with ⟨_, e⟩ | ⟨_, e⟩ <;> rw [e]
  · exact ⟨aerase_idem a s.votes, fun v' hv' => by rw [revokeVote_votes, alookup_aerase_self] at hv'; cases hv'⟩
  · refine ⟨aerase_aset_self .., fun v' hv' => ?_⟩
    change alookup a (aset a _ s.votes) = some v' at hv'
    rw [alookup_aset_self] at hv'; cases hv'; rfl

/-- hooks of `a` touch `a`'s vote only, never create one and never change its weights -/
theorem hooks_facts {s s' : State} {a : Nat} {hs : List (Nat × Option Int)} (h : s.hooks a hs = .ok s') :
    aerase a s'.votes = aerase a s.votes ∧
      ∀ v', alookup a s'.votes = some v' → ∃ v, alookup a s.votes = some v ∧ v'.weights = v.weights :=
  hooks_rel (R := fun s s' => aerase a s'.votes = aerase a s.votes ∧
      ∀ v', alookup a s'.votes = some v' → ∃ v, alookup a s.votes = some v ∧ v'.weights = v.weights)
    (fun _ => ⟨rfl, fun v' hv' => ⟨v', hv', rfl⟩⟩)
    (fun h1 h2 => ⟨h2.1.trans h1.1, fun v' hv' =>
      have ⟨v2, hv2, hw2⟩ := h2.2 v' hv'
      have ⟨v1, hv1, hw1⟩ := h1.2 v2 hv2
      ⟨v1, hv1, hw2.trans hw1⟩⟩)
    (fun s val v o n hv => ⟨(processHook_votes s a val v o n).1,
      fun v' hv' => ⟨v, hv, (processHook_votes s a val v o n).2 v' hv'⟩⟩) h

/-! ### the exclusion -/

/-- a staking message of a voter who can still claim in this epoch (not blacklisted) does not leave
    the voter with MORE recorded power than before — the exact exclusion of the known finding F7 -/
def NoRaiseOp (s : State) : Op → Prop
  | .staking a hs fin =>
    a ∈ s.blacklist ∨
      ∀ v v', s.vote? a = some v → (step s (.staking a hs fin)).1.vote? a = some v' → v'.vp ≤ v.vp
  | _ => True

def NoRaiseRun : State → List Op → Prop
  | _, [] => True
  | s, op :: ops => NoRaiseOp s op ∧ NoRaiseRun (step s op).1 ops

/-- power on gauge `rg` of the voters who can still claim -/
def U (s : State) (rg : Nat) : Int := usum s.blacklist rg s.votes

/-- every op other than a claim, a distribution-epoch end and an excluded staking message leaves the
    power that can still claim where it was or lowers it -/
theorem U_step_le {s : State} {op : Op} (wf : WF s) (rg : Nat)
    (hc : isClaim op = false) (he : isEpochEnd op = false) (hn : NoRaiseOp s op) :
    U (step s op).1 rg ≤ U s rg := by
  have wf' : WF (step s op).1 := step_wf wf
  revert wf' hn
  refine step_cases (P := fun s' => NoRaiseOp s op → WF s' → U s' rg ≤ U s rg) s op (fun _ _ => Int.le_refl _) ?_
  cases op with
  | vote a ws =>
    intro s1 h _ wf'
    have hbl := vote_blacklist h
    unfold U
    rw [usum_split (a := a) wf'.keys, contrib_of_mem _ hbl.1, vote_aerase h]
    have h2 : usum s1.blacklist rg (aerase a s.votes) = usum s.blacklist rg (aerase a s.votes) := by
      rcases hbl.2 with e | e <;> rw [e]
      exact usum_cons_bl_aerase
    rw [h2]
    have := usum_aerase_le (bl := s.blacklist) (gid := rg) (a := a) wf.keys wf.votes
    omega
  | revoke a =>
    intro v _ _ _
    unfold U
    rw [revokeVote_votes, revokeVote_blacklist]
    exact usum_aerase_le wf.keys wf.votes
  | claim a g => cases hc
  | staking a hs fin =>
    intro s2 h2 hn' wf'
    -- only `a`'s contribution changes, and it does not grow
    obtain ⟨hae, hw⟩ := hooks_facts h2
    show usum s2.blacklist rg s2.votes ≤ usum s.blacklist rg s.votes
    have hk2 : KeysNodup s2.votes := wf'.keys
    rw [usum_split (a := a) hk2, usum_split (a := a) wf.keys, hae, hooks_blacklist h2]
    have hcon : contrib s.blacklist rg a (alookup a s2.votes) ≤ contrib s.blacklist rg a (alookup a s.votes) := by
      cases h2v : alookup a s2.votes with
      | none => exact contrib_nonneg (fun v hv => wf.votes (a, v) (alookup_mem hv))
      | some v' =>
        obtain ⟨v, hv, hweq⟩ := hw v' h2v
        rw [hv]
        by_cases hm : a ∈ s.blacklist
        · rw [contrib_of_mem _ hm, contrib_of_mem _ hm]; exact Int.le_refl 0
        · have hcf : s.blacklist.contains a = false := by simpa using hm
          simp only [contrib, hcf]
          rcases hn' with hin | hle
          · exact absurd hin hm
          · have hle' : v'.vp ≤ v.vp := hle v v' hv (by
              show alookup a (step s (.staking a hs fin)).1.votes = some v'
              rw [step, State.staking, h2]; exact h2v)
            show gaugePowerW v'.vp v'.weights rg ≤ gaugePowerW v.vp v.weights rg
            rw [hweq]
            exact gaugePowerW_mono (wf'.votes (a, v') (alookup_mem h2v)).vp hle'
              (wf.votes (a, v) (alookup_mem hv)).pos rg
    omega
  | slash fin => exact fun _ _ => Int.le_refl _
  | epochEnd d =>
    cases d
    · exact fun _ _ => Int.le_refl _
    · cases he
  | fund g amt => intro s1 h _ _; obtain ⟨_, _, rfl⟩ := fund_ok h; exact Int.le_refl _
  | addGauge g => intro s1 h _ _; obtain ⟨⟨_, rfl⟩, _⟩ := addGauge_ok h; exact Int.le_refl _
  | addRollapp r => intro s1 h _ _; obtain ⟨_, rfl⟩ := addRollapp_ok h; exact Int.le_refl _
  | setParams ma mv => intro s1 h _ _; obtain ⟨rfl, _⟩ := setParams_ok h; exact Int.le_refl _

/-! ### the context of one distribution epoch -/

/-- endorsement gauge `eg` pays rollapp `r`'s endorsers `R` per epoch; `r`'s endorsement names rollapp
    gauge `rg` and holds the snapshot `S` -/
structure EpochCtx (s : State) (eg r rg : Nat) (R S : Int) : Prop where
  gauge : GaugeIs s eg r R
  endo : EndoIs s r rg S
  wf : WF s
  inv : DistInv s

/-- creation ops append: what a lookup found before it finds afterwards -/
theorem step_add_found {s : State} {op : Op} (ha : isAdd op = true) :
    (∀ gid g, s.gauge? gid = some g → (step s op).1.gauge? gid = some g) ∧
    (∀ r e, s.endorsement? r = some e → (step s op).1.endorsement? r = some e) := by
  have happ : ∀ {α : Type} (p : α → Bool) (l : List α) (x y : α), l.find? p = some x → (l ++ [y]).find? p = some x :=
    fun p l x y h => by rw [List.find?_append, h]; rfl
  refine step_cases (P := fun s' => (∀ gid g, s.gauge? gid = some g → s'.gauge? gid = some g) ∧
    (∀ r e, s.endorsement? r = some e → s'.endorsement? r = some e)) s op ⟨fun _ _ h => h, fun _ _ h => h⟩ ?_
  cases op with
  | addGauge g1 =>
    intro s1 h; obtain ⟨⟨_, rfl⟩, _⟩ := addGauge_ok h
    exact ⟨fun _ _ h => happ _ _ _ _ h, fun _ _ h => h⟩
  | addRollapp r1 =>
    intro s1 h; obtain ⟨_, rfl⟩ := addRollapp_ok h
    exact ⟨fun _ _ h => happ _ _ _ _ h, fun _ _ h => happ _ _ _ _ h⟩
  | _ => cases ha

theorem step_ctx {s : State} {op : Op} {eg r rg : Nat} {R S : Int} (ctx : EpochCtx s eg r rg R S)
    (he : isEpochEnd op = false) : EpochCtx (step s op).1 eg r rg R S := by
  have g := step_good (op := op) ctx.wf ctx.inv
  by_cases ha : isAdd op = true
  · obtain ⟨g0, hg0, hk, hr⟩ := ctx.gauge
    obtain ⟨e0, he0, hg, hs⟩ := ctx.endo
    exact ⟨⟨g0, (step_add_found ha).1 _ _ hg0, hk, hr⟩, ⟨e0, (step_add_found ha).2 _ _ he0, hg, hs⟩, g.1, g.2⟩
  · have hf := step_frame (s := s) (by simpa using ha) he
    exact ⟨GaugeIs_of_frame hf ctx.gauge, EndoIs_of_frame hf ctx.endo, g.1, g.2⟩

/-! ### the bound -/

theorem runPaid_nonclaim {s : State} {op : Op} (gid : Nat) (ops : List Op) (hc : isClaim op = false) :
    runPaid s gid (op :: ops) = runPaid (step s op).1 gid ops := by
  cases op with
  | claim a g => cases hc
  | _ => exact Int.zero_add _

/-- **the bound for mixed histories**: within one distribution epoch, whatever else happens, what
    gauge `eg` pays times the snapshot stays below the allotment times the power that could still claim
    at the start -/
theorem claims_bound_mixed {eg r rg : Nat} {R S : Int} (hR : 0 ≤ R) (hS : 0 < S) (ops : List Op)
    (hne : ∀ op ∈ ops, isEpochEnd op = false) (s : State) (ctx : EpochCtx s eg r rg R S)
    (hnr : NoRaiseRun s ops) : runPaid s eg ops * S ≤ R * U s rg := by
  induction ops generalizing s with
  | nil =>
    show 0 * S ≤ _
    rw [Int.zero_mul]
    exact Int.mul_nonneg hR (usum_nonneg (fun x hx => (ctx.wf.votes x hx).gp_nonneg rg))
  | cons op ops ih =>
    have heop : isEpochEnd op = false := hne op (by simp)
    have ctx' := step_ctx (op := op) ctx heop
    have ih' := ih (fun o ho => hne o (by simp [ho])) _ ctx' hnr.2
    by_cases hc : isClaim op = true
    · cases op with
      | claim a g' =>
        have : (if g' = eg then (step s (.claim a g')).2.2 else 0) * S + R * U (step s (.claim a g')).1 rg ≤ R * U s rg :=
          claim_step_bound hR hS ctx.gauge ctx.endo ctx.wf.keys (fun x hx => (ctx.wf.votes x hx).gp_nonneg rg) a g'
        have e : runPaid s eg (Op.claim a g' :: ops)
            = (if g' = eg then (step s (.claim a g')).2.2 else 0) + runPaid (step s (.claim a g')).1 eg ops := rfl
        rw [e, Int.add_mul]
        omega
      | _ => cases hc
    · have hc' : isClaim op = false := by simpa using hc
      rw [runPaid_nonclaim eg ops hc']
      have hu := U_step_le ctx.wf rg hc' heop hnr.1
      have := Int.mul_le_mul_of_nonneg_left hu hR
      omega

/-! ### claim-only histories -/

/-- the context of the payment bound: gauge `gid` pays rollapp `r`'s endorsers `R` per epoch against
    the snapshot `e.epoch`; voters have distinct keys and non-negative powers on the rollapp gauge -/
structure ClaimCtx (s : State) (gid r : Nat) (e : Endorsement) (R : Int) : Prop where
  gauge : GaugeIs s gid r R
  endo : s.endorsement? r = some e
  keys : KeysNodup s.votes
  pows : ∀ x ∈ s.votes, 0 ≤ x.2.gaugePower e.gaugeId

theorem claims_bound {gid r : Nat} {e : Endorsement} {R : Int} (hR : 0 ≤ R) (hS : 0 < e.epoch)
    (ops : List Op) (hall : ∀ op ∈ ops, isClaim op = true) (s : State) (ctx : ClaimCtx s gid r e R) :
    runPaid s gid ops * e.epoch ≤ R * usum s.blacklist e.gaugeId s.votes := by
  induction ops generalizing s with
  | nil =>
    show 0 * e.epoch ≤ _
    rw [Int.zero_mul]; exact Int.mul_nonneg hR (usum_nonneg ctx.pows)
  | cons op ops ih =>
    cases op with
    | claim a g' =>
      have hb := claim_step_bound hR hS ctx.gauge ⟨e, ctx.endo, rfl, rfl⟩ ctx.keys ctx.pows a g'
      have ctx1 : ClaimCtx (step s (.claim a g')).1 gid r e R := by
        refine step_cases (P := fun s' => ClaimCtx s' gid r e R) s _ ctx (fun s1 p hc => ?_)
        have f := claim_frame ekey hc
        have he : s1.endorsement? r = some e := by
          rcases claim_eq hc with rfl | ⟨_, _, rfl⟩ <;> exact ctx.endo
        exact ⟨GaugeIs_of_frame f.1 ctx.gauge, he, f.2 ▸ ctx.keys, f.2 ▸ ctx.pows⟩
      have := ih (fun o ho => hall o (List.mem_cons_of_mem _ ho)) _ ctx1
      show ((if g' = gid then (step s (.claim a g')).2.2 else 0) + runPaid (step s (.claim a g')).1 gid ops) * e.epoch ≤ _
      rw [Int.add_mul]; omega
    | _ => exact absurd (hall _ (List.mem_cons_self ..)) (by simp [isClaim])

end DymVerif.Spons
