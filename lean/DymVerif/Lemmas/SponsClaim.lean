/-
  Lemmas/SponsClaim — the claim blacklist (who may claim until the next end of an x/incentives distribution epoch)
  and what one claim pays against the power it takes out of those who can still claim.
-/
import DymVerif.Lemmas.SponsRun
namespace DymVerif.Spons

/-! ### blacklist -/

/-- the end of an x/incentives distribution epoch (ends of other epochs do nothing to sponsorship) -/
def isEpochEnd : Op → Bool
  | .epochEnd true => true
  | _ => false

theorem revokeVote_blacklist (s : State) (a : Nat) (v : Vote) : (s.revokeVote a v).blacklist = s.blacklist := rfl

/-- an accepted vote puts the voter on the blacklist and nobody else -/
theorem castVote_blacklist {s1 s' : State} {a : Nat} {ws : List GP} (hc : s1.castVote a ws = .ok s') :
    a ∈ s'.blacklist ∧ (s'.blacklist = s1.blacklist ∨ s'.blacklist = a :: s1.blacklist) := by
  obtain ⟨_, rfl⟩ := castVote_ok hc
  show a ∈ (if s1.blacklist.contains a = true then s1.blacklist else a :: s1.blacklist) ∧
    ((if s1.blacklist.contains a = true then s1.blacklist else a :: s1.blacklist) = s1.blacklist ∨
     (if s1.blacklist.contains a = true then s1.blacklist else a :: s1.blacklist) = a :: s1.blacklist)
  split
  · rename_i h; exact ⟨by simpa using h, .inl rfl⟩
  · exact ⟨List.mem_cons_self .., .inr rfl⟩

theorem vote_blacklist {s s' : State} {a : Nat} {ws : List GP} (h : s.vote a ws = .ok s') :
    a ∈ s'.blacklist ∧ (s'.blacklist = s.blacklist ∨ s'.blacklist = a :: s.blacklist) := by
  obtain ⟨_, _, ⟨_, hc⟩ | ⟨v, _, hc⟩⟩ := vote_ok h
  · exact castVote_blacklist hc
  · exact castVote_blacklist (s1 := s.revokeVote a v) hc

theorem processHook_blacklist (s : State) (a val : Nat) (v : Vote) (o n : Int) :
    (s.processHook a val v o n).blacklist = s.blacklist := by
  rcases processHook_eq s a val v o n with ⟨_, e⟩ | ⟨_, e⟩ <;> rw [e] <;> rfl

theorem hooks_blacklist {s s' : State} {a : Nat} {hs : List (Nat × Option Int)} (h : s.hooks a hs = .ok s') :
    s'.blacklist = s.blacklist :=
  hooks_rel (R := fun s s' => s'.blacklist = s.blacklist) (fun _ => rfl) (fun h1 h2 => h2.trans h1)
    (fun _ _ _ _ _ _ => processHook_blacklist ..) h

theorem claim_blacklist {s s1 : State} {a gid : Nat} {p : Int} (h : s.claim a gid = .ok (s1, p)) :
    s1.blacklist = a :: s.blacklist := by
  rcases claim_eq h with rfl | ⟨_, _, rfl⟩ <;> rfl

theorem claim_votes {s s1 : State} {a gid : Nat} {p : Int} (h : s.claim a gid = .ok (s1, p)) : s1.votes = s.votes := by
  rcases claim_eq h with rfl | ⟨_, _, rfl⟩ <;> rfl

theorem claim_blocked {s : State} {a : Nat} (h : a ∈ s.blacklist) (gid : Nat) : s.claim a gid = .error .cannotClaim := by
  unfold State.claim
  have : (s.blacklist.contains a || (s.vote? a).isNone) = true := by simp [h]
  rw [if_pos this]

theorem step_blacklist {s : State} {op : Op} {a : Nat} (h : a ∈ s.blacklist) (he : isEpochEnd op = false) :
    a ∈ (step s op).1.blacklist := by
  refine step_cases (P := fun s' => a ∈ s'.blacklist) s op h ?_
  cases op with
  | vote b ws =>
    intro s1 hv
    rcases (vote_blacklist hv).2 with e | e <;> rw [e]
    · exact h
    · exact List.mem_cons_of_mem _ h
  | revoke b => exact fun _ _ => h
  | claim b g => intro s1 p hc; rw [claim_blacklist hc]; exact List.mem_cons_of_mem _ h
  | staking b hs fin => intro s1 h1; show a ∈ s1.blacklist; rw [hooks_blacklist h1]; exact h
  | slash fin => exact h
  | epochEnd d =>
    cases d
    · exact h
    · cases he
  | fund g amt => intro s1 hf; obtain ⟨_, _, rfl⟩ := fund_ok hf; exact h
  | addGauge g => intro s1 hg; obtain ⟨⟨_, rfl⟩, _⟩ := addGauge_ok hg; exact h
  | addRollapp r => intro s1 hr; obtain ⟨_, rfl⟩ := addRollapp_ok hr; exact h
  | setParams ma mv => intro s1 hp; obtain ⟨rfl, _⟩ := setParams_ok hp; exact h

theorem run_blacklist {s : State} {ops : List Op} {a : Nat} (h : a ∈ s.blacklist)
    (he : ∀ op ∈ ops, isEpochEnd op = false) : a ∈ (run s ops).blacklist := by
  induction ops generalizing s with
  | nil => exact h
  | cons op ops ih =>
    exact ih (step_blacklist h (he op (by simp))) (fun o ho => he o (by simp [ho]))

/-! ### payment bound -/

/-- power on gauge `gid` of the voters who are not blacklisted (can still claim in this epoch) -/
def usum (bl : List Nat) (gid : Nat) : List (Nat × Vote) → Int
  | [] => 0
  | x :: xs => (if bl.contains x.1 then 0 else x.2.gaugePower gid) + usum bl gid xs

theorem usum_nonneg {bl : List Nat} {gid : Nat} {l : List (Nat × Vote)}
    (hp : ∀ x ∈ l, 0 ≤ x.2.gaugePower gid) : 0 ≤ usum bl gid l := by
  induction l with
  | nil => exact Int.le_refl 0
  | cons x xs ih =>
    refine Int.add_nonneg ?_ (ih (fun y hy => hp y (List.mem_cons_of_mem _ hy)))
    split
    · exact Int.le_refl 0
    · exact hp x (List.mem_cons_self ..)

theorem usum_cons_bl_notin {bl : List Nat} {gid a : Nat} {l : List (Nat × Vote)} (h : ∀ x ∈ l, x.1 ≠ a) :
    usum (a :: bl) gid l = usum bl gid l := by
  induction l with
  | nil => rfl
  | cons x xs ih =>
    have hx : x.1 ≠ a := h x (by simp)
    simp only [usum, List.contains_cons, ih (fun y hy => h y (by simp [hy]))]
    have : (x.1 == a) = false := by simpa using hx
    simp [this]

/-- what voter `a`'s (optional) vote contributes to `usum` -/
def contrib (bl : List Nat) (gid a : Nat) : Option Vote → Int
  | none => 0
  | some v => if bl.contains a then 0 else v.gaugePower gid

theorem usum_split {bl : List Nat} {gid a : Nat} {l : List (Nat × Vote)} (hk : KeysNodup l) :
    usum bl gid l = contrib bl gid a (alookup a l) + usum bl gid (aerase a l) := by
  induction l with
  | nil => rfl
  | cons x xs ih =>
    by_cases hx : x.1 = a
    · rw [aerase_cons_eq xs hx, aerase_of_notin (fun y hy => hx ▸ hk.1 y hy), alookup_cons_eq xs hx, ← hx]; rfl
    · rw [aerase_cons_ne xs hx, alookup_cons_ne xs hx]
      show _ + usum bl gid xs = _ + (_ + usum bl gid (aerase a xs))
      rw [ih hk.2]; exact Int.add_left_comm ..

theorem contrib_of_mem {bl : List Nat} {gid a : Nat} (ov : Option Vote) (h : a ∈ bl) : contrib bl gid a ov = 0 := by
  cases ov with
  | none => rfl
  | some v =>
    have : bl.contains a = true := by simpa using h
    simp only [contrib, this, if_true]

theorem usum_cons_bl_aerase {bl : List Nat} {gid a : Nat} {l : List (Nat × Vote)} :
    usum (a :: bl) gid (aerase a l) = usum bl gid (aerase a l) :=
  usum_cons_bl_notin (fun _ hx => (mem_aerase.mp hx).2)

/-- blacklisting `a` (not blacklisted before, vote `v`) removes exactly `v`'s power -/
theorem usum_blacklist {bl : List Nat} {gid a : Nat} {l : List (Nat × Vote)} {v : Vote}
    (hk : KeysNodup l) (hv : alookup a l = some v) (hn : a ∉ bl) :
    usum (a :: bl) gid l = usum bl gid l - v.gaugePower gid := by
  rw [usum_split (bl := a :: bl) (a := a) hk, usum_split (bl := bl) (a := a) hk,
    contrib_of_mem _ (List.mem_cons_self ..), usum_cons_bl_aerase, hv]
  have : bl.contains a = false := by simpa using hn
  simp only [contrib, this, Bool.false_eq_true, if_false]; omega

/-- the gauge `gid` is an endorsement gauge of rollapp `r` whose epoch rewards are `R` -/
def GaugeIs (s : State) (gid r : Nat) (R : Int) : Prop :=
  ∃ g, s.gauge? gid = some g ∧ g.kind = .endorsement r ∧ g.epochRewards = some R

/-- the endorsement of `r` names rollapp gauge `rg` and holds the epoch snapshot `S` -/
def EndoIs (s : State) (r rg : Nat) (S : Int) : Prop :=
  ∃ e, s.endorsement? r = some e ∧ e.gaugeId = rg ∧ e.epoch = S

/-- a map that keeps every element's key commutes with the lookup by key -/
theorem find_map_key {α : Type} {key : α → Nat} {f : α → α} (hk : ∀ x, key (f x) = key x) (l : List α) (k : Nat) :
    (l.map f).find? (fun x => key x == k) = (l.find? (fun x => key x == k)).map f := by
  induction l with
  | nil => rfl
  | cons x xs ih =>
    rw [List.map_cons, List.find?_cons, List.find?_cons, hk]
    cases key x == k with
    | true => rfl
    | false => exact ih

theorem find_updGauge (l : List Gauge) (gid : Nat) (g2 : Gauge) :
    (updGauge l g2).find? (·.id == gid) = (l.find? (·.id == gid)).map (fun x => if x.id = g2.id then g2 else x) :=
  find_map_key (key := Gauge.id) (fun x => by split <;> rename_i h; exact h.symm; rfl) l gid

theorem gauge?_id {s : State} {gid : Nat} {g : Gauge} (h : s.gauge? gid = some g) : g.id = gid := by
  have := List.find?_some h; simpa using this

/-- total paid from gauge `gid` along a run -/
def runPaid (s : State) (gid : Nat) : List Op → Int
  | [] => 0
  | op :: ops =>
    (match op with
      | .claim _ g => if g = gid then (step s op).2.2 else 0
      | _ => 0) + runPaid (step s op).1 gid ops

def isClaim : Op → Bool
  | .claim _ _ => true
  | _ => false

/-- a bound `paid · S ≤ R · U` with `U ≤ S` is a bound by `R` -/
theorem le_of_mul_le_cover {p R U S : Int} (h : p * S ≤ R * U) (hR : 0 ≤ R) (hS : 0 < S) (hcov : U ≤ S) : p ≤ R :=
  Int.le_of_mul_le_mul_right (Int.le_trans h (Int.mul_le_mul_of_nonneg_left hcov hR)) hS

theorem tdiv_mul_le {x S : Int} (hx : 0 ≤ x) (hS : 0 < S) : x.tdiv S * S ≤ x := by
  rw [Int.tdiv_eq_ediv_of_nonneg hx]
  exact Int.ediv_mul_le x (Int.ne_of_gt hS)

/-- one claim: what it takes out of gauge `eg`, times the snapshot `S`, is covered by `R` times the
    power `rg` loses among those who can still claim (the claimer is blacklisted) -/
theorem claim_step_bound {s : State} {eg r rg : Nat} {R S : Int} (hR : 0 ≤ R) (hS : 0 < S)
    (hG : GaugeIs s eg r R) (hE : EndoIs s r rg S)
    (hk : KeysNodup s.votes) (hp : ∀ x ∈ s.votes, 0 ≤ x.2.gaugePower rg) (a g' : Nat) :
    (if g' = eg then (step s (.claim a g')).2.2 else 0) * S
      + R * usum (step s (.claim a g')).1.blacklist rg (step s (.claim a g')).1.votes
      ≤ R * usum s.blacklist rg s.votes := by
  simp only [step]
  cases hc : s.claim a g' with
  | error err => show (if g' = eg then 0 else 0) * S + _ ≤ _; rw [ite_self, Int.zero_mul, Int.zero_add]; exact Int.le_refl _
  | ok res =>
    obtain ⟨s1, p⟩ := res
    simp only
    obtain ⟨hnb, g, r', e', v, hg, hkd, he, hv, _, hpay⟩ := claim_ok hc
    have hpv : 0 ≤ v.gaugePower rg := hp _ (alookup_mem hv)
    have hus : usum s1.blacklist rg s1.votes = usum s.blacklist rg s.votes - v.gaugePower rg := by
      rw [claim_blacklist hc, claim_votes hc]; exact usum_blacklist hk hv hnb
    rw [hus, Int.mul_sub]
    have hm := Int.mul_nonneg hR hpv
    split
    · rename_i hgid
      subst hgid
      rcases pay_ok hpay with ⟨_, hp0, _⟩ | ⟨er, her, hpe, _, _⟩
      · subst hp0; omega
      · -- the gauge and the endorsement the claim looked at are those of the context
        obtain ⟨g0, h0, hk0, hr0⟩ := hG
        obtain ⟨e0, he0, hgid0, hs0⟩ := hE
        rw [hg] at h0; cases h0
        rw [hkd] at hk0; cases hk0
        rw [he] at he0; cases he0
        rw [her] at hr0; cases hr0
        rw [hgid0, hs0] at hpe
        have hle : p * S ≤ v.gaugePower rg * R := by
          rw [hpe]; exact tdiv_mul_le (Int.mul_nonneg hpv hR) hS
        rw [Int.mul_comm (v.gaugePower rg) R] at hle
        omega
    · omega

end DymVerif.Spons
