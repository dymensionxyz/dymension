/-
  Lemmas/PacketsOnce — the C04 invariant of M-Packets over the delayedack-side fields:
  every release in the ghost log happened at or below the rollapp's finalized height, no packet is
  released twice, pending packets are not yet released, and the redelivery guards of ibc-go core
  (receipts, commitments, send sequences) cover everything released or pending.
-/
import DymVerif.Lemmas.PacketsStore
namespace DymVerif.Packets
open DymVerif DymVerif.Keys

/-- identity of an IBC packet on the hub: received / sent, hub channel, sequence -/
abbrev UID := Bool × Nat × Nat

def Packet.uid (p : Packet) : UID := (p.ptype == .onRecv, p.chan, p.seq)
def LogE.uid (e : LogE) : UID := (e.ptype == .onRecv, e.chan, e.seq)

/-- a release of a rollapp packet happened at or below the latest finalized height of that time -/
def EOk (e : LogE) : Prop := ∀ r, e.delayedRa = some r → ∃ f, e.finAt = some f ∧ e.proofHeight ≤ f

def nextOf (ns : List (Nat × Nat)) (c : Nat) : Nat :=
  match ns.find? (·.1 == c) with
  | some x => x.2
  | none => 1

theorem getNextSeq_eq (s : St) (c : Nat) : getNextSeq s c = nextOf s.nextSeq c := rfl

def loggedL (lg : List LogE) (u : UID) : Prop := u ∈ lg.map LogE.uid
def pendL (pk : List Packet) (u : UID) : Prop := ∃ p ∈ pk, p.status = .pending ∧ p.uid = u

structure InvF (pk : List Packet) (rc cm ns : List (Nat × Nat)) (lg : List LogE) : Prop where
  final : ∀ e ∈ lg, EOk e
  nodup : (lg.map LogE.uid).Nodup
  excl : ∀ u, loggedL lg u → ¬ pendL pk u
  rcv : ∀ c q, (loggedL lg (true, c, q) ∨ pendL pk (true, c, q)) → (c, q) ∈ rc
  snt : ∀ c q, (loggedL lg (false, c, q) ∨ pendL pk (false, c, q)) → (c, q) ∉ cm ∧ q < nextOf ns c
  bound : ∀ c q, (c, q) ∈ cm → q < nextOf ns c
  keys : KeysNodup pk
  uniq : ∀ p ∈ pk, ∀ q ∈ pk, p.status = .pending → q.status = .pending → p.uid = q.uid → p = q

def Inv04 (s : St) : Prop := InvF s.packets s.receipts s.commits s.nextSeq s.log

/-- the identity is under its redelivery guard: a received packet has its receipt, a sent one has lost its
    commitment and its sequence is used -/
def Guarded (rc cm ns : List (Nat × Nat)) : UID → Prop
  | (true, c, q) => (c, q) ∈ rc
  | (false, c, q) => (c, q) ∉ cm ∧ q < nextOf ns c

/-- `InvF.rcv` and `InvF.snt` as one -/
theorem InvF.guarded {pk rc cm ns lg} (h : InvF pk rc cm ns lg) {u : UID} (hu : loggedL lg u ∨ pendL pk u) :
    Guarded rc cm ns u := by
  rcases u with ⟨_ | _, c, q⟩
  · exact h.snt c q hu
  · exact h.rcv c q hu

theorem Inv04.of_frame {s s' : St} (f : DFrame s s') (h : Inv04 s) : Inv04 s' := by
  unfold Inv04 at *
  rw [f.packets, f.receipts, f.commits, f.nextSeq, f.log]; exact h

theorem pendL_mono {pk pk' : List Packet} (hs : ∀ q ∈ pk', q ∈ pk) {u : UID} (h : pendL pk' u) : pendL pk u := by
  obtain ⟨p, hp, h1, h2⟩ := h
  exact ⟨p, hs p hp, h1, h2⟩

/-- removing packets preserves the invariant -/
theorem InvF.sub {pk pk' rc cm ns lg} (h : InvF pk rc cm ns lg) (hs : ∀ q ∈ pk', q ∈ pk) (hk : KeysNodup pk') :
    InvF pk' rc cm ns lg where
  final := h.final
  nodup := h.nodup
  excl := fun u hl hp => h.excl u hl (pendL_mono hs hp)
  rcv := fun c q hh => h.rcv c q (hh.imp id (pendL_mono hs))
  snt := fun c q hh => h.snt c q (hh.imp id (pendL_mono hs))
  bound := h.bound
  keys := hk
  uniq := fun p hp q hq => h.uniq p (hs p hp) q (hs q hq)

theorem InvF.filter {pk rc cm ns lg} (h : InvF pk rc cm ns lg) (f : Packet → Bool) : InvF (pk.filter f) rc cm ns lg :=
  h.sub (fun _ hq => (List.mem_filter.mp hq).1) (keysNodup_filter f h.keys)

theorem InvF.addReceipt {pk rc cm ns lg} (h : InvF pk rc cm ns lg) (x : Nat × Nat) : InvF pk (rc ++ [x]) cm ns lg :=
  { h with rcv := fun c q hh => List.mem_append_left _ (h.rcv c q hh) }

/-- the store after `setPacket p` -/
def storeSet (pk : List Packet) (p : Packet) : List Packet := insertPkt p (pk.filter (fun q => pkey q != pkey p))

theorem setPacket_packets (s : St) (p : Packet) : (setPacket s p).packets = storeSet s.packets p := rfl

theorem mem_storeSet {pk : List Packet} {p q : Packet} : q ∈ storeSet pk p ↔ q = p ∨ (q ∈ pk ∧ pkey q ≠ pkey p) := by
  simp [storeSet, mem_insertPkt, List.mem_filter]

theorem keysNodup_storeSet {pk : List Packet} (p : Packet) (h : KeysNodup pk) : KeysNodup (storeSet pk p) := by
  apply keysNodup_insertPkt (keysNodup_filter _ h)
  intro q hq
  simpa using (List.mem_filter.mp hq).2

/-- storing a packet: if it is pending, its identity is neither released nor pending yet and is under its guard -/
theorem InvF.store {pk rc cm ns lg} (h : InvF pk rc cm ns lg) (p : Packet)
    (hp : p.status = .pending → ¬ loggedL lg p.uid ∧ ¬ pendL pk p.uid ∧ Guarded rc cm ns p.uid) :
    InvF (storeSet pk p) rc cm ns lg := by
  have sub : ∀ {u}, pendL (storeSet pk p) u → (p.status = .pending ∧ u = p.uid) ∨ pendL pk u := by
    rintro u ⟨q, hq, h1, h2⟩
    rcases mem_storeSet.mp hq with rfl | ⟨hq', _⟩
    · exact Or.inl ⟨h1, h2.symm⟩
    · exact Or.inr ⟨q, hq', h1, h2⟩
  have g : ∀ {u}, loggedL lg u ∨ pendL (storeSet pk p) u → Guarded rc cm ns u := by
    rintro u (hl | hpd)
    · exact h.guarded (Or.inl hl)
    · rcases sub hpd with ⟨hs, rfl⟩ | hpd'
      · exact (hp hs).2.2
      · exact h.guarded (Or.inr hpd')
  exact {
    final := h.final, nodup := h.nodup, bound := h.bound
    excl := by
      intro u hl hpd
      rcases sub hpd with ⟨hs, rfl⟩ | hpd'
      · exact (hp hs).1 hl
      · exact h.excl u hl hpd'
    rcv := fun _ _ hh => g hh
    snt := fun _ _ hh => g hh
    keys := keysNodup_storeSet p h.keys
    uniq := by
      intro a ha b hb sa sb e
      rcases mem_storeSet.mp ha with rfl | ⟨ha', _⟩
      · rcases mem_storeSet.mp hb with rfl | ⟨hb', _⟩
        · rfl
        · exact absurd ⟨b, hb', sb, e.symm⟩ (hp sa).2.1
      · rcases mem_storeSet.mp hb with rfl | ⟨hb', _⟩
        · exact absurd ⟨a, ha', sa, e⟩ (hp sb).2.1
        · exact h.uniq a ha' b hb' sa sb e }

/-- replacing a packet by one with the same key, status and identity (`UpdateRollappPacketTransferAddress`) -/
theorem InvF.replace {pk rc cm ns lg} (h : InvF pk rc cm ns lg) (p p' : Packet) (hp : p ∈ pk)
    (hk : pkey p' = pkey p) (hst : p'.status = p.status) (hu : p'.uid = p.uid) :
    InvF (storeSet pk p') rc cm ns lg := by
  have sub : ∀ {u}, pendL (storeSet pk p') u → pendL pk u := by
    rintro u ⟨q, hq, h1, h2⟩
    rcases mem_storeSet.mp hq with rfl | ⟨hq', _⟩
    · exact ⟨p, hp, hst ▸ h1, hu ▸ h2⟩
    · exact ⟨q, hq', h1, h2⟩
  exact {
    final := h.final, nodup := h.nodup, bound := h.bound
    excl := fun u hl hpd => h.excl u hl (sub hpd)
    rcv := fun c q hh => h.rcv c q (hh.imp id sub)
    snt := fun c q hh => h.snt c q (hh.imp id sub)
    keys := keysNodup_storeSet p' h.keys
    uniq := by
      intro a ha b hb sa sb e
      rcases mem_storeSet.mp ha with rfl | ⟨ha', hka⟩
      · rcases mem_storeSet.mp hb with rfl | ⟨hb', hkb⟩
        · rfl
        · have : p = b := h.uniq p hp b hb' (hst ▸ sa) sb (hu ▸ e)
          exact absurd (this ▸ hk.symm) hkb
      · rcases mem_storeSet.mp hb with rfl | ⟨hb', hkb⟩
        · have : a = p := h.uniq a ha' p hp sa (hst ▸ sb) (hu ▸ e)
          exact absurd (this ▸ hk.symm) hka
        · exact h.uniq a ha' b hb' sa sb e }

theorem loggedL_append {lg : List LogE} {e : LogE} {u : UID} : loggedL (lg ++ [e]) u ↔ loggedL lg u ∨ u = e.uid := by
  simp only [loggedL, List.map_append, List.mem_append, List.map_cons, List.map_nil, List.mem_singleton]

/-- a release is logged for an identity that is neither released nor pending, under its guard -/
theorem InvF.logAppend {pk rc cm ns lg} (h : InvF pk rc cm ns lg) (e : LogE) (he : EOk e)
    (hnl : ¬ loggedL lg e.uid) (hnp : ¬ pendL pk e.uid) (hg : Guarded rc cm ns e.uid) :
    InvF pk rc cm ns (lg ++ [e]) := by
  have g : ∀ {u}, loggedL (lg ++ [e]) u ∨ pendL pk u → Guarded rc cm ns u := by
    rintro u (hl | hpd)
    · rcases loggedL_append.mp hl with hl' | rfl
      · exact h.guarded (Or.inl hl')
      · exact hg
    · exact h.guarded (Or.inr hpd)
  exact {
    final := by
      intro x hx
      rcases List.mem_append.mp hx with hx | hx
      · exact h.final x hx
      · simp at hx; subst hx; exact he
    nodup := by
      rw [List.map_append, List.nodup_append]
      refine ⟨h.nodup, by simp, ?_⟩
      intro a ha b hb
      simp at hb; subst hb
      intro e'; exact hnl (e' ▸ ha)
    excl := by
      intro u hl hpd
      rcases loggedL_append.mp hl with hl' | rfl
      · exact h.excl u hl' hpd
      · exact hnp hpd
    rcv := fun _ _ hh => g hh
    snt := fun _ _ hh => g hh
    bound := h.bound
    keys := h.keys
    uniq := h.uniq }

theorem InvF.delCommit {pk rc cm ns lg} (h : InvF pk rc cm ns lg) (x : Nat × Nat) :
    InvF pk rc (cm.filter (· != x)) ns lg :=
  { h with
    snt := fun c q hh => ⟨fun hm => (h.snt c q hh).1 (List.mem_filter.mp hm).1, (h.snt c q hh).2⟩
    bound := fun c q hm => h.bound c q (List.mem_filter.mp hm).1 }

theorem nextOf_bump_self (ns : List (Nat × Nat)) (c n : Nat) : nextOf ((c, n) :: ns.filter (·.1 != c)) c = n := by
  simp [nextOf, List.find?]

theorem nextOf_bump_other (ns : List (Nat × Nat)) (c c' n : Nat) (hc : c' ≠ c) :
    nextOf ((c, n) :: ns.filter (·.1 != c)) c' = nextOf ns c' := by
  have h1 : ((c, n).1 == c') = false := by simpa using (Ne.symm hc)
  simp only [nextOf, List.find?, h1]
  congr 1
  induction ns with
  | nil => rfl
  | cons x xs ih =>
    by_cases hx : x.1 = c
    · have : (x.1 != c) = false := by simp [hx]
      have h2 : (x.1 == c') = false := by simp [hx, Ne.symm hc]
      simp only [List.filter, this, List.find?, h2]; exact ih
    · have : (x.1 != c) = true := by simpa using hx
      simp only [List.filter, this, List.find?]
      by_cases h3 : (x.1 == c') = true
      · simp [h3]
      · have h3' : (x.1 == c') = false := by simpa using h3
        simp only [h3']; exact ih

/-- a packet is sent: a commitment at the next sequence, the sequence moves on -/
theorem InvF.send {pk rc cm ns lg} (h : InvF pk rc cm ns lg) (c : Nat) :
    InvF pk rc (cm ++ [(c, nextOf ns c)]) ((c, nextOf ns c + 1) :: ns.filter (·.1 != c)) lg := by
  have nx : ∀ c', nextOf ns c' ≤ nextOf ((c, nextOf ns c + 1) :: ns.filter (·.1 != c)) c' := by
    intro c'
    by_cases hc : c' = c
    · subst hc; rw [nextOf_bump_self]; exact Nat.le_succ _
    · rw [nextOf_bump_other _ _ _ _ hc]; exact Nat.le_refl _
  exact { h with
    snt := by
      intro c' q hh
      have := h.snt c' q hh
      refine ⟨?_, Nat.lt_of_lt_of_le this.2 (nx c')⟩
      intro hm
      rcases List.mem_append.mp hm with hm | hm
      · exact this.1 hm
      · simp at hm
        obtain ⟨rfl, rfl⟩ := hm
        exact Nat.lt_irrefl _ this.2
    bound := by
      intro c' q hm
      rcases List.mem_append.mp hm with hm | hm
      · exact Nat.lt_of_lt_of_le (h.bound c' q hm) (nx c')
      · simp at hm
        obtain ⟨rfl, rfl⟩ := hm
        rw [nextOf_bump_self]; exact Nat.lt_succ_self _ }

/-- once a pending packet is taken out of the store its identity is neither released nor pending -/
theorem InvF.removed {pk rc cm ns lg} (h : InvF pk rc cm ns lg) {p : Packet} (hp : p ∈ pk) (hst : p.status = .pending) :
    ¬ (loggedL lg p.uid ∨ pendL (pk.filter (fun q => pkey q != pkey p)) p.uid) := by
  rintro (hl | ⟨q, hq, s1, s2⟩)
  · exact h.excl _ hl ⟨p, hp, hst, rfl⟩
  · have hq' := List.mem_filter.mp hq
    cases h.uniq q hq'.1 p hp s1 hst s2
    simp at hq'

/-- hard fork, received packet: the receipt goes together with the (pending) packet -/
theorem InvF.revertRecv {pk rc cm ns lg} (h : InvF pk rc cm ns lg) (p : Packet) (hp : p ∈ pk)
    (hst : p.status = .pending) (hr : (p.ptype == .onRecv) = true) :
    InvF (pk.filter (fun q => pkey q != pkey p)) (rc.filter (· != (p.chan, p.seq))) cm ns lg := by
  have base := h.filter (fun q => pkey q != pkey p)
  have hu : p.uid = (true, p.chan, p.seq) := by simp [Packet.uid, hr]
  refine { base with rcv := fun c q hh => List.mem_filter.mpr ⟨base.rcv c q hh, ?_⟩ }
  simp only [bne_iff_ne, ne_eq]
  rintro ⟨⟩
  exact h.removed hp hst (hu ▸ hh)

/-- hard fork, sent packet: the commitment comes back together with the deletion of the (pending) packet -/
theorem InvF.revertSent {pk rc cm ns lg} (h : InvF pk rc cm ns lg) (p : Packet) (hp : p ∈ pk)
    (hst : p.status = .pending) (hr : (p.ptype == .onRecv) = false) :
    InvF (pk.filter (fun q => pkey q != pkey p)) rc (if cm.contains (p.chan, p.seq) then cm else cm ++ [(p.chan, p.seq)]) ns lg := by
  have base := h.filter (fun q => pkey q != pkey p)
  have hu : p.uid = (false, p.chan, p.seq) := by simp [Packet.uid, hr]
  have hb := (h.snt p.chan p.seq (Or.inr ⟨p, hp, hst, hu⟩))
  have hnc : cm.contains (p.chan, p.seq) = false := by
    cases hc : cm.contains (p.chan, p.seq) with
    | false => rfl
    | true => exact absurd (by simpa using hc) hb.1
  rw [hnc]
  refine { base with snt := ?_, bound := ?_ }
  · intro c q hh
    have := base.snt c q hh
    refine ⟨?_, this.2⟩
    intro hm
    rcases List.mem_append.mp hm with hm | hm
    · exact this.1 hm
    · simp at hm
      obtain ⟨rfl, rfl⟩ := hm
      exact h.removed hp hst (hu ▸ hh)
  · intro c q hm
    rcases List.mem_append.mp hm with hm | hm
    · exact h.bound c q hm
    · simp at hm
      obtain ⟨rfl, rfl⟩ := hm
      exact hb.2

end DymVerif.Packets
