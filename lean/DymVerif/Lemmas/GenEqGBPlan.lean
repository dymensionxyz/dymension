/-
  Lemmas/GenEqGBPlan — tie 1 for the IRO-plan steps of M-GB (`stepPlan`, `stepEnable`): the statement
  skeletons regenerated from /repo on every run (`Gen/GBPlan.lean`, by translate/gbplan.go: every
  statement of the function body in source order — guards, assignments, calls, returns) are the ones
  the model was written against.

  What the model takes from them:
  * `SetIROPlanToRollapp`: three refusals (launched, sealed, not IRO-ready), then
    `rollapp.GenesisInfo.Sealed = true` UNCONDITIONALLY and BEFORE the trading flag is looked at, then the
    pre-launch time (the plan's, or block time + 10 years when trading is not enabled), one `SetRollapp`,
    no return in between (`stepPlan`: `gi := { ra.gi with sealed := true }` in the only accepting branch);
  * `SetPreLaunchTime` writes the pre-launch time and nothing else;
  * `Keeper.EnableTrading`: plan found, not enabled yet, rollapp found, submitter is the owner, not
    settled — in this order — then `EnableTradingWithStartTime(block time)`, `SetPlan`,
    `SetPreLaunchTime(plan.PreLaunchTime)` (`stepEnable`);
  * `Plan.EnableTradingWithStartTime`: flag, start time, pre-launch time = start + duration (`planPreLaunch`);
  * the head of `Keeper.CreatePlan`: trading enabled at creation starts at max(start time, block time)
    (the harness sends no start time), then `SetIROPlanToRollapp`.
  Moving the sealing line behind a return, dropping the owner check or changing the parking distance
  breaks the corresponding lemma.
-/
import DymVerif.Gen.GBPlan
import DymVerif.Model.GB
namespace DymVerif.GenEq.GBPlan
open DymVerif

/-- `Keeper.SetIROPlanToRollapp` (x/rollapp/keeper/rollapp.go) as mirrored by `GB.stepPlan` -/
theorem setIROPlanToRollapp_skeleton : Gen.GBPlan.setIROPlanToRollapp =
  ["if rollapp.Launched {",
   "return errorsmod.Wrap(gerrc.ErrFailedPrecondition, \"rollapp already launched\")",
   "}",
   "if rollapp.GenesisInfo.Sealed {",
   "return errorsmod.Wrap(gerrc.ErrFailedPrecondition, \"genesis info already sealed\")",
   "}",
   "if !rollapp.GenesisInfo.IROReady() {",
   "return errorsmod.Wrap(gerrc.ErrFailedPrecondition, \"genesis info not set\")",
   "}",
   "set rollapp.GenesisInfo.Sealed = true",
   "let preLaunchTime := plan.PreLaunchTime",
   "if !plan.TradingEnabled {",
   "set preLaunchTime = ctx.BlockTime().Add(time.Hour * 24 * 365 * 10)",
   "}",
   "set rollapp.PreLaunchTime = &preLaunchTime",
   "call k.SetRollapp(ctx, *rollapp)",
   "return nil"] := rfl

/-- `Keeper.SetPreLaunchTime` (x/rollapp/keeper/rollapp.go) -/
theorem setPreLaunchTime_skeleton : Gen.GBPlan.setPreLaunchTime =
  ["set rollapp.PreLaunchTime = &preLaunchTime",
   "call k.SetRollapp(ctx, *rollapp)"] := rfl

/-- `Keeper.EnableTrading` (x/iro/keeper/trade.go) as mirrored by `GB.stepEnable` -/
theorem enableTrading_skeleton : Gen.GBPlan.enableTrading =
  ["let plan, ok := k.GetPlan(ctx, planId)",
   "if !ok {",
   "return types.ErrPlanNotFound",
   "}",
   "if plan.TradingEnabled {",
   "return errorsmod.Wrap(gerrc.ErrFailedPrecondition, \"trading already enabled\")",
   "}",
   "let rollapp, found := k.rk.GetRollapp(ctx, plan.RollappId)",
   "if !found {",
   "return errorsmod.Wrap(gerrc.ErrFailedPrecondition, \"rollapp not found\")",
   "}",
   "let owner := sdk.MustAccAddressFromBech32(rollapp.Owner)",
   "if !owner.Equals(submitter) {",
   "return errorsmod.Wrap(gerrc.ErrPermissionDenied, \"not the owner of the RollApp\")",
   "}",
   "if plan.IsSettled() {",
   "return errorsmod.Wrap(gerrc.ErrFailedPrecondition, \"plan already settled\")",
   "}",
   "call plan.EnableTradingWithStartTime(ctx.BlockTime())",
   "call k.SetPlan(ctx, plan)",
   "call k.rk.SetPreLaunchTime(ctx, &rollapp, plan.PreLaunchTime)",
   "return nil"] := rfl

/-- `msgServer.EnableTrading` (x/iro/keeper/msg_server.go): the signer is handed to the keeper as the submitter -/
theorem msgEnableTrading_skeleton : Gen.GBPlan.msgEnableTrading =
  ["let owner, err := sdk.AccAddressFromBech32(req.Owner)",
   "if err != nil {",
   "return nil, err",
   "}",
   "set err = m.Keeper.EnableTrading(sdk.UnwrapSDKContext(ctx), req.PlanId, owner)",
   "if err != nil {",
   "return nil, err",
   "}",
   "return &types.MsgEnableTradingResponse{}, nil"] := rfl

/-- `Plan.EnableTradingWithStartTime` (x/iro/types/plan.go) as mirrored by `GB.planPreLaunch` -/
theorem enableTradingWithStartTime_skeleton : Gen.GBPlan.enableTradingWithStartTime =
  ["set p.TradingEnabled = true",
   "set p.StartTime = startTime",
   "set p.PreLaunchTime = startTime.Add(p.IroPlanDuration)"] := rfl

/-- head of `Keeper.CreatePlan` (x/iro/keeper/create_plan.go), up to the call of `SetIROPlanToRollapp` -/
theorem createPlanHead_skeleton : Gen.GBPlan.createPlanHead =
  ["let allocation, err := k.MintAllocation(ctx, allocatedAmount, rollapp.RollappId, rollapp.GenesisInfo.NativeDenom.Display, uint64(rollapp.GenesisInfo.NativeDenom.Exponent))",
   "if err != nil {",
   "return \"\", err",
   "}",
   "let plan := types.NewPlan(k.GetNextPlanIdAndIncrement(ctx), rollapp.RollappId, liquidityDenom, allocation, curve, planDuration, incentivesParams, liquidityPart, vestingDuration, vestingStartTimeAfterSettlement)",
   "if tradingEnabled {",
   "if startTime.Before(ctx.BlockTime()) {",
   "set startTime = ctx.BlockTime()",
   "}",
   "call plan.EnableTradingWithStartTime(startTime)",
   "}",
   "let err := plan.ValidateBasic()",
   "if err != nil {",
   "return \"\", errors.Join(gerrc.ErrInvalidArgument, err)",
   "}",
   "set err = k.rk.SetIROPlanToRollapp(ctx, &rollapp, plan)"] := rfl

/-- the sealing assignment comes right after the three refusals and before the look at the trading flag;
    from it to the end there is a single return, the final `return nil` -/
theorem seal_before_trading_flag :
    Gen.GBPlan.setIROPlanToRollapp.idxOf "set rollapp.GenesisInfo.Sealed = true" = 9 ∧
    Gen.GBPlan.setIROPlanToRollapp.idxOf "if !plan.TradingEnabled {" = 11 ∧
    Gen.GBPlan.setIROPlanToRollapp.drop 9 =
      ["set rollapp.GenesisInfo.Sealed = true",
       "let preLaunchTime := plan.PreLaunchTime",
       "if !plan.TradingEnabled {",
       "set preLaunchTime = ctx.BlockTime().Add(time.Hour * 24 * 365 * 10)",
       "}",
       "set rollapp.PreLaunchTime = &preLaunchTime",
       "call k.SetRollapp(ctx, *rollapp)",
       "return nil"] := by decide +kernel

/-- `time.Hour * 24 * 365 * 10` is the model's parking distance (in seconds) -/
theorem tenYears_eq : Gen.GBPlan.disabledPreLaunchHours * 3600 = GB.tenYears := rfl

end DymVerif.GenEq.GBPlan
